import XrsVerif.Audit.C01
import XrsVerif.Audit.C02
import XrsVerif.Audit.C03
import XrsVerif.Audit.C04
import XrsVerif.Audit.C05
import XrsVerif.Audit.C06
import XrsVerif.Audit.C07
import XrsVerif.Audit.C08
import XrsVerif.Audit.C09
import XrsVerif.Audit.C10
import XrsVerif.Audit.C11
import XrsVerif.Audit.C12
import XrsVerif.Audit.C13
import XrsVerif.Audit.C14
import XrsVerif.Audit.C15
import XrsVerif.Audit.C16
import XrsVerif.Audit.C17
import XrsVerif.Audit.C18
import XrsVerif.Audit.C19
import XrsVerif.Core.Dataflow
import XrsVerif.Core.Fl
import XrsVerif.Core.Halo
import XrsVerif.Core.HaloIter
import XrsVerif.Core.ILang
import XrsVerif.Core.KLang
import XrsVerif.Core.Wire
import XrsVerif.Driver.AStar
import XrsVerif.Driver.All
import XrsVerif.Driver.BufProg
import XrsVerif.Driver.Classify
import XrsVerif.Driver.Effects
import XrsVerif.Driver.Focal
import XrsVerif.Driver.Halo
import XrsVerif.Driver.IL
import XrsVerif.Driver.Kernels
import XrsVerif.Driver.Local
import XrsVerif.Driver.Metrics
import XrsVerif.Driver.Polygonize
import XrsVerif.Driver.ProxPad
import XrsVerif.Driver.Proximity
import XrsVerif.Driver.Regions
import XrsVerif.Driver.Terrain
import XrsVerif.Driver.Trim
import XrsVerif.Driver.Viewshed
import XrsVerif.Driver.ViewshedWrap
import XrsVerif.Driver.Zonal
import XrsVerif.Gen.AStarFacts
import XrsVerif.Gen.Blocks
import XrsVerif.Gen.BufProgs
import XrsVerif.Gen.ClassifyFacts
import XrsVerif.Gen.DaskKinds
import XrsVerif.Gen.Effects
import XrsVerif.Gen.Focal
import XrsVerif.Gen.GraphKeys
import XrsVerif.Gen.IL
import XrsVerif.Gen.Indices
import XrsVerif.Gen.Kernels
import XrsVerif.Gen.LocalFacts
import XrsVerif.Gen.MetricFacts
import XrsVerif.Gen.Overlap
import XrsVerif.Gen.PolygonizeFacts
import XrsVerif.Gen.ProximityDask
import XrsVerif.Gen.ProximityFacts
import XrsVerif.Gen.Reductions
import XrsVerif.Gen.RegionsFacts
import XrsVerif.Gen.Terrain
import XrsVerif.Gen.TrimFacts
import XrsVerif.Gen.ViewshedFacts
import XrsVerif.Gen.Zonal
import XrsVerif.Model.AStar
import XrsVerif.Model.Aliasing
import XrsVerif.Model.BackendKind
import XrsVerif.Model.Bin
import XrsVerif.Model.BufProg
import XrsVerif.Model.CircleKernels
import XrsVerif.Model.Crosstab
import XrsVerif.Model.DistanceStr
import XrsVerif.Model.Effects
import XrsVerif.Model.Focal
import XrsVerif.Model.Index
import XrsVerif.Model.Jenks
import XrsVerif.Model.Local
import XrsVerif.Model.Meta
import XrsVerif.Model.Polygonize
import XrsVerif.Model.PolygonizeGlue
import XrsVerif.Model.Proximity
import XrsVerif.Model.PyNum
import XrsVerif.Model.Regions
import XrsVerif.Model.Terrain
import XrsVerif.Model.Trim
import XrsVerif.Model.Viewshed
import XrsVerif.Model.ViewshedEvents
import XrsVerif.Model.ViewshedFix
import XrsVerif.Model.ViewshedWrapper
import XrsVerif.Model.Zonal
import XrsVerif.Model.ZonalDask
import XrsVerif.Model.ZonalLoop
import XrsVerif.Proofs.AStarCoord
import XrsVerif.Proofs.AStarEuclid
import XrsVerif.Proofs.AStarGen
import XrsVerif.Proofs.AStarHom
import XrsVerif.Proofs.AStarInv
import XrsVerif.Proofs.AStarOpt
import XrsVerif.Proofs.AStarQ2
import XrsVerif.Proofs.BackendKind
import XrsVerif.Proofs.Bearing
import XrsVerif.Proofs.Bin
import XrsVerif.Proofs.BufProg
import XrsVerif.Proofs.ChunkGrid
import XrsVerif.Proofs.CircleKernels
import XrsVerif.Proofs.Crosstab
import XrsVerif.Proofs.CrosstabDask
import XrsVerif.Proofs.DistanceStr
import XrsVerif.Proofs.Effects
import XrsVerif.Proofs.Focal
import XrsVerif.Proofs.FocalHot
import XrsVerif.Proofs.GraphKeys
import XrsVerif.Proofs.HaloNV
import XrsVerif.Proofs.ILAStar
import XrsVerif.Proofs.ILAStarER
import XrsVerif.Proofs.ILAStarIter
import XrsVerif.Proofs.ILAStarMain
import XrsVerif.Proofs.ILAStarPath
import XrsVerif.Proofs.ILAStarSearch
import XrsVerif.Proofs.ILAStarSearchDefs
import XrsVerif.Proofs.ILAStarSnap
import XrsVerif.Proofs.ILApply
import XrsVerif.Proofs.ILApplyEven
import XrsVerif.Proofs.ILApplyRefines
import XrsVerif.Proofs.ILBin
import XrsVerif.Proofs.ILBinEmpty
import XrsVerif.Proofs.ILBinSem
import XrsVerif.Proofs.ILFocal
import XrsVerif.Proofs.ILMean
import XrsVerif.Proofs.ILMeanIter
import XrsVerif.Proofs.ILMeanRefines
import XrsVerif.Proofs.ILProxBlocks
import XrsVerif.Proofs.ILProxCall
import XrsVerif.Proofs.ILProxDir
import XrsVerif.Proofs.ILProxInLine
import XrsVerif.Proofs.ILProxLines
import XrsVerif.Proofs.ILProxLoops
import XrsVerif.Proofs.ILProxMerge
import XrsVerif.Proofs.ILProxNumpy
import XrsVerif.Proofs.ILProxNumpyDefs
import XrsVerif.Proofs.ILProxPixel
import XrsVerif.Proofs.ILProxRel
import XrsVerif.Proofs.ILProxSweep
import XrsVerif.Proofs.ILProxTarget
import XrsVerif.Proofs.ILProxWitness
import XrsVerif.Proofs.ILRegions
import XrsVerif.Proofs.ILRegionsCell
import XrsVerif.Proofs.ILRegionsDefs
import XrsVerif.Proofs.ILRegionsGather
import XrsVerif.Proofs.ILRegionsMatch
import XrsVerif.Proofs.ILRegionsPass1
import XrsVerif.Proofs.ILRegionsPass2
import XrsVerif.Proofs.ILRegionsProps
import XrsVerif.Proofs.ILRegionsRel
import XrsVerif.Proofs.ILRegionsRelabel
import XrsVerif.Proofs.ILTrim
import XrsVerif.Proofs.ILViewshedBase
import XrsVerif.Proofs.ILViewshedDel
import XrsVerif.Proofs.ILViewshedDelLoops
import XrsVerif.Proofs.ILViewshedDelModel
import XrsVerif.Proofs.ILViewshedDelOrder
import XrsVerif.Proofs.ILViewshedDelPass
import XrsVerif.Proofs.ILViewshedDelRefines
import XrsVerif.Proofs.ILViewshedDelSplice
import XrsVerif.Proofs.ILViewshedFixDel
import XrsVerif.Proofs.ILViewshedFixDelLoop
import XrsVerif.Proofs.ILViewshedFixIns
import XrsVerif.Proofs.ILViewshedFixInsLoop
import XrsVerif.Proofs.ILViewshedFixRot
import XrsVerif.Proofs.ILViewshedHeap
import XrsVerif.Proofs.ILViewshedInsProg
import XrsVerif.Proofs.ILViewshedOrder
import XrsVerif.Proofs.ILViewshedQuery
import XrsVerif.Proofs.ILViewshedRot
import XrsVerif.Proofs.ILViewshedSmall
import XrsVerif.Proofs.ILViewshedWalk
import XrsVerif.Proofs.ILViewshedZip
import XrsVerif.Proofs.ILVsAngle
import XrsVerif.Proofs.ILVsGeom
import XrsVerif.Proofs.ILVsInit
import XrsVerif.Proofs.ILVsInitCell
import XrsVerif.Proofs.ILVsInitDefs
import XrsVerif.Proofs.ILVsInitElev
import XrsVerif.Proofs.ILVsInitPos
import XrsVerif.Proofs.ILVsInitRing
import XrsVerif.Proofs.ILVsInitRow
import XrsVerif.Proofs.ILVsNV
import XrsVerif.Proofs.ILVsSweepCenter
import XrsVerif.Proofs.ILVsSweepDefs
import XrsVerif.Proofs.ILVsSweepEnter
import XrsVerif.Proofs.ILVsSweepEv
import XrsVerif.Proofs.ILVsSweepExit
import XrsVerif.Proofs.ILVsSweepFill
import XrsVerif.Proofs.ILVsSweepGrad
import XrsVerif.Proofs.ILVsSweepIns
import XrsVerif.Proofs.ILVsSweepQry
import XrsVerif.Proofs.ILVsSweepRen
import XrsVerif.Proofs.ILVsSweepSetup
import XrsVerif.Proofs.ILVsVang
import XrsVerif.Proofs.ILZonal
import XrsVerif.Proofs.SimpAttr
import XrsVerif.Proofs.ILang
import XrsVerif.Proofs.ILangAstar
import XrsVerif.Proofs.ILangFocal
import XrsVerif.Proofs.ILangFrame
import XrsVerif.Proofs.ILangProx
import XrsVerif.Proofs.ILangRaster
import XrsVerif.Proofs.ILangRename
import XrsVerif.Proofs.ILangVssweep
import XrsVerif.Proofs.ILangVstree
import XrsVerif.Proofs.IndexClosed
import XrsVerif.Proofs.Jenks
import XrsVerif.Proofs.KSimp
import XrsVerif.Proofs.ListFold
import XrsVerif.Proofs.Local
import XrsVerif.Proofs.Metrics
import XrsVerif.Proofs.NV
import XrsVerif.Proofs.NumFl
import XrsVerif.Proofs.Polygonize
import XrsVerif.Proofs.PolygonizeGlue
import XrsVerif.Proofs.PolygonizeLossless
import XrsVerif.Proofs.PolygonizeLosslessArea
import XrsVerif.Proofs.PolygonizeLosslessC16
import XrsVerif.Proofs.PolygonizeLosslessFollow
import XrsVerif.Proofs.PolygonizeLosslessRanks
import XrsVerif.Proofs.PolygonizeLosslessRegion
import XrsVerif.Proofs.PolygonizeLosslessRing
import XrsVerif.Proofs.PolygonizeLosslessScan
import XrsVerif.Proofs.PolygonizeLosslessWinding
import XrsVerif.Proofs.PolygonizeRegions
import XrsVerif.Proofs.Proximity
import XrsVerif.Proofs.ProximityCast
import XrsVerif.Proofs.ProximityGrouped
import XrsVerif.Proofs.ProximitySmall
import XrsVerif.Proofs.ProximitySmall3x3
import XrsVerif.Proofs.ProximitySmallChecked
import XrsVerif.Proofs.ProximitySmallEuclid
import XrsVerif.Proofs.ProximitySmallLt9
import XrsVerif.Proofs.ProximitySmallManh
import XrsVerif.Proofs.ProximityWindow
import XrsVerif.Proofs.Regions
import XrsVerif.Proofs.Sphere
import XrsVerif.Proofs.Terrain
import XrsVerif.Proofs.TerrainClosed
import XrsVerif.Proofs.TerrainReal
import XrsVerif.Proofs.Trim
import XrsVerif.Proofs.Viewshed
import XrsVerif.Proofs.ViewshedDelExact
import XrsVerif.Proofs.ViewshedDelete
import XrsVerif.Proofs.ViewshedDiscipline
import XrsVerif.Proofs.ViewshedEvents
import XrsVerif.Proofs.ViewshedFix
import XrsVerif.Proofs.ViewshedOps
import XrsVerif.Proofs.ViewshedOrder
import XrsVerif.Proofs.ViewshedOutput
import XrsVerif.Proofs.ViewshedQuery
import XrsVerif.Proofs.ViewshedSweep
import XrsVerif.Proofs.ViewshedWrapper
import XrsVerif.Proofs.Zonal
import XrsVerif.Proofs.ZonalDask
import XrsVerif.Proofs.ZonalLoop
import XrsVerif.Proofs.ZonalReduce
import XrsVerif.Props.C01
import XrsVerif.Props.C02
import XrsVerif.Props.C03
import XrsVerif.Props.C04
import XrsVerif.Props.C05
import XrsVerif.Props.C06
import XrsVerif.Props.C07
import XrsVerif.Props.C08
import XrsVerif.Props.C09
import XrsVerif.Props.C10
import XrsVerif.Props.C11
import XrsVerif.Props.C12
import XrsVerif.Props.C13
import XrsVerif.Props.C14
import XrsVerif.Props.C15
import XrsVerif.Props.C16
import XrsVerif.Props.C17
import XrsVerif.Props.C18
import XrsVerif.Props.C19
