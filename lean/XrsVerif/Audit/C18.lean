import XrsVerif.Props.C18
/-! GENERATED by ./check: axioms of every theorem in Props/C18.lean -/
#print axioms XrsVerif.C18.trim_match_is_exact
#print axioms XrsVerif.C18.kernels_are_canonical
#print axioms XrsVerif.C18.trim_values_not_cast
#print axioms XrsVerif.C18.wrappers_are_canonical
#print axioms XrsVerif.C18.matchS_nanAware
#print axioms XrsVerif.C18.generated_trim_is_model
#print axioms XrsVerif.C18.generated_crop_is_model
#print axioms XrsVerif.C18.kept_iff
#print axioms XrsVerif.C18.selected_iff
#print axioms XrsVerif.C18.bounds_minimal
#print axioms XrsVerif.C18.window_is_slice
#print axioms XrsVerif.C18.window_coords_are_slices
#print axioms XrsVerif.C18.window_empty
#print axioms XrsVerif.C18.window_of_minimal
#print axioms XrsVerif.C18.trim_minimal
#print axioms XrsVerif.C18.crop_minimal
#print axioms XrsVerif.C18.minimal_of_refines
#print axioms XrsVerif.C18.generated_trim_program_minimal
#print axioms XrsVerif.C18.generated_crop_program_minimal
#print axioms XrsVerif.C18.trimHit_is_kept
#print axioms XrsVerif.C18.cropHit_is_selected
#print axioms XrsVerif.C18.generated_trim_program_is_model
#print axioms XrsVerif.C18.generated_trim_window_minimal
#print axioms XrsVerif.C18.generated_crop_program_is_model
#print axioms XrsVerif.C18.generated_crop_window_minimal
#print axioms XrsVerif.C18.keptAsIs_partial
#print axioms XrsVerif.C18.boundsAsIs_partial
#print axioms XrsVerif.C18.boundsAsIs_no_hit
