import XrsVerif.Props.C16
/-! GENERATED by ./check: axioms of every theorem in Props/C16.lean -/
#print axioms XrsVerif.C16.complete
#print axioms XrsVerif.C16.complete_connected
#print axioms XrsVerif.C16.sound
#print axioms XrsVerif.C16.components_iff
#print axioms XrsVerif.C16.regions_iff_value_path
#print axioms XrsVerif.C16.labels_positive
#print axioms XrsVerif.C16.nan_stays_nan
#print axioms XrsVerif.C16.nan_iff
#print axioms XrsVerif.C16.windows_from_source
#print axioms XrsVerif.C16.closeness_from_source
#print axioms XrsVerif.C16.meta_preserved
#print axioms XrsVerif.C16.generated_refines
#print axioms XrsVerif.C16.generated_out_eq_iff
#print axioms XrsVerif.C16.dataOf_ne_none
#print axioms XrsVerif.C16.generated_sound
#print axioms XrsVerif.C16.generated_components_iff
#print axioms XrsVerif.C16.generated_value_path
#print axioms XrsVerif.C16.generated_labels_positive
#print axioms XrsVerif.C16.generated_nan
