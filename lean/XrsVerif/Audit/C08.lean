import XrsVerif.Props.C08
/-! GENERATED by ./check: axioms of every theorem in Props/C08.lean -/
#print axioms XrsVerif.C08.margins_and_reads
#print axioms XrsVerif.C08.kernels_are
#print axioms XrsVerif.C08.kernel_facts
#print axioms XrsVerif.C08.read_sets
#print axioms XrsVerif.C08.cell_local
#print axioms XrsVerif.C08.run_local
#print axioms XrsVerif.C08.one_cell_change
#print axioms XrsVerif.C08.border_nan
#print axioms XrsVerif.C08.small_raster_all_nan
#print axioms XrsVerif.C08.output_shape
#print axioms XrsVerif.C08.interior_cell
#print axioms XrsVerif.C08.wiring_run_interior
#print axioms XrsVerif.C08.slope_eq_documented
#print axioms XrsVerif.C08.aspect_eq_documented
#print axioms XrsVerif.C08.curvature_eq_documented
#print axioms XrsVerif.C08.hillshade_eq_documented
#print axioms XrsVerif.C08.resolution_facts
#print axioms XrsVerif.C08.calc_res_eq
#print axioms XrsVerif.C08.resolution_from_attr
#print axioms XrsVerif.C08.summarize_terrain_calls
#print axioms XrsVerif.C08.wrappers_pass_data
#print axioms XrsVerif.C08.slope_nan_contained
#print axioms XrsVerif.C08.aspect_nan_contained
#print axioms XrsVerif.C08.curvature_nan_contained
#print axioms XrsVerif.C08.hillshade_nan_contained
#print axioms XrsVerif.C08.readsIn_facts
#print axioms XrsVerif.C08.slope_spec
#print axioms XrsVerif.C08.aspect_spec
#print axioms XrsVerif.C08.curvature_spec
#print axioms XrsVerif.C08.hillshade_spec
#print axioms XrsVerif.C08.slope_cell_of_finite
#print axioms XrsVerif.C08.aspect_cell_of_finite
#print axioms XrsVerif.C08.curvature_cell_of_finite
#print axioms XrsVerif.C08.hillshade_cell_of_finite
#print axioms XrsVerif.C08.hornDx_offset
#print axioms XrsVerif.C08.hornDy_offset
#print axioms XrsVerif.C08.doc_offset_invariant
#print axioms XrsVerif.C08.offsetW_eq
#print axioms XrsVerif.C08.slope_offset_invariant
#print axioms XrsVerif.C08.aspect_offset_invariant
#print axioms XrsVerif.C08.curvature_offset_invariant
#print axioms XrsVerif.C08.hillshade_offset_invariant
#print axioms XrsVerif.C08.slope_run_offset_invariant
#print axioms XrsVerif.C08.aspect_run_offset_invariant
#print axioms XrsVerif.C08.curvature_run_offset_invariant
#print axioms XrsVerif.C08.hillshade_run_offset_invariant
#print axioms XrsVerif.C08.flat_window
#print axioms XrsVerif.C08.constant_window
#print axioms XrsVerif.C08.flat_window_cells
#print axioms XrsVerif.C08.real_piK
#print axioms XrsVerif.C08.real_piK_ne
#print axioms XrsVerif.C08.slopeDoc_range
#print axioms XrsVerif.C08.slope_range
#print axioms XrsVerif.C08.slope_rounds_le_90
#print axioms XrsVerif.C08.compass_range
#print axioms XrsVerif.C08.atan2_deg_range
#print axioms XrsVerif.C08.aspectDoc_range
#print axioms XrsVerif.C08.aspect_range
#print axioms XrsVerif.C08.shade_range
#print axioms XrsVerif.C08.hillshadeDoc_range
#print axioms XrsVerif.C08.hillshade_range
#print axioms XrsVerif.C08.flat_window_real
#print axioms XrsVerif.C08.horn_rot
#print axioms XrsVerif.C08.slopeDoc_rot
#print axioms XrsVerif.C08.curvatureDoc_rot
#print axioms XrsVerif.C08.real_atan2Laws
#print axioms XrsVerif.C08.compass_quarter
#print axioms XrsVerif.C08.aspectDoc_rot
#print axioms XrsVerif.C08.rot_eq_lift
#print axioms XrsVerif.C08.rot_perm
#print axioms XrsVerif.C08.slope_quarter_turn
#print axioms XrsVerif.C08.curvature_quarter_turn
#print axioms XrsVerif.C08.aspect_quarter_turn
#print axioms XrsVerif.C08.slope_run_quarter_turn
#print axioms XrsVerif.C08.curvature_run_quarter_turn
#print axioms XrsVerif.C08.aspect_run_quarter_turn
#print axioms XrsVerif.C08.aspect_run_quarter_turn_real
