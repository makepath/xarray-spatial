import XrsVerif.Props.C12
/-! GENERATED by ./check: axioms of every theorem in Props/C12.lean -/
#print axioms XrsVerif.C12.shape_is_canonical
#print axioms XrsVerif.C12.breaks_stored_exactly
#print axioms XrsVerif.C12.natural_breaks_last_forced
#print axioms XrsVerif.C12.quantile_grid_indexed
#print axioms XrsVerif.C12.equal_interval_last_forced
#print axioms XrsVerif.C12.searchS_gen
#print axioms XrsVerif.C12.bin_search_terminates
#print axioms XrsVerif.C12.bin_search_spec
#print axioms XrsVerif.C12.bin_search_first
#print axioms XrsVerif.C12.classes_range_monotone
#print axioms XrsVerif.C12.every_finite_classified
#print axioms XrsVerif.C12.cellS_gen
#print axioms XrsVerif.C12.reclassify_nonfinite
#print axioms XrsVerif.C12.reclassify_spec
#print axioms XrsVerif.C12.reclassify_nan_only_above_last
#print axioms XrsVerif.C12.run_numpy_bin_first_bin
#print axioms XrsVerif.C12.bin_operands_not_cast
#print axioms XrsVerif.C12.runNumpyBin_as_found
#print axioms XrsVerif.C12.reclassify_first_bin
#print axioms XrsVerif.C12.narrowing_cast_breaks_first_bin
#print axioms XrsVerif.C12.any_eq_iff
#print axioms XrsVerif.C12.binary_spec
#print axioms XrsVerif.C12.binary_nan
#print axioms XrsVerif.C12.binary_local
#print axioms XrsVerif.C12.class_nonfinite
#print axioms XrsVerif.C12.class_in_range
#print axioms XrsVerif.C12.class_monotone
#print axioms XrsVerif.C12.class_band
#print axioms XrsVerif.C12.cellS_classIds
#print axioms XrsVerif.C12.equal_interval_spec
#print axioms XrsVerif.C12.equal_interval_class
#print axioms XrsVerif.C12.equal_interval_every_finite_classified
#print axioms XrsVerif.C12.quantile_spec
#print axioms XrsVerif.C12.quantile_percentile_bands
#print axioms XrsVerif.C12.quantile_last_is_max
#print axioms XrsVerif.C12.quantile_every_finite_classified
#print axioms XrsVerif.C12.jenks_recurrence
#print axioms XrsVerif.C12.jenks_optimal
#print axioms XrsVerif.C12.jenks_breaks_are_class_maxima
#print axioms XrsVerif.C12.jenks_uses_all_classes
#print axioms XrsVerif.C12.jenks_uses_all_classes_of_sample
#print axioms XrsVerif.C12.natural_breaks_spec
#print axioms XrsVerif.C12.natural_breaks_fallback_spec
#print axioms XrsVerif.C12.natural_breaks_every_finite_classified
#print axioms XrsVerif.C12.natural_breaks_needs_exact_storage
#print axioms XrsVerif.C12.generated_cpu_bin_blocks
#print axioms XrsVerif.C12.generated_bin_search_loop
#print axioms XrsVerif.C12.generated_cpu_bin_refines
#print axioms XrsVerif.C12.generated_cpu_bin_first_bin
#print axioms XrsVerif.C12.generated_cpu_bin_is_model
#print axioms XrsVerif.C12.generated_reclassify_first_bin
#print axioms XrsVerif.C12.generated_cpu_bin_no_finite_cell
#print axioms XrsVerif.C12.generated_cpu_bin_empty_bins
#print axioms XrsVerif.C12.generated_cpu_bin_no_wraparound
