import XrsVerif.Props.C02
/-! GENERATED by ./check: axioms of every theorem in Props/C02.lean -/
#print axioms XrsVerif.C02.strip_fact
#print axioms XrsVerif.C02.strides_prog_fact
#print axioms XrsVerif.C02.gen_strides_eq_model
#print axioms XrsVerif.C02.il_strides_refines
#print axioms XrsVerif.C02.il_strides_eq_model
#print axioms XrsVerif.C02.il_zone_breaks
#print axioms XrsVerif.C02.stats_rows
#print axioms XrsVerif.C02.stats_value_any_reducer
#print axioms XrsVerif.C02.stats_value
#print axioms XrsVerif.C02.stats_perm_independent
#print axioms XrsVerif.C02.empty_zone_nan
#print axioms XrsVerif.C02.nonfinite_zone_cells_ignored
#print axioms XrsVerif.C02.raster_form
#print axioms XrsVerif.C02.builtin_order_independent
#print axioms XrsVerif.C02.builtin_table
#print axioms XrsVerif.C02.builtin_meaning
#print axioms XrsVerif.C02.valid_iff
#print axioms XrsVerif.C02.calc_stats_mask_fact
#print axioms XrsVerif.C02.unrepaired_shifts_slices
#print axioms XrsVerif.C02.unrepaired_ok_without_neg_inf
