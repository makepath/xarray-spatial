import XrsVerif.Props.C10
/-! GENERATED by ./check: axioms of every theorem in Props/C10.lean -/
#print axioms XrsVerif.C10.acheck_sound
#print axioms XrsVerif.C10.safeAll_sound
#print axioms XrsVerif.C10.safe_sound
#print axioms XrsVerif.C10.build_step_sound
#print axioms XrsVerif.C10.noInputWrite_sound
#print axioms XrsVerif.C10.unknown_rejected
#print axioms XrsVerif.C10.entryOk_of_strict
#print axioms XrsVerif.C10.all_entryOk_of_strict
#print axioms XrsVerif.C10.noInputWrite_of_entryOk
#print axioms XrsVerif.C10.safeAll_of_entryOk
#print axioms XrsVerif.C10.entryOk_no_unknown
#print axioms XrsVerif.C10.retMayAlias_documented
#print axioms XrsVerif.C10.slope_safe
#print axioms XrsVerif.C10.aspect_safe
#print axioms XrsVerif.C10.curvature_safe
#print axioms XrsVerif.C10.hillshade_safe
#print axioms XrsVerif.C10.spectral_safe
#print axioms XrsVerif.C10.classify_safe
#print axioms XrsVerif.C10.focal_safe
#print axioms XrsVerif.C10.proximity_safe
#print axioms XrsVerif.C10.regions_safe
#print axioms XrsVerif.C10.zonal_tables_safe
#print axioms XrsVerif.C10.trim_crop_no_input_write
#print axioms XrsVerif.C10.perlin_safe
#print axioms XrsVerif.C10.terrain_safe
#print axioms XrsVerif.C10.bump_safe
#print axioms XrsVerif.C10.viewshed_safe
#print axioms XrsVerif.C10.a_star_safe
#print axioms XrsVerif.C10.summarize_terrain_safe
#print axioms XrsVerif.C10.polygonize_safe
#print axioms XrsVerif.C10.helpers_safe
#print axioms XrsVerif.C10.local_safe
#print axioms XrsVerif.C10.all_public_conform
#print axioms XrsVerif.C10.public_inputs_never_written
#print axioms XrsVerif.C10.public_output_fresh
#print axioms XrsVerif.C10.inputs_are_components
#print axioms XrsVerif.C10.views_are_documented
#print axioms XrsVerif.C10.translator_selftest
#print axioms XrsVerif.C10.translator_selftest_components
#print axioms XrsVerif.C10.no_unknown_construct
#print axioms XrsVerif.C10.identity_sound
#print axioms XrsVerif.C10.all_meta_conform
#print axioms XrsVerif.C10.meta_preserved
#print axioms XrsVerif.C10.identity_functions_present
#print axioms XrsVerif.C10.lazyOk_sound
#print axioms XrsVerif.C10.dask_paths_return_dask_collections
#print axioms XrsVerif.C10.public_dask_path_keeps_backend
#print axioms XrsVerif.C10.dask_translator_selftest
#print axioms XrsVerif.C10.dask_functions_present
