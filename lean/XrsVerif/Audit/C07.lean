import XrsVerif.Props.C07
/-! GENERATED by ./check: axioms of every theorem in Props/C07.lean -/
#print axioms XrsVerif.C07.proximity_wiring_ok
#print axioms XrsVerif.C07.great_circle_guard_wired
#print axioms XrsVerif.C07.fallback_reasons_closed
#print axioms XrsVerif.C07.proximity_site_leaves_key_to_dask
#print axioms XrsVerif.C07.joint_proximity_results_are_the_single_results
#print axioms XrsVerif.C07.le_floor_pad
#print axioms XrsVerif.C07.pad_rows_covers
#print axioms XrsVerif.C07.pad_cols_covers
#print axioms XrsVerif.C07.le_of_sq_le
#print axioms XrsVerif.C07.halo_covers_euclidean
#print axioms XrsVerif.C07.halo_covers_manhattan
#print axioms XrsVerif.C07.target_in_halo_window
#print axioms XrsVerif.C07.boundary_not_target
#print axioms XrsVerif.C07.default_target_rule
#print axioms XrsVerif.C07.single_block_is_whole
#print axioms XrsVerif.C07.chunked_eq_whole_partial
#print axioms XrsVerif.C07.adiff_cast_int
#print axioms XrsVerif.C07.generated_pad_covers
#print axioms XrsVerif.C07.window_exact_eq_whole
#print axioms XrsVerif.C07.window_exact_eq_whole_generated_pad
#print axioms XrsVerif.C07.window_eq_whole_of_exact
#print axioms XrsVerif.C07.difference_is_inexactness
#print axioms XrsVerif.C07.window_eq_whole_single_target
#print axioms XrsVerif.C07.witness_halo_covers
#print axioms XrsVerif.C07.witness_halo_is_generated_pad
#print axioms XrsVerif.C07.window_sweep_differs_3x4
#print axioms XrsVerif.C07.window_sweep_eq_whole_false
#print axioms XrsVerif.C07.window_alloc_differs_on_tie
