import XrsVerif.Props.C05
/-! GENERATED by ./check: axioms of every theorem in Props/C05.lean -/
#print axioms XrsVerif.C05.query_decides
#print axioms XrsVerif.C05.min_gradient_le_interpolated
#print axioms XrsVerif.C05.interpolation_endpoints
#print axioms XrsVerif.C05.query_colour_irrelevant
#print axioms XrsVerif.C05.visible_iff_line_of_sight
#print axioms XrsVerif.C05.sweep_refines
#print axioms XrsVerif.C05.sweep_refines_of_checked_run
#print axioms XrsVerif.C05.rotate_preserves
#print axioms XrsVerif.C05.fixups_preserve
#print axioms XrsVerif.C05.fixups_preserve_exact
#print axioms XrsVerif.C05.leaf_insert_preserves
#print axioms XrsVerif.C05.leaf_insert_exact
#print axioms XrsVerif.C05.delete_preserves_partial
#print axioms XrsVerif.C05.delete_preserves_of_no_tie
#print axioms XrsVerif.C05.tie_free_run_related
#print axioms XrsVerif.C05.tie_free_sweep_correct
#print axioms XrsVerif.C05.delete_can_overestimate
#print axioms XrsVerif.C05.status_tree_can_hide_a_visible_cell
#print axioms XrsVerif.C05.fixups_only_recolour_and_rotate
#print axioms XrsVerif.C05.sweep_constants
#print axioms XrsVerif.C05.observer_180_invisible_minus_one
#print axioms XrsVerif.C05.vertical_angle_defined
#print axioms XrsVerif.C05.vertical_angle_range
#print axioms XrsVerif.C05.event_codes
#print axioms XrsVerif.C05.three_events_per_cell
#print axioms XrsVerif.C05.event_count
#print axioms XrsVerif.C05.enter_corner_smallest_exit_corner_largest
#print axioms XrsVerif.C05.initial_iff_span_contains_bearing_zero
#print axioms XrsVerif.C05.mem_initialCols
#print axioms XrsVerif.C05.initial_status_set
#print axioms XrsVerif.C05.corner_elevation_local
#print axioms XrsVerif.C05.corner_cells_are_the_block_at_the_corner
#print axioms XrsVerif.C05.corner_elevation_value
#print axioms XrsVerif.C05.initial_fill_uses_corner_elevations
#print axioms XrsVerif.C05.init_fill_buffer_written_after_corner_elevations
#print axioms XrsVerif.C05.corner_elevation_source_shape
#print axioms XrsVerif.C05.key_positive_off_observer
#print axioms XrsVerif.C05.events_sorted
#print axioms XrsVerif.C05.cell_events_in_sweep_order
#print axioms XrsVerif.C05.cell_operation_sequence
#print axioms XrsVerif.C05.insert_delete_counts
#print axioms XrsVerif.C05.sweep_discipline
#print axioms XrsVerif.C05.sweep_without_initial_fill_breaks
#print axioms XrsVerif.C05.generated_query_is_model_query
#print axioms XrsVerif.C05.generated_query_decides
#print axioms XrsVerif.C05.generated_query_generic
#print axioms XrsVerif.C05.generated_rotations_are_model_rotations
#print axioms XrsVerif.C05.generated_left_rotation_preserves
#print axioms XrsVerif.C05.generated_rotation_at_path
#print axioms XrsVerif.C05.generated_small_routines
#print axioms XrsVerif.C05.generated_tree_successor
#print axioms XrsVerif.C05.generated_insert_is_model_insert
#print axioms XrsVerif.C05.generated_delete_is_pass_form
#print axioms XrsVerif.C05.generated_delete_is_model_delete
#print axioms XrsVerif.C05.exState_holds
#print axioms XrsVerif.C05.generated_event_corner_cell
#print axioms XrsVerif.C05.generated_event_point
#print axioms XrsVerif.C05.generated_corners_are_extreme
#print axioms XrsVerif.C05.generated_bearing
#print axioms XrsVerif.C05.generated_vertical_angle_range
#print axioms XrsVerif.C05.generated_event_list
#print axioms XrsVerif.C05.generated_sweep_template
#print axioms XrsVerif.C05.generated_sweep_setup
#print axioms XrsVerif.C05.generated_center_event
#print axioms XrsVerif.C05.generated_query_contract
#print axioms XrsVerif.C05.generated_tree_routines_are_renamings
#print axioms XrsVerif.C05.generated_sweep_partial
#print axioms XrsVerif.C05.wrapper_source_shape
#print axioms XrsVerif.C05.observer_cell_is_nearest_centre
#print axioms XrsVerif.C05.resolution_is_coordinate_spacing
#print axioms XrsVerif.C05.wrapper_feeds_the_sweep_the_model_inputs
#print axioms XrsVerif.C05.observer_outside_is_value_error
