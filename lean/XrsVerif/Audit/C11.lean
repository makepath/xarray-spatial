import XrsVerif.Props.C11
/-! GENERATED by ./check: axioms of every theorem in Props/C11.lean -/
#print axioms XrsVerif.C11.history_independent
#print axioms XrsVerif.C11.history_independent_noStale
#print axioms XrsVerif.C11.repeat_identical
#print axioms XrsVerif.C11.all_confined
#print axioms XrsVerif.C11.all_noStale
#print axioms XrsVerif.C11.no_persistent_cache
#print axioms XrsVerif.C11.library_calls_confined
#print axioms XrsVerif.C11.library_history_independent
#print axioms XrsVerif.C11.no_caller_state_written
#print axioms XrsVerif.C11.only_known_rebinders
#print axioms XrsVerif.C11.volatile_caller_cells
#print axioms XrsVerif.C11.caller_objects_untouched
#print axioms XrsVerif.C11.call_congr
#print axioms XrsVerif.C11.perlin_reads_inputs_only
#print axioms XrsVerif.C11.generate_terrain_reads_inputs_only
#print axioms XrsVerif.C11.seeded_generators
#print axioms XrsVerif.C11.sequential_kernels
#print axioms XrsVerif.C11.own_cell_kernels
#print axioms XrsVerif.C11.all_kernels_thread_safe
#print axioms XrsVerif.C11.tasks_pure
#print axioms XrsVerif.C11.dask_schedule_independent
