import XrsVerif.Props.C09
/-! GENERATED by ./check: axioms of every theorem in Props/C09.lean -/
#print axioms XrsVerif.C09.apply_window
#print axioms XrsVerif.C09.window_entry
#print axioms XrsVerif.C09.window_shape
#print axioms XrsVerif.C09.apply_buffer_reset
#print axioms XrsVerif.C09.mean_spec
#print axioms XrsVerif.C09.meanPass_get
#print axioms XrsVerif.C09.mean_wrapper_iterates
#print axioms XrsVerif.C09.meanN_eq_iter
#print axioms XrsVerif.C09.mean_passes
#print axioms XrsVerif.C09.mean_zero_passes
#print axioms XrsVerif.C09.excluded_pass_through
#print axioms XrsVerif.C09.conv_spec
#print axioms XrsVerif.C09.conv_nan_margin
#print axioms XrsVerif.C09.conv_raster
#print axioms XrsVerif.C09.kernel_validation
#print axioms XrsVerif.C09.apply_rejects_even
#print axioms XrsVerif.C09.apply_accepts_odd
#print axioms XrsVerif.C09.under_mem
#print axioms XrsVerif.C09.window_vals
#print axioms XrsVerif.C09.builtin_stats
#print axioms XrsVerif.C09.focal_stats_table_spec
#print axioms XrsVerif.C09.focal_stats_stack
#print axioms XrsVerif.C09.focal_stats_unknown
#print axioms XrsVerif.C09.equal_numpy_iff
#print axioms XrsVerif.C09.excluded_iff
#print axioms XrsVerif.C09.mean_eq_apply_ones
#print axioms XrsVerif.C09.fsum_mul_some
#print axioms XrsVerif.C09.conv_finite
#print axioms XrsVerif.C09.fsum_none_of_mem
#print axioms XrsVerif.C09.fsum_mul_none
#print axioms XrsVerif.C09.conv_nan_in_window
#print axioms XrsVerif.C09.hotspot_thresholds
#print axioms XrsVerif.C09.hotspot_values
#print axioms XrsVerif.C09.hotspot_odd
#print axioms XrsVerif.C09.hotspots_negate
#print axioms XrsVerif.C09.hotspots_wrapper
#print axioms XrsVerif.C09.convOut_eq_convolve
#print axioms XrsVerif.C09.il_convolve_refines
#print axioms XrsVerif.C09.il_conv_cell
#print axioms XrsVerif.C09.il_convolve_even_err
#print axioms XrsVerif.C09.il_conv_finite
#print axioms XrsVerif.C09.il_conv_nan_in_window
#print axioms XrsVerif.C09.il_reductions_are_model
#print axioms XrsVerif.C09.ilApplyProgs_template
#print axioms XrsVerif.C09.il_apply_refines
#print axioms XrsVerif.C09.il_apply_cell
#print axioms XrsVerif.C09.il_focal_stats
#print axioms XrsVerif.C09.il_apply_even_err
#print axioms XrsVerif.C09.il_mean_refines
#print axioms XrsVerif.C09.il_mean_pass
#print axioms XrsVerif.C09.il_mean_passes
#print axioms XrsVerif.C09.il_apply_stats
#print axioms XrsVerif.C09.il_mean_eq_apply_ones
