import XrsVerif.Proofs.ILAStarSearchDefs
/-
  Proofs/ILAStarSearch.lean -- the neighbour loop of the generated `_a_star_search`:
  one pass of its body (`rxBody`) is the hand model's `relax`, the whole `for y, x in zip(...)` loop (`rxLoop`) is
  `nbrs.foldl (relax e u)`.
-/
namespace XrsVerif.IL
open XrsVerif XrsVerif.AStar
attribute [-simp] List.getD_eq_getElem?_getD
variable {F : Type} [Fl F]

/-- the scalars an expansion of `u` must leave alone -/
def keepI : List String := ["height", "width", "goal_py", "goal_px", "start_py", "start_px", "py", "px"]

/-- invariant of the expansion of the popped cell `u` -/
structure IterInv (e : Env F) (u : Cell) (s : State F) (mst : AStar.St F) : Prop where
  const : SrchConst e s
  abs : SrchAbs e s mst
  py : s.ienv "py" = u.1
  px : s.ienv "px" = u.2

/-- a block that allocates nothing and writes neither the scalars `keepI` nor the input arrays keeps the constant part
    of the invariant; what the work arrays then represent is the block's own business -/
theorem IterInv.of_mods {e : Env F} {u : Cell} {s r : State F} {mst mst' : AStar.St F} {iv fv bv ias fas : List String}
    (hinv : IterInv e u s mst) (h : ILVs.Mods iv fv bv ias fas [] s r) (hiv : ∀ v ∈ keepI, v ∉ iv)
    (hia : ∀ a ∈ ["neighbor_ys", "neighbor_xs"], a ∉ ias) (hfa : ∀ a ∈ ["data", "barriers"], a ∉ fas)
    (habs : SrchAbs e r mst') : IterInv e u r mst' := by
  have hk : ∀ v ∈ keepI, r.ienv v = s.ienv v := fun v hv => h.ienv v (hiv v hv)
  exact ⟨hinv.const.of_frame h.shp_eq (h.fa _ (hfa _ (by simp))) (h.fa _ (hfa _ (by simp))) (h.ia _ (hia _ (by simp)))
      (h.ia _ (hia _ (by simp))) (hk _ (by decide)) (hk _ (by decide)) (hk _ (by decide)) (hk _ (by decide))
      (hk _ (by decide)) (hk _ (by decide)),
    habs, (hk _ (by decide)).trans hinv.py, (hk _ (by decide)).trans hinv.px⟩

theorem nbrs_get {e : Env F} {s : State F} (hc : SrchConst e s) (k : Nat) (hk : k < e.nbrs.length) :
    k < (s.ia "neighbor_ys").length ∧ k < (s.ia "neighbor_xs").length ∧
    e.nbrs[k] = ((s.ia "neighbor_ys").getD k 0, (s.ia "neighbor_xs").getD k 0) := by
  have hn := hc.nbrs
  have hl : e.nbrs.length = min (s.ia "neighbor_ys").length (s.ia "neighbor_xs").length := by
    rw [hn, List.length_zip]
  have h1 : k < (s.ia "neighbor_ys").length := by omega
  have h2 : k < (s.ia "neighbor_xs").length := by omega
  refine ⟨h1, h2, ?_⟩
  have : e.nbrs[k] = ((s.ia "neighbor_ys").zip (s.ia "neighbor_xs"))[k]'(by rw [← hn]; exact hk) := by
    congr 1
  rw [this, List.getElem_zip]
  simp [List.getD_eq_getElem?_getD, h1, h2]

theorem rx_body (e : Env F) (u : Cell) (hu : inside e.h e.w u = true) (mst : AStar.St F) (st : State F)
    (hst : st.ctl = .run) (hinv : IterInv e u st mst) (fuel : Nat) (k : Nat) (hk : k < e.nbrs.length)
    (hkv : st.ienv "zip1$k" = (k : Int)) :
    (afterBody (exec fuel rxBody st)).ctl = .run ∧
      IterInv e u (afterBody (exec fuel rxBody st)) (relax e u mst e.nbrs[k]) := by
  -- what a pass writes is read off its text; it remains to say what the work arrays represent afterwards
  have hfr := (ILVs.exec_frame fuel rxBody st).afterBody
  suffices h : (afterBody (exec fuel rxBody st)).ctl = .run ∧
      SrchAbs e (afterBody (exec fuel rxBody st)) (relax e u mst e.nbrs[k]) from
    ⟨h.1, hinv.of_mods hfr (by decide) (by decide) (by decide) h.2⟩
  have hc := hinv.const
  have ha := hinv.abs
  obtain ⟨hk1, hk2, hoff⟩ := nbrs_get hc k hk
  generalize e.nbrs[k] = off at hoff ⊢
  have ho1 : off.1 = (st.ia "neighbor_ys").getD k 0 := by rw [hoff]
  have ho2 : off.2 = (st.ia "neighbor_xs").getD k 0 := by rw [hoff]
  obtain ⟨v, hv⟩ : ∃ v : Cell, v = (u.1 + off.1, u.2 + off.2) := ⟨_, rfl⟩
  have r1 := inRange_of_lt k _ hk1
  have r2 := inRange_of_lt k _ hk2
  let st1 : State F :=
    { st with ienv := setS (setS (setS (setS st.ienv "y" off.1) "x" off.2) "neighbor_y" v.1) "neighbor_x" v.2 }
  have h1 : exec fuel rxBody st = exec fuel rx1 st1 := by
    simp [il, rxBody, st1, hst, hc.s_nys, hc.s_nxs, r1, r2, off1_nat, hkv, hinv.py, hinv.px, ← ho1, ← ho2, hv]
  rw [h1]
  by_cases hin : inside e.h e.w v = true
  rotate_left
  · have h2 : exec fuel rx1 st1 = { st1 with ctl := .cont } := by
      have hb : ((e.h : Int) - 1 < v.1 ∨ v.1 < 0 ∨ (e.w : Int) - 1 < v.2 ∨ v.2 < 0) := by
        rw [inside_iff] at hin; omega
      simp [il, rx1, st1, hst, hc.height, hc.width, hb]
    rw [h2, relax_outside e u mst off (by rw [← hv]; simpa using hin)]
    exact ⟨rfl, ha.of_eq rfl rfl⟩
  · have hin' := inside_iff.1 hin
    have hnb : ¬ ((e.h : Int) - 1 < v.1 ∨ v.1 < 0 ∨ (e.w : Int) - 1 < v.2 ∨ v.2 < 0) := by omega
    obtain ⟨rv1, rv2, hov⟩ := cell_access hin
    have hcr := hc.cross v hin
    generalize hdv : (st.fa "data").getD (cidx e.w v) Fl.nan = dv at hcr
    obtain ⟨z, hz⟩ := crossCall_exec "_is_not_crossable6$cell_value" "_is_not_crossable6$i" "_is_not_crossable6$ret0"
      "neighbor_y" "neighbor_x" (by simp) rx2 fuel st1 hst e.h e.w hc.s_data hc.s_bars v hin rfl rfl dv hdv
    let st3 : State F :=
      { st1 with benv := setS st1.benv "_is_not_crossable6$ret0" (notCross dv (st.fa "barriers")),
                 fenv := setS (setS st1.fenv "_is_not_crossable6$cell_value" dv) "_is_not_crossable6$i" z }
    have h2 : exec fuel rx1 st1 = exec fuel rx2 st3 := by
      rw [rx1, exec_seq_eq _ _ _ _ st1 (by simp [il, st1, hc.height, hc.width, hnb]) hst]
      exact hz
    rw [h2]
    by_cases hbar : notCross dv (st.fa "barriers") = true
    · rw [relax_barrier e u mst off (by rw [← hv, hcr, hbar]; rfl)]
      simp [il, rx2, st3, st1, hbar, afterBody, hst]
      exact ha.of_eq rfl rfl
    · have hcross : e.cross v = true := by rw [hcr]; simp [hbar]
      by_cases hcl : (st.ia "is_closed").getD (cidx e.w v) 0 = 0
      rotate_left
      · rw [relax_closed e u mst off (by rw [← hv, ha.isClosed v hin]; simpa using hcl)]
        simp [il, rx2, st3, st1, hbar, hcl, afterBody, hst, hc.s_closed, rv1, rv2, hov]
        exact ha.of_eq rfl rfl
      · obtain ⟨ru1, ru2, hou⟩ := cell_access hu
        obtain ⟨gu, hgu⟩ : ∃ gu : F, gu = (st.fa "d_from_start").getD (cidx e.w u) Fl.nan := ⟨_, rfl⟩
        obtain ⟨dval, hdval⟩ : ∃ dval : F, dval = Fl.add gu (flDist u v) := ⟨_, rfl⟩
        let st4 : State F :=
          { st3 with
            ienv := setS (setS (setS (setS st3.ienv "_distance7$x1" u.2) "_distance7$y1" u.1)
              "_distance7$x2" v.2) "_distance7$y2" v.1,
            fenv := setS (setS st3.fenv "_distance7$ret0" (flDist u v)) "d" dval }
        have h3 : exec fuel rx2 st3 = exec fuel rx4 st4 := by
          simp [il, rx2, rx3, st4, st3, st1, hbar, hcl, hst, hc.s_closed, hc.s_g, rv1, rv2, hov, ru1, ru2, hou,
            hinv.py, hinv.px, flDist, sqDist, hdval, hgu]
        rw [h3]
        have h4 : exec fuel rx4 st4 =
            if (decide ((st.ia "is_open").getD (cidx e.w v) 0 ≠ 0) &&
                Fl.lt ((st.fa "d_from_start").getD (cidx e.w v) Fl.nan) dval) = true
            then { st4 with ctl := .cont } else exec fuel rx5 st4 := by
          by_cases ho : (st.ia "is_open").getD (cidx e.w v) 0 = 0
          · simp [il, rx4, st4, st3, st1, hst, hc.s_open, hc.s_g, rv1, rv2, hov, ho]
          · by_cases hl : Fl.lt ((st.fa "d_from_start").getD (cidx e.w v) Fl.nan) dval = true <;>
              simp [il, rx4, st4, st3, st1, hst, hc.s_open, hc.s_g, rv1, rv2, hov, ho, hl]
        rw [h4]
        have hmodel : (mst.isOpen (u.1 + off.1, u.2 + off.2) &&
            e.ops.lt (mst.g (u.1 + off.1, u.2 + off.2))
              (e.ops.add (mst.g u) (e.ops.step u (u.1 + off.1, u.2 + off.2)))) =
            (decide ((st.ia "is_open").getD (cidx e.w v) 0 ≠ 0) &&
                Fl.lt ((st.fa "d_from_start").getD (cidx e.w v) Fl.nan) dval) := by
          rw [← hv, ha.isOpen v hin, ha.g v hin, ha.g u hu, hc.ops, hdval, hgu]; rfl
        by_cases hw : (decide ((st.ia "is_open").getD (cidx e.w v) 0 ≠ 0) &&
                Fl.lt ((st.fa "d_from_start").getD (cidx e.w v) Fl.nan) dval) = true
        · rw [if_pos hw, relax_worse e u mst off (by rw [hmodel]; exact hw)]
          exact ⟨rfl, ha.of_eq rfl rfl⟩
        · rw [if_neg hw]
          have hlt : cidx e.w v < (st.fa "d_from_start").length := by rw [ha.l_g]; exact cidx_lt _ _ _ hin
          have hrel := relax_update e u mst off (by rw [← hv]; exact hin) (by rw [← hv]; exact hcross)
            (by rw [← hv, ha.isClosed v hin]; simpa using hcl) (by rw [hmodel]; simpa using hw)
          rw [← hv, ha.g u hu, hc.ops] at hrel
          simp only [flOps] at hrel
          rw [← hgu, ← hdval] at hrel
          rw [hrel]
          simp [il, rx5, st4, st3, st1, hst, hc.s_open, hc.s_g, hc.s_f, hc.s_py, hc.s_px, rv1, rv2, hov, hc.gy,
            hc.gx, getD_set_same _ _ _ _ hlt, afterBody, hinv.py, hinv.px]
          exact ha.relaxed u v hu hin hc.start_in dval (Fl.add dval (flDist v e.goal)) rfl rfl rfl rfl rfl rfl

theorem rx_loop (e : Env F) (u : Cell) (hu : inside e.h e.w u = true) (mst : AStar.St F) (st : State F)
    (hst : st.ctl = .run) (hinv : IterInv e u st mst) (fuel : Nat) :
    (exec fuel rxLoop st).ctl = .run ∧ IterInv e u (exec fuel rxLoop st) (e.nbrs.foldl (relax e u) mst) ∧
      (exec fuel rxLoop st).fa "path_img" = st.fa "path_img" := by
  have hc := hinv.const
  have hlen : e.nbrs.length = min (st.ia "neighbor_ys").length (st.ia "neighbor_xs").length := by
    rw [hc.nbrs, List.length_zip]
  -- that `path_img` is left alone is the frame of the loop
  have key := forRange_up_mods "zip1$k" (.bin .min (.dim "neighbor_ys" 0) (.dim "neighbor_xs" 0)) rxBody st fuel
    e.nbrs.length hst (by simp [IE.ok, hc.s_nys, hc.s_nxs])
    (by
      simp only [IE.eval, IOp.eval, hc.s_nys, hc.s_nxs, getD_single_0, hlen]
      split <;> omega)
    (fun k st' => IterInv e u st' ((e.nbrs.take k).foldl (relax e u) mst))
    (by simpa using hinv)
    (fun k hk st' hst' _ hinv' => by
      have hb := rx_body e u hu _ { st' with ienv := setS st'.ienv "zip1$k" (k : Int) } hst'
        (hinv'.of_mods (ILVs.mods_setI ["zip1$k"] [] [] [] [] [] st' "zip1$k" (k : Int) List.mem_cons_self) (by decide)
          (by simp) (by simp) (hinv'.abs.of_eq rfl rfl)) fuel k hk (by simp)
      rw [List.take_succ_eq_append_getElem hk, List.foldl_append]
      exact hb)
  rw [List.take_length] at key
  exact ⟨key.1, key.2.2, key.2.1.fa "path_img" (by decide)⟩

end XrsVerif.IL
