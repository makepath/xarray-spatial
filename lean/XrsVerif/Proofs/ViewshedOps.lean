import XrsVerif.Proofs.Viewshed
/-!
  Rotations, recolouring and the leaf insertion of the status tree (C05) preserve
  `BST`, the node list, `AugLe` and `Exact`.
-/
set_option linter.unusedSectionVars false
namespace XrsVerif.Viewshed

variable {α : Type} [LinearOrder α]

/-! ### operations that rearrange or recolour: rotations, recolouring, either of them somewhere inside the tree

  All of them keep the node list -- hence the key order and every true maximum -- and recompute the stored maxima
  they invalidate from the children's, so they keep every `NodesSat R` (`AugLe`, `Exact`) and, at the root, `AugLeQ`. -/

structure Respects (S : α) (f : Tree α → Tree α) : Prop where
  toList : ∀ t, (f t).toList = t.toList
  sat : ∀ {R : α → α → Prop}, MaxRel R → ∀ {t}, NodesSat R S t → NodesSat R S (f t)
  augLeQ : ∀ {t}, AugLeQ S t → AugLeQ S (f t)

theorem AugLe.node_recomp {S : α} {l r : Tree α} (hl : AugLe S l) (hr : AugLe S r) (n : Node α) (c : Bool) :
    AugLe S (.node l n (recomp S l n r) c r) :=
  augLe_iff.mpr ((augLe_iff.mp hl).node_recomp .le (augLe_iff.mp hr) n c)

theorem Exact.node_recomp {S : α} {l r : Tree α} (hl : Exact S l) (hr : Exact S r) (n : Node α) (c : Bool) :
    Exact S (.node l n (recomp S l n r) c r) :=
  exact_iff.mpr ((exact_iff.mp hl).node_recomp .eq (exact_iff.mp hr) n c)

namespace Respects
variable {S : α} {f : Tree α → Tree α} (h : Respects S f) {t : Tree α}
include h

theorem bst (hb : BST t) : BST (f t) := hb.of_toList_eq (h.toList t)

theorem trueMax (t : Tree α) : trueMax S (f t) = Viewshed.trueMax S t :=
  trueMax_congr S fun n => by rw [h.toList]

theorem augLe (ha : AugLe S t) : AugLe S (f t) := augLe_iff.mpr (h.sat .le (augLe_iff.mp ha))

theorem exact (ha : Exact S t) : Exact S (f t) := exact_iff.mpr (h.sat .eq (exact_iff.mp ha))

/-- the same operation applied to the subtree at a path: the ancestors keep their stored maxima, which stand for
    the same true maxima as before -/
theorem atPath (p : List Dir) : Respects S (atPath f p) := by
  induction p with
  | nil => exact h
  | cons d p ih =>
    refine ⟨fun t => ?_, fun hR t ht => ?_, fun {t} hq => ?_⟩
    · cases t with
      | nil => rfl
      | node l n mx c r => cases d <;> simp only [Viewshed.atPath, Tree.toList, ih.toList]
    · cases t with
      | nil => exact ht
      | node l n mx c r =>
        obtain ⟨hm, hl, hr⟩ := ht
        rw [trueMax_node] at hm
        cases d
        · exact ⟨by rw [trueMax_node, ih.trueMax]; exact hm, ih.sat hR hl, hr⟩
        · exact ⟨by rw [trueMax_node, ih.trueMax]; exact hm, hl, ih.sat hR hr⟩
    · cases t with
      | nil => exact hq
      | node l n mx c r =>
        cases d
        · exact ⟨ih.augLe hq.1, hq.2⟩
        · exact ⟨hq.1, ih.augLe hq.2⟩

end Respects

/-- a rotation is two recomputations, the node that goes down first -/
theorem respects_rotL (S : α) : Respects S (rotL S) where
  toList t := by unfold rotL; split <;> simp [Tree.toList, List.append_assoc]
  sat hR t ht := by
    unfold rotL
    split
    · obtain ⟨_, hxl, _, hyl, hyr⟩ := ht
      exact (hxl.node_recomp hR hyl _ _).node_recomp hR hyr _ _
    · exact ht
  augLeQ {t} hq := by
    unfold rotL
    split
    · exact ⟨hq.1.node_recomp hq.2.2.1 _ _, hq.2.2.2⟩
    · exact hq

theorem respects_rotR (S : α) : Respects S (rotR S) where
  toList t := by unfold rotR; split <;> simp [Tree.toList, List.append_assoc]
  sat hR t ht := by
    unfold rotR
    split
    · obtain ⟨_, ⟨_, hxl, hxr⟩, hyr⟩ := ht
      exact hxl.node_recomp hR (hxr.node_recomp hR hyr _ _) _ _
    · exact ht
  augLeQ {t} hq := by
    unfold rotR
    split
    · exact ⟨hq.1.2.1, hq.1.2.2.node_recomp hq.2 _ _⟩
    · exact hq

/-! ### recolouring changes nothing the query or the invariants look at -/

theorem recolour_toList (f : List Dir → Bool → Bool) (p : List Dir) (t : Tree α) :
    (recolour f p t).toList = t.toList := by
  induction t generalizing p with
  | nil => rfl
  | node l n mx c r ihl ihr => simp [recolour, Tree.toList, ihl, ihr]

theorem recolour_mxOf (S : α) (f : List Dir → Bool → Bool) (p : List Dir) (t : Tree α) :
    mxOf S (recolour f p t) = mxOf S t := by
  cases t <;> rfl

theorem recolour_trueMax (S : α) (f : List Dir → Bool → Bool) (p : List Dir) (t : Tree α) :
    trueMax S (recolour f p t) = trueMax S t :=
  trueMax_congr S (fun n => by rw [recolour_toList])

theorem respects_recolour (S : α) (f : List Dir → Bool → Bool) (p : List Dir) : Respects S (recolour f p) := by
  have sat : ∀ {R : α → α → Prop} {t : Tree α} (p : List Dir), NodesSat R S t → NodesSat R S (recolour f p t) := by
    intro R t
    induction t with
    | nil => exact fun _ h => h
    | node l n mx c r ihl ihr =>
      rintro p ⟨hm, hl, hr⟩
      refine ⟨?_, ihl _ hl, ihr _ hr⟩
      rw [trueMax_node] at hm ⊢
      rwa [recolour_trueMax, recolour_trueMax]
  refine ⟨recolour_toList f p, fun _ _ => sat p, fun {t} hq => ?_⟩
  cases t with
  | nil => exact hq
  | node l n mx c r => exact ⟨augLe_iff.mpr (sat _ (augLe_iff.mp hq.1)), augLe_iff.mpr (sat _ (augLe_iff.mp hq.2))⟩

theorem recolour_short (S : α) (f : List Dir → Bool → Bool) (p : List Dir) (t : Tree α) (K : α) :
    short S (recolour f p t) K = short S t K := by
  induction t generalizing p with
  | nil => rfl
  | node l n mx c r ihl ihr =>
    simp only [recolour, short, ihl, ihr, recolour_mxOf]

theorem recolour_contains (f : List Dir → Bool → Bool) (p : List Dir) (t : Tree α) (K : α) :
    (recolour f p t).contains K = t.contains K := by
  induction t generalizing p with
  | nil => rfl
  | node l n mx c r ihl ihr =>
    simp only [recolour, Tree.contains, ihl, ihr]

/-- `insCore` at a node: `p` says whether the propagation loop is still running below; while it is, the stored
    maximum is raised to the new value, and the loop goes on as long as the new value is the larger -/
theorem insCore_node (nn : Node α) (l : Tree α) (n : Node α) (mx : α) (c : Bool) (r : Tree α) :
    insCore nn (.node l n mx c r) =
      if nn.key < n.key then
        let p := (insCore nn l).2
        (.node (insCore nn l).1 n (if p then max mx (minv nn) else mx) c r, p && decide (mx ≤ minv nn))
      else
        let p := (insCore nn r).2
        (.node l n (if p then max mx (minv nn) else mx) c (insCore nn r).1, p && decide (mx ≤ minv nn)) := by
  have e : (if mx < minv nn then minv nn else mx) = max mx (minv nn) := by
    rw [max_comm, ← mx2_eq_max]; rfl
  have e' : (!decide (minv nn < max mx (minv nn))) = decide (mx ≤ minv nn) := by
    rw [Bool.eq_iff_iff]; simp
  simp only [insCore, e, e']
  split
  · rcases insCore nn l with ⟨l', p⟩; cases p <;> rfl
  · rcases insCore nn r with ⟨r', p⟩; cases p <;> rfl

theorem insCore_toList (nn : Node α) (t : Tree α) :
    ∀ n, n ∈ (insCore nn t).1.toList ↔ n = nn ∨ n ∈ t.toList := by
  induction t with
  | nil => intro n; simp [insCore, Tree.toList]
  | node l m mx c r ihl ihr =>
    intro n
    rw [insCore_node]
    split
    · simp only [mem_toList_node, ihl, or_assoc]
    · simp only [mem_toList_node, ihr, or_left_comm]

theorem insCore_BST (nn : Node α) {t : Tree α} (h : BST t) (hk : ∀ n ∈ t.toList, n.key ≠ nn.key) :
    BST (insCore nn t).1 := by
  induction t with
  | nil => simp [insCore, BST, Tree.toList]
  | node l m mx c r ihl ihr =>
    obtain ⟨hl, hr, hbl, hbr⟩ := h
    obtain ⟨hkl, hkm, hkr⟩ := forall_mem_node.mp hk
    rw [insCore_node]
    split
    · rename_i hlt
      refine ⟨fun a ha => ?_, hr, ihl hbl hkl, hbr⟩
      rcases (insCore_toList nn l a).mp ha with rfl | ha
      · exact hlt
      · exact hl a ha
    · rename_i hnl
      refine ⟨hl, fun b hb => ?_, hbl, ihr hbr hkr⟩
      rcases (insCore_toList nn r b).mp hb with rfl | hb
      · exact lt_of_le_of_ne (not_lt.mp hnl) hkm
      · exact hr b hb

theorem trueMax_insCore (S : α) (nn : Node α) (t : Tree α) :
    trueMax S (insCore nn t).1 = max (trueMax S t) (minv nn) :=
  eq_of_forall_ge_iff fun g => by
    rw [trueMax_le_iff, max_le_iff, trueMax_le_iff]
    simp only [insCore_toList, forall_eq_or_imp]
    exact ⟨fun ⟨a, b, c⟩ => ⟨⟨a, c⟩, b⟩, fun ⟨⟨a, c⟩, b⟩ => ⟨a, b, c⟩⟩

/-! One step of the propagation on numbers: `a` is the old true maximum of the child the new value `v` went into,
    `rest` what else the node covers, `p` whether the loop is still running below. -/

theorem insStep_le {p : Bool} {mx v a rest : α} (h : mx ≤ max a rest) :
    (if p then max mx v else mx) ≤ max (max a v) rest := by
  have h' : mx ≤ max (max a v) rest := le_trans h (max_le_max (le_max_left _ _) le_rfl)
  cases p
  · exact h'
  · exact max_le h' (le_trans (le_max_right a v) (le_max_left _ _))

theorem insStep_exact {p : Bool} {mx v a rest : α} (h : mx = max a rest) (h2 : p = false → max a v = a) :
    (if p then max mx v else mx) = max (max a v) rest ∧
      ((p && decide (mx ≤ v)) = true → max (max a v) rest = v) ∧
      ((p && decide (mx ≤ v)) = false → max (max a v) rest = mx) := by
  cases p
  · rw [h2 rfl]; exact ⟨h, fun hc => absurd hc Bool.false_ne_true, fun _ => h.symm⟩
  · have e : max (max a v) rest = max mx v := by rw [h, max_right_comm]
    rw [e]
    refine ⟨rfl, fun hc => max_eq_right (of_decide_eq_true hc), fun hc => max_eq_left ?_⟩
    exact le_of_lt (not_le.mp (of_decide_eq_false hc))

theorem insCore_AugLe (S : α) (nn : Node α) {t : Tree α} (h : AugLe S t) : AugLe S (insCore nn t).1 := by
  induction t with
  | nil => exact ⟨minv_le_trueMax S _ mem_node_root, trivial, trivial⟩
  | node l m mx c r ihl ihr =>
    obtain ⟨hm, hl, hr⟩ := h
    rw [trueMax_node] at hm
    rw [insCore_node]
    split
    · refine ⟨?_, ihl hl, hr⟩
      rw [trueMax_node, trueMax_insCore, max_assoc]
      exact insStep_le (hm.trans (max_assoc _ _ _).le)
    · refine ⟨?_, hl, ihr hr⟩
      rw [trueMax_node, trueMax_insCore, max_comm (max _ _)]
      exact insStep_le (hm.trans (max_comm _ _).le)

theorem insCore_AugLeQ (S : α) (nn : Node α) {t : Tree α} (h : AugLeQ S t) : AugLeQ S (insCore nn t).1 := by
  cases t with
  | nil => exact ⟨trivial, trivial⟩
  | node l m mx c r =>
    rw [insCore_node]
    split
    · exact ⟨insCore_AugLe S nn h.1, h.2⟩
    · exact ⟨h.1, insCore_AugLe S nn h.2⟩

/-- while the propagation is still running the subtree's stored maximum is exactly the new node's
    minimum gradient -/
theorem insCore_Exact_aux (S : α) (nn : Node α) {t : Tree α} (h : Exact S t) (hS : S ≤ minv nn) :
    Exact S (insCore nn t).1 ∧
      ((insCore nn t).2 = true → trueMax S (insCore nn t).1 = minv nn) ∧
      ((insCore nn t).2 = false → trueMax S (insCore nn t).1 = trueMax S t) := by
  induction t with
  | nil =>
    have e : trueMax S (Tree.node .nil nn (minv nn) true .nil) = minv nn := by
      rw [trueMax_node]; simp only [trueMax]; rw [max_eq_right hS, max_eq_left hS]
    exact ⟨⟨e.symm, trivial, trivial⟩, fun _ => e, fun h => nomatch h⟩
  | node l m mx c r ihl ihr =>
    obtain ⟨hm, hl, hr⟩ := h
    rw [trueMax_node] at hm
    rw [insCore_node, trueMax_node]
    split
    · obtain ⟨he, _, h2⟩ := ihl hl
      rw [trueMax_insCore] at h2
      obtain ⟨e, e1, e2⟩ := insStep_exact (v := minv nn) (hm.trans (max_assoc _ _ _)) h2
      have ht : ∀ mx', trueMax S (.node (insCore nn l).1 m mx' c r) =
          max (max (trueMax S l) (minv nn)) (max (minv m) (trueMax S r)) := fun _ => by
        rw [trueMax_node, trueMax_insCore, max_assoc]
      exact ⟨⟨by rw [ht]; exact e, he, hr⟩, fun hc => by rw [ht]; exact e1 hc,
        fun hc => by rw [ht]; exact (e2 hc).trans hm⟩
    · obtain ⟨he, _, h2⟩ := ihr hr
      rw [trueMax_insCore] at h2
      obtain ⟨e, e1, e2⟩ := insStep_exact (v := minv nn) (hm.trans (max_comm _ _)) h2
      have ht : ∀ mx', trueMax S (.node l m mx' c (insCore nn r).1) =
          max (max (trueMax S r) (minv nn)) (max (trueMax S l) (minv m)) := fun _ => by
        rw [trueMax_node, trueMax_insCore, max_comm (max _ _)]
      exact ⟨⟨by rw [ht]; exact e, hl, he⟩, fun hc => by rw [ht]; exact e1 hc,
        fun hc => by rw [ht]; exact (e2 hc).trans hm⟩

end XrsVerif.Viewshed
