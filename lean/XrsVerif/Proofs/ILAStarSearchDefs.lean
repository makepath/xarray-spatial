import XrsVerif.Proofs.ILAStarSnap
import XrsVerif.Proofs.ILAStarPath
/-
  Proofs/ILAStarSearchDefs.lean -- the text of the generated `_a_star_search` (`Gen.IL.aStarSearch`) cut into named
  pieces (`aStarSearch_body`, by `rfl`: any edit of the source changes the generated text and breaks it), the
  abstraction of the program state to the state of the hand model (`SrchConst`, `SrchAbs`), and the array lemmas
  for one relaxation (`SrchAbs.relaxed`) and for popping a cell (`SrchAbs.closed`): a store at a cell is `upd` on the
  function the array represents (`rep_set`, `parentOf_set`).
-/
namespace XrsVerif.IL
open XrsVerif XrsVerif.AStar
variable {F : Type} [Fl F]

/-- renaming of the locals of the inlined `_min_cost_pixel_id` / `_reconstruct_path` -/
def q4 : String → String := fun a => "_min_cost_pixel_id4$" ++ a
def q5 : String → String := fun a => "_reconstruct_path5$" ++ a
theorem q4_ren : ILVs.Inj q4 := ILVs.inj_pre _
theorem q5_ren : ILVs.Inj q5 := ILVs.inj_pre _

def rx5 : St :=
  (.seq (.stF2 "d_from_start" (.var "neighbor_y") (.var "neighbor_x") (.var "d"))
  (.seq (.setI "_heuristic8$x1" (.var "neighbor_x"))
  (.seq (.setI "_heuristic8$y1" (.var "neighbor_y"))
  (.seq (.setI "_heuristic8$x2" (.var "goal_px"))
  (.seq (.setI "_heuristic8$y2" (.var "goal_py"))
  (.seq (.scope (.seq (.setI "_heuristic8$_distance9$x1" (.var "_heuristic8$x1"))
  (.seq (.setI "_heuristic8$_distance9$y1" (.var "_heuristic8$y1"))
  (.seq (.setI "_heuristic8$_distance9$x2" (.var "_heuristic8$x2"))
  (.seq (.setI "_heuristic8$_distance9$y2" (.var "_heuristic8$y2"))
  (.seq (.scope (.seq (.setF "_heuristic8$_distance9$ret0" (.un .sqrt (.ofInt (.bin .add (.bin .mul (.bin .sub (.var "_heuristic8$_distance9$x1") (.var "_heuristic8$_distance9$x2")) (.bin .sub (.var "_heuristic8$_distance9$x1") (.var "_heuristic8$_distance9$x2"))) (.bin .mul (.bin .sub (.var "_heuristic8$_distance9$y1") (.var "_heuristic8$_distance9$y2")) (.bin .sub (.var "_heuristic8$_distance9$y1") (.var "_heuristic8$_distance9$y2")))))))
  .ret))
  (.seq (.setF "_heuristic8$ret0" (.var "_heuristic8$_distance9$ret0"))
  .ret)))))))
  (.seq (.setF "d_to_goal" (.var "_heuristic8$ret0"))
  (.seq (.stF2 "cost" (.var "neighbor_y") (.var "neighbor_x") (.bin .add (.ld2 "d_from_start" (.var "neighbor_y") (.var "neighbor_x")) (.var "d_to_goal")))
  (.seq (.stI2 "is_open" (.var "neighbor_y") (.var "neighbor_x") (.lit 1))
  (.seq (.stI2 "parent_ys" (.var "neighbor_y") (.var "neighbor_x") (.var "py"))
  (.stI2 "parent_xs" (.var "neighbor_y") (.var "neighbor_x") (.var "px"))))))))))))

def rx4 : St :=
  (.seq (.ite (.and (.cmpI .ne (.ld2 "is_open" (.var "neighbor_y") (.var "neighbor_x")) (.lit 0)) (.cmpF .gt (.var "d") (.ld2 "d_from_start" (.var "neighbor_y") (.var "neighbor_x"))))
  .cont
  .skip)
  rx5)

def rx3 : St :=
  (.seq (.setI "_distance7$x1" (.var "px"))
  (.seq (.setI "_distance7$y1" (.var "py"))
  (.seq (.setI "_distance7$x2" (.var "neighbor_x"))
  (.seq (.setI "_distance7$y2" (.var "neighbor_y"))
  (.seq (.scope (.seq (.setF "_distance7$ret0" (.un .sqrt (.ofInt (.bin .add (.bin .mul (.bin .sub (.var "_distance7$x1") (.var "_distance7$x2")) (.bin .sub (.var "_distance7$x1") (.var "_distance7$x2"))) (.bin .mul (.bin .sub (.var "_distance7$y1") (.var "_distance7$y2")) (.bin .sub (.var "_distance7$y1") (.var "_distance7$y2")))))))
  .ret))
  (.seq (.setF "d" (.bin .add (.ld2 "d_from_start" (.var "py") (.var "px")) (.var "_distance7$ret0")))
  rx4))))))

def rx2 : St :=
  (.seq (.ite (.var "_is_not_crossable6$ret0")
  .cont
  .skip)
  (.seq (.ite (.cmpI .ne (.ld2 "is_closed" (.var "neighbor_y") (.var "neighbor_x")) (.lit 0))
  .cont
  .skip)
  rx3))

def rx1 : St :=
  (.seq (.ite (.or (.cmpI .gt (.var "neighbor_y") (.bin .sub (.var "height") (.lit 1))) (.or (.cmpI .lt (.var "neighbor_y") (.lit 0)) (.or (.cmpI .gt (.var "neighbor_x") (.bin .sub (.var "width") (.lit 1))) (.cmpI .lt (.var "neighbor_x") (.lit 0)))))
  .cont
  .skip)
  (.seq (.setF "_is_not_crossable6$cell_value" (.ld2 "data" (.var "neighbor_y") (.var "neighbor_x")))
  (.seq (.scope (ncSt "_is_not_crossable6$cell_value" "_is_not_crossable6$i" "_is_not_crossable6$ret0"))
  rx2)))

def rxBody : St :=
  (.seq (.setI "y" (.ld1 "neighbor_ys" (.var "zip1$k")))
  (.seq (.setI "x" (.ld1 "neighbor_xs" (.var "zip1$k")))
  (.seq (.setI "neighbor_y" (.bin .add (.var "py") (.var "y")))
  (.seq (.setI "neighbor_x" (.bin .add (.var "px") (.var "x")))
  rx1))))

def rxLoop : St :=
  (.forRange "zip1$k" (.lit 0) (.bin .min (.dim "neighbor_ys" 0) (.dim "neighbor_xs" 0)) (.lit 1)
  rxBody)

def goalSt : St :=
  (.ite (.and (.cmpI .eq (.var "py") (.var "goal_py")) (.cmpI .eq (.var "px") (.var "goal_px")))
  (.seq (.setI "_reconstruct_path5$start_py" (.var "start_py"))
  (.seq (.setI "_reconstruct_path5$start_px" (.var "start_px"))
  (.seq (.setI "_reconstruct_path5$goal_py" (.var "goal_py"))
  (.seq (.setI "_reconstruct_path5$goal_px" (.var "goal_px"))
  (.seq (.scope (rcSt q5 "d_from_start"))
  .ret)))))
  .skip)

def wbTail : St :=
  (.seq rxLoop
  (.setI "num_open" (.sum "is_open")))

def wbGoal : St :=
  (.seq goalSt
  wbTail)

def wbPop : St :=
  (.seq (.setI "py" (.var "_min_cost_pixel_id4$ret0"))
  (.seq (.setI "px" (.var "_min_cost_pixel_id4$ret1"))
  (.seq (.stI2 "is_open" (.var "py") (.var "px") (.lit 0))
  (.seq (.stI2 "is_closed" (.var "py") (.var "px") (.lit 1))
  wbGoal))))

def whileBody : St :=
  (.seq (.scope (mcSt q4))
  wbPop)

def mainLoop : St :=
  (.while (.cmpI .gt (.var "num_open") (.lit 0))
  whileBody)

def initOpen : St :=
  (.ite (.not (.var "_is_not_crossable1$ret0"))
  (.seq (.stI2 "is_open" (.var "start_py") (.var "start_px") (.lit 1))
  (.seq (.stF2 "d_from_start" (.var "start_py") (.var "start_px") (.ofInt (.lit 0)))
  (.seq (.setI "_heuristic2$x1" (.var "start_px"))
  (.seq (.setI "_heuristic2$y1" (.var "start_py"))
  (.seq (.setI "_heuristic2$x2" (.var "goal_px"))
  (.seq (.setI "_heuristic2$y2" (.var "goal_py"))
  (.seq (.scope (.seq (.setI "_heuristic2$_distance3$x1" (.var "_heuristic2$x1"))
  (.seq (.setI "_heuristic2$_distance3$y1" (.var "_heuristic2$y1"))
  (.seq (.setI "_heuristic2$_distance3$x2" (.var "_heuristic2$x2"))
  (.seq (.setI "_heuristic2$_distance3$y2" (.var "_heuristic2$y2"))
  (.seq (.scope (.seq (.setF "_heuristic2$_distance3$ret0" (.un .sqrt (.ofInt (.bin .add (.bin .mul (.bin .sub (.var "_heuristic2$_distance3$x1") (.var "_heuristic2$_distance3$x2")) (.bin .sub (.var "_heuristic2$_distance3$x1") (.var "_heuristic2$_distance3$x2"))) (.bin .mul (.bin .sub (.var "_heuristic2$_distance3$y1") (.var "_heuristic2$_distance3$y2")) (.bin .sub (.var "_heuristic2$_distance3$y1") (.var "_heuristic2$_distance3$y2")))))))
  .ret))
  (.seq (.setF "_heuristic2$ret0" (.var "_heuristic2$_distance3$ret0"))
  .ret)))))))
  (.stF2 "cost" (.var "start_py") (.var "start_px") (.bin .add (.ld2 "d_from_start" (.var "start_py") (.var "start_px")) (.var "_heuristic2$ret0"))))))))))
  .skip)

def searchTail : St :=
  (.seq mainLoop
  .ret)

def searchC : St :=
  (.seq initOpen
  (.seq (.setI "num_open" (.sum "is_open"))
  searchTail))

def searchB : St :=
  (.seq (.setF "_is_not_crossable1$cell_value" (.ld2 "data" (.var "start_py") (.var "start_px")))
  (.seq (.scope (ncSt "_is_not_crossable1$cell_value" "_is_not_crossable1$i" "_is_not_crossable1$ret0"))
  searchC))

def searchSt : St :=
  (.seq (.setI "height" (.dim "data" 0))
  (.seq (.setI "width" (.dim "data" 1))
  (.seq (.allocI "parent_ys" [(.var "height"), (.var "width")] (.lit (-1)))
  (.seq (.allocI "parent_xs" [(.var "height"), (.var "width")] (.lit (-1)))
  (.seq (.stI2 "parent_ys" (.var "start_py") (.var "start_px") (.var "start_py"))
  (.seq (.stI2 "parent_xs" (.var "start_py") (.var "start_px") (.var "start_px"))
  (.seq (.allocF "d_from_start" [(.dim "data" 0), (.dim "data" 1)] (.lit 0 1))
  (.seq (.allocF "cost" [(.dim "data" 0), (.dim "data" 1)] (.lit 0 1))
  (.seq (.allocI "is_open" [(.dim "data" 0), (.dim "data" 1)] (.lit 0))
  (.seq (.allocI "is_closed" [(.dim "data" 0), (.dim "data" 1)] (.lit 0))
  searchB))))))))))

/-- the cost operations `_a_star_search` performs, on the number type `F`: `+`, `<`, the Euclidean distance of
    pixel indices for both the step length and the heuristic, `(h + w)^2` as the bound of `_min_cost_pixel_id` -/
def flOps : Ops F where
  zero := Fl.lit 0 1
  add := Fl.add
  lt := Fl.lt
  step := flDist
  heur := flDist
  big h w := Fl.lit (((h : Int) + (w : Int)) * ((h : Int) + (w : Int))) 1

/-- the inputs of the search and what stays constant while it runs: `e` is the environment of the hand model that
    the arrays `data`, `barriers`, `neighbor_ys/xs` and the scalar parameters describe -/
structure SrchConst (e : Env F) (s : State F) : Prop where
  ops : e.ops = flOps
  s_data : s.shp "data" = [e.h, e.w]
  s_bars : (s.shp "barriers").length = 1
  s_nys : s.shp "neighbor_ys" = [(s.ia "neighbor_ys").length]
  s_nxs : s.shp "neighbor_xs" = [(s.ia "neighbor_xs").length]
  s_open : s.shp "is_open" = [e.h, e.w]
  s_closed : s.shp "is_closed" = [e.h, e.w]
  s_g : s.shp "d_from_start" = [e.h, e.w]
  s_f : s.shp "cost" = [e.h, e.w]
  s_py : s.shp "parent_ys" = [e.h, e.w]
  s_px : s.shp "parent_xs" = [e.h, e.w]
  s_path : s.shp "path_img" = [e.h, e.w]
  nbrs : e.nbrs = (s.ia "neighbor_ys").zip (s.ia "neighbor_xs")
  cross : ∀ c, inside e.h e.w c = true →
    e.cross c = !notCross ((s.fa "data").getD (cidx e.w c) Fl.nan) (s.fa "barriers")
  height : s.ienv "height" = (e.h : Int)
  width : s.ienv "width" = (e.w : Int)
  gy : s.ienv "goal_py" = e.goal.1
  gx : s.ienv "goal_px" = e.goal.2
  sy : s.ienv "start_py" = e.start.1
  sx : s.ienv "start_px" = e.start.2
  start_in : inside e.h e.w e.start = true

theorem SrchConst.of_frame {e : Env F} {s r : State F} (hc : SrchConst e s) (hshp : r.shp = s.shp)
    (hd : r.fa "data" = s.fa "data") (hb : r.fa "barriers" = s.fa "barriers")
    (hn1 : r.ia "neighbor_ys" = s.ia "neighbor_ys") (hn2 : r.ia "neighbor_xs" = s.ia "neighbor_xs")
    (h1 : r.ienv "height" = s.ienv "height") (h2 : r.ienv "width" = s.ienv "width")
    (h3 : r.ienv "goal_py" = s.ienv "goal_py") (h4 : r.ienv "goal_px" = s.ienv "goal_px")
    (h5 : r.ienv "start_py" = s.ienv "start_py") (h6 : r.ienv "start_px" = s.ienv "start_px") : SrchConst e r :=
  ⟨hc.ops, by rw [hshp]; exact hc.s_data, by rw [hshp]; exact hc.s_bars, by rw [hshp, hn1]; exact hc.s_nys,
   by rw [hshp, hn2]; exact hc.s_nxs, by rw [hshp]; exact hc.s_open, by rw [hshp]; exact hc.s_closed,
   by rw [hshp]; exact hc.s_g, by rw [hshp]; exact hc.s_f, by rw [hshp]; exact hc.s_py,
   by rw [hshp]; exact hc.s_px, by rw [hshp]; exact hc.s_path, by rw [hn1, hn2]; exact hc.nbrs,
   by rw [hd, hb]; exact hc.cross, by rw [h1]; exact hc.height, by rw [h2]; exact hc.width,
   by rw [h3]; exact hc.gy, by rw [h4]; exact hc.gx, by rw [h5]; exact hc.sy, by rw [h6]; exact hc.sx,
   hc.start_in⟩

/-- the six work arrays of the search represent the state `mst` of the hand model (on the cells of the raster) -/
structure SrchAbs (e : Env F) (s : State F) (mst : AStar.St F) : Prop where
  l_open : (s.ia "is_open").length = e.h * e.w
  l_closed : (s.ia "is_closed").length = e.h * e.w
  l_g : (s.fa "d_from_start").length = e.h * e.w
  l_f : (s.fa "cost").length = e.h * e.w
  l_py : (s.ia "parent_ys").length = e.h * e.w
  l_px : (s.ia "parent_xs").length = e.h * e.w
  open01 : ∀ x ∈ s.ia "is_open", x = 0 ∨ x = 1
  isOpen : ∀ c, inside e.h e.w c = true → mst.isOpen c = decide ((s.ia "is_open").getD (cidx e.w c) 0 ≠ 0)
  isClosed : ∀ c, inside e.h e.w c = true → mst.isClosed c = decide ((s.ia "is_closed").getD (cidx e.w c) 0 ≠ 0)
  g : ∀ c, inside e.h e.w c = true → mst.g c = (s.fa "d_from_start").getD (cidx e.w c) Fl.nan
  f : ∀ c, inside e.h e.w c = true → mst.f c = (s.fa "cost").getD (cidx e.w c) Fl.nan
  parent : ∀ c, inside e.h e.w c = true →
    mst.parent c = parentOf (s.ia "parent_ys") (s.ia "parent_xs") e.w c
  /-- the start cell always has a back pointer (it is its own parent from the beginning) -/
  pstart : parentOf (s.ia "parent_ys") (s.ia "parent_xs") e.w e.start ≠ none

theorem SrchAbs.of_eq {e : Env F} {s r : State F} {mst : AStar.St F} (ha : SrchAbs e s mst)
    (hia : r.ia = s.ia) (hfa : r.fa = s.fa) : SrchAbs e r mst :=
  ⟨hia ▸ ha.l_open, hia ▸ ha.l_closed, hfa ▸ ha.l_g, hfa ▸ ha.l_f, hia ▸ ha.l_py, hia ▸ ha.l_px, hia ▸ ha.open01,
    hia ▸ ha.isOpen, hia ▸ ha.isClosed, hfa ▸ ha.g, hfa ▸ ha.f, hia ▸ ha.parent, hia ▸ ha.pstart⟩

theorem SrchAbs.mcAbs {e : Env F} {s : State F} {mst : AStar.St F} (hc : SrchConst e s) (ha : SrchAbs e s mst) :
    McAbs e mst s :=
  ⟨by rw [hc.ops]; rfl, by rw [hc.ops]; rfl, hc.s_open, hc.s_f, ha.isOpen, ha.f⟩

theorem getD_set_cell {α} (h w : Nat) (l : List α) (hl : l.length = h * w) (v c : Cell)
    (hv : inside h w v = true) (hc : inside h w c = true) (x d : α) :
    (l.set (cidx w v) x).getD (cidx w c) d = if c = v then x else l.getD (cidx w c) d :=
  getD_set_at (cidx w) l v c x d (hl ▸ cidx_lt h w v hv) (cidx_inj h w c v hc hv)

theorem mem_set_01 (l : List Int) (k : Nat) (x : Int) (hx : x = 0 ∨ x = 1) (hl : ∀ y ∈ l, y = 0 ∨ y = 1) :
    ∀ y ∈ l.set k x, y = 0 ∨ y = 1 := by
  intro y hy
  rcases List.mem_or_eq_of_mem_set hy with h | h
  · exact hl y h
  · rw [h]; exact hx

theorem rep_set {α β : Type} {h w : Nat} {l : List α} (hl : l.length = h * w) (rd : α → β) (d : α) {f : Cell → β}
    (hf : ∀ c, inside h w c = true → f c = rd (l.getD (cidx w c) d)) {v : Cell} (hv : inside h w v = true) (x : α)
    (c : Cell) (hc : inside h w c = true) :
    upd f v (rd x) c = rd ((l.set (cidx w v) x).getD (cidx w c) d) := by
  rw [getD_set_cell h w l hl v c hv hc]
  unfold upd; split
  · rfl
  · exact hf c hc

/-- the back pointers after `parent_ys[v], parent_xs[v] = u` -/
theorem parentOf_set {h w : Nat} {pys pxs : List Int} (hy : pys.length = h * w) (hx : pxs.length = h * w)
    {u v : Cell} (hu : inside h w u = true) (hv : inside h w v = true) (c : Cell) (hc : inside h w c = true) :
    parentOf (pys.set (cidx w v) u.1) (pxs.set (cidx w v) u.2) w c = upd (parentOf pys pxs w) v (some u) c := by
  have hu' := inside_iff.1 hu
  unfold parentOf upd
  rw [getD_set_cell h w _ hy v c hv hc, getD_set_cell h w _ hx v c hv hc]
  split
  · rw [if_neg (by omega)]
  · rfl

theorem rep_replicate {α β : Type} (h w : Nat) (rd : α → β) (d x : α) (c : Cell) (hc : inside h w c = true) :
    rd x = rd ((List.replicate (h * w) x).getD (cidx w c) d) := by
  simp [List.getD_eq_getElem?_getD, cidx_lt h w c hc]

/-- popping `u`: `is_open[u] = 0`, `is_closed[u] = 1` is the model's `close` -/
theorem SrchAbs.closed {e : Env F} {s r : State F} {mst : AStar.St F} (ha : SrchAbs e s mst) (u : Cell)
    (hu : inside e.h e.w u = true)
    (h1 : r.ia "is_open" = (s.ia "is_open").set (cidx e.w u) 0)
    (h2 : r.ia "is_closed" = (s.ia "is_closed").set (cidx e.w u) 1)
    (h3 : r.ia "parent_ys" = s.ia "parent_ys") (h4 : r.ia "parent_xs" = s.ia "parent_xs")
    (h5 : r.fa "d_from_start" = s.fa "d_from_start") (h6 : r.fa "cost" = s.fa "cost") :
    SrchAbs e r (close mst u) :=
  ⟨by rw [h1, List.length_set]; exact ha.l_open, by rw [h2, List.length_set]; exact ha.l_closed,
   h5 ▸ ha.l_g, h6 ▸ ha.l_f, h3 ▸ ha.l_py, h4 ▸ ha.l_px, h1 ▸ mem_set_01 _ _ _ (Or.inl rfl) ha.open01,
   h1 ▸ rep_set ha.l_open (fun x => decide (x ≠ 0)) 0 ha.isOpen hu 0,
   h2 ▸ rep_set ha.l_closed (fun x => decide (x ≠ 0)) 0 ha.isClosed hu 1,
   h5 ▸ ha.g, h6 ▸ ha.f, h3 ▸ h4 ▸ ha.parent, h3 ▸ h4 ▸ ha.pstart⟩

/-- the five stores at the end of the neighbour loop are the model's update -/
theorem SrchAbs.relaxed {e : Env F} {s r : State F} {mst : AStar.St F} (ha : SrchAbs e s mst) (u v : Cell)
    (hu : inside e.h e.w u = true) (hv : inside e.h e.w v = true) (hstart : inside e.h e.w e.start = true) (d fv : F)
    (h1 : r.ia "is_open" = (s.ia "is_open").set (cidx e.w v) 1)
    (h2 : r.ia "is_closed" = s.ia "is_closed")
    (h3 : r.ia "parent_ys" = (s.ia "parent_ys").set (cidx e.w v) u.1)
    (h4 : r.ia "parent_xs" = (s.ia "parent_xs").set (cidx e.w v) u.2)
    (h5 : r.fa "d_from_start" = (s.fa "d_from_start").set (cidx e.w v) d)
    (h6 : r.fa "cost" = (s.fa "cost").set (cidx e.w v) fv) :
    SrchAbs e r (AStar.relaxed mst u v d fv) :=
  ⟨by rw [h1, List.length_set]; exact ha.l_open, h2 ▸ ha.l_closed, by rw [h5, List.length_set]; exact ha.l_g,
   by rw [h6, List.length_set]; exact ha.l_f, by rw [h3, List.length_set]; exact ha.l_py,
   by rw [h4, List.length_set]; exact ha.l_px, h1 ▸ mem_set_01 _ _ _ (Or.inr rfl) ha.open01,
   h1 ▸ rep_set ha.l_open (fun x => decide (x ≠ 0)) 0 ha.isOpen hv 1, h2 ▸ ha.isClosed,
   h5 ▸ rep_set ha.l_g id Fl.nan ha.g hv d, h6 ▸ rep_set ha.l_f id Fl.nan ha.f hv fv,
   fun c hc => by
     rw [h3, h4, parentOf_set ha.l_py ha.l_px hu hv c hc]
     simp only [AStar.relaxed, upd, ha.parent c hc],
   by rw [h3, h4, parentOf_set ha.l_py ha.l_px hu hv _ hstart]
      unfold upd; split
      · simp
      · exact ha.pstart⟩

theorem aStarSearch_body : Gen.IL.aStarSearch.body = searchSt := by rfl

end XrsVerif.IL
