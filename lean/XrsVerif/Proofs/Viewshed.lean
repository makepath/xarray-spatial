import XrsVerif.Model.Viewshed
import Mathlib.Tactic.Linarith
/-!
  The status tree of the viewshed sweep (C05) over any linear order
  (`trueMax`, the query, Bool checkers = the invariants).
-/
set_option linter.unusedSectionVars false
namespace XrsVerif.Viewshed

variable {α : Type} [LinearOrder α]

@[simp] theorem mx2_eq_max (a b : α) : mx2 a b = max a b := by
  unfold mx2
  split
  · rename_i h; exact (max_eq_left (le_of_lt h)).symm
  · rename_i h; exact (max_eq_right (not_lt.mp h)).symm

@[simp] theorem mn2_eq_min (a b : α) : mn2 a b = min a b := by
  unfold mn2
  split
  · rename_i h; exact (min_eq_right (le_of_lt h)).symm
  · rename_i h; exact (min_eq_left (not_lt.mp h)).symm

@[simp] theorem eqv_iff (a b : α) : eqv a b = true ↔ a = b := by
  unfold eqv
  simp only [Bool.and_eq_true, Bool.not_eq_eq_eq_not, Bool.not_true, decide_eq_false_iff_not, not_lt]
  constructor
  · rintro ⟨h1, h2⟩; exact le_antisymm h2 h1
  · rintro rfl; exact ⟨le_refl _, le_refl _⟩

@[simp] theorem recompM_eq (a b m : α) : recompM a b m = max (max a b) m := by simp [recompM]

@[simp] theorem recomp_eq (S : α) (l : Tree α) (n : Node α) (r : Tree α) :
    recomp S l n r = max (max (mxOf S l) (mxOf S r)) (minv n) := by simp [recomp]

theorem minv_eq (n : Node α) : minv n = min (min n.g0 n.g1) n.g2 := by simp [minv]

theorem mem_toList_node {l r : Tree α} {n a : Node α} {mx : α} {c : Bool} :
    a ∈ (Tree.node l n mx c r).toList ↔ a ∈ l.toList ∨ a = n ∨ a ∈ r.toList := by
  simp only [Tree.toList, List.mem_append, List.mem_cons]

theorem mem_node_left {l r : Tree α} {n a : Node α} {mx : α} {c : Bool} (h : a ∈ l.toList) :
    a ∈ (Tree.node l n mx c r).toList := mem_toList_node.mpr (Or.inl h)

theorem mem_node_root {l r : Tree α} {n : Node α} {mx : α} {c : Bool} :
    n ∈ (Tree.node l n mx c r).toList := mem_toList_node.mpr (Or.inr (Or.inl rfl))

theorem mem_node_right {l r : Tree α} {n a : Node α} {mx : α} {c : Bool} (h : a ∈ r.toList) :
    a ∈ (Tree.node l n mx c r).toList := mem_toList_node.mpr (Or.inr (Or.inr h))

theorem forall_mem_node {l r : Tree α} {n : Node α} {mx : α} {c : Bool} {P : Node α → Prop} :
    (∀ a ∈ (Tree.node l n mx c r).toList, P a) ↔ (∀ a ∈ l.toList, P a) ∧ P n ∧ ∀ a ∈ r.toList, P a := by
  simp only [mem_toList_node, or_imp, forall_and, forall_eq]

theorem BST_iff_pairwise {t : Tree α} : BST t ↔ t.toList.Pairwise (fun a b => a.key < b.key) := by
  induction t with
  | nil => simp [BST, Tree.toList]
  | node l n mx c r ihl ihr =>
    simp only [BST, Tree.toList, List.pairwise_append, List.pairwise_cons, List.forall_mem_cons, ihl, ihr]
    constructor
    · rintro ⟨hl, hr, pl, pr⟩
      exact ⟨pl, ⟨hr, pr⟩, fun a ha => ⟨hl a ha, fun b hb => lt_trans (hl a ha) (hr b hb)⟩⟩
    · rintro ⟨pl, ⟨hr, pr⟩, h⟩
      exact ⟨fun a ha => (h a ha).1, hr, pl, pr⟩

theorem BST.pairwise {t : Tree α} (h : BST t) : t.toList.Pairwise (fun a b => a.key < b.key) :=
  BST_iff_pairwise.mp h

theorem BST.of_toList_eq {t u : Tree α} (e : u.toList = t.toList) (h : BST t) : BST u := by
  rw [BST_iff_pairwise] at h ⊢; rw [e]; exact h

theorem trueMax_node (S : α) (l : Tree α) (n : Node α) (mx : α) (c : Bool) (r : Tree α) :
    trueMax S (.node l n mx c r) = max (max (trueMax S l) (minv n)) (trueMax S r) := by
  simp [trueMax]

theorem trueMax_le_iff (S : α) (t : Tree α) (g : α) :
    trueMax S t ≤ g ↔ S ≤ g ∧ ∀ n ∈ t.toList, minv n ≤ g := by
  induction t with
  | nil => simp [trueMax, Tree.toList]
  | node l n mx c r ihl ihr =>
    rw [trueMax_node, max_le_iff, max_le_iff, ihl, ihr, forall_mem_node]
    exact ⟨fun ⟨⟨⟨hS, hl⟩, hn⟩, _, hr⟩ => ⟨hS, hl, hn, hr⟩, fun ⟨hS, hl, hn, hr⟩ => ⟨⟨⟨hS, hl⟩, hn⟩, hS, hr⟩⟩

theorem S_le_trueMax (S : α) (t : Tree α) : S ≤ trueMax S t :=
  ((trueMax_le_iff S t _).mp (le_refl _)).1

theorem minv_le_trueMax (S : α) (t : Tree α) {n : Node α} (h : n ∈ t.toList) : minv n ≤ trueMax S t :=
  ((trueMax_le_iff S t _).mp (le_refl _)).2 n h

theorem trueMax_congr (S : α) {t t' : Tree α} (h : ∀ n, n ∈ t.toList ↔ n ∈ t'.toList) :
    trueMax S t = trueMax S t' :=
  eq_of_forall_ge_iff fun g => by rw [trueMax_le_iff, trueMax_le_iff]; simp only [h]

/-! ### stored maxima against true maxima

  `AugLe` and `Exact` say the same thing of every node with `≤` resp. `=`: the stored maximum stands in relation `R`
  to the true maximum of the subtree.  What the rotations, `atPath` and the recolouring do to either is proved once,
  for any `R` that is reflexive and respected by `max`. -/

def NodesSat (R : α → α → Prop) (S : α) : Tree α → Prop
  | .nil => True
  | .node l n mx c r => R mx (trueMax S (.node l n mx c r)) ∧ NodesSat R S l ∧ NodesSat R S r

/-- what is used of `≤` and `=`: reflexive, and respected by `max` -/
structure MaxRel (R : α → α → Prop) : Prop where
  refl : ∀ a, R a a
  max : ∀ {a a' b b'}, R a a' → R b b' → R (max a b) (max a' b')

theorem MaxRel.le : MaxRel (α := α) (· ≤ ·) := ⟨le_refl, max_le_max⟩
theorem MaxRel.eq : MaxRel (α := α) (· = ·) := ⟨fun _ => rfl, congrArg₂ _⟩

theorem augLe_iff {S : α} {t : Tree α} : AugLe S t ↔ NodesSat (· ≤ ·) S t := by
  induction t with
  | nil => exact Iff.rfl
  | node l n mx c r ihl ihr => exact and_congr Iff.rfl (and_congr ihl ihr)

theorem exact_iff {S : α} {t : Tree α} : Exact S t ↔ NodesSat (· = ·) S t := by
  induction t with
  | nil => exact Iff.rfl
  | node l n mx c r ihl ihr => exact and_congr Iff.rfl (and_congr ihl ihr)

theorem NodesSat.mxOf {R : α → α → Prop} (hR : MaxRel R) {S : α} {t : Tree α} (h : NodesSat R S t) :
    R (mxOf S t) (trueMax S t) := by
  cases t with
  | nil => exact hR.refl S
  | node l n mx c r => exact h.1

theorem NodesSat.node_recomp {R : α → α → Prop} (hR : MaxRel R) {S : α} {l r : Tree α}
    (hl : NodesSat R S l) (hr : NodesSat R S r) (n : Node α) (c : Bool) :
    NodesSat R S (.node l n (recomp S l n r) c r) := by
  refine ⟨?_, hl, hr⟩
  rw [trueMax_node, max_right_comm, recomp_eq]
  exact hR.max (hR.max (hl.mxOf hR) (hr.mxOf hR)) (hR.refl (minv n))

theorem Exact.augLe {S : α} {t : Tree α} (h : Exact S t) : AugLe S t := by
  induction t with
  | nil => trivial
  | node l n mx c r ihl ihr => exact ⟨le_of_eq h.1, ihl h.2.1, ihr h.2.2⟩

theorem AugLe.mxOf_le {S : α} {t : Tree α} (h : AugLe S t) : mxOf S t ≤ trueMax S t :=
  (augLe_iff.mp h).mxOf .le

theorem Exact.mxOf_eq {S : α} {t : Tree α} (h : Exact S t) : mxOf S t = trueMax S t :=
  (exact_iff.mp h).mxOf .eq

/-! ### the Bool checkers run by the driver are the invariants -/

theorem all_iff (p : Node α → Bool) (t : Tree α) : t.all p = true ↔ ∀ n ∈ t.toList, p n = true := by
  induction t with
  | nil => simp [Tree.all, Tree.toList]
  | node l n mx c r ihl ihr => simp only [Tree.all, Bool.and_eq_true, ihl, ihr, forall_mem_node, and_assoc]

theorem bstB_iff (t : Tree α) : bstB t = true ↔ BST t := by
  induction t with
  | nil => simp [bstB, BST]
  | node l n mx c r ihl ihr =>
    simp only [bstB, BST, Bool.and_eq_true, all_iff, decide_eq_true_eq, ihl, ihr, and_assoc]

theorem augLeB_iff (S : α) (t : Tree α) : augLeB S t = true ↔ AugLe S t := by
  induction t with
  | nil => simp [augLeB, AugLe]
  | node l n mx c r ihl ihr =>
    simp only [augLeB, AugLe, Bool.and_eq_true, Bool.not_eq_eq_eq_not, Bool.not_true,
      decide_eq_false_iff_not, not_lt, ihl, ihr, and_assoc]

theorem AugLe.toQ {S : α} {t : Tree α} (h : AugLe S t) : AugLeQ S t := by
  cases t with
  | nil => trivial
  | node l n mx c r => exact ⟨h.2.1, h.2.2⟩

theorem augLeQB_iff (S : α) (t : Tree α) : augLeQB S t = true ↔ AugLeQ S t := by
  cases t with
  | nil => simp [augLeQB, AugLeQ]
  | node l n mx c r => simp only [augLeQB, AugLeQ, Bool.and_eq_true, augLeB_iff]

theorem exactB_iff (S : α) (t : Tree α) : exactB S t = true ↔ Exact S t := by
  induction t with
  | nil => simp [exactB, Exact]
  | node l n mx c r ihl ihr =>
    simp only [exactB, Exact, Bool.and_eq_true, eqv_iff, ihl, ihr, and_assoc]

theorem walk_le_iff (ang g : α) (f : Node α → α) (ns : List (Node α)) (acc : α) :
    walk ang g f ns acc ≤ g ↔ acc ≤ g ∧ ∀ n ∈ ns, spans n ang = true → f n ≤ g := by
  induction ns generalizing acc with
  | nil => simp [walk]
  | cons n ns ih =>
    simp only [walk, mx2_eq_max, List.mem_cons, forall_eq_or_imp]
    by_cases hs : spans n ang = true
    · simp only [hs, if_true, true_implies]
      by_cases hlt : g < max (f n) acc
      · simp only [hlt, if_true]
        constructor
        · intro h; exact absurd h (not_le.mpr hlt)
        · rintro ⟨hacc, hn, _⟩; exact absurd (max_le hn hacc) (not_le.mpr hlt)
      · simp only [hlt, if_false, ih, max_le_iff]
        tauto
    · simp only [hs, Bool.false_eq_true, if_false, ih, false_implies, true_and]

theorem contains_iff {t : Tree α} (hb : BST t) (K : α) :
    t.contains K = true ↔ ∃ n ∈ t.toList, n.key = K := by
  induction t with
  | nil => simp [Tree.contains, Tree.toList]
  | node l n mx c r ihl ihr =>
    obtain ⟨hl, hr, hbl, hbr⟩ := hb
    simp only [Tree.contains, mem_toList_node]
    split
    · rename_i h
      rw [ihl hbl]
      constructor
      · rintro ⟨a, ha, rfl⟩; exact ⟨a, Or.inl ha, rfl⟩
      · rintro ⟨a, ha | rfl | ha, rfl⟩
        · exact ⟨a, ha, rfl⟩
        · exact absurd h (lt_irrefl _)
        · exact absurd (lt_trans h (hr a ha)) (lt_irrefl _)
    · rename_i h
      split
      · rename_i h2
        rw [ihr hbr]
        constructor
        · rintro ⟨a, ha, rfl⟩; exact ⟨a, Or.inr (Or.inr ha), rfl⟩
        · rintro ⟨a, ha | rfl | ha, rfl⟩
          · exact absurd (lt_trans (hl a ha) h2) (lt_irrefl _)
          · exact absurd h2 (lt_irrefl _)
          · exact ⟨a, ha, rfl⟩
      · rename_i h2
        simp only [true_iff]
        exact ⟨n, Or.inr (Or.inl rfl), le_antisymm (not_lt.mp h) (not_lt.mp h2)⟩

/-- phase 1 never exceeds `g` when every nearer node's minimum gradient is at most `g`: this is where "no
    overestimate" is used, and only below the root -- the root's own stored maximum is never read -/
theorem short_le_Q {S : α} {t : Tree α} (K g : α) (hS : S ≤ g) (hb : BST t) (ha : AugLeQ S t)
    (hall : ∀ n ∈ t.toList, n.key < K → minv n ≤ g) : short S t K ≤ g := by
  induction t with
  | nil => simpa [short] using hS
  | node l n mx c r ihl ihr =>
    obtain ⟨hl, hr, hbl, hbr⟩ := hb
    obtain ⟨hal, har⟩ := ha
    simp only [short, mx2_eq_max]
    split
    · exact ihl hbl hal.toQ (fun a h => hall a (mem_node_left h))
    · split
      · rename_i h1 h2
        have hlmax : mxOf S l ≤ g :=
          le_trans hal.mxOf_le ((trueMax_le_iff S l g).mpr ⟨hS, fun a h =>
            hall a (mem_node_left h) (lt_trans (hl a h) h2)⟩)
        exact max_le (hall n mem_node_root h2)
          (max_le hlmax (ihr hbr har.toQ (fun a h => hall a (mem_node_right h))))
      · exact hS

theorem short_le {S : α} {t : Tree α} (K g : α) (hS : S ≤ g) (hb : BST t) (ha : AugLe S t)
    (hall : ∀ n ∈ t.toList, n.key < K → minv n ≤ g) : short S t K ≤ g :=
  short_le_Q K g hS hb ha.toQ hall

end XrsVerif.Viewshed
