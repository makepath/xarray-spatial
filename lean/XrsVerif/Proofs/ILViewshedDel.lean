import XrsVerif.Proofs.ILViewshedFixRot
/-
  `Gen.IL.vsDelete` (`_delete_from_tree` with `_search_for_node`, `_compare`, `_tree_successor`, `_tree_minimum`,
  `_find_value_min_value`, `_rb_delete_fixup` and the rotations inlined): the program text, its cut into the blocks the
  refinement proofs are about (`delRest_eq`, checked by `decide` against the regenerated program), and the descent.
  The blocks of `delRest`:
        `delSpliceItems`  `deleted = y`, `x` = `y`'s only child, `x.parent = y.parent`, the child cell of `y`'s parent (or
                          `root`);
        `delL1`           loop L1;                 `recompFixItems`   the recomputation F1;
        `delCopy`         the successor copy C;    `delL2`            loop L2;
                          (the four passes L1, F1, C, L2 of `_delete_from_tree`: Proofs/ILViewshedDelPass.lean);
        `delFixLoop`      the loop of `_rb_delete_fixup` with its six inlined rotations written as renamed copies of the
                          stand-alone programs (`rotCallK Gen.IL.vsLeftRotate.body …`).
  The specifications of the blocks say what a block computes; what it leaves alone comes from `exec_frame`: the arrays
  by `Mods.ia_eq`, `Mods.shp_eq` (the write sets are empty by evaluation), a scalar by `Mods.ienv_of` from ONE lemma per
  block (`delChoose_wI`, `delSplice_wI`, …) that bounds its write set by a short literal list (`∀ v ∈ wI blk, v ∈ […]`,
  evaluated once), so that a use costs a `simp` on that list and not an evaluation of the block.
-/
namespace XrsVerif.ILVs
open XrsVerif XrsVerif.IL XrsVerif.Viewshed
variable {F : Type} [Fl F]

def delSearchNames : SearchNames :=
  ⟨"_search_for_node1$cur_node", "_search_for_node1$key", "_search_for_node1$_compare2$a", "_search_for_node1$_compare2$b",
   "_search_for_node1$_compare2$ret0", "_search_for_node1$_compare3$a", "_search_for_node1$_compare3$b", "_search_for_node1$_compare3$ret0"⟩

def delSearchItems : List St :=
  [(.setI "_search_for_node1$root" (.var "root")),
   (.setF "_search_for_node1$key" (.var "key")),
   (.scope (.seq (.setI "_search_for_node1$cur_node" (.var "_search_for_node1$root")) (.seq (searchLoop delSearchNames) (.seq (.setI "_search_for_node1$ret0" (.var "_search_for_node1$cur_node")) .ret)))),
   (.setI "z" (.var "_search_for_node1$ret0")),
   (.ite (.cmpI .eq (.var "z") (.lit (-1))) (.fail "ValueError") .skip)]

def delChoose : St :=
  (.ite (.or (.cmpI .eq (.ld2 "tree_nodes" (.var "z") (.lit 1)) (.lit (-1))) (.cmpI .eq (.ld2 "tree_nodes" (.var "z") (.lit 2)) (.lit (-1))))
    (.setI "y" (.var "z"))
    (.seq (.setI "_tree_successor4$x" (.var "z"))
    (.seq (.scope (.seq (.ite (.cmpI .ne (.ld2 "tree_nodes" (.var "_tree_successor4$x") (.lit 2)) (.lit (-1)))
            (.seq (.setI "_tree_successor4$_tree_minimum5$x" (.ld2 "tree_nodes" (.var "_tree_successor4$x") (.lit 2)))
            (.seq (.scope (.seq (minLoop "_tree_successor4$_tree_minimum5$x")
                (.seq (.setI "_tree_successor4$_tree_minimum5$ret0" (.var "_tree_successor4$_tree_minimum5$x"))
                .ret)))
            (.seq (.setI "_tree_successor4$ret0" (.var "_tree_successor4$_tree_minimum5$ret0")) .ret)))
            .skip)
        (.seq (.setI "_tree_successor4$y" (.ld2 "tree_nodes" (.var "_tree_successor4$x") (.lit 3)))
        (.seq (.while (.and (.cmpI .ne (.var "_tree_successor4$y") (.lit (-1))) (.cmpI .eq (.var "_tree_successor4$x") (.ld2 "tree_nodes" (.var "_tree_successor4$y") (.lit 2))))
            (.seq (.setI "_tree_successor4$x" (.var "_tree_successor4$y"))
            (.seq (.ite (.cmpI .eq (.ld2 "tree_nodes" (.var "_tree_successor4$y") (.lit 3)) (.lit (-1)))
                (.seq (.setI "_tree_successor4$ret0" (.var "_tree_successor4$y")) .ret)
                .skip)
            (.setI "_tree_successor4$y" (.ld2 "tree_nodes" (.var "_tree_successor4$y") (.lit 3))))))
        (.seq (.setI "_tree_successor4$ret0" (.var "_tree_successor4$y")) .ret)))))
    (.setI "y" (.var "_tree_successor4$ret0")))))

def delRest : St :=
  (.seq (.ite (.cmpI .eq (.var "y") (.lit (-1))) (.fail "ValueError") .skip)
  (.seq (.setI "deleted" (.var "y"))
  (.seq (.ite (.cmpI .ne (.ld2 "tree_nodes" (.var "y") (.lit 1)) (.lit (-1)))
      (.setI "x" (.ld2 "tree_nodes" (.var "y") (.lit 1)))
      (.setI "x" (.ld2 "tree_nodes" (.var "y") (.lit 2))))
  (.seq (.stI2 "tree_nodes" (.var "x") (.lit 3) (.ld2 "tree_nodes" (.var "y") (.lit 3)))
  (.seq (.ite (.cmpI .eq (.ld2 "tree_nodes" (.var "y") (.lit 3)) (.lit (-1)))
      (.seq (.setI "root" (.var "x")) (.setI "to_fix" (.var "root")))
      (.seq (.setI "y_parent" (.ld2 "tree_nodes" (.var "y") (.lit 3)))
      (.seq (.ite (.cmpI .eq (.var "y") (.ld2 "tree_nodes" (.var "y_parent") (.lit 1)))
          (.stI2 "tree_nodes" (.var "y_parent") (.lit 1) (.var "x"))
          (.stI2 "tree_nodes" (.var "y_parent") (.lit 2) (.var "x")))
      (.setI "to_fix" (.var "y_parent")))))
  (.seq (.setI "cur_node" (.var "y"))
  (.seq (.while (.cmpI .ne (.ld2 "tree_nodes" (.var "cur_node") (.lit 3)) (.lit (-1)))
      (.seq (.setI "cur_parent" (.ld2 "tree_nodes" (.var "cur_node") (.lit 3)))
      (.seq (.setI "_find_value_min_value6$node_id" (.var "y"))
      (.seq (minvScope "_find_value_min_value6$node_id" "_find_value_min_value6$ret0")
      (.seq (.ite (.cmpF .eq (.ld2 "tree_vals" (.var "cur_parent") (.lit 7)) (.var "_find_value_min_value6$ret0"))
          (.seq (.setI "cur_parent_left" (.ld2 "tree_nodes" (.var "cur_parent") (.lit 1)))
          (.seq (.setI "cur_parent_right" (.ld2 "tree_nodes" (.var "cur_parent") (.lit 2)))
          (.seq (.setI "_find_max_value7$row$tree_vals" (.var "cur_parent_left"))
          (.seq (.scope (.seq (.setF "_find_max_value7$ret0" (.ld2 "tree_vals" (.var "_find_max_value7$row$tree_vals") (.lit 7)))
              .ret))
          (.seq (.setF "left" (.var "_find_max_value7$ret0"))
          (.seq (.setI "_find_max_value8$row$tree_vals" (.var "cur_parent_right"))
          (.seq (.scope (.seq (.setF "_find_max_value8$ret0" (.ld2 "tree_vals" (.var "_find_max_value8$row$tree_vals") (.lit 7)))
              .ret))
          (.seq (.setF "right" (.var "_find_max_value8$ret0"))
          (.seq (stMax "tree_vals" (.var "cur_parent") (.lit 7) (.var "left") (.var "right"))
          (.seq (.setI "_find_value_min_value9$node_id" (.var "cur_parent"))
          (.seq (minvScope "_find_value_min_value9$node_id" "_find_value_min_value9$ret0")
          (.seq (.setF "min_value" (.var "_find_value_min_value9$ret0"))
          (.ite (.cmpF .gt (.var "min_value") (.ld2 "tree_vals" (.var "cur_parent") (.lit 7)))
            (.stF2 "tree_vals" (.var "cur_parent") (.lit 7) (.var "min_value"))
            .skip)))))))))))))
          .brk)
      (.setI "cur_node" (.var "cur_parent")))))))
  (.seq (.setI "to_fix_left" (.ld2 "tree_nodes" (.var "to_fix") (.lit 1)))
  (.seq (.setI "to_fix_right" (.ld2 "tree_nodes" (.var "to_fix") (.lit 2)))
  (.seq (selMax "tmp_max" (.ld2 "tree_vals" (.var "to_fix_left") (.lit 7)) (.ld2 "tree_vals" (.var "to_fix_right") (.lit 7)))
  (.seq (.setI "_find_value_min_value10$node_id" (.var "to_fix"))
  (.seq (minvScope "_find_value_min_value10$node_id" "_find_value_min_value10$ret0")
  (.seq (.setF "min_value" (.var "_find_value_min_value10$ret0"))
  (.seq (stMax "tree_vals" (.var "to_fix") (.lit 7) (.var "tmp_max") (.var "min_value"))
  (.seq (.ite (.and (.cmpI .ne (.var "y") (.lit (-1))) (.cmpI .ne (.var "y") (.var "z")))
      (.seq (.setI "_find_value_min_value11$node_id" (.var "z"))
      (.seq (minvScope "_find_value_min_value11$node_id" "_find_value_min_value11$ret0")
      (.seq (.setF "z_gradient" (.var "_find_value_min_value11$ret0"))
      (.seq (.stF2 "tree_vals" (.var "z") (.lit 0) (.ld2 "tree_vals" (.var "y") (.lit 0)))
      (.seq (.stF2 "tree_vals" (.var "z") (.lit 1) (.ld2 "tree_vals" (.var "y") (.lit 1)))
      (.seq (.stF2 "tree_vals" (.var "z") (.lit 2) (.ld2 "tree_vals" (.var "y") (.lit 2)))
      (.seq (.stF2 "tree_vals" (.var "z") (.lit 3) (.ld2 "tree_vals" (.var "y") (.lit 3)))
      (.seq (.stF2 "tree_vals" (.var "z") (.lit 4) (.ld2 "tree_vals" (.var "y") (.lit 4)))
      (.seq (.stF2 "tree_vals" (.var "z") (.lit 5) (.ld2 "tree_vals" (.var "y") (.lit 5)))
      (.seq (.stF2 "tree_vals" (.var "z") (.lit 6) (.ld2 "tree_vals" (.var "y") (.lit 6)))
      (.seq (.setI "to_fix" (.var "z"))
      (.seq (.setI "to_fix_left" (.ld2 "tree_nodes" (.var "to_fix") (.lit 1)))
      (.seq (.setI "to_fix_right" (.ld2 "tree_nodes" (.var "to_fix") (.lit 2)))
      (.seq (selMax "tmp_max" (.ld2 "tree_vals" (.var "to_fix_left") (.lit 7)) (.ld2 "tree_vals" (.var "to_fix_right") (.lit 7)))
      (.seq (.setI "_find_value_min_value12$node_id" (.var "to_fix"))
      (.seq (minvScope "_find_value_min_value12$node_id" "_find_value_min_value12$ret0")
      (.seq (.setF "min_value" (.var "_find_value_min_value12$ret0"))
      (.seq (stMax "tree_vals" (.var "to_fix") (.lit 7) (.var "tmp_max") (.var "min_value"))
      (.while (.cmpI .ne (.ld2 "tree_nodes" (.var "z") (.lit 3)) (.lit (-1)))
        (.seq (.setI "z_parent" (.ld2 "tree_nodes" (.var "z") (.lit 3)))
        (.seq (.ite (.cmpF .eq (.ld2 "tree_vals" (.var "z_parent") (.lit 7)) (.var "z_gradient"))
            (.seq (.setI "z_parent_left" (.ld2 "tree_nodes" (.var "z_parent") (.lit 1)))
            (.seq (.setI "z_parent_right" (.ld2 "tree_nodes" (.var "z_parent") (.lit 2)))
            (.seq (.setI "x_parent" (.ld2 "tree_nodes" (.var "x") (.lit 3)))
            (.seq (.setI "x_parent_right" (.ld2 "tree_nodes" (.var "x_parent") (.lit 2)))
            (.seq (.setI "_find_value_min_value13$node_id" (.var "z_parent"))
            (.seq (minvScope "_find_value_min_value13$node_id" "_find_value_min_value13$ret0")
            (.ite (.and (.cmpF .ne (.var "_find_value_min_value13$ret0") (.var "z_gradient")) (.not (.and (.cmpF .eq (.ld2 "tree_vals" (.var "z_parent_left") (.lit 7)) (.var "z_gradient")) (.cmpF .eq (.ld2 "tree_vals" (.var "x_parent_right") (.lit 7)) (.var "z_gradient")))))
              (.seq (.setI "_find_max_value14$row$tree_vals" (.var "z_parent_left"))
              (.seq (.scope (.seq (.setF "_find_max_value14$ret0" (.ld2 "tree_vals" (.var "_find_max_value14$row$tree_vals") (.lit 7)))
                  .ret))
              (.seq (.setF "left" (.var "_find_max_value14$ret0"))
              (.seq (.setI "_find_max_value15$row$tree_vals" (.var "z_parent_right"))
              (.seq (.scope (.seq (.setF "_find_max_value15$ret0" (.ld2 "tree_vals" (.var "_find_max_value15$row$tree_vals") (.lit 7)))
                  .ret))
              (.seq (.setF "right" (.var "_find_max_value15$ret0"))
              (.seq (stMax "tree_vals" (.var "z_parent") (.lit 7) (.var "left") (.var "right"))
              (.seq (.setI "_find_value_min_value16$node_id" (.var "z_parent"))
              (.seq (minvScope "_find_value_min_value16$node_id" "_find_value_min_value16$ret0")
              (.seq (.setF "min_value" (.var "_find_value_min_value16$ret0"))
              (.ite (.cmpF .gt (.var "min_value") (.ld2 "tree_vals" (.var "z_parent") (.lit 7)))
                (.stF2 "tree_vals" (.var "z_parent") (.lit 7) (.var "min_value"))
                .skip)))))))))))
              .skip)))))))
            (.ite (.cmpF .gt (.ld2 "tree_vals" (.var "z") (.lit 7)) (.ld2 "tree_vals" (.var "z_parent") (.lit 7)))
              (.stF2 "tree_vals" (.var "z_parent") (.lit 7) (.ld2 "tree_vals" (.var "z") (.lit 7)))
              .skip))
        (.setI "z" (.var "z_parent")))))))))))))))))))))))
      .skip)
  (.seq (.ite (.and (.cmpI .eq (.ld2 "tree_nodes" (.var "y") (.lit 0)) (.lit 1)) (.cmpI .ne (.var "x") (.lit (-1))))
      (.seq (.setI "_rb_delete_fixup17$root" (.var "root"))
      (.seq (.setI "_rb_delete_fixup17$x" (.var "x"))
      (.seq (.scope (.seq (.while (.and (.cmpI .ne (.var "_rb_delete_fixup17$x") (.var "_rb_delete_fixup17$root")) (.cmpI .eq (.ld2 "tree_nodes" (.var "_rb_delete_fixup17$x") (.lit 0)) (.lit 1)))
              (.seq (.setI "_rb_delete_fixup17$x_parent" (.ld2 "tree_nodes" (.var "_rb_delete_fixup17$x") (.lit 3)))
              (.ite (.cmpI .eq (.var "_rb_delete_fixup17$x") (.ld2 "tree_nodes" (.var "_rb_delete_fixup17$x_parent") (.lit 1)))
                (.seq (.setI "_rb_delete_fixup17$w" (.ld2 "tree_nodes" (.var "_rb_delete_fixup17$x_parent") (.lit 2)))
                (.seq (.ite (.cmpI .eq (.ld2 "tree_nodes" (.var "_rb_delete_fixup17$w") (.lit 0)) (.lit 0))
                    (.seq (.stI2 "tree_nodes" (.var "_rb_delete_fixup17$w") (.lit 0) (.lit 1))
                    (.seq (.stI2 "tree_nodes" (.var "_rb_delete_fixup17$x_parent") (.lit 0) (.lit 0))
                    (.seq (.setI "_rb_delete_fixup17$_left_rotate18$root" (.var "_rb_delete_fixup17$root"))
                    (.seq (.setI "_rb_delete_fixup17$_left_rotate18$x" (.var "_rb_delete_fixup17$x_parent"))
                    (.seq (.scope (.seq (.setI "_rb_delete_fixup17$_left_rotate18$y" (.ld2 "tree_nodes" (.var "_rb_delete_fixup17$_left_rotate18$x") (.lit 2)))
                        (.seq (.setI "_rb_delete_fixup17$_left_rotate18$x_left" (.ld2 "tree_nodes" (.var "_rb_delete_fixup17$_left_rotate18$x") (.lit 1)))
                        (.seq (.setI "_rb_delete_fixup17$_left_rotate18$y_left" (.ld2 "tree_nodes" (.var "_rb_delete_fixup17$_left_rotate18$y") (.lit 1)))
                        (.seq (selMax "_rb_delete_fixup17$_left_rotate18$tmp_max" (.ld2 "tree_vals" (.var "_rb_delete_fixup17$_left_rotate18$x_left") (.lit 7)) (.ld2 "tree_vals" (.var "_rb_delete_fixup17$_left_rotate18$y_left") (.lit 7)))
                        (.seq (.setI "_rb_delete_fixup17$_left_rotate18$_find_value_min_value19$node_id" (.var "_rb_delete_fixup17$_left_rotate18$x"))
                        (.seq (minvScope "_rb_delete_fixup17$_left_rotate18$_find_value_min_value19$node_id" "_rb_delete_fixup17$_left_rotate18$_find_value_min_value19$ret0")
                        (.seq (.setF "_rb_delete_fixup17$_left_rotate18$min_value" (.var "_rb_delete_fixup17$_left_rotate18$_find_value_min_value19$ret0"))
                        (.seq (stMax "tree_vals" (.var "_rb_delete_fixup17$_left_rotate18$x") (.lit 7) (.var "_rb_delete_fixup17$_left_rotate18$tmp_max") (.var "_rb_delete_fixup17$_left_rotate18$min_value"))
                        (.seq (.setI "_rb_delete_fixup17$_left_rotate18$y_right" (.ld2 "tree_nodes" (.var "_rb_delete_fixup17$_left_rotate18$y") (.lit 2)))
                        (.seq (selMax "_rb_delete_fixup17$_left_rotate18$tmp_max" (.ld2 "tree_vals" (.var "_rb_delete_fixup17$_left_rotate18$x") (.lit 7)) (.ld2 "tree_vals" (.var "_rb_delete_fixup17$_left_rotate18$y_right") (.lit 7)))
                        (.seq (.setI "_rb_delete_fixup17$_left_rotate18$_find_value_min_value20$node_id" (.var "_rb_delete_fixup17$_left_rotate18$y"))
                        (.seq (minvScope "_rb_delete_fixup17$_left_rotate18$_find_value_min_value20$node_id" "_rb_delete_fixup17$_left_rotate18$_find_value_min_value20$ret0")
                        (.seq (.setF "_rb_delete_fixup17$_left_rotate18$min_value" (.var "_rb_delete_fixup17$_left_rotate18$_find_value_min_value20$ret0"))
                        (.seq (stMax "tree_vals" (.var "_rb_delete_fixup17$_left_rotate18$y") (.lit 7) (.var "_rb_delete_fixup17$_left_rotate18$tmp_max") (.var "_rb_delete_fixup17$_left_rotate18$min_value"))
                        (.seq (.stI2 "tree_nodes" (.var "_rb_delete_fixup17$_left_rotate18$x") (.lit 2) (.ld2 "tree_nodes" (.var "_rb_delete_fixup17$_left_rotate18$y") (.lit 1)))
                        (.seq (.setI "_rb_delete_fixup17$_left_rotate18$y_left" (.ld2 "tree_nodes" (.var "_rb_delete_fixup17$_left_rotate18$y") (.lit 1)))
                        (.seq (.stI2 "tree_nodes" (.var "_rb_delete_fixup17$_left_rotate18$y_left") (.lit 3) (.var "_rb_delete_fixup17$_left_rotate18$x"))
                        (.seq (.stI2 "tree_nodes" (.var "_rb_delete_fixup17$_left_rotate18$y") (.lit 3) (.ld2 "tree_nodes" (.var "_rb_delete_fixup17$_left_rotate18$x") (.lit 3)))
                        (.seq (.ite (.cmpI .eq (.ld2 "tree_nodes" (.var "_rb_delete_fixup17$_left_rotate18$x") (.lit 3)) (.lit (-1)))
                            (.setI "_rb_delete_fixup17$_left_rotate18$root" (.var "_rb_delete_fixup17$_left_rotate18$y"))
                            (.seq (.setI "_rb_delete_fixup17$_left_rotate18$x_parent" (.ld2 "tree_nodes" (.var "_rb_delete_fixup17$_left_rotate18$x") (.lit 3)))
                            (.ite (.cmpI .eq (.var "_rb_delete_fixup17$_left_rotate18$x") (.ld2 "tree_nodes" (.var "_rb_delete_fixup17$_left_rotate18$x_parent") (.lit 1)))
                              (.stI2 "tree_nodes" (.var "_rb_delete_fixup17$_left_rotate18$x_parent") (.lit 1) (.var "_rb_delete_fixup17$_left_rotate18$y"))
                              (.stI2 "tree_nodes" (.var "_rb_delete_fixup17$_left_rotate18$x_parent") (.lit 2) (.var "_rb_delete_fixup17$_left_rotate18$y")))))
                        (.seq (.stI2 "tree_nodes" (.var "_rb_delete_fixup17$_left_rotate18$y") (.lit 1) (.var "_rb_delete_fixup17$_left_rotate18$x"))
                        (.seq (.stI2 "tree_nodes" (.var "_rb_delete_fixup17$_left_rotate18$x") (.lit 3) (.var "_rb_delete_fixup17$_left_rotate18$y"))
                        (.seq (.setI "_rb_delete_fixup17$_left_rotate18$ret0" (.var "_rb_delete_fixup17$_left_rotate18$root"))
                        .ret)))))))))))))))))))))))
                    (.seq (.setI "_rb_delete_fixup17$root" (.var "_rb_delete_fixup17$_left_rotate18$ret0"))
                    (.setI "_rb_delete_fixup17$w" (.ld2 "tree_nodes" (.var "_rb_delete_fixup17$x_parent") (.lit 2)))))))))
                    .skip)
                (.seq (.ite (.cmpI .eq (.var "_rb_delete_fixup17$w") (.lit (-1)))
                    (.seq (.setI "_rb_delete_fixup17$x" (.ld2 "tree_nodes" (.var "_rb_delete_fixup17$x") (.lit 3)))
                    .cont)
                    .skip)
                (.seq (.setI "_rb_delete_fixup17$w_left" (.ld2 "tree_nodes" (.var "_rb_delete_fixup17$w") (.lit 1)))
                (.seq (.setI "_rb_delete_fixup17$w_right" (.ld2 "tree_nodes" (.var "_rb_delete_fixup17$w") (.lit 2)))
                (.ite (.and (.cmpI .eq (.ld2 "tree_nodes" (.var "_rb_delete_fixup17$w_left") (.lit 0)) (.lit 1)) (.cmpI .eq (.ld2 "tree_nodes" (.var "_rb_delete_fixup17$w_right") (.lit 0)) (.lit 1)))
                  (.seq (.stI2 "tree_nodes" (.var "_rb_delete_fixup17$w") (.lit 0) (.lit 0))
                  (.setI "_rb_delete_fixup17$x" (.ld2 "tree_nodes" (.var "_rb_delete_fixup17$x") (.lit 3))))
                  (.seq (.ite (.cmpI .eq (.ld2 "tree_nodes" (.var "_rb_delete_fixup17$w_right") (.lit 0)) (.lit 1))
                      (.seq (.stI2 "tree_nodes" (.var "_rb_delete_fixup17$w_left") (.lit 0) (.lit 1))
                      (.seq (.stI2 "tree_nodes" (.var "_rb_delete_fixup17$w") (.lit 0) (.lit 0))
                      (.seq (.setI "_rb_delete_fixup17$_right_rotate21$root" (.var "_rb_delete_fixup17$root"))
                      (.seq (.setI "_rb_delete_fixup17$_right_rotate21$y" (.var "_rb_delete_fixup17$w"))
                      (.seq (.scope (.seq (.setI "_rb_delete_fixup17$_right_rotate21$x" (.ld2 "tree_nodes" (.var "_rb_delete_fixup17$_right_rotate21$y") (.lit 1)))
                          (.seq (.setI "_rb_delete_fixup17$_right_rotate21$x_right" (.ld2 "tree_nodes" (.var "_rb_delete_fixup17$_right_rotate21$x") (.lit 2)))
                          (.seq (.setI "_rb_delete_fixup17$_right_rotate21$y_right" (.ld2 "tree_nodes" (.var "_rb_delete_fixup17$_right_rotate21$y") (.lit 2)))
                          (.seq (selMax "_rb_delete_fixup17$_right_rotate21$tmp_max" (.ld2 "tree_vals" (.var "_rb_delete_fixup17$_right_rotate21$x_right") (.lit 7)) (.ld2 "tree_vals" (.var "_rb_delete_fixup17$_right_rotate21$y_right") (.lit 7)))
                          (.seq (.setI "_rb_delete_fixup17$_right_rotate21$_find_value_min_value22$node_id" (.var "_rb_delete_fixup17$_right_rotate21$y"))
                          (.seq (minvScope "_rb_delete_fixup17$_right_rotate21$_find_value_min_value22$node_id" "_rb_delete_fixup17$_right_rotate21$_find_value_min_value22$ret0")
                          (.seq (.setF "_rb_delete_fixup17$_right_rotate21$min_value" (.var "_rb_delete_fixup17$_right_rotate21$_find_value_min_value22$ret0"))
                          (.seq (stMax "tree_vals" (.var "_rb_delete_fixup17$_right_rotate21$y") (.lit 7) (.var "_rb_delete_fixup17$_right_rotate21$tmp_max") (.var "_rb_delete_fixup17$_right_rotate21$min_value"))
                          (.seq (.setI "_rb_delete_fixup17$_right_rotate21$x_left" (.ld2 "tree_nodes" (.var "_rb_delete_fixup17$_right_rotate21$x") (.lit 1)))
                          (.seq (selMax "_rb_delete_fixup17$_right_rotate21$tmp_max" (.ld2 "tree_vals" (.var "_rb_delete_fixup17$_right_rotate21$x_left") (.lit 7)) (.ld2 "tree_vals" (.var "_rb_delete_fixup17$_right_rotate21$y") (.lit 7)))
                          (.seq (.setI "_rb_delete_fixup17$_right_rotate21$_find_value_min_value23$node_id" (.var "_rb_delete_fixup17$_right_rotate21$x"))
                          (.seq (minvScope "_rb_delete_fixup17$_right_rotate21$_find_value_min_value23$node_id" "_rb_delete_fixup17$_right_rotate21$_find_value_min_value23$ret0")
                          (.seq (.setF "_rb_delete_fixup17$_right_rotate21$min_value" (.var "_rb_delete_fixup17$_right_rotate21$_find_value_min_value23$ret0"))
                          (.seq (stMax "tree_vals" (.var "_rb_delete_fixup17$_right_rotate21$x") (.lit 7) (.var "_rb_delete_fixup17$_right_rotate21$tmp_max") (.var "_rb_delete_fixup17$_right_rotate21$min_value"))
                          (.seq (.stI2 "tree_nodes" (.var "_rb_delete_fixup17$_right_rotate21$y") (.lit 1) (.ld2 "tree_nodes" (.var "_rb_delete_fixup17$_right_rotate21$x") (.lit 2)))
                          (.seq (.setI "_rb_delete_fixup17$_right_rotate21$x_right" (.ld2 "tree_nodes" (.var "_rb_delete_fixup17$_right_rotate21$x") (.lit 2)))
                          (.seq (.stI2 "tree_nodes" (.var "_rb_delete_fixup17$_right_rotate21$x_right") (.lit 3) (.var "_rb_delete_fixup17$_right_rotate21$y"))
                          (.seq (.stI2 "tree_nodes" (.var "_rb_delete_fixup17$_right_rotate21$x") (.lit 3) (.ld2 "tree_nodes" (.var "_rb_delete_fixup17$_right_rotate21$y") (.lit 3)))
                          (.seq (.ite (.cmpI .eq (.ld2 "tree_nodes" (.var "_rb_delete_fixup17$_right_rotate21$y") (.lit 3)) (.lit (-1)))
                              (.setI "_rb_delete_fixup17$_right_rotate21$root" (.var "_rb_delete_fixup17$_right_rotate21$x"))
                              (.seq (.setI "_rb_delete_fixup17$_right_rotate21$y_parent" (.ld2 "tree_nodes" (.var "_rb_delete_fixup17$_right_rotate21$y") (.lit 3)))
                              (.ite (.cmpI .eq (.ld2 "tree_nodes" (.var "_rb_delete_fixup17$_right_rotate21$y_parent") (.lit 1)) (.var "_rb_delete_fixup17$_right_rotate21$y"))
                                (.stI2 "tree_nodes" (.var "_rb_delete_fixup17$_right_rotate21$y_parent") (.lit 1) (.var "_rb_delete_fixup17$_right_rotate21$x"))
                                (.stI2 "tree_nodes" (.var "_rb_delete_fixup17$_right_rotate21$y_parent") (.lit 2) (.var "_rb_delete_fixup17$_right_rotate21$x")))))
                          (.seq (.stI2 "tree_nodes" (.var "_rb_delete_fixup17$_right_rotate21$x") (.lit 2) (.var "_rb_delete_fixup17$_right_rotate21$y"))
                          (.seq (.stI2 "tree_nodes" (.var "_rb_delete_fixup17$_right_rotate21$y") (.lit 3) (.var "_rb_delete_fixup17$_right_rotate21$x"))
                          (.seq (.setI "_rb_delete_fixup17$_right_rotate21$ret0" (.var "_rb_delete_fixup17$_right_rotate21$root"))
                          .ret)))))))))))))))))))))))
                      (.seq (.setI "_rb_delete_fixup17$root" (.var "_rb_delete_fixup17$_right_rotate21$ret0"))
                      (.seq (.setI "_rb_delete_fixup17$x_parent" (.ld2 "tree_nodes" (.var "_rb_delete_fixup17$x") (.lit 3)))
                      (.setI "_rb_delete_fixup17$w" (.ld2 "tree_nodes" (.var "_rb_delete_fixup17$x_parent") (.lit 2))))))))))
                      .skip)
                  (.seq (.setI "_rb_delete_fixup17$x_parent" (.ld2 "tree_nodes" (.var "_rb_delete_fixup17$x") (.lit 3)))
                  (.seq (.setI "_rb_delete_fixup17$w_right" (.ld2 "tree_nodes" (.var "_rb_delete_fixup17$w") (.lit 2)))
                  (.seq (.stI2 "tree_nodes" (.var "_rb_delete_fixup17$w") (.lit 0) (.ld2 "tree_nodes" (.var "_rb_delete_fixup17$x_parent") (.lit 0)))
                  (.seq (.stI2 "tree_nodes" (.var "_rb_delete_fixup17$x_parent") (.lit 0) (.lit 1))
                  (.seq (.stI2 "tree_nodes" (.var "_rb_delete_fixup17$w_right") (.lit 0) (.lit 1))
                  (.seq (.setI "_rb_delete_fixup17$_left_rotate24$root" (.var "_rb_delete_fixup17$root"))
                  (.seq (.setI "_rb_delete_fixup17$_left_rotate24$x" (.var "_rb_delete_fixup17$x_parent"))
                  (.seq (.scope (.seq (.setI "_rb_delete_fixup17$_left_rotate24$y" (.ld2 "tree_nodes" (.var "_rb_delete_fixup17$_left_rotate24$x") (.lit 2)))
                      (.seq (.setI "_rb_delete_fixup17$_left_rotate24$x_left" (.ld2 "tree_nodes" (.var "_rb_delete_fixup17$_left_rotate24$x") (.lit 1)))
                      (.seq (.setI "_rb_delete_fixup17$_left_rotate24$y_left" (.ld2 "tree_nodes" (.var "_rb_delete_fixup17$_left_rotate24$y") (.lit 1)))
                      (.seq (selMax "_rb_delete_fixup17$_left_rotate24$tmp_max" (.ld2 "tree_vals" (.var "_rb_delete_fixup17$_left_rotate24$x_left") (.lit 7)) (.ld2 "tree_vals" (.var "_rb_delete_fixup17$_left_rotate24$y_left") (.lit 7)))
                      (.seq (.setI "_rb_delete_fixup17$_left_rotate24$_find_value_min_value25$node_id" (.var "_rb_delete_fixup17$_left_rotate24$x"))
                      (.seq (minvScope "_rb_delete_fixup17$_left_rotate24$_find_value_min_value25$node_id" "_rb_delete_fixup17$_left_rotate24$_find_value_min_value25$ret0")
                      (.seq (.setF "_rb_delete_fixup17$_left_rotate24$min_value" (.var "_rb_delete_fixup17$_left_rotate24$_find_value_min_value25$ret0"))
                      (.seq (stMax "tree_vals" (.var "_rb_delete_fixup17$_left_rotate24$x") (.lit 7) (.var "_rb_delete_fixup17$_left_rotate24$tmp_max") (.var "_rb_delete_fixup17$_left_rotate24$min_value"))
                      (.seq (.setI "_rb_delete_fixup17$_left_rotate24$y_right" (.ld2 "tree_nodes" (.var "_rb_delete_fixup17$_left_rotate24$y") (.lit 2)))
                      (.seq (selMax "_rb_delete_fixup17$_left_rotate24$tmp_max" (.ld2 "tree_vals" (.var "_rb_delete_fixup17$_left_rotate24$x") (.lit 7)) (.ld2 "tree_vals" (.var "_rb_delete_fixup17$_left_rotate24$y_right") (.lit 7)))
                      (.seq (.setI "_rb_delete_fixup17$_left_rotate24$_find_value_min_value26$node_id" (.var "_rb_delete_fixup17$_left_rotate24$y"))
                      (.seq (minvScope "_rb_delete_fixup17$_left_rotate24$_find_value_min_value26$node_id" "_rb_delete_fixup17$_left_rotate24$_find_value_min_value26$ret0")
                      (.seq (.setF "_rb_delete_fixup17$_left_rotate24$min_value" (.var "_rb_delete_fixup17$_left_rotate24$_find_value_min_value26$ret0"))
                      (.seq (stMax "tree_vals" (.var "_rb_delete_fixup17$_left_rotate24$y") (.lit 7) (.var "_rb_delete_fixup17$_left_rotate24$tmp_max") (.var "_rb_delete_fixup17$_left_rotate24$min_value"))
                      (.seq (.stI2 "tree_nodes" (.var "_rb_delete_fixup17$_left_rotate24$x") (.lit 2) (.ld2 "tree_nodes" (.var "_rb_delete_fixup17$_left_rotate24$y") (.lit 1)))
                      (.seq (.setI "_rb_delete_fixup17$_left_rotate24$y_left" (.ld2 "tree_nodes" (.var "_rb_delete_fixup17$_left_rotate24$y") (.lit 1)))
                      (.seq (.stI2 "tree_nodes" (.var "_rb_delete_fixup17$_left_rotate24$y_left") (.lit 3) (.var "_rb_delete_fixup17$_left_rotate24$x"))
                      (.seq (.stI2 "tree_nodes" (.var "_rb_delete_fixup17$_left_rotate24$y") (.lit 3) (.ld2 "tree_nodes" (.var "_rb_delete_fixup17$_left_rotate24$x") (.lit 3)))
                      (.seq (.ite (.cmpI .eq (.ld2 "tree_nodes" (.var "_rb_delete_fixup17$_left_rotate24$x") (.lit 3)) (.lit (-1)))
                          (.setI "_rb_delete_fixup17$_left_rotate24$root" (.var "_rb_delete_fixup17$_left_rotate24$y"))
                          (.seq (.setI "_rb_delete_fixup17$_left_rotate24$x_parent" (.ld2 "tree_nodes" (.var "_rb_delete_fixup17$_left_rotate24$x") (.lit 3)))
                          (.ite (.cmpI .eq (.var "_rb_delete_fixup17$_left_rotate24$x") (.ld2 "tree_nodes" (.var "_rb_delete_fixup17$_left_rotate24$x_parent") (.lit 1)))
                            (.stI2 "tree_nodes" (.var "_rb_delete_fixup17$_left_rotate24$x_parent") (.lit 1) (.var "_rb_delete_fixup17$_left_rotate24$y"))
                            (.stI2 "tree_nodes" (.var "_rb_delete_fixup17$_left_rotate24$x_parent") (.lit 2) (.var "_rb_delete_fixup17$_left_rotate24$y")))))
                      (.seq (.stI2 "tree_nodes" (.var "_rb_delete_fixup17$_left_rotate24$y") (.lit 1) (.var "_rb_delete_fixup17$_left_rotate24$x"))
                      (.seq (.stI2 "tree_nodes" (.var "_rb_delete_fixup17$_left_rotate24$x") (.lit 3) (.var "_rb_delete_fixup17$_left_rotate24$y"))
                      (.seq (.setI "_rb_delete_fixup17$_left_rotate24$ret0" (.var "_rb_delete_fixup17$_left_rotate24$root"))
                      .ret)))))))))))))))))))))))
                  (.seq (.setI "_rb_delete_fixup17$root" (.var "_rb_delete_fixup17$_left_rotate24$ret0"))
                  (.setI "_rb_delete_fixup17$x" (.var "_rb_delete_fixup17$root"))))))))))))))))))
                (.seq (.setI "_rb_delete_fixup17$x_parent" (.ld2 "tree_nodes" (.var "_rb_delete_fixup17$x") (.lit 3)))
                (.seq (.setI "_rb_delete_fixup17$w" (.ld2 "tree_nodes" (.var "_rb_delete_fixup17$x_parent") (.lit 1)))
                (.seq (.ite (.cmpI .eq (.ld2 "tree_nodes" (.var "_rb_delete_fixup17$w") (.lit 0)) (.lit 0))
                    (.seq (.stI2 "tree_nodes" (.var "_rb_delete_fixup17$w") (.lit 0) (.lit 1))
                    (.seq (.stI2 "tree_nodes" (.var "_rb_delete_fixup17$x_parent") (.lit 0) (.lit 0))
                    (.seq (.setI "_rb_delete_fixup17$_right_rotate27$root" (.var "_rb_delete_fixup17$root"))
                    (.seq (.setI "_rb_delete_fixup17$_right_rotate27$y" (.var "_rb_delete_fixup17$x_parent"))
                    (.seq (.scope (.seq (.setI "_rb_delete_fixup17$_right_rotate27$x" (.ld2 "tree_nodes" (.var "_rb_delete_fixup17$_right_rotate27$y") (.lit 1)))
                        (.seq (.setI "_rb_delete_fixup17$_right_rotate27$x_right" (.ld2 "tree_nodes" (.var "_rb_delete_fixup17$_right_rotate27$x") (.lit 2)))
                        (.seq (.setI "_rb_delete_fixup17$_right_rotate27$y_right" (.ld2 "tree_nodes" (.var "_rb_delete_fixup17$_right_rotate27$y") (.lit 2)))
                        (.seq (selMax "_rb_delete_fixup17$_right_rotate27$tmp_max" (.ld2 "tree_vals" (.var "_rb_delete_fixup17$_right_rotate27$x_right") (.lit 7)) (.ld2 "tree_vals" (.var "_rb_delete_fixup17$_right_rotate27$y_right") (.lit 7)))
                        (.seq (.setI "_rb_delete_fixup17$_right_rotate27$_find_value_min_value28$node_id" (.var "_rb_delete_fixup17$_right_rotate27$y"))
                        (.seq (minvScope "_rb_delete_fixup17$_right_rotate27$_find_value_min_value28$node_id" "_rb_delete_fixup17$_right_rotate27$_find_value_min_value28$ret0")
                        (.seq (.setF "_rb_delete_fixup17$_right_rotate27$min_value" (.var "_rb_delete_fixup17$_right_rotate27$_find_value_min_value28$ret0"))
                        (.seq (stMax "tree_vals" (.var "_rb_delete_fixup17$_right_rotate27$y") (.lit 7) (.var "_rb_delete_fixup17$_right_rotate27$tmp_max") (.var "_rb_delete_fixup17$_right_rotate27$min_value"))
                        (.seq (.setI "_rb_delete_fixup17$_right_rotate27$x_left" (.ld2 "tree_nodes" (.var "_rb_delete_fixup17$_right_rotate27$x") (.lit 1)))
                        (.seq (selMax "_rb_delete_fixup17$_right_rotate27$tmp_max" (.ld2 "tree_vals" (.var "_rb_delete_fixup17$_right_rotate27$x_left") (.lit 7)) (.ld2 "tree_vals" (.var "_rb_delete_fixup17$_right_rotate27$y") (.lit 7)))
                        (.seq (.setI "_rb_delete_fixup17$_right_rotate27$_find_value_min_value29$node_id" (.var "_rb_delete_fixup17$_right_rotate27$x"))
                        (.seq (minvScope "_rb_delete_fixup17$_right_rotate27$_find_value_min_value29$node_id" "_rb_delete_fixup17$_right_rotate27$_find_value_min_value29$ret0")
                        (.seq (.setF "_rb_delete_fixup17$_right_rotate27$min_value" (.var "_rb_delete_fixup17$_right_rotate27$_find_value_min_value29$ret0"))
                        (.seq (stMax "tree_vals" (.var "_rb_delete_fixup17$_right_rotate27$x") (.lit 7) (.var "_rb_delete_fixup17$_right_rotate27$tmp_max") (.var "_rb_delete_fixup17$_right_rotate27$min_value"))
                        (.seq (.stI2 "tree_nodes" (.var "_rb_delete_fixup17$_right_rotate27$y") (.lit 1) (.ld2 "tree_nodes" (.var "_rb_delete_fixup17$_right_rotate27$x") (.lit 2)))
                        (.seq (.setI "_rb_delete_fixup17$_right_rotate27$x_right" (.ld2 "tree_nodes" (.var "_rb_delete_fixup17$_right_rotate27$x") (.lit 2)))
                        (.seq (.stI2 "tree_nodes" (.var "_rb_delete_fixup17$_right_rotate27$x_right") (.lit 3) (.var "_rb_delete_fixup17$_right_rotate27$y"))
                        (.seq (.stI2 "tree_nodes" (.var "_rb_delete_fixup17$_right_rotate27$x") (.lit 3) (.ld2 "tree_nodes" (.var "_rb_delete_fixup17$_right_rotate27$y") (.lit 3)))
                        (.seq (.ite (.cmpI .eq (.ld2 "tree_nodes" (.var "_rb_delete_fixup17$_right_rotate27$y") (.lit 3)) (.lit (-1)))
                            (.setI "_rb_delete_fixup17$_right_rotate27$root" (.var "_rb_delete_fixup17$_right_rotate27$x"))
                            (.seq (.setI "_rb_delete_fixup17$_right_rotate27$y_parent" (.ld2 "tree_nodes" (.var "_rb_delete_fixup17$_right_rotate27$y") (.lit 3)))
                            (.ite (.cmpI .eq (.ld2 "tree_nodes" (.var "_rb_delete_fixup17$_right_rotate27$y_parent") (.lit 1)) (.var "_rb_delete_fixup17$_right_rotate27$y"))
                              (.stI2 "tree_nodes" (.var "_rb_delete_fixup17$_right_rotate27$y_parent") (.lit 1) (.var "_rb_delete_fixup17$_right_rotate27$x"))
                              (.stI2 "tree_nodes" (.var "_rb_delete_fixup17$_right_rotate27$y_parent") (.lit 2) (.var "_rb_delete_fixup17$_right_rotate27$x")))))
                        (.seq (.stI2 "tree_nodes" (.var "_rb_delete_fixup17$_right_rotate27$x") (.lit 2) (.var "_rb_delete_fixup17$_right_rotate27$y"))
                        (.seq (.stI2 "tree_nodes" (.var "_rb_delete_fixup17$_right_rotate27$y") (.lit 3) (.var "_rb_delete_fixup17$_right_rotate27$x"))
                        (.seq (.setI "_rb_delete_fixup17$_right_rotate27$ret0" (.var "_rb_delete_fixup17$_right_rotate27$root"))
                        .ret)))))))))))))))))))))))
                    (.seq (.setI "_rb_delete_fixup17$root" (.var "_rb_delete_fixup17$_right_rotate27$ret0"))
                    (.setI "_rb_delete_fixup17$w" (.ld2 "tree_nodes" (.var "_rb_delete_fixup17$x_parent") (.lit 1)))))))))
                    .skip)
                (.seq (.ite (.cmpI .eq (.var "_rb_delete_fixup17$w") (.lit (-1)))
                    (.seq (.setI "_rb_delete_fixup17$x" (.var "_rb_delete_fixup17$x_parent")) .cont)
                    .skip)
                (.seq (.setI "_rb_delete_fixup17$w_left" (.ld2 "tree_nodes" (.var "_rb_delete_fixup17$w") (.lit 1)))
                (.seq (.setI "_rb_delete_fixup17$w_right" (.ld2 "tree_nodes" (.var "_rb_delete_fixup17$w") (.lit 2)))
                (.seq (.setI "_rb_delete_fixup17$x_parent" (.ld2 "tree_nodes" (.var "_rb_delete_fixup17$x") (.lit 3)))
                (.ite (.and (.cmpI .eq (.ld2 "tree_nodes" (.var "_rb_delete_fixup17$w_right") (.lit 0)) (.lit 1)) (.cmpI .eq (.ld2 "tree_nodes" (.var "_rb_delete_fixup17$w_left") (.lit 0)) (.lit 1)))
                  (.seq (.stI2 "tree_nodes" (.var "_rb_delete_fixup17$w") (.lit 0) (.lit 0))
                  (.setI "_rb_delete_fixup17$x" (.var "_rb_delete_fixup17$x_parent")))
                  (.seq (.ite (.cmpI .eq (.ld2 "tree_nodes" (.var "_rb_delete_fixup17$w_left") (.lit 0)) (.lit 1))
                      (.seq (.stI2 "tree_nodes" (.var "_rb_delete_fixup17$w_right") (.lit 0) (.lit 1))
                      (.seq (.stI2 "tree_nodes" (.var "_rb_delete_fixup17$w") (.lit 0) (.lit 0))
                      (.seq (.setI "_rb_delete_fixup17$_left_rotate30$root" (.var "_rb_delete_fixup17$root"))
                      (.seq (.setI "_rb_delete_fixup17$_left_rotate30$x" (.var "_rb_delete_fixup17$w"))
                      (.seq (.scope (.seq (.setI "_rb_delete_fixup17$_left_rotate30$y" (.ld2 "tree_nodes" (.var "_rb_delete_fixup17$_left_rotate30$x") (.lit 2)))
                          (.seq (.setI "_rb_delete_fixup17$_left_rotate30$x_left" (.ld2 "tree_nodes" (.var "_rb_delete_fixup17$_left_rotate30$x") (.lit 1)))
                          (.seq (.setI "_rb_delete_fixup17$_left_rotate30$y_left" (.ld2 "tree_nodes" (.var "_rb_delete_fixup17$_left_rotate30$y") (.lit 1)))
                          (.seq (selMax "_rb_delete_fixup17$_left_rotate30$tmp_max" (.ld2 "tree_vals" (.var "_rb_delete_fixup17$_left_rotate30$x_left") (.lit 7)) (.ld2 "tree_vals" (.var "_rb_delete_fixup17$_left_rotate30$y_left") (.lit 7)))
                          (.seq (.setI "_rb_delete_fixup17$_left_rotate30$_find_value_min_value31$node_id" (.var "_rb_delete_fixup17$_left_rotate30$x"))
                          (.seq (minvScope "_rb_delete_fixup17$_left_rotate30$_find_value_min_value31$node_id" "_rb_delete_fixup17$_left_rotate30$_find_value_min_value31$ret0")
                          (.seq (.setF "_rb_delete_fixup17$_left_rotate30$min_value" (.var "_rb_delete_fixup17$_left_rotate30$_find_value_min_value31$ret0"))
                          (.seq (stMax "tree_vals" (.var "_rb_delete_fixup17$_left_rotate30$x") (.lit 7) (.var "_rb_delete_fixup17$_left_rotate30$tmp_max") (.var "_rb_delete_fixup17$_left_rotate30$min_value"))
                          (.seq (.setI "_rb_delete_fixup17$_left_rotate30$y_right" (.ld2 "tree_nodes" (.var "_rb_delete_fixup17$_left_rotate30$y") (.lit 2)))
                          (.seq (selMax "_rb_delete_fixup17$_left_rotate30$tmp_max" (.ld2 "tree_vals" (.var "_rb_delete_fixup17$_left_rotate30$x") (.lit 7)) (.ld2 "tree_vals" (.var "_rb_delete_fixup17$_left_rotate30$y_right") (.lit 7)))
                          (.seq (.setI "_rb_delete_fixup17$_left_rotate30$_find_value_min_value32$node_id" (.var "_rb_delete_fixup17$_left_rotate30$y"))
                          (.seq (minvScope "_rb_delete_fixup17$_left_rotate30$_find_value_min_value32$node_id" "_rb_delete_fixup17$_left_rotate30$_find_value_min_value32$ret0")
                          (.seq (.setF "_rb_delete_fixup17$_left_rotate30$min_value" (.var "_rb_delete_fixup17$_left_rotate30$_find_value_min_value32$ret0"))
                          (.seq (stMax "tree_vals" (.var "_rb_delete_fixup17$_left_rotate30$y") (.lit 7) (.var "_rb_delete_fixup17$_left_rotate30$tmp_max") (.var "_rb_delete_fixup17$_left_rotate30$min_value"))
                          (.seq (.stI2 "tree_nodes" (.var "_rb_delete_fixup17$_left_rotate30$x") (.lit 2) (.ld2 "tree_nodes" (.var "_rb_delete_fixup17$_left_rotate30$y") (.lit 1)))
                          (.seq (.setI "_rb_delete_fixup17$_left_rotate30$y_left" (.ld2 "tree_nodes" (.var "_rb_delete_fixup17$_left_rotate30$y") (.lit 1)))
                          (.seq (.stI2 "tree_nodes" (.var "_rb_delete_fixup17$_left_rotate30$y_left") (.lit 3) (.var "_rb_delete_fixup17$_left_rotate30$x"))
                          (.seq (.stI2 "tree_nodes" (.var "_rb_delete_fixup17$_left_rotate30$y") (.lit 3) (.ld2 "tree_nodes" (.var "_rb_delete_fixup17$_left_rotate30$x") (.lit 3)))
                          (.seq (.ite (.cmpI .eq (.ld2 "tree_nodes" (.var "_rb_delete_fixup17$_left_rotate30$x") (.lit 3)) (.lit (-1)))
                              (.setI "_rb_delete_fixup17$_left_rotate30$root" (.var "_rb_delete_fixup17$_left_rotate30$y"))
                              (.seq (.setI "_rb_delete_fixup17$_left_rotate30$x_parent" (.ld2 "tree_nodes" (.var "_rb_delete_fixup17$_left_rotate30$x") (.lit 3)))
                              (.ite (.cmpI .eq (.var "_rb_delete_fixup17$_left_rotate30$x") (.ld2 "tree_nodes" (.var "_rb_delete_fixup17$_left_rotate30$x_parent") (.lit 1)))
                                (.stI2 "tree_nodes" (.var "_rb_delete_fixup17$_left_rotate30$x_parent") (.lit 1) (.var "_rb_delete_fixup17$_left_rotate30$y"))
                                (.stI2 "tree_nodes" (.var "_rb_delete_fixup17$_left_rotate30$x_parent") (.lit 2) (.var "_rb_delete_fixup17$_left_rotate30$y")))))
                          (.seq (.stI2 "tree_nodes" (.var "_rb_delete_fixup17$_left_rotate30$y") (.lit 1) (.var "_rb_delete_fixup17$_left_rotate30$x"))
                          (.seq (.stI2 "tree_nodes" (.var "_rb_delete_fixup17$_left_rotate30$x") (.lit 3) (.var "_rb_delete_fixup17$_left_rotate30$y"))
                          (.seq (.setI "_rb_delete_fixup17$_left_rotate30$ret0" (.var "_rb_delete_fixup17$_left_rotate30$root"))
                          .ret)))))))))))))))))))))))
                      (.seq (.setI "_rb_delete_fixup17$root" (.var "_rb_delete_fixup17$_left_rotate30$ret0"))
                      (.setI "_rb_delete_fixup17$w" (.ld2 "tree_nodes" (.var "_rb_delete_fixup17$x_parent") (.lit 1)))))))))
                      .skip)
                  (.seq (.stI2 "tree_nodes" (.var "_rb_delete_fixup17$w") (.lit 0) (.ld2 "tree_nodes" (.var "_rb_delete_fixup17$x_parent") (.lit 0)))
                  (.seq (.stI2 "tree_nodes" (.var "_rb_delete_fixup17$x_parent") (.lit 0) (.lit 1))
                  (.seq (.setI "_rb_delete_fixup17$w_left" (.ld2 "tree_nodes" (.var "_rb_delete_fixup17$w") (.lit 1)))
                  (.seq (.stI2 "tree_nodes" (.var "_rb_delete_fixup17$w_left") (.lit 0) (.lit 1))
                  (.seq (.setI "_rb_delete_fixup17$_right_rotate33$root" (.var "_rb_delete_fixup17$root"))
                  (.seq (.setI "_rb_delete_fixup17$_right_rotate33$y" (.var "_rb_delete_fixup17$x_parent"))
                  (.seq (.scope (.seq (.setI "_rb_delete_fixup17$_right_rotate33$x" (.ld2 "tree_nodes" (.var "_rb_delete_fixup17$_right_rotate33$y") (.lit 1)))
                      (.seq (.setI "_rb_delete_fixup17$_right_rotate33$x_right" (.ld2 "tree_nodes" (.var "_rb_delete_fixup17$_right_rotate33$x") (.lit 2)))
                      (.seq (.setI "_rb_delete_fixup17$_right_rotate33$y_right" (.ld2 "tree_nodes" (.var "_rb_delete_fixup17$_right_rotate33$y") (.lit 2)))
                      (.seq (selMax "_rb_delete_fixup17$_right_rotate33$tmp_max" (.ld2 "tree_vals" (.var "_rb_delete_fixup17$_right_rotate33$x_right") (.lit 7)) (.ld2 "tree_vals" (.var "_rb_delete_fixup17$_right_rotate33$y_right") (.lit 7)))
                      (.seq (.setI "_rb_delete_fixup17$_right_rotate33$_find_value_min_value34$node_id" (.var "_rb_delete_fixup17$_right_rotate33$y"))
                      (.seq (minvScope "_rb_delete_fixup17$_right_rotate33$_find_value_min_value34$node_id" "_rb_delete_fixup17$_right_rotate33$_find_value_min_value34$ret0")
                      (.seq (.setF "_rb_delete_fixup17$_right_rotate33$min_value" (.var "_rb_delete_fixup17$_right_rotate33$_find_value_min_value34$ret0"))
                      (.seq (stMax "tree_vals" (.var "_rb_delete_fixup17$_right_rotate33$y") (.lit 7) (.var "_rb_delete_fixup17$_right_rotate33$tmp_max") (.var "_rb_delete_fixup17$_right_rotate33$min_value"))
                      (.seq (.setI "_rb_delete_fixup17$_right_rotate33$x_left" (.ld2 "tree_nodes" (.var "_rb_delete_fixup17$_right_rotate33$x") (.lit 1)))
                      (.seq (selMax "_rb_delete_fixup17$_right_rotate33$tmp_max" (.ld2 "tree_vals" (.var "_rb_delete_fixup17$_right_rotate33$x_left") (.lit 7)) (.ld2 "tree_vals" (.var "_rb_delete_fixup17$_right_rotate33$y") (.lit 7)))
                      (.seq (.setI "_rb_delete_fixup17$_right_rotate33$_find_value_min_value35$node_id" (.var "_rb_delete_fixup17$_right_rotate33$x"))
                      (.seq (minvScope "_rb_delete_fixup17$_right_rotate33$_find_value_min_value35$node_id" "_rb_delete_fixup17$_right_rotate33$_find_value_min_value35$ret0")
                      (.seq (.setF "_rb_delete_fixup17$_right_rotate33$min_value" (.var "_rb_delete_fixup17$_right_rotate33$_find_value_min_value35$ret0"))
                      (.seq (stMax "tree_vals" (.var "_rb_delete_fixup17$_right_rotate33$x") (.lit 7) (.var "_rb_delete_fixup17$_right_rotate33$tmp_max") (.var "_rb_delete_fixup17$_right_rotate33$min_value"))
                      (.seq (.stI2 "tree_nodes" (.var "_rb_delete_fixup17$_right_rotate33$y") (.lit 1) (.ld2 "tree_nodes" (.var "_rb_delete_fixup17$_right_rotate33$x") (.lit 2)))
                      (.seq (.setI "_rb_delete_fixup17$_right_rotate33$x_right" (.ld2 "tree_nodes" (.var "_rb_delete_fixup17$_right_rotate33$x") (.lit 2)))
                      (.seq (.stI2 "tree_nodes" (.var "_rb_delete_fixup17$_right_rotate33$x_right") (.lit 3) (.var "_rb_delete_fixup17$_right_rotate33$y"))
                      (.seq (.stI2 "tree_nodes" (.var "_rb_delete_fixup17$_right_rotate33$x") (.lit 3) (.ld2 "tree_nodes" (.var "_rb_delete_fixup17$_right_rotate33$y") (.lit 3)))
                      (.seq (.ite (.cmpI .eq (.ld2 "tree_nodes" (.var "_rb_delete_fixup17$_right_rotate33$y") (.lit 3)) (.lit (-1)))
                          (.setI "_rb_delete_fixup17$_right_rotate33$root" (.var "_rb_delete_fixup17$_right_rotate33$x"))
                          (.seq (.setI "_rb_delete_fixup17$_right_rotate33$y_parent" (.ld2 "tree_nodes" (.var "_rb_delete_fixup17$_right_rotate33$y") (.lit 3)))
                          (.ite (.cmpI .eq (.ld2 "tree_nodes" (.var "_rb_delete_fixup17$_right_rotate33$y_parent") (.lit 1)) (.var "_rb_delete_fixup17$_right_rotate33$y"))
                            (.stI2 "tree_nodes" (.var "_rb_delete_fixup17$_right_rotate33$y_parent") (.lit 1) (.var "_rb_delete_fixup17$_right_rotate33$x"))
                            (.stI2 "tree_nodes" (.var "_rb_delete_fixup17$_right_rotate33$y_parent") (.lit 2) (.var "_rb_delete_fixup17$_right_rotate33$x")))))
                      (.seq (.stI2 "tree_nodes" (.var "_rb_delete_fixup17$_right_rotate33$x") (.lit 2) (.var "_rb_delete_fixup17$_right_rotate33$y"))
                      (.seq (.stI2 "tree_nodes" (.var "_rb_delete_fixup17$_right_rotate33$y") (.lit 3) (.var "_rb_delete_fixup17$_right_rotate33$x"))
                      (.seq (.setI "_rb_delete_fixup17$_right_rotate33$ret0" (.var "_rb_delete_fixup17$_right_rotate33$root"))
                      .ret)))))))))))))))))))))))
                  (.seq (.setI "_rb_delete_fixup17$root" (.var "_rb_delete_fixup17$_right_rotate33$ret0"))
                  (.setI "_rb_delete_fixup17$x" (.var "_rb_delete_fixup17$root"))))))))))))))))))))))
          (.seq (.stI2 "tree_nodes" (.var "_rb_delete_fixup17$x") (.lit 0) (.lit 1))
          (.seq (.setI "_rb_delete_fixup17$ret0" (.var "_rb_delete_fixup17$root")) .ret))))
      (.setI "root" (.var "_rb_delete_fixup17$ret0")))))
      .skip)
  (.seq (.setI "ret0" (.var "root")) (.seq (.setI "ret1" (.var "deleted")) .ret))))))))))))))))))

theorem vsDelete_body : Gen.IL.vsDelete.body = seqK delSearchItems (.seq delChoose delRest) := rfl

def delGuard : St := (.ite (.cmpI .eq (.var "y") (.lit (-1))) (.fail "ValueError") .skip)

def delPickX : St :=
  (.ite (.cmpI .ne (.ld2 "tree_nodes" (.var "y") (.lit 1)) (.lit (-1)))
      (.setI "x" (.ld2 "tree_nodes" (.var "y") (.lit 1)))
      (.setI "x" (.ld2 "tree_nodes" (.var "y") (.lit 2))))

def delRelink : St :=
  (.ite (.cmpI .eq (.ld2 "tree_nodes" (.var "y") (.lit 3)) (.lit (-1)))
      (.seq (.setI "root" (.var "x")) (.setI "to_fix" (.var "root")))
      (.seq (.setI "y_parent" (.ld2 "tree_nodes" (.var "y") (.lit 3)))
      (.seq (.ite (.cmpI .eq (.var "y") (.ld2 "tree_nodes" (.var "y_parent") (.lit 1)))
          (.stI2 "tree_nodes" (.var "y_parent") (.lit 1) (.var "x"))
          (.stI2 "tree_nodes" (.var "y_parent") (.lit 2) (.var "x")))
      (.setI "to_fix" (.var "y_parent")))))

def delSpliceItems : List St :=
  [(.setI "deleted" (.var "y")),
   delPickX,
   (.stI2 "tree_nodes" (.var "x") (.lit 3) (.ld2 "tree_nodes" (.var "y") (.lit 3))),
   delRelink,
   (.setI "cur_node" (.var "y"))]

/-- `left = max(tree_vals[l]); right = max(tree_vals[r]); m = left if left > right else right;
    if minv > m: m = minv` at the node `p` -- the recomputation of the loops L1 and L2 -/
def recompLoop (p l r : String) (k1 k2 k3 : String) : St :=
  (.seq (.setI ("_find_max_value" ++ k1 ++ "$row$tree_vals") (.var l))
  (.seq (.scope (.seq (.setF ("_find_max_value" ++ k1 ++ "$ret0") (.ld2 "tree_vals" (.var ("_find_max_value" ++ k1 ++ "$row$tree_vals")) (.lit 7)))
      .ret))
  (.seq (.setF "left" (.var ("_find_max_value" ++ k1 ++ "$ret0")))
  (.seq (.setI ("_find_max_value" ++ k2 ++ "$row$tree_vals") (.var r))
  (.seq (.scope (.seq (.setF ("_find_max_value" ++ k2 ++ "$ret0") (.ld2 "tree_vals" (.var ("_find_max_value" ++ k2 ++ "$row$tree_vals")) (.lit 7)))
      .ret))
  (.seq (.setF "right" (.var ("_find_max_value" ++ k2 ++ "$ret0")))
  (.seq (stMax "tree_vals" (.var p) (.lit 7) (.var "left") (.var "right"))
  (.seq (.setI ("_find_value_min_value" ++ k3 ++ "$node_id") (.var p))
  (.seq (minvScope ("_find_value_min_value" ++ k3 ++ "$node_id") ("_find_value_min_value" ++ k3 ++ "$ret0"))
  (.seq (.setF "min_value" (.var ("_find_value_min_value" ++ k3 ++ "$ret0")))
  (.ite (.cmpF .gt (.var "min_value") (.ld2 "tree_vals" (.var p) (.lit 7)))
    (.stF2 "tree_vals" (.var p) (.lit 7) (.var "min_value"))
    .skip)))))))))))

def delL1Body : St :=
  (.seq (.setI "cur_parent" (.ld2 "tree_nodes" (.var "cur_node") (.lit 3)))
  (.seq (.setI "_find_value_min_value6$node_id" (.var "y"))
  (.seq (minvScope "_find_value_min_value6$node_id" "_find_value_min_value6$ret0")
  (.seq (.ite (.cmpF .eq (.ld2 "tree_vals" (.var "cur_parent") (.lit 7)) (.var "_find_value_min_value6$ret0"))
      (.seq (.setI "cur_parent_left" (.ld2 "tree_nodes" (.var "cur_parent") (.lit 1)))
      (.seq (.setI "cur_parent_right" (.ld2 "tree_nodes" (.var "cur_parent") (.lit 2)))
      (recompLoop "cur_parent" "cur_parent_left" "cur_parent_right" "7" "8" "9")))
      .brk)
  (.setI "cur_node" (.var "cur_parent"))))))

def delL1 : St := .while (.cmpI .ne (.ld2 "tree_nodes" (.var "cur_node") (.lit 3)) (.lit (-1))) delL1Body

/-- `tmp_max = max of the children's maxima; tree_vals[to_fix][7] = tmp_max if tmp_max > minv else minv` -/
def recompFixItems (k : String) : List St :=
  [(.setI "to_fix_left" (.ld2 "tree_nodes" (.var "to_fix") (.lit 1))),
   (.setI "to_fix_right" (.ld2 "tree_nodes" (.var "to_fix") (.lit 2))),
   (selMax "tmp_max" (.ld2 "tree_vals" (.var "to_fix_left") (.lit 7)) (.ld2 "tree_vals" (.var "to_fix_right") (.lit 7))),
   (.setI ("_find_value_min_value" ++ k ++ "$node_id") (.var "to_fix")),
   (minvScope ("_find_value_min_value" ++ k ++ "$node_id") ("_find_value_min_value" ++ k ++ "$ret0")),
   (.setF "min_value" (.var ("_find_value_min_value" ++ k ++ "$ret0"))),
   (stMax "tree_vals" (.var "to_fix") (.lit 7) (.var "tmp_max") (.var "min_value"))]

def delCopyColsItems : List St :=
  [(.stF2 "tree_vals" (.var "z") (.lit 0) (.ld2 "tree_vals" (.var "y") (.lit 0))),
   (.stF2 "tree_vals" (.var "z") (.lit 1) (.ld2 "tree_vals" (.var "y") (.lit 1))),
   (.stF2 "tree_vals" (.var "z") (.lit 2) (.ld2 "tree_vals" (.var "y") (.lit 2))),
   (.stF2 "tree_vals" (.var "z") (.lit 3) (.ld2 "tree_vals" (.var "y") (.lit 3))),
   (.stF2 "tree_vals" (.var "z") (.lit 4) (.ld2 "tree_vals" (.var "y") (.lit 4))),
   (.stF2 "tree_vals" (.var "z") (.lit 5) (.ld2 "tree_vals" (.var "y") (.lit 5))),
   (.stF2 "tree_vals" (.var "z") (.lit 6) (.ld2 "tree_vals" (.var "y") (.lit 6)))]

def delL2Body : St :=
  (.seq (.setI "z_parent" (.ld2 "tree_nodes" (.var "z") (.lit 3)))
  (.seq (.ite (.cmpF .eq (.ld2 "tree_vals" (.var "z_parent") (.lit 7)) (.var "z_gradient"))
      (.seq (.setI "z_parent_left" (.ld2 "tree_nodes" (.var "z_parent") (.lit 1)))
      (.seq (.setI "z_parent_right" (.ld2 "tree_nodes" (.var "z_parent") (.lit 2)))
      (.seq (.setI "x_parent" (.ld2 "tree_nodes" (.var "x") (.lit 3)))
      (.seq (.setI "x_parent_right" (.ld2 "tree_nodes" (.var "x_parent") (.lit 2)))
      (.seq (.setI "_find_value_min_value13$node_id" (.var "z_parent"))
      (.seq (minvScope "_find_value_min_value13$node_id" "_find_value_min_value13$ret0")
      (.ite (.and (.cmpF .ne (.var "_find_value_min_value13$ret0") (.var "z_gradient")) (.not (.and (.cmpF .eq (.ld2 "tree_vals" (.var "z_parent_left") (.lit 7)) (.var "z_gradient")) (.cmpF .eq (.ld2 "tree_vals" (.var "x_parent_right") (.lit 7)) (.var "z_gradient")))))
        (recompLoop "z_parent" "z_parent_left" "z_parent_right" "14" "15" "16")
        .skip)))))))
      (.ite (.cmpF .gt (.ld2 "tree_vals" (.var "z") (.lit 7)) (.ld2 "tree_vals" (.var "z_parent") (.lit 7)))
        (.stF2 "tree_vals" (.var "z_parent") (.lit 7) (.ld2 "tree_vals" (.var "z") (.lit 7)))
        .skip))
  (.setI "z" (.var "z_parent"))))

def delL2 : St := .while (.cmpI .ne (.ld2 "tree_nodes" (.var "z") (.lit 3)) (.lit (-1))) delL2Body

def delCopy : St :=
  (.ite (.and (.cmpI .ne (.var "y") (.lit (-1))) (.cmpI .ne (.var "y") (.var "z")))
      (seqK [(.setI "_find_value_min_value11$node_id" (.var "z")),
             (minvScope "_find_value_min_value11$node_id" "_find_value_min_value11$ret0"),
             (.setF "z_gradient" (.var "_find_value_min_value11$ret0"))]
        (seqK delCopyColsItems
          (.seq (.setI "to_fix" (.var "z"))
          (seqK (recompFixItems "12") delL2))))
      .skip)

def dren18 : String → String := rotRen "_rb_delete_fixup17$_left_rotate18$" "19" "20"
def dren21 : String → String := rotRen "_rb_delete_fixup17$_right_rotate21$" "22" "23"
def dren24 : String → String := rotRen "_rb_delete_fixup17$_left_rotate24$" "25" "26"
def dren27 : String → String := rotRen "_rb_delete_fixup17$_right_rotate27$" "28" "29"
def dren30 : String → String := rotRen "_rb_delete_fixup17$_left_rotate30$" "31" "32"
def dren33 : String → String := rotRen "_rb_delete_fixup17$_right_rotate33$" "34" "35"

/-- an inlined rotation call followed by `k` (the translator nests to the right) -/
def rotCallK (body : St) (ρ : String → String) (param root arg : String) (k : St) : St :=
  (.seq (.setI (ρ "root") (.var root))
  (.seq (.setI (ρ param) (.var arg))
  (.seq (.scope (renS ρ body))
  (.seq (.setI root (.var (ρ "ret0"))) k))))

theorem exec_rotCallK (body : St) (ρ : String → String) (param root arg : String) (k : St) (fuel : Nat)
    (s : State F) : exec fuel (rotCallK body ρ param root arg k) s = exec fuel (.seq (rotCall body ρ param root arg) k) s := by
  simp only [rotCallK, rotCall, exec_seq]
  split
  · split
    · split
      · simp
      · simp
    · simp
  · simp

def dlrot18 (k : St) : St := rotCallK Gen.IL.vsLeftRotate.body dren18 "x" "_rb_delete_fixup17$root" "_rb_delete_fixup17$x_parent" k
def drrot21 (k : St) : St := rotCallK Gen.IL.vsRightRotate.body dren21 "y" "_rb_delete_fixup17$root" "_rb_delete_fixup17$w" k
def dlrot24 (k : St) : St := rotCallK Gen.IL.vsLeftRotate.body dren24 "x" "_rb_delete_fixup17$root" "_rb_delete_fixup17$x_parent" k
def drrot27 (k : St) : St := rotCallK Gen.IL.vsRightRotate.body dren27 "y" "_rb_delete_fixup17$root" "_rb_delete_fixup17$x_parent" k
def dlrot30 (k : St) : St := rotCallK Gen.IL.vsLeftRotate.body dren30 "x" "_rb_delete_fixup17$root" "_rb_delete_fixup17$w" k
def drrot33 (k : St) : St := rotCallK Gen.IL.vsRightRotate.body dren33 "y" "_rb_delete_fixup17$root" "_rb_delete_fixup17$x_parent" k

def dfCase1B (d : Dir) : St :=
  (.seq (.stI2 "tree_nodes" (.var "_rb_delete_fixup17$w") (.lit 0) (.lit 1))
  (.seq (.stI2 "tree_nodes" (.var "_rb_delete_fixup17$x_parent") (.lit 0) (.lit 0))
  (pickD d dlrot18 drrot27
  (.setI "_rb_delete_fixup17$w" (.ld2 "tree_nodes" (.var "_rb_delete_fixup17$x_parent") (.lit d.flip.col))))))

/-- case 1: the sibling `w` is red -/
def dfCase1 (d : Dir) : St :=
  (.ite (.cmpI .eq (.ld2 "tree_nodes" (.var "_rb_delete_fixup17$w") (.lit 0)) (.lit 0)) (dfCase1B d) .skip)

/-- NIL sibling: `x` moves to its parent -/
def dfNil : Dir → St
  | .L => (.seq (.setI "_rb_delete_fixup17$x" (.ld2 "tree_nodes" (.var "_rb_delete_fixup17$x") (.lit 3))) .cont)
  | .R => (.seq (.setI "_rb_delete_fixup17$x" (.var "_rb_delete_fixup17$x_parent")) .cont)

def dfReads : Dir → List St
  | .L => [(.setI "_rb_delete_fixup17$w_left" (.ld2 "tree_nodes" (.var "_rb_delete_fixup17$w") (.lit 1))),
           (.setI "_rb_delete_fixup17$w_right" (.ld2 "tree_nodes" (.var "_rb_delete_fixup17$w") (.lit 2)))]
  | .R => [(.setI "_rb_delete_fixup17$w_left" (.ld2 "tree_nodes" (.var "_rb_delete_fixup17$w") (.lit 1))),
           (.setI "_rb_delete_fixup17$w_right" (.ld2 "tree_nodes" (.var "_rb_delete_fixup17$w") (.lit 2))),
           (.setI "_rb_delete_fixup17$x_parent" (.ld2 "tree_nodes" (.var "_rb_delete_fixup17$x") (.lit 3)))]

/-- `tree_nodes[v][TN_COLOR_ID] == RB_BLACK` -/
def blackE (v : String) : BE := (.cmpI .eq (.ld2 "tree_nodes" (.var v) (.lit 0)) (.lit 1))

/-- case 2: both children of the sibling are black -/
def dfCase2 : Dir → St
  | .L => (.seq (.stI2 "tree_nodes" (.var "_rb_delete_fixup17$w") (.lit 0) (.lit 0))
          (.setI "_rb_delete_fixup17$x" (.ld2 "tree_nodes" (.var "_rb_delete_fixup17$x") (.lit 3))))
  | .R => (.seq (.stI2 "tree_nodes" (.var "_rb_delete_fixup17$w") (.lit 0) (.lit 0))
          (.setI "_rb_delete_fixup17$x" (.var "_rb_delete_fixup17$x_parent")))

/-- case 3: the far child of the sibling is black -/
def dfCase3 : Dir → St
  | .L => (.seq (.stI2 "tree_nodes" (.var "_rb_delete_fixup17$w_left") (.lit 0) (.lit 1))
          (.seq (.stI2 "tree_nodes" (.var "_rb_delete_fixup17$w") (.lit 0) (.lit 0))
          (drrot21
          (.seq (.setI "_rb_delete_fixup17$x_parent" (.ld2 "tree_nodes" (.var "_rb_delete_fixup17$x") (.lit 3)))
          (.setI "_rb_delete_fixup17$w" (.ld2 "tree_nodes" (.var "_rb_delete_fixup17$x_parent") (.lit 2)))))))
  | .R => (.seq (.stI2 "tree_nodes" (.var "_rb_delete_fixup17$w_right") (.lit 0) (.lit 1))
          (.seq (.stI2 "tree_nodes" (.var "_rb_delete_fixup17$w") (.lit 0) (.lit 0))
          (dlrot30
          (.setI "_rb_delete_fixup17$w" (.ld2 "tree_nodes" (.var "_rb_delete_fixup17$x_parent") (.lit 1))))))

/-- case 4: the far child of the sibling is red -/
def dfCase4 : Dir → St
  | .L => (.seq (.setI "_rb_delete_fixup17$x_parent" (.ld2 "tree_nodes" (.var "_rb_delete_fixup17$x") (.lit 3)))
          (.seq (.setI "_rb_delete_fixup17$w_right" (.ld2 "tree_nodes" (.var "_rb_delete_fixup17$w") (.lit 2)))
          (.seq (.stI2 "tree_nodes" (.var "_rb_delete_fixup17$w") (.lit 0) (.ld2 "tree_nodes" (.var "_rb_delete_fixup17$x_parent") (.lit 0)))
          (.seq (.stI2 "tree_nodes" (.var "_rb_delete_fixup17$x_parent") (.lit 0) (.lit 1))
          (.seq (.stI2 "tree_nodes" (.var "_rb_delete_fixup17$w_right") (.lit 0) (.lit 1))
          (dlrot24
          (.setI "_rb_delete_fixup17$x" (.var "_rb_delete_fixup17$root"))))))))
  | .R => (.seq (.stI2 "tree_nodes" (.var "_rb_delete_fixup17$w") (.lit 0) (.ld2 "tree_nodes" (.var "_rb_delete_fixup17$x_parent") (.lit 0)))
          (.seq (.stI2 "tree_nodes" (.var "_rb_delete_fixup17$x_parent") (.lit 0) (.lit 1))
          (.seq (.setI "_rb_delete_fixup17$w_left" (.ld2 "tree_nodes" (.var "_rb_delete_fixup17$w") (.lit 1)))
          (.seq (.stI2 "tree_nodes" (.var "_rb_delete_fixup17$w_left") (.lit 0) (.lit 1))
          (drrot33
          (.setI "_rb_delete_fixup17$x" (.var "_rb_delete_fixup17$root")))))))

/-- the iteration after case 1, `x` the `d`-child of its parent -/
def dfIterB (d : Dir) : St :=
  (.seq (.ite (.cmpI .eq (.var "_rb_delete_fixup17$w") (.lit (-1))) (dfNil d) .skip)
  (seqK (dfReads d)
  (.ite (.and (blackE (pickD d "_rb_delete_fixup17$w_left" "_rb_delete_fixup17$w_right")) (blackE (pickD d "_rb_delete_fixup17$w_right" "_rb_delete_fixup17$w_left")))
    (dfCase2 d)
    (.seq (.ite (blackE (pickD d "_rb_delete_fixup17$w_right" "_rb_delete_fixup17$w_left")) (dfCase3 d) .skip)
    (dfCase4 d)))))

/-- the sibling `w` is read (the right child's code reads `x_parent` again first) -/
def dfHead : Dir → List St
  | .L => [(.setI "_rb_delete_fixup17$w" (.ld2 "tree_nodes" (.var "_rb_delete_fixup17$x_parent") (.lit 2)))]
  | .R => [(.setI "_rb_delete_fixup17$x_parent" (.ld2 "tree_nodes" (.var "_rb_delete_fixup17$x") (.lit 3))),
           (.setI "_rb_delete_fixup17$w" (.ld2 "tree_nodes" (.var "_rb_delete_fixup17$x_parent") (.lit 1)))]

/-- one iteration, `x` the `d`-child of its parent -/
def dfSide (d : Dir) : St := seqK (dfHead d) (.seq (dfCase1 d) (dfIterB d))

def delFixBody : St :=
  (.seq (.setI "_rb_delete_fixup17$x_parent" (.ld2 "tree_nodes" (.var "_rb_delete_fixup17$x") (.lit 3)))
  (.ite (.cmpI .eq (.var "_rb_delete_fixup17$x") (.ld2 "tree_nodes" (.var "_rb_delete_fixup17$x_parent") (.lit 1)))
    (dfSide .L)
    (dfSide .R)))

def delFixLoop : St :=
  .while (.and (.cmpI .ne (.var "_rb_delete_fixup17$x") (.var "_rb_delete_fixup17$root"))
    (.cmpI .eq (.ld2 "tree_nodes" (.var "_rb_delete_fixup17$x") (.lit 0)) (.lit 1))) delFixBody

def delFixEnd : St :=
  (.seq (.stI2 "tree_nodes" (.var "_rb_delete_fixup17$x") (.lit 0) (.lit 1))
  (.seq (.setI "_rb_delete_fixup17$ret0" (.var "_rb_delete_fixup17$root")) .ret))

def delFixCall : St :=
  (.ite (.and (.cmpI .eq (.ld2 "tree_nodes" (.var "y") (.lit 0)) (.lit 1)) (.cmpI .ne (.var "x") (.lit (-1))))
      (.seq (.setI "_rb_delete_fixup17$root" (.var "root"))
      (.seq (.setI "_rb_delete_fixup17$x" (.var "x"))
      (.seq (.scope (.seq delFixLoop delFixEnd))
      (.setI "root" (.var "_rb_delete_fixup17$ret0")))))
      .skip)

def delEnd : St := (.seq (.setI "ret0" (.var "root")) (.seq (.setI "ret1" (.var "deleted")) .ret))

def delRest' : St :=
  (.seq delGuard
  (seqK delSpliceItems
  (.seq delL1
  (seqK (recompFixItems "10")
  (.seq delCopy
  (.seq delFixCall
  delEnd))))))

theorem delRest_eq : delRest = delRest' := by decide +kernel

def delIv : List String := ["_search_for_node1$root", "_search_for_node1$ret0", "z"] ++ delSearchNames.iv
def delFv : List String := "_search_for_node1$key" :: delSearchNames.fv

theorem delSearch_spec (n : Nat) (sh : Sh) (fuel : Nat) (s : State F) (hv : VS s n) (hrun : s.ctl = .run)
    (hL : Linked (s.ia "tree_nodes") n (-1) sh) (hroot : s.ienv "root" = sh.ptr) (hf : sh.height < fuel) :
    let q := exec fuel (seqL delSearchItems) s
    let z := findPtr (s.fa "tree_vals") ⟨s.fenv "key"⟩ sh
    Frame delIv delFv [] s q ∧ q.ienv "z" = z ∧
      (z = -1 → q.ctl = .err "ValueError") ∧ (z ≠ -1 → q.ctl = .run) := by
  intro q z
  have hN : delSearchNames.OK := by simp [SearchNames.OK, delSearchNames]
  have h := searchLoop_spec delSearchNames hN n sh (-1) fuel
    { s with ienv := setS (setS s.ienv "_search_for_node1$root" sh.ptr) "_search_for_node1$cur_node" sh.ptr,
             fenv := setS s.fenv "_search_for_node1$key" (s.fenv "key") }
    (hv.of_eq rfl rfl rfl) hrun hL (by simp [delSearchNames, setS]) hf
  have e1 : delSearchNames.cur = "_search_for_node1$cur_node" := rfl
  have e2 : delSearchNames.key = "_search_for_node1$key" := rfl
  simp only [e1, e2] at h
  have e0 : (setS s.fenv "_search_for_node1$key" (s.fenv "key")) "_search_for_node1$key" = s.fenv "key" := by simp [setS]
  simp only [e0] at h
  obtain ⟨h1, h2, h3⟩ := h
  generalize hsB : exec fuel (searchLoop delSearchNames)
    { s with ienv := setS (setS s.ienv "_search_for_node1$root" sh.ptr) "_search_for_node1$cur_node" sh.ptr,
             fenv := setS s.fenv "_search_for_node1$key" (s.fenv "key") } = sB at h1 h2 h3
  simp only [hrun] at hsB
  have hfr0 : Frame delIv delFv [] s
      { s with ienv := setS (setS s.ienv "_search_for_node1$root" sh.ptr) "_search_for_node1$cur_node" sh.ptr,
               fenv := setS s.fenv "_search_for_node1$key" (s.fenv "key") } := by
    refine ⟨rfl, rfl, rfl, rfl, ?_, ?_, fun _ _ => rfl⟩ <;> intro v hv' <;>
      simp only [delIv, delFv, SearchNames.iv, SearchNames.fv, delSearchNames, List.mem_cons, List.cons_append,
        List.nil_append, List.not_mem_nil, or_false, not_or] at hv' <;> simp [setS, hv']
  have hfrB : Frame delIv delFv [] s sB :=
    hfr0.trans (h2.mono (fun v h => by simp [delIv, h]) (fun v h => by simp [delFv, h]) (fun _ h => h))
  by_cases hz : z = -1
  · have hq : q = { sB with ienv := setS (setS sB.ienv "_search_for_node1$ret0" (-1)) "z" (-1),
                            ctl := .err "ValueError" } := by
      simp only [z] at hz
      rw [hz] at h3
      simp [q, delSearchItems, seqL, exec, IE.ok_var, IE.eval_var, IE.ok_lit, IE.eval_lit, FE.ok_var, FE.eval_var, BE.ok,
        BE.eval, cmpInt, hroot, hrun, hsB, h1, h3, setS, State.error]
    rw [hq]
    refine ⟨hfrB.trans ?_, by simp [setS, hz], fun _ => rfl, fun h => absurd hz h⟩
    refine ⟨rfl, rfl, rfl, rfl, ?_, fun _ _ => rfl, fun _ _ => rfl⟩
    intro v hv'
    simp only [delIv, List.mem_cons, List.cons_append, List.nil_append, not_or] at hv'
    simp [setS, hv'.2.1, hv'.2.2.1]
  · have hq : q = { sB with ienv := setS (setS sB.ienv "_search_for_node1$ret0" z) "z" z } := by
      simp only [z] at hz
      simp [q, delSearchItems, seqL, exec, IE.ok_var, IE.eval_var, IE.ok_lit, IE.eval_lit, FE.ok_var, FE.eval_var, BE.ok,
        BE.eval, cmpInt, hroot, hrun, hsB, h1, h3, setS, hz, z]
    rw [hq]
    refine ⟨hfrB.trans ?_, by simp [setS], fun h => absurd h hz, fun _ => h1⟩
    refine ⟨rfl, rfl, rfl, rfl, ?_, fun _ _ => rfl, fun _ _ => rfl⟩
    intro v hv'
    simp only [delIv, List.mem_cons, List.cons_append, List.nil_append, not_or] at hv'
    simp [setS, hv'.2.1, hv'.2.2.1]

/-- **the key is absent: `_delete_from_tree` raises** (the model's `delCore` is `none`) -/
theorem vsDelete_absent (s : State F) (fuel n : Nat) (hv : VS s n) (hrun : s.ctl = .run) (sh : Sh)
    (hL : Linked (s.ia "tree_nodes") n (-1) sh) (hroot : s.ienv "root" = sh.ptr) (hf : sh.height < fuel)
    (habs : (absT (s.fa "tree_vals") (s.ia "tree_nodes") sh).contains ⟨s.fenv "key"⟩ = false) :
    (Gen.IL.vsDelete.run s fuel).ctl = .err "ValueError" := by
  have hz : findPtr (s.fa "tree_vals") ⟨s.fenv "key"⟩ sh = -1 := by
    rw [findPtr_contains] at habs
    simpa using habs
  obtain ⟨_, _, h3, _⟩ := delSearch_spec n sh fuel s hv hrun hL hroot hf
  simp only [Prog.run, vsDelete_body, delSearchItems]
  rw [exec_seqK, exec_seq_stop _ _ _ _ (by rw [← delSearchItems, h3 hz]; simp), ← delSearchItems]
  exact h3 hz

/-- the node `_delete_from_tree` splices out: `z` itself when it has a NIL child, else its in-order successor
    (the leftmost node of its right subtree, the node the model's `delMin` splices out) -/
def spliceIdx (l : Sh) (z : Nat) (r : Sh) : Nat :=
  match l, r with
  | .nil, _ => z
  | _, .nil => z
  | _, .node rl m _ => minIdx rl m

theorem delChoose_wI : ∀ v ∈ wI delChoose, v ∈ ["y", "_tree_successor4$x", "_tree_successor4$_tree_minimum5$x",
    "_tree_successor4$_tree_minimum5$ret0", "_tree_successor4$ret0", "_tree_successor4$y"] := by decide

theorem delChoose_spec (n fuel : Nat) (s : State F) (hv : VS s n) (hrun : s.ctl = .run) (l : Sh) (z : Nat) (r : Sh) (par : Int)
    (hl : Linked (s.ia "tree_nodes") n par (.node l z r)) (hz : s.ienv "z" = z) (hf : r.height + 1 < fuel) :
    let q := exec fuel delChoose s
    q.ctl = .run ∧ q.ienv "y" = spliceIdx l z r := by
  obtain ⟨hzn, hzL, hzR, hzP, hlL, hlR⟩ := hl
  have hin : inRange (z : Int) n = true := inRange_ptr n _ (by omega) hv.pos
  have eN := fun (s' : State F) => evalN s' n
  have oN := fun (s' : State F) => okN s' n
  intro q
  cases l with
  | nil =>
    simp only [Sh.ptr] at hzL
    have hq : q = { s with ienv := setS s.ienv "y" (z : Int) } := by
      simp [q, delChoose, exec, eN, oN, hv.shpN, hz, hin, hzL, IE.ok_var, IE.eval_var, IE.ok_lit, IE.eval_lit, BE.ok, BE.eval,
        cmpInt]
    rw [hq]; simp [setS, spliceIdx, hrun]
  | node ll a lr =>
    simp only [Sh.ptr] at hzL
    have ha : ¬ ((a : Int) = -1) := by omega
    cases r with
    | nil =>
      simp only [Sh.ptr] at hzR
      have hq : q = { s with ienv := setS s.ienv "y" (z : Int) } := by
        simp [q, delChoose, exec, eN, oN, hv.shpN, hz, hin, hzL, hzR, ha, IE.ok_var, IE.eval_var, IE.ok_lit, IE.eval_lit, BE.ok,
          BE.eval, cmpInt]
      rw [hq]; simp [setS, spliceIdx, hrun]
    | node rl m rrr =>
      simp only [Sh.ptr] at hzR
      have hm : ¬ ((m : Int) = -1) := by omega
      -- the state in which the inlined `_tree_minimum` loop starts
      have hml := minLoop_spec "_tree_successor4$_tree_minimum5$x" n rl m rrr (z : Int) fuel
        { s with ienv := setS (setS s.ienv "_tree_successor4$x" (z : Int)) "_tree_successor4$_tree_minimum5$x" (m : Int) }
        (hv.of_eq rfl rfl rfl) hrun hlR (by simp [setS])
        (by have := Sh.lheight_le rl; simp only [Sh.height] at hf; omega)
      simp only [hrun] at hml
      have hq : q = { s with ienv := setS (setS (setS (setS (setS s.ienv "_tree_successor4$x" (z : Int))
          "_tree_successor4$_tree_minimum5$x" (minIdx rl m : Int)) "_tree_successor4$_tree_minimum5$ret0" (minIdx rl m : Int))
          "_tree_successor4$ret0" (minIdx rl m : Int)) "y" (minIdx rl m : Int) } := by
        simp [q, delChoose, exec, eN, oN, hv.shpN, hz, hin, hzL, hzR, ha, hm, IE.ok_var, IE.eval_var, IE.ok_lit, IE.eval_lit,
          BE.ok, BE.eval, cmpInt, setS, hrun, hml, setS_setS]
      rw [hq]; simp [setS, spliceIdx, hrun]

/-- **the descent of `_delete_from_tree`**: with the key in the tree, at position `(l, z, r, ctx)`, the program
    continues with `delRest` in a state that differs from the initial one in scalars only, `z` the node found and `y` the
    node to splice out -/
theorem vsDelete_descent_refines (s : State F) (fuel n : Nat) (sh : Sh) (h : TreeAt "root" s n sh)
    (l : Sh) (z : Nat) (r : Sh) (ctx : Ctx)
    (hfind : findZ (s.fa "tree_vals") ⟨s.fenv "key"⟩ sh [] = some (l, z, r, ctx)) (hf : sh.height + 1 < fuel) :
    ∃ sD : State F, Gen.IL.vsDelete.run s fuel = exec fuel delRest sD ∧ TreeAt "root" sD n sh ∧ sD.ia = s.ia ∧
      sD.fa = s.fa ∧ sD.ienv "z" = z ∧ sD.ienv "y" = spliceIdx l z r := by
  obtain ⟨hp, hplug, _, _⟩ := findZ_some _ _ sh [] l z r ctx hfind
  simp only [plug] at hplug
  have hlz := (TreeAt.pos (sub := .node l z r) (ctx := ctx) (hplug ▸ h)).sub
  obtain ⟨d1, d2, _, d4⟩ := delSearch_spec n sh fuel s h.vs h.run h.linked h.root (by omega)
  rw [hp] at d2 d4
  have hne : ¬ ((z : Int) = -1) := by omega
  have d4' := d4 hne
  generalize hs1 : exec fuel (seqL delSearchItems) s = s1 at d1 d2 d4'
  have hph := plug_height ctx (.node l z r)
  rw [hplug] at hph
  simp only [Sh.height] at hph
  obtain ⟨c1, c5⟩ := delChoose_spec n fuel s1 (d1.vs h.vs) d4' l z r (ctxPar ctx) (by rw [d1.ia]; exact hlz) d2 (by omega)
  have hfr := exec_frame fuel delChoose s1
  refine ⟨exec fuel delChoose s1, ?_, h.of_eq (hfr.shp_eq.trans d1.shp) (hfr.fa_eq.trans d1.fa) (hfr.ia_eq.trans d1.ia) c1
    ((hfr.ienv_of delChoose_wI "root" (by simp)).trans (d1.ienv _ (by simp [delIv, SearchNames.iv, delSearchNames]))),
    hfr.ia_eq.trans d1.ia, hfr.fa_eq.trans d1.fa, (hfr.ienv_of delChoose_wI "z" (by simp)).trans d2, c5⟩
  simp only [Prog.run, vsDelete_body, delSearchItems]
  rw [exec_seqK, exec_seq_run _ _ _ _ (by rw [← delSearchItems, hs1]; exact d4'), ← delSearchItems, hs1,
    exec_seq_run _ _ _ _ c1]

end XrsVerif.ILVs
