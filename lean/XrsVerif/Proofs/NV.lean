import XrsVerif.Core.KLang
import Mathlib.Algebra.Order.Field.Basic
import Mathlib.Tactic.Ring
import Mathlib.Tactic.Linarith
import Mathlib.Tactic.FieldSimp
/-
  The proof-side value domain for generated kernels: `NV K = Option K`, `none` = NaN, over any
  linearly ordered field `K`.  Arithmetic is NaN-strict, every comparison with NaN is false
  (IEEE), division by zero is undefined (NaN).  ±inf is not represented: theorems over `NV`
  speak about finite and NaN cells.

  Transcendental functions are the fields of an arbitrary `Trig K`: a theorem over `NV K`
  holds for every interpretation of sqrt/atan/... unless it assumes facts about them.
-/
set_option linter.unusedSectionVars false
namespace XrsVerif

class Trig (K : Type) where
  sqrt : K → K
  atan : K → K
  atan2 : K → K → K
  exp : K → K
  sin : K → K
  cos : K → K
  asin : K → K

abbrev NV (K : Type) := Option K

variable {K : Type} [Field K] [LinearOrder K] [IsStrictOrderedRing K] [Trig K]

def NV.map2 (f : K → K → K) : NV K → NV K → NV K
  | some a, some b => some (f a b)
  | _, _ => none

def NV.rel (r : K → K → Bool) : NV K → NV K → Bool
  | some a, some b => r a b
  | _, _ => false

instance instFlNV : Fl (NV K) where
  lit n d := some ((n : K) / (d : K))
  nan := none
  add := NV.map2 (· + ·)
  sub := NV.map2 (· - ·)
  mul := NV.map2 (· * ·)
  div a b := match a, b with
    | some x, some y => if y = 0 then none else some (x / y)
    | _, _ => none
  neg := Option.map (fun x => -x)
  abs := Option.map (fun x => |x|)
  lt := NV.rel (fun a b => decide (a < b))
  le := NV.rel (fun a b => decide (a ≤ b))
  eq := NV.rel (fun a b => decide (a = b))
  isnan a := a.isNone
  isfinite a := a.isSome
  sqrt := Option.map Trig.sqrt
  atan := Option.map Trig.atan
  atan2 := NV.map2 Trig.atan2
  exp := Option.map Trig.exp
  sin := Option.map Trig.sin
  cos := Option.map Trig.cos
  asin := Option.map Trig.asin

@[simp] theorem fl_lit (n : Int) (d : Nat) : (Fl.lit n d : NV K) = some ((n : K) / (d : K)) := rfl
@[simp] theorem fl_nan : (Fl.nan : NV K) = none := rfl
@[simp] theorem fl_add (a b : K) : Fl.add (some a : NV K) (some b) = some (a + b) := rfl
@[simp] theorem fl_sub (a b : K) : Fl.sub (some a : NV K) (some b) = some (a - b) := rfl
@[simp] theorem fl_mul (a b : K) : Fl.mul (some a : NV K) (some b) = some (a * b) := rfl
@[simp] theorem fl_div (a b : K) : Fl.div (some a : NV K) (some b) = if b = 0 then none else some (a / b) := rfl
@[simp] theorem fl_neg (a : K) : Fl.neg (some a : NV K) = some (-a) := rfl
@[simp] theorem fl_abs (a : K) : Fl.abs (some a : NV K) = some |a| := rfl
@[simp] theorem fl_lt (a b : K) : Fl.lt (some a : NV K) (some b) = decide (a < b) := rfl
@[simp] theorem fl_le (a b : K) : Fl.le (some a : NV K) (some b) = decide (a ≤ b) := rfl
@[simp] theorem fl_eq (a b : K) : Fl.eq (some a : NV K) (some b) = decide (a = b) := rfl
@[simp] theorem fl_isnan_some (a : K) : Fl.isnan (some a : NV K) = false := rfl
@[simp] theorem fl_isnan_none : Fl.isnan (none : NV K) = true := rfl
@[simp] theorem fl_isfinite_some (a : K) : Fl.isfinite (some a : NV K) = true := rfl
@[simp] theorem fl_isfinite_none : Fl.isfinite (none : NV K) = false := rfl
@[simp] theorem fl_sqrt (a : K) : Fl.sqrt (some a : NV K) = some (Trig.sqrt a) := rfl
@[simp] theorem fl_atan (a : K) : Fl.atan (some a : NV K) = some (Trig.atan a) := rfl
@[simp] theorem fl_atan2 (a b : K) : Fl.atan2 (some a : NV K) (some b) = some (Trig.atan2 a b) := rfl
@[simp] theorem fl_exp (a : K) : Fl.exp (some a : NV K) = some (Trig.exp a) := rfl
@[simp] theorem fl_sin (a : K) : Fl.sin (some a : NV K) = some (Trig.sin a) := rfl
@[simp] theorem fl_cos (a : K) : Fl.cos (some a : NV K) = some (Trig.cos a) := rfl
@[simp] theorem fl_asin (a : K) : Fl.asin (some a : NV K) = some (Trig.asin a) := rfl

@[simp] theorem fl_add_none_l (b : NV K) : Fl.add (none : NV K) b = none := by cases b <;> rfl
@[simp] theorem fl_add_none_r (a : NV K) : Fl.add a (none : NV K) = none := by cases a <;> rfl
@[simp] theorem fl_sub_none_l (b : NV K) : Fl.sub (none : NV K) b = none := by cases b <;> rfl
@[simp] theorem fl_sub_none_r (a : NV K) : Fl.sub a (none : NV K) = none := by cases a <;> rfl
@[simp] theorem fl_mul_none_l (b : NV K) : Fl.mul (none : NV K) b = none := by cases b <;> rfl
@[simp] theorem fl_mul_none_r (a : NV K) : Fl.mul a (none : NV K) = none := by cases a <;> rfl
@[simp] theorem fl_div_none_l (b : NV K) : Fl.div (none : NV K) b = none := by cases b <;> rfl
@[simp] theorem fl_div_none_r (a : NV K) : Fl.div a (none : NV K) = none := by cases a <;> rfl
@[simp] theorem fl_neg_none : Fl.neg (none : NV K) = none := rfl
@[simp] theorem fl_sqrt_none : Fl.sqrt (none : NV K) = none := rfl
@[simp] theorem fl_atan_none : Fl.atan (none : NV K) = none := rfl
@[simp] theorem fl_exp_none : Fl.exp (none : NV K) = none := rfl
@[simp] theorem fl_atan2_none_l (b : NV K) : Fl.atan2 (none : NV K) b = none := by cases b <;> rfl
@[simp] theorem fl_atan2_none_r (a : NV K) : Fl.atan2 a (none : NV K) = none := by cases a <;> rfl
@[simp] theorem fl_sin_none : Fl.sin (none : NV K) = none := rfl
@[simp] theorem fl_cos_none : Fl.cos (none : NV K) = none := rfl
@[simp] theorem fl_asin_none : Fl.asin (none : NV K) = none := rfl
@[simp] theorem fl_abs_none : Fl.abs (none : NV K) = none := rfl
@[simp] theorem fl_lt_none_l (b : NV K) : Fl.lt (none : NV K) b = false := by cases b <;> rfl
@[simp] theorem fl_lt_none_r (a : NV K) : Fl.lt a (none : NV K) = false := by cases a <;> rfl
@[simp] theorem fl_le_none_l (b : NV K) : Fl.le (none : NV K) b = false := by cases b <;> rfl
@[simp] theorem fl_le_none_r (a : NV K) : Fl.le a (none : NV K) = false := by cases a <;> rfl
@[simp] theorem fl_eq_none_l (b : NV K) : Fl.eq (none : NV K) b = false := by cases b <;> rfl
@[simp] theorem fl_eq_none_r (a : NV K) : Fl.eq a (none : NV K) = false := by cases a <;> rfl

/-- environment built from an association list (what the theorems feed to `Kernel.cell`) -/
def envOf {F : Type} [Fl F] (l : List (String × F)) : String → F :=
  fun n => ((l.find? (·.1 == n)).map (·.2)).getD Fl.nan

/-- window with one value per array at offset (0,0) (per-cell kernels) -/
def rd0 {F : Type} [Fl F] (l : List (String × F)) : String → Int → Int → F :=
  fun n _ _ => envOf l n

end XrsVerif
