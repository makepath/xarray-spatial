import XrsVerif.Model.ViewshedFix
/-!
  C05 helper lemmas: the colour fix-ups of `Model/ViewshedFix.lean` only rotate and recolour -- their result is
  `Rebal`-related to their argument, so everything `Rebal` preserves (node list, BST, AugLe, AugLeQ, Exact;
  Proofs/ViewshedSweep.lean) is preserved by the complete `_insert_into_tree` / `_delete_from_tree`.
  No order laws are used: the lemmas hold over any `<` (the refinement proofs use them over `Fv F`).
-/
set_option linter.unusedSectionVars false
namespace XrsVerif.Viewshed

variable {α : Type} [LT α] [DecidableLT α] [LE α] [DecidableLE α]

theorem Rebal.trans {S : α} {t u v : Tree α} (h1 : Rebal S t u) (h2 : Rebal S u v) : Rebal S t v := by
  induction h1 with
  | refl t => exact h2
  | rotL p _ ih => exact Rebal.rotL p (ih h2)
  | rotR p _ ih => exact Rebal.rotR p (ih h2)
  | colour f _ ih => exact Rebal.colour f (ih h2)

/-- a colouring that is the identity at and below `pre` changes nothing there -/
theorem recolour_id (f : List Dir → Bool → Bool) : ∀ (t : Tree α) (pre : List Dir),
    (∀ q c, f (pre ++ q) c = c) → recolour f pre t = t := by
  intro t
  induction t with
  | nil => intro pre _; rfl
  | node l n mx c r ihl ihr =>
    intro pre h
    have h0 : f pre c = c := by simpa using h [] c
    simp only [recolour, h0]
    rw [ihl (pre ++ [Dir.L]) (fun q c => by rw [List.append_assoc]; exact h _ c),
      ihr (pre ++ [Dir.R]) (fun q c => by rw [List.append_assoc]; exact h _ c)]

/-- setting the colour of the node at a path is a recolouring -/
theorem recolour_point (c0 : Bool) : ∀ (p pre : List Dir) (t : Tree α),
    recolour (fun q c => if q = pre ++ p then c0 else c) pre t = atPath (setCol c0) p t := by
  intro p
  induction p with
  | nil =>
    intro pre t
    cases t with
    | nil => rfl
    | node l n mx c r =>
      simp only [recolour, List.append_nil, if_true, atPath, setCol]
      rw [recolour_id _ l (pre ++ [Dir.L]) (fun q c => by simp),
        recolour_id _ r (pre ++ [Dir.R]) (fun q c => by simp)]
  | cons d p ih =>
    intro pre t
    cases t with
    | nil => cases d <;> rfl
    | node l n mx c r =>
      have hne : ¬ (pre = pre ++ d :: p) := by
        intro e
        have := congrArg List.length e
        simp at this
      have hfun : (fun (q : List Dir) (c : Bool) => if q = pre ++ d :: p then c0 else c) =
          (fun q c => if q = (pre ++ [d]) ++ p then c0 else c) := by
        funext q c; simp
      cases d with
      | L =>
        simp only [recolour, hne, if_false, atPath]
        rw [recolour_id _ r (pre ++ [Dir.R]) (fun q c => by simp), hfun, ih (pre ++ [Dir.L]) l]
      | R =>
        simp only [recolour, hne, if_false, atPath]
        rw [recolour_id _ l (pre ++ [Dir.L]) (fun q c => by simp), hfun, ih (pre ++ [Dir.R]) r]

theorem Rebal.snocCol {S : α} {t u : Tree α} (c : Bool) (p : List Dir) (h : Rebal S t u) :
    Rebal S t (atPath (setCol c) p u) :=
  h.trans (.colour (fun q c' => if q = [] ++ p then c else c') (by rw [recolour_point c p [] u]; exact .refl _))

theorem Rebal.snocRot {S : α} {t u : Tree α} (d : Dir) (p : List Dir) (h : Rebal S t u) :
    Rebal S t (atPath (Viewshed.rotD S d) p u) :=
  h.trans (match d with | .L => .rotL p (.refl _) | .R => .rotR p (.refl _))

/-- **`_rb_insert_fixup`'s loop only rotates and recolours** -/
theorem insFixP_rebal (S : α) (rp : List Dir) (t : Tree α) : Rebal S t (insFixP S rp t) := by
  fun_induction insFixP S rp t with
  | case1 dz dp rq t pg pp _ pu _ ih => exact ((((Rebal.refl t).snocCol _ _).snocCol _ _).snocCol _ _).trans ih
  | case2 dz dp rq t pg pp _ pu _ t1 =>
    refine ((Rebal.snocCol _ _ ?_).snocCol _ _).snocRot _ _
    unfold t1
    split
    · exact Rebal.refl t
    · exact (Rebal.refl t).snocRot _ _
  | case3 => exact Rebal.refl _
  | case4 => exact Rebal.refl _

theorem rbInsFix_rebal (S : α) (rp : List Dir) (t : Tree α) : Rebal S t (rbInsFix S rp t) :=
  (insFixP_rebal S rp t).snocCol false []

/-- **the complete `_insert_into_tree` is the leaf insertion followed by rotations and recolourings** -/
theorem rbInsert_rebal (S : α) (nn : Node α) (t : Tree α) : Rebal S (leafInsert nn t) (rbInsert S nn t) :=
  rbInsFix_rebal S _ _

theorem insFixP_black (S : α) (dz dp : Dir) (rq : List Dir) (t : Tree α)
    (h : isRed (subAt (rq.reverse ++ [dp]) t) = false) : insFixP S (dz :: dp :: rq) t = t := by
  rw [insFixP]; simp [h]

theorem insFixP_recol (S : α) (dz dp : Dir) (rq : List Dir) (t : Tree α)
    (h1 : isRed (subAt (rq.reverse ++ [dp]) t) = true) (h2 : isRed (subAt (rq.reverse ++ [dp.flip]) t) = true) :
    insFixP S (dz :: dp :: rq) t =
      insFixP S rq (atPath (setCol true) rq.reverse (atPath (setCol false) (rq.reverse ++ [dp.flip])
        (atPath (setCol false) (rq.reverse ++ [dp]) t))) := by
  rw [insFixP]; simp [h1, h2]

theorem insFixP_outer (S : α) (dp : Dir) (rq : List Dir) (t : Tree α)
    (h1 : isRed (subAt (rq.reverse ++ [dp]) t) = true) (h2 : isRed (subAt (rq.reverse ++ [dp.flip]) t) = false) :
    insFixP S (dp :: dp :: rq) t =
      atPath (rotD S dp.flip) rq.reverse (atPath (setCol true) rq.reverse (atPath (setCol false) (rq.reverse ++ [dp]) t)) := by
  rw [insFixP]; simp [h1, h2]

theorem insFixP_inner (S : α) (dz dp : Dir) (rq : List Dir) (t : Tree α) (hne : dz ≠ dp)
    (h1 : isRed (subAt (rq.reverse ++ [dp]) t) = true) (h2 : isRed (subAt (rq.reverse ++ [dp.flip]) t) = false) :
    insFixP S (dz :: dp :: rq) t =
      atPath (rotD S dp.flip) rq.reverse (atPath (setCol true) rq.reverse (atPath (setCol false) (rq.reverse ++ [dp])
        (atPath (rotD S dp) (rq.reverse ++ [dp]) t))) := by
  rw [insFixP]; simp [h1, h2, hne]

theorem delFixP_nil (S : α) (t : Tree α) : delFixP S [] t = (t, []) := by simp [delFixP]

theorem delFixP_red (S : α) (dx : Dir) (rq : List Dir) (t : Tree α)
    (h : isRed (subAt (rq.reverse ++ [dx]) t) = true) : delFixP S (dx :: rq) t = (t, dx :: rq) := by
  rw [delFixP]; simp only [List.reverse_cons, h, if_true]

theorem delFixP_c1 (S : α) (dx : Dir) (rq : List Dir) (t : Tree α)
    (hx : isRed (subAt (rq.reverse ++ [dx]) t) = false) (hw : isRed (subAt (rq.reverse ++ [dx.flip]) t) = true) :
    delFixP S (dx :: rq) t = dfB S dx true (dx :: rq) (delFixP S rq)
      (atPath (rotD S dx) rq.reverse (atPath (setCol true) rq.reverse (atPath (setCol false) (rq.reverse ++ [dx.flip]) t))) := by
  rw [delFixP]; simp only [List.reverse_cons, hx, hw, Bool.false_eq_true, if_false, if_true]

theorem delFixP_c0 (S : α) (dx : Dir) (rq : List Dir) (t : Tree α)
    (hx : isRed (subAt (rq.reverse ++ [dx]) t) = false) (hw : isRed (subAt (rq.reverse ++ [dx.flip]) t) = false) :
    delFixP S (dx :: rq) t = dfB S dx false rq (delFixP S rq) t := by
  rw [delFixP]; simp only [List.reverse_cons, hx, hw, Bool.false_eq_true, if_false]

theorem dfB_nil (S : α) (dx : Dir) (c1 : Bool) (rq1 : List Dir) (k : Tree α → Tree α × List Dir) (t1 : Tree α)
    (h : subAt (rq1.reverse ++ [dx.flip]) t1 = .nil) : dfB S dx c1 rq1 k t1 = if c1 then (t1, rq1) else k t1 := by
  simp only [dfB, h]

theorem dfB_case2 (S : α) (dx : Dir) (c1 : Bool) (rq1 : List Dir) (k : Tree α → Tree α × List Dir) (t1 : Tree α)
    (wl : Tree α) (wn : Node α) (wm : α) (wc : Bool) (wr : Tree α)
    (h : subAt (rq1.reverse ++ [dx.flip]) t1 = .node wl wn wm wc wr)
    (h1 : isRed (match dx with | .L => wl | .R => wr) = false) (h2 : isRed (match dx with | .L => wr | .R => wl) = false) :
    dfB S dx c1 rq1 k t1 =
      if c1 then (atPath (setCol true) (rq1.reverse ++ [dx.flip]) t1, rq1)
      else k (atPath (setCol true) (rq1.reverse ++ [dx.flip]) t1) := by
  cases dx <;> simp_all [dfB]

theorem dfB_case4 (S : α) (dx : Dir) (c1 : Bool) (rq1 : List Dir) (k : Tree α → Tree α × List Dir) (t1 : Tree α)
    (wl : Tree α) (wn : Node α) (wm : α) (wc : Bool) (wr : Tree α)
    (h : subAt (rq1.reverse ++ [dx.flip]) t1 = .node wl wn wm wc wr)
    (h2 : isRed (match dx with | .L => wr | .R => wl) = true) :
    dfB S dx c1 rq1 k t1 =
      (atPath (rotD S dx) rq1.reverse (atPath (setCol false) (rq1.reverse ++ [dx.flip] ++ [dx.flip])
        (atPath (setCol false) rq1.reverse (atPath (setCol (isRed (subAt rq1.reverse t1))) (rq1.reverse ++ [dx.flip]) t1))), []) := by
  cases dx <;> simp_all [dfB]

theorem dfB_case3 (S : α) (dx : Dir) (c1 : Bool) (rq1 : List Dir) (k : Tree α → Tree α × List Dir) (t1 : Tree α)
    (wl : Tree α) (wn : Node α) (wm : α) (wc : Bool) (wr : Tree α)
    (h : subAt (rq1.reverse ++ [dx.flip]) t1 = .node wl wn wm wc wr)
    (h1 : isRed (match dx with | .L => wl | .R => wr) = true) (h2 : isRed (match dx with | .L => wr | .R => wl) = false) :
    dfB S dx c1 rq1 k t1 =
      (let t3 := atPath (rotD S dx.flip) (rq1.reverse ++ [dx.flip]) (atPath (setCol true) (rq1.reverse ++ [dx.flip])
          (atPath (setCol false) (rq1.reverse ++ [dx.flip] ++ [dx]) t1))
       (atPath (rotD S dx) rq1.reverse (atPath (setCol false) (rq1.reverse ++ [dx.flip] ++ [dx.flip])
        (atPath (setCol false) rq1.reverse (atPath (setCol (isRed (subAt rq1.reverse t3))) (rq1.reverse ++ [dx.flip]) t3))), [])) := by
  cases dx <;> simp_all [dfB]

theorem dfB_rebal {S : α} {dx : Dir} {c1 : Bool} {rq1 : List Dir} {k : Tree α → Tree α × List Dir} {t t1 : Tree α}
    (hk : ∀ X, Rebal S t X → Rebal S t (k X).1) (h : Rebal S t t1) : Rebal S t (dfB S dx c1 rq1 k t1).1 := by
  cases hw : subAt (rq1.reverse ++ [dx.flip]) t1 with
  | nil =>
    rw [dfB_nil S dx c1 rq1 k t1 hw]
    split
    · exact h
    · exact hk _ h
  | node wl wn wm wc wr =>
    cases hfar : isRed (match dx with | .L => wr | .R => wl)
    · cases hnear : isRed (match dx with | .L => wl | .R => wr)
      · rw [dfB_case2 S dx c1 rq1 k t1 wl wn wm wc wr hw hnear hfar]
        split
        · exact h.snocCol _ _
        · exact hk _ (h.snocCol _ _)
      · rw [dfB_case3 S dx c1 rq1 k t1 wl wn wm wc wr hw hnear hfar]
        exact ((((((h.snocCol _ _).snocCol _ _).snocRot _ _).snocCol _ _).snocCol _ _).snocCol _ _).snocRot _ _
    · rw [dfB_case4 S dx c1 rq1 k t1 wl wn wm wc wr hw hfar]
      exact (((h.snocCol _ _).snocCol _ _).snocCol _ _).snocRot _ _

/-- **`_rb_delete_fixup`'s loop only rotates and recolours** -/
theorem delFixP_rebal (S : α) : ∀ (rp : List Dir) (t : Tree α), Rebal S t (delFixP S rp t).1 := by
  intro rp
  induction rp with
  | nil => intro t; exact Rebal.refl t
  | cons dx rq ih =>
    intro t
    have step : ∀ X, Rebal S t X → Rebal S t (delFixP S rq X).1 := fun X h => h.trans (ih X)
    cases hx : isRed (subAt (rq.reverse ++ [dx]) t)
    · cases hw : isRed (subAt (rq.reverse ++ [dx.flip]) t)
      · rw [delFixP_c0 S dx rq t hx hw]
        exact dfB_rebal step (Rebal.refl t)
      · rw [delFixP_c1 S dx rq t hx hw]
        exact dfB_rebal step ((((Rebal.refl t).snocCol _ _).snocCol _ _).snocRot _ _)
    · rw [delFixP_red S dx rq t hx]
      exact Rebal.refl t

theorem rbDelFix_rebal (S : α) (rp : List Dir) (t : Tree α) : Rebal S t (rbDelFix S rp t) :=
  (delFixP_rebal S rp t).snocCol false _

theorem subAt_append : ∀ (p q : List Dir) (t : Tree α), subAt (p ++ q) t = subAt q (subAt p t) := by
  intro p
  induction p with
  | nil => intro q t; rfl
  | cons d p ih =>
    intro q t
    cases t with
    | nil => cases d <;> cases q <;> simp [subAt]
    | node l n mx c r => cases d <;> simp [subAt, ih]

theorem isRed_atPath (f : Tree α → Tree α) (p : List Dir) (hp : p ≠ []) (t : Tree α) :
    isRed (atPath f p t) = isRed t := by
  cases p with
  | nil => exact absurd rfl hp
  | cons d p =>
    cases t with
    | nil => rfl
    | node l n mx c r => cases d <;> rfl

theorem isRed_setCol (c : Bool) (t : Tree α) (h : t ≠ .nil) : isRed (setCol c t) = c := by
  cases t with
  | nil => exact absurd rfl h
  | node l n mx c' r => rfl

theorem rbDelete_rebal (S k : α) (t t1 : Tree α) (h : rbDelete S k t = some t1) :
    ∃ c, delCore S k t = some c ∧ Rebal S c t1 := by
  unfold rbDelete at h
  split at h
  · nomatch h
  · obtain ⟨c, hc, rfl⟩ := Option.map_eq_some_iff.mp h
    refine ⟨c, hc, ?_⟩
    split
    · exact rbDelFix_rebal S _ c
    · exact Rebal.refl c

end XrsVerif.Viewshed
