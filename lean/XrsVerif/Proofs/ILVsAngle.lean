import XrsVerif.Proofs.ILangVssweep
/-
  The generated `_calculate_angle` (template `angBody p`): the bearing as an expression in
  `Fl.atan`, `angF`, for every number type.
-/
namespace XrsVerif.ILSw
open XrsVerif XrsVerif.IL
variable {F : Type} [Fl F]

/-- one of the five axis cases of `_calculate_angle` applies (`ang` is not computed) -/
def angAxis (ex ey vx vy : F) : Bool :=
  (Fl.eq vx ex && Fl.lt ey vy) || (Fl.eq vx ex && Fl.lt vy ey) || (Fl.eq ex vx && Fl.eq ey vy) ||
  (Fl.eq vy ey && Fl.lt vx ex) || (Fl.lt ex vx && Fl.eq vy ey)

def angAcute (ex ey vx vy : F) : F := Fl.atan (Fl.div (Fl.abs (Fl.sub ey vy)) (Fl.abs (Fl.sub ex vx)))

/-- **`_calculate_angle(event_x, event_y, viewpoint_x, viewpoint_y)` on numbers**: the bearing of the event point seen
    from the viewpoint, counter-clockwise from east, rows growing downwards (so `event_y < viewpoint_y` is north) -/
def angF (ex ey vx vy : F) : F :=
  if (Fl.eq vx ex && Fl.lt ey vy) = true then Fl.div piF (Fl.lit 2 1)
  else if (Fl.eq vx ex && Fl.lt vy ey) = true then Fl.div (Fl.mul piF (Fl.lit 3 1)) (Fl.lit 2 1)
  else if (Fl.eq ex vx && Fl.eq ey vy) = true then Fl.lit 0 1
  else if (Fl.eq vy ey && Fl.lt vx ex) = true then Fl.lit 0 1
  else if (Fl.lt ex vx && Fl.eq vy ey) = true then piF
  else if (Fl.lt vx ex && Fl.lt ey vy) = true then angAcute ex ey vx vy
  else if (Fl.lt ex vx && Fl.lt ey vy) = true then Fl.sub piF (angAcute ex ey vx vy)
  else if (Fl.lt ex vx && Fl.lt vy ey) = true then Fl.add piF (angAcute ex ey vx vy)
  else if (Fl.lt vx ex && Fl.lt vy ey) = true then Fl.sub (Fl.mul piF (Fl.lit 2 1)) (angAcute ex ey vx vy)
  else Fl.lit 0 1

def angEnv (p : String) (s : State F) : String → F :=
  let ex := s.fenv (p ++ "event_x")
  let ey := s.fenv (p ++ "event_y")
  let vx : F := Fl.lit (s.ienv (p ++ "viewpoint_x")) 1
  let vy : F := Fl.lit (s.ienv (p ++ "viewpoint_y")) 1
  setS (setS s.fenv (p ++ "ang") (if angAxis ex ey vx vy = true then s.fenv (p ++ "ang") else angAcute ex ey vx vy))
    (p ++ "ret0") (angF ex ey vx vy)

theorem angEnv_apply (p : String) (s : State F) (v : String) :
    angEnv p s v =
      if v = p ++ "ret0" then angF (s.fenv (p ++ "event_x")) (s.fenv (p ++ "event_y")) (Fl.lit (s.ienv (p ++ "viewpoint_x")) 1)
        (Fl.lit (s.ienv (p ++ "viewpoint_y")) 1)
      else if v = p ++ "ang" then
        (if angAxis (s.fenv (p ++ "event_x")) (s.fenv (p ++ "event_y")) (Fl.lit (s.ienv (p ++ "viewpoint_x")) 1)
            (Fl.lit (s.ienv (p ++ "viewpoint_y")) 1) = true then s.fenv (p ++ "ang")
         else angAcute (s.fenv (p ++ "event_x")) (s.fenv (p ++ "event_y")) (Fl.lit (s.ienv (p ++ "viewpoint_x")) 1)
            (Fl.lit (s.ienv (p ++ "viewpoint_y")) 1))
      else s.fenv v := by
  simp only [angEnv, setS_apply]

theorem angBody_exec (p : String) (s : State F) (fuel : Nat) (hs : s.ctl = .run) :
    exec fuel (angBody p) s = { s with fenv := angEnv p s, ctl := .ret } := by
  obtain ⟨ie, fe, be, ia, fa, shp, ext, ctl⟩ := s
  simp only at hs; subst hs
  have ok : ∀ (o1 o2 : CmpOp) (a b c d : FE) (s : State F), a.ok s = true → b.ok s = true → c.ok s = true → d.ok s = true →
      (BE.and (.cmpF o1 a b) (.cmpF o2 c d)).ok s = true := by
    intro o1 o2 a b c d s ha hb hc hd; simp [BE.ok, ha, hb, hc, hd]
  -- the program as the chain of its tests, which is the shape of `angF`; then one case for each way through it
  unfold angBody
  rw [retIf_seq _ _ _ _ _ _ rfl (ok _ _ _ _ _ _ _ rfl rfl rfl rfl) rfl,
    retIf_seq _ _ _ _ _ _ rfl (ok _ _ _ _ _ _ _ rfl rfl rfl rfl) rfl,
    retIf_seq _ _ _ _ _ _ rfl (ok _ _ _ _ _ _ _ rfl rfl rfl rfl) rfl,
    retIf_seq _ _ _ _ _ _ rfl (ok _ _ _ _ _ _ _ rfl rfl rfl rfl) rfl,
    retIf_seq _ _ _ _ _ _ rfl (ok _ _ _ _ _ _ _ rfl rfl rfl rfl) rfl,
    exec_seq_eq _ _ _ _ _ (exec_setF _ _ _ _ rfl) rfl,
    retIf_seq _ _ _ _ _ _ rfl (ok _ _ _ _ _ _ _ rfl rfl rfl rfl) rfl,
    retIf_seq _ _ _ _ _ _ rfl (ok _ _ _ _ _ _ _ rfl rfl rfl rfl) rfl,
    retIf_seq _ _ _ _ _ _ rfl (ok _ _ _ _ _ _ _ rfl rfl rfl rfl) rfl,
    retIf_seq _ _ _ _ _ _ rfl (ok _ _ _ _ _ _ _ rfl rfl rfl rfl) rfl]
  generalize hvx : (Fl.lit (ie (p ++ "viewpoint_x")) 1 : F) = vx
  generalize hvy : (Fl.lit (ie (p ++ "viewpoint_y")) 1 : F) = vy
  simp only [BE.eval, FE.eval, IE.eval, CmpOp.eval, BinOp.eval, UnOp.eval, aEX, aEY, aVX, aVY, setS_apply, pfx_eq, exec, FE.ok, IE.ok,
    String.reduceEq, if_true, if_false, hvx, hvy, angEnv, angF, angAxis, angAcute, piF, Bool.or_eq_true]
  generalize fe (p ++ "event_x") = ex
  generalize fe (p ++ "event_y") = ey
  by_cases h1 : (Fl.eq vx ex && Fl.lt ey vy) = true
  · simp only [h1, if_true, true_or, setS_self]
  by_cases h2 : (Fl.eq vx ex && Fl.lt vy ey) = true
  · simp only [h1, h2, if_true, if_false, true_or, or_true, setS_self, Bool.false_eq_true]
  by_cases h3 : (Fl.eq ex vx && Fl.eq ey vy) = true
  · simp only [h1, h2, h3, if_true, if_false, true_or, or_true, setS_self, Bool.false_eq_true]
  by_cases h4 : (Fl.eq vy ey && Fl.lt vx ex) = true
  · simp only [h1, h2, h3, h4, if_true, if_false, true_or, or_true, setS_self, Bool.false_eq_true]
  by_cases h5 : (Fl.lt ex vx && Fl.eq vy ey) = true
  · simp only [h1, h2, h3, h4, h5, if_true, if_false, or_true, setS_self, Bool.false_eq_true]
  simp only [h1, h2, h3, h4, h5, if_false, or_self, Bool.false_eq_true]
  by_cases h6 : (Fl.lt vx ex && Fl.lt ey vy) = true
  · simp only [h6, if_true]
  by_cases h7 : (Fl.lt ex vx && Fl.lt ey vy) = true
  · simp only [h6, h7, if_true, if_false, Bool.false_eq_true]
  by_cases h8 : (Fl.lt ex vx && Fl.lt vy ey) = true
  · simp only [h6, h7, h8, if_true, if_false, Bool.false_eq_true]
  by_cases h9 : (Fl.lt vx ex && Fl.lt vy ey) = true
  · simp only [h6, h7, h8, h9, if_true, if_false, Bool.false_eq_true]
  simp only [h6, h7, h8, h9, if_false, Bool.false_eq_true]

/-- **the generated `_calculate_angle` computes `angF`** (generic in the number type; nothing else changes) -/
theorem vsAngle_refines (s : State F) (fuel : Nat) (hs : s.ctl = .run) :
    let r := Gen.IL.vsAngle.run s fuel
    r.ctl = .ret ∧
      r.fenv "ret0" = angF (s.fenv "event_x") (s.fenv "event_y") (Fl.lit (s.ienv "viewpoint_x") 1) (Fl.lit (s.ienv "viewpoint_y") 1) ∧
      r.fa = s.fa ∧ r.ia = s.ia ∧ r.ienv = s.ienv := by
  simp only [Prog.run, vsAngle_is_template]
  rw [angBody_exec "" s fuel hs]
  simp [angEnv]

end XrsVerif.ILSw
