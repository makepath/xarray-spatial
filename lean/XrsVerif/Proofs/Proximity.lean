import XrsVerif.Model.Proximity
import XrsVerif.Proofs.ListFold
/-
  Helper lemmas for Props/C06.lean (core Lean only).

  Layers: list access → the candidate phase of one pixel (`cand`) → one pixel → a sweep (`sweepN`,
  induction on the number of pixels done) → a raster line in one pass (`rowStep`) → the two passes
  (`tdN`, `buN`, induction on the number of lines done) → `run`.
-/
namespace XrsVerif.Prox

theorem getD_replicate_none {α} (n p : Nat) : (List.replicate n (none : Option α)).getD p none = none := by
  simp only [List.getD, List.getElem?_replicate]
  split <;> rfl

theorem getD_default_irrel {α} (l : List α) (i : Nat) (d1 d2 : α) (h : i < l.length) : l.getD i d1 = l.getD i d2 := by
  simp [List.getD, h]

theorem getD_of_le {α} (l : List α) (p : Nat) (d : α) (h : l.length ≤ p) : l.getD p d = d := by
  simp [List.getD, h]

/-- the target `output_img` holds after merging the `nearest` arrays of a sweep -/
def curOf (al nr : List Tgt) (p : Nat) : Tgt :=
  match nr.getD p none with
  | some t => some t
  | none => al.getD p none

theorem mergeNr_length (al nr : List Tgt) (h : al.length = nr.length) : (mergeNr al nr).length = al.length := by
  simp [mergeNr, h]

theorem mergeNr_getD (al nr : List Tgt) (p : Nat) (h : al.length = nr.length) :
    (mergeNr al nr).getD p none = curOf al nr p := by
  unfold mergeNr curOf
  by_cases hp : p < al.length
  · have hp' : p < nr.length := h ▸ hp
    simp only [List.getD, List.getElem?_zipWith, List.getElem?_eq_getElem hp, List.getElem?_eq_getElem hp',
      Option.getD_some]
    cases nr[p] <;> rfl
  · have hp' : ¬ p < nr.length := h ▸ hp
    have h1 : al[p]? = none := by simp; omega
    have h2 : nr[p]? = none := by simp; omega
    simp [List.getD, List.getElem?_zipWith, h1, h2]

theorem curOf_replicate (al : List Tgt) (n p : Nat) : curOf al (List.replicate n none) p = al.getD p none := by
  unfold curOf
  rw [getD_replicate_none]

theorem curOf_set_eq (al nr : List Tgt) (p : Nat) (t : Nat × Nat) (h : p < nr.length) :
    curOf al (nr.set p (some t)) p = some t := by
  unfold curOf
  rw [getD_set_same _ _ _ _ h]

theorem curOf_set_ne (al nr : List Tgt) (p q : Nat) (v : Tgt) (h : p ≠ q) :
    curOf al (nr.set p v) q = curOf al nr q := by
  unfold curOf
  rw [getD_set_ne _ _ _ _ _ h]

theorem posOf_lt (W : Nat) (fwd : Bool) (k : Nat) (h : k < W) : posOf W fwd k < W := by
  unfold posOf
  split <;> omega

theorem posOf_inj (W : Nat) (fwd : Bool) (j k : Nat) (hj : j < W) (hk : k < W)
    (h : posOf W fwd j = posOf W fwd k) : j = k := by
  unfold posOf at h
  split at h <;> omega

theorem posOf_surj (W : Nat) (fwd : Bool) (p : Nat) (h : p < W) : ∃ k, k < W ∧ posOf W fwd k = p := by
  cases fwd
  · exact ⟨W - 1 - p, by omega, by simp [posOf]; omega⟩
  · exact ⟨p, h, by simp [posOf]⟩

theorem adiff_posOf (W : Nat) (fwd : Bool) (j k : Nat) (hj : j < W) (hk : k < W) :
    adiff (posOf W fwd j) (posOf W fwd k) = adiff j k := by
  unfold posOf adiff
  split <;> omega

def dT (c : Cfg) (row p : Nat) (t : Nat × Nat) : Nat := dist2 c t.1 t.2 row p

/-- the three candidate steps of pixel `k`: above, previous in sweep order, next in sweep order -/
def cand (c : Cfg) (row : Nat) (fwd : Bool) (k : Nat) (pan : List Tgt) : List Tgt × Option Nat :=
  let p := posOf c.W fwd k
  let a := fromAbove c row p pan c.max2x2
  let b := stepNb c row p (k == 0) (posOf c.W fwd (k - 1)) a
  stepNb c row p (k + 1 == c.W) (posOf c.W fwd (k + 1)) b

theorem pixel_eq (c : Cfg) (tg : Nat → Nat → Bool) (row : Nat) (fwd : Bool) (s : LineSt) (k : Nat) :
    pixel c tg row fwd s k =
      if tg row (posOf c.W fwd k) then
        { pan := s.pan.set (posOf c.W fwd k) (some (row, posOf c.W fwd k)),
          lp := s.lp.set (posOf c.W fwd k) (some 0),
          nr := s.nr.set (posOf c.W fwd k) (some (row, posOf c.W fwd k)) }
      else update c s (posOf c.W fwd k) (cand c row fwd k s.pan).1 (cand c row fwd k s.pan).2 := rfl

/-- The candidate phase of pixel `p` after it has looked at the columns `S` of the memory `pan0`: only entry `p` has
    changed; it names a nearest target among those remembered at `S` that are below the bound, with its distance as the
    new bound -- or nothing, with the bound unchanged. -/
structure CandInv (c : Cfg) (row p : Nat) (pan0 : List Tgt) (S : Nat → Prop) (a : List Tgt × Option Nat) : Prop where
  len : a.1.length = pan0.length
  other : ∀ q, q ≠ p → a.1.getD q none = pan0.getD q none
  best : (a.1.getD p none = none ∧ a.2 = c.max2x2) ∨
    ∃ t, a.1.getD p none = some t ∧ a.2 = some (dT c row p t) ∧ ∃ q, S q ∧ pan0.getD q none = some t
  le : ∀ q t, S q → pan0.getD q none = some t → ltOpt (dT c row p t) a.2 = false

theorem ltOpt_self (d : Nat) : ltOpt d (some d) = false := by simp [ltOpt]

theorem ltOpt_trans {e d : Nat} {n : Option Nat} (h : ltOpt e n = false) (hd : ltOpt d n = true) :
    ltOpt e (some d) = false := by
  cases n with
  | none => cases h
  | some b => simp [ltOpt] at h hd ⊢; omega

theorem fromAbove_inv (c : Cfg) (row p : Nat) (pan : List Tgt) (hp : p < pan.length) :
    CandInv c row p pan (· = p) (fromAbove c row p pan c.max2x2) := by
  unfold fromAbove
  cases h : pan.getD p none with
  | none => exact ⟨rfl, fun _ _ => rfl, .inl ⟨h, rfl⟩, fun q t hq ht => by subst hq; rw [h] at ht; cases ht⟩
  | some t =>
    dsimp only
    split
    · exact ⟨rfl, fun _ _ => rfl, .inr ⟨t, h, rfl, p, rfl, h⟩,
        fun q t' hq ht => by subst hq; rw [h] at ht; cases ht; exact ltOpt_self _⟩
    · rename_i hlt
      exact ⟨by simp, fun q hq => getD_set_ne _ _ _ _ _ (Ne.symm hq), .inl ⟨getD_set_same _ _ _ _ hp, rfl⟩,
        fun q t' hq ht => by subst hq; rw [h] at ht; cases ht; simpa [dT] using hlt⟩

theorem CandInv.congr {c : Cfg} {row p : Nat} {pan0 : List Tgt} {S S' : Nat → Prop} {a : List Tgt × Option Nat}
    (h : CandInv c row p pan0 S a) (hS : ∀ x, S x ↔ S' x) : CandInv c row p pan0 S' a :=
  ⟨h.len, h.other, h.best.imp id (fun ⟨t, h1, h2, x, hx, h3⟩ => ⟨t, h1, h2, x, (hS x).1 hx, h3⟩),
    fun x t hx => h.le x t ((hS x).2 hx)⟩

theorem stepNb_inv {c : Cfg} {row p : Nat} {pan0 : List Tgt} {S : Nat → Prop} {a : List Tgt × Option Nat}
    (h : CandInv c row p pan0 S a) (hp : p < pan0.length) (skip : Bool) (q : Nat) (hq : skip = false → q ≠ p) :
    CandInv c row p pan0 (fun x => S x ∨ (skip = false ∧ x = q)) (stepNb c row p skip q a) := by
  unfold stepNb
  cases skip with
  | true => exact h.congr fun x => ⟨.inl, fun hx => hx.elim id fun hx => by cases hx.1⟩
  | false =>
    have hqp := hq rfl
    have hq0 : a.1.getD q none = pan0.getD q none := h.other q hqp
    rw [if_neg Bool.false_ne_true, fromNeighbour, hq0]
    -- nothing adopted: the invariant holds for the larger set as soon as the new column offers nothing nearer
    have keep : (∀ t, pan0.getD q none = some t → ltOpt (dT c row p t) a.2 = false) →
        CandInv c row p pan0 (fun x => S x ∨ (false = false ∧ x = q)) a := fun hle =>
      ⟨h.len, h.other, h.best.imp id (fun ⟨t, h1, h2, x, hx, h3⟩ => ⟨t, h1, h2, x, .inl hx, h3⟩),
        fun x t hx ht => hx.elim (fun hx => h.le x t hx ht) (fun hx => by rw [hx.2] at ht; exact hle t ht)⟩
    cases hm : pan0.getD q none with
    | none => exact keep (fun t ht => by rw [hm] at ht; cases ht)
    | some t =>
      dsimp only
      split
      · rename_i hlt
        refine ⟨by simp [h.len], fun x hx => (getD_set_ne _ _ _ _ _ (Ne.symm hx)).trans (h.other x hx),
          .inr ⟨t, getD_set_same _ _ _ _ (by rw [h.len]; exact hp), rfl, q, .inr ⟨rfl, rfl⟩, hm⟩, fun x t' hx ht => ?_⟩
        rcases hx with hx | hx
        · exact ltOpt_trans (h.le x t' hx ht) hlt
        · rw [hx.2, hm] at ht; cases ht; exact ltOpt_self _
      · rename_i hlt
        exact keep (fun t' ht => by rw [hm] at ht; cases ht; simpa [dT] using hlt)

def Looks (W : Nat) (fwd : Bool) (k q : Nat) : Prop :=
  q = posOf W fwd k ∨ (0 < k ∧ q = posOf W fwd (k - 1)) ∨ (k + 1 < W ∧ q = posOf W fwd (k + 1))

theorem cand_inv (c : Cfg) (row : Nat) (fwd : Bool) (k : Nat) (pan : List Tgt) (hk : k < c.W) (hlen : pan.length = c.W) :
    CandInv c row (posOf c.W fwd k) pan (Looks c.W fwd k) (cand c row fwd k pan) := by
  have hp : posOf c.W fwd k < pan.length := by rw [hlen]; exact posOf_lt _ _ _ hk
  refine (stepNb_inv (stepNb_inv (fromAbove_inv c row _ pan hp) hp (k == 0) (posOf c.W fwd (k - 1))
      (fun h e => by have := posOf_inj c.W fwd (k - 1) k (by omega) hk e; simp at h; omega)) hp (k + 1 == c.W)
      (posOf c.W fwd (k + 1))
    (fun h e => by simp at h; have := posOf_inj c.W fwd (k + 1) k (by omega) hk e; omega)).congr (fun x => ?_)
  simp only [Looks, beq_eq_false_iff_ne, ne_eq, or_assoc]
  constructor <;> rintro (h | h | h) <;> simp [h] <;> omega

theorem CandInv.dist {c : Cfg} {row p : Nat} {pan0 : List Tgt} {S : Nat → Prop} {a : List Tgt × Option Nat}
    (h : CandInv c row p pan0 S a) {t : Nat × Nat} (ht : a.1.getD p none = some t) : a.2 = some (dT c row p t) := by
  rcases h.best with ⟨hn, _⟩ | ⟨t', h1, h2, _⟩
  · rw [hn] at ht; cases ht
  · rw [h1] at ht; cases ht; exact h2

/-- a candidate below the bound is never lost -/
theorem CandInv.adopts {c : Cfg} {row p : Nat} {pan0 : List Tgt} {S : Nat → Prop} {a : List Tgt × Option Nat}
    (h : CandInv c row p pan0 S a) {q : Nat} {t : Nat × Nat} (hq : S q) (ht : pan0.getD q none = some t)
    (hb : ltOpt (dT c row p t) c.max2x2 = true) :
    ∃ t', a.1.getD p none = some t' ∧ a.2 = some (dT c row p t') ∧ dT c row p t' ≤ dT c row p t := by
  have hle := h.le q t hq ht
  rcases h.best with ⟨_, hn⟩ | ⟨t', h1, h2, _⟩
  · rw [hn, hb] at hle; cases hle
  · rw [h2] at hle
    exact ⟨t', h1, h2, by simpa [ltOpt] using hle⟩

/-! ### "Update our proximity value." -/

theorem update_cases (c : Cfg) (s : LineSt) (p : Nat) (pan : List Tgt) (nds : Option Nat) :
    (∃ t d, pan.getD p none = some t ∧ nds = some d ∧ withinMax c d = true ∧ better s.lp p d = true ∧
        update c s p pan nds = { pan := pan, lp := s.lp.set p (some d), nr := s.nr.set p (some t) }) ∨
    (update c s p pan nds = { pan := pan, lp := s.lp, nr := s.nr } ∧
      ∀ t d, pan.getD p none = some t → nds = some d → (withinMax c d && better s.lp p d) = false) := by
  unfold update
  cases hpan : pan.getD p none with
  | none => right; exact ⟨rfl, fun t d h => by cases h⟩
  | some t =>
    cases nds with
    | none => right; exact ⟨rfl, fun t d _ h => by cases h⟩
    | some d =>
      by_cases hc : (withinMax c d && better s.lp p d) = true
      · left
        refine ⟨t, d, rfl, rfl, ?_, ?_, ?_⟩
        · simp only [Bool.and_eq_true] at hc; exact hc.1
        · simp only [Bool.and_eq_true] at hc; exact hc.2
        · simp only [hc, if_true]
      · right
        refine ⟨by simp only [hc]; rfl, fun t' d' h1 h2 => ?_⟩
        cases h1; cases h2
        simpa using hc

def IsTarget (c : Cfg) (tg : Nat → Nat → Bool) (t : Nat × Nat) : Prop :=
  tg t.1 t.2 = true ∧ t.1 < c.H ∧ t.2 < c.W

def TOK (c : Cfg) (tg : Nat → Nat → Bool) (l : List Tgt) : Prop :=
  ∀ p t, l.getD p none = some t → IsTarget c tg t

theorem TOK_replicate (c : Cfg) (tg : Nat → Nat → Bool) (n : Nat) : TOK c tg (List.replicate n none) := by
  intro p t h
  rw [getD_replicate_none] at h; cases h

theorem TOK_set_some (c : Cfg) (tg : Nat → Nat → Bool) (l : List Tgt) (p : Nat) (t : Nat × Nat)
    (h : TOK c tg l) (ht : IsTarget c tg t) : TOK c tg (l.set p (some t)) := by
  intro q t' hq
  by_cases hpq : p = q
  · subst hpq
    by_cases hlt : p < l.length
    · rw [getD_set_same _ _ _ _ hlt] at hq; cases hq; exact ht
    · rw [getD_of_le _ _ _ (by simp; omega)] at hq; cases hq
  · rw [getD_set_ne _ _ _ _ _ hpq] at hq; exact h q t' hq

theorem CandInv.tok {c : Cfg} {tg : Nat → Nat → Bool} {row p : Nat} {pan0 : List Tgt} {S : Nat → Prop}
    {a : List Tgt × Option Nat} (h : CandInv c row p pan0 S a) (ht : TOK c tg pan0) : TOK c tg a.1 := by
  intro q t hq
  by_cases hqp : q = p
  · subst hqp
    rcases h.best with ⟨hn, _⟩ | ⟨t', h1, _, x, _, hx⟩
    · rw [hn] at hq; cases hq
    · rw [h1] at hq; cases hq; exact ht x _ hx
  · rw [h.other q hqp] at hq; exact ht q t hq

theorem sweepN_induct (c : Cfg) (tg : Nat → Nat → Bool) (row : Nat) (fwd : Bool) (P : Nat → LineSt → Prop)
    (hstep : ∀ n s, n < c.W → P n s → P (n + 1) (pixel c tg row fwd s n)) (s0 : LineSt) (h : P 0 s0) :
    ∀ n, n ≤ c.W → P n (sweepN c tg row fwd s0 n) := by
  intro n
  induction n with
  | zero => intro _; exact h
  | succ n ih => intro hn; exact hstep n _ (by omega) (ih (by omega))

/-! ### lengths and real targets only (no assumption on the metric) -/

structure LOK (c : Cfg) (tg : Nat → Nat → Bool) (s : LineSt) : Prop where
  lpan : s.pan.length = c.W
  llp : s.lp.length = c.W
  lnr : s.nr.length = c.W
  tok : TOK c tg s.pan

theorem pixel_LOK (c : Cfg) (tg : Nat → Nat → Bool) (row : Nat) (fwd : Bool) (s : LineSt) (k : Nat)
    (hrow : row < c.H) (hk : k < c.W) (h : LOK c tg s) : LOK c tg (pixel c tg row fwd s k) := by
  have hp : posOf c.W fwd k < c.W := posOf_lt _ _ _ hk
  have ci := cand_inv c row fwd k s.pan hk h.lpan
  rw [pixel_eq]
  split
  · rename_i htg
    exact ⟨by simp [h.lpan], by simp [h.llp], by simp [h.lnr], TOK_set_some _ _ _ _ _ h.tok ⟨htg, hrow, hp⟩⟩
  · rcases update_cases c s (posOf c.W fwd k) (cand c row fwd k s.pan).1 (cand c row fwd k s.pan).2 with
      ⟨t, d, _, _, _, _, heq⟩ | ⟨heq, _⟩
    · rw [heq]; exact ⟨ci.len.trans h.lpan, by simp [h.llp], by simp [h.lnr], ci.tok h.tok⟩
    · rw [heq]; exact ⟨ci.len.trans h.lpan, h.llp, h.lnr, ci.tok h.tok⟩

theorem sweepN_LOK (c : Cfg) (tg : Nat → Nat → Bool) (row : Nat) (fwd : Bool) (s0 : LineSt)
    (hrow : row < c.H) (h : LOK c tg s0) : ∀ n, n ≤ c.W → LOK c tg (sweepN c tg row fwd s0 n) :=
  sweepN_induct c tg row fwd (fun _ => LOK c tg) (fun n s hn hs => pixel_LOK c tg row fwd s n hrow hn hs) s0 h

theorem sweep_LOK (c : Cfg) (tg : Nat → Nat → Bool) (row : Nat) (fwd : Bool) (pan : List Tgt) (lp : List (Option Nat))
    (hrow : row < c.H) (hpan : pan.length = c.W) (htok : TOK c tg pan) (hlp : lp.length = c.W) :
    LOK c tg (sweep c tg row fwd pan lp) :=
  sweepN_LOK c tg row fwd _ hrow ⟨hpan, hlp, by simp, htok⟩ c.W (Nat.le_refl _)

/-- a line is sound: every defined squared proximity is the distance to the target `cur` names, that target is
    real and within `max_distance`; an undefined proximity comes with no target -/
def Snd (c : Cfg) (tg : Nat → Nat → Bool) (row : Nat) (lp : List (Option Nat)) (cur : Nat → Tgt) : Prop :=
  ∀ p, p < c.W →
    (∀ d, lp.getD p none = some d →
      ∃ t, cur p = some t ∧ IsTarget c tg t ∧ d = dT c row p t ∧ withinMax c d = true) ∧
    (lp.getD p none = none → cur p = none)

/-- the invariant of a sweep over line `row`; `al` = `output_img[row]` before the sweep -/
structure SOK (c : Cfg) (tg : Nat → Nat → Bool) (row : Nat) (al : List Tgt) (s : LineSt) : Prop
    extends LOK c tg s where
  snd : Snd c tg row s.lp (curOf al s.nr)

/-- `dist(x, x) = 0` (true for the planar metrics and for great-circle) -/
def Cfg.Refl (c : Cfg) : Prop := ∀ r p, dist2 c r p r p = 0

theorem withinMax_zero (c : Cfg) : withinMax c 0 = true := by
  unfold withinMax
  cases c.max2x2 <;> simp

theorem Snd_set {c : Cfg} {tg : Nat → Nat → Bool} {row : Nat} {lp : List (Option Nat)} {al nr : List Tgt} {p : Nat}
    (h : Snd c tg row lp (curOf al nr)) (hlp : p < lp.length) (hnr : p < nr.length) {t : Nat × Nat} {d : Nat}
    (hT : IsTarget c tg t) (hd : d = dT c row p t) (hw : withinMax c d = true) :
    Snd c tg row (lp.set p (some d)) (curOf al (nr.set p (some t))) := by
  intro q hq
  by_cases hqp : p = q
  · subst hqp
    rw [getD_set_same _ _ _ _ hlp, curOf_set_eq _ _ _ _ hnr]
    exact ⟨fun d' hd' => by cases hd'; exact ⟨t, rfl, hT, hd, hw⟩, fun hn => by cases hn⟩
  · rw [getD_set_ne _ _ _ _ _ hqp, curOf_set_ne _ _ _ _ _ hqp]
    exact h q hq

theorem pixel_SOK (c : Cfg) (tg : Nat → Nat → Bool) (row : Nat) (fwd : Bool) (al : List Tgt) (s : LineSt) (k : Nat)
    (hrefl : c.Refl) (hrow : row < c.H) (hk : k < c.W) (h : SOK c tg row al s) :
    SOK c tg row al (pixel c tg row fwd s k) := by
  have hp : posOf c.W fwd k < c.W := posOf_lt _ _ _ hk
  have ci := cand_inv c row fwd k s.pan hk h.lpan
  refine ⟨pixel_LOK c tg row fwd s k hrow hk h.toLOK, ?_⟩
  rw [pixel_eq]
  split
  · rename_i htg
    exact Snd_set h.snd (by rw [h.llp]; exact hp) (by rw [h.lnr]; exact hp) ⟨htg, hrow, hp⟩
      (hrefl row _).symm (withinMax_zero c)
  · rcases update_cases c s (posOf c.W fwd k) (cand c row fwd k s.pan).1 (cand c row fwd k s.pan).2 with
      ⟨t, d, hpan, hnds, hwm, hbet, heq⟩ | ⟨heq, _⟩
    · -- the candidate is adopted
      rw [heq]
      exact Snd_set h.snd (by rw [h.llp]; exact hp) (by rw [h.lnr]; exact hp) (ci.tok h.tok _ t hpan)
        (Option.some.inj (hnds ▸ ci.dist hpan)) hwm
    · rw [heq]; exact h.snd

theorem sweepN_SOK (c : Cfg) (tg : Nat → Nat → Bool) (row : Nat) (fwd : Bool) (al : List Tgt) (s0 : LineSt)
    (hrefl : c.Refl) (hrow : row < c.H) (h : SOK c tg row al s0) :
    ∀ n, n ≤ c.W → SOK c tg row al (sweepN c tg row fwd s0 n) :=
  sweepN_induct c tg row fwd (fun _ => SOK c tg row al)
    (fun n s hn hs => pixel_SOK c tg row fwd al s n hrefl hrow hn hs) s0 h

/-- lines as kept between passes -/
structure RowSound (c : Cfg) (tg : Nat → Nat → Bool) (row : Nat) (o : RowOut) : Prop where
  llp : o.lp.length = c.W
  lal : o.al.length = c.W
  snd : Snd c tg row o.lp (fun p => o.al.getD p none)

theorem Snd_congr (c : Cfg) (tg : Nat → Nat → Bool) (row : Nat) (lp : List (Option Nat)) (f g : Nat → Tgt)
    (hfg : ∀ p, f p = g p) (h : Snd c tg row lp f) : Snd c tg row lp g := by
  intro p hp
  rw [← hfg p]; exact h p hp

theorem sweep_SOK (c : Cfg) (tg : Nat → Nat → Bool) (row : Nat) (fwd : Bool) (al pan : List Tgt)
    (lp : List (Option Nat)) (hrefl : c.Refl) (hrow : row < c.H)
    (hpan : pan.length = c.W) (htok : TOK c tg pan) (hlp : lp.length = c.W)
    (hs : Snd c tg row lp (fun p => al.getD p none)) :
    SOK c tg row al (sweep c tg row fwd pan lp) := by
  unfold sweep
  apply sweepN_SOK c tg row fwd al _ hrefl hrow _ c.W (Nat.le_refl _)
  exact ⟨⟨hpan, hlp, by simp, htok⟩, Snd_congr _ _ _ _ _ _ (fun p => (curOf_replicate al c.W p).symm) hs⟩

/-- the light invariant of both passes -/
def PL (c : Cfg) (tg : Nat → Nat → Bool) (pan : List Tgt) : Prop := pan.length = c.W ∧ TOK c tg pan

theorem PL_blank (c : Cfg) (tg : Nat → Nat → Bool) : PL c tg (List.replicate c.W none) :=
  ⟨by simp, TOK_replicate c tg _⟩

theorem rowStep_sound (c : Cfg) (tg : Nat → Nat → Bool) (fwdFirst : Bool) (row : Nat) (pan : List Tgt) (o : RowOut)
    (hrefl : c.Refl) (hrow : row < c.H) (hP : PL c tg pan) (ho : RowSound c tg row o) :
    PL c tg (rowStep c tg fwdFirst row pan o).1 ∧ RowSound c tg row (rowStep c tg fwdFirst row pan o).2 := by
  have h1 := sweep_SOK c tg row fwdFirst o.al pan o.lp hrefl hrow hP.1 hP.2 ho.llp ho.snd
  have hl1 : o.al.length = (sweep c tg row fwdFirst pan o.lp).nr.length := by rw [ho.lal, h1.lnr]
  have hs1 : Snd c tg row (sweep c tg row fwdFirst pan o.lp).lp
      (fun p => (mergeNr o.al (sweep c tg row fwdFirst pan o.lp).nr).getD p none) :=
    Snd_congr _ _ _ _ _ _ (fun p => (mergeNr_getD _ _ p hl1).symm) h1.snd
  have h2 := sweep_SOK c tg row (!fwdFirst) (mergeNr o.al (sweep c tg row fwdFirst pan o.lp).nr)
    (sweep c tg row fwdFirst pan o.lp).pan (sweep c tg row fwdFirst pan o.lp).lp hrefl hrow h1.lpan h1.tok h1.llp hs1
  have hl2 : (mergeNr o.al (sweep c tg row fwdFirst pan o.lp).nr).length =
      (sweep c tg row (!fwdFirst) (sweep c tg row fwdFirst pan o.lp).pan (sweep c tg row fwdFirst pan o.lp).lp).nr.length := by
    rw [mergeNr_length _ _ hl1, ho.lal, h2.lnr]
  refine ⟨⟨h2.lpan, h2.tok⟩, ⟨h2.llp, ?_, ?_⟩⟩
  · show (mergeNr _ _).length = c.W
    rw [mergeNr_length _ _ hl2, mergeNr_length _ _ hl1, ho.lal]
  · exact Snd_congr _ _ _ _ _ _ (fun p => (mergeNr_getD _ _ p hl2).symm) h2.snd

theorem getD_snoc {α} (l : List α) (x d : α) (i : Nat) : (l ++ [x]).getD i d = if i = l.length then x else l.getD i d := by
  rcases Nat.lt_trichotomy i l.length with h | h | h
  · simp [List.getD, List.getElem?_append_left h, Nat.ne_of_lt h]
  · simp [List.getD, h]
  · rw [if_neg (Nat.ne_of_gt h), getD_of_le _ _ _ (Nat.le_of_lt h), getD_of_le _ _ _ (by rw [List.length_append]; exact h)]

theorem tdN_succ (c : Cfg) (tg : Nat → Nat → Bool) (n : Nat) :
    tdN c tg (n + 1) = ((rowStep c tg true n (tdN c tg n).1 (blankRow c)).1,
      (tdN c tg n).2 ++ [(rowStep c tg true n (tdN c tg n).1 (blankRow c)).2]) := rfl

theorem buN_succ (c : Cfg) (tg : Nat → Nat → Bool) (td : List RowOut) (n : Nat) :
    buN c tg td (n + 1) = ((rowStep c tg false (c.H - 1 - n) (buN c tg td n).1 (td.getD (c.H - 1 - n) (blankRow c))).1,
      (rowStep c tg false (c.H - 1 - n) (buN c tg td n).1 (td.getD (c.H - 1 - n) (blankRow c))).2 :: (buN c tg td n).2) := rfl

theorem tdN_length (c : Cfg) (tg : Nat → Nat → Bool) : ∀ n, (tdN c tg n).2.length = n
  | 0 => rfl
  | n + 1 => by rw [tdN_succ, List.length_append, tdN_length c tg n]; rfl

theorem buN_length (c : Cfg) (tg : Nat → Nat → Bool) (td : List RowOut) : ∀ n, (buN c tg td n).2.length = n
  | 0 => rfl
  | n + 1 => by rw [buN_succ, List.length_cons, buN_length c tg td n]

/-- line `r` as `n` lines of the top-down pass leave it: blank while it is not done -/
def tdRow (c : Cfg) (tg : Nat → Nat → Bool) (n r : Nat) : RowOut := (tdN c tg n).2.getD r (blankRow c)

theorem tdRow_succ (c : Cfg) (tg : Nat → Nat → Bool) (n r : Nat) :
    tdRow c tg (n + 1) r = if r = n then (rowStep c tg true n (tdN c tg n).1 (blankRow c)).2 else tdRow c tg n r := by
  rw [tdRow, tdN_succ, getD_snoc, tdN_length]; rfl

theorem tdRow_ge (c : Cfg) (tg : Nat → Nat → Bool) {n r : Nat} (h : n ≤ r) : tdRow c tg n r = blankRow c :=
  getD_of_le _ _ _ (by rw [tdN_length]; exact h)

/-- line `r` as the top-down pass (lines `td`) and then the last `k` lines of the bottom-up pass leave it -/
def buRow (c : Cfg) (tg : Nat → Nat → Bool) (td : List RowOut) (k r : Nat) : RowOut :=
  if c.H - k ≤ r then (buN c tg td k).2.getD (r - (c.H - k)) (blankRow c) else td.getD r (blankRow c)

theorem buRow_lt (c : Cfg) (tg : Nat → Nat → Bool) (td : List RowOut) {k r : Nat} (h : r < c.H - k) :
    buRow c tg td k r = td.getD r (blankRow c) := if_neg (by omega)

theorem buRow_succ (c : Cfg) (tg : Nat → Nat → Bool) (td : List RowOut) {k : Nat} (hk : k < c.H) (r : Nat) :
    buRow c tg td (k + 1) r =
      if r = c.H - 1 - k then (rowStep c tg false (c.H - 1 - k) (buN c tg td k).1 (td.getD (c.H - 1 - k) (blankRow c))).2
      else buRow c tg td k r := by
  have e1 : c.H - (k + 1) = c.H - 1 - k := by omega
  have e2 : c.H - k = c.H - 1 - k + 1 := by omega
  unfold buRow
  rw [buN_succ, e1, e2]
  generalize c.H - 1 - k = n
  rcases Nat.lt_trichotomy r n with h | h | h
  · rw [if_neg (Nat.not_le_of_lt h), if_neg (Nat.ne_of_lt h), if_neg (by omega)]
  · rw [if_pos (Nat.le_of_eq h.symm), if_pos h, h, Nat.sub_self]; rfl
  · rw [if_pos (Nat.le_of_lt h), if_neg (Nat.ne_of_gt h), if_pos (Nat.succ_le_of_lt h), show r - n = r - (n + 1) + 1 by omega]; rfl

theorem rowAt_run (c : Cfg) (tg : Nat → Nat → Bool) {r : Nat} (hr : r < c.H) :
    rowAt (run c tg) r = buRow c tg (tdN c tg c.H).2 c.H r := by
  rw [buRow, if_pos (by omega), Nat.sub_self, Nat.sub_zero]
  exact getD_default_irrel _ _ _ _ (by rw [run, buN_length]; exact hr)

/-- top-down pass: `P n` holds for the column memory after `n` lines, `Q i` for line `i` once it is done -/
theorem tdN_rows (c : Cfg) (tg : Nat → Nat → Bool) (P : Nat → List Tgt → Prop) (Q : Nat → RowOut → Prop)
    (h0 : P 0 (List.replicate c.W none))
    (hstep : ∀ n pan, n < c.H → P n pan →
      P (n + 1) (rowStep c tg true n pan (blankRow c)).1 ∧ Q n (rowStep c tg true n pan (blankRow c)).2) :
    ∀ n, n ≤ c.H → P n (tdN c tg n).1 ∧ ∀ i, i < n → Q i (tdRow c tg n i) := by
  intro n
  induction n with
  | zero => exact fun _ => ⟨h0, fun i hi => absurd hi (Nat.not_lt_zero i)⟩
  | succ n ih =>
    intro hn
    obtain ⟨hP, hQ⟩ := ih (by omega)
    have hs := hstep n _ (by omega) hP
    refine ⟨hs.1, fun i hi => ?_⟩
    rw [tdRow_succ]
    split
    · next h => rw [h]; exact hs.2
    · next h => exact hQ i (by omega)

/-- bottom-up pass: `Q r` for line `r` once the pass has done it -/
theorem buN_rows (c : Cfg) (tg : Nat → Nat → Bool) (td : List RowOut) (P : Nat → List Tgt → Prop) (Q : Nat → RowOut → Prop)
    (h0 : P 0 (List.replicate c.W none))
    (hstep : ∀ n pan, n < c.H → P n pan →
      P (n + 1) (rowStep c tg false (c.H - 1 - n) pan (td.getD (c.H - 1 - n) (blankRow c))).1 ∧
      Q (c.H - 1 - n) (rowStep c tg false (c.H - 1 - n) pan (td.getD (c.H - 1 - n) (blankRow c))).2) :
    ∀ n, n ≤ c.H → P n (buN c tg td n).1 ∧ ∀ r, c.H - n ≤ r → r < c.H → Q r (buRow c tg td n r) := by
  intro n
  induction n with
  | zero => exact fun _ => ⟨h0, fun r h1 h2 => by omega⟩
  | succ n ih =>
    intro hn
    obtain ⟨hP, hQ⟩ := ih (by omega)
    have hs := hstep n _ (by omega) hP
    refine ⟨hs.1, fun r h1 h2 => ?_⟩
    rw [buRow_succ c tg td (by omega)]
    split
    · next h => rw [h]; exact hs.2
    · next h => exact hQ r (by omega) h2

/-- both passes: a property `Q2` of every line of the result, from per-line steps -/
theorem run_rows (c : Cfg) (tg : Nat → Nat → Bool)
    (P1 : Nat → List Tgt → Prop) (Q1 : Nat → RowOut → Prop) (P2 : Nat → List Tgt → Prop) (Q2 : Nat → RowOut → Prop)
    (h01 : P1 0 (List.replicate c.W none))
    (hs1 : ∀ n pan, n < c.H → P1 n pan →
      P1 (n + 1) (rowStep c tg true n pan (blankRow c)).1 ∧ Q1 n (rowStep c tg true n pan (blankRow c)).2)
    (h02 : P2 0 (List.replicate c.W none))
    (hs2 : ∀ n pan o, n < c.H → P2 n pan → Q1 (c.H - 1 - n) o →
      P2 (n + 1) (rowStep c tg false (c.H - 1 - n) pan o).1 ∧ Q2 (c.H - 1 - n) (rowStep c tg false (c.H - 1 - n) pan o).2) :
    ∀ r, r < c.H → Q2 r (rowAt (run c tg) r) := by
  intro r hr
  have td := tdN_rows c tg P1 Q1 h01 hs1 c.H (Nat.le_refl _)
  rw [rowAt_run c tg hr]
  exact (buN_rows c tg (tdN c tg c.H).2 P2 Q2 h02
    (fun n pan hn hP => hs2 n pan _ hn hP (td.2 (c.H - 1 - n) (by omega))) c.H (Nat.le_refl _)).2 r (by omega) hr

theorem RowSound_blank (c : Cfg) (tg : Nat → Nat → Bool) (row : Nat) : RowSound c tg row (blankRow c) := by
  refine ⟨by simp [blankRow], by simp [blankRow], fun p hp => ⟨fun d hd => ?_, fun _ => ?_⟩⟩
  · simp only [blankRow] at hd; rw [getD_replicate_none] at hd; cases hd
  · simp only [blankRow]; exact getD_replicate_none _ _

theorem run_sound (c : Cfg) (tg : Nat → Nat → Bool) (hrefl : c.Refl) :
    ∀ r, r < c.H → RowSound c tg r (rowAt (run c tg) r) :=
  run_rows c tg (fun _ => PL c tg) (RowSound c tg) (fun _ => PL c tg) (RowSound c tg) (PL_blank c tg)
    (fun n pan hn hP => rowStep_sound c tg true n pan (blankRow c) hrefl hn hP (RowSound_blank c tg n)) (PL_blank c tg)
    (fun n pan o hn hP ho => rowStep_sound c tg false (c.H - 1 - n) pan o hrefl (by omega) hP ho)

/-- What a cell of the result holds: NaN in both arrays, or a real target within `max_distance` together with the
    distance to that very target. -/
theorem run_cell_cases (c : Cfg) (tg : Nat → Nat → Bool) (hrefl : c.Refl) (r p : Nat) (hr : r < c.H) (hp : p < c.W) :
    (proxAt (run c tg) r p = none ∧ allocAt (run c tg) r p = none) ∨
    ∃ t, IsTarget c tg t ∧ withinMax c (dT c r p t) = true ∧
      proxAt (run c tg) r p = some (dT c r p t) ∧ allocAt (run c tg) r p = some t := by
  obtain ⟨h1, h2⟩ := (run_sound c tg hrefl r hr).snd p hp
  cases hd : proxAt (run c tg) r p with
  | none => exact Or.inl ⟨rfl, h2 hd⟩
  | some d =>
    obtain ⟨t, ht, hT, rfl, hw⟩ := h1 d hd
    exact Or.inr ⟨t, hT, hw, rfl, ht⟩

/-! ### a defined proximity only ever decreases -/

theorem pixel_pan_other (c : Cfg) (tg : Nat → Nat → Bool) (row : Nat) (fwd : Bool) (s : LineSt) (k q : Nat)
    (hk : k < c.W) (hl : s.pan.length = c.W) (hq : q ≠ posOf c.W fwd k) :
    (pixel c tg row fwd s k).pan.getD q none = s.pan.getD q none := by
  rw [pixel_eq]
  split
  · exact getD_set_ne _ _ _ _ _ (Ne.symm hq)
  · rcases update_cases c s (posOf c.W fwd k) (cand c row fwd k s.pan).1 (cand c row fwd k s.pan).2 with
      ⟨t, d, _, _, _, _, heq⟩ | ⟨heq, _⟩ <;> rw [heq] <;> exact (cand_inv c row fwd k s.pan hk hl).other q hq

theorem pixel_lp_mono (c : Cfg) (tg : Nat → Nat → Bool) (row : Nat) (fwd : Bool) (s : LineSt) (k q d : Nat)
    (h : s.lp.getD q none = some d) : ∃ d', (pixel c tg row fwd s k).lp.getD q none = some d' ∧ d' ≤ d := by
  have hql : q < s.lp.length := by
    apply Classical.byContradiction; intro hn
    rw [getD_of_le _ _ _ (by omega)] at h; cases h
  rw [pixel_eq]
  split
  · dsimp only
    by_cases hqp : posOf c.W fwd k = q
    · subst hqp
      rw [getD_set_same _ _ _ _ hql]; exact ⟨0, rfl, Nat.zero_le _⟩
    · rw [getD_set_ne _ _ _ _ _ hqp]; exact ⟨d, h, Nat.le_refl _⟩
  · rcases update_cases c s (posOf c.W fwd k) (cand c row fwd k s.pan).1 (cand c row fwd k s.pan).2 with
      ⟨t, d1, _, _, _, hbet, heq⟩ | ⟨heq, _⟩
    · rw [heq]
      dsimp only
      by_cases hqp : posOf c.W fwd k = q
      · subst hqp
        rw [getD_set_same _ _ _ _ hql]
        refine ⟨d1, rfl, ?_⟩
        unfold better at hbet
        rw [h] at hbet
        simp at hbet; omega
      · rw [getD_set_ne _ _ _ _ _ hqp]; exact ⟨d, h, Nat.le_refl _⟩
    · rw [heq]; exact ⟨d, h, Nat.le_refl _⟩

theorem sweepN_lp_mono (c : Cfg) (tg : Nat → Nat → Bool) (row : Nat) (fwd : Bool) (s0 : LineSt) (q : Nat) :
    ∀ m n d, n ≤ m → (sweepN c tg row fwd s0 n).lp.getD q none = some d →
      ∃ d', (sweepN c tg row fwd s0 m).lp.getD q none = some d' ∧ d' ≤ d := by
  intro m
  induction m with
  | zero =>
    intro n d hn h
    have : n = 0 := by omega
    subst this; exact ⟨d, h, Nat.le_refl _⟩
  | succ m ih =>
    intro n d hn h
    by_cases hnm : n = m + 1
    · subst hnm; exact ⟨d, h, Nat.le_refl _⟩
    · obtain ⟨d1, h1, hle1⟩ := ih n d (by omega) h
      obtain ⟨d2, h2, hle2⟩ := pixel_lp_mono c tg row fwd (sweepN c tg row fwd s0 m) m q d1 h1
      exact ⟨d2, h2, by omega⟩

theorem sweep_lp_mono (c : Cfg) (tg : Nat → Nat → Bool) (row : Nat) (fwd : Bool) (pan : List Tgt)
    (lp : List (Option Nat)) (q d : Nat) (h : lp.getD q none = some d) :
    ∃ d', (sweep c tg row fwd pan lp).lp.getD q none = some d' ∧ d' ≤ d :=
  sweepN_lp_mono c tg row fwd _ q c.W 0 d (Nat.zero_le _) h

theorem rowStep_lp_mono (c : Cfg) (tg : Nat → Nat → Bool) (fwdFirst : Bool) (row : Nat) (pan : List Tgt) (o : RowOut)
    (q d : Nat) (h : o.lp.getD q none = some d) :
    ∃ d', (rowStep c tg fwdFirst row pan o).2.lp.getD q none = some d' ∧ d' ≤ d := by
  obtain ⟨d1, h1, hle1⟩ := sweep_lp_mono c tg row fwdFirst pan o.lp q d h
  obtain ⟨d2, h2, hle2⟩ := sweep_lp_mono c tg row (!fwdFirst) (sweep c tg row fwdFirst pan o.lp).pan _ q d1 h1
  exact ⟨d2, h2, by omega⟩

theorem sweep_zero (c : Cfg) (tg : Nat → Nat → Bool) (row : Nat) (fwd : Bool) (pan : List Tgt)
    (lp : List (Option Nat)) (hrow : row < c.H) (hpan : pan.length = c.W) (htok : TOK c tg pan) (hlp : lp.length = c.W)
    (p : Nat) (hp : p < c.W) (htg : tg row p = true) :
    (sweep c tg row fwd pan lp).lp.getD p none = some 0 := by
  obtain ⟨k, hk, hpk⟩ := posOf_surj c.W fwd p hp
  have hL := sweepN_LOK c tg row fwd { pan := pan, lp := lp, nr := List.replicate c.W none } hrow
    ⟨hpan, hlp, by simp, htok⟩ k (by omega)
  have h1 : (sweepN c tg row fwd { pan := pan, lp := lp, nr := List.replicate c.W none } (k + 1)).lp.getD p none = some 0 := by
    show (pixel c tg row fwd _ k).lp.getD p none = some 0
    rw [pixel_eq, hpk, htg]
    simp only [if_true]
    exact getD_set_same _ _ _ _ (by rw [hL.llp]; exact hp)
  obtain ⟨d', h2, hle⟩ := sweepN_lp_mono c tg row fwd _ p c.W (k + 1) 0 (by omega) h1
  have : d' = 0 := by omega
  subst this; exact h2

theorem rowStep_LOK (c : Cfg) (tg : Nat → Nat → Bool) (fwdFirst : Bool) (row : Nat) (pan : List Tgt) (o : RowOut)
    (hrow : row < c.H) (hP : PL c tg pan) (hlp : o.lp.length = c.W) :
    PL c tg (rowStep c tg fwdFirst row pan o).1 ∧ (rowStep c tg fwdFirst row pan o).2.lp.length = c.W := by
  have h1 := sweep_LOK c tg row fwdFirst pan o.lp hrow hP.1 hP.2 hlp
  have h2 := sweep_LOK c tg row (!fwdFirst) _ _ hrow h1.lpan h1.tok h1.llp
  exact ⟨⟨h2.lpan, h2.tok⟩, h2.llp⟩

theorem rowStep_zero (c : Cfg) (tg : Nat → Nat → Bool) (fwdFirst : Bool) (row : Nat) (pan : List Tgt) (o : RowOut)
    (hrow : row < c.H) (hpan : pan.length = c.W) (htok : TOK c tg pan) (hlp : o.lp.length = c.W)
    (p : Nat) (hp : p < c.W) (htg : tg row p = true) :
    (rowStep c tg fwdFirst row pan o).2.lp.getD p none = some 0 := by
  have h1 := sweep_LOK c tg row fwdFirst pan o.lp hrow hpan htok hlp
  exact sweep_zero c tg row (!fwdFirst) _ _ hrow h1.lpan h1.tok h1.llp p hp htg

theorem run_zero (c : Cfg) (tg : Nat → Nat → Bool) (r p : Nat) (hr : r < c.H) (hp : p < c.W)
    (htg : tg r p = true) : proxAt (run c tg) r p = some 0 := by
  have := run_rows c tg (fun _ pan => PL c tg pan) (fun _ o => o.lp.length = c.W)
    (fun _ pan => PL c tg pan) (fun row o => ∀ p, p < c.W → tg row p = true → o.lp.getD p none = some 0)
    (PL_blank c tg)
    (fun n pan hn hP => rowStep_LOK c tg true n pan (blankRow c) hn hP (by simp [blankRow]))
    (PL_blank c tg)
    (fun n pan o hn hP ho => ⟨(rowStep_LOK c tg false (c.H - 1 - n) pan o (by omega) hP ho).1,
      fun p hp htg => rowStep_zero c tg false _ pan o (by omega) hP.1 hP.2 ho p hp htg⟩)
    r hr
  exact this p hp htg

/-! ### how a remembered target spreads: along a line, then down (up) a column -/

/-- every real target is below the `2·max²` bound at (row, q): the memory is never reset there -/
def Good (c : Cfg) (tg : Nat → Nat → Bool) (row q : Nat) : Prop :=
  ∀ t, IsTarget c tg t → ltOpt (dT c row q t) c.max2x2 = true

def Good2 (c : Cfg) (tg : Nat → Nat → Bool) (row q : Nat) : Prop :=
  ∀ t, IsTarget c tg t → withinMax c (dT c row q t) = true

theorem pixel_fill (c : Cfg) (tg : Nat → Nat → Bool) (row : Nat) (fwd : Bool) (s : LineSt) (k : Nat)
    (hk : k < c.W) (h : LOK c tg s) (hG : Good c tg row (posOf c.W fwd k))
    (hsrc : (∃ q t, Looks c.W fwd k q ∧ s.pan.getD q none = some t) ∨ tg row (posOf c.W fwd k) = true) :
    (∃ t, (pixel c tg row fwd s k).pan.getD (posOf c.W fwd k) none = some t) ∧
    (Good2 c tg row (posOf c.W fwd k) → ∃ d, (pixel c tg row fwd s k).lp.getD (posOf c.W fwd k) none = some d) := by
  have hp : posOf c.W fwd k < c.W := posOf_lt _ _ _ hk
  have ci := cand_inv c row fwd k s.pan hk h.lpan
  rw [pixel_eq]
  split
  · exact ⟨⟨_, getD_set_same _ _ _ _ (by rw [h.lpan]; exact hp)⟩, fun _ => ⟨0, getD_set_same _ _ _ _ (by rw [h.llp]; exact hp)⟩⟩
  · rename_i htg
    obtain ⟨q, t, hq, ht⟩ := hsrc.resolve_right htg
    obtain ⟨t', hc1, hc2, _⟩ := ci.adopts hq ht (hG t (h.tok _ t ht))
    rcases update_cases c s (posOf c.W fwd k) (cand c row fwd k s.pan).1 (cand c row fwd k s.pan).2 with
      ⟨t2, d2, _, _, _, _, heq⟩ | ⟨heq, hno⟩
    · rw [heq]
      exact ⟨⟨t', hc1⟩, fun _ => ⟨d2, getD_set_same _ _ _ _ (by rw [h.llp]; exact hp)⟩⟩
    · rw [heq]
      refine ⟨⟨t', hc1⟩, fun hG2 => ?_⟩
      have hf := hno t' _ hc1 hc2
      rw [hG2 t' (ci.tok h.tok _ t' hc1), Bool.true_and] at hf
      unfold better at hf
      dsimp only
      cases hl : s.lp.getD (posOf c.W fwd k) none with
      | none => rw [hl] at hf; simp at hf
      | some old => exact ⟨old, rfl⟩

theorem sweepN_pan_untouched (c : Cfg) (tg : Nat → Nat → Bool) (row : Nat) (fwd : Bool) (s0 : LineSt)
    (hrow : row < c.H) (h0 : LOK c tg s0) :
    ∀ n m, n ≤ m → m < c.W →
      (sweepN c tg row fwd s0 n).pan.getD (posOf c.W fwd m) none = s0.pan.getD (posOf c.W fwd m) none := by
  intro n m hnm hm
  refine (sweepN_induct c tg row fwd
    (fun n s => LOK c tg s ∧ (n ≤ m → s.pan.getD (posOf c.W fwd m) none = s0.pan.getD (posOf c.W fwd m) none))
    (fun n s hn hs => ⟨pixel_LOK c tg row fwd s n hrow hn hs.1, fun hnm => ?_⟩) s0 ⟨h0, fun _ => rfl⟩ n (by omega)).2 hnm
  rw [pixel_pan_other c tg row fwd s n _ hn hs.1.lpan (fun he => by
    have := posOf_inj c.W fwd m n hm hn he; omega)]
  exact hs.2 (by omega)

theorem sweepN_fill (c : Cfg) (tg : Nat → Nat → Bool) (row : Nat) (fwd : Bool) (s0 : LineSt)
    (hrow : row < c.H) (h0 : LOK c tg s0) (G : Nat → Prop)
    (hG : ∀ q, q < c.W → G q → Good c tg row q) :
    ∀ n, n ≤ c.W → ∀ j, j < n →
      (∃ i, i ≤ j ∧ ((∃ t, s0.pan.getD (posOf c.W fwd i) none = some t) ∨ tg row (posOf c.W fwd i) = true) ∧
        ∀ i', i ≤ i' → i' ≤ j → G (posOf c.W fwd i')) →
      (∃ t, (sweepN c tg row fwd s0 n).pan.getD (posOf c.W fwd j) none = some t) ∧
      (Good2 c tg row (posOf c.W fwd j) → ∃ d, (sweepN c tg row fwd s0 n).lp.getD (posOf c.W fwd j) none = some d) := by
  intro n
  induction n with
  | zero => intro _ j hj; omega
  | succ n ih =>
    intro hn j hj hsrc
    have hL := sweepN_LOK c tg row fwd s0 hrow h0 n (by omega)
    by_cases hjn : j < n
    · obtain ⟨⟨t, ht⟩, hlp⟩ := ih (by omega) j hjn hsrc
      refine ⟨⟨t, ?_⟩, fun hG2 => ?_⟩
      · show (pixel c tg row fwd _ n).pan.getD _ none = _
        rw [pixel_pan_other c tg row fwd _ n _ (by omega) hL.lpan (fun he => by
          have := posOf_inj c.W fwd j n (by omega) (by omega) he; omega)]
        exact ht
      · obtain ⟨d, hd⟩ := hlp hG2
        obtain ⟨d', hd', _⟩ := pixel_lp_mono c tg row fwd (sweepN c tg row fwd s0 n) n _ d hd
        exact ⟨d', hd'⟩
    · have hjeq : j = n := by omega
      subst hjeq
      obtain ⟨i, hij, hi, hGi⟩ := hsrc
      have hGood : Good c tg row (posOf c.W fwd j) := hG _ (posOf_lt _ _ _ (by omega)) (hGi j hij (Nat.le_refl _))
      apply pixel_fill c tg row fwd _ j (by omega) hL hGood
      by_cases hij' : i = j
      · -- the source is this pixel's own column, which the sweep has not touched yet
        subst hij'
        refine hi.imp (fun ⟨t, ht⟩ => ⟨_, t, .inl rfl, ?_⟩) id
        rw [sweepN_pan_untouched c tg row fwd s0 hrow h0 i i (Nat.le_refl _) (by omega)]; exact ht
      · -- the source is upstream: the previous pixel of the sweep remembers a target
        obtain ⟨t, ht⟩ := (ih (by omega) (j - 1) (by omega) ⟨i, by omega, hi, fun i' h1 h2 => hGi i' h1 (by omega)⟩).1
        exact .inl ⟨_, t, .inr (.inl ⟨by omega, rfl⟩), ht⟩

/-- one sweep: a target remembered at (or sitting on) column `c0` upstream of column `p` reaches `p` when every
    column from `c0` to `p` is `Good` -/
theorem sweep_fill_col (c : Cfg) (tg : Nat → Nat → Bool) (row : Nat) (fwd : Bool) (pan : List Tgt) (lp : List (Option Nat))
    (hrow : row < c.H) (hpan : pan.length = c.W) (htok : TOK c tg pan) (hlp : lp.length = c.W)
    (p c0 : Nat) (hp : p < c.W) (hc0 : c0 < c.W)
    (hup : if fwd then c0 ≤ p else p ≤ c0)
    (hsrc : (∃ t, pan.getD c0 none = some t) ∨ tg row c0 = true)
    (hG : ∀ q, q < c.W → ((c0 ≤ q ∧ q ≤ p) ∨ (p ≤ q ∧ q ≤ c0)) → Good c tg row q) :
    (∃ t, (sweep c tg row fwd pan lp).pan.getD p none = some t) ∧
    (Good2 c tg row p → ∃ d, (sweep c tg row fwd pan lp).lp.getD p none = some d) := by
  have h0 : LOK c tg { pan := pan, lp := lp, nr := List.replicate c.W none } := ⟨hpan, hlp, by simp, htok⟩
  have key := sweepN_fill c tg row fwd _ hrow h0 (fun q => (c0 ≤ q ∧ q ≤ p) ∨ (p ≤ q ∧ q ≤ c0)) hG c.W (Nat.le_refl _)
  unfold sweep
  cases fwd
  · simp only [Bool.false_eq_true, if_false] at hup
    have hpos : ∀ i, posOf c.W false i = c.W - 1 - i := fun i => by simp [posOf]
    have := key (c.W - 1 - p) (by omega) ⟨c.W - 1 - c0, by omega, by
      rw [hpos]
      have : c.W - 1 - (c.W - 1 - c0) = c0 := by omega
      rw [this]; exact hsrc, fun i' h1 h2 => by rw [hpos]; right; omega⟩
    rw [hpos] at this
    have hpp : c.W - 1 - (c.W - 1 - p) = p := by omega
    rw [hpp] at this
    exact this
  · simp only [if_true] at hup
    have hpos : ∀ i, posOf c.W true i = i := fun i => by simp [posOf]
    have := key p hp ⟨c0, hup, by rw [hpos]; exact hsrc, fun i' h1 h2 => by rw [hpos]; left; omega⟩
    rw [hpos] at this
    exact this

/-- one raster line in one pass (two sweeps): column `p` ends up remembering a target when it did before
    (`c0 = p`) or when the line has a target at column `c0`, provided the columns in between are `Good` -/
theorem rowStep_fill (c : Cfg) (tg : Nat → Nat → Bool) (fwdFirst : Bool) (row : Nat) (pan : List Tgt) (o : RowOut)
    (hrow : row < c.H) (hpan : pan.length = c.W) (htok : TOK c tg pan) (hlp : o.lp.length = c.W)
    (p c0 : Nat) (hp : p < c.W) (hc0 : c0 < c.W)
    (hsrc : ((∃ t, pan.getD p none = some t) ∧ c0 = p) ∨ tg row c0 = true)
    (hG : ∀ q, q < c.W → ((c0 ≤ q ∧ q ≤ p) ∨ (p ≤ q ∧ q ≤ c0)) → Good c tg row q) :
    (∃ t, (rowStep c tg fwdFirst row pan o).1.getD p none = some t) ∧
    (Good2 c tg row p → ∃ d, (rowStep c tg fwdFirst row pan o).2.lp.getD p none = some d) := by
  have h1 := sweep_LOK c tg row fwdFirst pan o.lp hrow hpan htok hlp
  have hGp : ∀ q, q < c.W → ((p ≤ q ∧ q ≤ p) ∨ (p ≤ q ∧ q ≤ p)) → Good c tg row q := fun q hq hb => by
    have : q = p := by omega
    subst this
    exact hG q hq (by omega)
  -- the second sweep keeps what the first one achieved
  have second : (∃ t, (sweep c tg row fwdFirst pan o.lp).pan.getD p none = some t) →
      (∃ t, (rowStep c tg fwdFirst row pan o).1.getD p none = some t) ∧
      (Good2 c tg row p → ∃ d, (rowStep c tg fwdFirst row pan o).2.lp.getD p none = some d) := fun hs =>
    sweep_fill_col c tg row (!fwdFirst) _ _ hrow h1.lpan h1.tok h1.llp p p hp hp
      (by cases fwdFirst <;> simp) (Or.inl hs) hGp
  rcases hsrc with ⟨hs, hcp⟩ | htg
  · subst hcp
    exact second (sweep_fill_col c tg row fwdFirst pan o.lp hrow hpan htok hlp c0 c0 hp hp
      (by cases fwdFirst <;> simp) (Or.inl hs) hGp).1
  · by_cases hup : (if fwdFirst then c0 ≤ p else p ≤ c0)
    · exact second (sweep_fill_col c tg row fwdFirst pan o.lp hrow hpan htok hlp p c0 hp hc0 hup (Or.inr htg) hG).1
    · exact sweep_fill_col c tg row (!fwdFirst) _ _ hrow h1.lpan h1.tok h1.llp p c0 hp hc0
        (by cases fwdFirst <;> simp at hup ⊢ <;> omega) (Or.inr htg) hG

/-- **reach**: a target at (r0, c0) gives the cell (r, p) a defined proximity when no reset can happen along
    the line r0 from c0 to p and along the column p from r0 to r, and the cell is within `max_distance` of every target -/
theorem run_reach (c : Cfg) (tg : Nat → Nat → Bool) (r0 c0 r p : Nat) (ht0 : IsTarget c tg (r0, c0))
    (hr : r < c.H) (hp : p < c.W)
    (hrowG : ∀ q, q < c.W → ((c0 ≤ q ∧ q ≤ p) ∨ (p ≤ q ∧ q ≤ c0)) → Good c tg r0 q)
    (hcolG : ∀ row, ((r0 ≤ row ∧ row ≤ r) ∨ (r ≤ row ∧ row ≤ r0)) → Good c tg row p)
    (hfin : Good2 c tg r p) : ∃ d, proxAt (run c tg) r p = some d := by
  have hr0 : r0 < c.H := ht0.2.1
  have hc0 : c0 < c.W := ht0.2.2
  have hGp : ∀ row, ((r0 ≤ row ∧ row ≤ r) ∨ (r ≤ row ∧ row ≤ r0)) →
      ∀ q, q < c.W → ((p ≤ q ∧ q ≤ p) ∨ (p ≤ q ∧ q ≤ p)) → Good c tg row q := fun row hb q hq hq' => by
    have : q = p := by omega
    subst this; exact hcolG row hb
  by_cases hle : r0 ≤ r
  · -- the top-down pass reaches (r, p); the bottom-up pass keeps it
    have := run_rows c tg
      (fun n pan => PL c tg pan ∧ (r0 < n → n ≤ r + 1 → ∃ t, pan.getD p none = some t))
      (fun row o => o.lp.length = c.W ∧ (row = r → ∃ d, o.lp.getD p none = some d))
      (fun _ pan => PL c tg pan)
      (fun row o => row = r → ∃ d, o.lp.getD p none = some d)
      ⟨PL_blank c tg, fun h => by omega⟩
      (fun n pan hn hP => by
        have hl := rowStep_LOK c tg true n pan (blankRow c) hn hP.1 (by simp [blankRow])
        by_cases hin : r0 ≤ n ∧ n ≤ r
        · have hf : (∃ t, (rowStep c tg true n pan (blankRow c)).1.getD p none = some t) ∧
              (Good2 c tg n p → ∃ d, (rowStep c tg true n pan (blankRow c)).2.lp.getD p none = some d) := by
            by_cases hn0 : n = r0
            · subst hn0
              exact rowStep_fill c tg true n pan (blankRow c) hn hP.1.1 hP.1.2 (by simp [blankRow]) p c0 hp hc0
                (Or.inr ht0.1) hrowG
            · exact rowStep_fill c tg true n pan (blankRow c) hn hP.1.1 hP.1.2 (by simp [blankRow]) p p hp hp
                (Or.inl ⟨hP.2 (by omega) (by omega), rfl⟩) (hGp n (by omega))
          exact ⟨⟨hl.1, fun _ _ => hf.1⟩, hl.2, fun hnr => hf.2 (hnr ▸ hfin)⟩
        · exact ⟨⟨hl.1, fun h1 h2 => by omega⟩, hl.2, fun hnr => by omega⟩)
      (PL_blank c tg)
      (fun n pan o hn hP ho => by
        refine ⟨(rowStep_LOK c tg false (c.H - 1 - n) pan o (by omega) hP ho.1).1, fun hnr => ?_⟩
        obtain ⟨d, hd⟩ := ho.2 hnr
        obtain ⟨d', hd', _⟩ := rowStep_lp_mono c tg false (c.H - 1 - n) pan o p d hd
        exact ⟨d', hd'⟩)
      r hr
    exact this rfl
  · -- the bottom-up pass reaches (r, p)
    have := run_rows c tg
      (fun _ pan => PL c tg pan)
      (fun _ o => o.lp.length = c.W)
      (fun n pan => PL c tg pan ∧ (c.H - 1 - r0 < n → n ≤ c.H - 1 - r + 1 → ∃ t, pan.getD p none = some t))
      (fun row o => row = r → ∃ d, o.lp.getD p none = some d)
      (PL_blank c tg)
      (fun n pan hn hP => rowStep_LOK c tg true n pan (blankRow c) hn hP (by simp [blankRow]))
      ⟨PL_blank c tg, fun h => by omega⟩
      (fun n pan o hn hP ho => by
        have hrow : c.H - 1 - n < c.H := by omega
        have hl := rowStep_LOK c tg false (c.H - 1 - n) pan o hrow hP.1 ho
        by_cases hin : r ≤ c.H - 1 - n ∧ c.H - 1 - n ≤ r0
        · have hf : (∃ t, (rowStep c tg false (c.H - 1 - n) pan o).1.getD p none = some t) ∧
              (Good2 c tg (c.H - 1 - n) p → ∃ d, (rowStep c tg false (c.H - 1 - n) pan o).2.lp.getD p none = some d) := by
            by_cases hn0 : c.H - 1 - n = r0
            · rw [hn0]
              exact rowStep_fill c tg false r0 pan o hr0 hP.1.1 hP.1.2 ho p c0 hp hc0 (Or.inr ht0.1) hrowG
            · exact rowStep_fill c tg false (c.H - 1 - n) pan o hrow hP.1.1 hP.1.2 ho p p hp hp
                (Or.inl ⟨hP.2 (by omega) (by omega), rfl⟩) (hGp _ (by omega))
          exact ⟨⟨hl.1, fun _ _ => hf.1⟩, fun hnr => hf.2 (hnr ▸ hfin)⟩
        · exact ⟨⟨hl.1, fun h1 h2 => by omega⟩, fun hnr => by omega⟩)
      r hr
    exact this rfl

theorem mem_cells (c : Cfg) (t : Nat × Nat) : t ∈ cells c ↔ t.1 < c.H ∧ t.2 < c.W :=
  IL.Fc.mem_pairs c.H c.W t

def exStep (c : Cfg) (tg : Nat → Nat → Bool) (r p : Nat) (acc : Option Nat) (t : Nat × Nat) : Option Nat :=
  if tg t.1 t.2 then minOpt acc (dist2 c t.1 t.2 r p) else acc

theorem exact_eq (c : Cfg) (tg : Nat → Nat → Bool) (r p : Nat) :
    exact c tg r p = (cells c).foldl (exStep c tg r p) none := rfl

theorem exact_spec (c : Cfg) (tg : Nat → Nat → Bool) (r p : Nat) :
    (exact c tg r p = none ∧ ∀ t, ¬ IsTarget c tg t) ∨
    ∃ t, IsTarget c tg t ∧ exact c tg r p = some (dT c r p t) ∧
      ∀ t', IsTarget c tg t' → dT c r p t ≤ dT c r p t' := by
  rw [exact_eq]
  rcases foldl_pickOpt_spec (fun b y : Nat => y < b) (fun y e => e ≤ y) Nat.le_refl
      (fun h h' => Nat.le_trans h' h) Nat.le_of_lt Nat.le_of_not_lt
      (fun t : Nat × Nat => tg t.1 t.2) (dT c r p) (exStep c tg r p) (fun _ => rfl)
      (fun b t => by
        unfold exStep
        by_cases hk : tg t.1 t.2 = true
        · rw [if_pos hk, if_pos hk]
          exact congrArg some (by unfold dT; split <;> omega)
        · rw [if_neg hk, if_neg hk]) (cells c) with ⟨h, hall⟩ | ⟨e, h, ⟨t, ht, hk, rfl⟩, hle⟩
  · refine Or.inl ⟨h, fun t ht => ?_⟩
    have := hall t ((mem_cells c t).mpr ht.2)
    rw [ht.1] at this; cases this
  · exact Or.inr ⟨t, ⟨hk, (mem_cells c t).mp ht⟩, h, fun t' ht' => hle t' ((mem_cells c t').mpr ht'.2) ht'.1⟩

theorem exact_le (c : Cfg) (tg : Nat → Nat → Bool) (r p : Nat) (t : Nat × Nat) (ht : IsTarget c tg t) :
    ∃ e, exact c tg r p = some e ∧ e ≤ dT c r p t := by
  rcases exact_spec c tg r p with ⟨_, hno⟩ | ⟨t0, _, he, hle⟩
  · exact absurd ht (hno t)
  · exact ⟨_, he, hle t ht⟩

theorem exact_attained (c : Cfg) (tg : Nat → Nat → Bool) (r p e : Nat) (h : exact c tg r p = some e) :
    ∃ t, IsTarget c tg t ∧ e = dT c r p t := by
  rcases exact_spec c tg r p with ⟨hn, _⟩ | ⟨t0, ht0, he, _⟩
  · rw [hn] at h; cases h
  · rw [he] at h; cases h; exact ⟨t0, ht0, rfl⟩

theorem exact_none (c : Cfg) (tg : Nat → Nat → Bool) (r p : Nat) (h : exact c tg r p = none) :
    ∀ t, ¬ IsTarget c tg t := by
  rcases exact_spec c tg r p with ⟨_, hno⟩ | ⟨t0, _, he, _⟩
  · exact hno
  · rw [he] at h; cases h

theorem exact_single (c : Cfg) (tg : Nat → Nat → Bool) (r p : Nat) (t0 : Nat × Nat) (ht0 : IsTarget c tg t0)
    (huniq : ∀ t, IsTarget c tg t → t = t0) : exact c tg r p = some (dT c r p t0) := by
  rcases exact_spec c tg r p with ⟨_, hno⟩ | ⟨t, ht, he, _⟩
  · exact absurd ht0 (hno t0)
  · rw [he, huniq t ht]

theorem exactCut_single (c : Cfg) (tg : Nat → Nat → Bool) (r p : Nat) (t0 : Nat × Nat) (ht0 : IsTarget c tg t0)
    (huniq : ∀ t, IsTarget c tg t → t = t0) :
    exactCut c tg r p = (if withinMax c (dT c r p t0) then some (dT c r p t0) else none) := by
  unfold exactCut; rw [exact_single c tg r p t0 ht0 huniq]

theorem withinMax_lt (c : Cfg) {d e : Nat} (h : withinMax c e = true) (hd : d ≤ e) (he : e ≠ 0) :
    ltOpt d c.max2x2 = true := by
  unfold withinMax at h
  unfold ltOpt
  cases hm : c.max2x2 with
  | none => rfl
  | some m => rw [hm] at h; simp only [decide_eq_true_eq] at h ⊢; omega

/-- One target `t0` and a cell `(r, p)` towards which its distance does not grow along the line of the target and then
    along the column of the cell (`hmono`; any metric): the cell gets the distance to `t0` if that is within
    `max_distance`, else nothing. -/
theorem run_single_target (c : Cfg) (tg : Nat → Nat → Bool) (hrefl : c.Refl) (t0 : Nat × Nat) (ht0 : IsTarget c tg t0)
    (huniq : ∀ t, IsTarget c tg t → t = t0) (r p : Nat) (hr : r < c.H) (hp : p < c.W)
    (hzero : dist2 c t0.1 t0.2 r p = 0 → t0.1 = r ∧ t0.2 = p)
    (hmono : ∀ row q, adiff t0.1 row ≤ adiff t0.1 r → adiff t0.2 q ≤ adiff t0.2 p →
      dist2 c t0.1 t0.2 row q ≤ dist2 c t0.1 t0.2 r p) :
    proxAt (run c tg) r p = (if withinMax c (dT c r p t0) then some (dT c r p t0) else none) := by
  rcases run_cell_cases c tg hrefl r p hr hp with ⟨hl, _⟩ | ⟨t, hT, hw, hl, _⟩
  · by_cases hw : withinMax c (dT c r p t0) = true
    · -- within max_distance: the cell is the target, or no cell of the L-shaped path from the target resets
      exfalso
      have hne : ∃ d, proxAt (run c tg) r p = some d := by
        by_cases hself : dT c r p t0 = 0
        · obtain ⟨h1, h2⟩ := hzero hself
          exact ⟨0, run_zero c tg r p hr hp (by rw [← h1, ← h2]; exact ht0.1)⟩
        · have hbound : ∀ row q, adiff t0.1 row ≤ adiff t0.1 r → adiff t0.2 q ≤ adiff t0.2 p → Good c tg row q :=
            fun row q h1 h2 t hT => by rw [huniq t hT]; exact withinMax_lt c hw (hmono row q h1 h2) hself
          exact run_reach c tg t0.1 t0.2 r p ht0 hr hp
            (fun q _ hq => hbound t0.1 q (by unfold adiff; omega) (by unfold adiff; omega))
            (fun row hrow => hbound row p (by unfold adiff; omega) (Nat.le_refl _))
            (fun t hT => by rw [huniq t hT]; exact hw)
      obtain ⟨d, hd⟩ := hne
      rw [hl] at hd; cases hd
    · simp [hl, hw]
  · rw [huniq t hT] at hw hl
    rw [hl, hw]; rfl

def Cfg.Planar (c : Cfg) : Prop := c.metric = .euclid ∨ c.metric = .manh

theorem adiff_self (a : Nat) : adiff a a = 0 := by simp [adiff]

theorem adiff_eq_zero (a b : Nat) (h : adiff a b = 0) : a = b := by
  unfold adiff at h; omega

theorem planar_refl (c : Cfg) (h : c.Planar) : c.Refl := by
  intro r p
  unfold dist2
  rcases h with h | h <;> simp [h, adiff_self]

theorem planar_sep (c : Cfg) (h : c.Planar) (hsx : 0 < c.sx) (hsy : 0 < c.sy) (r1 c1 r2 c2 : Nat)
    (hd : dist2 c r1 c1 r2 c2 = 0) : r1 = r2 ∧ c1 = c2 := by
  unfold dist2 at hd
  have key : adiff c1 c2 * c.sx = 0 ∧ adiff r1 r2 * c.sy = 0 := by
    rcases h with h | h
    · rw [h] at hd
      simp only at hd
      have h1 := Nat.eq_zero_of_add_eq_zero_right hd
      have h2 := Nat.eq_zero_of_add_eq_zero_left hd
      exact ⟨by rcases Nat.mul_eq_zero.mp h1 with h | h <;> exact h, by rcases Nat.mul_eq_zero.mp h2 with h | h <;> exact h⟩
    · rw [h] at hd
      simp only at hd
      have h0 : adiff c1 c2 * c.sx + adiff r1 r2 * c.sy = 0 := by
        rcases Nat.mul_eq_zero.mp hd with h | h <;> exact h
      exact ⟨Nat.eq_zero_of_add_eq_zero_right h0, Nat.eq_zero_of_add_eq_zero_left h0⟩
  constructor
  · apply adiff_eq_zero
    rcases Nat.mul_eq_zero.mp key.2 with h | h
    · exact h
    · omega
  · apply adiff_eq_zero
    rcases Nat.mul_eq_zero.mp key.1 with h | h
    · exact h
    · omega

theorem planar_mono (c : Cfg) (h : c.Planar) (r0 c0 r1 c1 r2 c2 : Nat)
    (hr : adiff r0 r1 ≤ adiff r0 r2) (hc : adiff c0 c1 ≤ adiff c0 c2) :
    dist2 c r0 c0 r1 c1 ≤ dist2 c r0 c0 r2 c2 := by
  unfold dist2
  have hx : adiff c0 c1 * c.sx ≤ adiff c0 c2 * c.sx := Nat.mul_le_mul_right _ hc
  have hy : adiff r0 r1 * c.sy ≤ adiff r0 r2 * c.sy := Nat.mul_le_mul_right _ hr
  rcases h with h | h
  · rw [h]
    exact Nat.add_le_add (Nat.mul_le_mul hx hx) (Nat.mul_le_mul hy hy)
  · rw [h]
    exact Nat.mul_le_mul (Nat.add_le_add hx hy) (Nat.add_le_add hx hy)

/-! ### the model only looks at the target predicate inside the grid -/

def SameOnGrid (c : Cfg) (tg tg' : Nat → Nat → Bool) : Prop := ∀ r p, r < c.H → p < c.W → tg r p = tg' r p

theorem sweep_congr (c : Cfg) (tg tg' : Nat → Nat → Bool) (row : Nat) (h : ∀ p, p < c.W → tg row p = tg' row p)
    (fwd : Bool) (pan : List Tgt) (lp : List (Option Nat)) : sweep c tg row fwd pan lp = sweep c tg' row fwd pan lp :=
  sweepN_induct c tg row fwd (fun n s => s = sweepN c tg' row fwd _ n)
    (fun n s hn hs => by rw [hs, pixel_eq, h _ (posOf_lt _ _ _ hn)]; rfl) _ rfl c.W (Nat.le_refl _)

theorem rowStep_congr (c : Cfg) (tg tg' : Nat → Nat → Bool) (row : Nat) (h : ∀ p, p < c.W → tg row p = tg' row p)
    (fwdFirst : Bool) (pan : List Tgt) (o : RowOut) :
    rowStep c tg fwdFirst row pan o = rowStep c tg' fwdFirst row pan o := by
  unfold rowStep
  simp only [sweep_congr c tg tg' row h]

theorem tdN_congr (c : Cfg) (tg tg' : Nat → Nat → Bool) (h : SameOnGrid c tg tg') :
    ∀ n, n ≤ c.H → tdN c tg n = tdN c tg' n := by
  intro n
  induction n with
  | zero => intro _; rfl
  | succ n ih =>
    intro hn
    rw [tdN_succ, tdN_succ, ih (by omega), rowStep_congr c tg tg' n (fun p hp => h n p (by omega) hp)]

theorem buN_congr (c : Cfg) (tg tg' : Nat → Nat → Bool) (h : SameOnGrid c tg tg') (td : List RowOut) :
    ∀ n, n ≤ c.H → buN c tg td n = buN c tg' td n := by
  intro n
  induction n with
  | zero => intro _; rfl
  | succ n ih =>
    intro hn
    rw [buN_succ, buN_succ, ih (by omega), rowStep_congr c tg tg' _ (fun p hp => h _ p (by omega) hp)]

theorem run_congr (c : Cfg) (tg tg' : Nat → Nat → Bool) (h : SameOnGrid c tg tg') : run c tg = run c tg' := by
  unfold run
  rw [tdN_congr c tg tg' h c.H (Nat.le_refl _), buN_congr c tg tg' h _ c.H (Nat.le_refl _)]

theorem exact_congr (c : Cfg) (tg tg' : Nat → Nat → Bool) (h : SameOnGrid c tg tg') (r p : Nat) :
    exact c tg r p = exact c tg' r p := by
  rw [exact_eq, exact_eq]
  apply foldl_congr_mem
  intro x hx acc
  unfold exStep
  rw [h x.1 x.2 ((mem_cells c x).mp hx).1 ((mem_cells c x).mp hx).2]

theorem exactCut_congr (c : Cfg) (tg tg' : Nat → Nat → Bool) (h : SameOnGrid c tg tg') (r p : Nat) :
    exactCut c tg r p = exactCut c tg' r p := by
  unfold exactCut
  rw [exact_congr c tg tg' h]

/-! ### every target layout is `layoutOf c m` for some mask `m < 2^(H·W)` -/

theorem bit_eq (m i : Nat) : ((m >>> i) % 2 == 1) = m.testBit i := by
  rw [Nat.testBit_eq_decide_div_mod_eq, Nat.shiftRight_eq_div_pow]
  rw [Bool.eq_iff_iff]
  simp

theorem bits_surj (n : Nat) (f : Nat → Bool) : ∃ m, m < 2 ^ n ∧ ∀ i, i < n → m.testBit i = f i :=
  ⟨(BitVec.ofBoolListLE ((List.range n).map f)).toNat,
    by simpa using (BitVec.ofBoolListLE ((List.range n).map f)).isLt,
    fun i hi => by rw [BitVec.testBit_toNat, BitVec.getLsbD_ofBoolListLE]; simp [hi]⟩

theorem layoutOf_eq (c : Cfg) (m : Nat) {r p : Nat} (hr : r < c.H) (hp : p < c.W) :
    layoutOf c m r p = m.testBit (r * c.W + p) := by
  simp only [layoutOf, hr, hp, decide_true, Bool.true_and, bit_eq]

theorem layout_surj (c : Cfg) (tg : Nat → Nat → Bool) :
    ∃ m, m < 2 ^ (c.H * c.W) ∧ SameOnGrid c tg (layoutOf c m) := by
  obtain ⟨m, hm, hbits⟩ := bits_surj (c.H * c.W) (fun i => tg (i / c.W) (i % c.W))
  refine ⟨m, hm, fun r p hr hp => ?_⟩
  have hb := hbits (r * c.W + p) (rowMajor_lt hr hp)
  rw [(rowMajor_div_mod r hp).1, (rowMajor_div_mod r hp).2] at hb
  rw [layoutOf_eq c m hr hp]
  exact hb.symm

/-- from the finite table to every target predicate -/
theorem checkAll_spec (c : Cfg) (h : checkAll c = true) (tg : Nat → Nat → Bool) (r p : Nat)
    (hr : r < c.H) (hp : p < c.W) : proxAt (run c tg) r p = exactCut c tg r p := by
  obtain ⟨m, hm, hsame⟩ := layout_surj c tg
  rw [run_congr c tg _ hsame, exactCut_congr c tg _ hsame]
  unfold checkAll at h
  rw [List.all_eq_true] at h
  have h1 := h m (List.mem_range.mpr hm)
  unfold checkLayout at h1
  simp only [List.all_eq_true, List.mem_range] at h1
  have h2 := h1 r hr p hp
  exact eq_of_beq h2

end XrsVerif.Prox
