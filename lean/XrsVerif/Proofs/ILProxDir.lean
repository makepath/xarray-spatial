import XrsVerif.Proofs.ILProxMerge
import XrsVerif.Proofs.KSimp
/-
  The two translations of `_calc_direction` agree: the ILang program `Gen.IL.calcDirection`
  (layer T3, `dirF`) and the KLang kernel `Gen.calc_direction` (layer T1, `Prox.bearing`, the function the bearing
  theorems of Props/C06.lean are about) compute the same function on every number type.
-/
namespace XrsVerif.IL.Px
open XrsVerif XrsVerif.Prox
variable {F : Type} [Fl F]

theorem dirF_eq_bearing (x1 x2 y1 y2 : F) : dirF x1 x2 y1 y2 = bearing x1 x2 y1 y2 := by
  unfold dirF
  cases h0 : (Fl.eq x1 x2 && Fl.eq y1 y2) with
  | true =>
    simp at h0
    simp [kl, bearing, Gen.calc_direction, dirEnv, h0]
  | false =>
    have h0' : ¬ (Fl.eq x1 x2 = true ∧ Fl.eq y1 y2 = true) := by simpa using h0
    generalize hd : Fl.mul (Fl.atan2 (Fl.neg (Fl.sub y2 y1)) (Fl.sub x2 x1)) (Fl.lit 2864789 50000) = d
    cases h1 : Fl.lt d (Fl.lit 0 1) with
    | true => simp [kl, bearing, Gen.calc_direction, dirEnv, h0', hd, h1]
    | false =>
      cases h2 : Fl.lt (Fl.lit 90 1) d with
      | true | false => simp [kl, bearing, Gen.calc_direction, dirEnv, h0', hd, h1, h2]

end XrsVerif.IL.Px
