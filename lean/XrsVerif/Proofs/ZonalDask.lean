import XrsVerif.Proofs.ZonalReduce
import XrsVerif.Proofs.Crosstab
/-
  Helper lemmas for C03:
  * a block function sees exactly the cells of its block (`Block.fn` bridge);
  * a good family of blocks splits the valid cells of every zone among the blocks (`GoodBlocks.zone_perm`);
  * reducer / partition algebra: combining the per-block partials (max of maxes, min of mins, sums of
    sums / counts / squares, NaN for a zone absent from a block) over *any* split of a cell list gives
    the whole-list aggregate -- exact for max / min / count, over the field for sum / sum of squares.
  That the dask chunk grid is a partition of the raster is Proofs/ChunkGrid.lean.
-/
set_option linter.unusedSectionVars false
namespace XrsVerif.Zonal

variable {κ : Type} [LinearOrder κ]

theorem map_getD_range {α : Type} (l : List α) (d : α) :
    (List.range l.length).map (fun j => l.getD j d) = l := by
  apply List.ext_getElem
  · simp
  · intro i h1 h2
    simp [List.getD_eq_getElem?_getD, List.getElem?_eq_getElem h2]

theorem range_map_getD {α β : Type} (l : List α) (d : α) (f : α → β) :
    (List.range l.length).map (fun k => f (l.getD k d)) = l.map f := by
  have := congrArg (List.map f) (map_getD_range l d)
  rwa [List.map_map] at this

/-- what `np.argsort` returned for the block, as global cell indices -/
def Block.gperm (b : Block) : List Nat := b.perm.map fun j => b.zc.getD j 0

/-- **a block function is the NumPy function on the block's cells**: it gathers the same values and cuts at the same
    breaks as `_sort_and_stride` run on the whole rasters with the block's permutation read as global indices -/
theorem sortAndStride_block {ν : Type} (strip : Bool) (zones : Nat → X κ) (values : Nat → ν) (b : Block) (uniq : List κ) :
    (sortAndStride strip (Block.fn b.zc zones) (Block.fn b.zc values) uniq b.perm).vbz
        = (sortAndStride strip zones values uniq b.gperm).vbz ∧
      (sortAndStride strip (Block.fn b.zc zones) (Block.fn b.zc values) uniq b.perm).breaks
        = (sortAndStride strip zones values uniq b.gperm).breaks := by
  cases strip <;>
    simp only [sortAndStride, Block.gperm, List.filter_map, List.map_map, Function.comp_def, if_true,
      Bool.false_eq_true, if_false] <;> exact ⟨rfl, rfl⟩

theorem Block.sorts_gperm {zones : Nat → X κ} {b : Block}
    (hs : SortsCells (Block.fn b.zc zones) (List.range b.zc.length) b.perm) : SortsCells zones b.zc b.gperm where
  isPerm := by
    have := hs.isPerm.map fun j => b.zc.getD j 0
    rwa [map_getD_range] at this
  isSorted := by
    have := hs.isSorted
    rwa [Block.gperm, List.map_map]

theorem CoversCells.mono {zones : Nat → X κ} {cells zc : List Nat} {uniq : List κ} (hu : CoversCells zones cells uniq)
    (hsub : ∀ g ∈ zc, g ∈ cells) : CoversCells zones zc uniq :=
  ⟨hu.sorted, fun i hi => hu.cover i (hsub i hi)⟩

/-- what is assumed about the blocks: the values block of every pair covers the same cells as the
    zones block (the rechunk), the zones blocks partition the cells, and every block was sorted by a
    permutation meeting argsort's contract -/
structure GoodBlocks (zones : Nat → X κ) (cells : List Nat) (blocks : List Block) : Prop where
  aligned : ∀ b ∈ blocks, b.vc = b.zc
  part : (blocks.map (fun b => b.zc)).flatten.Perm cells
  sorts : ∀ b ∈ blocks, SortsCells (Block.fn b.zc zones) (List.range b.zc.length) b.perm

theorem GoodBlocks.sub {zones : Nat → X κ} {cells : List Nat} {blocks : List Block}
    (h : GoodBlocks zones cells blocks) : ∀ b ∈ blocks, ∀ g ∈ b.zc, g ∈ cells := by
  intro b hb g hg
  apply h.part.subset
  rw [List.mem_flatten]
  exact ⟨b.zc, List.mem_map.mpr ⟨b, hb, rfl⟩, hg⟩

theorem zoneCells_flatten {ν : Type} (zones : Nat → X κ) (values : Nat → ν) (valid : ν → Bool)
    (bs : List (List Nat)) (u : κ) :
    zoneCells zones values valid bs.flatten u = (bs.map (fun b => zoneCells zones values valid b u)).flatten := by
  simp only [zoneCells, List.filter_flatten, List.map_flatten, List.map_map]
  rfl

theorem GoodBlocks.zone_perm {ν : Type} {zones : Nat → X κ} {cells : List Nat} {blocks : List Block}
    (hb : GoodBlocks zones cells blocks) (values : Nat → ν) (valid : ν → Bool) (u : κ) :
    (blocks.map fun b => zoneCells zones values valid b.zc u).flatten.Perm (zoneCells zones values valid cells u) := by
  have h := zoneCells_flatten zones values valid (blocks.map fun b => b.zc) u
  rw [List.map_map] at h
  exact h ▸ zoneCells_perm zones values valid _ _ hb.part u

theorem GoodBlocks.fin_perm {ν : Type} {zones : Nat → X κ} {cells : List Nat} {blocks : List Block}
    (hb : GoodBlocks zones cells blocks) (values : Nat → X ν) (valid : X ν → Bool) (u : κ) :
    (blocks.map fun b => finCells zones values valid b.zc u).flatten.Perm (finCells zones values valid cells u) := by
  have h := (hb.zone_perm values valid u).filterMap X.toFin?
  rw [List.filterMap_flatten, List.map_map] at h
  exact h

section algebra
variable {F : Type} [Field F] [LinearOrder F] [IsStrictOrderedRing F]

/-- a per-block partial: NaN for an empty selection, else the aggregate -/
def partOf (agg : List F → F) (l : List F) : Option F := if l = [] then none else some (agg l)

theorem nanFold_parts (agg : List F → F) (op : F → F → F)
    (happ : ∀ a b : List F, a ≠ [] → b ≠ [] → agg (a ++ b) = op (agg a) (agg b)) (ls : List (List F)) :
    nanFold op (ls.map (partOf agg)) = partOf agg ls.flatten := by
  induction ls with
  | nil => rfl
  | cons l ls ih =>
    simp only [List.map_cons, List.flatten_cons]
    by_cases hl : l = []
    · subst hl
      simp only [partOf, if_true, nanFold, List.nil_append]
      exact ih
    · have hp : partOf agg l = some (agg l) := by simp [partOf, hl]
      rw [hp]
      simp only [nanFold, ih]
      by_cases hr : ls.flatten = []
      · simp [partOf, hr, hl]
      · simp only [partOf, hr, if_false]
        have : l ++ ls.flatten ≠ [] := by simp [hl]
        simp only [this, if_false]
        rw [happ l ls.flatten hl hr]

/-- the repaired combiners (`Gen.Zonal.comb` on a tree without defect D2) -/
def fixedComb : BStat → Comb
  | .max => .nanmax
  | .min => .nanmin
  | _ => .nansumNaN

theorem comb_fixed (s : BStat) (ls : List (List F)) :
    (fixedComb s).eval (ls.map (partOf s.eval)) = partOf s.eval ls.flatten := by
  cases s
  · exact nanFold_parts rmax _ rmax_append ls
  · exact nanFold_parts rmin _ rmin_append ls
  · exact nanFold_parts rsum _ (fun a b _ _ => rsum_append a b) ls
  · exact nanFold_parts rcount _ (fun a b _ _ => rcount_append a b) ls
  · exact nanFold_parts rsumsq _ (fun a b _ _ => rsumsq_append a b) ls

theorem BStat.eval_perm (s : BStat) (l l' : List F) (h : l.Perm l') : s.eval l = s.eval l' := by
  cases s
  · exact rmax_perm l l' h
  · exact rmin_perm l l' h
  · exact rsum_perm l l' h
  · exact rcount_perm l l' h
  · exact rsumsq_perm l l' h

theorem partOf_perm (s : BStat) (l l' : List F) (h : l.Perm l') : partOf s.eval l = partOf s.eval l' := by
  have he : l = [] ↔ l' = [] := by
    rw [← List.length_eq_zero_iff, h.length_eq, List.length_eq_zero_iff]
  simp only [partOf, he, s.eval_perm l l' h]

theorem BStat.func_permInv (s : BStat) : PermInv (BStat.func s : List (X F) → Option F) :=
  fun _ _ h => congrArg some (s.eval_perm _ _ (h.filterMap _))

end algebra

section table
variable {F : Type} [Field F] [LinearOrder F] [IsStrictOrderedRing F]

theorem filterMap_toFin_eq_nil (l : List (X F)) (h : ∀ v ∈ l, v.isFin = true) :
    l.filterMap X.toFin? = [] ↔ l = [] := by
  rw [← List.length_eq_zero_iff, length_filterMap_toFin l h, List.length_eq_zero_iff]

theorem zoneStat_eq_partOf (zones : Nat → X κ) (values : Nat → X F) (valid : X F → Bool)
    (hfin : ∀ v, valid v = true → v.isFin = true) (agg : List F → F) (order : List Nat) (u : κ) :
    zoneStat zones values valid (none : Option F) (fun l => some (agg (l.filterMap X.toFin?))) order u
      = partOf agg (finCells zones values valid order u) := by
  unfold zoneStat partOf finCells
  have hall : ∀ v ∈ zoneCells zones values valid order u, v.isFin = true := by
    intro v hv
    exact hfin v (List.mem_filter.mp hv).2
  by_cases he : zoneCells zones values valid order u = []
  · simp [he]
  · have : (zoneCells zones values valid order u).filterMap X.toFin? ≠ [] :=
      fun e => he ((filterMap_toFin_eq_nil _ hall).mp e)
    simp [he, this]

/-- `_single_stats_func` on one good block: the partials of exactly the block's cells -/
theorem blockStats_fixed (zones : Nat → X κ) (values : Nat → X F) (valid : X F → Bool)
    (hfin : ∀ v, valid v = true → v.isFin = true) (cells : List Nat) (uniq : List κ) (sel : κ → Bool)
    (s : BStat) (blocks : List Block) (b : Block) (hu : CoversCells zones cells uniq)
    (hb : GoodBlocks zones cells blocks) (hbm : b ∈ blocks) :
    blockStats true zones values valid uniq sel s b
      = uniq.map (fun u => if sel u then partOf s.eval (finCells zones values valid b.zc u) else none) := by
  have hs' := Block.sorts_gperm (hb.sorts b hbm)
  unfold blockStats calcStats
  rw [hb.aligned b hbm, (sortAndStride_block true zones values b uniq).1, (sortAndStride_block true zones values b uniq).2]
  refine (calcStats_fixed zones values b.zc b.gperm uniq valid none s.func sel hs' (hu.mono (hb.sub b hbm))).trans ?_
  apply List.map_congr_left
  intro u _
  rw [zoneStat_perm _ _ valid none s.func (BStat.func_permInv s) _ _ hs'.isPerm u]
  exact congrArg (if sel u = true then · else none) (zoneStat_eq_partOf zones values valid hfin s.eval b.zc u)

theorem comb_all_none (s : BStat) (n : List Block) :
    (fixedComb s).eval (n.map (fun _ => (none : Option F))) = none := by
  have : ∀ (op : F → F → F), nanFold op (n.map (fun _ => (none : Option F))) = none := by
    intro op
    induction n with
    | nil => rfl
    | cons b n ih => simpa [nanFold] using ih
  cases s <;> simp only [fixedComb, Comb.eval] <;> exact this _

theorem basisCol_fixed (zones : Nat → X κ) (values : Nat → X F) (valid : X F → Bool)
    (hfin : ∀ v, valid v = true → v.isFin = true) (cells : List Nat) (uniq : List κ) (sel : κ → Bool)
    (blocks : List Block) (s : BStat) (hu : CoversCells zones cells uniq) (hb : GoodBlocks zones cells blocks) :
    basisCol true fixedComb zones values valid uniq sel blocks s
      = uniq.map (fun u => if sel u then partOf s.eval (finCells zones values valid cells u) else none) := by
  unfold basisCol
  simp only
  rw [List.map_congr_left fun b hbm => blockStats_fixed zones values valid hfin cells uniq sel s blocks b hu hb hbm]
  apply List.ext_getElem
  · simp
  · intro i h1 h2
    have hi : i < uniq.length := by simpa using h1
    simp only [List.getElem_map, List.getElem_range, List.map_map, Function.comp_def]
    have hcol : ∀ b : Block, (uniq.map (fun u =>
          if sel u then partOf s.eval (finCells zones values valid b.zc u) else none)).getD i none
        = (if sel uniq[i] then partOf s.eval (finCells zones values valid b.zc uniq[i]) else none) := by
      intro b
      rw [List.getD_eq_getElem?_getD, List.getElem?_map, List.getElem?_eq_getElem hi]
      rfl
    simp only [hcol]
    by_cases hsel : sel uniq[i] = true
    · simp only [hsel, if_true]
      have := comb_fixed s (blocks.map (fun b => finCells zones values valid b.zc uniq[i]))
      rw [List.map_map] at this
      simp only [Function.comp_def] at this
      rw [this]
      exact partOf_perm s _ _ (hb.fin_perm values valid uniq[i])
    · simp only [hsel, Bool.false_eq_true, if_false]
      exact comb_all_none s blocks

theorem zipWith_map_map {α β γ δ : Type} (l : List α) (f : β → γ → δ) (a : α → β) (b : α → γ) :
    List.zipWith f (l.map a) (l.map b) = l.map (fun u => f (a u) (b u)) := by
  rw [List.zipWith_map, List.zipWith_self]

theorem zipWith3_map {α β γ δ ε : Type} (l : List α) (f : β → γ → δ → ε) (a : α → β) (b : α → γ) (c : α → δ) :
    zipWith3' f (l.map a) (l.map b) (l.map c) = l.map (fun u => f (a u) (b u) (c u)) := by
  induction l with
  | nil => rfl
  | cons x l ih => simp [zipWith3', ih]

theorem daskMean_partOf (l : List F) : daskMean (partOf rsum l) (partOf rcount l) = partOf rmean l := by
  by_cases hl : l = []
  · simp [partOf, hl, daskMean, oDiv]
  · simp only [partOf, hl, if_false, daskMean, oDiv, length_cast_ne_zero l hl]
    rfl

theorem daskVar_partOf (l : List F) :
    daskVar (partOf rsumsq l) (oMul (partOf rsum l) (partOf rsum l)) (partOf rcount l) = partOf rvar l := by
  by_cases hl : l = []
  · simp [partOf, hl, daskVar, oDiv, oSub, oMul]
  · simp only [partOf, hl, if_false, daskVar, oDiv, oSub, oMul, length_cast_ne_zero l hl]
    rw [dask_var_eq l hl]

theorem daskStd_partOf (sqrt : F → F) (l : List F) :
    daskStd sqrt (partOf rsumsq l) (oMul (partOf rsum l) (partOf rsum l)) (partOf rcount l)
      = partOf (fun l => sqrt (rvar l)) l := by
  rw [daskStd, daskVar_partOf]
  unfold partOf
  split <;> rfl

/-- the documented formulas on the combined partials are the NumPy statistics -/
theorem daskCol_fixed (sqrt : F → F) (uniq : List κ) (sel : κ → Bool) (fc : κ → List F) (st : Stat) :
    daskCol sqrt (fun s => uniq.map (fun u => if sel u then partOf s.eval (fc u) else none)) st
      = uniq.map (fun u => if sel u then partOf (st.eval sqrt) (fc u) else none) := by
  cases st
  · -- mean
    simp only [daskCol]
    rw [zipWith_map_map]
    apply List.map_congr_left
    intro u _
    by_cases hs : sel u = true
    · simp only [hs, if_true]; exact daskMean_partOf (fc u)
    · simp only [hs]; rfl
  · rfl
  · rfl
  · rfl
  · -- std
    simp only [daskCol]
    rw [List.map_map, zipWith3_map]
    apply List.map_congr_left
    intro u _
    by_cases hs : sel u = true
    · simp only [hs, if_true, Function.comp]; exact daskStd_partOf sqrt (fc u)
    · simp only [hs, Function.comp]; rfl
  · -- var
    simp only [daskCol]
    rw [List.map_map, zipWith3_map]
    apply List.map_congr_left
    intro u _
    by_cases hs : sel u = true
    · simp only [hs, if_true, Function.comp]; exact daskVar_partOf (fc u)
    · simp only [hs, Function.comp]; rfl
  · rfl

theorem keepRow_eq_wanted (zoneIds : Option (List κ)) : keepRow zoneIds = wanted zoneIds := by
  funext u; cases zoneIds <;> rfl

theorem blocks_ok (blocks : List Block) (h : ∀ b ∈ blocks, b.vc = b.zc) :
    blocks.any (fun b => !b.ok) = false := by
  rw [List.any_eq_false]
  intro b hb
  simp [Block.ok, h b hb]

/-- **the dask table in closed form** (repaired gather, repaired combiners): the wanted zones and, per statistic,
    NumPy's entry (`zoneStat_eq_partOf`) on the zone's finite valid values -- for every good family of blocks, every request with
    at least one existing zone, every list of statistics -/
theorem daskStats_fixed (sqrt : F → F) (zones : Nat → X κ) (values : Nat → X F) (valid : X F → Bool)
    (hfin : ∀ v, valid v = true → v.isFin = true) (cells : List Nat) (blocks : List Block)
    (stats : List Stat) (zoneIds : Option (List κ)) (hb : GoodBlocks zones cells blocks)
    (hreq : zoneIds = none ∨ wantedZones zones cells zoneIds ≠ []) :
    daskStats true fixedComb sqrt zones values cells valid blocks stats zoneIds
      = some { zone := wantedZones zones cells zoneIds
               cols := stats.map (fun s => (wantedZones zones cells zoneIds).map
                  (fun u => partOf (s.eval sqrt) (finCells zones values valid cells u))) } := by
  have hu := uniqueZones_covers zones cells
  unfold daskStats
  rw [if_neg (by rw [blocks_ok blocks hb.aligned]; simp)]
  simp only [keepRow_eq_wanted]
  have hW : List.filter (wanted zoneIds) (uniqueZones zones cells) = wantedZones zones cells zoneIds := rfl
  rw [hW]
  have hne : (zoneIds.isSome && (wantedZones zones cells zoneIds).isEmpty) = false := by
    rcases hreq with h | h
    · simp [h]
    · cases hw : wantedZones zones cells zoneIds with
      | nil => exact absurd hw h
      | cons a l => simp
  rw [if_neg (by rw [hne]; simp)]
  congr 2
  apply List.map_congr_left
  intro s _
  have hbasis : basisCol true fixedComb zones values valid (uniqueZones zones cells)
        (fun u => (zoneIds.getD (uniqueZones zones cells)).contains u) blocks
      = fun bs => (uniqueZones zones cells).map (fun u =>
          if (zoneIds.getD (uniqueZones zones cells)).contains u then
            partOf bs.eval (finCells zones values valid cells u) else none) := by
    funext bs
    exact basisCol_fixed zones values valid hfin cells _ _ blocks bs hu hb
  rw [hbasis, daskCol_fixed, filter_zip_map _ _ (wanted zoneIds)]
  apply List.map_congr_left
  intro u hu'
  have hm := List.mem_filter.mp hu'
  have hsel : (zoneIds.getD (uniqueZones zones cells)).contains u = true := by
    cases zoneIds with
    | none => simpa using hm.1
    | some r => simpa [wanted] using hm.2
  simp only [hsel, if_true]

end table

end XrsVerif.Zonal
