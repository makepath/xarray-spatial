import XrsVerif.Proofs.ILangAstar
import XrsVerif.Proofs.ILangFocal
import XrsVerif.Gen.IL
/-
  Proofs/ILAStar.lean -- refinement: the programs generated (layer T3, Gen/IL.lean) from the helper functions of
  xrspatial/pathfinding.py compute the hand model of Model/AStar.lean.

    `Gen.IL.isNotCrossable`  = `notCross`           (NaN, or `==` to a listed barrier value)
    `Gen.IL.isInside`        = `AStar.inside`
    `Gen.IL.minCostPixelId`  = `AStar.minCostOpen`  (first minimum in row-major order below the `(h+w)^2` bound)

  Every block lemma is stated for a renamed copy of the function body (`ncSt cv iv rv`, `mcSt q`), so that it
  applies both to the stand-alone program and to the copies the translator inlines into `_find_nearest_pixel`
  and `_a_star_search`; the `*_body` theorems (`rfl`) tie the parametrised text to `Gen.IL.*`.
  Generic in the number type `[Fl F]`: only comparisons and NaN tests are used.
-/
namespace XrsVerif.IL
open XrsVerif XrsVerif.AStar
attribute [-simp] List.getD_eq_getElem?_getD
variable {F : Type} [Fl F]

/-- `_is_not_crossable(v, barriers)` -/
def notCross (v : F) (bars : List F) : Bool := Fl.isnan v || bars.any (fun b => Fl.eq v b)

def ncLoopBody (cv iv rv : String) : St :=
  .ite (.cmpF .eq (.var cv) (.var iv)) (.seq (.setB rv .tt) .ret) .skip

/-- the body of `_is_not_crossable` with its locals named `cv` (cell value), `iv` (loop variable), `rv` (result) -/
def ncSt (cv iv rv : String) : St :=
  .seq (.ite (.isnan (.var cv)) (.seq (.setB rv .tt) .ret) .skip)
  (.seq (.forIn iv "barriers" (ncLoopBody cv iv rv))
  (.seq (.setB rv .ff) .ret))

theorem nc_loop (cv iv rv : String) (hne : iv ≠ cv) (fuel : Nat) (bars : List F) (s : State F) (hs : s.ctl = .run) :
    ∃ x, loopOver (fun st y => exec fuel (ncLoopBody cv iv rv) { st with fenv := setS st.fenv iv y }) bars s =
      if bars.any (fun b => Fl.eq (s.fenv cv) b) then
        { s with ctl := .ret, benv := setS s.benv rv true, fenv := setS s.fenv iv x }
      else { s with fenv := setS s.fenv iv x } := by
  induction bars generalizing s with
  | nil => exact ⟨s.fenv iv, by cases s; simp_all [setS_self]⟩
  | cons b bs ih =>
    rw [loopOver_cons _ _ _ _ hs]
    by_cases hb : Fl.eq (s.fenv cv) b = true
    · refine ⟨b, ?_⟩
      simp [il, ncLoopBody, hne.symm, hb, hs, afterBody, afterLoop]
    · obtain ⟨x, hx⟩ := ih { s with fenv := setS s.fenv iv b } hs
      refine ⟨x, ?_⟩
      simp [il, ncLoopBody, hne.symm, hb, hs, afterBody, setS_setS] at hx ⊢
      rw [hx]

theorem nc_exec (cv iv rv : String) (hne : iv ≠ cv) (fuel : Nat) (s : State F) (hs : s.ctl = .run)
    (hb : (s.shp "barriers").length = 1) :
    ∃ x, exec fuel (ncSt cv iv rv) s =
      { s with ctl := .ret, benv := setS s.benv rv (notCross (s.fenv cv) (s.fa "barriers")),
               fenv := setS s.fenv iv x } := by
  by_cases hn : Fl.isnan (s.fenv cv) = true
  · exact ⟨s.fenv iv, by simp [il, ncSt, hn, hs, notCross, setS_self]⟩
  · obtain ⟨x, hx⟩ := nc_loop cv iv rv hne fuel (s.fa "barriers") s hs
    refine ⟨x, ?_⟩
    by_cases ha : (s.fa "barriers").any (fun b => Fl.eq (s.fenv cv) b) = true
    · rw [if_pos ha] at hx
      simp [il, ncSt, hn, notCross, hs, hb, hx, ha]
    · rw [if_neg ha] at hx
      simp [il, ncSt, hn, notCross, hs, hb, hx, ha]

theorem nc_scope (cv iv rv : String) (hne : iv ≠ cv) (fuel : Nat) (s : State F) (hs : s.ctl = .run)
    (hb : (s.shp "barriers").length = 1) :
    ∃ x, exec fuel (.scope (ncSt cv iv rv)) s =
      { s with benv := setS s.benv rv (notCross (s.fenv cv) (s.fa "barriers")),
               fenv := setS s.fenv iv x } := by
  obtain ⟨x, hx⟩ := nc_exec cv iv rv hne fuel s hs hb
  refine ⟨x, ?_⟩
  rw [exec, hx]; simp [hs]

theorem crossCall_exec (cv iv rv yv xv : String) (hne : iv ≠ cv) (k : St) (fuel : Nat) (s : State F) (hs : s.ctl = .run)
    (h w : Nat) (hd : s.shp "data" = [h, w]) (hb : (s.shp "barriers").length = 1) (c : Cell)
    (hc : inside h w c = true) (hy : s.ienv yv = c.1) (hx : s.ienv xv = c.2) (dv : F)
    (hdv : (s.fa "data").getD (cidx w c) Fl.nan = dv) :
    ∃ z, exec fuel (.seq (.setF cv (.ld2 "data" (.var yv) (.var xv))) (.seq (.scope (ncSt cv iv rv)) k)) s =
      exec fuel k
        { s with benv := setS s.benv rv (notCross dv (s.fa "barriers")), fenv := setS (setS s.fenv cv dv) iv z } := by
  obtain ⟨r1, r2, ho⟩ := cell_access hc
  obtain ⟨z, hz⟩ := nc_scope cv iv rv hne fuel { s with fenv := setS s.fenv cv dv } hs hb
  refine ⟨z, ?_⟩
  rw [exec_seq_eq _ _ _ _ { s with fenv := setS s.fenv cv dv } (by simp [il, hd, hy, hx, r1, r2, ho, hdv]) hs,
    exec_seq_eq _ _ _ _ _ hz hs]
  simp only [setS_same]

theorem isNotCrossable_body : Gen.IL.isNotCrossable.body = ncSt "cell_value" "i" "ret0" := rfl

/-- **`Gen.IL.isNotCrossable` computes `notCross`**: NaN, or `==` to one of the barrier values -/
theorem isNotCrossable_refines (s : State F) (fuel : Nat) (hs : s.ctl = .run)
    (hb : (s.shp "barriers").length = 1) :
    let r := Gen.IL.isNotCrossable.run s fuel
    r.ctl = .ret ∧ r.benv "ret0" = notCross (s.fenv "cell_value") (s.fa "barriers") ∧
      r.fa = s.fa ∧ r.ia = s.ia := by
  obtain ⟨x, hx⟩ := nc_exec "cell_value" "i" "ret0" (by simp) fuel s hs hb
  simp only [Prog.run, isNotCrossable_body, hx]
  simp

/-- **`Gen.IL.isInside` computes `AStar.inside`** -/
theorem isInside_refines (s : State F) (fuel : Nat) (hs : s.ctl = .run) (h w : Nat)
    (hh : s.ienv "h" = (h : Int)) (hw : s.ienv "w" = (w : Int)) :
    let r := Gen.IL.isInside.run s fuel
    r.ctl = .ret ∧ r.benv "ret0" = inside h w (s.ienv "py", s.ienv "px") := by
  simp only [Prog.run, Gen.IL.isInside, inside]
  by_cases h1 : s.ienv "px" < 0 <;> by_cases h2 : (w : Int) ≤ s.ienv "px" <;>
  by_cases h3 : s.ienv "py" < 0 <;> by_cases h4 : (h : Int) ≤ s.ienv "py" <;>
  simp [il, hs, setS, h1, h2, h3, h4, hh, hw] <;> omega

def mcBody (q : String → String) : St :=
  .ite (.and (.cmpI .ne (.ld2 "is_open" (.var (q "i")) (.var (q "j"))) (.lit 0))
             (.cmpF .lt (.ld2 "cost" (.var (q "i")) (.var (q "j"))) (.var (q "min_cost"))))
    (.seq (.setF (q "min_cost") (.ld2 "cost" (.var (q "i")) (.var (q "j"))))
    (.seq (.setI (q "py") (.var (q "i")))
    (.setI (q "px") (.var (q "j")))))
    .skip

def mcLoops (q : String → String) : St :=
  .forRange (q "i") (.lit 0) (.var (q "height")) (.lit 1)
    (.forRange (q "j") (.lit 0) (.var (q "width")) (.lit 1) (mcBody q))

/-- the body of `_min_cost_pixel_id` with its locals renamed by `q` -/
def mcSt (q : String → String) : St :=
  .seq (.setI (q "height") (.dim "cost" 0))
  (.seq (.setI (q "width") (.dim "cost" 1))
  (.seq (.setI (q "py") (.lit (-1)))
  (.seq (.setI (q "px") (.lit (-1)))
  (.seq (.setF (q "min_cost") (.ofInt (.bin .mul (.bin .add (.var (q "height")) (.var (q "width")))
                                                  (.bin .add (.var (q "height")) (.var (q "width"))))))
  (.seq (mcLoops q)
  (.seq (.setI (q "ret0") (.var (q "py")))
  (.seq (.setI (q "ret1") (.var (q "px")))
  .ret)))))))

theorem minCostPixelId_body : Gen.IL.minCostPixelId.body = mcSt (fun a => a) := rfl

def mcI (q : String → String) : List String :=
  [q "height", q "width", q "py", q "px", q "i", q "j", q "ret0", q "ret1"]
def mcF (q : String → String) : List String := [q "min_cost"]

theorem mc_body (q : String → String) (hq : ILVs.Inj q) (fuel : Nat) (st : State F) (h w i j : Nat)
    (hi : i < h) (hj : j < w) (hso : st.shp "is_open" = [h, w]) (hsc : st.shp "cost" = [h, w])
    (hst : st.ctl = .run) (hiv : st.ienv (q "i") = (i : Int)) (hjv : st.ienv (q "j") = (j : Int)) :
    exec fuel (mcBody q) st =
      if (decide ((st.ia "is_open").getD (i * w + j) 0 ≠ 0) &&
          Fl.lt ((st.fa "cost").getD (i * w + j) Fl.nan) (st.fenv (q "min_cost"))) = true then
        { st with fenv := setS st.fenv (q "min_cost") ((st.fa "cost").getD (i * w + j) Fl.nan),
                  ienv := setS (setS st.ienv (q "py") (i : Int)) (q "px") (j : Int) }
      else st := by
  have r1 := inRange_of_lt i h hi
  have r2 := inRange_of_lt j w hj
  by_cases c1 : (st.ia "is_open").getD (i * w + j) 0 = 0
  · simp [il, mcBody, hso, hsc, hiv, hjv, r1, r2, off2_nat, c1]
  · by_cases c2 : Fl.lt ((st.fa "cost").getD (i * w + j) Fl.nan) (st.fenv (q "min_cost")) = true
    · simp [il, mcBody, hso, hsc, hiv, hjv, r1, r2, off2_nat, c1, c2, hst, hq.eq_iff]
    · simp [il, mcBody, hso, hsc, hiv, hjv, r1, r2, off2_nat, c1, c2]

/-- what the scan reads: the model's `isOpen` / `f` are the arrays `is_open` / `cost` (on the cells of the raster),
    `<` is the float comparison, the initial bound is `(height + width)^2` -/
structure McAbs (e : Env F) (mst : AStar.St F) (s : State F) : Prop where
  lt : e.ops.lt = Fl.lt
  big : e.ops.big e.h e.w = Fl.lit (((e.h : Int) + (e.w : Int)) * ((e.h : Int) + (e.w : Int))) 1
  so : s.shp "is_open" = [e.h, e.w]
  sc : s.shp "cost" = [e.h, e.w]
  isOpen : ∀ c, inside e.h e.w c = true → mst.isOpen c = decide ((s.ia "is_open").getD (cidx e.w c) 0 ≠ 0)
  f : ∀ c, inside e.h e.w c = true → mst.f c = (s.fa "cost").getD (cidx e.w c) Fl.nan

/-- what the scan computes: the running minimum `(py, px, min_cost)` is the model's accumulator -/
structure McInv (q : String → String) (st : State F) (acc : Option Cell × F) : Prop where
  pos : (st.ienv (q "py"), st.ienv (q "px")) = enc acc.1
  mc : st.fenv (q "min_cost") = acc.2

/-- the scan; `st` is the state in front of the loops, `s` the one the model state abstracts -/
theorem mc_loops (q : String → String) (hq : ILVs.Inj q) (e : Env F) (mst : AStar.St F) (s : State F)
    (habs : McAbs e mst s) (fuel : Nat) (st : State F) (hst : st.ctl = .run) (acc : Option Cell × F)
    (hia : st.ia = s.ia) (hfa : st.fa = s.fa) (hshp : st.shp = s.shp) (hh : st.ienv (q "height") = (e.h : Int))
    (hw : st.ienv (q "width") = (e.w : Int)) (hinv : McInv q st acc) :
    (exec fuel (mcLoops q) st).ctl = .run ∧
    McInv q (exec fuel (mcLoops q) st) ((cells e.h e.w).foldl (minStep e mst) acc) :=
  Fc.exec_for2_sim fuel (q "i") (q "j") (.var (q "height")) (.var (q "width")) (mcBody q) e.h e.w
    (fun i j => ((i : Int), (j : Int))) (minStep e mst) (McInv q) st hst (fun e => absurd (hq _ _ e) (by simp))
    (by simp [ILVs.wI, mcBody, hq.eq_iff])
    (fun _ _ _ h => ⟨by simpa [setS_apply, hq.eq_iff] using h.pos, h.mc⟩)
    (fun _ _ _ h => ⟨by simpa [setS_apply, hq.eq_iff] using h.pos, h.mc⟩)
    ⟨rfl, hh⟩ (fun _ hM => ⟨rfl, (hM.ienv _ (by simp [ILVs.wI, mcBody, hq.eq_iff])).trans hw⟩)
    (fun st' a i j hi hj hc hM hiv hjv hinv => by
      have hin := inside_nat e.h e.w i j hi hj
      rw [mc_body q hq fuel st' e.h e.w i j hi hj (by rw [hM.shp_eq, hshp, habs.so]) (by rw [hM.shp_eq, hshp, habs.sc])
        hc hiv hjv]
      simp only [minStep, habs.isOpen _ hin, habs.f _ hin, habs.lt, cidx_nat, hM.ia_eq, hia, hM.fa_eq, hfa, hinv.mc]
      split
      · exact ⟨hc, by simp [setS_apply, hq.eq_iff, enc], by simp⟩
      · exact ⟨hc, hinv⟩)
    acc hinv

theorem mc_exec (q : String → String) (hq : ILVs.Inj q) (e : Env F) (mst : AStar.St F) (s : State F)
    (hs : s.ctl = .run) (habs : McAbs e mst s) (fuel : Nat) :
    let r := exec fuel (mcSt q) s
    r.ctl = .ret ∧ Frame (mcI q) (mcF q) [] s r ∧
      (r.ienv (q "ret0"), r.ienv (q "ret1")) = enc (minCostOpen e mst) := by
  intro r
  suffices h : r.ctl = .ret ∧ (r.ienv (q "ret0"), r.ienv (q "ret1")) = enc (minCostOpen e mst) from
    ⟨h.1, Frame.of_exec fuel (mcSt q) s _ _ _ (by simp [ILVs.wI, mcSt, mcLoops, mcBody, mcI])
      (by simp [ILVs.wF, mcSt, mcLoops, mcBody, mcF]) (by simp [ILVs.wB, mcSt, mcLoops, mcBody]) rfl rfl rfl, h.2⟩
  have hl := mc_loops q hq e mst s habs fuel
    { s with ienv := setS (setS (setS (setS s.ienv (q "height") (e.h : Int)) (q "width") (e.w : Int))
                            (q "py") (-1)) (q "px") (-1),
             fenv := setS s.fenv (q "min_cost")
               (Fl.lit (((e.h : Int) + (e.w : Int)) * ((e.h : Int) + (e.w : Int))) 1), ctl := .run } rfl
    (none, e.ops.big e.h e.w) rfl rfl rfl (by simp [setS_apply, hq.eq_iff]) (by simp [setS_apply, hq.eq_iff])
    ⟨by simp [setS_apply, hq.eq_iff, enc], by simp [habs.big]⟩
  show (exec fuel (mcSt q) s).ctl = .ret ∧
    ((exec fuel (mcSt q) s).ienv (q "ret0"), (exec fuel (mcSt q) s).ienv (q "ret1")) = enc (minCostOpen e mst)
  simp [il, mcSt, hs, habs.sc, hq.eq_iff, hl.1]
  exact hl.2.pos

theorem mc_scope (q : String → String) (hq : ILVs.Inj q) (e : Env F) (mst : AStar.St F) (s : State F)
    (hs : s.ctl = .run) (habs : McAbs e mst s) (fuel : Nat) :
    let r := exec fuel (.scope (mcSt q)) s
    r.ctl = .run ∧ Frame (mcI q) (mcF q) [] s r ∧
      (r.ienv (q "ret0"), r.ienv (q "ret1")) = enc (minCostOpen e mst) := by
  have h := mc_exec q hq e mst s hs habs fuel
  simp only [exec, h.1, if_true]
  exact ⟨trivial, h.2.1.setCtl _, h.2.2⟩

/-- **`Gen.IL.minCostPixelId` computes `AStar.minCostOpen`**: for every model state whose `isOpen` / `f` are the
    arrays `is_open` / `cost` (shape `[h, w]`), the program returns the first cell, in row-major order, that is open
    and whose cost is strictly below every earlier candidate and below `(h + w)^2`; `(-1, -1)` if there is none.
    The arrays are not written. -/
theorem minCostPixelId_refines (e : Env F) (mst : AStar.St F) (s : State F) (fuel : Nat)
    (hs : s.ctl = .run) (habs : McAbs e mst s) :
    let r := Gen.IL.minCostPixelId.run s fuel
    r.ctl = .ret ∧ (r.ienv "ret0", r.ienv "ret1") = enc (minCostOpen e mst) ∧ r.ia = s.ia ∧ r.fa = s.fa := by
  have h := mc_exec (fun a => a) ILVs.inj_id e mst s hs habs fuel
  simp only [Prog.run, minCostPixelId_body]
  exact ⟨h.1, h.2.2, h.2.1.ia, h.2.1.fa⟩

end XrsVerif.IL
