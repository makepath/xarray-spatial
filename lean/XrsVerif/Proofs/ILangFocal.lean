import XrsVerif.Proofs.ILangFrame
/-
  The rules for `for` loops that hand every iteration the frame of the loop (`Mods … s st` from `exec_frame`: the state
  `st` an iteration starts in differs from the state `s` in front of the loop only in what the loop writes), so that an
  invariant is a relation between the program state and the model's accumulator and what the loop leaves alone is never
  stated: what an iteration needs of `s` (sizes, shapes, inputs, outer loop variables) it reads off the program text.
  An invariant must not look at the loop variable.  The rules are general; the name of the file is that of the area
  that needed them first.

  The step of these rules speaks of `exec fuel body st` itself: the body is to end in `run` or to leave the loop.  A body
  that may end in `continue` is covered only by the searches `_any`; for it see "`for`: which rule when" in
  Proofs/ILang.lean.

  `iop_*` rewrite `IOp.eval` to `+`, `-`, `max`, `min` for blocks run without the simp set `il`, which unfolds
  `IOp.eval` (Proofs/ILang.lean).
-/
namespace XrsVerif.IL.Fc
open XrsVerif XrsVerif.IL XrsVerif.ILVs
variable {F : Type} [Fl F]

theorem iop_sub (a b : Int) : IOp.eval .sub a b = a - b := rfl
theorem iop_add (a b : Int) : IOp.eval .add a b = a + b := rfl

theorem iop_max (a b : Int) : IOp.eval .max a b = max a b := by
  simp only [IOp.eval]; split <;> omega

theorem iop_min (a b : Int) : IOp.eval .min a b = min a b := by
  simp only [IOp.eval]; split <;> omega

abbrev LoopMods (v : String) (body : St) (s st : State F) : Prop :=
  Mods (v :: wI body) (wF body) (wB body) (wIA body) (wFA body) (wSh body) s st

theorem mods_body (fuel : Nat) (v : String) (body : St) (s : State F) : LoopMods v body s (exec fuel body s) :=
  (exec_frame fuel body s).mono (List.subset_cons_self _ _) (List.Subset.refl _) (List.Subset.refl _)
    (List.Subset.refl _) (List.Subset.refl _) (List.Subset.refl _)

theorem exit_of_err {r : State F} {msg : String} (he : r.ctl = .err msg) :
    r.ctl ≠ .run ∧ r.ctl ≠ .cont ∧ (afterLoop r).ctl = .err msg :=
  ⟨by simp [he], by simp [he], by rw [afterLoop_err _ _ he]; exact he⟩

/-- `for v in range(lo, hi, step)`: `P k` after `k` iterations, `Q` on leaving the loop (`break`, `return`, an error) -/
theorem exec_forRange_inv (fuel : Nat) (v : String) (lo hi step : IE) (body : St) (s : State F) (xs : List Int)
    (P : Nat → State F → Prop) (Q : State F → Prop) (hs : s.ctl = .run)
    (hok : lo.ok s = true ∧ hi.ok s = true ∧ step.ok s = true ∧ step.eval s ≠ 0)
    (hxs : rangeList (lo.eval s) (hi.eval s) (step.eval s) = xs)
    (hP : ∀ (k : Nat) (st : State F) (x : Int), P k st → P k { st with ienv := setS st.ienv v x })
    (hstep : ∀ (k : Nat) (hk : k < xs.length) (st : State F), st.ctl = .run → LoopMods v body s st →
      st.ienv v = xs[k] → P k st →
      ((exec fuel body st).ctl = .run ∧ P (k + 1) (exec fuel body st)) ∨
      ((exec fuel body st).ctl ≠ .run ∧ (exec fuel body st).ctl ≠ .cont ∧ Q (afterLoop (exec fuel body st))))
    (h0 : P 0 s) :
    let r := exec fuel (.forRange v lo hi step body) s
    (r.ctl = .run ∧ P xs.length r) ∨ Q r := by
  intro r
  have hr : r = loopOver (fun st i => exec fuel body { st with ienv := setS st.ienv v i }) xs s := by
    rw [← hxs]
    exact exec_forRange fuel v lo hi step body s (by simp [hok.1, hok.2.1, hok.2.2.1, hok.2.2.2])
  rw [hr]
  refine (loopOver_rule _ xs (fun k st => LoopMods v body s st ∧ P k st) Q s hs ⟨Mods.refl _ _ _ _ _ _ s, h0⟩ ?_).imp
    (fun h => ⟨h.1, h.2.2⟩) id
  intro k hk st hc ⟨hM, hPk⟩
  have hM' := hM.trans (mods_setI (v :: wI body) (wF body) (wB body) (wIA body) (wFA body) (wSh body) st v xs[k]
    List.mem_cons_self)
  refine (hstep k hk { st with ienv := setS st.ienv v xs[k] } hc hM' (setS_same _ _ _) (hP k st _ hPk)).imp
    (fun h => ?_) id
  rw [afterBody_run _ h.1]
  exact ⟨h.1, hM'.trans (mods_body fuel v body _), h.2⟩

/-- `for v in range(lo, hi)` simulates a fold: `R st a` relates the program state to the model's accumulator; an
    iteration with `v = x` takes `a` to `g a x` -/
theorem exec_forRange_sim {β : Type} (fuel : Nat) (v : String) (lo hi : IE) (body : St) (s : State F)
    (R : State F → β → Prop) (g : β → Int → β) (hs : s.ctl = .run) (hlo : lo.ok s = true) (hhi : hi.ok s = true)
    (hR : ∀ (st : State F) (x : Int) (a : β), R st a → R { st with ienv := setS st.ienv v x } a)
    (hstep : ∀ (st : State F) (x : Int) (a : β), lo.eval s ≤ x → x < hi.eval s → st.ctl = .run →
      LoopMods v body s st → st.ienv v = x → R st a →
      (exec fuel body st).ctl = .run ∧ R (exec fuel body st) (g a x))
    (a : β) (h0 : R s a) :
    let r := exec fuel (.forRange v lo hi (.lit 1) body) s
    r.ctl = .run ∧
    R r (((List.range (hi.eval s - lo.eval s).toNat).map (fun (k : Nat) => lo.eval s + (k : Int))).foldl g a) := by
  intro r
  obtain ⟨hc, hr⟩ := (exec_forRange_inv fuel v lo hi (.lit 1) body s _ (fun k st => R st
      ((((List.range (hi.eval s - lo.eval s).toNat).map (fun (k : Nat) => lo.eval s + (k : Int))).take k).foldl g a))
    (fun _ => False) hs ⟨hlo, hhi, rfl, by simp [IE.eval]⟩ (rangeList_step1 _ _) (fun _ st x h => hR st x _ h)
    (fun k hk st hc hM hv hRk => by
      have hk' : k < (hi.eval s - lo.eval s).toNat := by simpa using hk
      simp only [List.getElem_map, List.getElem_range] at hv
      obtain ⟨h1, h2⟩ := hstep st _ _ (by omega) (by omega) hc hM hv hRk
      refine Or.inl ⟨h1, ?_⟩
      rw [List.take_succ_eq_append_getElem hk, List.foldl_append]
      simpa using h2)
    (by simpa using h0)).resolve_right id
  exact ⟨hc, by rwa [List.take_length] at hr⟩

/-- the form for a loop that folds `g` into an observed value -/
theorem exec_forRange_foldl {β : Type} (fuel : Nat) (v : String) (lo hi : IE) (body : St) (s : State F)
    (val : State F → β) (g : β → Int → β) (hs : s.ctl = .run) (hlo : lo.ok s = true) (hhi : hi.ok s = true)
    (hval : ∀ (st : State F) (x : Int), val { st with ienv := setS st.ienv v x } = val st)
    (hstep : ∀ (st : State F) (x : Int), lo.eval s ≤ x → x < hi.eval s → st.ctl = .run →
      LoopMods v body s st → st.ienv v = x →
      (exec fuel body st).ctl = .run ∧ val (exec fuel body st) = g (val st) x) :
    let r := exec fuel (.forRange v lo hi (.lit 1) body) s
    r.ctl = .run ∧
    val r = ((List.range (hi.eval s - lo.eval s).toNat).map (fun (k : Nat) => lo.eval s + (k : Int))).foldl g (val s) :=
  exec_forRange_sim fuel v lo hi body s (fun st a => val st = a) g hs hlo hhi (fun st x _ h => (hval st x).trans h)
    (fun st x _ h0 h1 hc hM hv hR => hR ▸ hstep st x h0 h1 hc hM hv) _ rfl

theorem exec_forRange_err (fuel : Nat) (v : String) (lo hi : IE) (body : St) (s : State F) (msg : String) (m : Nat)
    (hs : s.ctl = .run) (hlo : lo.ok s = true) (hhi : hi.ok s = true) (hm : (m : Int) < hi.eval s - lo.eval s)
    (hstep : ∀ (st : State F) (k : Nat), k < m → st.ctl = .run →
      LoopMods v body s st → st.ienv v = lo.eval s + (k : Int) →
      (exec fuel body st).ctl = .run ∨ (exec fuel body st).ctl = .err msg)
    (herr : ∀ st : State F, st.ctl = .run →
      LoopMods v body s st → st.ienv v = lo.eval s + (m : Int) →
      (exec fuel body st).ctl = .err msg) :
    (exec fuel (.forRange v lo hi (.lit 1) body) s).ctl = .err msg := by
  -- invariant: iteration `m` has not been reached
  rcases exec_forRange_inv fuel v lo hi (.lit 1) body s _ (fun k _ => k ≤ m) (fun r => r.ctl = .err msg) hs
    ⟨hlo, hhi, rfl, by simp [IE.eval]⟩ (rangeList_step1 _ _) (fun _ _ _ h => h)
    (fun k hk st hc hM hv hkm => by
      simp only [List.getElem_map, List.getElem_range] at hv
      rcases Nat.lt_or_ge k m with hlt | hge
      · exact (hstep st k hlt hc hM hv).imp (fun h => ⟨h, hlt⟩) exit_of_err
      · exact Or.inr (exit_of_err (herr st hc hM (by rw [hv, Nat.le_antisymm hkm hge]))))
    (Nat.zero_le m) with ⟨_, h⟩ | h
  · simp only [List.length_map, List.length_range] at h
    omega
  · exact h

theorem exec_forRange_first_err (fuel : Nat) (v : String) (lo hi : IE) (body : St) (s : State F) (msg : String)
    (hs : s.ctl = .run) (hlo : lo.ok s = true) (hhi : hi.ok s = true) (hne : lo.eval s < hi.eval s)
    (herr : (exec fuel body { s with ienv := setS s.ienv v (lo.eval s) }).ctl = .err msg) :
    (exec fuel (.forRange v lo hi (.lit 1) body) s).ctl = .err msg := by
  rw [exec_forRange_step1 fuel v lo hi body s hlo hhi]
  obtain ⟨n, hn⟩ : ∃ n, (hi.eval s - lo.eval s).toNat = n + 1 := ⟨(hi.eval s - lo.eval s).toNat - 1, by omega⟩
  have herr' : (exec fuel body { s with ienv := setS s.ienv v (lo.eval s + ((0 : Nat) : Int)) }).ctl = .err msg := by
    simpa using herr
  rw [hn, List.range_succ_eq_map, List.map_cons,
    loopOver_cons_exit _ _ _ _ hs (by rw [herr']; simp) (by rw [herr']; simp), afterLoop_err _ _ herr']
  exact herr'

theorem exec_forRange_run_or_err (fuel : Nat) (v : String) (lo hi : IE) (body : St) (s : State F) (msg : String)
    (hs : s.ctl = .run) (hlo : lo.ok s = true) (hhi : hi.ok s = true)
    (hstep : ∀ (st : State F) (x : Int), lo.eval s ≤ x → x < hi.eval s → st.ctl = .run →
      LoopMods v body s st → st.ienv v = x →
      (exec fuel body st).ctl = .run ∨ (exec fuel body st).ctl = .err msg) :
    (exec fuel (.forRange v lo hi (.lit 1) body) s).ctl = .run ∨
    (exec fuel (.forRange v lo hi (.lit 1) body) s).ctl = .err msg :=
  (exec_forRange_inv fuel v lo hi (.lit 1) body s _ (fun _ _ => True) (fun r => r.ctl = .err msg) hs
    ⟨hlo, hhi, rfl, by simp [IE.eval]⟩ (rangeList_step1 _ _) (fun _ _ _ h => h)
    (fun k hk st hc hM hv _ => by
      have hk' : k < (hi.eval s - lo.eval s).toNat := by simpa using hk
      simp only [List.getElem_map, List.getElem_range] at hv
      exact (hstep st _ (by omega) (by omega) hc hM hv).imp (fun h => ⟨h, trivial⟩) exit_of_err) trivial).imp
    And.left id

abbrev For2Mods (vy vx : String) (body : St) (s st : State F) : Prop :=
  Mods (vy :: vx :: wI body) (wF body) (wB body) (wIA body) (wFA body) (wSh body) s st

/-- the raster double loop `for vy in range(n): for vx in range(m): body` simulates the fold of `g` over the cells
    in row-major order; the row count is read once, in `s` (a range is evaluated once) -/
theorem exec_for2_sim {β γ : Type} (fuel : Nat) (vy vx : String) (hiY hiX : IE) (body : St) (n m : Nat)
    (cell : Nat → Nat → γ) (g : β → γ → β) (R : State F → β → Prop) (s : State F) (hs : s.ctl = .run)
    (hne : vy ≠ vx) (hvy : vy ∉ wI body)
    (hRy : ∀ (st : State F) (x : Int) (a : β), R st a → R { st with ienv := setS st.ienv vy x } a)
    (hRx : ∀ (st : State F) (x : Int) (a : β), R st a → R { st with ienv := setS st.ienv vx x } a)
    (hY : hiY.ok s = true ∧ hiY.eval s = (n : Int))
    (hX : ∀ st : State F, For2Mods vy vx body s st → hiX.ok st = true ∧ hiX.eval st = (m : Int))
    (hbody : ∀ (st : State F) (a : β) (p q : Nat), p < n → q < m → st.ctl = .run → For2Mods vy vx body s st →
      st.ienv vy = p → st.ienv vx = q → R st a →
      (exec fuel body st).ctl = .run ∧ R (exec fuel body st) (g a (cell p q)))
    (a : β) (h0 : R s a) :
    let r := exec fuel (.forRange vy (.lit 0) hiY (.lit 1) (.forRange vx (.lit 0) hiX (.lit 1) body)) s
    r.ctl = .run ∧ R r (((List.range n).flatMap fun p => (List.range m).map (cell p)).foldl g a) := by
  intro r
  obtain ⟨hc, hr⟩ := exec_forRange_sim fuel vy (.lit 0) hiY (.forRange vx (.lit 0) hiX (.lit 1) body) s R
    (fun b (y : Int) => (List.range m).foldl (fun b q => g b (cell y.toNat q)) b) hs rfl hY.1 hRy
    (fun st y a h0 h1 hc hM hy hRa => by
      obtain ⟨hXo, hXe⟩ := hX st hM
      simp only [IE.eval, hY.2] at h0 h1
      obtain ⟨hc2, hr2⟩ := exec_forRange_sim fuel vx (.lit 0) hiX body st R
        (fun b (x : Int) => g b (cell y.toNat x.toNat)) hc rfl hXo hRx
        (fun st2 x a2 g0 g1 hc2 hM2 hx hR2 => by
          simp only [IE.eval, hXe] at g0 g1
          have hy2 : st2.ienv vy = (y.toNat : Int) := by
            rw [hM2.ienv vy (fun hm => (List.mem_cons.mp hm).elim hne hvy), hy]; omega
          exact hbody st2 a2 y.toNat x.toNat (by omega) (by omega) hc2
            (hM.trans (hM2.mono (List.subset_cons_of_subset _ (List.Subset.refl _)) (List.Subset.refl _)
              (List.Subset.refl _) (List.Subset.refl _) (List.Subset.refl _) (List.Subset.refl _)))
            hy2 (by rw [hx]; omega) hR2)
        a hRa
      refine ⟨hc2, ?_⟩
      simpa only [IE.eval, hXe, Int.sub_zero, Int.toNat_natCast, Int.zero_add, List.foldl_map] using hr2)
    a h0
  refine ⟨hc, ?_⟩
  rw [List.foldl_flatMap]
  simpa only [IE.eval, hY.2, Int.sub_zero, Int.toNat_natCast, Int.zero_add, List.foldl_map] using hr

/-- the raster double loop whose body stores `f p q` at `out[p, q]`: `out` becomes the row-major list of the `f p q` -/
theorem exec_for2_map (fuel : Nat) (vy vx : String) (hiY hiX : IE) (body : St) (out : String) (n m : Nat)
    (f : Nat → Nat → F) (s : State F) (hs : s.ctl = .run) (hne : vy ≠ vx) (hvy : vy ∉ wI body)
    (hlen : (s.fa out).length = n * m)
    (hY : hiY.ok s = true ∧ hiY.eval s = (n : Int))
    (hX : ∀ st : State F, For2Mods vy vx body s st → hiX.ok st = true ∧ hiX.eval st = (m : Int))
    (hbody : ∀ (st : State F) (p q : Nat), p < n → q < m → st.ctl = .run → For2Mods vy vx body s st →
      st.ienv vy = p → st.ienv vx = q →
      (exec fuel body st).ctl = .run ∧ (exec fuel body st).fa out = (st.fa out).set (p * m + q) (f p q)) :
    let r := exec fuel (.forRange vy (.lit 0) hiY (.lit 1) (.forRange vx (.lit 0) hiX (.lit 1) body)) s
    r.ctl = .run ∧ r.fa out = (pairs n m).map fun x => f x.1 x.2 := by
  intro r
  obtain ⟨hc, hv⟩ := exec_for2_sim fuel vy vx hiY hiX body n m (fun p q => (p, q))
    (fun o (x : Nat × Nat) => o.set (x.1 * m + x.2) (f x.1 x.2)) (fun st o => st.fa out = o) s hs hne hvy
    (fun _ _ _ h => h) (fun _ _ _ h => h) hY hX
    (fun st a p q hp hq hc hM vy vx hR => hR ▸ hbody st p q hp hq hc hM vy vx)
    (s.fa out) rfl
  exact ⟨hc, hv.trans (foldl_pairs_set n m f (s.fa out) hlen)⟩

/-- `for v in range(n): body` where `body` sets `flag` and breaks at the first index with `m k`:
    `flag = (List.range n).any m` -/
theorem exec_forRange_any (fuel : Nat) (v : String) (hi : IE) (body : St) (m : Nat → Bool) (flag : String) (s : State F)
    (n : Nat) (hs : s.ctl = .run) (hhi : hi.ok s = true ∧ hi.eval s = (n : Int)) (hflag : s.benv flag = false)
    (hstep : ∀ (st : State F) (k : Nat), k < n → st.ctl = .run → LoopMods v body s st → st.ienv v = k →
      st.benv flag = false →
      if m k then (exec fuel body st).ctl = .brk ∧ (exec fuel body st).benv flag = true
      else ((exec fuel body st).ctl = .run ∨ (exec fuel body st).ctl = .cont) ∧ (exec fuel body st).benv flag = false) :
    (exec fuel (.forRange v (.lit 0) hi (.lit 1) body) s).ctl = .run ∧
    (exec fuel (.forRange v (.lit 0) hi (.lit 1) body) s).benv flag = (List.range n).any m := by
  rw [exec_forRange_up fuel v hi body s n hhi.1 hhi.2]
  have h := loopOver_any (fun st i => exec fuel body { st with ienv := setS st.ienv v i })
    ((List.range n).map fun (k : Nat) => (k : Int)) (fun i => m i.toNat) flag (LoopMods v body s) (fun _ c hg => hg.ctl c)
    (fun st x hx hc hM hfl => by
      obtain ⟨k, hk, rfl⟩ := List.mem_map.mp hx
      have hM1 := hM.trans (mods_setI (v :: wI body) (wF body) (wB body) (wIA body) (wFA body) (wSh body) st v (k : Int)
        List.mem_cons_self)
      have hb := hstep { st with ienv := setS st.ienv v (k : Int) } k (List.mem_range.mp hk) hc hM1 (setS_same _ _ _) hfl
      exact ⟨hM1.trans (mods_body fuel v body _), by simpa using hb⟩)
    s hs (Mods.refl _ _ _ _ _ _ s) hflag
  exact ⟨h.1, by rw [h.2.2, List.any_map]; simp [Function.comp_def]⟩

abbrev LoopModsF (v : String) (body : St) (s st : State F) : Prop :=
  Mods (wI body) (v :: wF body) (wB body) (wIA body) (wFA body) (wSh body) s st

/-- `for v in arr: body` where `body` sets `flag` and breaks at the first element with `m x`: `flag = arr.any m` -/
theorem exec_forIn_any (fuel : Nat) (v arr : String) (body : St) (m : F → Bool) (flag : String) (s : State F)
    (hs : s.ctl = .run) (hshp : (s.shp arr).length = 1) (hflag : s.benv flag = false)
    (hstep : ∀ (st : State F) (x : F), x ∈ s.fa arr → st.ctl = .run → LoopModsF v body s st → st.fenv v = x →
      st.benv flag = false →
      if m x then (exec fuel body st).ctl = .brk ∧ (exec fuel body st).benv flag = true
      else ((exec fuel body st).ctl = .run ∨ (exec fuel body st).ctl = .cont) ∧ (exec fuel body st).benv flag = false) :
    (exec fuel (.forIn v arr body) s).ctl = .run ∧ (exec fuel (.forIn v arr body) s).benv flag = (s.fa arr).any m := by
  rw [exec_forIn_def, if_pos hshp]
  have h := loopOver_any (fun st x => exec fuel body { st with fenv := setS st.fenv v x }) (s.fa arr) m flag
    (LoopModsF v body s) (fun _ c hg => hg.ctl c)
    (fun st x hx hc hM hfl => by
      have hM1 : LoopModsF v body s { st with fenv := setS st.fenv v x } :=
        hM.trans (mods_setF _ _ _ _ _ _ st v x List.mem_cons_self)
      exact ⟨hM1.trans ((exec_frame fuel body _).mono (List.Subset.refl _) (List.subset_cons_self _ _)
          (List.Subset.refl _) (List.Subset.refl _) (List.Subset.refl _) (List.Subset.refl _)),
        hstep _ x hx hc hM1 (setS_same _ _ _) hfl⟩)
    s hs (Mods.refl _ _ _ _ _ _ s) hflag
  exact ⟨h.1, h.2.2⟩

end XrsVerif.IL.Fc
