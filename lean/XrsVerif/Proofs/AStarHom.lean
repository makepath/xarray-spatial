import XrsVerif.Proofs.AStarOpt
/-
  Transfer along a homomorphism of cost structures: if `φ : C → K` commutes with all operations of
  `Ops`, the search over `C` and the search over `K` take the same decisions and `φ` maps the
  costs of the first to the costs of the second.  Used to carry the exact-field theorems to the
  executable exact instance `opsQ2` (costs `a + b√2` as pairs of naturals) that the driver runs.
-/
namespace XrsVerif.AStar
variable {C K : Type}

structure OpsHom (φ : C → K) (o : Ops C) (o' : Ops K) : Prop where
  zero : φ o.zero = o'.zero
  add : ∀ a b, φ (o.add a b) = o'.add (φ a) (φ b)
  lt : ∀ a b, o.lt a b = o'.lt (φ a) (φ b)
  step : ∀ u v, φ (o.step u v) = o'.step u v
  heur : ∀ u v, φ (o.heur u v) = o'.heur u v
  big : ∀ h w, φ (o.big h w) = o'.big h w

def Env.withOps (e : Env C) (o' : Ops K) : Env K :=
  { ops := o', h := e.h, w := e.w, cross := e.cross, nbrs := e.nbrs, start := e.start, goal := e.goal }

def St.map (φ : C → K) (st : St C) : St K :=
  { isOpen := st.isOpen, isClosed := st.isClosed, g := fun c => φ (st.g c), f := fun c => φ (st.f c),
    parent := st.parent }

def LoopEnd.map (φ : C → K) : LoopEnd C → LoopEnd K
  | .found st => .found (st.map φ)
  | .exhausted st => .exhausted (st.map φ)
  | .sentinel st => .sentinel (st.map φ)
  | .fuel st => .fuel (st.map φ)

def Outcome.map (φ : C → K) : Outcome C → Outcome K
  | .path chain g => .path chain (fun c => φ (g c))
  | .noPath => .noPath
  | .anomaly w => .anomaly w

theorem map_upd (φ : C → K) (g : Cell → C) (v : Cell) (d : C) :
    (fun c => φ (upd g v d c)) = upd (fun c => φ (g c)) v (φ d) := by
  funext c; unfold upd; split <;> rfl

section
variable {φ : C → K} {e : Env C} {o' : Ops K}

theorem init_map (hom : OpsHom φ e.ops o') : (init e).map φ = init (e.withOps o') := by
  unfold init
  simp only [Env.withOps]
  by_cases hc : e.cross e.start = true
  · simp only [hc, if_true, St.map, map_upd, hom.zero, hom.add, hom.heur]
  · have hc' : e.cross e.start = false := by simpa using hc
    simp only [hc', Bool.false_eq_true, if_false, St.map, hom.zero]

theorem minFold_map (hom : OpsHom φ e.ops o') (st : St C) (l : List Cell) (acc : Option Cell × C) :
    l.foldl (minStep (e.withOps o') (st.map φ)) (acc.1, φ acc.2) =
      ((l.foldl (minStep e st) acc).1, φ (l.foldl (minStep e st) acc).2) :=
  List.foldl_hom (fun acc : Option Cell × C => (acc.1, φ acc.2)) fun acc x => by
    unfold minStep
    simp only [St.map, Env.withOps, ← hom.lt]
    split <;> rfl

theorem minCostOpen_map (hom : OpsHom φ e.ops o') (st : St C) :
    minCostOpen (e.withOps o') (st.map φ) = minCostOpen e st := by
  unfold minCostOpen
  have := minFold_map hom st (cells e.h e.w) (none, e.ops.big e.h e.w)
  simp only [hom.big] at this
  simp only [Env.withOps] at this ⊢
  rw [this]

theorem anyOpen_map (st : St C) : anyOpen (e.withOps o') (st.map φ) = anyOpen e st := rfl

theorem relax_map (hom : OpsHom φ e.ops o') (u : Cell) (st : St C) (off : Cell) :
    (relax e u st off).map φ = relax (e.withOps o') u (st.map φ) off := by
  unfold relax
  simp only [Env.withOps, St.map, ← hom.add, ← hom.step, ← hom.heur, ← hom.lt]
  split
  · rfl
  · split
    · rfl
    · split
      · rfl
      · split
        · rfl
        · simp only [map_upd]

theorem expand_map (hom : OpsHom φ e.ops o') (st : St C) (u : Cell) :
    (expand e st u).map φ = expand (e.withOps o') (st.map φ) u :=
  (List.foldl_hom (St.map φ) fun st off => (relax_map hom u st off).symm).symm

theorem loop_map (hom : OpsHom φ e.ops o') :
    ∀ (n : Nat) (st : St C), (loop e n st).map φ = loop (e.withOps o') n (st.map φ)
  | 0, st => rfl
  | n + 1, st => by
    unfold loop
    rw [anyOpen_map, minCostOpen_map hom]
    split
    · rfl
    · cases minCostOpen e st with
      | none => rfl
      | some u =>
        simp only
        have hg : (e.withOps o').goal = e.goal := rfl
        rw [hg]
        split
        · rfl
        · rw [← expand_map hom]; exact loop_map hom n _

theorem search_map (hom : OpsHom φ e.ops o') : (search e).map φ = search (e.withOps o') := by
  unfold search
  have h1 := loop_map hom (e.h * e.w + 1) (init e)
  rw [init_map hom] at h1
  have hh : (e.withOps o').h = e.h := rfl
  have hw : (e.withOps o').w = e.w := rfl
  have hs : (e.withOps o').start = e.start := rfl
  have hg : (e.withOps o').goal = e.goal := rfl
  rw [hh, hw, hs, hg, ← h1]
  cases loop e (e.h * e.w + 1) (init e) with
  | found st =>
    simp only [LoopEnd.map]
    have : (st.map φ).parent = st.parent := rfl
    rw [this]
    cases walk st.parent e.start (e.h * e.w) e.goal with
    | none => rfl
    | some chain => rfl
  | exhausted st => rfl
  | sentinel st => rfl
  | fuel st => rfl

end
end XrsVerif.AStar
