import XrsVerif.Proofs.PolygonizeLosslessScan
import XrsVerif.Proofs.PolygonizeLosslessArea
/-
  C15, losslessness: what the rings of a completely traced region say about its pixels (no reference to the scan), and
  that `_scan` traces every region completely (`scan_done`).  All cycles of the region together wind once round each
  of its pixels and not at all round the others (`Traced.w_total`), a single cycle `a` times on the region and `a`,
  `a − 1` or `0` times elsewhere (`GoodReg.w_cycle`); point in polygon, even-odd, area and orientation follow.
-/
namespace XrsVerif.Polygonize

theorem wcol_flatten_even (cs : List (List FSt)) (x y : Int) (h : ∀ c ∈ cs, wcol c x y % 2 = 0) :
    wcol cs.flatten x y % 2 = 0 := by
  induction cs with
  | nil => simp [wcol_nil]
  | cons c cs ih =>
    rw [List.flatten_cons, wcol_append]
    have h1 := h c List.mem_cons_self
    have h2 := ih fun c' hc' => h c' (List.mem_cons_of_mem _ hc')
    omega

theorem inRing_cyc {R : Int → Int → Bool} {nx ny : Nat} (hR : InRaster R nx ny) {c : List FSt}
    (hc : IsCyc R c) (x y : Int) : inRing (cycRing c) x y = true ↔ wcol c x y % 2 = 1 := by
  obtain ⟨hcl, k, start, e, hit⟩ := hc
  have h1 := crossings_cycRing R x y k start hit
  have h2 := wrow_eq_wcol' hcl hR x y
  rw [← e] at h1
  simp only [inRing, h1, beq_iff_eq]
  unfold wrow at h2
  omega

theorem inPolygon_cyc {R : Int → Int → Bool} {nx ny : Nat} (hR : InRaster R nx ny) {c0 : List FSt}
    {rest : List (List FSt)} (h : ∀ c ∈ c0 :: rest, IsCyc R c) (x y : Int) :
    inPolygon ((c0 :: rest).map cycRing) x y = true ↔
      wcol c0 x y % 2 = 1 ∧ ∀ c ∈ rest, wcol c x y % 2 = 0 := by
  simp only [List.map_cons, inPolygon, Bool.and_eq_true, List.all_eq_true, List.mem_map, forall_exists_index,
    and_imp, forall_apply_eq_imp_iff₂, Bool.not_eq_true', inRing_cyc hR (h c0 List.mem_cons_self)]
  refine and_congr_right fun _ => forall₂_congr fun c hc => ?_
  have := inRing_cyc hR (h c (List.mem_cons_of_mem _ hc)) x y
  cases hin : inRing (cycRing c) x y <;> rw [hin] at this <;> simp at this ⊢ <;> omega

theorem crossings_flatten {R : Int → Int → Bool} {nx ny : Nat} (hR : InRaster R nx ny) (x y : Int) :
    ∀ cs : List (List FSt), (∀ c ∈ cs, IsCyc R c) →
      ((((cs.map cycRing).map (fun ring => crossings ring x y)).sum : Nat) : Int) % 2 = wcol cs.flatten x y % 2
  | [], _ => by simp [wcol_nil]
  | c :: cs, h => by
    have ih := crossings_flatten hR x y cs fun c' hc' => h c' (List.mem_cons_of_mem _ hc')
    have h1 := inRing_cyc hR (h c List.mem_cons_self) x y
    simp only [inRing, beq_iff_eq] at h1
    simp only [List.map_cons, List.sum_cons, List.flatten_cons, wcol_append]
    push_cast
    omega

/-- discrete Green for all rings together -/
theorem area2_flatten {R : Int → Int → Bool} {nx ny : Nat} (hR : InRaster R nx ny) :
    ∀ cs : List (List FSt), (∀ c ∈ cs, IsCyc R c) →
      ((cs.map cycRing).map area2).sum = 2 * gsum nx ny (wcol cs.flatten)
  | [], _ => by simp [gsum, wcol_nil, sumN_zero]
  | c :: cs, h => by
    have e : gsum nx ny (wcol (c ++ cs.flatten)) = gsum nx ny (fun x y => wcol c x y + wcol cs.flatten x y) :=
      gsum_congr fun X Y _ _ => wcol_append c cs.flatten X Y
    rw [List.map_cons, List.map_cons, List.sum_cons, List.flatten_cons, e, gsum_add,
      area2_flatten hR cs fun c' hc' => h c' (List.mem_cons_of_mem _ hc'), green hR (h c List.mem_cons_self)]
    omega

def wP (nx : Nat) (L : List FSt) (p : Nat) : Int := wcol L ((p % nx : Nat) : Int) ((p / nx : Nat) : Int)

def SameBack (nx ny : Nat) (conn8 : Bool) (regs : Nat → Nat) (p q : Nat) : Prop :=
  p < nx * ny ∧ q ∈ back nx conn8 p ∧ regs p = regs q

/-- the regions of `regs` are connected: two pixels with the same non-zero id are joined by a chain of
    neighbours that carry this id -/
def RegConn (nx ny : Nat) (conn8 : Bool) (regs : Nat → Nat) : Prop :=
  ∀ p q, p < nx * ny → q < nx * ny → regs p = regs q → regs p ≠ 0 → Cl (SameBack nx ny conn8 regs) p q

theorem chain_w {nx ny : Nat} (hnx : 0 < nx) (conn8 : Bool) (regs : Nat → Nat) (r : Nat) {L : List FSt}
    (hL : Closed (inRegion nx ny regs r) L) :
    ∀ p q, Cl (SameBack nx ny conn8 regs) p q → regs p = regs q ∧ (regs p = r → wP nx L p = wP nx L q) := by
  intro p q h
  induction h with
  | refl u => exact ⟨rfl, fun _ => rfl⟩
  | symm _ ih => exact ⟨ih.1.symm, fun h => (ih.2 (ih.1.trans h)).symm⟩
  | trans _ _ ih1 ih2 => exact ⟨ih1.1.trans ih2.1, fun h => (ih1.2 h).trans (ih2.2 (ih1.1.symm.trans h))⟩
  | base e =>
    rename_i p q
    obtain ⟨hp, hb, hreg⟩ := e
    refine ⟨hreg, fun hr => ?_⟩
    have hq : q < nx * ny := Nat.lt_trans (back_lt nx conn8 hnx hb) hp
    have hRp := (inRegion_idx hnx regs r hp).mpr hr
    have hRq := (inRegion_idx hnx regs r hq).mpr (hreg.symm.trans hr)
    have hadj := w_adjacent hL (inRegion_inRaster nx ny regs r) _ _ hRp
    unfold wP
    rcases back_coords nx conn8 hnx hb with ⟨e1, e2⟩ | ⟨e1, e2⟩ | ⟨e1, e2⟩ | ⟨e1, e2⟩ <;>
      rw [e1, e2] at hRq ⊢
    · exact (hadj.1 hRq).symm
    · exact (hadj.2.1 hRq).symm
    · exact (hadj.2.2.1 hRq).symm
    · exact (hadj.2.2.2 hRq).symm

theorem above_first {nx ny : Nat} (hnx : 0 < nx) (regs : Nat → Nat) (r : Nat) {f : Nat}
    (hfirst : ∀ p, p < f → regs p ≠ r) {x y : Int} (h : inRegion nx ny regs r x y = true)
    (hx : x = ((f % nx : Nat) : Int)) : ((f / nx : Nat) : Int) ≤ y := by
  obtain ⟨h0, h1, h2, h3⟩ := inRegion_inRaster nx ny regs r x y h
  obtain ⟨X, rfl⟩ := Int.eq_ofNat_of_zero_le h0
  obtain ⟨Y, rfl⟩ := Int.eq_ofNat_of_zero_le h2
  obtain ⟨_, _, hr⟩ := (inRegion_nat nx ny regs r X Y).mp h
  have hX : X = f % nx := by omega
  by_cases hlt : Y < f / nx
  · exfalso
    have hd := Nat.mod_add_div' f nx
    have : (Y + 1) * nx ≤ f / nx * nx := Nat.mul_le_mul_right nx hlt
    rw [Nat.add_mul] at this
    exact hfirst (X + Y * nx) (by omega) hr
  · omega

theorem w_first {nx ny : Nat} (hnx : 0 < nx) (regs : Nat → Nat) (r : Nat) {L : List FSt}
    (hL : Closed (inRegion nx ny regs r) L) {f : Nat} (hfirst : ∀ p, p < f → regs p ≠ r) :
    wP nx L f = (L.count ⟨(f % nx : Nat), (f / nx : Nat), .E⟩ : Int) := by
  have key : ∀ s ∈ L, s.x = ((f % nx : Nat) : Int) → ((f / nx : Nat) : Int) ≤ s.y :=
    fun s hs hx => above_first hnx regs r hfirst (hL.valid s hs).1 hx
  have h1 : cE L ((f % nx : Nat) : Int) ((f / nx : Nat) : Int) = L.count ⟨(f % nx : Nat), (f / nx : Nat), .E⟩ := by
    unfold cE
    rw [List.count_eq_countP]
    apply List.countP_congr
    intro s hs
    have := key s hs
    obtain ⟨sx, sy, sd⟩ := s
    cases sd <;> simp at this ⊢
    grind
  have h2 : cW L ((f % nx : Nat) : Int) ((f / nx : Nat) : Int) = 0 := by
    unfold cW
    rw [List.countP_eq_zero]
    intro s hs
    have := key s hs
    simp
    intro _ hx
    have := this hx
    omega
  unfold wP wcol
  rw [h1, h2]; simp

section region
variable {nx ny : Nat} (hnx : 0 < nx) {regs : Nat → Nat} {conn8 : Bool} (hconn : RegConn nx ny conn8 regs)
  {r f : Nat} {cs : List (List FSt)}

theorem GoodReg.closed (hg : GoodReg nx ny regs r f cs) : Closed (inRegion nx ny regs r) cs.flatten :=
  closed_flatten _ fun c hc => (hg.cyc c hc).1

/-- exterior first, then the holes: the exterior passes through the S edge of the first pixel, no hole does, and
    every hole through a W-headed edge under a pixel of another region -/
theorem GoodReg.cases (hg : GoodReg nx ny regs r f cs) :
    ∃ c0 rest, cs = c0 :: rest ∧ c0.count (Est nx f) = 1 ∧ ∀ h ∈ rest, h.count (Est nx f) = 0 ∧
      ∃ X Y : Nat, X < nx ∧ Y + 1 < ny ∧ regs (X + (Y + 1) * nx) ≠ r ∧ h.count ⟨(X : Int), (Y : Int), .W⟩ = 1 := by
  obtain ⟨c0, rest, hcs, hE0, hholes⟩ := hg.head
  have hnd := hg.nodup
  rw [hcs, List.flatten_cons] at hnd
  obtain ⟨hn0, hnr, hdis⟩ := List.nodup_append.mp hnd
  refine ⟨c0, rest, hcs, by rw [hn0.count, if_pos hE0], fun h hh => ⟨?_, ?_⟩⟩
  · exact List.count_eq_zero_of_not_mem fun hmem => hdis _ hE0 _ (List.mem_flatten.mpr ⟨h, hh, hmem⟩) rfl
  · obtain ⟨X, Y, h1, h2, h3, h4⟩ := hholes h hh
    have : h.Nodup := (List.nodup_flatten.mp hnr).1 h hh
    exact ⟨X, Y, h1, h2, h3, by rw [this.count, if_pos h4]⟩

theorem count_off {L : List FSt} (hL : Closed (inRegion nx ny regs r) L) (X Y : Nat) (d : Dir)
    (h : regs (X + Y * nx) ≠ r) : L.count ⟨(X : Int), (Y : Int), d⟩ = 0 :=
  hL.count_invalid fun hv => h ((inRegion_nat nx ny regs r X Y).mp hv.1).2.2

/-- stepping up onto a pixel outside the region: only a W-headed edge can be crossed -/
theorem wcol_leave {R : Int → Int → Bool} {L : List FSt} (hL : Closed R L) (x y : Int) (hoff : R x (y + 1) = false) :
    wcol L x (y + 1) = wcol L x y - (L.count ⟨x, y, .W⟩ : Int) := by
  rw [wcol_succ, hL.count_invalid (a := ⟨x, y + 1, .E⟩) fun hv => Bool.false_ne_true (hoff.symm.trans hv.1)]
  omega

include hnx hconn in
/-- on the region the winding number w.r.t. a closed list of its boundary edges is the number of occurrences of
    the S edge of the first pixel (constant on the region, and nothing of the region lies below that edge) -/
theorem GoodReg.w_on (hg : GoodReg nx ny regs r f cs) (hr : 1 ≤ r) {L : List FSt}
    (hL : Closed (inRegion nx ny regs r) L) {X Y : Nat} (hX : X < nx) (hY : Y < ny) (h : regs (X + Y * nx) = r) :
    wcol L (X : Int) (Y : Int) = (L.count (Est nx f) : Int) := by
  have := (chain_w hnx conn8 regs r hL _ _
    (hconn _ _ (pix_lt hX hY) hg.inr (h.trans hg.reg.symm) (by omega))).2 h
  rw [w_first hnx regs r hL hg.first] at this
  unfold wP at this
  rwa [(xy_of X Y hX).1, (xy_of X Y hX).2] at this

/-- **up a column**: off the region the winding number is 0 (below the region) or its value `a` on the region
    minus the occurrences of the W-headed edge at which the column last left the region -/
theorem wcol_off {L : List FSt} (hL : Closed (inRegion nx ny regs r) L) (a : Int) (X : Nat)
    (hon : ∀ Y, Y < ny → regs (X + Y * nx) = r → wcol L (X : Int) (Y : Int) = a) :
    ∀ Y, Y < ny → regs (X + Y * nx) ≠ r → wcol L (X : Int) (Y : Int) = 0 ∨
      ∃ Y', Y' < Y ∧ regs (X + Y' * nx) = r ∧ regs (X + (Y' + 1) * nx) ≠ r ∧
        wcol L (X : Int) (Y : Int) = a - (L.count ⟨(X : Int), (Y' : Int), .W⟩ : Int) := by
  have hR := inRegion_inRaster nx ny regs r
  have off : ∀ Y : Nat, regs (X + Y * nx) ≠ r → inRegion nx ny regs r (X : Int) (Y : Int) = false := fun Y h =>
    Bool.eq_false_iff.mpr fun hh => h ((inRegion_nat nx ny regs r X Y).mp hh).2.2
  intro Y
  induction Y with
  | zero =>
    intro _ h0
    have e := wcol_leave hL (X : Int) (-1) (by simpa using off 0 h0)
    rw [wcol_below hL hR (X : Int) (-1) (by omega),
      hL.count_invalid (a := ⟨(X : Int), -1, .W⟩) fun hv => by have := hR _ _ hv.1; simp only at this; omega] at e
    exact .inl (by simpa using e)
  | succ Y ih =>
    intro hY h1
    rw [Int.natCast_add, Int.natCast_one, wcol_leave hL (X : Int) (Y : Int) (off (Y + 1) h1)]
    by_cases h0 : regs (X + Y * nx) = r
    · exact .inr ⟨Y, by omega, h0, h1, by rw [hon Y (by omega) h0]⟩
    · rw [count_off hL X Y .W h0]
      rcases ih (by omega) h0 with h | ⟨Y', hlt, a1, a2, a3⟩
      · exact .inl (by simpa using h)
      · exact .inr ⟨Y', by omega, a1, a2, by simpa using a3⟩

/-- the cycles of a region that `_scan` is through with: also every N edge of the region whose upper pixel lies
    inside the raster is on one of them -/
structure Traced (nx ny : Nat) (regs : Nat → Nat) (r f : Nat) (cs : List (List FSt)) : Prop
    extends GoodReg nx ny regs r f cs where
  cov : ∀ X Y : Nat, X < nx → Y + 1 < ny → regs (X + Y * nx) = r → regs (X + (Y + 1) * nx) ≠ r →
    (⟨(X : Int), (Y : Int), .W⟩ : FSt) ∈ cs.flatten

include hnx hconn

theorem Traced.w_total (hg : Traced nx ny regs r f cs) (hr : 1 ≤ r) {X Y : Nat} (hX : X < nx) (hY : Y < ny) :
    wcol cs.flatten (X : Int) (Y : Int) = if regs (X + Y * nx) = r then 1 else 0 := by
  have hcl := hg.toGoodReg.closed
  obtain ⟨c0, rest, hcs, hE0, _⟩ := hg.head
  have ha : (cs.flatten.count (Est nx f) : Int) = 1 := by
    rw [hg.nodup.count, if_pos (by rw [hcs, List.flatten_cons]; exact List.mem_append_left _ hE0)]; rfl
  have hon := fun (Y : Nat) (hY : Y < ny) (h : regs (X + Y * nx) = r) =>
    (hg.toGoodReg.w_on hnx hconn hr hcl hX hY h).trans ha
  split
  · rename_i h; exact hon Y hY h
  · rename_i h
    rcases wcol_off hcl 1 X hon Y hY h with h0 | ⟨Y', hlt, a1, a2, a3⟩
    · exact h0
    · rw [a3, hg.nodup.count, if_pos (hg.cov X Y' hX (by omega) a1 a2)]; rfl

theorem GoodReg.w_cycle (hg : GoodReg nx ny regs r f cs) (hr : 1 ≤ r) {c : List FSt} (hc : c ∈ cs)
    {X Y : Nat} (hX : X < nx) (hY : Y < ny) :
    (regs (X + Y * nx) = r → wcol c (X : Int) (Y : Int) = (c.count (Est nx f) : Int)) ∧
    (wcol c (X : Int) (Y : Int) = (c.count (Est nx f) : Int) ∨
      wcol c (X : Int) (Y : Int) = (c.count (Est nx f) : Int) - 1 ∨ wcol c (X : Int) (Y : Int) = 0) := by
  have hcl := (hg.cyc c hc).1
  have hon := fun (Y : Nat) (hY : Y < ny) (h : regs (X + Y * nx) = r) => hg.w_on hnx hconn hr hcl hX hY h
  refine ⟨hon Y hY, ?_⟩
  by_cases h : regs (X + Y * nx) = r
  · exact .inl (hon Y hY h)
  · rcases wcol_off hcl _ X hon Y hY h with h0 | ⟨Y', _, _, _, a3⟩
    · exact .inr (.inr h0)
    · have := ((List.nodup_flatten.mp hg.nodup).1 c hc).count (a := (⟨(X : Int), (Y' : Int), .W⟩ : FSt))
      rw [a3, this]
      split <;> simp

/-- **point in polygon = region membership** -/
theorem Traced.inPolygon (hg : Traced nx ny regs r f cs) (hr : 1 ≤ r) {X Y : Nat} (hX : X < nx) (hY : Y < ny) :
    inPolygon (cs.map cycRing) (X : Int) (Y : Int) = (regs (X + Y * nx) == r) := by
  have hR := inRegion_inRaster nx ny regs r
  have htot := hg.w_total hnx hconn hr hX hY
  obtain ⟨c0, rest, hcs, h1, h0⟩ := hg.toGoodReg.cases
  have hcyc := hg.cyc
  have hw := fun c hc => hg.toGoodReg.w_cycle hnx hconn hr (c := c) hc hX hY
  subst hcs
  rw [Bool.eq_iff_iff, inPolygon_cyc hR hcyc, beq_iff_eq]
  constructor
  · -- odd round the exterior, even round every hole: odd in total
    rintro ⟨hodd, heven⟩
    have := wcol_flatten_even rest (X : Int) (Y : Int) heven
    rw [List.flatten_cons, wcol_append] at htot
    split at htot
    · assumption
    · omega
  · intro hreg
    refine ⟨by rw [(hw c0 List.mem_cons_self).1 hreg, h1]; rfl, fun c hc => ?_⟩
    rw [(hw c (List.mem_cons_of_mem _ hc)).1 hreg, (h0 c hc).1]; rfl

/-- **even-odd rule over all rings of the polygon** (exterior and holes together) -/
theorem Traced.evenodd (hg : Traced nx ny regs r f cs) (hr : 1 ≤ r) {X Y : Nat} (hX : X < nx) (hY : Y < ny) :
    ((cs.map cycRing).map (fun ring => crossings ring (X : Int) (Y : Int))).sum % 2 =
      if regs (X + Y * nx) = r then 1 else 0 := by
  have := crossings_flatten (inRegion_inRaster nx ny regs r) (X : Int) (Y : Int) cs hg.cyc
  rw [hg.w_total hnx hconn hr hX hY] at this
  split at this <;> split <;> omega

/-- **area**: the shoelace areas of the rings of a polygon add up to twice the number of pixels of its region -/
theorem Traced.area (hg : Traced nx ny regs r f cs) (hr : 1 ≤ r) :
    ((cs.map cycRing).map area2).sum = 2 * (((List.range (nx * ny)).countP (fun p => regs p == r) : Nat) : Int) := by
  rw [area2_flatten (inRegion_inRaster nx ny regs r) cs hg.cyc, countP_range, sumN_flat]
  congr 1
  unfold gsum
  apply sumN_congr; intro y hy
  apply sumN_congr; intro x hx
  rw [hg.w_total hnx hconn hr hx hy]
  simp only [beq_iff_eq]

/-- **orientation**: the exterior ring is anticlockwise (positive area), every hole ring clockwise -/
theorem GoodReg.orientation (hg : GoodReg nx ny regs r f cs) (hr : 1 ≤ r) :
    ∃ c0 rest, cs = c0 :: rest ∧ 0 < area2 (cycRing c0) ∧ ∀ h ∈ rest, area2 (cycRing h) < 0 := by
  have hR := inRegion_inRaster nx ny regs r
  obtain ⟨c0, rest, hcs, h1, h0⟩ := hg.cases
  have hw := fun c hc X Y hX hY => hg.w_cycle hnx hconn hr (c := c) hc (X := X) (Y := Y) hX hY
  refine ⟨c0, rest, hcs, ?_, fun h hh => ?_⟩
  · -- round the exterior: 1 at the first pixel, nowhere negative
    have hc0 : c0 ∈ cs := by rw [hcs]; exact List.mem_cons_self
    have hfx : f % nx < nx := Nat.mod_lt f hnx
    have hfy : f / nx < ny := Nat.div_lt_of_lt_mul hg.inr
    rw [green hR (hg.cyc c0 hc0)]
    have : 0 < gsum nx ny (wcol c0) := by
      refine gsum_pos (fun X Y hX hY => ?_) hfx hfy ?_
      · have := (hw c0 hc0 X Y hX hY).2; omega
      · rw [(hw c0 hc0 _ _ hfx hfy).1 (by rw [Nat.mod_add_div']; exact hg.reg), h1]; decide
    omega
  · -- round a hole: −1 at the pixel above the edge it was started from, nowhere positive
    have hhc : h ∈ cs := by rw [hcs]; exact List.mem_cons_of_mem _ hh
    obtain ⟨ha, X, Y, hX, hY1, hoff, hW⟩ := h0 h hh
    have hcl := (hg.cyc h hhc).1
    have hmem : (⟨(X : Int), (Y : Int), .W⟩ : FSt) ∈ h := List.count_pos_iff.mp (by omega)
    have hreg : regs (X + Y * nx) = r := ((inRegion_nat nx ny regs r X Y).mp (hcl.valid _ hmem).1).2.2
    rw [green hR (hg.cyc h hhc)]
    have : 0 < gsum nx ny (fun x y => -wcol h x y) := by
      refine gsum_pos (fun X Y hX hY => ?_) hX hY1 ?_
      · have := (hw h hhc X Y hX hY).2; omega
      · have e := wcol_leave hcl (X : Int) (Y : Int)
          (Bool.eq_false_iff.mpr fun hh => hoff ((inRegion_nat nx ny regs r X (Y + 1)).mp hh).2.2)
        rw [(hw h hhc X Y hX (by omega)).1 hreg, ha, hW] at e
        rw [Int.natCast_add, Int.natCast_one, e]; decide
    rw [gsum_neg'] at this
    omega

end region

/-- what `_scan` returns: it succeeds, one polygon and one column entry per region, and polygon `i` consists of the
    rings of the cycles of the completely traced region `i + 1` -/
structure ScanDone {V : Type} (nx ny : Nat) (regs : Nat → Nat) (values : Nat → V) (sc : Scan V) : Prop where
  ok : sc.ok = true
  npolys : sc.polys.length = sc.regionDone
  ncol : sc.column.length = sc.regionDone
  seen : ∀ p, p < nx * ny → regs p ≤ sc.regionDone
  traced : ∀ i, i < sc.regionDone → ∃ f cs, Traced nx ny regs (i + 1) f cs ∧
    sc.polys.getD i [] = cs.map cycRing ∧ sc.column.reverse[i]? = some (values f)

theorem scan_done {V : Type} {nx ny : Nat} (hnx : 0 < nx) (regs : Nat → Nat) (values : Nat → V)
    (hrank : Ranked regs (nx * ny)) :
    ScanDone nx ny regs values
      ((List.range (nx * ny)).foldl (scanStep nx ny regs values) ⟨[], [], 0, [], [], true⟩) := by
  obtain ⟨cyc, fs, h⟩ := scan_inv nx ny hnx regs values hrank
  refine ⟨h.ok, by rw [h.polys, List.length_map, List.length_range],
    by rw [h.col, List.length_reverse, List.length_map, List.length_range], h.seen, fun i hi => ?_⟩
  obtain ⟨hg, _⟩ := h.good (i + 1) (by omega) (by omega)
  refine ⟨fs (i + 1), cyc (i + 1), ⟨hg, fun X Y hX hY h1 h2 => ?_⟩, ?_, ?_⟩
  · -- the pixel above the edge is a hole-start candidate, so it was flagged, by a cycle of this region
    have hsub : X + (Y + 1) * nx - nx = X + Y * nx := by rw [Nat.add_mul]; omega
    have hmem := h.cov (X + (Y + 1) * nx) (by rw [Nat.add_mul]; omega) (pix_lt hX hY) (by rw [hsub, h1]; exact h2)
      (by rw [hsub, h1]; omega)
    have := ((h.v2 _).mp hmem).2.2.2.2
    rw [hsub, h1] at this
    simpa only [Wst, (xy_of X Y hX).1, (xy_of X Y hX).2] using this
  · rw [List.getD_eq_getElem?_getD, h.polys, List.getElem?_map, List.getElem?_range hi]; rfl
  · rw [h.col, List.reverse_reverse, List.getElem?_map, List.getElem?_range hi]; rfl

theorem Traced.wellFormed {nx ny : Nat} {regs : Nat → Nat} {r f : Nat} {cs : List (List FSt)}
    (hg : Traced nx ny regs r f cs) : ∀ ring ∈ cs.map cycRing, ringWellFormed nx ny ring = true := by
  intro ring hring
  obtain ⟨c, hc, rfl⟩ := List.mem_map.mp hring
  exact ringWellFormed_cyc (inRegion_inRaster nx ny regs r) (hg.cyc c hc)

end XrsVerif.Polygonize
