import XrsVerif.Proofs.ILVsInitElev
import XrsVerif.Proofs.ILVsAngle
/-
  The three inlined `_calc_event_pos` + `_calculate_angle` of the generated `_init_event_list`
  (each stores the bearing of the model's event point into the event record `e`) and the append `event_list[count_event] = e`.
-/
namespace XrsVerif.ILSw
open XrsVerif XrsVerif.IL XrsVerif.ViewshedEvents
variable {F : Type} [Fl F]
set_option linter.unusedVariables false

/-- the bearing `_init_event_list` stores for the event `ty` of cell `(i, j)` seen from `(vr, vc)`:
    `_calculate_angle` of the event point `_calc_event_pos` returns -/
def bearingF (i j vr vc ty : Int) : F :=
  angF (halfF j (posOff ty (i - vr) (j - vc)).2) (halfF i (posOff ty (i - vr) (j - vc)).1) (Fl.lit vc 1) (Fl.lit vr 1)

def PosAngSpec (F : Type) [Fl F] (p a : String) (ty : Int) : Prop :=
  ∀ (hL : LitOK F) (hH : HalfOK F) (rest : St) (s : State F) (fuel : Nat) (hs : s.ctl = .run) (i j vr vc : Int)
    (hshe : s.shp "e" = [7]) (hlen : (s.fa "e").length = 7)
    (h2 : s.ienv "e_row" = i) (h3 : s.ienv "e_col" = j) (h6 : s.ienv "vp_row" = vr) (h7 : s.ienv "vp_col" = vc),
    ∃ s' : State F, exec fuel (posAng p a ty rest) s = exec fuel rest s' ∧ EvStep s s' ∧
      s'.fa = setS s.fa "e" (((s.fa "e").set 2 (Fl.lit ty 1)).set 3 (bearingF i j vr vc ty))

theorem axay_head : ∀ v ∈ ["ax", "ay"], v.toList.head? ≠ some '_' := by simp

/-- an inlined `_calc_event_pos` (locals prefixed `p`) followed by an inlined `_calculate_angle` (locals prefixed `a`) for
    the event code `ty`: of the two prefixes only "starts with `_`" is used -/
theorem posAng_spec (p a : String) (ty : Int) (hp : p.toList.head? = some '_') (ha : a.toList.head? = some '_')
    (hty : ty = 1 ∨ ty = 0 ∨ ty = -1) : PosAngSpec F p a ty := by
  have nLp := ne_pfx liveVars p liveVars_head hp
  have nLa := ne_pfx liveVars a liveVars_head ha
  have nP := nLp
  have nA := nLa
  have nXp := ne_pfx _ p axay_head hp
  have nXa := ne_pfx _ a axay_head ha
  simp only [liveVars, List.forall_mem_cons, List.not_mem_nil, IsEmpty.forall_iff, implies_true, and_true] at nP nA nXp nXa
  intro hL hH rest s fuel hs i j vr vc hshe hlen h2 h3 h6 h7
  obtain ⟨ie, fe, be, ia, fa, shp, ext, ctl⟩ := s
  simp only at hs hshe hlen h2 h3 h6 h7; subst hs
  obtain ⟨e0, e1, e2, e3, e4, e5, e6, hE⟩ := list7 _ hlen
  have hl := hL ty hty
  have hpb := fun s hs h1 => posBody_exec (F := F) hH .num p s fuel hs ty ⟨h1, hl.1, hl.2⟩
  have hab := fun s => angBody_exec (F := F) a s fuel
  simp [posAng, exec, IE.ok, IE.eval, FE.ok, FE.eval, hshe, inRange, normIdx, off1, hE, setS_apply, h2, h3, h6, h7,
    hpb, posEnv, posS', hab, nP, nA, nXp, nXa]
  refine ⟨_, rfl, ⟨rfl, rfl, rfl, rfl, ?_⟩, ?_⟩
  · intro v hv
    simp [setS_apply, fun x => nLp x v hv, fun x => nLa x v hv]
  · rw [angEnv_apply, if_pos (by simp)]
    simp [setS_setS, setS_apply, bearingF]


theorem appendE_exec (cp : String) (hcp : ∀ v ∈ liveVars, v ≠ cp ++ "r" ∧ v ≠ cp ++ "k") (rest : St) (s : State F) (fuel n c : Nat)
    (hs : s.ctl = .run) (hshp : s.shp "event_list" = [n, 7]) (hlen : (s.fa "event_list").length = n * 7)
    (hshe : s.shp "e" = [7]) (hc : s.ienv "count_event" = c) (hcn : c < n) :
    ∃ s' : State F, exec fuel (appendE cp rest) s = exec fuel rest s' ∧ EvStep s s' ∧ s'.fenv = s.fenv ∧
      s'.fa = setS s.fa "event_list" (setRow (s.fa "event_list") 7 c (fun k => (s.fa "e").getD k Fl.nan)) := by
  obtain ⟨ie, fe, be, ia, fa, shp, ext, ctl⟩ := s
  simp only at hs hshp hlen hshe hc; subst hs
  have h1 : exec fuel (.setI (cp ++ "r") (.var "count_event")) ⟨ie, fe, be, ia, fa, shp, ext, .run⟩ =
      ⟨setS ie (cp ++ "r") c, fe, be, ia, fa, shp, ext, .run⟩ := by
    simp [il, hc]
  have h2 := forRange_setRow "event_list" (cp ++ "k") (.dim "event_list" 1) (.var (cp ++ "r")) (.ld1 "e" (.var (cp ++ "k")))
    ⟨setS ie (cp ++ "r") c, fe, be, ia, fa, shp, ext, .run⟩ fuel n 7 c (fun k => (fa "e").getD k Fl.nan) rfl hshp hlen hcn
    (by omega) (by simp [il, hshp])
    (by
      intro k l hk hl hout
      have hin : inRange (k : Int) 7 = true := inRange_of_lt k 7 hk
      simp [il, hshe, hin, off1_nat])
  simp only [appendE]
  rw [exec_seq_eq _ _ _ _ _ h1 rfl, rowcpE, exec_seq_eq _ _ _ _ _ h2 rfl]
  refine ⟨_, rfl, ⟨rfl, rfl, rfl, rfl, ?_⟩, rfl, rfl⟩
  intro v hv
  have := hcp v hv
  simp [setS_apply, this.1, this.2]

end XrsVerif.ILSw
