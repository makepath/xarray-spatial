import XrsVerif.Proofs.ILangFrame
import XrsVerif.Gen.IL
/-
  The generated `_process_proximity_line` as a *template over its variable names*.

  `Gen.IL.processNumpy` contains the body of `_process_proximity_line` four times (`.scope`, locals prefixed
  `_process_proximity_line<k>$`, array parameters replaced by the caller's arrays).  So that one proof
  serves the stand-alone program `Gen.IL.proximityLine` and the four inlined copies, the statements of the
  line sweep are written once as `lineBody N` for a naming `N : Names` (an injective map from the 21 scalar
  names `LV` to strings and the four read-only array names); the stand-alone program (`proximityLine_is_template`)
  and the four `scope`s (`processNumpy_is_template`, Proofs/ILProxNumpyDefs.lean) are checked to be instances by
  `rfl` -- a source edit of the line function changes `Gen/IL.lean` and breaks these `rfl`s.
-/
namespace XrsVerif.IL.Px
open XrsVerif
variable {F : Type} [Fl F]
set_option linter.unusedSectionVars false

/-- nothing but scalars changed -/
structure ScalOnly (s r : State F) : Prop where
  fa : r.fa = s.fa
  ia : r.ia = s.ia
  shp : r.shp = s.shp
  ext : r.ext = s.ext

theorem ScalOnly.trans {s r t : State F} (h1 : ScalOnly s r) (h2 : ScalOnly r t) : ScalOnly s t :=
  ⟨h2.fa.trans h1.fa, h2.ia.trans h1.ia, h2.shp.trans h1.shp, h2.ext.trans h1.ext⟩

/-- the scalar variables of `_process_proximity_line` (parameters first) -/
inductive LV
  | isForward | lineId | width | maxDistance | distanceMetric
  | start | end_ | step | nValues | pixel | i | isTarget | nds | x1 | y1 | x2 | y2 | dist | distSqr | last | tr
  deriving DecidableEq, Repr

def LV.base : LV → String
  | .isForward => "is_forward" | .lineId => "line_id" | .width => "width"
  | .maxDistance => "max_distance" | .distanceMetric => "distance_metric"
  | .start => "start" | .end_ => "end" | .step => "step" | .nValues => "n_values" | .pixel => "pixel"
  | .i => "i" | .isTarget => "is_target" | .nds => "near_distance_square"
  | .x1 => "x1" | .y1 => "y1" | .x2 => "x2" | .y2 => "y2" | .dist => "dist" | .distSqr => "dist_sqr"
  | .last => "last" | .tr => "tr"

/-- a naming of the line function: scalar names, and the arrays passed for `source_line`, `xs`, `ys`, `values`
    (the five arrays it writes keep their names in every copy) -/
structure Names where
  nm : LV → String
  src : String
  xs : String
  ys : String
  vals : String

/-- well-formed: distinct scalars; the read-only numeric arrays are not `line_proximity` -/
structure Names.WF (N : Names) : Prop where
  inj : ∀ a b, N.nm a = N.nm b → a = b
  src_ne : N.src ≠ "line_proximity"
  xs_ne : N.xs ≠ "line_proximity"
  ys_ne : N.ys ≠ "line_proximity"
  vals_ne : N.vals ≠ "line_proximity"

theorem Names.WF.nm_eq {N : Names} (h : N.WF) (a b : LV) : (N.nm a = N.nm b) = (a = b) := by
  apply propext; constructor
  · exact h.inj a b
  · intro e; rw [e]

def Names.pfx (p src xs ys vals : String) : Names :=
  { nm := fun a => p ++ a.base, src := src, xs := xs, ys := ys, vals := vals }

theorem LV.base_inj (a b : LV) (h : a.base = b.base) : a = b := by
  cases a <;> cases b <;> first | rfl | simp [LV.base] at h

theorem Names.pfx_wf (p src xs ys vals : String) (h1 : src ≠ "line_proximity") (h2 : xs ≠ "line_proximity")
    (h3 : ys ≠ "line_proximity") (h4 : vals ≠ "line_proximity") : (Names.pfx p src xs ys vals).WF :=
  { inj := fun a b h => LV.base_inj a b ((String.append_right_inj p).1 h)
    src_ne := h1, xs_ne := h2, ys_ne := h3, vals_ne := h4 }

section template
variable (N : Names)

/-- `is_target = False` -/
def bInit : St := .setB (N.nm .isTarget) .ff

/-- "Is the current pixel a target pixel?" -/
def bTest : St :=
  .ite (.cmpI .eq (.var (N.nm .nValues)) (.lit 0))
    (.ite (.and (.cmpF .ne (.ld1 N.src (.var (N.nm .pixel))) (.ofInt (.lit 0))) (.isfinite (.ld1 N.src (.var (N.nm .pixel)))))
      (.setB (N.nm .isTarget) .tt)
      .skip)
    (.forRange (N.nm .i) (.lit 0) (.var (N.nm .nValues)) (.lit 1)
      (.ite (.cmpF .eq (.ld1 N.src (.var (N.nm .pixel))) (.ld1 N.vals (.var (N.nm .i))))
        (.setB (N.nm .isTarget) .tt)
        .skip))

/-- `if is_target: ...; continue` -/
def bTgt : St :=
  .ite (.var (N.nm .isTarget))
    (.seq (.stF1 "line_proximity" (.var (N.nm .pixel)) (.lit 0 1))
    (.seq (.stI1 "nearest_xs" (.var (N.nm .pixel)) (.var (N.nm .pixel)))
    (.seq (.stI1 "nearest_ys" (.var (N.nm .pixel)) (.var (N.nm .lineId)))
    (.seq (.stI1 "pan_near_x" (.var (N.nm .pixel)) (.var (N.nm .pixel)))
    (.seq (.stI1 "pan_near_y" (.var (N.nm .pixel)) (.var (N.nm .lineId)))
    .cont)))))
    .skip

/-- `near_distance_square = max_distance ** 2 * 2.0` -/
def bNds : St :=
  .setF (N.nm .nds) (.bin .mul (.bin .mul (.var (N.nm .maxDistance)) (.var (N.nm .maxDistance))) (.lit 2 1))

/-- the six assignments that compute `dist_sqr` for the target remembered at position `q` -/
def bDist (q : LV) (tail : St) : St :=
  (.seq (.setF (N.nm .x1) (.ld2 N.xs (.ld1 "pan_near_y" (.var (N.nm q))) (.ld1 "pan_near_x" (.var (N.nm q)))))
  (.seq (.setF (N.nm .y1) (.ld2 N.ys (.ld1 "pan_near_y" (.var (N.nm q))) (.ld1 "pan_near_x" (.var (N.nm q)))))
  (.seq (.setF (N.nm .x2) (.ld2 N.xs (.var (N.nm .lineId)) (.var (N.nm .pixel))))
  (.seq (.setF (N.nm .y2) (.ld2 N.ys (.var (N.nm .lineId)) (.var (N.nm .pixel))))
  (.seq (.setF (N.nm .dist) (.ext "_distance" (.var (N.nm .x1)) (.var (N.nm .x2)) (.var (N.nm .y1)) (.var (N.nm .y2)) (.var (N.nm .distanceMetric))))
  (.seq (.setF (N.nm .distSqr) (.bin .mul (.var (N.nm .dist)) (.var (N.nm .dist))))
  tail))))))

/-- "Are we near(er) to the closest target to the above (below) pixel?" -/
def bAbove : St :=
  .ite (.cmpI .ne (.ld1 "pan_near_x" (.var (N.nm .pixel))) (.lit (-1)))
    (bDist N .pixel
      (.ite (.cmpF .lt (.var (N.nm .distSqr)) (.var (N.nm .nds)))
        (.setF (N.nm .nds) (.var (N.nm .distSqr)))
        (.seq (.stI1 "pan_near_x" (.var (N.nm .pixel)) (.lit (-1)))
        (.stI1 "pan_near_y" (.var (N.nm .pixel)) (.lit (-1))))))
    .skip

/-- "... to the left (right) pixel?" (`q = last`, `lim = start`, tested on `pixel`) and
    "... to the topright (bottom left) pixel?" (`q = tr`, `lim = end`, tested on `tr`) -/
def bNb (g q lim : LV) : St :=
  .ite (.and (.cmpI .ne (.var (N.nm g)) (.var (N.nm lim))) (.cmpI .ne (.ld1 "pan_near_x" (.var (N.nm q))) (.lit (-1))))
    (bDist N q
      (.ite (.cmpF .lt (.var (N.nm .distSqr)) (.var (N.nm .nds)))
        (.seq (.setF (N.nm .nds) (.var (N.nm .distSqr)))
        (.seq (.stI1 "pan_near_x" (.var (N.nm .pixel)) (.ld1 "pan_near_x" (.var (N.nm q))))
        (.stI1 "pan_near_y" (.var (N.nm .pixel)) (.ld1 "pan_near_y" (.var (N.nm q))))))
        .skip))
    .skip

def bLastSet : St := .setI (N.nm .last) (.bin .sub (.var (N.nm .pixel)) (.var (N.nm .step)))
def bTrSet : St := .setI (N.nm .tr) (.bin .add (.var (N.nm .pixel)) (.var (N.nm .step)))

/-- "Update our proximity value." -/
def bUpd : St :=
  .ite (.and (.cmpI .ne (.ld1 "pan_near_x" (.var (N.nm .pixel))) (.lit (-1)))
        (.and (.cmpF .ge (.bin .mul (.var (N.nm .maxDistance)) (.var (N.nm .maxDistance))) (.var (N.nm .nds)))
          (.or (.cmpF .lt (.ld1 "line_proximity" (.var (N.nm .pixel))) (.ofInt (.lit 0)))
               (.cmpF .lt (.var (N.nm .nds)) (.bin .mul (.ld1 "line_proximity" (.var (N.nm .pixel))) (.ld1 "line_proximity" (.var (N.nm .pixel))))))))
    (.seq (.stF1 "line_proximity" (.var (N.nm .pixel)) (.un .sqrt (.var (N.nm .nds))))
    (.seq (.stI1 "nearest_xs" (.var (N.nm .pixel)) (.ld1 "pan_near_x" (.var (N.nm .pixel))))
    (.stI1 "nearest_ys" (.var (N.nm .pixel)) (.ld1 "pan_near_y" (.var (N.nm .pixel))))))
    .skip

/-- the candidate phases and the update of a non-target pixel -/
def bCand : St :=
  (.seq (bNds N)
  (.seq (bAbove N)
  (.seq (bLastSet N)
  (.seq (bNb N .pixel .last .start)
  (.seq (bTrSet N)
  (.seq (bNb N .tr .tr .end_)
  (bUpd N)))))))

def pixelBody : St :=
  (.seq (bInit N)
  (.seq (bTest N)
  (.seq (bTgt N)
  (bCand N))))

/-- `start`, `end`, `step`, `n_values`, then `tail` -/
def prologueThen (tail : St) : St :=
  (.seq (.setI (N.nm .start) (.bin .sub (.var (N.nm .width)) (.lit 1)))
  (.seq (.setI (N.nm .end_) (.lit (-1)))
  (.seq (.setI (N.nm .step) (.lit (-1)))
  (.seq (.ite (.var (N.nm .isForward))
    (.seq (.setI (N.nm .start) (.lit 0))
    (.seq (.setI (N.nm .end_) (.var (N.nm .width)))
    (.setI (N.nm .step) (.lit 1))))
    .skip)
  (.seq (.setI (N.nm .nValues) (.dim N.vals 0))
  tail)))))

def sweepLoop : St :=
  .forRange (N.nm .pixel) (.var (N.nm .start)) (.var (N.nm .end_)) (.var (N.nm .step)) (pixelBody N)

end template

/-- `_process_proximity_line` with the names of `N` (same statements as `Gen.IL.proximityLine.body`,
    prologue; loop; return) -/
def lineBody (N : Names) : St := prologueThen N (.seq (sweepLoop N) .ret)

def N0 : Names := Names.pfx "" "source_line" "xs" "ys" "values"

theorem N0_wf : N0.WF := Names.pfx_wf _ _ _ _ _ (by simp) (by simp) (by simp) (by simp)

theorem proximityLine_is_template : Gen.IL.proximityLine.body = lineBody N0 := by
  simp only [lineBody, prologueThen, sweepLoop, pixelBody, bInit, bTest, bTgt, bCand, bNds, bAbove, bLastSet, bNb, bTrSet,
    bUpd, bDist, N0, Names.pfx, LV.base, String.reduceAppend]
  rfl

end XrsVerif.IL.Px
