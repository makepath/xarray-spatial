import XrsVerif.Proofs.NV
import XrsVerif.Proofs.SimpAttr
/-! symbolic execution of a generated kernel by `simp` -/
namespace XrsVerif

/- `simp [kl, <the kernel>, <facts>]` runs a generated kernel: `kl` holds the KLang semantics (statements, expressions,
   conditions, operators, the environment of a cell). -/
attribute [kl] Kernel.cell Kernel.cellFailed S.exec E.eval C.eval CmpOp.eval BinOp.eval UnOp.eval setVar Fill.val envOf rd0

/-! Control flow of a body with `continue`, one statement at a time: rewriting with these two leaves the tests
    standing as `if`s around the states, so that a body is run once for all its paths. -/

theorem S.exec_assign_seq {F : Type} [Fl F] (rd : String → Int → Int → F) (vec : String → List F) (v : String)
    (x : E) (rest : S) (env : String → F) (o : F) (f : Option String) :
    (S.seq (S.assign v x) rest).exec rd vec ⟨env, o, false, f⟩ =
      rest.exec rd vec ⟨setVar env v (x.eval ⟨env, rd, vec⟩), o, false, f⟩ := rfl

theorem S.exec_guard_seq {F : Type} [Fl F] (rd : String → Int → Int → F) (vec : String → List F) (c : C)
    (rest : S) (env : String → F) (o : F) (f : Option String) :
    (S.seq (S.ite c S.cont S.skip) rest).exec rd vec ⟨env, o, false, f⟩ =
      if c.eval ⟨env, rd, vec⟩ = true then ⟨env, o, true, f⟩ else rest.exec rd vec ⟨env, o, false, f⟩ := by
  simp only [S.exec]
  split <;> rfl

/-- two runs that differ in the environment only: lets `simp` carry a conditional assignment as a
    conditional value, so that a kernel without `continue` runs with its tests undecided -/
theorem KSt.ite_env {F : Type} (c : Prop) [Decidable c] (e1 e2 : String → F) (o : F) (h : Bool)
    (f : Option String) :
    (if c then (⟨e1, o, h, f⟩ : KSt F) else ⟨e2, o, h, f⟩) = ⟨if c then e1 else e2, o, h, f⟩ := by
  split <;> rfl

end XrsVerif
