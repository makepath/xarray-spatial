import XrsVerif.Proofs.ILAStarSnap
import Mathlib.Analysis.Real.Sqrt
/-
  Proofs/ILAStarER.lean -- a number type satisfying `SqrtLt` (non-vacuity of the hypothesis under which the
  generated `_find_nearest_pixel` is the hand model `findNearest`): the reals extended by `+inf`, `-inf`, NaN, with
  the real square root, `1/0 = +inf`, and comparisons as in IEEE arithmetic.
-/
namespace XrsVerif.IL
open XrsVerif

inductive ER where
  | nan | pinf | ninf
  | fin (r : ℝ)

open Classical in
noncomputable instance instFlER : Fl ER where
  lit n d := .fin ((n : ℝ) / (d : ℝ))
  nan := .nan
  add a b := match a, b with | .fin x, .fin y => .fin (x + y) | _, _ => .nan
  sub a b := match a, b with | .fin x, .fin y => .fin (x - y) | _, _ => .nan
  mul a b := match a, b with | .fin x, .fin y => .fin (x * y) | _, _ => .nan
  div a b := match a, b with
    | .fin x, .fin y => if y = 0 then (if 0 < x then .pinf else if x < 0 then .ninf else .nan) else .fin (x / y)
    | _, _ => .nan
  neg a := match a with | .fin x => .fin (-x) | .pinf => .ninf | .ninf => .pinf | .nan => .nan
  abs a := match a with | .fin x => .fin |x| | .nan => .nan | _ => .pinf
  lt a b := match a, b with
    | .fin x, .fin y => decide (x < y)
    | .fin _, .pinf => true | .ninf, .fin _ => true | .ninf, .pinf => true
    | _, _ => false
  le a b := match a, b with
    | .fin x, .fin y => decide (x ≤ y)
    | .fin _, .pinf => true | .ninf, .fin _ => true | .ninf, .pinf => true | .pinf, .pinf => true | .ninf, .ninf => true
    | _, _ => false
  eq a b := match a, b with
    | .fin x, .fin y => decide (x = y) | .pinf, .pinf => true | .ninf, .ninf => true
    | _, _ => false
  isnan a := match a with | .nan => true | _ => false
  isfinite a := match a with | .fin _ => true | _ => false
  sqrt a := match a with | .fin x => .fin (Real.sqrt x) | .pinf => .pinf | _ => .nan
  atan _ := .nan
  atan2 _ _ := .nan
  exp _ := .nan
  sin _ := .nan
  cos _ := .nan
  asin _ := .nan

theorem sqrtLt_ER : SqrtLt ER := by
  constructor
  · intro a ha
    simp [flInf, Fl.lt, Fl.sqrt, Fl.lit, Fl.div]
  · intro a b ha hb
    simp only [Fl.lt, Fl.sqrt, Fl.lit]
    have ha' : (0 : ℝ) ≤ (a : ℝ) / ((1 : ℕ) : ℝ) := by
      have : (0 : ℝ) ≤ (a : ℝ) := by exact_mod_cast ha
      simpa using this
    rw [decide_eq_decide, Real.sqrt_lt_sqrt_iff ha']
    simp

end XrsVerif.IL
