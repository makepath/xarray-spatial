import XrsVerif.Proofs.Polygonize
/-
  C15, losslessness: winding numbers of closed lists of follower states.  A list of boundary-edge states of a region
  is closed when stepping every state permutes it (every followed ring is, and every concatenation of such).  `wcol`
  and `wrow` count its unit edges along a vertical and a horizontal ray; they agree (`wrow_eq_wcol`) and are the same
  for 8-adjacent pixels of the region (`w_adjacent`).  Core Lean only.
-/
set_option linter.unusedVariables false
namespace XrsVerif.Polygonize

theorem countP_add_count {α : Type} [DecidableEq α] (p q : α → Bool) (a : α) (L : List α)
    (h : ∀ s, p s = (q s || s == a)) (hq : q a = false) : L.countP p = L.countP q + L.count a := by
  induction L with
  | nil => simp
  | cons s L ih =>
    rw [List.countP_cons, List.countP_cons, List.count_cons, ih, h s]
    by_cases hs : s = a
    · subst hs; simp [hq]; omega
    · have : (s == a) = false := by simpa using hs
      simp [this]; omega

theorem count_eq_zero_of_not_mem' {L : List FSt} {a : FSt} (h : a ∉ L) : L.count a = 0 :=
  List.count_eq_zero_of_not_mem h

def cE (L : List FSt) (x y : Int) : Nat := L.countP fun s => s.d == .E && s.x == x && decide (s.y ≤ y)
def cW (L : List FSt) (x y : Int) : Nat := L.countP fun s => s.d == .W && s.x == x && decide (s.y < y)
def cN (L : List FSt) (x y : Int) : Nat := L.countP fun s => s.d == .N && s.y == y && decide (x ≤ s.x)
def cS (L : List FSt) (x y : Int) : Nat := L.countP fun s => s.d == .S && s.y == y && decide (x < s.x)

/-- vertical ray downwards from the centre of pixel `(x, y)`: E-edges minus W-edges crossed -/
def wcol (L : List FSt) (x y : Int) : Int := (cE L x y : Int) - (cW L x y : Int)
/-- horizontal ray to the right from the centre of pixel `(x, y)`: N-edges minus S-edges crossed -/
def wrow (L : List FSt) (x y : Int) : Int := (cN L x y : Int) - (cS L x y : Int)

theorem wcol_append (L M : List FSt) (x y : Int) : wcol (L ++ M) x y = wcol L x y + wcol M x y := by
  simp only [wcol, cE, cW, List.countP_append]; omega

theorem wcol_nil (x y : Int) : wcol [] x y = 0 := by simp [wcol, cE, cW]

theorem cE_succ (L : List FSt) (x y : Int) : cE L x (y + 1) = cE L x y + L.count ⟨x, y + 1, .E⟩ := by
  unfold cE
  apply countP_add_count
  · intro ⟨sx, sy, sd⟩
    cases sd <;> grind
  · simp; try omega

theorem cW_succ (L : List FSt) (x y : Int) : cW L x (y + 1) = cW L x y + L.count ⟨x, y, .W⟩ := by
  unfold cW
  apply countP_add_count
  · intro ⟨sx, sy, sd⟩
    cases sd <;> grind
  · simp; try omega

theorem cN_pred (L : List FSt) (x y : Int) : cN L x y = cN L (x + 1) y + L.count ⟨x, y, .N⟩ := by
  unfold cN
  apply countP_add_count
  · intro ⟨sx, sy, sd⟩
    cases sd <;> grind
  · simp; try omega

theorem cS_pred (L : List FSt) (x y : Int) : cS L x y = cS L (x + 1) y + L.count ⟨x + 1, y, .S⟩ := by
  unfold cS
  apply countP_add_count
  · intro ⟨sx, sy, sd⟩
    cases sd <;> grind
  · simp; try omega

theorem wcol_succ (L : List FSt) (x y : Int) :
    wcol L x (y + 1) = wcol L x y + (L.count ⟨x, y + 1, .E⟩ : Int) - (L.count ⟨x, y, .W⟩ : Int) := by
  unfold wcol; rw [cE_succ, cW_succ]; omega

theorem wrow_pred (L : List FSt) (x y : Int) :
    wrow L x y = wrow L (x + 1) y + (L.count ⟨x, y, .N⟩ : Int) - (L.count ⟨x + 1, y, .S⟩ : Int) := by
  unfold wrow; rw [cN_pred, cS_pred]; omega

structure Closed (R : Int → Int → Bool) (L : List FSt) : Prop where
  valid : ∀ s ∈ L, Valid R s
  perm : (L.map (step R)).Perm L

theorem Closed.append {R : Int → Int → Bool} {L M : List FSt} (hL : Closed R L) (hM : Closed R M) :
    Closed R (L ++ M) :=
  ⟨fun s hs => (List.mem_append.mp hs).elim (hL.valid s) (hM.valid s),
   by rw [List.map_append]; exact hL.perm.append hM.perm⟩

theorem Closed.nil (R : Int → Int → Bool) : Closed R [] :=
  ⟨fun s hs => absurd hs (List.not_mem_nil), List.Perm.refl _⟩

theorem closed_flatten {R : Int → Int → Bool} : ∀ (cs : List (List FSt)), (∀ c ∈ cs, Closed R c) → Closed R cs.flatten := by
  intro cs
  induction cs with
  | nil => intro _; exact Closed.nil R
  | cons c cs ih =>
    intro h
    rw [List.flatten_cons]
    exact (h c List.mem_cons_self).append (ih fun c' hc' => h c' (List.mem_cons_of_mem _ hc'))

theorem Closed.count_invalid {R : Int → Int → Bool} {L : List FSt} (hL : Closed R L) {a : FSt}
    (ha : ¬ Valid R a) : L.count a = 0 :=
  List.count_eq_zero_of_not_mem fun h => ha (hL.valid a h)

theorem Closed.mem_step {R : Int → Int → Bool} {L : List FSt} (hL : Closed R L) {s : FSt} (hs : s ∈ L) :
    step R s ∈ L :=
  hL.perm.mem_iff.mp (List.mem_map_of_mem hs)

theorem countP_four (p : FSt → Bool) (a b c d : FSt) (L : List FSt)
    (h : ∀ s, (if p s = true then 1 else 0 : Nat) =
      (if (s == a) = true then 1 else 0) + (if (s == b) = true then 1 else 0) +
      (if (s == c) = true then 1 else 0) + (if (s == d) = true then 1 else 0)) :
    L.countP p = L.count a + L.count b + L.count c + L.count d := by
  induction L with
  | nil => simp
  | cons s L ih =>
    rw [List.countP_cons, List.count_cons, List.count_cons, List.count_cons, List.count_cons, ih, h s]
    omega

theorem out_count (L : List FSt) (x y : Int) :
    L.countP (fun s => s.corner == (x + 1, y + 1)) =
      L.count ⟨x + 1, y + 1, .E⟩ + L.count ⟨x, y, .W⟩ + L.count ⟨x, y + 1, .N⟩ + L.count ⟨x + 1, y, .S⟩ := by
  apply countP_four
  intro ⟨sx, sy, sd⟩
  cases sd <;> simp [FSt.corner] <;> grind

theorem in_count (L : List FSt) (x y : Int) :
    L.countP (fun s => (s.corner.1 + s.d.dx, s.corner.2 + s.d.dy) == (x + 1, y + 1)) =
      L.count ⟨x, y + 1, .E⟩ + L.count ⟨x + 1, y, .W⟩ + L.count ⟨x, y, .N⟩ + L.count ⟨x + 1, y + 1, .S⟩ := by
  apply countP_four
  intro ⟨sx, sy, sd⟩
  cases sd <;> simp [FSt.corner, Dir.dx, Dir.dy] <;> grind

/-- at every pixel corner as many edges of a closed list start as end -/
theorem balance {R : Int → Int → Bool} {L : List FSt} (hL : Closed R L) (x y : Int) :
    L.count ⟨x + 1, y + 1, .E⟩ + L.count ⟨x, y, .W⟩ + L.count ⟨x, y + 1, .N⟩ + L.count ⟨x + 1, y, .S⟩ =
    L.count ⟨x, y + 1, .E⟩ + L.count ⟨x + 1, y, .W⟩ + L.count ⟨x, y, .N⟩ + L.count ⟨x + 1, y + 1, .S⟩ := by
  rw [← out_count, ← in_count, ← hL.perm.countP_eq, List.countP_map]
  apply List.countP_congr
  intro s _
  simp only [Function.comp, corner_step]

theorem perm_sum {l m : List Int} (h : l.Perm m) : l.sum = m.sum := by
  induction h with
  | nil => rfl
  | cons a _ ih => simp only [List.sum_cons, ih]
  | swap a b l => simp only [List.sum_cons]; omega
  | trans _ _ ih1 ih2 => exact ih1.trans ih2

theorem sum_map_add (L : List FSt) (f g : FSt → Int) :
    (L.map (fun s => f s + g s)).sum = (L.map f).sum + (L.map g).sum := by
  induction L with
  | nil => simp
  | cons s L ih => simp only [List.map_cons, List.sum_cons, ih]; omega

theorem sum_dx {R : Int → Int → Bool} {L : List FSt} (hL : Closed R L) : (L.map (fun s => s.d.dx)).sum = 0 := by
  have h1 := perm_sum ((hL.perm.map (fun s => s.corner.1)))
  rw [List.map_map] at h1
  have h2 : (L.map ((fun s => s.corner.1) ∘ step R)) = L.map (fun s => s.corner.1 + s.d.dx) := by
    apply List.map_congr_left; intro s _; simp only [Function.comp, corner_step]
  rw [h2, sum_map_add] at h1
  omega

theorem sum_dy {R : Int → Int → Bool} {L : List FSt} (hL : Closed R L) : (L.map (fun s => s.d.dy)).sum = 0 := by
  have h1 := perm_sum ((hL.perm.map (fun s => s.corner.2)))
  rw [List.map_map] at h1
  have h2 : (L.map ((fun s => s.corner.2) ∘ step R)) = L.map (fun s => s.corner.2 + s.d.dy) := by
    apply List.map_congr_left; intro s _; simp only [Function.comp, corner_step]
  rw [h2, sum_map_add] at h1
  omega

theorem Closed.bounds {R : Int → Int → Bool} {nx ny : Nat} {L : List FSt} (hL : Closed R L)
    (hR : InRaster R nx ny) {s : FSt} (hs : s ∈ L) : 0 ≤ s.x ∧ s.x < nx ∧ 0 ≤ s.y ∧ s.y < ny :=
  hR _ _ (hL.valid s hs).1

theorem wrow_right {R : Int → Int → Bool} {nx ny : Nat} {L : List FSt} (hL : Closed R L)
    (hR : InRaster R nx ny) (x y : Int) (hx : (nx : Int) ≤ x) : wrow L x y = 0 := by
  have h1 : cN L x y = 0 := by
    unfold cN; rw [List.countP_eq_zero]; intro s hs
    have := hL.bounds hR hs; simp; intro _ _; omega
  have h2 : cS L x y = 0 := by
    unfold cS; rw [List.countP_eq_zero]; intro s hs
    have := hL.bounds hR hs; simp; intro _ _; omega
  unfold wrow; rw [h1, h2]; rfl

theorem count_right {R : Int → Int → Bool} {nx ny : Nat} {L : List FSt} (hL : Closed R L)
    (hR : InRaster R nx ny) (x y : Int) (d : Dir) (hx : (nx : Int) ≤ x) : L.count ⟨x, y, d⟩ = 0 :=
  List.count_eq_zero_of_not_mem fun h => by have := hL.bounds hR h; simp only at this; omega

/-- vertical jump of `wrow` (from `balance`, by induction from the right border) -/
theorem wrow_succ {R : Int → Int → Bool} {nx ny : Nat} {L : List FSt} (hL : Closed R L)
    (hR : InRaster R nx ny) (y : Int) : ∀ (t : Nat) (x : Int), (nx : Int) - x ≤ t →
    wrow L x (y + 1) = wrow L x y + (L.count ⟨x, y + 1, .E⟩ : Int) - (L.count ⟨x, y, .W⟩ : Int) := by
  intro t
  induction t with
  | zero =>
    intro x hx
    rw [wrow_right hL hR x _ (by omega), wrow_right hL hR x _ (by omega),
      count_right hL hR x _ _ (by omega), count_right hL hR x _ _ (by omega)]
    rfl
  | succ t ih =>
    intro x hx
    have h := ih (x + 1) (by omega)
    have b := balance hL x y
    rw [wrow_pred L x (y + 1), wrow_pred L x y, h]
    omega

theorem wcol_below {R : Int → Int → Bool} {nx ny : Nat} {L : List FSt} (hL : Closed R L)
    (hR : InRaster R nx ny) (x y : Int) (hy : y < 0) : wcol L x y = 0 := by
  have h1 : cE L x y = 0 := by
    unfold cE; rw [List.countP_eq_zero]; intro s hs
    have := hL.bounds hR hs; simp; intro _ _; omega
  have h2 : cW L x y = 0 := by
    unfold cW; rw [List.countP_eq_zero]; intro s hs
    have := hL.bounds hR hs; simp; intro _ _; omega
  unfold wcol; rw [h1, h2]; rfl

theorem wrow_below {R : Int → Int → Bool} {nx ny : Nat} {L : List FSt} (hL : Closed R L)
    (hR : InRaster R nx ny) (x y : Int) (hy : y < 0) : wrow L x y = 0 := by
  have h1 : cN L x y = 0 := by
    unfold cN; rw [List.countP_eq_zero]; intro s hs
    have := hL.bounds hR hs; simp; intro _ _; omega
  have h2 : cS L x y = 0 := by
    unfold cS; rw [List.countP_eq_zero]; intro s hs
    have := hL.bounds hR hs; simp; intro _ _; omega
  unfold wrow; rw [h1, h2]; rfl

theorem wrow_eq_wcol {R : Int → Int → Bool} {nx ny : Nat} {L : List FSt} (hL : Closed R L)
    (hR : InRaster R nx ny) (x : Int) : ∀ (t : Nat) (y : Int), y < t → wrow L x y = wcol L x y := by
  intro t
  induction t with
  | zero => intro y hy; rw [wrow_below hL hR x y (by omega), wcol_below hL hR x y (by omega)]
  | succ t ih =>
    intro y hy
    by_cases h0 : y < t
    · exact ih y h0
    · have e : y = (y - 1) + 1 := by omega
      rw [e, wrow_succ hL hR (y - 1) ((nx : Int) - x).toNat x (by omega), wcol_succ, ih (y - 1) (by omega)]

theorem wrow_eq_wcol' {R : Int → Int → Bool} {nx ny : Nat} {L : List FSt} (hL : Closed R L)
    (hR : InRaster R nx ny) (x y : Int) : wrow L x y = wcol L x y :=
  wrow_eq_wcol hL hR x (y + 1).toNat y (by omega)

theorem Closed.count_step {R : Int → Int → Bool} {L : List FSt} (hL : Closed R L) {a : FSt}
    (ha : Valid R a) : L.count (step R a) = L.count a := by
  rw [← hL.perm.count_eq, List.count_eq_countP, List.countP_map, List.count_eq_countP]
  apply List.countP_congr
  intro s hs
  simp only [Function.comp, beq_iff_eq]
  constructor
  · intro h; exact step_injective R s a (hL.valid s hs) ha h
  · intro h; rw [h]

theorem w_vert {R : Int → Int → Bool} {L : List FSt} (hL : Closed R L) (x y : Int)
    (h1 : R x y = true) (h2 : R x (y + 1) = true) : wcol L x (y + 1) = wcol L x y := by
  rw [wcol_succ, hL.count_invalid (a := ⟨x, y + 1, .E⟩), hL.count_invalid (a := ⟨x, y, .W⟩)]
  · simp
  · rw [valid_W_iff]; simp [h2]
  · rw [valid_E_iff]; simp [h1]

theorem w_horiz {R : Int → Int → Bool} {L : List FSt} (hL : Closed R L) (x y : Int)
    (h1 : R x y = true) (h2 : R (x + 1) y = true) : wrow L x y = wrow L (x + 1) y := by
  rw [wrow_pred, hL.count_invalid (a := ⟨x, y, .N⟩), hL.count_invalid (a := ⟨x + 1, y, .S⟩)]
  · simp
  · rw [valid_S_iff]; simp [h1]
  · rw [valid_N_iff]; simp [h2]

/-- diagonal pinch SW–NE: the follower turns right from the E side (heading N) of the lower pixel onto the S
    side (heading E) of the upper one, so both edges occur equally often -/
theorem w_diag1 {R : Int → Int → Bool} {nx ny : Nat} {L : List FSt} (hL : Closed R L)
    (hR : InRaster R nx ny) (x y : Int)
    (h1 : R x y = true) (h2 : R (x + 1) (y + 1) = true) (h3 : R (x + 1) y = false) :
    wcol L (x + 1) (y + 1) = wcol L x y := by
  have hv : Valid R ⟨x, y, .N⟩ := by rw [valid_N_iff]; exact ⟨h1, h3⟩
  have hs : step R ⟨x, y, .N⟩ = ⟨x + 1, y + 1, .E⟩ := by
    simp [step, FSt.aheadRight, Dir.left, Dir.dx, Dir.dy, Dir.right, h2]
  have hc := hL.count_step hv
  rw [hs] at hc
  have e1 := wcol_succ L (x + 1) y
  have e2 := wrow_pred L x y
  rw [hL.count_invalid (a := ⟨x + 1, y, .W⟩) (by rw [valid_W_iff]; simp [h3])] at e1
  rw [hL.count_invalid (a := ⟨x + 1, y, .S⟩) (by rw [valid_S_iff]; simp [h3])] at e2
  rw [wrow_eq_wcol' hL hR, wrow_eq_wcol' hL hR] at e2
  omega

/-- diagonal pinch NW–SE: from the S side (heading E) of the upper pixel the follower turns right onto
    the W side (heading S) of the lower one -/
theorem w_diag2 {R : Int → Int → Bool} {nx ny : Nat} {L : List FSt} (hL : Closed R L)
    (hR : InRaster R nx ny) (x y : Int)
    (h1 : R x (y + 1) = true) (h2 : R (x + 1) y = true) (h3 : R x y = false) :
    wcol L x (y + 1) = wcol L (x + 1) y := by
  have hv : Valid R ⟨x, y + 1, .E⟩ := by rw [valid_E_iff]; simp [h1, h3]
  have hs : step R ⟨x, y + 1, .E⟩ = ⟨x + 1, y, .S⟩ := by
    simp [step, FSt.aheadRight, Dir.left, Dir.dx, Dir.dy, Dir.right, h2]
  have hc := hL.count_step hv
  rw [hs] at hc
  have e1 := wcol_succ L x y
  have e2 := wrow_pred L x y
  rw [hL.count_invalid (a := ⟨x, y, .W⟩) (by rw [valid_W_iff]; simp [h3])] at e1
  rw [hL.count_invalid (a := ⟨x, y, .N⟩) (by rw [valid_N_iff]; simp [h3])] at e2
  rw [wrow_eq_wcol' hL hR, wrow_eq_wcol' hL hR] at e2
  omega

/-- **the winding number w.r.t. a closed list is the same for 8-adjacent pixels of the region**
    (W, S, SW, SE neighbour of `(x, y)`) -/
theorem w_adjacent {R : Int → Int → Bool} {nx ny : Nat} {L : List FSt} (hL : Closed R L)
    (hR : InRaster R nx ny) (x y : Int) (h : R x y = true) :
    (R (x - 1) y = true → wcol L (x - 1) y = wcol L x y) ∧
    (R x (y - 1) = true → wcol L x (y - 1) = wcol L x y) ∧
    (R (x - 1) (y - 1) = true → wcol L (x - 1) (y - 1) = wcol L x y) ∧
    (R (x + 1) (y - 1) = true → wcol L (x + 1) (y - 1) = wcol L x y) := by
  have hW : R (x - 1) y = true → wcol L (x - 1) y = wcol L x y := by
    intro h1
    have := w_horiz hL (x - 1) y h1 (by rw [Int.sub_add_cancel]; exact h)
    rw [Int.sub_add_cancel, wrow_eq_wcol' hL hR, wrow_eq_wcol' hL hR] at this
    exact this
  have hS : R x (y - 1) = true → wcol L x (y - 1) = wcol L x y := by
    intro h1
    have := w_vert hL x (y - 1) h1 (by rw [Int.sub_add_cancel]; exact h)
    rw [Int.sub_add_cancel] at this
    exact this.symm
  refine ⟨hW, hS, ?_, ?_⟩
  · intro h1
    by_cases ha : R x (y - 1) = true
    · -- through the S neighbour
      have := w_horiz hL (x - 1) (y - 1) h1 (by rw [Int.sub_add_cancel]; exact ha)
      rw [Int.sub_add_cancel, wrow_eq_wcol' hL hR, wrow_eq_wcol' hL hR] at this
      rw [this]; exact hS ha
    · by_cases hb : R (x - 1) y = true
      · have := w_vert hL (x - 1) (y - 1) h1 (by rw [Int.sub_add_cancel]; exact hb)
        rw [Int.sub_add_cancel] at this
        rw [← this]; exact hW hb
      · have := w_diag1 hL hR (x - 1) (y - 1) h1 (by simp only [Int.sub_add_cancel]; exact h)
          (by simp only [Int.sub_add_cancel]; simpa using ha)
        simp only [Int.sub_add_cancel] at this
        exact this.symm
  · intro h1
    by_cases ha : R x (y - 1) = true
    · have := w_horiz hL x (y - 1) ha h1
      rw [wrow_eq_wcol' hL hR, wrow_eq_wcol' hL hR] at this
      rw [← this]; exact hS ha
    · by_cases hb : R (x + 1) y = true
      · have := w_vert hL (x + 1) (y - 1) h1 (by rw [Int.sub_add_cancel]; exact hb)
        rw [Int.sub_add_cancel] at this
        have h2 := w_horiz hL x y h hb
        rw [wrow_eq_wcol' hL hR, wrow_eq_wcol' hL hR] at h2
        rw [← this, h2]
      · have := w_diag2 hL hR x (y - 1) (by simp only [Int.sub_add_cancel]; exact h) h1
          (by simpa using ha)
        simp only [Int.sub_add_cancel] at this
        exact this.symm

end XrsVerif.Polygonize
