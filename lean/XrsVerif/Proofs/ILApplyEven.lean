import XrsVerif.Proofs.ILApplyRefines
/-
  Proofs/ILApplyEven.lean -- `_apply_numpy` with a kernel that has an even side (outside the property's domain:
  `custom_kernel` rejects such kernels before `apply` / `focal_stats` reach `_apply_numpy`).

  With `hrows = int(krows / 2)` the gather loops visit the kernel rows `ky - (y - hrows) = 0 … 2·hrows`; for an even
  `krows = 2·hrows` the last one does not exist (likewise for columns).  Unlike in `_convolve_2d_numpy` the visit is
  guarded by "is the data cell inside the raster", so the out-of-range index is only reached when the raster cell
  `(y + hrows, ·)` (resp. `(·, x + hcols)`) exists: then `kernel[kyidx, kxidx]` is read -- and, if it happens to be 1,
  `kernel_values[kyidx, kxidx]` written -- past the end.  numba performs no bounds check (undefined behaviour); ILang
  stops with `Ctl.err "index"`: `applyBody_even_err` (any inlined reducer).
-/
namespace XrsVerif.Focal
open XrsVerif XrsVerif.IL XrsVerif.ILVs XrsVerif.IL.Fc XrsVerif.Gen.Focal
variable {F : Type} [Fl F]

theorem gather_step_err (data kernel : List F) (rows cols kr kc : Nat) (fuel : Nat) (s : State F) (y x ky kx : Int)
    (hI : AInv data kernel rows cols kr kc s) (vy : s.ienv "y" = y) (vx : s.ienv "x" = x) (vky : s.ienv "ky" = ky)
    (vkx : s.ienv "kx" = kx) (hin : 0 ≤ ky ∧ ky < rows ∧ 0 ≤ kx ∧ kx < cols)
    (hbad : (kr : Int) ≤ ky - (y - ((kr / 2 : Nat) : Int)) ∨ (kc : Int) ≤ kx - (x - ((kc / 2 : Nat) : Int))) :
    (exec fuel stGatherStep s).ctl = .err "index" := by
  rw [gather_step_pre data kernel rows cols kr kc fuel s y x ky kx hI vy vx vky vkx, if_pos hin]
  have shk := hI.shk
  generalize ((kr / 2 : Nat) : Int) = hr' at *
  generalize ((kc / 2 : Nat) : Int) = hc' at *
  have hbad' : inRange (ky - (y - hr')) kr = false ∨ inRange (kx - (x - hc')) kc = false :=
    hbad.imp (inRange_ge _ _) (inRange_ge _ _)
  simp only [stGatherStore]
  rw [exec_ite_err]
  · rfl
  · rcases hbad' with h | h <;> simp [il, setS, shk, h]

theorem gather_step_weak (data kernel : List F) (rows cols kr kc : Nat) (fuel : Nat) (s : State F) (y x ky kx : Int)
    (hI : AInv data kernel rows cols kr kc s) (vy : s.ienv "y" = y) (vx : s.ienv "x" = x) (vky : s.ienv "ky" = ky)
    (vkx : s.ienv "kx" = kx)
    (ha0 : 0 ≤ ky - (y - ((kr / 2 : Nat) : Int))) (hb0 : 0 ≤ kx - (x - ((kc / 2 : Nat) : Int))) :
    (exec fuel stGatherStep s).ctl = .run ∨ (exec fuel stGatherStep s).ctl = .err "index" := by
  by_cases hlt : ky - (y - ((kr / 2 : Nat) : Int)) < kr ∧ kx - (x - ((kc / 2 : Nat) : Int)) < kc
  · exact Or.inl (gather_step data kernel rows cols kr kc fuel s y x ky kx hI vy vx vky vkx ha0 hlt.1 hb0 hlt.2).1
  · by_cases hin : 0 ≤ ky ∧ ky < rows ∧ 0 ≤ kx ∧ kx < cols
    · exact Or.inr (gather_step_err data kernel rows cols kr kc fuel s y x ky kx hI vy vx vky vkx hin (by omega))
    · rw [gather_step_pre data kernel rows cols kr kc fuel s y x ky kx hI vy vx vky vkx, if_neg hin]
      exact Or.inl hI.ctl

/-- the loop reaches `k` in iteration `(k - lo).toNat` -/
theorem off_toNat {lo k : Int} (h : lo ≤ k) : lo + ((k - lo).toNat : Int) = k := by omega

theorem gather_kx_weak (data kernel : List F) (rows cols kr kc : Nat) (fuel : Nat) (s : State F) (y x ky : Int)
    (hI : AInv data kernel rows cols kr kc s) (vy : s.ienv "y" = y) (vx : s.ienv "x" = x) (vky : s.ienv "ky" = ky)
    (ha0 : 0 ≤ ky - (y - ((kr / 2 : Nat) : Int))) :
    (exec fuel stGatherKx s).ctl = .run ∨ (exec fuel stGatherKx s).ctl = .err "index" := by
  apply exec_forRange_run_or_err fuel "kx" (.bin .sub (.var "x") (.var "hcols"))
    (.bin .add (.bin .add (.var "x") (.var "hcols")) (.lit 1)) stGatherStep s "index" hI.ctl rfl rfl
  intro st kx h0 h1 hc hM vkx
  simp only [IE.eval, IOp.eval, vx, hI.vhc] at h0
  obtain ⟨hI', vy', vx', vky'⟩ := hI.in_kx hM hc vy vx vky
  exact gather_step_weak data kernel rows cols kr kc fuel st y x ky kx hI' vy' vx' vky' vkx ha0 (Int.sub_nonneg.mpr h0)

theorem gather_kx_err (data kernel : List F) (rows cols kr kc : Nat) (fuel : Nat) (s : State F) (y x ky kx0 : Int)
    (hI : AInv data kernel rows cols kr kc s) (vy : s.ienv "y" = y) (vx : s.ienv "x" = x) (vky : s.ienv "ky" = ky)
    (ha0 : 0 ≤ ky - (y - ((kr / 2 : Nat) : Int)))
    (hk0 : x - ((kc / 2 : Nat) : Int) ≤ kx0) (hk1 : kx0 < x + ((kc / 2 : Nat) : Int) + 1)
    (hin : 0 ≤ ky ∧ ky < rows ∧ 0 ≤ kx0 ∧ kx0 < cols)
    (hbad : (kr : Int) ≤ ky - (y - ((kr / 2 : Nat) : Int)) ∨ (kc : Int) ≤ kx0 - (x - ((kc / 2 : Nat) : Int))) :
    (exec fuel stGatherKx s).ctl = .err "index" := by
  apply exec_forRange_err fuel "kx" (.bin .sub (.var "x") (.var "hcols"))
    (.bin .add (.bin .add (.var "x") (.var "hcols")) (.lit 1)) stGatherStep s "index"
    (kx0 - (x - ((kc / 2 : Nat) : Int))).toNat hI.ctl rfl rfl (by simp only [IE.eval, IOp.eval, vx, hI.vhc]; omega)
  · intro st i hi hc hM vkx
    simp only [IE.eval, IOp.eval, vx, hI.vhc] at vkx
    obtain ⟨hI', vy', vx', vky'⟩ := hI.in_kx hM hc vy vx vky
    exact gather_step_weak data kernel rows cols kr kc fuel st y x ky _ hI' vy' vx' vky' vkx ha0 (by omega)
  · intro st hc hM vkx
    simp only [IE.eval, IOp.eval, vx, hI.vhc] at vkx
    obtain ⟨hI', vy', vx', vky'⟩ := hI.in_kx hM hc vy vx vky
    exact gather_step_err data kernel rows cols kr kc fuel st y x ky kx0 hI' vy' vx' vky' (vkx.trans (off_toNat hk0)) hin hbad

theorem gather_ky_err (data kernel : List F) (rows cols kr kc : Nat) (fuel : Nat) (s : State F) (y x ky0 kx0 : Int)
    (hI : AInv data kernel rows cols kr kc s) (vy : s.ienv "y" = y) (vx : s.ienv "x" = x)
    (hy0 : y - ((kr / 2 : Nat) : Int) ≤ ky0) (hy1 : ky0 < y + ((kr / 2 : Nat) : Int) + 1)
    (hk0 : x - ((kc / 2 : Nat) : Int) ≤ kx0) (hk1 : kx0 < x + ((kc / 2 : Nat) : Int) + 1)
    (hin : 0 ≤ ky0 ∧ ky0 < rows ∧ 0 ≤ kx0 ∧ kx0 < cols)
    (hbad : (kr : Int) ≤ ky0 - (y - ((kr / 2 : Nat) : Int)) ∨ (kc : Int) ≤ kx0 - (x - ((kc / 2 : Nat) : Int))) :
    (exec fuel stGather s).ctl = .err "index" := by
  apply exec_forRange_err fuel "ky" (.bin .sub (.var "y") (.var "hrows"))
    (.bin .add (.bin .add (.var "y") (.var "hrows")) (.lit 1)) stGatherKx s "index"
    (ky0 - (y - ((kr / 2 : Nat) : Int))).toNat hI.ctl rfl rfl (by simp only [IE.eval, IOp.eval, vy, hI.vhr]; omega)
  · intro st i hi hc hM vky
    simp only [IE.eval, IOp.eval, vy, hI.vhr] at vky
    obtain ⟨hI', vy', vx'⟩ := hI.in_ky hM hc vy vx
    exact gather_kx_weak data kernel rows cols kr kc fuel st y x _ hI' vy' vx' vky (by omega)
  · intro st hc hM vky
    simp only [IE.eval, IOp.eval, vy, hI.vhr] at vky
    obtain ⟨hI', vy', vx'⟩ := hI.in_ky hM hc vy vx
    exact gather_kx_err data kernel rows cols kr kc fuel st y x ky0 kx0 hI' vy' vx' (vky.trans (off_toNat hy0))
      (Int.sub_nonneg.mpr hy0) hk0 hk1 hin hbad

theorem apply_cell_err (red : St) (rv : String) (data kernel : List F) (rows cols kr kc : Nat)
    (fuel : Nat) (s : State F) (y x ky0 kx0 : Int) (hI : AInv data kernel rows cols kr kc s)
    (vy : s.ienv "y" = y) (vx : s.ienv "x" = x)
    (hy0 : y - ((kr / 2 : Nat) : Int) ≤ ky0) (hy1 : ky0 < y + ((kr / 2 : Nat) : Int) + 1)
    (hk0 : x - ((kc / 2 : Nat) : Int) ≤ kx0) (hk1 : kx0 < x + ((kc / 2 : Nat) : Int) + 1)
    (hin : 0 ≤ ky0 ∧ ky0 < rows ∧ 0 ≤ kx0 ∧ kx0 < cols)
    (hbad : (kr : Int) ≤ ky0 - (y - ((kr / 2 : Nat) : Int)) ∨ (kc : Int) ≤ kx0 - (x - ((kc / 2 : Nat) : Int))) :
    (exec fuel (stCellA red rv) s).ctl = .err "index" := by
  have hI1 := hI.of_mods (mods_setFa [] [] [] [] ["kernel_values"] [] s "kernel_values"
    (List.replicate (kr * kc) Fl.nan) (by decide)) hI.ctl (by decide)
  have herr := gather_ky_err data kernel rows cols kr kc fuel _ y x ky0 kx0 hI1 vy vx hy0 hy1 hk0 hk1 hin hbad
  simp only [stCellA]
  rw [exec_seq_eq fuel _ _ _ _ (stFill_exec data kernel rows cols kr kc fuel s hI) hI.ctl,
    exec_seq_stop fuel _ _ _ (by rw [herr]; simp)]
  exact herr

/-- **even kernels.** `_apply_numpy` (any inlined reducer) with a kernel whose row count is even and less than twice
    the raster's (`krows / 2 < rows`, at least one column), or whose column count is even (`kcols / 2 < cols`, at least one
    row): already at output cell `(0, 0)` the program stops with an out-of-range read of `kernel` -/
theorem applyBody_even_err (red : St) (rv : String) (data kernel : List F) (rows cols kr kc : Nat) (s : State F) (fuel : Nat)
    (hin : ApplyInput data kernel rows cols kr kc s)
    (heven : (kr % 2 = 0 ∧ kr / 2 < rows ∧ 0 < cols) ∨ (kc % 2 = 0 ∧ kc / 2 < cols ∧ 0 < rows)) :
    (exec fuel (applyBody red rv) s).ctl = .err "index" := by
  simp only [applyBody]
  rw [apply_prefix data kernel rows cols kr kc fuel s hin]
  have hI := applyStart_inv data kernel rows cols kr kc s hin
  generalize applyStart s rows cols kr kc = s0 at *
  have hrows : 0 < rows := by rcases heven with h | h <;> omega
  have hcols : 0 < cols := by rcases heven with h | h <;> omega
  -- the witness: a raster cell in the window of output cell (0, 0) whose kernel index is out of range
  obtain ⟨ky0, kx0, w1, w2, w3, w4, w5, w6⟩ : ∃ ky0 kx0 : Int,
      (0 : Int) - ((kr / 2 : Nat) : Int) ≤ ky0 ∧ ky0 < (0 : Int) + ((kr / 2 : Nat) : Int) + 1 ∧
      (0 : Int) - ((kc / 2 : Nat) : Int) ≤ kx0 ∧ kx0 < (0 : Int) + ((kc / 2 : Nat) : Int) + 1 ∧
      (0 ≤ ky0 ∧ ky0 < rows ∧ 0 ≤ kx0 ∧ kx0 < cols) ∧
      ((kr : Int) ≤ ky0 - ((0 : Int) - ((kr / 2 : Nat) : Int)) ∨ (kc : Int) ≤ kx0 - ((0 : Int) - ((kc / 2 : Nat) : Int))) := by
    rcases heven with h | h
    · exact ⟨((kr / 2 : Nat) : Int), 0, by omega, by omega, by omega, by omega, ⟨by omega, by omega, by omega, by omega⟩,
        Or.inl (by omega)⟩
    · exact ⟨0, ((kc / 2 : Nat) : Int), by omega, by omega, by omega, by omega, ⟨by omega, by omega, by omega, by omega⟩,
        Or.inr (by omega)⟩
  have herr : (exec fuel (stRaster red rv) s0).ctl = .err "index" := by
    have hI1 := hI.of_mods (mods_setI ["y"] [] [] [] [] [] s0 "y" 0 (by decide)) hI.ctl (by decide)
    have hI2 := hI1.of_mods (mods_setI ["x"] [] [] [] [] [] _ "x" 0 (by decide)) hI.ctl (by decide)
    apply exec_forRange_first_err fuel "y" (.lit 0) (.var "rows") _ s0 "index" hI.ctl rfl rfl
      (by simp only [IE.eval, hI.vrows]; omega)
    apply exec_forRange_first_err fuel "x" (.lit 0) (.var "cols") _ _ "index" hI1.ctl rfl rfl
      (by have h : setS s0.ienv "y" 0 "cols" = (cols : Int) := hI1.vcols
          simp only [IE.eval, h]; omega)
    exact apply_cell_err red rv data kernel rows cols kr kc fuel _ 0 0 ky0 kx0 hI2 (by simp [setS])
      (by simp [IE.eval]) w1 w2 w3 w4 w5 w6
  rw [exec_seq_stop fuel _ _ _ (by rw [herr]; simp)]
  exact herr

end XrsVerif.Focal
