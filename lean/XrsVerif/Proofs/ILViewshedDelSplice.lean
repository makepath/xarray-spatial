import XrsVerif.Proofs.ILViewshedDel
import XrsVerif.Proofs.ILViewshedDelPass
/-
  The splice of `_delete_from_tree` (`delSpliceItems`): the node `y` (which has a NIL child) is cut out of the tree, its
  only child `x` (possibly NIL) takes its place.
-/
set_option linter.unusedSectionVars false
namespace XrsVerif.ILVs
open XrsVerif XrsVerif.IL XrsVerif.Viewshed Function
variable {F : Type} [Fl F]

/-- `y`'s only child: the left one unless it is NIL -/
def spliceSub (yl yr : Sh) : Sh :=
  match yl with
  | .nil => yr
  | .node a b c => .node a b c

theorem spliceSub_sublist (yl : Sh) (y : Nat) (yr : Sh) : (spliceSub yl yr).idxs.Sublist (Sh.node yl y yr).idxs := by
  cases yl with
  | nil => simp [spliceSub, Sh.idxs]
  | node a b c => simp only [spliceSub, Sh.idxs]; exact List.sublist_append_left _ _

theorem splice_perm (cy : Ctx) (yl : Sh) (y : Nat) (yr : Sh) (hone : yl = .nil ∨ yr = .nil) :
    (y :: (plug (spliceSub yl yr) cy).idxs).Perm (plug (.node yl y yr) cy).idxs := by
  refine ((idxs_plug_perm cy _).cons y).trans (List.Perm.trans ?_ (idxs_plug_perm cy (.node yl y yr)).symm)
  cases yl with
  | nil => simp only [spliceSub, Sh.idxs, List.nil_append, List.cons_append]; exact List.Perm.refl _
  | node a b c =>
    obtain rfl : yr = .nil := hone.resolve_left Sh.noConfusion
    simp only [spliceSub, Sh.idxs]
    have e : a.idxs ++ b :: c.idxs ++ [y] ++ ctxIdxs cy = (a.idxs ++ b :: c.idxs) ++ y :: ctxIdxs cy := by simp
    rw [e]; exact List.perm_middle.symm

theorem spliceSub_linked {N : List Int} {n : Nat} {par : Int} {yl : Sh} {y : Nat} {yr : Sh}
    (h : Linked N n par (.node yl y yr)) : Linked N n (y : Int) (spliceSub yl yr) := by
  cases yl with
  | nil => exact h.2.2.2.2.2
  | node a b c => exact h.2.2.2.2.1

theorem spliceSub_not_mem {yl : Sh} {y : Nat} {yr : Sh} (h : (Sh.node yl y yr).idxs.Nodup) : y ∉ (spliceSub yl yr).idxs := by
  have hdy := Sh.ptr_ne_of_nodup yl yr y h
  cases yl with
  | nil => exact hdy.2.2.2.2.2
  | node a b c => exact hdy.2.2.2.2.1

/-- the rows after the splice: `x.parent = y.parent` (written to the NIL row when `x` is NIL, as in CLRS), then the child
    cell of `y`'s parent redirected to `x` -/
def spliceHeap (n : Nat) (cy : Ctx) (xp : Int) (h : Heap F) : Heap F :=
  redirect cy xp (update h (rowOf n xp) ((h (rowOf n xp)).setN 3 (ctxPar cy)))

variable {n : Nat} {cy : Ctx} {xp : Int}

theorem spliceHeap_other (h : Heap F) {j : Nat} (hx : j ≠ rowOf n xp) (hp : ∀ fr rest, cy = fr :: rest → j ≠ fr.idx) :
    spliceHeap n cy xp h j = h j := by
  rw [spliceHeap, redirect_other cy xp _ j hp, update_of_ne hx]

theorem spliceHeap_x (h : Heap F) (hp : ∀ fr rest, cy = fr :: rest → rowOf n xp ≠ fr.idx) :
    spliceHeap n cy xp h (rowOf n xp) = (h (rowOf n xp)).setN 3 (ctxPar cy) := by
  rw [spliceHeap, redirect_other cy xp _ _ hp, update_self]

theorem spliceHeap_ctx (h : Heap F) {j : Nat} (hx : j ≠ rowOf n xp) :
    spliceHeap n cy xp h j = redirect cy xp h j := by
  unfold spliceHeap
  cases cy with
  | nil => exact update_of_ne hx _ _
  | cons fr rest =>
    by_cases e : j = fr.idx
    · subst e; simp only [redirect, update_self, update_of_ne hx]
    · simp only [redirect, update_of_ne e, update_of_ne hx]

theorem spliceHeap_dat (h : Heap F) (j : Nat) : (spliceHeap n cy xp h j).dat = (h j).dat := by
  rw [spliceHeap, redirect_dat]
  by_cases e : j = rowOf n xp
  · rw [e, update_self]; rfl
  · rw [update_of_ne e]

/-- **the splice re-links the tree**: `y`'s only child takes `y`'s place; what the abstraction reads of a row, and the row
    of `y`, stay -/
theorem Pos.splice {V V' : List F} {N N' : List Int} {yl : Sh} {y : Nat} {yr : Sh} (h : Pos N n (.node yl y yr) cy)
    (e : heapOf V' N' = spliceHeap n cy (spliceSub yl yr).ptr (heapOf V N)) :
    Pos N' n (spliceSub yl yr) cy ∧ (∀ j, (heapOf V' N' j).dat = (heapOf V N j).dat) ∧ heapOf V' N' y = heapOf V N y ∧
      nAt N' (rowOf n (spliceSub yl yr).ptr) 3 = ctxPar cy := by
  generalize hx : spliceSub yl yr = xsh at e
  have hsub : ∀ i ∈ xsh.idxs, i ∈ (Sh.node yl y yr).idxs := fun i hi => (spliceSub_sublist yl y yr).subset (hx ▸ hi)
  have hyn : y + 1 < n := h.sub.1
  have hlx : Linked N n (y : Int) xsh := hx ▸ spliceSub_linked h.sub
  have hyx : y ∉ xsh.idxs := hx ▸ spliceSub_not_mem h.sub_nodup
  have hxnd : xsh.idxs.Nodup := hx ▸ h.sub_nodup.sublist (spliceSub_sublist yl y yr)
  have hymem : y ∈ (Sh.node yl y yr).idxs := by simp [Sh.idxs]
  -- the row of `x` (the NIL row when `x` is NIL) is no row of the context, nor `y`
  have hxr : ∀ j, j = y ∨ j ∈ ctxIdxs cy → j ≠ rowOf n xsh.ptr := by
    intro j hj ej
    rcases rowOf_ptr_cases n xsh with e1 | e1
    · have : j + 1 < n := hj.elim (fun e2 => e2 ▸ hyn) h.ctx_lt
      omega
    · rcases hj with e2 | hj
      · exact hyx (e2 ▸ ej ▸ e1)
      · exact h.disj (hsub _ e1) (ej ▸ hj)
  have hxfr : ∀ fr rest, cy = fr :: rest → rowOf n xsh.ptr ≠ fr.idx := fun fr rest ec ef =>
    hxr fr.idx (Or.inr (ec ▸ Pos.frame_mem List.mem_cons_self)) ef.symm
  have hnotfr : ∀ j ∈ (Sh.node yl y yr).idxs, ∀ fr rest, cy = fr :: rest → j ≠ fr.idx := fun j hj fr rest ec ef =>
    h.disj hj (ef ▸ ec ▸ Pos.frame_mem List.mem_cons_self)
  have hrowx := (congrFun e _).trans (spliceHeap_x _ hxfr)
  have hpar : nAt N' (rowOf n xsh.ptr) 3 = ctxPar cy := congrArg Row.par hrowx
  -- the rows of `x`'s subtree: only the parent cell of its root changes
  have hrows : ∀ i ∈ xsh.idxs, nAt N' i 1 = nAt N i 1 ∧ nAt N' i 2 = nAt N i 2 ∧
      (i ≠ rowOf n xsh.ptr → nAt N' i 3 = nAt N i 3) := by
    intro i hi
    by_cases ei : i = rowOf n xsh.ptr
    · rw [ei]
      exact ⟨congrArg Row.left hrowx, congrArg Row.right hrowx, fun hne => absurd rfl hne⟩
    · have := (congrFun e i).trans (spliceHeap_other _ ei (hnotfr i (hsub i hi)))
      exact ⟨congrArg Row.left this, congrArg Row.right this, fun _ => congrArg Row.par this⟩
  have hlx' : Linked N' n (ctxPar cy) xsh :=
    hlx.reparent hxnd (fun i hi => ⟨(hrows i hi).1, (hrows i hi).2.1⟩)
      (fun i hi hne => (hrows i hi).2.2 (fun ei => hne (by
        cases xsh with
        | nil => simp [Sh.idxs] at hi
        | node a b c => simp only [Sh.ptr, rowOf_nat] at ei ⊢; omega)))
      (fun i hi => by rw [← hpar, hi, rowOf_nat])
  obtain ⟨hpos, _⟩ := plug_replace (V := V) (V' := V') h hlx' hxnd (fun j hj hc => h.disj (hsub j hj) hc)
    (fun j hj => (congrFun e j).trans (spliceHeap_ctx _ (hxr j (Or.inr hj))))
  exact ⟨hpos, fun j => by rw [e, spliceHeap_dat], (congrFun e y).trans
    (spliceHeap_other _ (hxr y (Or.inl rfl)) (hnotfr y hymem)), hpar⟩

/-- `to_fix` after the splice: `y`'s parent, or `x` when `y` was the root -/
def headOr (xp : Int) : Ctx → Int
  | [] => xp
  | fr :: _ => (fr.idx : Int)

theorem delSplice_wI : ∀ v ∈ wI (seqL delSpliceItems), v ∈ ["deleted", "x", "root", "y_parent", "to_fix", "cur_node"] := by
  decide

/-- **the generated splice**: `deleted = y`, `x`, `x.parent = y.parent`, the child cell of `y`'s parent / `root`, `to_fix`,
    `cur_node = y` -/
theorem delSplice_spec (fuel n : Nat) (s : State F) (cy : Ctx) (yl : Sh) (y : Nat) (yr : Sh)
    (h : TreeAt "root" s n (plug (.node yl y yr) cy)) (hy : s.ienv "y" = y) :
    let xsh := spliceSub yl yr
    let r := exec fuel (seqL delSpliceItems) s
    TreeAt "root" r n (plug xsh cy) ∧ r.fa = s.fa ∧ (∀ j, (heap r j).dat = (heap s j).dat) ∧ heap r y = heap s y ∧
      nAt (r.ia "tree_nodes") (rowOf n xsh.ptr) 3 = ctxPar cy ∧
      r.ienv "x" = xsh.ptr ∧ r.ienv "to_fix" = headOr xsh.ptr cy ∧ r.ienv "cur_node" = y ∧ r.ienv "deleted" = y := by
  intro xsh r
  have hv := h.vs
  obtain ⟨hyn, hy1, hy2, hy3, hlyl, hlyr⟩ := h.pos.sub
  have hiny : inRange (y : Int) n = true := hv.inRange hyn
  have hlx : Linked (s.ia "tree_nodes") n (y : Int) xsh := spliceSub_linked h.pos.sub
  have hxlt : rowOf n xsh.ptr < n := rowOf_ptr_lt hlx hv.pos
  have eN := fun (s' : State F) => evalN s' n
  have oN := fun (s' : State F) => okN s' n
  have sK := fun (s' : State F) => exec_stKid fuel s' n
  have hinx := hlx.inRange hv.pos
  -- `deleted`, `x`
  have h1 : exec fuel (.setI "deleted" (.var "y")) s = { s with ienv := setS s.ienv "deleted" (y : Int) } := by
    rw [exec_setI _ _ _ _ (IE.ok_var _ _), IE.eval_var, hy]
  have h2 : exec fuel delPickX { s with ienv := setS s.ienv "deleted" (y : Int) } =
      { s with ienv := setS (setS s.ienv "deleted" (y : Int)) "x" xsh.ptr } := by
    cases yl with
    | nil =>
      simp only [Sh.ptr] at hy1
      simp [delPickX, exec, eN, oN, hv.shpN, hy, hiny, hy1, hy2, IE.ok_lit, IE.eval_lit, BE.ok, BE.eval,
        cmpInt, setS, xsh, spliceSub]
    | node a b c =>
      simp only [Sh.ptr] at hy1
      have hb : ¬ ((b : Int) = -1) := by omega
      simp [delPickX, exec, eN, oN, hv.shpN, hy, hiny, hy1, hb, IE.ok_lit, IE.eval_lit, BE.ok,
        BE.eval, cmpInt, setS, xsh, spliceSub, Sh.ptr]
  generalize hs2 : ({ s with ienv := setS (setS s.ienv "deleted" (y : Int)) "x" xsh.ptr } : State F) = s2 at h2
  have ex2 : s2.ienv "x" = xsh.ptr := by rw [← hs2]; simp [setS]
  have ey2 : s2.ienv "y" = y := by rw [← hs2]; simp [setS, hy]
  have hshp2 : s2.shp "tree_nodes" = [n, 4] := by rw [← hs2]; exact hv.shpN
  -- `x.parent = y.parent`
  have h3 := exec_stN fuel s2 n hshp2 "x" 3 (.ld2 "tree_nodes" (.var "y") (.lit 3)) (by decide) (by rw [ex2]; exact hinx)
    (by rw [okN s2 n hshp2 "y" 3 (by decide), ey2]; exact hiny)
  rw [ex2, evalN s2 n hshp2 "y" 3 (by decide), ey2, rowOf_nat, show s2.ia = s.ia by rw [← hs2],
    show (3 : Int).toNat = 3 from rfl, hy3] at h3
  generalize hs3 : ({ s2 with ia := (setS s.ia "tree_nodes"
    ((s.ia "tree_nodes").set (rowOf n xsh.ptr * 4 + 3) (ctxPar cy))) } : State F) = s3 at h3
  have hN3 : s3.ia "tree_nodes" = (s.ia "tree_nodes").set (rowOf n xsh.ptr * 4 + 3) (ctxPar cy) := by rw [← hs3]; simp [setS]
  have hv3 : VS s3 n := ⟨by rw [← hs3, ← hs2]; exact hv.shpV, by rw [← hs3]; exact hshp2, by rw [← hs3, ← hs2]; exact hv.lenV,
    by rw [hN3]; simp [hv.lenN], hv.pos⟩
  have hrun3 : s3.ctl = .run := by rw [← hs3, ← hs2]; exact h.run
  have ex3 : s3.ienv "x" = xsh.ptr := by rw [← hs3]; exact ex2
  have ey3 : s3.ienv "y" = y := by rw [← hs3]; exact ey2
  have hget3 := fun j k (hk : k < 4) => nAt_set_lt (s.ia "tree_nodes") n (rowOf n xsh.ptr) 3 (ctxPar cy) j k hv.lenN hxlt (by decide) hk
  rw [← hN3] at hget3
  have hy3' : nAt (s3.ia "tree_nodes") y 3 = ctxPar cy := by rw [hget3 y 3 (by decide), hy3, ite_self]
  have hheap3 : heap s3 = update (heap s) (rowOf n xsh.ptr) ((heap s (rowOf n xsh.ptr)).setN 3 (ctxPar cy)) := by
    rw [heap, hN3, show s3.fa = s.fa by rw [← hs3, ← hs2]]
    exact heapOf_setN _ _ n _ 3 _ hv.lenN hxlt (by decide)
  have hfin : ∀ (s4 : State F), exec fuel delRelink s3 = s4 → s4.ctl = .run →
      r = { s4 with ienv := setS s4.ienv "cur_node" (s4.ienv "y") } := fun s4 h4 hrun4 =>
    (exec_seq_eq _ _ _ _ _ h1 h.run).trans ((exec_seq_eq _ _ _ _ _ h2 (by rw [← hs2]; exact h.run)).trans
      ((exec_seq_eq _ _ _ _ _ h3 hrun3).trans ((exec_seq_eq _ _ _ _ _ h4 hrun4).trans
        ((exec_setI _ _ _ _ (IE.ok_var _ _)).trans (by rw [IE.eval_var])))))
  have hfa3 : s3.fa = s.fa := by rw [← hs3, ← hs2]
  have ed3 : s3.ienv "deleted" = y := by rw [← hs3, ← hs2]; simp [setS]
  cases cy with
  | nil =>
    have h4 : exec fuel delRelink s3 = { s3 with ienv := setS (setS s3.ienv "root" xsh.ptr) "to_fix" xsh.ptr } := by
      simp [delRelink, exec, eN, oN, hv3.shpN, ey3, ex3, hiny, hy3', ctxPar, IE.ok_var, IE.eval_var, IE.ok_lit, IE.eval_lit,
        BE.ok, BE.eval, cmpInt, setS, hrun3]
    rw [hfin _ h4 hrun3]
    obtain ⟨hpos, g1, g2, g3⟩ := h.pos.splice (show heapOf (s3.fa "tree_vals") (s3.ia "tree_nodes") = _ from hheap3)
    exact ⟨⟨hv3.of_eq rfl rfl rfl, hrun3, hpos.linked, hpos.nodup, by simp [setS, plug]⟩, hfa3, g1, g2, g3,
      by simp [setS, ex3], by simp [setS, headOr], by simp [setS, ey3], by simp [setS, ed3]⟩
  | cons fr rest =>
    have hpn : fr.idx + 1 < n := h.pos.ctx_lt (Pos.frame_mem List.mem_cons_self)
    have hinp : inRange (fr.idx : Int) n = true := hv.inRange hpn
    have hne1 : ¬ ((fr.idx : Int) = -1) := by omega
    rw [ctxPar_cons] at hy3'
    have h4 : exec fuel delRelink s3 =
        { s3 with ienv := setS (setS s3.ienv "y_parent" (fr.idx : Int)) "to_fix" (fr.idx : Int),
                  ia := (setS s3.ia "tree_nodes" ((s3.ia "tree_nodes").set
                    (fr.idx * 4 + (if (y : Int) = nAt (s.ia "tree_nodes") fr.idx 1 then 1 else 2)) xsh.ptr)) } := by
      simp [delRelink, exec, sK, eN, oN, hv3.shpN, ey3, ex3, hiny, hinp, hy3', hne1, hget3, IE.ok_var, IE.eval_var, IE.ok_lit,
        IE.eval_lit, BE.ok, BE.eval, cmpInt, setS, hrun3]
    rw [hfin _ h4 hrun3]
    have hheap : heapOf (s3.fa "tree_vals") ((s3.ia "tree_nodes").set
        (fr.idx * 4 + (if (y : Int) = nAt (s.ia "tree_nodes") fr.idx 1 then 1 else 2)) xsh.ptr) =
        spliceHeap n (fr :: rest) xsh.ptr (heap s) := by
      rw [heapOf_setKid _ _ n fr.idx _ _ hv3.lenN (by omega), CtxLinked.kid_test h.pos.ctx, spliceHeap, ← hheap3]
      rfl
    obtain ⟨hpos, g1, g2, g3⟩ := h.pos.splice hheap
    have er3 : s3.ienv "root" = (plug xsh (fr :: rest)).ptr := by
      rw [← hs3, ← hs2]; simp only [setS]; exact h.root.trans (plug_ptr_cons fr rest _ _)
    exact ⟨⟨⟨hv3.shpV, hv3.shpN, hv3.lenV, by simp [setS, hv3.lenN], hv.pos⟩, hrun3, by simpa [setS] using hpos.linked,
      hpos.nodup, by simp [setS, er3]⟩, hfa3, by simpa [heap, setS] using g1, by simpa [heap, setS] using g2,
      by simpa [setS] using g3, by simp [setS, ex3], by simp [setS, headOr], by simp [setS, ey3], by simp [setS, ed3]⟩

end XrsVerif.ILVs
