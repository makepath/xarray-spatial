import XrsVerif.Model.Bin
import XrsVerif.Proofs.ListFold
import XrsVerif.Proofs.Zonal
import Mathlib.Tactic.Ring
import Mathlib.Tactic.Linarith
import Mathlib.Tactic.FieldSimp
/-!
  Helper lemmas for C12: the `_cpu_bin` loop invariant, `searchP` on abstract tests, the bridge to lists
  over a linear order and over `Ext`, `uniq`, the equal-interval cuts.
-/
set_option linter.unnecessarySeqFocus false
namespace XrsVerif.Bin

/-- the fuel is never what stops the loop: with at least `end - start + 1` units (the model gives it
    `nbins`) one more unit changes nothing, for *any* test `below` (sorted bins or not, NaN or not) -/
theorem loop_fuel (below : Int → Bool) (fuel : Nat) (start stp : Int)
    (h : (stp - start + 1).toNat ≤ fuel) :
    loop below (fuel + 1) start stp = loop below fuel start stp := by
  induction fuel generalizing start stp with
  | zero =>
    have : ¬ start ≤ stp := by omega
    simp [loop, this]
  | succ fuel ih =>
    rw [loop.eq_def below (fuel + 1 + 1), loop.eq_def below (fuel + 1)]
    simp only []
    by_cases hle : start ≤ stp
    · have hm1 : start ≤ (stp + start) / 2 := by omega
      have hm2 : (stp + start) / 2 ≤ stp := by omega
      simp only [hle, if_true]
      rw [ih ((stp + start) / 2 + 1) stp (by omega), ih start ((stp + start) / 2 - 1) (by omega)]
    · simp [hle]

/-- what the loop returns: an index `r` with `bins[r-1] < val` and not `bins[r] < val` -/
theorem loop_spec (below : Int → Bool) (fuel : Nat) (start stp : Int)
    (hle : start ≤ stp)
    (hlo : (1 ≤ start ∧ below (start - 1) = true) ∨ (start = 0 ∧ below 0 = true))
    (hhi : below stp = false)
    (hf : (stp - start + 1).toNat ≤ fuel) :
    start ≤ loop below fuel start stp ∧ loop below fuel start stp ≤ stp ∧ 1 ≤ loop below fuel start stp ∧
      below (loop below fuel start stp - 1) = true ∧ below (loop below fuel start stp) = false := by
  induction fuel generalizing start stp with
  | zero => omega
  | succ fuel ih =>
    have hm1 : start ≤ (stp + start) / 2 := by omega
    have hm2 : (stp + start) / 2 ≤ stp := by omega
    rw [loop.eq_def]
    simp only [hle, if_true]
    generalize (stp + start) / 2 = mid at *
    cases hc1 : below mid with
    | true =>
      have hne : mid ≠ stp := by intro h; subst h; simp [hhi] at hc1
      have := ih (mid + 1) stp (by omega) (Or.inl ⟨by omega, by simpa using hc1⟩) hhi (by omega)
      simp only [if_true]
      exact ⟨by omega, this.2.1, this.2.2.1, this.2.2.2.1, this.2.2.2.2⟩
    | false =>
      cases hc2 : below (mid - 1) with
      | true =>
        simp only [if_true, Bool.false_eq_true, if_false]
        refine ⟨hm1, hm2, ?_, hc2, hc1⟩
        rcases hlo with h | h
        · omega
        · by_cases hge : 1 ≤ mid
          · exact hge
          · have : mid = 0 := by omega
            subst this; rw [h.2] at hc1; cases hc1
      | false =>
        have hne : mid ≠ start := by
          intro h; subst h
          rcases hlo with h | h
          · rw [h.2] at hc2; cases hc2
          · rw [h.1] at hc1; rw [h.2] at hc1; cases hc1
        have := ih start (mid - 1) (by omega) hlo hc2 (by omega)
        simp only [Bool.false_eq_true, if_false]
        exact ⟨this.1, by omega, this.2.2.1, this.2.2.2.1, this.2.2.2.2⟩
/-- `searchP` under totality (`bins[i] < v` iff not `v <= bins[i]`: no NaN bin), any order of the bins:
    the result is `-1` only if `v` is above the first and the last bin, otherwise it is an index `r` whose bin
    holds `v` (`bins[r-1] < v <= bins[r]`). -/
theorem searchP_spec (below atMost : Int → Bool) (n : Nat) (hn : 1 ≤ n)
    (htot : ∀ i : Int, 0 ≤ i → i < n → below i = !atMost i) :
    (searchP below atMost n = -1 ∧ atMost 0 = false ∧ atMost ((n : Int) - 1) = false) ∨
    (0 ≤ searchP below atMost n ∧ searchP below atMost n < n ∧ atMost (searchP below atMost n) = true ∧
      (searchP below atMost n = 0 ∨ (1 ≤ searchP below atMost n ∧ atMost (searchP below atMost n - 1) = false))) := by
  unfold searchP
  cases h0 : atMost 0 with
  | true => right; simp only [if_true]; exact ⟨by omega, by omega, h0, Or.inl trivial⟩
  | false =>
    cases hl : atMost ((n : Int) - 1) with
    | false => left; simp
    | true =>
      right
      simp only [Bool.false_eq_true, if_false, if_true]
      have hn2 : 2 ≤ n := by
        rcases Nat.lt_or_ge n 2 with h | h
        · have : n = 1 := by omega
          subst this; simp at hl; rw [h0] at hl; cases hl
        · exact h
      have hb0 : below 0 = true := by rw [htot 0 (by omega) (by omega), h0]; rfl
      have hbl : below ((n : Int) - 1) = false := by rw [htot _ (by omega) (by omega), hl]; rfl
      have := loop_spec below n 0 ((n : Int) - 1) (by omega) (Or.inr ⟨rfl, hb0⟩) hbl (by omega)
      obtain ⟨h1, h2, h3, h4, h5⟩ := this
      generalize loop below n 0 ((n : Int) - 1) = r at *
      refine ⟨by omega, by omega, ?_, Or.inr ⟨h3, ?_⟩⟩
      · have := htot r (by omega) (by omega); rw [h5] at this
        cases h : atMost r with
        | true => rfl
        | false => rw [h] at this; cases this
      · have := htot (r - 1) (by omega) (by omega); rw [h4] at this
        cases h : atMost (r - 1) with
        | false => rfl
        | true => rw [h] at this; cases this

variable {α : Type}

theorem eq_or_rel_getLast {R : α → α → Prop} {l : List α} (h : l.Pairwise R) (hne : l ≠ []) {b : α} (hb : b ∈ l) :
    b = l.getLast hne ∨ R b (l.getLast hne) := by
  obtain ⟨i, hi, rfl⟩ := List.getElem_of_mem hb
  rw [List.getLast_eq_getElem]
  rcases Nat.lt_or_ge i (l.length - 1) with hlt | hge
  · exact Or.inr (List.pairwise_iff_getElem.mp h _ _ _ _ hlt)
  · exact Or.inl (by congr 1; omega)

/-! A Boolean test that stays true along the list once it is true (`v ≤ ·` on ascending bins, for a linear
    order and for `Ext` alike): where `findIdx?` stops is decided at the last element and at two neighbours. -/

theorem findIdx?_none_iff_last {p : α → Bool} {l : List α} (hm : l.Pairwise (fun a b => p a = true → p b = true))
    (hne : l ≠ []) : l.findIdx? p = none ↔ p (l.getLast hne) = false := by
  rw [List.findIdx?_eq_none_iff]
  refine ⟨fun h => h _ (List.getLast_mem hne), fun h b hb => ?_⟩
  rcases eq_or_rel_getLast hm hne hb with rfl | hbl
  · exact h
  · exact Bool.eq_false_iff.mpr fun hb' => by rw [hbl hb'] at h; cases h

theorem findIdx?_some_iff_band {p : α → Bool} {l : List α} (hm : l.Pairwise (fun a b => p a = true → p b = true))
    (i : Nat) : l.findIdx? p = some i ↔
      ∃ h : i < l.length, p l[i] = true ∧ (i = 0 ∨ ∃ h' : i - 1 < l.length, p l[i - 1] = false) := by
  rw [List.findIdx?_eq_some_iff_getElem]
  refine exists_congr fun h => and_congr_right fun _ => ⟨fun h2 => ?_, fun h2 j hj hpj => ?_⟩
  · rcases Nat.eq_zero_or_pos i with h0 | h0
    · exact Or.inl h0
    · exact Or.inr ⟨by omega, Bool.eq_false_iff.mpr (h2 (i - 1) (by omega))⟩
  · rcases h2 with h0 | ⟨h', h2⟩
    · omega
    · -- true at `j < i` would be true at `i - 1`
      rcases Nat.lt_or_eq_of_le (show j ≤ i - 1 by omega) with hlt | rfl
      · rw [List.pairwise_iff_getElem.mp hm j (i - 1) (by omega) h' hlt hpj] at h2; cases h2
      · rw [hpj] at h2; cases h2

theorem getW_nat (d : α) (l : List α) (i : Nat) (h : i < l.length) : getW d l (i : Int) = l[i] := by
  unfold getW
  have h1 : ¬ ((i : Int) < 0) := by omega
  simp only [h1, if_false]
  have h2 : (0 : Int) ≤ (i : Int) := by omega
  simp only [h2, if_true, Int.toNat_natCast]
  simp [List.getD_eq_getElem?_getD, h]

theorem getW_int (d : α) (l : List α) (i : Int) (h0 : 0 ≤ i) (h : i < l.length) :
    getW d l i = l[i.toNat]'(by omega) := by
  have := getW_nat d l i.toNat (by omega)
  rw [show ((i.toNat : Nat) : Int) = i by omega] at this
  exact this

theorem canonical_fields :
    canonical.firstOp = .le ∧ canonical.firstIdx = 0 ∧ canonical.firstBin = 0 ∧ canonical.lastOp = .le ∧
    canonical.lastOff = -1 ∧ canonical.startInit = 0 ∧ canonical.endOff = -1 ∧ canonical.loopOp = .le ∧
    canonical.rightOp = .lt ∧ canonical.rightOff = 0 ∧ canonical.rightStep = 1 ∧ canonical.stopOp = .gt ∧
    canonical.stopOff = -1 ∧ canonical.leftStep = -1 ∧ canonical.initBin = -1 := by
  refine ⟨rfl, rfl, rfl, rfl, rfl, rfl, rfl, rfl, rfl, rfl, rfl, rfl, rfl, rfl, rfl⟩

theorem loopS_canonical (below : Int → Bool) (fuel : Nat) (s e : Int) :
    loopS canonical below below fuel s e = loop below fuel s e := by
  induction fuel generalizing s e with
  | zero => rfl
  | succ fuel ih =>
    rw [loopS.eq_def, loop.eq_def]
    obtain ⟨_, _, _, _, _, _, _, h8, _, h10, h11, _, h13, h14, _⟩ := canonical_fields
    simp only [h8, h10, h11, h13, h14, Op.evI, decide_eq_true_eq, Int.add_zero, ← Int.sub_eq_add_neg, ih]

theorem searchS_canonical (lt le : α → α → Bool) (d : α) (bins : List α) (v : α) :
    searchS canonical lt le d bins v = search lt le d bins v := by
  unfold searchS search searchP
  obtain ⟨h1, h2, h3, h4, h5, h6, h7, _, h9, _, _, h12, _, _, h15⟩ := canonical_fields
  simp only [h1, h2, h3, h4, h5, h6, h7, h9, h12, h15, Op.ev, ← Int.sub_eq_add_neg, loopS_canonical]


section lin
variable [LinearOrder α]
theorem insertU_eq (x : α) (l : List α) : insertU x l = Zonal.insertU x l := by
  induction l with
  | nil => rfl
  | cons y ys ih =>
    unfold insertU Zonal.insertU
    rcases lt_trichotomy x y with h | h | h
    · rw [if_pos h, if_pos h]
    · rw [if_neg (h ▸ lt_irrefl x), if_neg (h ▸ lt_irrefl x), if_neg (h ▸ lt_irrefl x), if_pos h]
    · rw [if_neg (not_lt_of_gt h), if_pos h, if_neg (not_lt_of_gt h), if_neg (ne_of_gt h), ih]
theorem insertU_mem (x a : α) (l : List α) : a ∈ insertU x l ↔ a = x ∨ a ∈ l := by
  rw [insertU_eq]; exact Zonal.mem_insertU x a l
theorem insertU_sorted (x : α) (l : List α) (h : l.Pairwise (· < ·)) : (insertU x l).Pairwise (· < ·) := by
  rw [insertU_eq]; exact Zonal.sorted_insertU x l h
theorem uniq_eq (l : List α) : uniq l = Zonal.sortDedup l := by
  induction l with
  | nil => rfl
  | cons x xs ih =>
    show insertU x (uniq xs) = Zonal.insertU x (Zonal.sortDedup xs)
    rw [ih, insertU_eq]
theorem uniq_sorted (l : List α) : (uniq l).Pairwise (· < ·) := by
  rw [uniq_eq]; exact Zonal.sorted_sortDedup l
theorem mem_uniq (a : α) (l : List α) : a ∈ uniq l ↔ a ∈ l := by
  rw [uniq_eq]; exact Zonal.mem_sortDedup a l
theorem insertU_length (x : α) (l : List α) : (insertU x l).length ≤ l.length + 1 := by
  induction l with
  | nil => simp [insertU]
  | cons y ys ih => unfold insertU; split <;> [simp; (split <;> simp <;> omega)]
theorem uniq_length (l : List α) : (uniq l).length ≤ l.length := by
  induction l with
  | nil => simp [uniq]
  | cons x xs ih =>
    show (insertU x (uniq xs)).length ≤ _
    have := insertU_length x (uniq xs); simp; omega
theorem uniq_of_sorted (l : List α) (h : l.Pairwise (· < ·)) : uniq l = l := by
  induction l with
  | nil => simp [uniq]
  | cons x xs ih =>
    rw [List.pairwise_cons] at h
    show insertU x (uniq xs) = _
    rw [ih h.2]
    cases xs with
    | nil => simp [insertU]
    | cons y ys => simp [insertU, h.1 y (by simp)]
end lin

/-- list form of `searchP_spec` -/
theorem search_cases (lt le : α → α → Bool) (d v : α) (bins : List α) (hne : bins ≠ [])
    (htot : ∀ b ∈ bins, lt b v = !le v b) :
    (search lt le d bins v = -1 ∧ le v (bins.head hne) = false ∧ le v (bins.getLast hne) = false) ∨
    ∃ r : Nat, search lt le d bins v = r ∧ ∃ h : r < bins.length, le v bins[r] = true ∧
      (r = 0 ∨ ∃ h' : r - 1 < bins.length, le v bins[r - 1] = false) := by
  have hn : 1 ≤ bins.length := List.length_pos_iff.mpr hne
  have htot' : ∀ i : Int, 0 ≤ i → i < bins.length → lt (getW d bins i) v = !le v (getW d bins i) :=
    fun i h0 h1 => by rw [getW_int d bins i h0 h1]; exact htot _ (List.getElem_mem _)
  unfold search
  rcases searchP_spec _ _ bins.length hn htot' with ⟨h1, h2, h3⟩ | ⟨h1, h2, h3, h4⟩
  · rw [show (bins.length : Int) - 1 = ((bins.length - 1 : Nat) : Int) by omega, getW_nat d bins _ (by omega)] at h3
    rw [show (0 : Int) = ((0 : Nat) : Int) from rfl, getW_nat d bins 0 hn] at h2
    exact Or.inl ⟨h1, by rw [List.head_eq_getElem]; exact h2, by rw [List.getLast_eq_getElem]; exact h3⟩
  · generalize searchP _ _ bins.length = r at *
    obtain ⟨k, rfl⟩ : ∃ k : Nat, r = k := ⟨r.toNat, by omega⟩
    have hk : k < bins.length := by omega
    rw [getW_nat d bins k hk] at h3
    refine Or.inr ⟨k, rfl, hk, h3, ?_⟩
    rcases h4 with h4 | ⟨h4, h5⟩
    · exact Or.inl (by omega)
    · rw [show (k : Int) - 1 = ((k - 1 : Nat) : Int) by omega, getW_nat d bins _ (by omega)] at h5
      exact Or.inr ⟨by omega, h5⟩

theorem search_eq_findIdx (lt le : α → α → Bool) (d v : α) (bins : List α) (hne : bins ≠ [])
    (htot : ∀ b ∈ bins, lt b v = !le v b)
    (hmono : bins.Pairwise (fun a b => le v a = true → le v b = true)) :
    search lt le d bins v =
      match bins.findIdx? (fun b => le v b) with | some i => (i : Int) | none => -1 := by
  rcases search_cases lt le d v bins hne htot with ⟨h1, _, h3⟩ | ⟨r, h1, hr, h3, h4⟩
  · rw [h1, (findIdx?_none_iff_last hmono hne).mpr h3]
  · rw [h1, (findIdx?_some_iff_band hmono r).mpr ⟨hr, h3, h4⟩]

/-- **first bin**, for one cell of `_cpu_bin` over any number type: a finite value with which every bin is comparable
    and along which `v ≤ ·` stays true gets the new value of the first bin `≥ v`, the NaN value when there is none.
    `cell_spec` (extended values) and the generated program's clause (any `Fl`) are this statement. -/
theorem cellG_first_bin (lt le : α → α → Bool) (isfin : α → Bool) (d v : α) (bins newv : List α) (hne : bins ≠ [])
    (hfin : isfin v = true) (htot : ∀ b ∈ bins, lt b v = !le v b)
    (hmono : bins.Pairwise (fun a b => le v a = true → le v b = true)) :
    cellG lt le isfin d bins newv v =
      match bins.findIdx? (fun b => le v b) with | some i => getW d newv (i : Int) | none => d := by
  unfold cellG
  rw [if_pos hfin, search_eq_findIdx lt le d v bins hne htot hmono]
  cases bins.findIdx? (fun b => le v b) with
  | none => simp
  | some i =>
    have : ((i : Int) > -1) := by omega
    simp [this]

section lin
variable [LinearOrder α]

def ltB (a b : α) : Bool := decide (a < b)
def leB (a b : α) : Bool := decide (a ≤ b)

/-- specification: the first bin whose upper bound is ≥ v -/
def firstGE (bins : List α) (v : α) : Option Nat := bins.findIdx? (fun b => decide (v ≤ b))

theorem ltB_eq_not_leB (b v : α) : ltB b v = !leB v b := by
  simp only [ltB, leB]
  by_cases h : v ≤ b
  · simp [h, not_lt.mpr h]
  · simp [h, not_le.mp h]

theorem le_mono_of_sorted {bins : List α} (hs : bins.Pairwise (· ≤ ·)) (v : α) :
    bins.Pairwise (fun a b => decide (v ≤ a) = true → decide (v ≤ b) = true) :=
  hs.imp fun hab h => decide_eq_true (le_trans (of_decide_eq_true h) hab)

theorem search_eq_firstGE (d v : α) (bins : List α) (hne : bins ≠ [])
    (hs : bins.Pairwise (· ≤ ·)) :
    search ltB leB d bins v = match firstGE bins v with | some i => (i : Int) | none => -1 :=
  search_eq_findIdx ltB leB d v bins hne (fun b _ => ltB_eq_not_leB b v) (le_mono_of_sorted hs v)

theorem firstGE_some_iff (bins : List α) (v : α) (i : Nat) :
    firstGE bins v = some i ↔ ∃ h : i < bins.length, v ≤ bins[i] ∧ ∀ j (hj : j < i), bins[j] < v := by
  unfold firstGE
  rw [List.findIdx?_eq_some_iff_getElem]
  constructor
  · rintro ⟨h, h1, h2⟩
    exact ⟨h, by simpa using h1, fun j hj => by have := h2 j hj; simpa using this⟩
  · rintro ⟨h, h1, h2⟩
    exact ⟨h, by simpa using h1, fun j hj => by have := h2 j hj; simpa using this⟩

theorem firstGE_none_iff (bins : List α) (v : α) : firstGE bins v = none ↔ ∀ b ∈ bins, b < v := by
  unfold firstGE
  rw [List.findIdx?_eq_none_iff]
  simp

theorem firstGE_lt_length (bins : List α) (v : α) (i : Nat) (h : firstGE bins v = some i) :
    i < bins.length := ((firstGE_some_iff bins v i).mp h).1

theorem firstGE_mono (bins : List α) (v w : α) (hvw : v ≤ w) (j : Nat) (hw : firstGE bins w = some j) :
    ∃ i, firstGE bins v = some i ∧ i ≤ j := by
  obtain ⟨hj, h1, h2⟩ := (firstGE_some_iff bins w j).mp hw
  cases hv : firstGE bins v with
  | none =>
    have := (firstGE_none_iff bins v).mp hv _ (List.getElem_mem hj)
    exact absurd (le_trans hvw h1) (not_le.mpr this)
  | some i =>
    refine ⟨i, rfl, ?_⟩
    obtain ⟨hi, h3, h4⟩ := (firstGE_some_iff bins v i).mp hv
    by_cases hle : i ≤ j
    · exact hle
    · have := h4 j (by omega)
      exact absurd (le_trans hvw h1) (not_le.mpr this)

theorem firstGE_isSome (bins : List α) (v b : α) (hb : b ∈ bins) (hv : v ≤ b) :
    ∃ i, firstGE bins v = some i := by
  cases h : firstGE bins v with
  | none => exact absurd hv (not_le.mpr ((firstGE_none_iff bins v).mp h b hb))
  | some i => exact ⟨i, rfl⟩

theorem firstGE_none_iff_last (bins : List α) (v : α) (hne : bins ≠ []) (hs : bins.Pairwise (· ≤ ·)) :
    firstGE bins v = none ↔ bins.getLast hne < v :=
  (findIdx?_none_iff_last (le_mono_of_sorted hs v) hne).trans (by rw [decide_eq_false_iff_not, not_le])

theorem firstGE_some_iff_sorted (bins : List α) (v : α) (i : Nat) (hs : bins.Pairwise (· ≤ ·)) :
    firstGE bins v = some i ↔
      ∃ h : i < bins.length, v ≤ bins[i] ∧ (i = 0 ∨ ∃ h' : i - 1 < bins.length, bins[i - 1] < v) :=
  (findIdx?_some_iff_band (le_mono_of_sorted hs v) i).trans
    (by simp only [decide_eq_true_eq, decide_eq_false_iff_not, not_le])
end lin

section ext
variable {K : Type} [LinearOrder K]

/-- an ascending bin list in the sense of the property: no NaN, each bin `<=` the next (IEEE); ±inf allowed -/
def ExtAscending (bins : List (Ext K)) : Prop :=
  (∀ b ∈ bins, b ≠ .nan) ∧ bins.Pairwise (fun a b => Ext.le a b = true)

/-- specification on extended bins: the first bin whose upper bound is `>=` the finite value `x` -/
def firstGEx (bins : List (Ext K)) (x : K) : Option Nat := bins.findIdx? (fun b => Ext.le (.fin x) b)

theorem Ext.lt_eq_not_le (b : Ext K) (x : K) (hb : b ≠ .nan) : Ext.lt b (.fin x) = !Ext.le (.fin x) b := by
  cases b with
  | nan => exact absurd rfl hb
  | ninf => rfl
  | pinf => rfl
  | fin y => exact ltB_eq_not_leB y x

theorem Ext.le_trans_fin (x : K) (a b : Ext K) (h1 : Ext.le (.fin x) a = true) (h2 : Ext.le a b = true) :
    Ext.le (.fin x) b = true := by
  cases a <;> cases b <;> simp_all [Ext.le]
  exact le_trans h1 h2

theorem ExtAscending.le_mono {bins : List (Ext K)} (hasc : ExtAscending bins) (x : K) :
    bins.Pairwise (fun a b => Ext.le (.fin x) a = true → Ext.le (.fin x) b = true) :=
  hasc.2.imp fun hab h => Ext.le_trans_fin x _ _ h hab

theorem cell_nonfinite (bins newv : List (Ext K)) (v : Ext K) (hv : v.isFinite = false) :
    cell bins newv v = .nan := by
  unfold cell; simp [hv]

theorem cell_spec (bins newv : List (Ext K)) (hne : bins ≠ []) (hasc : ExtAscending bins) (x : K) :
    cell bins newv (.fin x) =
      match firstGEx bins x with | some i => getW .nan newv (i : Int) | none => .nan :=
  cellG_first_bin Ext.lt Ext.le Ext.isFinite .nan (.fin x) bins newv hne rfl
    (fun b hb => Ext.lt_eq_not_le b x (hasc.1 b hb)) (hasc.le_mono x)

theorem firstGEx_none_iff (bins : List (Ext K)) (x : K) (hne : bins ≠ []) (hasc : ExtAscending bins) :
    firstGEx bins x = none ↔ Ext.lt (bins.getLast hne) (.fin x) = true := by
  rw [Ext.lt_eq_not_le _ _ (hasc.1 _ (List.getLast_mem hne)), Bool.not_eq_true']
  exact findIdx?_none_iff_last (hasc.le_mono x) hne

theorem firstGEx_fin (bs : List K) (x : K) : firstGEx (bs.map .fin) x = firstGE bs x := by
  unfold firstGEx firstGE
  rw [List.findIdx?_map]; rfl

theorem extAscending_fin (bs : List K) (hs : bs.Pairwise (· ≤ ·)) : ExtAscending (bs.map (.fin : K → Ext K)) := by
  refine ⟨?_, ?_⟩
  · intro b hb; simp only [List.mem_map] at hb; obtain ⟨a, _, rfl⟩ := hb; simp
  · rw [List.pairwise_map]; exact hs.imp (fun h => by simpa [Ext.le] using h)
end ext

theorem ceilQ_natCast (k : Nat) : ceilQ (k : Rat) = k := by
  unfold ceilQ
  have : (-(k : Rat)) = ((-(k : Int) : Int) : Rat) := by push_cast; ring
  rw [this, Rat.floor_intCast]; omega

theorem setLast_ne_nil {α : Type} (l : List α) (x : α) (h : l ≠ []) : setLast l x = l.dropLast ++ [x] := by
  unfold setLast
  split
  · exact absurd rfl h
  · rfl

theorem setLast_map_range {α : Type} (f : Nat → α) (k : Nat) (x : α) (h : f k = x) :
    setLast ((List.range (k + 1)).map f) x = (List.range (k + 1)).map f := by
  rw [setLast_ne_nil _ _ (by simp), List.range_succ, List.map_append, List.map_singleton, List.dropLast_concat, h]

theorem equalInterval_last (mn mx : Rat) (k : Nat) :
    mn + ((k : Rat) + 1) * ((mx - mn) / ((k + 1 : Nat) : Rat)) = mx := by
  push_cast; field_simp; ring

/-- in exact arithmetic `arange` yields exactly `k` cuts, nothing is trimmed, and forcing the last cut to
    `max` changes nothing -/
theorem equalIntervalCuts_eq (mn mx : Rat) (k : Nat) (hk : 1 ≤ k) (h : mn < mx) :
    equalIntervalCuts mn mx k =
      ((List.range k).map (fun i : Nat => mn + ((i : Rat) + 1) * ((mx - mn) / (k : Rat))), k) := by
  have hk0 : (0 : Rat) < (k : Rat) := by exact_mod_cast hk
  have hw : 0 < (mx - mn) / (k : Rat) := div_pos (by linarith) hk0
  unfold equalIntervalCuts
  simp only
  generalize hwd : (mx - mn) / (k : Rat) = w at *
  have hlen : ceilQ ((mx + w - (mn + w)) / w) = k := by
    have : (mx + w - (mn + w)) / w = (k : Rat) := by
      have hne : mx - mn ≠ 0 := by linarith
      have hk0' : (k : Rat) ≠ 0 := ne_of_gt hk0
      have : mx + w - (mn + w) = mx - mn := by ring
      rw [this, ← hwd]; field_simp
    rw [this, ceilQ_natCast]
  have har : arange (mn + w) (mx + w) w = (List.range k).map (fun i : Nat => mn + ((i : Rat) + 1) * w) := by
    unfold arange
    rw [hlen, Int.toNat_natCast]
    apply List.map_congr_left
    intro i _; ring
  rw [har]
  simp only [List.length_map, List.length_range, Nat.lt_irrefl, if_false]
  obtain ⟨k', rfl⟩ : ∃ k', k = k' + 1 := ⟨k - 1, by omega⟩
  rw [setLast_map_range]
  rw [← hwd]; exact equalInterval_last mn mx k'

theorem equalInterval_sorted (mn w : Rat) (k : Nat) (hw : 0 < w) :
    ((List.range k).map (fun i : Nat => mn + ((i : Rat) + 1) * w)).Pairwise (· ≤ ·) := by
  rw [List.pairwise_iff_getElem]
  intro i j hi hj hij
  simp only [List.getElem_map, List.getElem_range]
  have : (i : Rat) < (j : Rat) := by exact_mod_cast hij
  nlinarith

/-- specification of a data-driven classifier with ascending finite bins `bs`:
    non-finite cells get NaN, a finite cell gets the index of the first bin `>=` it (NaN above the last bin) -/
def classOf (bs : List Rat) : Ext Rat → Ext Rat
  | .fin x => match firstGE bs x with | some i => .fin (i : Rat) | none => .nan
  | _ => .nan

theorem getW_classIds (l i : Nat) (h : i < l) : getW (Ext.nan : Ext Rat) (classIds l) (i : Int) = .fin (i : Rat) := by
  rw [getW_nat _ _ _ (by simp [classIds]; exact h)]
  simp [classIds]

theorem cell_classIds (bs : List Rat) (hne : bs ≠ []) (hs : bs.Pairwise (· ≤ ·)) (l : Nat)
    (hl : bs.length ≤ l) (v : Ext Rat) : cell (bs.map .fin) (classIds l) v = classOf bs v := by
  cases v with
  | fin x =>
    rw [cell_spec _ _ (by simpa using hne) (extAscending_fin bs hs), firstGEx_fin]
    cases h : firstGE bs x with
    | none => simp only [classOf, h]
    | some i =>
      have := firstGE_lt_length bs x i h
      simp only [classOf, h]
      rw [getW_classIds l i (by omega)]
  | nan => exact cell_nonfinite _ _ _ rfl
  | pinf => exact cell_nonfinite _ _ _ rfl
  | ninf => exact cell_nonfinite _ _ _ rfl

theorem maxQ_spec (l : List Rat) (m : Rat) (h : maxQ l = some m) : m ∈ l ∧ ∀ x ∈ l, x ≤ m := by
  cases l with
  | nil => simp [maxQ] at h
  | cons a as =>
    unfold maxQ at h
    simp only [List.foldl_cons, maxStep] at h
    rw [List.foldl_hom some (g₁ := fun y x => if y < x then x else y) (fun _ _ => rfl)] at h
    cases h
    exact foldl_max_cons a as

theorem minQ_spec (l : List Rat) (m : Rat) (h : minQ l = some m) : m ∈ l ∧ ∀ x ∈ l, m ≤ x := by
  cases l with
  | nil => simp [minQ] at h
  | cons a as =>
    unfold minQ at h
    simp only [List.foldl_cons, minStep] at h
    rw [List.foldl_hom some (g₁ := fun y x => if x < y then x else y) (fun _ _ => rfl)] at h
    cases h
    exact foldl_min_cons a as

theorem mem_finiteVals (cells : List (Ext Rat)) (x : Rat) : x ∈ finiteVals cells ↔ Ext.fin x ∈ cells := by
  unfold finiteVals
  rw [List.mem_filterMap]
  constructor
  · rintro ⟨c, hc, h⟩
    cases c <;> simp at h
    subst h; exact hc
  · intro h; exact ⟨_, h, rfl⟩

theorem classOf_fin (bs : List Rat) (x : Rat) (i : Nat) :
    classOf bs (.fin x) = .fin (i : Rat) ↔ firstGE bs x = some i := by
  simp only [classOf]
  cases h : firstGE bs x with
  | none => simp
  | some j =>
    simp only [Ext.fin.injEq, Option.some.injEq]
    constructor
    · intro h'; exact_mod_cast h'
    · intro h'; rw [h']

theorem classOf_cases (bs : List Rat) (x : Rat) :
    classOf bs (.fin x) = .nan ∨ ∃ i : Nat, i < bs.length ∧ classOf bs (.fin x) = .fin (i : Rat) := by
  simp only [classOf]
  cases h : firstGE bs x with
  | none => left; rfl
  | some j => right; exact ⟨j, firstGE_lt_length bs x j h, rfl⟩

theorem classOf_classified (bs : List Rat) (x b : Rat) (hb : b ∈ bs) (hx : x ≤ b) :
    ∃ i : Nat, i < bs.length ∧ classOf bs (.fin x) = .fin (i : Rat) := by
  obtain ⟨i, hi⟩ := firstGE_isSome bs x b hb hx
  exact ⟨i, firstGE_lt_length bs x i hi, (classOf_fin bs x i).mpr hi⟩

theorem classOf_classified_of_max (cells : List (Ext Rat)) (bins : List Rat) (k : Nat) (mx x : Rat)
    (hmx : maxQ (finiteVals cells) = some mx) (hmem : mx ∈ bins) (hlen : bins.length ≤ k) (hx : Ext.fin x ∈ cells) :
    ∃ i : Nat, i < k ∧ classOf bins (.fin x) = .fin (i : Rat) := by
  obtain ⟨i, hi, h⟩ := classOf_classified bins x mx hmem
    ((maxQ_spec _ _ hmx).2 x ((mem_finiteVals cells x).mpr hx))
  exact ⟨i, Nat.lt_of_lt_of_le hi hlen, h⟩

theorem classOf_band (bs : List Rat) (hs : bs.Pairwise (· ≤ ·)) (x : Rat) (i : Nat) :
    classOf bs (.fin x) = .fin (i : Rat) ↔
      ∃ h : i < bs.length, x ≤ bs[i] ∧ (i = 0 ∨ ∃ h' : i - 1 < bs.length, bs[i - 1] < x) := by
  rw [classOf_fin, firstGE_some_iff_sorted bs x i hs]

theorem classOf_nan_iff (bs : List Rat) (hne : bs ≠ []) (hs : bs.Pairwise (· ≤ ·)) (x : Rat) :
    classOf bs (.fin x) = .nan ↔ bs.getLast hne < x := by
  rw [← firstGE_none_iff_last bs x hne hs]
  simp only [classOf]
  cases h : firstGE bs x <;> simp

theorem setLast_sorted (l : List Rat) (mx : Rat) (h : l ≠ []) (hs : l.Pairwise (· ≤ ·)) (hmx : ∀ a ∈ l, a ≤ mx) :
    (setLast l mx).Pairwise (· ≤ ·) ∧ (setLast l mx).length = l.length ∧
    (setLast l mx) ≠ [] ∧ mx ∈ setLast l mx ∧ ∀ hne, (setLast l mx).getLast hne = mx := by
  rw [setLast_ne_nil l mx h]
  refine ⟨?_, ?_, by simp, by simp, by simp⟩
  · rw [List.pairwise_append]
    refine ⟨List.Pairwise.sublist (List.dropLast_sublist l) hs, by simp, ?_⟩
    intro a ha b hb
    simp only [List.mem_singleton] at hb; subst hb
    exact hmx a ((List.dropLast_sublist l).subset ha)
  · simp
    have : 0 < l.length := List.length_pos_iff.mpr h
    omega

end XrsVerif.Bin
