/-!
  Facts about lists that the hand models and the interpreter library share; core Lean only, so that either side can
  import it: reads after a store (`getD_set`), the entry at an index in range (`getD_mem`), row-major offsets, an
  invariant carried through a fold (`foldl_snoc_inv`), folds of steps that agree on the list (`foldl_congr_mem`), the
  running extremum as a fold (`foldl_pick_spec`; `foldl_pickOpt_spec`: over the elements kept by a filter, started from
  `none`), and, in the library's namespaces `IL` and `IL.Fc`, what its loop rules need: a search over a prefix
  (`IL.any_take_succ`), folds of stores (`IL.foldl_set_hit`) and `IL.Fc.pairs`, the index pairs of a raster in row-major
  order (`IL.Fc.foldl_pairs_set`: the stores of a raster sweep give the row-major list).
-/
namespace XrsVerif

theorem getD_set {α} (l : List α) (i j : Nat) (a d : α) :
    (l.set i a).getD j d = if i = j ∧ j < l.length then a else l.getD j d := by
  simp only [List.getD_eq_getElem?_getD, List.getElem?_set]
  by_cases h : i = j <;> by_cases h2 : j < l.length <;> simp [h, h2]

theorem getD_set_same {α} (l : List α) (i : Nat) (a d : α) (h : i < l.length) :
    (l.set i a).getD i d = a := by simp [h]

theorem getD_set_ne {α} (l : List α) (i j : Nat) (a d : α) (h : i ≠ j) :
    (l.set i a).getD j d = l.getD j d := by simp [h]

/-- a list addressed through `idx` (the offset of a raster cell, say): it is enough that `idx` separates `c` from the
    position stored to -/
theorem getD_set_at {α ι} [DecidableEq ι] (idx : ι → Nat) (l : List α) (v c : ι) (x d : α)
    (hv : idx v < l.length) (hinj : idx c = idx v → c = v) :
    (l.set (idx v) x).getD (idx c) d = if c = v then x else l.getD (idx c) d := by
  by_cases he : c = v
  · rw [if_pos he, he, getD_set_same _ _ _ _ hv]
  · rw [if_neg he, getD_set_ne _ _ _ _ _ fun e => he (hinj e.symm)]

theorem getD_mem {α} (l : List α) (j : Nat) (d : α) (h : j < l.length) : l.getD j d ∈ l := by
  rw [List.getD_eq_getElem?_getD, List.getElem?_eq_getElem h]
  exact List.getElem_mem h

theorem take_succ_getD {α} (l : List α) (i : Nat) (d : α) (h : i < l.length) :
    l.take (i + 1) = l.take i ++ [l.getD i d] := by
  rw [List.take_succ_eq_append_getElem h, List.getD_eq_getElem?_getD, List.getElem?_eq_getElem h]
  rfl

theorem rowMajor_lt {n m p q : Nat} (hp : p < n) (hq : q < m) : p * m + q < n * m :=
  calc p * m + q < p * m + m := by omega
    _ = (p + 1) * m := by rw [Nat.add_mul, Nat.one_mul]
    _ ≤ n * m := Nat.mul_le_mul_right _ hp

theorem rowMajor_div_mod {m q : Nat} (p : Nat) (hq : q < m) : (p * m + q) / m = p ∧ (p * m + q) % m = q :=
  ⟨by rw [Nat.mul_comm, Nat.mul_add_div (by omega), Nat.div_eq_of_lt hq, Nat.add_zero],
   by rw [Nat.mul_comm, Nat.mul_add_mod, Nat.mod_eq_of_lt hq]⟩

theorem idx_inj (i j p q n : Nat) (hj : j < n) (hq : q < n) (h : i * n + j = p * n + q) : i = p ∧ j = q := by
  have h1 := rowMajor_div_mod i hj
  rw [h, (rowMajor_div_mod p hq).1, (rowMajor_div_mod p hq).2] at h1
  exact ⟨h1.1.symm, h1.2.symm⟩

theorem length_flatMap_range {γ} (f : Nat → Nat → γ) (n m : Nat) :
    ((List.range n).flatMap fun i => (List.range m).map (f i)).length = n * m := by
  induction n with
  | zero => simp
  | succ n ih => rw [List.range_succ, List.flatMap_append, List.length_append, ih]; simp [Nat.add_mul]

theorem getElem?_flatMap_range {γ} (f : Nat → Nat → γ) (n m p q : Nat) (hp : p < n) (hq : q < m) :
    ((List.range n).flatMap fun i => (List.range m).map (f i))[p * m + q]? = some (f p q) := by
  induction n with
  | zero => omega
  | succ n ih =>
    have hlen := length_flatMap_range f n m
    rw [List.range_succ, List.flatMap_append]
    by_cases h : p < n
    · rw [List.getElem?_append_left (by rw [hlen]; exact rowMajor_lt h hq)]; exact ih h
    · have hpn : p = n := by omega
      subst hpn
      rw [List.getElem?_append_right (by rw [hlen]; omega), hlen]
      simp [hq]

theorem foldl_congr_mem {α β} (l : List α) (f g : β → α → β) (init : β)
    (h : ∀ a ∈ l, ∀ b, f b a = g b a) : l.foldl f init = l.foldl g init := by
  induction l generalizing init with
  | nil => rfl
  | cons a l ih =>
    simp only [List.foldl_cons]
    rw [h a (by simp) init]
    exact ih _ (fun x hx b => h x (List.mem_cons_of_mem _ hx) b)

/-- the invariant may speak of the elements done so far -/
theorem foldl_snoc_inv {σ β : Type} (f : σ → β → σ) (P : List β → σ → Prop) (l : List β)
    (hstep : ∀ done c s, (∃ rest, l = done ++ c :: rest) → P done s → P (done ++ [c]) (f s c))
    {s : σ} (h0 : P [] s) : P l (l.foldl f s) := by
  suffices ∀ rest done s, l = done ++ rest → P done s → P l (rest.foldl f s) from this l [] s rfl h0
  intro rest
  induction rest with
  | nil => intro done s hl h; simpa [hl] using h
  | cons c rest ih =>
    intro done s hl h
    exact ih (done ++ [c]) (f s c) (by rw [hl, List.append_assoc]; rfl) (hstep done c s ⟨rest, hl⟩ h)

theorem foldl_range_inv {σ : Type} (f : σ → Nat → σ) (P : Nat → σ → Prop) (n : Nat) {s : σ}
    (h0 : P 0 s) (hstep : ∀ k s, k < n → P k s → P (k + 1) (f s k)) : P n ((List.range n).foldl f s) := by
  induction n with
  | zero => exact h0
  | succ n ih =>
    rw [List.range_succ, List.foldl_append]
    exact hstep n _ (Nat.lt_succ_self n) (ih fun k s hk => hstep k s (Nat.lt_succ_of_lt hk))

/-- a fold keeps `P` and establishes `Q a` for every element `a` it has processed -/
theorem foldl_inv {α β : Type} (f : β → α → β) (P : β → Prop) (Q : α → β → Prop) (l : List α) (b : β) (hP : P b)
    (step : ∀ b a, a ∈ l → P b → P (f b a) ∧ Q a (f b a))
    (keep : ∀ b a a', a' ∈ l → P b → Q a b → Q a (f b a')) :
    P (l.foldl f b) ∧ ∀ a ∈ l, Q a (l.foldl f b) :=
  foldl_snoc_inv f (fun done b => P b ∧ ∀ a ∈ done, Q a b) l
    (fun done c b ⟨rest, hl⟩ ⟨hb, hq⟩ => by
      have hc : c ∈ l := by rw [hl]; simp
      refine ⟨(step b c hc hb).1, fun a ha => ?_⟩
      rcases List.mem_append.mp ha with ha | ha
      · exact keep b a c hc hb (hq a ha)
      · rw [List.mem_singleton.mp ha]; exact (step b c hc hb).2)
    ⟨hP, fun _ h => nomatch h⟩

/-! ### the running extremum

One statement serves maximum and minimum, strict or not, over any carrier: the order enters only through the four
properties listed, so a minimum is the instance with both relations flipped. -/

theorem foldl_pick_spec {α : Type} (lt le : α → α → Prop) [DecidableRel lt]
    (refl : ∀ a, le a a) (trans : ∀ {a b c}, le a b → le b c → le a c)
    (of_lt : ∀ {a b}, lt a b → le a b) (of_not_lt : ∀ {a b}, ¬ lt a b → le b a) (xs : List α) (a : α) :
    (xs.foldl (fun a b => if lt a b then b else a) a = a ∨
        xs.foldl (fun a b => if lt a b then b else a) a ∈ xs) ∧
      le a (xs.foldl (fun a b => if lt a b then b else a) a) ∧
      ∀ x ∈ xs, le x (xs.foldl (fun a b => if lt a b then b else a) a) := by
  induction xs generalizing a with
  | nil => exact ⟨Or.inl rfl, refl a, fun _ h => nomatch h⟩
  | cons x xs ih =>
    rw [List.foldl_cons]
    obtain ⟨h1, h2, h3⟩ := ih (if lt a x then x else a)
    have hstep : ((if lt a x then x else a) = a ∨ (if lt a x then x else a) = x) ∧
        le a (if lt a x then x else a) ∧ le x (if lt a x then x else a) := by
      by_cases h : lt a x
      · rw [if_pos h]; exact ⟨Or.inr rfl, of_lt h, refl x⟩
      · rw [if_neg h]; exact ⟨Or.inl rfl, refl a, of_not_lt h⟩
    refine ⟨?_, trans hstep.2.1 h2, fun y hy => ?_⟩
    · rcases h1 with h1 | h1
      · rcases hstep.1 with e | e
        · exact Or.inl (h1.trans e)
        · exact Or.inr (by rw [h1, e]; exact List.mem_cons_self)
      · exact Or.inr (List.mem_cons_of_mem _ h1)
    · rcases List.mem_cons.mp hy with rfl | hy
      · exact trans hstep.2.2 h2
      · exact h3 y hy

/-- the same with the start counted among the candidates, as for a non-empty list folded from its head -/
theorem foldl_pick_cons {α : Type} (lt le : α → α → Prop) [DecidableRel lt] (refl : ∀ a, le a a)
    (trans : ∀ {a b c}, le a b → le b c → le a c) (of_lt : ∀ {a b}, lt a b → le a b)
    (of_not_lt : ∀ {a b}, ¬ lt a b → le b a) (a : α) (xs : List α) :
    xs.foldl (fun a b => if lt a b then b else a) a ∈ a :: xs ∧
      ∀ x ∈ a :: xs, le x (xs.foldl (fun a b => if lt a b then b else a) a) := by
  obtain ⟨h1, h2, h3⟩ := foldl_pick_spec lt le refl trans of_lt of_not_lt xs a
  exact ⟨h1.elim (fun h => by rw [h]; exact List.mem_cons_self) (List.mem_cons_of_mem _),
    fun x hx => (List.mem_cons.mp hx).elim (fun e => by rw [e]; exact h2) (h3 x)⟩

/-! ### maximum and minimum of a linear order

The order classes are those of core Lean, which `Rat` has by itself and every Mathlib `LinearOrder` provides. -/
section linear
variable {α : Type} [LE α] [LT α] [DecidableLT α] [Std.IsLinearOrder α] [Std.LawfulOrderLT α]

theorem foldl_max_cons (a : α) (xs : List α) :
    xs.foldl (fun m y => if m < y then y else m) a ∈ a :: xs ∧
      ∀ x ∈ a :: xs, x ≤ xs.foldl (fun m y => if m < y then y else m) a :=
  foldl_pick_cons (· < ·) (· ≤ ·) Std.le_refl Std.le_trans Std.le_of_lt Std.not_lt.mp a xs

theorem foldl_min_cons (a : α) (xs : List α) :
    xs.foldl (fun m y => if y < m then y else m) a ∈ a :: xs ∧
      ∀ x ∈ a :: xs, xs.foldl (fun m y => if y < m then y else m) a ≤ x :=
  foldl_pick_cons (fun m y => y < m) (fun a b => b ≤ a) Std.le_refl (fun h1 h2 => Std.le_trans h2 h1)
    Std.le_of_lt Std.not_lt.mp a xs

end linear

theorem foldl_some {α β : Type} {f : Option α → β → Option α} {g : α → β → α}
    (h : ∀ a b, f (some a) b = some (g a b)) (l : List β) (a : α) :
    l.foldl f (some a) = some (l.foldl g a) := by
  induction l generalizing a with
  | nil => rfl
  | cons b l ih => rw [List.foldl_cons, List.foldl_cons, h, ih]

theorem foldl_pick_keyed {α β : Type} (lt le : β → β → Prop) [DecidableRel lt]
    (refl : ∀ a, le a a) (trans : ∀ {a b c}, le a b → le b c → le a c)
    (of_lt : ∀ {a b}, lt a b → le a b) (of_not_lt : ∀ {a b}, ¬ lt a b → le b a)
    (keep : α → Bool) (cand : α → β) (xs : List α) (b : β) :
    (xs.foldl (fun b x => if keep x = true then if lt b (cand x) then cand x else b else b) b = b ∨
        ∃ x ∈ xs, keep x = true ∧
          xs.foldl (fun b x => if keep x = true then if lt b (cand x) then cand x else b else b) b = cand x) ∧
      le b (xs.foldl (fun b x => if keep x = true then if lt b (cand x) then cand x else b else b) b) ∧
      ∀ x ∈ xs, keep x = true →
        le (cand x) (xs.foldl (fun b x => if keep x = true then if lt b (cand x) then cand x else b else b) b) := by
  have h := foldl_pick_spec lt le refl trans of_lt of_not_lt ((xs.filter keep).map cand) b
  rw [List.foldl_map, List.foldl_filter] at h
  refine ⟨h.1.imp id fun hm => ?_, h.2.1, fun x hx hk => h.2.2 _ (List.mem_map.mpr ⟨x, List.mem_filter.mpr ⟨hx, hk⟩, rfl⟩)⟩
  obtain ⟨x, hx, he⟩ := List.mem_map.mp hm
  exact ⟨x, (List.mem_filter.mp hx).1, (List.mem_filter.mp hx).2, he.symm⟩

theorem foldl_pickOpt_spec {α β : Type} (lt le : β → β → Prop) [DecidableRel lt]
    (refl : ∀ a, le a a) (trans : ∀ {a b c}, le a b → le b c → le a c)
    (of_lt : ∀ {a b}, lt a b → le a b) (of_not_lt : ∀ {a b}, ¬ lt a b → le b a)
    (keep : α → Bool) (cand : α → β) (f : Option β → α → Option β)
    (hnone : ∀ x, f none x = if keep x = true then some (cand x) else none)
    (hsome : ∀ b x, f (some b) x = some (if keep x = true then if lt b (cand x) then cand x else b else b))
    (xs : List α) :
    (xs.foldl f none = none ∧ ∀ x ∈ xs, keep x = false) ∨
      ∃ r, xs.foldl f none = some r ∧ (∃ x ∈ xs, keep x = true ∧ r = cand x) ∧
        ∀ x ∈ xs, keep x = true → le (cand x) r := by
  induction xs with
  | nil => exact Or.inl ⟨rfl, fun _ h => nomatch h⟩
  | cons x xs ih =>
    rw [List.foldl_cons, hnone]
    by_cases hk : keep x = true
    · rw [if_pos hk, foldl_some hsome]
      obtain ⟨h1, h2, h3⟩ := foldl_pick_keyed lt le refl trans of_lt of_not_lt keep cand xs (cand x)
      refine Or.inr ⟨_, rfl, ?_, fun y hy hky => ?_⟩
      · rcases h1 with h1 | ⟨y, hy, hky, h1⟩
        · exact ⟨x, List.mem_cons_self, hk, h1⟩
        · exact ⟨y, List.mem_cons_of_mem _ hy, hky, h1⟩
      · rcases List.mem_cons.mp hy with rfl | hy
        · exact h2
        · exact h3 y hy hky
    · rw [if_neg hk]
      rcases ih with ⟨h, hall⟩ | ⟨r, h, ⟨y, hy, hky, hr⟩, hle⟩
      · refine Or.inl ⟨h, fun y hy => ?_⟩
        rcases List.mem_cons.mp hy with rfl | hy
        · simpa using hk
        · exact hall y hy
      · refine Or.inr ⟨r, h, ⟨y, List.mem_cons_of_mem _ hy, hky, hr⟩, fun z hz hkz => ?_⟩
        rcases List.mem_cons.mp hz with rfl | hz
        · exact absurd hkz hk
        · exact hle z hz hkz

namespace IL

theorem any_take_succ {α} (l : List α) (f : α → Bool) (k : Nat) (h : k < l.length) :
    (l.take (k + 1)).any f = ((l.take k).any f || f l[k]) := by
  rw [List.take_succ_eq_append_getElem h]
  simp only [List.any_append, List.any_cons, List.any_nil, Bool.or_false]

theorem foldl_set_length {α β : Type} (xs : List α) (idx : α → Nat) (v : α → β) (out : List β) :
    (xs.foldl (fun o x => o.set (idx x) (v x)) out).length = out.length := by
  induction xs generalizing out with
  | nil => rfl
  | cons x xs ih => simp only [List.foldl_cons, ih, List.length_set]

theorem foldl_set_miss {α β : Type} (xs : List α) (idx : α → Nat) (v : α → β) (out : List β) (t : Nat)
    (h : ∀ x ∈ xs, idx x ≠ t) : (xs.foldl (fun o x => o.set (idx x) (v x)) out)[t]? = out[t]? := by
  induction xs generalizing out with
  | nil => rfl
  | cons x xs ih =>
    simp only [List.foldl_cons]
    rw [ih _ (fun y hy => h y (by simp [hy])), List.getElem?_set_ne (h x (by simp))]

theorem foldl_set_hit {α β : Type} (xs : List α) (idx : α → Nat) (v : α → β) (out : List β) (t : Nat) (w : β)
    (hw : ∀ x ∈ xs, idx x = t → v x = w) (hex : ∃ x ∈ xs, idx x = t) (ht : t < out.length) :
    (xs.foldl (fun o x => o.set (idx x) (v x)) out)[t]? = some w := by
  induction xs generalizing out with
  | nil => obtain ⟨x, hx, _⟩ := hex; cases hx
  | cons x xs ih =>
    simp only [List.foldl_cons]
    by_cases hmore : ∃ y ∈ xs, idx y = t
    · exact ih _ (fun y hy => hw y (by simp [hy])) hmore (by simpa using ht)
    · have hmiss : ∀ y ∈ xs, idx y ≠ t := fun y hy he => hmore ⟨y, hy, he⟩
      rw [foldl_set_miss _ _ _ _ _ hmiss]
      obtain ⟨y, hy, hyt⟩ := hex
      have hxt : idx x = t := by
        rcases List.mem_cons.mp hy with rfl | hy'
        · exact hyt
        · exact absurd hyt (hmiss y hy')
      rw [hxt, List.getElem?_set_self ht, hw x (by simp) hxt]

namespace Fc

theorem ext_rowMajor {β : Type} (n m : Nat) (l1 l2 : List β) (h1 : l1.length = n * m) (h2 : l2.length = n * m)
    (h : ∀ p q, p < n → q < m → l1[p * m + q]? = l2[p * m + q]?) : l1 = l2 := by
  apply List.ext_getElem?
  intro t
  by_cases ht : t < n * m
  · have hm : 0 < m := by
      rcases Nat.eq_zero_or_pos m with h0 | h0
      · subst h0; simp at ht
      · exact h0
    have hp : t / m < n := Nat.div_lt_of_lt_mul (by rw [Nat.mul_comm]; exact ht)
    have htd : (t / m) * m + t % m = t := by rw [Nat.mul_comm]; exact Nat.div_add_mod t m
    rw [← htd]
    exact h _ _ hp (Nat.mod_lt t hm)
  · rw [List.getElem?_eq_none (by omega), List.getElem?_eq_none (by omega)]

/-- row-major list of the index pairs of an `n × m` array -/
def pairs (n m : Nat) : List (Nat × Nat) := (List.range n).flatMap fun p => (List.range m).map fun q => (p, q)

theorem pairs_length (n m : Nat) : (pairs n m).length = n * m := length_flatMap_range _ n m

theorem pairs_getElem? (n m p q : Nat) (hp : p < n) (hq : q < m) : (pairs n m)[p * m + q]? = some (p, q) :=
  getElem?_flatMap_range _ n m p q hp hq

theorem mem_pairs (n m : Nat) (x : Nat × Nat) : x ∈ pairs n m ↔ x.1 < n ∧ x.2 < m := by
  simp only [pairs, List.mem_flatMap, List.mem_map, List.mem_range]
  constructor
  · rintro ⟨p, hp, q, hq, rfl⟩; exact ⟨hp, hq⟩
  · intro h; exact ⟨x.1, h.1, x.2, h.2, rfl⟩

theorem foldl_pairs_set {β : Type} (n m : Nat) (val : Nat → Nat → β) (out : List β) (h : out.length = n * m) :
    (pairs n m).foldl (fun o (x : Nat × Nat) => o.set (x.1 * m + x.2) (val x.1 x.2)) out =
      (pairs n m).map fun x => val x.1 x.2 := by
  apply ext_rowMajor n m _ _ (by rw [foldl_set_length]; exact h) (by rw [List.length_map, pairs_length])
  intro p q hp hq
  rw [List.getElem?_map, pairs_getElem? n m p q hp hq]
  apply foldl_set_hit
  · intro x hx hxt
    have := idx_inj x.1 x.2 p q m ((mem_pairs n m x).mp hx).2 hq hxt
    rw [this.1, this.2]
  · exact ⟨(p, q), (mem_pairs n m _).mpr ⟨hp, hq⟩, rfl⟩
  · rw [h]; exact rowMajor_lt hp hq

end Fc

end IL

end XrsVerif
