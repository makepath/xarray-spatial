import XrsVerif.Proofs.PolygonizeLosslessWinding
import Mathlib.Tactic.Ring
/-
  C15, losslessness: a cycle of the follower (the orbit of a boundary-edge state back to itself, a duplicate-free
  closed list) and its ring `cycRing c`, the polyline through the corners where the heading changes.  One induction
  along the polyline (`polyline_induct`) reads crossings, shoelace sum and well-formedness of the ring off the unit
  edges of the cycle.
-/
namespace XrsVerif.Polygonize

def orbitL (f : FSt → FSt) : Nat → FSt → List FSt
  | 0, _ => []
  | m + 1, s => s :: orbitL f m (f s)

theorem mem_orbitL {f : FSt → FSt} {m : Nat} {s t : FSt} : t ∈ orbitL f m s ↔ ∃ i, i < m ∧ t = f^[i] s := by
  induction m generalizing s with
  | zero => simp [orbitL]
  | succ m ih =>
    simp only [orbitL, List.mem_cons, ih]
    constructor
    · rintro (h | ⟨i, hi, h⟩)
      · exact ⟨0, by omega, h⟩
      · exact ⟨i + 1, by omega, h⟩
    · rintro ⟨i, hi, h⟩
      cases i with
      | zero => left; exact h
      | succ i => right; exact ⟨i, by omega, h⟩

theorem map_orbitL (f : FSt → FSt) (m : Nat) (s : FSt) : (orbitL f m s).map f = orbitL f m (f s) := by
  induction m generalizing s with
  | zero => rfl
  | succ m ih => simp [orbitL, ih]

theorem orbitL_snoc (f : FSt → FSt) (m : Nat) (s : FSt) : orbitL f (m + 1) s = orbitL f m s ++ [f^[m] s] := by
  induction m generalizing s with
  | zero => rfl
  | succ m ih =>
    rw [orbitL, ih (f s)]; rfl

theorem iterS_valid {R : Int → Int → Bool} {s : FSt} (hs : Valid R s) (i : Nat) : Valid R ((step R)^[i] s) :=
  Set.MapsTo.iterate (s := {s | Valid R s}) (step_valid R) i hs

theorem iterS_inj {R : Int → Int → Bool} (i : Nat) {a b : FSt} (ha : Valid R a) (hb : Valid R b)
    (h : (step R)^[i] a = (step R)^[i] b) : a = b :=
  Set.InjOn.iterate (s := {s | Valid R s}) (fun a ha b hb => step_injective R a b ha hb) (step_valid R) i ha hb h

theorem cycle_nodup {R : Int → Int → Bool} {start : FSt} (hv : Valid R start) {m : Nat}
    (hmin : ∀ i, 1 ≤ i → i < m → (step R)^[i] start ≠ start) :
    ∀ k, k ≤ m → ∀ i j, i < j → j < k → (step R)^[i] start ≠ (step R)^[j] start := by
  intro k hk i j hij hj h
  have e : j = i + (j - i) := by omega
  rw [e, Function.iterate_add_apply] at h
  have := iterS_inj i hv (iterS_valid hv (j - i)) h
  exact hmin (j - i) (by omega) (by omega) this.symm

theorem orbitL_nodup {R : Int → Int → Bool} {start : FSt} (hv : Valid R start) {m : Nat}
    (hmin : ∀ i, 1 ≤ i → i < m → (step R)^[i] start ≠ start) : (orbitL (step R) m start).Nodup := by
  have key : ∀ k (s : FSt) (off : Nat), off + k ≤ m → s = (step R)^[off] start →
      (orbitL (step R) k s).Nodup := by
    intro k
    induction k with
    | zero => intro s off _ _; simp [orbitL]
    | succ k ih =>
      intro s off hoff hs
      rw [orbitL, List.nodup_cons]
      refine ⟨?_, ih (step R s) (off + 1) (by omega) (by rw [Function.iterate_succ_apply', hs])⟩
      intro hmem
      obtain ⟨i, hi, e⟩ := mem_orbitL.mp hmem
      have e2 : (step R)^[off] start = (step R)^[off + (i + 1)] start := by
        rw [Nat.add_comm off, Function.iterate_add_apply, ← hs]; exact e
      exact cycle_nodup hv hmin m (Nat.le_refl m) off (off + (i + 1)) (by omega) (by omega) e2
  exact key m start 0 (by omega) rfl

theorem cycle_closed {R : Int → Int → Bool} {start : FSt} (hv : Valid R start) {k : Nat}
    (hit : (step R)^[k + 1] start = start) : Closed R (orbitL (step R) (k + 1) start) := by
  constructor
  · intro s hs
    obtain ⟨i, _, e⟩ := mem_orbitL.mp hs
    rw [e]; exact iterS_valid hv i
  · rw [map_orbitL]
    have h1 : orbitL (step R) (k + 1) start = [start] ++ orbitL (step R) k (step R start) := rfl
    have h2 : orbitL (step R) (k + 1) (step R start) = orbitL (step R) k (step R start) ++ [start] := by
      rw [orbitL_snoc]
      congr 2
    rw [h1, h2]
    exact List.perm_append_comm

theorem cycle_reach {R : Int → Int → Bool} {start : FSt} {m : Nat} (hit : (step R)^[m] start = start)
    {t : FSt} (ht : t ∈ orbitL (step R) m start) : ∃ j, (step R)^[j] t = start := by
  obtain ⟨i, hi, e⟩ := mem_orbitL.mp ht
  refine ⟨m - i, ?_⟩
  rw [e, ← Function.iterate_add_apply, show m - i + i = m by omega, hit]

theorem Closed.mem_iter {R : Int → Int → Bool} {L : List FSt} (hL : Closed R L) {s : FSt} (hs : s ∈ L) (j : Nat) :
    (step R)^[j] s ∈ L :=
  Set.MapsTo.iterate (s := {s | s ∈ L}) (fun _ => hL.mem_step) j hs

theorem orbit_subset_of_common {R : Int → Int → Bool} {L : List FSt} (hL : Closed R L) {start : FSt} {m : Nat}
    (hit : (step R)^[m] start = start) {t : FSt} (ht : t ∈ orbitL (step R) m start) (htL : t ∈ L) :
    ∀ s ∈ orbitL (step R) m start, s ∈ L := by
  obtain ⟨j, hj⟩ := cycle_reach hit ht
  intro s hs
  obtain ⟨i, _, rfl⟩ := mem_orbitL.mp hs
  rw [← hj, ← Function.iterate_add_apply]; exact hL.mem_iter htL _

/-- the vertices recorded along a list of states (most recent first): one whenever the heading changes -/
def recPts : Option Dir → List FSt → List (Int × Int) → List (Int × Int)
  | _, [], acc => acc
  | prev, s :: l, acc => recPts (some s.d) l (if prev ≠ some s.d then s.corner :: acc else acc)

/-- the ring `follow` builds from a cycle of states -/
def cycRing (c : List FSt) : Ring :=
  let P := (recPts none c []).reverse
  P ++ P.take 1

def IsCyc (R : Int → Int → Bool) (c : List FSt) : Prop :=
  Closed R c ∧ ∃ k start, c = orbitL (step R) (k + 1) start ∧ (step R)^[k + 1] start = start

theorem ite_toNat (b : Bool) [inst : Decidable (b = true)] : (@ite Nat (b = true) inst 1 0) = b.toNat := by
  cases b <;> simp

/-- the edge `p → q` is vertical, strictly right of the centre of pixel `(i, j)` and spans its height -/
def hit (i j : Int) (p q : Int × Int) : Bool :=
  p.1 == q.1 && decide (2 * i + 1 < 2 * p.1) && decide (2 * p.2 < 2 * j + 1 ∨ 2 * q.2 < 2 * j + 1)
    && decide (2 * j + 1 < 2 * p.2 ∨ 2 * j + 1 < 2 * q.2)

def pc (i j : Int) : Int × Int → List (Int × Int) → Nat
  | _, [] => 0
  | p, q :: l => (hit i j p q).toNat + pc i j q l

theorem crossings_eq_pc (i j : Int) (p : Int × Int) (l : List (Int × Int)) :
    crossings (p :: l) i j = pc i j p l := by
  induction l generalizing p with
  | nil => simp [crossings, edgesOf, pc]
  | cons q l ih =>
    have := ih q
    simp only [crossings, edgesOf, List.tail_cons, List.zip_cons_cons, List.countP_cons, pc, ite_toNat] at this ⊢
    rw [this, Nat.add_comm]
    congr 2
    simp only [hit]
    congr 1
    · congr 1
      rw [decide_eq_decide]; omega
    · rw [decide_eq_decide]; omega

/-- `B` lies ahead of `A` (or on it) in direction `d` -/
def Beh (d : Dir) (A B : Int × Int) : Prop :=
  match d with
  | .E => A.2 = B.2 ∧ A.1 ≤ B.1
  | .W => A.2 = B.2 ∧ B.1 ≤ A.1
  | .N => A.1 = B.1 ∧ A.2 ≤ B.2
  | .S => A.1 = B.1 ∧ B.2 ≤ A.2

theorem toNat_of_or {b1 b2 b3 : Bool} (h : b1 = true ↔ (b2 = true ∨ b3 = true)) (hd : ¬(b2 = true ∧ b3 = true)) :
    b1.toNat = b2.toNat + b3.toNat := by
  cases b1 <;> cases b2 <;> cases b3 <;> simp at *

theorem hit_add (i j : Int) (d : Dir) (A B : Int × Int) (h : Beh d A B) :
    (hit i j A (B.1 + d.dx, B.2 + d.dy)).toNat =
      (hit i j A B).toNat + (hit i j B (B.1 + d.dx, B.2 + d.dy)).toNat := by
  obtain ⟨a1, a2⟩ := A
  obtain ⟨b1, b2⟩ := B
  apply toNat_of_or <;> cases d <;> simp only [Beh, Dir.dx, Dir.dy] at h ⊢ <;>
    simp only [hit, Bool.and_eq_true, decide_eq_true_eq, beq_iff_eq] <;> omega

theorem beh_next (d : Dir) (A B : Int × Int) (h : Beh d A B) : Beh d A (B.1 + d.dx, B.2 + d.dy) := by
  cases d <;> simp only [Beh, Dir.dx, Dir.dy] at h ⊢ <;> omega

theorem beh_self (d : Dir) (B : Int × Int) : Beh d B B := by
  cases d <;> simp [Beh]

/-- the recorded vertices in forward order -/
def fwdPts : Option Dir → List FSt → List (Int × Int)
  | _, [] => []
  | prev, s :: l => if prev ≠ some s.d then s.corner :: fwdPts (some s.d) l else fwdPts (some s.d) l

theorem recPts_eq (prev : Option Dir) (l : List FSt) (acc : List (Int × Int)) :
    recPts prev l acc = (fwdPts prev l).reverse ++ acc := by
  induction l generalizing prev acc with
  | nil => simp [recPts, fwdPts]
  | cons s l ih =>
    simp only [recPts, fwdPts]
    split
    · rw [ih]; simp
    · rw [ih]

theorem cycRing_eq (R : Int → Int → Bool) (k : Nat) (start : FSt) :
    cycRing (orbitL (step R) (k + 1) start) =
      start.corner :: (fwdPts (some start.d) (orbitL (step R) k (step R start)) ++ [start.corner]) := by
  simp only [cycRing, recPts_eq, List.append_nil, List.reverse_reverse]
  simp only [orbitL, fwdPts, ne_eq, reduceCtorEq, not_false_eq_true, if_true, List.cons_append,
    List.take_succ_cons, List.take_zero]

def unitHit (i j : Int) (s : FSt) : Bool := hit i j s.corner (s.corner.1 + s.d.dx, s.corner.2 + s.d.dy)

section polyline
variable (R : Int → Int → Bool) (I : Dir → Int × Int → Int × Int → Prop)
  (M : Int × Int → Int × Int → List (Int × Int) → List FSt → Prop)
  (hnext : ∀ d A B, I d A B → I d A (B.1 + d.dx, B.2 + d.dy))
  (hturn : ∀ d B, I d B (B.1 + d.dx, B.2 + d.dy))
  (h0 : ∀ d A B, I d A B → M A B [B] [])
  (hrec : ∀ d A (s : FSt) pts l, I d A s.corner →
    M s.corner (s.corner.1 + s.d.dx, s.corner.2 + s.d.dy) pts l → M A s.corner (s.corner :: pts) (s :: l))
  (hstr : ∀ A (s : FSt) pts l, I s.d A s.corner →
    M A (s.corner.1 + s.d.dx, s.corner.2 + s.d.dy) pts l → M A s.corner pts (s :: l))
include hnext hturn h0 hrec hstr

/-- Induction along the polyline recorded on an orbit.  `I d A B`: the corner `B` lies in direction `d` from the
    last recorded vertex `A` (kept by a straight step, restored after a turn).  `M A B pts l`: the claim about
    the polyline `A :: pts` and the states `l` still to be walked, the first of which stands at corner `B`;
    a state either records its corner (`hrec`) or only lengthens the current segment (`hstr`). -/
theorem polyline_induct : ∀ (k : Nat) (s : FSt) (d' : Dir) (A : Int × Int), I d' A s.corner →
    M A s.corner (fwdPts (some d') (orbitL (step R) k s) ++ [((step R)^[k] s).corner])
      (orbitL (step R) k s) := by
  intro k
  induction k with
  | zero => intro s d' A hb; exact h0 d' A _ hb
  | succ k ih =>
    intro s d' A hb
    have hc := corner_step R s
    simp only [orbitL, fwdPts, Function.iterate_succ_apply]
    split
    · have := ih (step R s) s.d s.corner (hc ▸ hturn _ _)
      rw [hc] at this
      exact hrec d' A s _ _ hb this
    · rename_i heq
      have hd : d' = s.d := Option.some.inj (Classical.not_not.mp heq)
      subst hd
      have := ih (step R s) s.d A (hc ▸ hnext _ _ _ hb)
      rw [hc] at this
      exact hstr A s _ _ hb this

/-- round a cycle: the claim for the ring after its first vertex (`cycRing_eq`) and the states after `start` -/
theorem polyline_cycle {k : Nat} {start : FSt} (hit : (step R)^[k + 1] start = start) :
    M start.corner (start.corner.1 + start.d.dx, start.corner.2 + start.d.dy)
      (fwdPts (some start.d) (orbitL (step R) k (step R start)) ++ [start.corner])
      (orbitL (step R) k (step R start)) := by
  have := polyline_induct R I M hnext hturn h0 hrec hstr k (step R start) start.d start.corner
    (by rw [corner_step]; exact hturn _ _)
  rwa [show (step R)^[k] (step R start) = start from hit, corner_step] at this

end polyline

theorem pc_cycle (R : Int → Int → Bool) (i j : Int) {k : Nat} {start : FSt}
    (hit' : (step R)^[k + 1] start = start) :
    pc i j start.corner (fwdPts (some start.d) (orbitL (step R) k (step R start)) ++ [start.corner]) =
      (unitHit i j start).toNat + (orbitL (step R) k (step R start)).countP (unitHit i j) := by
  refine polyline_cycle R Beh (fun A B pts l => pc i j A pts = (hit i j A B).toNat + l.countP (unitHit i j))
    beh_next (fun d B => beh_next _ _ _ (beh_self _ _)) (fun _ _ _ _ => by simp [pc]) ?_ ?_ hit'
  · intro d A s pts l _ ih
    simp only [pc, ih, List.countP_cons, ite_toNat]
    simp only [unitHit]
    omega
  · intro A s pts l hb ih
    have := hit_add i j s.d A s.corner hb
    simp only [ih, List.countP_cons, ite_toNat]
    simp only [unitHit]
    omega

theorem unitHit_split (i j : Int) (L : List FSt) : L.countP (unitHit i j) = cN L i j + cS L i j := by
  unfold cN cS
  induction L with
  | nil => simp
  | cons s L ih =>
    simp only [List.countP_cons, ih, ite_toNat]
    have : (unitHit i j s).toNat =
        (s.d == Dir.N && s.y == j && decide (i ≤ s.x)).toNat +
        (s.d == Dir.S && s.y == j && decide (i < s.x)).toNat := by
      obtain ⟨x, y, d⟩ := s
      simp only [← ite_toNat]
      cases d <;> simp [unitHit, hit, FSt.corner, Dir.dx, Dir.dy] <;> grind
    omega

theorem crossings_cycRing (R : Int → Int → Bool) (i j : Int) (k : Nat) (start : FSt)
    (hit' : (step R)^[k + 1] start = start) :
    crossings (cycRing (orbitL (step R) (k + 1) start)) i j =
      cN (orbitL (step R) (k + 1) start) i j + cS (orbitL (step R) (k + 1) start) i j := by
  rw [← unitHit_split, cycRing_eq, crossings_eq_pc, pc_cycle R i j hit']
  simp only [orbitL, List.countP_cons, ite_toNat]
  omega

/-- shoelace term of the edge `p → q` -/
def cross (p q : Int × Int) : Int := p.1 * q.2 - q.1 * p.2

def ac : Int × Int → List (Int × Int) → Int
  | _, [] => 0
  | p, q :: l => cross p q + ac q l

theorem area2_eq_ac (p : Int × Int) (l : List (Int × Int)) : area2 (p :: l) = ac p l := by
  induction l generalizing p with
  | nil => simp [area2, edgesOf, ac]
  | cons q l ih =>
    have := ih q
    simp only [area2, edgesOf, List.tail_cons, List.zip_cons_cons, List.map_cons, List.sum_cons, ac, cross] at this ⊢
    rw [this]

theorem cross_add (d : Dir) (A B : Int × Int) (h : Beh d A B) :
    cross A (B.1 + d.dx, B.2 + d.dy) = cross A B + cross B (B.1 + d.dx, B.2 + d.dy) := by
  obtain ⟨a1, a2⟩ := A
  obtain ⟨b1, b2⟩ := B
  cases d <;> simp only [Beh, Dir.dx, Dir.dy, cross] at h ⊢ <;> obtain ⟨h1, h2⟩ := h <;> subst h1 <;> ring

def ucross (s : FSt) : Int := cross s.corner (s.corner.1 + s.d.dx, s.corner.2 + s.d.dy)

theorem ac_cycle (R : Int → Int → Bool) {k : Nat} {start : FSt} (hit' : (step R)^[k + 1] start = start) :
    ac start.corner (fwdPts (some start.d) (orbitL (step R) k (step R start)) ++ [start.corner]) =
      ucross start + ((orbitL (step R) k (step R start)).map ucross).sum := by
  refine polyline_cycle R Beh (fun A B pts l => ac A pts = cross A B + (l.map ucross).sum)
    beh_next (fun d B => beh_next _ _ _ (beh_self _ _)) (fun _ _ _ _ => by simp [ac]) ?_ ?_ hit'
  · intro d A s pts l _ ih
    simp only [ac, ih, List.map_cons, List.sum_cons, ucross]
  · intro A s pts l hb ih
    simp only [ih, cross_add s.d A s.corner hb, List.map_cons, List.sum_cons, ucross]
    ring

theorem area2_cycRing (R : Int → Int → Bool) (k : Nat) (start : FSt)
    (hit' : (step R)^[k + 1] start = start) :
    area2 (cycRing (orbitL (step R) (k + 1) start)) = ((orbitL (step R) (k + 1) start).map ucross).sum := by
  rw [cycRing_eq, area2_eq_ac, ac_cycle R hit']
  simp only [orbitL, List.map_cons, List.sum_cons]

def chainOK : Int × Int → List (Int × Int) → Prop
  | _, [] => True
  | p, q :: l => ((p.1 == q.1) != (p.2 == q.2)) = true ∧ chainOK q l

theorem edges_all_iff (p : Int × Int) (l : List (Int × Int)) :
    (edgesOf (p :: l)).all (fun e => (e.1.1 == e.2.1) != (e.1.2 == e.2.2)) = true ↔ chainOK p l := by
  induction l generalizing p with
  | nil => simp [edgesOf, chainOK]
  | cons q l ih =>
    have := ih q
    simp only [edgesOf, List.tail_cons, List.zip_cons_cons, List.all_cons, Bool.and_eq_true, chainOK] at this ⊢
    rw [this]

def BehS (d : Dir) (A B : Int × Int) : Prop :=
  match d with
  | .E => A.2 = B.2 ∧ A.1 < B.1
  | .W => A.2 = B.2 ∧ B.1 < A.1
  | .N => A.1 = B.1 ∧ A.2 < B.2
  | .S => A.1 = B.1 ∧ B.2 < A.2

theorem behS_pair {d : Dir} {A B : Int × Int} (h : BehS d A B) : ((A.1 == B.1) != (A.2 == B.2)) = true := by
  obtain ⟨a1, a2⟩ := A
  obtain ⟨b1, b2⟩ := B
  cases d <;> simp only [BehS] at h <;> obtain ⟨h1, h2⟩ := h <;> subst h1 <;> simp <;> omega

theorem behS_next (d : Dir) (A B : Int × Int) (h : BehS d A B) : BehS d A (B.1 + d.dx, B.2 + d.dy) := by
  cases d <;> simp only [BehS, Dir.dx, Dir.dy] at h ⊢ <;> omega

theorem behS_self (d : Dir) (B : Int × Int) : BehS d B (B.1 + d.dx, B.2 + d.dy) := by
  cases d <;> simp [BehS, Dir.dx, Dir.dy]

theorem chain_cycle (R : Int → Int → Bool) {k : Nat} {start : FSt} (hit : (step R)^[k + 1] start = start) :
    chainOK start.corner (fwdPts (some start.d) (orbitL (step R) k (step R start)) ++ [start.corner]) :=
  polyline_cycle R BehS (fun A _ pts _ => chainOK A pts) behS_next behS_self
    (fun _ _ _ h => ⟨behS_pair h, trivial⟩) (fun _ _ _ _ _ h ih => ⟨behS_pair h, ih⟩) (fun _ _ _ _ _ ih => ih) hit

theorem mem_fwdPts {prev : Option Dir} {l : List FSt} {p : Int × Int} (h : p ∈ fwdPts prev l) :
    ∃ s ∈ l, p = s.corner := by
  induction l generalizing prev with
  | nil => simp [fwdPts] at h
  | cons s l ih =>
    simp only [fwdPts] at h
    split at h
    · rcases List.mem_cons.mp h with e | e
      · exact ⟨s, List.mem_cons_self, e⟩
      · obtain ⟨t, ht, e'⟩ := ih e; exact ⟨t, List.mem_cons_of_mem _ ht, e'⟩
    · obtain ⟨t, ht, e'⟩ := ih h; exact ⟨t, List.mem_cons_of_mem _ ht, e'⟩

theorem rectilinear_of_chainOK : ∀ (l : List (Int × Int)) (p : Int × Int), chainOK p l → Rectilinear (p :: l)
  | [], _, _ => trivial
  | q :: l, p, h => by
    refine ⟨?_, rectilinear_of_chainOK l q h.2⟩
    have := h.1
    by_cases h1 : p.1 = q.1
    · exact Or.inl h1
    · right; simpa [h1] using this

theorem mem_cycRing {c : List FSt} {p : Int × Int} (h : p ∈ cycRing c) : ∃ s ∈ c, p = s.corner := by
  simp only [cycRing, recPts_eq, List.append_nil, List.reverse_reverse, List.mem_append] at h
  exact mem_fwdPts (h.elim id List.mem_of_mem_take)

/-- the headings of the recorded vertices (so: number of recorded vertices ≥ number of distinct headings) -/
def runDirs : Option Dir → List FSt → List Dir
  | _, [] => []
  | prev, s :: l => if prev ≠ some s.d then s.d :: runDirs (some s.d) l else runDirs (some s.d) l

theorem runDirs_length (prev : Option Dir) (l : List FSt) : (runDirs prev l).length = (fwdPts prev l).length := by
  induction l generalizing prev with
  | nil => rfl
  | cons s l ih => simp only [runDirs, fwdPts]; split <;> simp [ih]

theorem mem_runDirs {prev : Option Dir} {l : List FSt} {s : FSt} (hs : s ∈ l) :
    s.d ∈ runDirs prev l ∨ prev = some s.d := by
  induction l generalizing prev with
  | nil => cases hs
  | cons t l ih =>
    simp only [runDirs]
    rcases List.mem_cons.mp hs with e | e
    · subst e
      split
      · left; exact List.mem_cons_self
      · rename_i h; right; simpa using h
    · rcases ih (prev := some t.d) e with h | h
      · left; split
        · exact List.mem_cons_of_mem _ h
        · exact h
      · -- the previous heading equals s.d: it was recorded at t or before
        have htd : t.d = s.d := Option.some.inj h
        split
        · left; rw [← htd]; exact List.mem_cons_self
        · rename_i h'; right
          have : prev = some t.d := by simpa using h'
          rw [this, htd]

theorem four_le_length {l : List Dir} (hE : Dir.E ∈ l) (hN : Dir.N ∈ l) (hW : Dir.W ∈ l) (hS : Dir.S ∈ l) :
    4 ≤ l.length := by
  have key : ∀ l : List Dir, l.count .E + l.count .N + l.count .W + l.count .S ≤ l.length := by
    intro l
    induction l with
    | nil => simp
    | cons d l ih =>
      simp only [List.count_cons, List.length_cons]
      cases d <;> simp <;> omega
  have := key l
  have := List.count_pos_iff.mpr hE
  have := List.count_pos_iff.mpr hN
  have := List.count_pos_iff.mpr hW
  have := List.count_pos_iff.mpr hS
  omega

theorem sum_dx_count (L : List FSt) : (L.map (fun s => s.d.dx)).sum =
    ((L.countP (fun s => s.d == .E) : Nat) : Int) - ((L.countP (fun s => s.d == .W) : Nat) : Int) := by
  induction L with
  | nil => simp
  | cons s L ih =>
    simp only [List.map_cons, List.sum_cons, List.countP_cons, ih]
    obtain ⟨x, y, d⟩ := s
    cases d <;> simp [Dir.dx] <;> omega

theorem sum_dy_count (L : List FSt) : (L.map (fun s => s.d.dy)).sum =
    ((L.countP (fun s => s.d == .N) : Nat) : Int) - ((L.countP (fun s => s.d == .S) : Nat) : Int) := by
  induction L with
  | nil => simp
  | cons s L ih =>
    simp only [List.map_cons, List.sum_cons, List.countP_cons, ih]
    obtain ⟨x, y, d⟩ := s
    cases d <;> simp [Dir.dy] <;> omega

theorem has_iff_count (L : List FSt) (d : Dir) : (∃ s ∈ L, s.d = d) ↔ 0 < L.countP (fun s => s.d == d) := by
  rw [List.countP_pos_iff]
  simp only [beq_iff_eq]

/-- a run of one heading cannot go on for ever inside the raster: a closed list contains a state that turned
    left or right out of the heading of each of its states -/
theorem no_run {R : Int → Int → Bool} {nx ny : Nat} {L : List FSt} (hL : Closed R L) (hR : InRaster R nx ny)
    {s : FSt} (hs : s ∈ L) (hl : ¬ ∃ t ∈ L, t.d = s.d.left) (hr : ¬ ∃ t ∈ L, t.d = s.d.right) : False := by
  have key : ∀ k : Nat, (step R)^[k] s ∈ L ∧ ((step R)^[k] s).d = s.d ∧
      ((step R)^[k] s).corner = (s.corner.1 + k * s.d.dx, s.corner.2 + k * s.d.dy) := by
    intro k
    induction k with
    | zero => exact ⟨hs, rfl, by simp⟩
    | succ k ih =>
      obtain ⟨h1, h2, h3⟩ := ih
      rw [Function.iterate_succ_apply']
      generalize (step R)^[k] s = t at h1 h2 h3
      have hmem := hL.mem_step h1
      refine ⟨hmem, ?_, ?_⟩
      · -- a turn would put a state of the right or left heading into `L`
        rcases step_cases R t with ⟨_, e⟩ | ⟨_, _, e⟩ | ⟨_, _, e⟩
        · exact absurd ⟨_, hmem, by rw [e, h2]⟩ hr
        · rw [e, h2]
        · exact absurd ⟨_, hmem, by rw [e, h2]⟩ hl
      · rw [corner_step, h3, h2]
        exact Prod.ext (by push_cast; ring) (by push_cast; ring)
  obtain ⟨h1, _, h3⟩ := key (nx + ny + 1)
  have b0 := corner_inBox hR (hL.valid s hs)
  have b1 := corner_inBox hR (hL.valid _ h1)
  rw [h3] at b1
  unfold InBox at b0 b1
  cases hd : s.d <;> simp only [hd, Dir.dx, Dir.dy] at b1 <;> omega

theorem four_dirs {R : Int → Int → Bool} {nx ny : Nat} {L : List FSt} (hL : Closed R L) (hR : InRaster R nx ny)
    {s0 : FSt} (hs0 : s0 ∈ L) : ∀ d : Dir, ∃ s ∈ L, s.d = d := by
  have hx := sum_dx hL
  have hy := sum_dy hL
  rw [sum_dx_count] at hx
  rw [sum_dy_count] at hy
  have hEW : (∃ s ∈ L, s.d = .E) ↔ (∃ s ∈ L, s.d = .W) := by
    rw [has_iff_count, has_iff_count]; omega
  have hNS : (∃ s ∈ L, s.d = .N) ↔ (∃ s ∈ L, s.d = .S) := by
    rw [has_iff_count, has_iff_count]; omega
  have hE : ∃ s ∈ L, s.d = .E := by
    by_cases h : ∃ s ∈ L, s.d = .E
    · exact h
    · exfalso
      have hW : ¬ ∃ s ∈ L, s.d = .W := fun hh => h (hEW.mpr hh)
      have hN : ∃ s ∈ L, s.d = .N := by
        obtain ⟨x, y, d⟩ := s0
        cases d
        · exact absurd ⟨_, hs0, rfl⟩ h
        · exact ⟨_, hs0, rfl⟩
        · exact absurd ⟨_, hs0, rfl⟩ hW
        · exact hNS.mpr ⟨_, hs0, rfl⟩
      obtain ⟨s, hs, hd⟩ := hN
      exact no_run hL hR hs (by rw [hd]; exact hW) (by rw [hd]; exact h)
  have hN : ∃ s ∈ L, s.d = .N := by
    by_cases h : ∃ s ∈ L, s.d = .N
    · exact h
    · exfalso
      obtain ⟨s, hs, hd⟩ := hE
      exact no_run hL hR hs (by rw [hd]; exact h) (by rw [hd]; exact fun hh => h (hNS.mpr hh))
  intro d
  cases d
  · exact hE
  · exact hN
  · exact hEW.mp hE
  · exact hNS.mp hN

theorem ringWellFormed_cyc {R : Int → Int → Bool} {nx ny : Nat} (hR : InRaster R nx ny) {c : List FSt}
    (hc : IsCyc R c) : ringWellFormed nx ny (cycRing c) = true := by
  obtain ⟨hcl, k, start, e, hit⟩ := hc
  have hstart : start ∈ c := by rw [e]; exact mem_orbitL.mpr ⟨0, by omega, rfl⟩
  have hlen : 4 ≤ (fwdPts none c).length := by
    rw [← runDirs_length]
    have hd := four_dirs hcl hR hstart
    have get : ∀ d : Dir, d ∈ runDirs none c := by
      intro d
      obtain ⟨s, hs, hsd⟩ := hd d
      rcases mem_runDirs (prev := none) hs with h | h
      · rw [← hsd]; exact h
      · cases h
    exact four_le_length (get .E) (get .N) (get .W) (get .S)
  have hfw : fwdPts none c = start.corner :: fwdPts (some start.d) (orbitL (step R) k (step R start)) := by
    rw [e]; simp only [orbitL, fwdPts, ne_eq, reduceCtorEq, not_false_eq_true, if_true]
  rw [hfw, List.length_cons] at hlen
  have hbox : ∀ p ∈ cycRing c, InBox nx ny p := by
    intro p hp
    obtain ⟨s, hs, rfl⟩ := mem_cycRing hp
    exact corner_inBox hR (hcl.valid s hs)
  rw [e, cycRing_eq] at hbox ⊢
  generalize hF : fwdPts (some start.d) (orbitL (step R) k (step R start)) = F at hlen hbox ⊢
  simp only [ringWellFormed, Bool.and_eq_true, decide_eq_true_eq]
  refine ⟨⟨⟨?_, ?_⟩, ?_⟩, ?_⟩
  · simp only [List.length_cons, List.length_append, List.length_nil]; omega
  · have : (start.corner :: (F ++ [start.corner])).getLast? = some start.corner := by
      rw [← List.cons_append]; exact List.getLast?_concat
    rw [this]; simp
  · rw [List.all_eq_true]
    intro p hp
    obtain ⟨b0, b1, b2, b3⟩ := hbox p hp
    simp only [Bool.and_eq_true, decide_eq_true_eq]
    exact ⟨⟨⟨b0, b1⟩, b2⟩, b3⟩
  · rw [edges_all_iff, ← hF]
    exact chain_cycle R hit

end XrsVerif.Polygonize
