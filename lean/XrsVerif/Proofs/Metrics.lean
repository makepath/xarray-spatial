import XrsVerif.Proofs.KSimp
import XrsVerif.Gen.Kernels
import XrsVerif.Proofs.Sphere
import Mathlib.Analysis.SpecialFunctions.Trigonometric.Arctan
import Mathlib.Tactic.NormNum
/-
  Helper definitions and lemmas for the three distance functions of C19.

  `manhattan`, `euclidean`, `greatCircle`, `greatCircleFailed` are the *generated* kernels
  (`Gen.manhattan_distance` ... translated from xrspatial/proximity.py on every run) evaluated on finite
  coordinates over `NV K`; a point is `(x, y)` (for the sphere `(longitude, latitude)` in degrees) and
  the argument order of the Python functions `(x1, x2, y1, y2)` is kept in the environments.
-/
set_option linter.unusedSectionVars false
namespace XrsVerif.Metrics
open XrsVerif

section generic
variable {K : Type} [Field K] [LinearOrder K] [IsStrictOrderedRing K] [Trig K]

def env4 (x1 x2 y1 y2 : NV K) : String → NV K :=
  envOf [("x1", x1), ("x2", x2), ("y1", y1), ("y2", y2)]
def env5 (x1 x2 y1 y2 r : NV K) : String → NV K :=
  envOf [("x1", x1), ("x2", x2), ("y1", y1), ("y2", y2), ("radius", r)]

/-- `manhattan_distance(p.x, q.x, p.y, q.y)` -/
def manhattan (p q : K × K) : NV K :=
  Gen.manhattan_distance.cell (env4 (some p.1) (some q.1) (some p.2) (some q.2)) (fun _ _ _ => none) (fun _ => [])
/-- `euclidean_distance(p.x, q.x, p.y, q.y)` -/
def euclidean (p q : K × K) : NV K :=
  Gen.euclidean_distance.cell (env4 (some p.1) (some q.1) (some p.2) (some q.2)) (fun _ _ _ => none) (fun _ => [])
/-- `great_circle_distance(p.lon, q.lon, p.lat, q.lat, R)`: the returned value ... -/
def greatCircle (R : K) (p q : K × K) : NV K :=
  Gen.great_circle_distance.cell (env5 (some p.1) (some q.1) (some p.2) (some q.2) (some R)) (fun _ _ _ => none) (fun _ => [])
/-- ... and the exception it raises, if any -/
def greatCircleFailed (R : K) (p q : K × K) : Option String :=
  Gen.great_circle_distance.cellFailed (env5 (some p.1) (some q.1) (some p.2) (some q.2) (some R)) (fun _ _ _ => none) (fun _ => [])

def inRange (p : K × K) : Prop := -180 ≤ p.1 ∧ p.1 ≤ 180 ∧ -90 ≤ p.2 ∧ p.2 ≤ 90

/-- `np.pi` as the kernels see it -/
def piK : K := 4 * Trig.atan 1
/-- `np.radians` -/
def rad (d : K) : K := d * (piK / 180)
/-- the haversine term `a` of `great_circle_distance` -/
def hav (p q : K × K) : K :=
  Trig.sin ((rad q.2 - rad p.2) / 2) * Trig.sin ((rad q.2 - rad p.2) / 2)
    + Trig.cos (rad p.2) * Trig.cos (rad q.2)
      * (Trig.sin ((rad q.1 - rad p.1) / 2) * Trig.sin ((rad q.1 - rad p.1) / 2))

theorem rad_sub (a b : K) : rad a - rad b = rad (a - b) := (sub_mul a b _).symm

theorem rad_neg (a : K) : rad (-a) = -rad a := neg_mul a _

/-- a validation statement `if c: raise m` followed by `rest` -/
theorem failed_seq_guard {F : Type} [Fl F] (c : C) (m : String) (rest : S) (rd : String → Int → Int → F)
    (vec : String → List F) (st : KSt F) (h : st.halted = false) :
    ((S.seq (S.ite c (S.fail m) S.skip) rest).exec rd vec st).failed.isSome ↔
      (c.eval ⟨st.env, rd, vec⟩ = true ∨ (rest.exec rd vec st).failed.isSome) := by
  simp only [S.exec]
  split <;> simp [*]

theorem manhattan_val (p q : K × K) : manhattan p q = some (|p.1 - q.1| + |p.2 - q.2|) := by
  unfold manhattan env4
  simp [kl, Gen.manhattan_distance]

theorem euclidean_val (p q : K × K) :
    euclidean p q = some (Trig.sqrt ((p.1 - q.1) * (p.1 - q.1) + (p.2 - q.2) * (p.2 - q.2))) := by
  unfold euclidean env4
  simp [kl, Gen.euclidean_distance]

theorem gc_val (R : K) (p q : K × K) (hp : inRange p) (hq : inRange q) :
    greatCircle R p q = some (R * 2 * Trig.asin (Trig.sqrt (hav p q))) := by
  obtain ⟨a1, a2, a3, a4⟩ := hp
  obtain ⟨b1, b2, b3, b4⟩ := hq
  have c1 := not_lt.mpr a1
  have c2 := not_lt.mpr a2
  have c3 := not_lt.mpr a3
  have c4 := not_lt.mpr a4
  have d1 := not_lt.mpr b1
  have d2 := not_lt.mpr b2
  have d3 := not_lt.mpr b3
  have d4 := not_lt.mpr b4
  unfold greatCircle env5
  simp [kl, Gen.great_circle_distance, c1, c2, c3, c4, d1, d2, d3, d4, hav, rad, piK]

end generic

/-- Mathlib's real functions (`arctan2 y x` = argument of `x + y i`) -/
@[instance_reducible] noncomputable def realTrig : Trig ℝ :=
  ⟨Real.sqrt, Real.arctan, fun y x => Complex.arg ⟨x, y⟩, Real.exp, Real.sin, Real.cos, Real.arcsin⟩

section real
attribute [local instance] realTrig
open Real

@[simp] theorem trig_sqrt (x : ℝ) : Trig.sqrt x = Real.sqrt x := rfl
@[simp] theorem trig_sin (x : ℝ) : Trig.sin x = Real.sin x := rfl
@[simp] theorem trig_cos (x : ℝ) : Trig.cos x = Real.cos x := rfl
@[simp] theorem trig_asin (x : ℝ) : Trig.asin x = Real.arcsin x := rfl
@[simp] theorem trig_atan (x : ℝ) : Trig.atan x = Real.arctan x := rfl

theorem piK_eq : (piK : ℝ) = π := by
  simp only [piK, trig_atan, Real.arctan_one]; ring

theorem rad_eq (d : ℝ) : rad d = d * (π / 180) := by rw [rad, piK_eq]

/-! `rad` is multiplication by a positive constant that takes 180 to `π`: all that the range
    arguments below use. -/

theorem rad_lt_rad {a b : ℝ} (h : a < b) : rad a < rad b := by
  rw [rad_eq, rad_eq]; exact mul_lt_mul_of_pos_right h (div_pos pi_pos (by norm_num))

theorem rad_le_rad {a b : ℝ} (h : a ≤ b) : rad a ≤ rad b := by
  rw [rad_eq, rad_eq]; exact mul_le_mul_of_nonneg_right h (div_pos pi_pos (by norm_num)).le

theorem rad_eq_zero {a : ℝ} : rad a = 0 ↔ a = 0 := by
  rw [rad_eq, mul_eq_zero, or_iff_left (div_pos pi_pos (by norm_num)).ne']

theorem rad_90 : rad (90 : ℝ) = π / 2 := by rw [rad_eq]; ring

theorem rad_360 : rad (360 : ℝ) = 2 * π := by rw [rad_eq]; ring

/-- Minkowski in the plane -/
theorem sqrt_triangle (a b c d : ℝ) :
    Real.sqrt ((a + c) * (a + c) + (b + d) * (b + d)) ≤
      Real.sqrt (a * a + b * b) + Real.sqrt (c * c + d * d) := by
  have h := norm_add_le (⟨a, b⟩ : ℂ) ⟨c, d⟩
  simpa [Complex.norm_def, Complex.normSq_apply] using h

theorem sqrt_sumsq_eq_zero (a b : ℝ) : Real.sqrt (a * a + b * b) = 0 ↔ a = 0 ∧ b = 0 := by
  rw [Real.sqrt_eq_zero (add_nonneg (mul_self_nonneg a) (mul_self_nonneg b)), mul_self_add_mul_self_eq_zero]

theorem rad_lat_range (y : ℝ) (h1 : -90 ≤ y) (h2 : y ≤ 90) : -(π / 2) ≤ rad y ∧ rad y ≤ π / 2 := by
  rw [← rad_90, ← rad_neg]; exact ⟨rad_le_rad h1, rad_le_rad h2⟩

theorem cos_rad_nonneg (y : ℝ) (h1 : -90 ≤ y) (h2 : y ≤ 90) : 0 ≤ Real.cos (rad y) :=
  Real.cos_nonneg_of_neg_pi_div_two_le_of_le (rad_lat_range y h1 h2).1 (rad_lat_range y h1 h2).2

theorem hav_nonneg (p q : ℝ × ℝ) (hp : inRange p) (hq : inRange q) : 0 ≤ hav p q := by
  have lp := rad_lat_range p.2 hp.2.2.1 hp.2.2.2
  have lq := rad_lat_range q.2 hq.2.2.1 hq.2.2.2
  -- `hav p q` unfolds to `Sphere.hv` of the coordinates in radians (here and in `hav_triangle`)
  exact Sphere.hv_nonneg (rad p.1) _ (rad q.1) _ lp.1 lp.2 lq.1 lq.2

theorem hav_symm (p q : ℝ × ℝ) : hav p q = hav q p := by
  unfold hav
  simp only [trig_sin, trig_cos]
  have e1 : (rad q.2 - rad p.2) / 2 = -((rad p.2 - rad q.2) / 2) := by ring
  have e2 : (rad q.1 - rad p.1) / 2 = -((rad p.1 - rad q.1) / 2) := by ring
  rw [e1, e2, Real.sin_neg, Real.sin_neg]
  ring

theorem hav_self (p : ℝ × ℝ) : hav p p = 0 := by
  unfold hav
  simp

/-- two coordinate pairs name the same point of the sphere: equal latitude, and equal longitude
    unless the point is a pole or the longitudes are the two names -180 / 180 of the antimeridian -/
def samePoint (p q : ℝ × ℝ) : Prop :=
  p.2 = q.2 ∧ (p.1 = q.1 ∨ |p.2| = 90 ∨ |p.1 - q.1| = 360)

theorem cos_rad_eq_zero_iff (y : ℝ) (h1 : -90 ≤ y) (h2 : y ≤ 90) : Real.cos (rad y) = 0 ↔ |y| = 90 := by
  constructor
  · intro h
    by_contra hne
    have ⟨l, u⟩ := abs_lt.mp (lt_of_le_of_ne (abs_le.mpr ⟨h1, h2⟩) hne)
    have : 0 < Real.cos (rad y) := by
      apply Real.cos_pos_of_mem_Ioo
      rw [← rad_90, ← rad_neg]
      exact ⟨rad_lt_rad l, rad_lt_rad u⟩
    exact this.ne' h
  · intro h
    rcases abs_eq (by norm_num : (0:ℝ) ≤ 90) |>.mp h with h | h
    · rw [h, rad_90, Real.cos_pi_div_two]
    · rw [h, rad_neg, rad_90, Real.cos_neg, Real.cos_pi_div_two]

theorem sin_half_rad_eq_zero_iff {c : ℝ} (hc : -360 < c ∧ c < 360) : Real.sin (rad c / 2) = 0 ↔ c = 0 := by
  have l := rad_lt_rad hc.1
  have u := rad_lt_rad hc.2
  rw [rad_neg, rad_360] at l
  rw [rad_360] at u
  rw [Real.sin_eq_zero_iff_of_lt_of_lt (by linarith) (by linarith), div_eq_zero_iff,
    or_iff_left two_ne_zero, rad_eq_zero]

theorem sin_half_dlat_eq_zero_iff (a b : ℝ) (ha : -90 ≤ a ∧ a ≤ 90) (hb : -90 ≤ b ∧ b ≤ 90) :
    Real.sin ((rad b - rad a) / 2) = 0 ↔ a = b := by
  rw [rad_sub, sin_half_rad_eq_zero_iff ⟨by linarith [ha.2, hb.1], by linarith [ha.1, hb.2]⟩, sub_eq_zero,
    eq_comm]

theorem sin_half_dlon_eq_zero_iff (a b : ℝ) (ha : -180 ≤ a ∧ a ≤ 180) (hb : -180 ≤ b ∧ b ≤ 180) :
    Real.sin ((rad b - rad a) / 2) = 0 ↔ (a = b ∨ |a - b| = 360) := by
  rw [rad_sub]
  have hpi : rad (360 : ℝ) / 2 = π := by rw [rad_360, mul_div_cancel_left₀ π two_ne_zero]
  constructor
  · intro h
    by_cases hlt : |a - b| < 360
    · have ⟨l, u⟩ := abs_lt.mp hlt
      exact Or.inl (sub_eq_zero.mp ((sin_half_rad_eq_zero_iff ⟨by linarith, by linarith⟩).mp h)).symm
    · have : |a - b| ≤ 360 := abs_le.mpr ⟨by linarith [ha.1, hb.2], by linarith [ha.2, hb.1]⟩
      exact Or.inr (le_antisymm this (not_lt.mp hlt))
  · rintro (rfl | h)
    · rw [sub_self, rad_eq_zero.mpr rfl, zero_div, Real.sin_zero]
    · rcases abs_eq (by norm_num : (0:ℝ) ≤ 360) |>.mp h with h | h
      · rw [show b - a = -360 by linarith, rad_neg, neg_div, hpi, Real.sin_neg, Real.sin_pi, neg_zero]
      · rw [show b - a = 360 by linarith, hpi, Real.sin_pi]

theorem hav_eq_zero_iff (p q : ℝ × ℝ) (hp : inRange p) (hq : inRange q) :
    hav p q = 0 ↔ samePoint p q := by
  have c1 := cos_rad_nonneg p.2 hp.2.2.1 hp.2.2.2
  have c2 := cos_rad_nonneg q.2 hq.2.2.1 hq.2.2.2
  unfold hav samePoint
  simp only [trig_sin, trig_cos]
  set s1 := Real.sin ((rad q.2 - rad p.2) / 2) with hs1
  set s2 := Real.sin ((rad q.1 - rad p.1) / 2) with hs2
  have n1 : 0 ≤ s1 * s1 := mul_self_nonneg _
  have n2 : 0 ≤ Real.cos (rad p.2) * Real.cos (rad q.2) * (s2 * s2) :=
    mul_nonneg (mul_nonneg c1 c2) (mul_self_nonneg _)
  have lat := sin_half_dlat_eq_zero_iff p.2 q.2 ⟨hp.2.2.1, hp.2.2.2⟩ ⟨hq.2.2.1, hq.2.2.2⟩
  have lon := sin_half_dlon_eq_zero_iff p.1 q.1 ⟨hp.1, hp.2.1⟩ ⟨hq.1, hq.2.1⟩
  have z1 := cos_rad_eq_zero_iff p.2 hp.2.2.1 hp.2.2.2
  have z2 := cos_rad_eq_zero_iff q.2 hq.2.2.1 hq.2.2.2
  constructor
  · intro h
    obtain ⟨e1, e2⟩ := (add_eq_zero_iff_of_nonneg n1 n2).mp h
    have hlat : p.2 = q.2 := lat.mp (mul_self_eq_zero.mp e1)
    refine ⟨hlat, ?_⟩
    rcases mul_eq_zero.mp e2 with h | h
    · rcases mul_eq_zero.mp h with h | h
      · exact Or.inr (Or.inl (z1.mp h))
      · exact Or.inr (Or.inl (by rw [hlat]; exact z2.mp h))
    · rcases lon.mp (mul_self_eq_zero.mp h) with h | h
      · exact Or.inl h
      · exact Or.inr (Or.inr h)
  · rintro ⟨hlat, h⟩
    have e1 : s1 = 0 := lat.mpr hlat
    rw [e1]
    rcases h with h | h | h
    · have e2 : s2 = 0 := lon.mpr (Or.inl h)
      rw [e2]; ring
    · rw [z1.mpr h]; ring
    · have e2 : s2 = 0 := lon.mpr (Or.inr h)
      rw [e2]; ring

/-- central angles obey the triangle inequality -/
theorem hav_triangle (p q r : ℝ × ℝ) (hp : inRange p) (hq : inRange q) (hr : inRange r) :
    2 * Real.arcsin (Real.sqrt (hav p r)) ≤
      2 * Real.arcsin (Real.sqrt (hav p q)) + 2 * Real.arcsin (Real.sqrt (hav q r)) := by
  have lat := fun (p : ℝ × ℝ) (hp : inRange p) => rad_lat_range p.2 hp.2.2.1 hp.2.2.2
  exact Sphere.haversine_triangle (rad p.1) _ (rad q.1) _ (rad r.1) _ (lat p hp).1 (lat p hp).2 (lat q hq).1 (lat q hq).2
    (lat r hr).1 (lat r hr).2

end real
end XrsVerif.Metrics
