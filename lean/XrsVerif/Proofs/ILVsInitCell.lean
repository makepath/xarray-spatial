import XrsVerif.Proofs.ILVsInitPos
/-
  One iteration of the per-cell loop of the generated `_init_event_list`:
  `cellBody_other` (a cell other than the observer's appends its ENTER, CENTER, EXIT records `evRowF` to the event list and,
  on the observer's row, writes its three elevations into `data`), `cellBody_obs` (the observer's cell: 180 into the
  visibility grid, its elevation three times into `data`, `continue`).
-/
namespace XrsVerif.ILSw
open XrsVerif XrsVerif.IL XrsVerif.ViewshedEvents
variable {F : Type} [Fl F]
set_option linter.unusedSectionVars false

/-- the record of the event `ty` of cell `(i, j)`: row, col, type, bearing, the three elevations -/
def evRowF (T : Int → Int → F) (h w : Nat) (vr vc i j ty : Int) : List F :=
  [Fl.lit i 1, Fl.lit j 1, Fl.lit ty 1, bearingF i j vr vc ty, cornerElevF T h w vr vc 1 i j, T i j,
    cornerElevF T h w vr vc (-1) i j]

/-- `data[0][j] = a; data[1][j] = b; data[2][j] = c` on the flat `3 × w` buffer -/
def dataSet (d : List F) (w j : Nat) (a b c : F) : List F := ((d.set j a).set (w + j) b).set (2 * w + j) c

/-- what holds from the prologue of `_init_event_list` to its end: the shapes and lengths of its arrays and the scalars
    no loop changes -/
structure InitLayout (s : State F) (h w n vr vc : Nat) : Prop where
  ctl : s.ctl = .run
  shInr : s.shp "inrast" = [3, w]
  shE : s.shp "e" = [7]
  lenE : (s.fa "e").length = 7
  shEL : s.shp "event_list" = [n, 7]
  lenEL : (s.fa "event_list").length = n * 7
  shD : s.shp "data" = [3, w]
  lenD : (s.fa "data").length = 3 * w
  shV : s.shp "visibility_grid" = [h, w]
  lenV : (s.fa "visibility_grid").length = h * w
  nr : s.ienv "n_rows" = h
  nc : s.ienv "n_cols" = w
  vpr : s.ienv "vp_row" = vr
  vpc : s.ienv "vp_col" = vc
  shR : s.shp "raster" = [h, w]

theorem InitLayout.frame {s s' : State F} {h w n vr vc : Nat} (c : InitLayout s h w n vr vc) (hc : s'.ctl = .run)
    (hshp : s'.shp = s.shp)
    (hlen : ∀ a ∈ ["e", "event_list", "data", "visibility_grid"], (s'.fa a).length = (s.fa a).length)
    (hi : ∀ v ∈ ["n_rows", "n_cols", "vp_row", "vp_col"], s'.ienv v = s.ienv v) : InitLayout s' h w n vr vc :=
  ⟨hc, hshp ▸ c.shInr, hshp ▸ c.shE, (hlen "e" (by simp)).trans c.lenE, hshp ▸ c.shEL,
   (hlen "event_list" (by simp)).trans c.lenEL, hshp ▸ c.shD, (hlen "data" (by simp)).trans c.lenD, hshp ▸ c.shV,
   (hlen "visibility_grid" (by simp)).trans c.lenV, (hi "n_rows" (by simp)).trans c.nr, (hi "n_cols" (by simp)).trans c.nc,
   (hi "vp_row" (by simp)).trans c.vpr, (hi "vp_col" (by simp)).trans c.vpc, hshp ▸ c.shR⟩

theorem InitLayout.setJ {s : State F} {h w n vr vc : Nat} (c : InitLayout s h w n vr vc) (x : Int) :
    InitLayout { s with ienv := setS s.ienv "j" x } h w n vr vc :=
  c.frame c.ctl rfl (fun _ _ => rfl) (by simp [setS_apply])

theorem dataWrite_exec (f0 f1 f2 : Nat) (hf : f0 < 7 ∧ f1 < 7 ∧ f2 < 7) (s : State F) (fuel : Nat) (w i j : Nat) (vr : Int)
    (hs : s.ctl = .run) (hshD : s.shp "data" = [3, w]) (hshE : s.shp "e" = [7])
    (hi : s.ienv "i" = i) (hvr : s.ienv "vp_row" = vr) (hj : s.ienv "j" = j) (hjw : j < w) :
    exec fuel (dataWrite f0 f1 f2) s = { s with fa := (setS s.fa "data"
      (if (i : Int) = vr then dataSet (s.fa "data") w j ((s.fa "e").getD f0 Fl.nan) ((s.fa "e").getD f1 Fl.nan) ((s.fa "e").getD f2 Fl.nan)
       else s.fa "data")) } := by
  obtain ⟨ie, fe, be, ia, fa, shp, ext, ctl⟩ := s
  simp only at hs hshD hshE hi hvr hj; subst hs
  have r0 : inRange (0 : Int) 3 = true := by decide
  have r1 : inRange (1 : Int) 3 = true := by decide
  have r2 : inRange (2 : Int) 3 = true := by decide
  have rj : inRange (j : Int) w = true := inRange_of_lt j w hjw
  have q0 : inRange (f0 : Int) 7 = true := inRange_of_lt f0 7 hf.1
  have q1 : inRange (f1 : Int) 7 = true := inRange_of_lt f1 7 hf.2.1
  have q2 : inRange (f2 : Int) 7 = true := inRange_of_lt f2 7 hf.2.2
  have o0 : off2 [3, w] (0 : Int) (j : Int) = j := by have := off2_nat 3 w 0 j; simpa using this
  have o1 : off2 [3, w] (1 : Int) (j : Int) = w + j := by have := off2_nat 3 w 1 j; simpa using this
  have o2 : off2 [3, w] (2 : Int) (j : Int) = 2 * w + j := off2_nat 3 w 2 j
  by_cases h : (i : Int) = vr
  · simp [il, dataWrite, hi, hvr, hj, h, hshD, hshE, r0, r1, r2, rj, q0, q1, q2, off1_nat, o0, o1, o2, setS_setS, dataSet]
  · simp [il, dataWrite, hi, hvr, h, setS_self]


theorem dataSet_dataSet (d : List F) (w j : Nat) (a b c a' b' c' : F) :
    dataSet (dataSet d w j a b c) w j a' b' c' = dataSet d w j a' b' c' := by
  unfold dataSet
  apply List.ext_getElem?
  intro k
  simp only [List.getElem?_set, List.length_set]
  by_cases h1 : 2 * w + j = k
  · subst h1; simp
  · by_cases h2 : w + j = k
    · subst h2
      simp
    · by_cases h3 : j = k
      · subst h3; simp
      · simp [h1, h2, h3]

@[simp] theorem length_dataSet (d : List F) (w j : Nat) (a b c : F) : (dataSet d w j a b c).length = d.length := by
  simp [dataSet]

theorem countUp_exec (s : State F) (fuel : Nat) : exec fuel countUp s = { s with ienv := setS s.ienv "count_event" (s.ienv "count_event" + 1) } := by
  simp [il, countUp]

theorem cellPrelude_exec (ie : String → Int) (fe : String → F) (be : String → Bool) (ia : String → List Int) (fa : String → List F)
    (shp : String → List Nat) (ext : String → F → F → F → F → Int → F) (fuel : Nat) (rest : St)
    (T : Int → Int → F) (h w i j : Nat) (e0 e1 e2 e3 e4 e5 e6 : F)
    (hshInr : shp "inrast" = [3, w]) (hshE : shp "e" = [7]) (hE : fa "e" = [e0, e1, e2, e3, e4, e5, e6])
    (hring : Ring (fa "inrast") T h w i) (hi : ie "i" = i) (hj : ie "j" = j) (hih : i < h) (hjw : j < w) :
    exec fuel (.seq (.setI "e_row" (.var "i")) (.seq (.setI "e_col" (.var "j")) (.seq (.stF1 "e" (.lit 0) (.ofInt (.var "i")))
      (.seq (.stF1 "e" (.lit 1) (.ofInt (.var "j"))) (.seq (.stF1 "e" (.lit 5) (.ld2 "inrast" (.lit 1) (.var "j"))) rest)))))
      ⟨ie, fe, be, ia, fa, shp, ext, .run⟩ =
    exec fuel rest ⟨setS (setS ie "e_row" i) "e_col" j, fe, be, ia,
      setS fa "e" [Fl.lit i 1, Fl.lit j 1, e2, e3, e4, T i j, e6], shp, ext, .run⟩ := by
  have r11 := hring 1 j (by omega) (by omega) (by omega) (by omega) (by omega) (by omega)
  simp [rdI] at r11
  have hjn : ¬ ((j : Int) < 0) := by omega
  have hjw' : (j : Int) < w := by omega
  simp [il, hshE, hshInr, inRange, normIdx, off1, off2, hE, hi, hj, r11, setS_setS, hjn, hjw']

theorem obsSkip_no (s : State F) (fuel : Nat) (i j vr vc : Int) (hi : s.ienv "i" = i) (hj : s.ienv "j" = j)
    (hvr : s.ienv "vp_row" = vr) (hvc : s.ienv "vp_col" = vc) (hne : ¬ (i = vr ∧ j = vc)) : exec fuel obsSkip s = s := by
  simp [il, obsSkip, hi, hj, hvr, hvc, hne]

theorem EvStep.trans {a b c : State F} (h1 : EvStep a b) (h2 : EvStep b c) : EvStep a c :=
  ⟨h2.ctl, h2.ia.trans h1.ia, h2.shp.trans h1.shp, h2.ext.trans h1.ext, fun v hv => (h2.live v hv).trans (h1.live v hv)⟩

theorem elevCall_post {p q : String} {ty idx : Int} {k : Nat} (spec : ElevCallSpec F p q ty idx k) (hL : LitOK F)
    {rest : St} {s : State F} {fuel : Nat} {Q : State F → Prop} (T : Int → Int → F) (h w : Nat) (i j vr vc : Int)
    (hs : s.ctl = .run) (hshp : s.shp "inrast" = [3, w]) (hshe : s.shp "e" = [7]) (hlen : (s.fa "e").length = 7)
    (hring : Ring (s.fa "inrast") T h w i) (hi : 0 ≤ i ∧ i < h) (hj : 0 ≤ j ∧ j < w)
    (h2 : s.ienv "e_row" = i) (h3 : s.ienv "e_col" = j) (h4 : s.ienv "n_rows" = h) (h5 : s.ienv "n_cols" = w)
    (h6 : s.ienv "vp_row" = vr) (h7 : s.ienv "vp_col" = vc)
    (kont : ∀ s' : State F, EvStep s s' →
      s'.fa = setS s.fa "e" (((s.fa "e").set 2 (Fl.lit ty 1)).set k (cornerElevF T h w vr vc ty i j)) → Post fuel rest s' Q) :
    Post fuel (elevCall p q ty idx rest) s Q := by
  obtain ⟨s', e, st, hfa⟩ := spec hL rest s fuel hs T h w i j vr vc hshp hshe hlen hring hi hj h2 h3 h4 h5 h6 h7
  unfold Post; rw [e]; exact kont s' st hfa

theorem posAng_post {p a : String} {ty : Int} (spec : PosAngSpec F p a ty) (hL : LitOK F) (hH : HalfOK F)
    {rest : St} {s : State F} {fuel : Nat} {Q : State F → Prop} (i j vr vc : Int)
    (hs : s.ctl = .run) (hshe : s.shp "e" = [7]) (hlen : (s.fa "e").length = 7)
    (h2 : s.ienv "e_row" = i) (h3 : s.ienv "e_col" = j) (h6 : s.ienv "vp_row" = vr) (h7 : s.ienv "vp_col" = vc)
    (kont : ∀ s' : State F, EvStep s s' →
      s'.fa = setS s.fa "e" (((s.fa "e").set 2 (Fl.lit ty 1)).set 3 (bearingF i j vr vc ty)) → Post fuel rest s' Q) :
    Post fuel (posAng p a ty rest) s Q := by
  obtain ⟨s', e, st, hfa⟩ := spec hL hH rest s fuel hs i j vr vc hshe hlen h2 h3 h6 h7
  unfold Post; rw [e]; exact kont s' st hfa

theorem appendE_post (cp : String) (hcp : ∀ v ∈ liveVars, v ≠ cp ++ "r" ∧ v ≠ cp ++ "k")
    {rest : St} {s : State F} {fuel : Nat} {Q : State F → Prop} (n c : Nat)
    (hs : s.ctl = .run) (hshp : s.shp "event_list" = [n, 7]) (hlen : (s.fa "event_list").length = n * 7)
    (hshe : s.shp "e" = [7]) (hc : s.ienv "count_event" = c) (hcn : c < n)
    (kont : ∀ s' : State F, EvStep s s' → s'.fenv = s.fenv →
      s'.fa = setS s.fa "event_list" (setRow (s.fa "event_list") 7 c (fun k => (s.fa "e").getD k Fl.nan)) → Post fuel rest s' Q) :
    Post fuel (appendE cp rest) s Q := by
  obtain ⟨s', e, st, hfe, hfa⟩ := appendE_exec cp hcp rest s fuel n c hs hshp hlen hshe hc hcn
  unfold Post; rw [e]; exact kont s' st hfe hfa

structure LiveVals (s : State F) (i j h w vr vc c : Int) : Prop where
  vi : s.ienv "i" = i
  vj : s.ienv "j" = j
  er : s.ienv "e_row" = i
  ec : s.ienv "e_col" = j
  nr : s.ienv "n_rows" = h
  nc : s.ienv "n_cols" = w
  vpr : s.ienv "vp_row" = vr
  vpc : s.ienv "vp_col" = vc
  cnt : s.ienv "count_event" = c

theorem LiveVals.step {a b : State F} {i j h w vr vc c : Int} (v : LiveVals a i j h w vr vc c) (k : EvStep a b) :
    LiveVals b i j h w vr vc c :=
  ⟨(k.live _ (by simp [liveVars])).trans v.vi, (k.live _ (by simp [liveVars])).trans v.vj,
   (k.live _ (by simp [liveVars])).trans v.er, (k.live _ (by simp [liveVars])).trans v.ec,
   (k.live _ (by simp [liveVars])).trans v.nr, (k.live _ (by simp [liveVars])).trans v.nc,
   (k.live _ (by simp [liveVars])).trans v.vpr, (k.live _ (by simp [liveVars])).trans v.vpc,
   (k.live _ (by simp [liveVars])).trans v.cnt⟩

theorem LiveVals.fa {a : State F} {i j h w vr vc c : Int} (v : LiveVals a i j h w vr vc c) (f : String → List F) :
    LiveVals { a with fa := f } i j h w vr vc c := ⟨v.vi, v.vj, v.er, v.ec, v.nr, v.nc, v.vpr, v.vpc, v.cnt⟩

theorem LiveVals.count {a : State F} {i j h w vr vc c : Int} (v : LiveVals a i j h w vr vc c) :
    LiveVals { a with ienv := setS a.ienv "count_event" (a.ienv "count_event" + 1) } i j h w vr vc (c + 1) := by
  refine ⟨?_, ?_, ?_, ?_, ?_, ?_, ?_, ?_, ?_⟩ <;> simp [setS_apply, v.vi, v.vj, v.er, v.ec, v.nr, v.nc, v.vpr, v.vpc, v.cnt]

theorem live_cp (cp : String) (h : cp = "rowcp6$" ∨ cp = "rowcp7$" ∨ cp = "rowcp8$") :
    ∀ v ∈ liveVars, v ≠ cp ++ "r" ∧ v ≠ cp ++ "k" := by
  rcases h with rfl | rfl | rfl <;> decide

/-- one event of a cell: the record gets the event code and the bearing and is appended to the list at row `c` -/
theorem event_post {p a cp : String} {ty : Int} (spec : PosAngSpec F p a ty)
    (hcp : ∀ v ∈ liveVars, v ≠ cp ++ "r" ∧ v ≠ cp ++ "k") (hL : LitOK F) (hH : HalfOK F)
    {rest : St} {s : State F} {fuel : Nat} {Q : State F → Prop} {i j h w vr vc : Int} (n c : Nat)
    (v : LiveVals s i j h w vr vc c) (hs : s.ctl = .run) (shE : s.shp "e" = [7]) (lenE : (s.fa "e").length = 7)
    (shEL : s.shp "event_list" = [n, 7]) (lenEL : (s.fa "event_list").length = n * 7) (hcn : c < n)
    (kont : ∀ s' : State F, s'.ctl = .run → s'.shp = s.shp → LiveVals s' i j h w vr vc c →
      s'.fa = setS (setS s.fa "e" (((s.fa "e").set 2 (Fl.lit ty 1)).set 3 (bearingF i j vr vc ty))) "event_list"
        (setRow (s.fa "event_list") 7 c (fun k => (((s.fa "e").set 2 (Fl.lit ty 1)).set 3 (bearingF i j vr vc ty)).getD k Fl.nan)) →
      Post fuel rest s' Q) :
    Post fuel (posAng p a ty (appendE cp rest)) s Q := by
  refine posAng_post spec hL hH i j vr vc hs shE lenE v.er v.ec v.vpr v.vpc ?_
  intro s4 k4 f4
  refine appendE_post cp hcp n c k4.ctl (by rw [k4.shp]; exact shEL) (by rw [f4]; simpa [setS_apply] using lenEL)
    (by rw [k4.shp]; exact shE) (v.step k4).cnt hcn ?_
  intro s5 k5 _ f5
  rw [f4] at f5
  exact kont s5 k5.ctl (k5.shp.trans k4.shp) ((v.step k4).step k5) (by simpa [setS_apply] using f5)

/-- what one non-observer cell leaves behind -/
def CellPost (s : State F) (T : Int → Int → F) (h w n vr vc i j c : Nat) (r : State F) : Prop :=
  InitLayout r h w n vr vc ∧ r.ienv "i" = i ∧ r.fa "raster" = s.fa "raster" ∧ r.fa "inrast" = s.fa "inrast" ∧
    r.fa "visibility_grid" = s.fa "visibility_grid" ∧ r.ienv "count_event" = (c + 3 : Nat) ∧
    r.fa "event_list" = setRow (setRow (setRow (s.fa "event_list") 7 c (fun k => (evRowF T h w vr vc i j 1).getD k Fl.nan))
        7 (c + 1) (fun k => (evRowF T h w vr vc i j 0).getD k Fl.nan)) 7 (c + 2) (fun k => (evRowF T h w vr vc i j (-1)).getD k Fl.nan) ∧
    r.fa "data" = (if i = vr then dataSet (s.fa "data") w j (cornerElevF T h w vr vc 1 i j) (T i j) (cornerElevF T h w vr vc (-1) i j)
      else s.fa "data")

theorem cellBody_other (hL : LitOK F) (hH : HalfOK F) (s : State F) (fuel : Nat) (T : Int → Int → F) (h w n vr vc i j c : Nat)
    (inv : InitLayout s h w n vr vc) (ring : Ring (s.fa "inrast") T h w i) (vi : s.ienv "i" = i) (hj : s.ienv "j" = j)
    (hjw : j < w) (hih : i < h) (hc : s.ienv "count_event" = c) (hcn : c + 3 ≤ n) (hne : ¬ (i = vr ∧ j = vc)) :
    Post fuel cellBody s (CellPost s T h w n vr vc i j c) := by
  obtain ⟨hctl, shInr, shE, lenE, shEL, lenEL, shD, lenD, shV, lenV, nr, nc, vpr, vpc, shR⟩ := inv
  obtain ⟨ie, fe, be, ia, fa, shp, ext, ctl⟩ := s
  simp only at hctl shInr shE lenE shEL lenEL shD lenD shV lenV ring vi nr nc vpr vpc shR hj hc; subst hctl
  obtain ⟨e0, e1, e2, e3, e4, e5, e6, hE⟩ := list7 _ lenE
  have hne' : ¬ ((i : Int) = vr ∧ (j : Int) = vc) := by omega
  unfold cellBody
  refine Post.rw (cellPrelude_exec ie fe be ia fa shp ext fuel _ T h w i j e0 e1 e2 e3 e4 e5 e6 shInr shE hE ring vi hj hih hjw) ?_
  -- the first write of the observer-row buffer
  have hd := dataWrite_exec (F := F) 5 5 5 (by omega) ⟨setS (setS ie "e_row" i) "e_col" j, fe, be, ia,
      setS fa "e" [Fl.lit i 1, Fl.lit j 1, e2, e3, e4, T i j, e6], shp, ext, .run⟩ fuel w i j vr rfl shD shE
      (by simp [setS_apply, vi]) (by simp [setS_apply, vpr]) (by simp [setS_apply, hj]) hjw
  simp [setS_apply] at hd
  refine Post.seq_eq _ hd rfl ?_
  refine Post.seq_eq _ (obsSkip_no _ fuel i j vr vc (by simp [setS_apply, vi]) (by simp [setS_apply, hj])
    (by simp [setS_apply, vpr]) (by simp [setS_apply, vpc]) hne') rfl ?_
  -- ENTER corner elevation
  refine elevCall_post (elevCall_spec _ "_calculate_event_row_col3$" _ 1 4 4 (by simp) (by simp) (by simp) (by simp) rfl (by omega))
    hL T h w i j vr vc rfl (by simpa using shInr) (by simpa using shE) (by simp [setS_apply])
    (by simpa [setS_apply] using ring) (by omega) (by omega) (by simp [setS_apply]) (by simp)
    (by simp [setS_apply, nr]) (by simp [setS_apply, nc]) (by simp [setS_apply, vpr]) (by simp [setS_apply, vpc]) ?_
  intro s2 k2 f2
  simp [setS_apply] at f2
  have v1 : LiveVals (⟨setS (setS ie "e_row" i) "e_col" j, fe, be, ia,
      setS (setS fa "e" [Fl.lit i 1, Fl.lit j 1, e2, e3, e4, T i j, e6]) "data"
        (if i = vr then dataSet (fa "data") w j (T i j) (T i j) (T i j) else fa "data"), shp, ext, .run⟩ : State F) i j h w vr vc c :=
    ⟨by simp [setS_apply, vi], by simp [setS_apply, hj], by simp [setS_apply], by simp, by simp [setS_apply, nr],
     by simp [setS_apply, nc], by simp [setS_apply, vpr], by simp [setS_apply, vpc], by simp [setS_apply, hc]⟩
  have v2 := v1.step k2
  have sh2 := k2.shp
  simp only at sh2
  -- EXIT corner elevation
  refine elevCall_post (elevCall_spec _ "_calculate_event_row_col5$" _ (-1) 6 6 (by simp) (by simp) (by simp) (by simp) rfl (by omega))
    hL T h w i j vr vc k2.ctl (by rw [sh2]; exact shInr) (by rw [sh2]; exact shE)
    (by rw [f2]; simp) (by rw [f2]; simpa [setS_apply] using ring) (by omega) (by omega)
    v2.er v2.ec v2.nr v2.nc v2.vpr v2.vpc ?_
  intro s3 k3 f3
  rw [f2] at f3
  simp [setS_setS] at f3
  have v3 := v2.step k3
  have sh3 : s3.shp = shp := k3.shp.trans sh2
  -- the second write of the observer-row buffer
  have hd2 := dataWrite_exec (F := F) 4 5 6 (by omega) s3 fuel w i j vr k3.ctl (by rw [sh3]; exact shD) (by rw [sh3]; exact shE)
    v3.vi v3.vpr v3.vj hjw
  rw [f3] at hd2
  simp [setS_apply] at hd2
  refine Post.seq_eq _ hd2 k3.ctl ?_
  -- ENTER event
  refine event_post (posAng_spec _ _ 1 (by simp) (by simp) (by simp)) (live_cp "rowcp6$" (by simp)) hL hH n c (v3.fa _) k3.ctl (by simp only []; rw [sh3]; exact shE)
    (by simp [setS_apply]) (by simp only []; rw [sh3]; exact shEL) (by simpa [setS_apply] using lenEL) (by omega) ?_
  intro s5 c5 sh5' v5 f5
  simp [setS_apply] at f5
  have sh5 : s5.shp = shp := sh5'.trans sh3
  refine Post.seq_eq _ (countUp_exec s5 fuel) c5 ?_
  have v5' := v5.count
  -- CENTER event
  refine event_post (posAng_spec _ _ 0 (by simp) (by simp) (by simp)) (live_cp "rowcp7$" (by simp)) hL hH n (c + 1) (by simpa using v5') c5 (by simp only []; rw [sh5]; exact shE)
    (by simp only []; rw [f5]; simp [setS_apply]) (by simp only []; rw [sh5]; exact shEL)
    (by simp only []; rw [f5]; simpa [setS_apply] using lenEL) (by omega) ?_
  intro s7 c7 sh7' v7 f7
  simp only [] at f7 sh7'
  rw [f5] at f7
  simp [setS_apply] at f7
  have sh7 : s7.shp = shp := sh7'.trans sh5
  refine Post.seq_eq _ (countUp_exec s7 fuel) c7 ?_
  have v7' := v7.count
  -- EXIT event
  refine event_post (posAng_spec _ _ (-1) (by simp) (by simp) (by simp)) (live_cp "rowcp8$" (by simp)) hL hH n (c + 2) (by simpa [add_assoc] using v7') c7
    (by simp only []; rw [sh7]; exact shE) (by simp only []; rw [f7]; simp [setS_apply]) (by simp only []; rw [sh7]; exact shEL)
    (by simp only []; rw [f7]; simpa [setS_apply] using lenEL) (by omega) ?_
  intro s9 c9 sh9' v9 f9
  simp only [] at f9 sh9'
  rw [f7] at f9
  simp [setS_apply] at f9
  have sh9 : s9.shp = shp := sh9'.trans sh7
  refine Post.of_eq _ (countUp_exec s9 fuel) ?_
  have v9' := v9.count
  refine ⟨⟨c9, by simp only []; rw [sh9]; exact shInr, by simp only []; rw [sh9]; exact shE, ?_, by simp only []; rw [sh9]; exact shEL, ?_,
    by simp only []; rw [sh9]; exact shD, ?_, by simp only []; rw [sh9]; exact shV, ?_, v9'.nr, v9'.nc, v9'.vpr, v9'.vpc, by simp only []; rw [sh9]; exact shR⟩,
    v9'.vi, ?_, ?_, ?_, ?_, ?_, ?_⟩
  · simp only []; rw [f9]; simp [setS_apply]
  · simp only []; rw [f9]; simp [lenEL]
  · simp only []; rw [f9]; simp only [setS_apply]; simp; split <;> simp [lenD]
  · simp only []; rw [f9]; simp [setS_apply, lenV]
  · simp only []; rw [f9]; simp [setS_apply]
  · simp only []; rw [f9]; simp [setS_apply]
  · simp only []; rw [f9]; simp [setS_apply]
  · rw [v9'.cnt]; push_cast; ring
  · simp only []; rw [f9]; simp [evRowF]
  · simp only []; rw [f9]; simp only [setS_apply]; simp
    by_cases hiv : i = vr
    · simp [hiv, dataSet_dataSet]
    · simp [hiv]

/-- what the observer's own cell leaves behind (the loop body ends with `continue`) -/
def ObsPost (s : State F) (T : Int → Int → F) (h w n vr vc c : Nat) (r : State F) : Prop :=
  r.ctl = .cont ∧ InitLayout { r with ctl := .run } h w n vr vc ∧ r.ienv "i" = vr ∧ r.fa "raster" = s.fa "raster" ∧
    r.fa "inrast" = s.fa "inrast" ∧
    r.fa "event_list" = s.fa "event_list" ∧ r.ienv "count_event" = c ∧
    r.fa "visibility_grid" = (s.fa "visibility_grid").set (vr * w + vc) (Fl.lit 180 1) ∧
    r.fa "data" = dataSet (s.fa "data") w vc (T vr vc) (T vr vc) (T vr vc)

theorem cellBody_obs (s : State F) (fuel : Nat) (T : Int → Int → F) (h w n vr vc c : Nat)
    (inv : InitLayout s h w n vr vc) (ring : Ring (s.fa "inrast") T h w vr) (vi : s.ienv "i" = vr) (hj : s.ienv "j" = vc)
    (hjw : vc < w) (hih : vr < h) (hc : s.ienv "count_event" = c) :
    Post fuel cellBody s (ObsPost s T h w n vr vc c) := by
  obtain ⟨hctl, shInr, shE, lenE, shEL, lenEL, shD, lenD, shV, lenV, nr, nc, vpr, vpc, shR⟩ := inv
  obtain ⟨ie, fe, be, ia, fa, shp, ext, ctl⟩ := s
  simp only at hctl shInr shE lenE shEL lenEL shD lenD shV lenV ring vi nr nc vpr vpc shR hj hc; subst hctl
  obtain ⟨e0, e1, e2, e3, e4, e5, e6, hE⟩ := list7 _ lenE
  unfold cellBody
  refine Post.rw (cellPrelude_exec ie fe be ia fa shp ext fuel _ T h w vr vc e0 e1 e2 e3 e4 e5 e6 shInr shE hE ring vi hj hih hjw) ?_
  have hd := dataWrite_exec (F := F) 5 5 5 (by omega) ⟨setS (setS ie "e_row" vr) "e_col" vc, fe, be, ia,
      setS fa "e" [Fl.lit vr 1, Fl.lit vc 1, e2, e3, e4, T vr vc, e6], shp, ext, .run⟩ fuel w vr vc vr rfl shD shE
      (by simp [setS_apply, vi]) (by simp [setS_apply, vpr]) (by simp [setS_apply, hj]) hjw
  simp [setS_apply] at hd
  refine Post.seq_eq _ hd rfl ?_
  have r1 : inRange (vr : Int) h = true := inRange_of_lt vr h hih
  have r2 : inRange (vc : Int) w = true := inRange_of_lt vc w hjw
  have o : off2 [h, w] (vr : Int) (vc : Int) = vr * w + vc := off2_nat h w vr vc
  unfold Post
  simp [il, obsSkip, vi, hj, vpr, vpc, shV, r1, r2, o]
  refine ⟨?_, ⟨rfl, shInr, shE, ?_, shEL, ?_, shD, ?_, shV, ?_, ?_, ?_, ?_, ?_, shR⟩, ?_, ?_, ?_, ?_, ?_, ?_, ?_⟩ <;>
    simp [setS_apply, lenEL, lenD, lenV, vi, nr, nc, vpr, vpc, hc]
end XrsVerif.ILSw
