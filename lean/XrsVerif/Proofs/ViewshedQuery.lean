import XrsVerif.Proofs.Viewshed
import Mathlib.Algebra.Order.Field.Basic
import Mathlib.Tactic.Ring
import Mathlib.Tactic.FieldSimp
/-!
  The interpolation over a linearly ordered field and `query_decides'` (C05).
-/
set_option linter.unusedSectionVars false
namespace XrsVerif.Viewshed

variable {α : Type} [Field α] [LinearOrder α] [IsStrictOrderedRing α]

theorem spans_iff (n : Node α) (ang : α) : spans n ang = true ↔ n.a0 ≤ ang ∧ ang ≤ n.a2 := by
  simp [spans]

private theorem lerp_ge (a b x d : α) (hd : 0 < d) (h0 : 0 ≤ x) (h1 : x ≤ d) : min b a ≤ a + (b - a) * x / d := by
  rw [mul_div_assoc]
  have t0 : 0 ≤ x / d := div_nonneg h0 hd.le
  have t1 : x / d ≤ 1 := (div_le_one hd).mpr h1
  rcases le_total a b with h | h
  · rw [min_eq_right h]
    exact le_add_of_nonneg_right (mul_nonneg (sub_nonneg.mpr h) t0)
  · rw [min_eq_left h]
    have := mul_le_mul_of_nonpos_left t1 (sub_nonpos.mpr h)
    rw [mul_one] at this
    exact (add_sub_cancel a b).symm.le.trans (add_le_add_right this a)

/-- the interpolated gradient of a node spanning the bearing is never below the node's minimum
    gradient (so a stored maximum of minima that does not overestimate cannot hide a visible cell) -/
theorem minv_le_itp (n : Node α) (ang : α) (h : spans n ang = true) : minv n ≤ itp n ang := by
  rw [spans_iff] at h
  obtain ⟨h0, h2⟩ := h
  rw [minv_eq]
  unfold itp
  split
  · rename_i hlt
    exact le_trans (min_le_left _ _) (lerp_ge n.g1 n.g0 _ _ (sub_pos.mpr (lt_of_le_of_lt h0 hlt))
      (sub_nonneg.mpr hlt.le) (sub_le_sub_left h0 _))
  · split
    · rename_i hlt
      exact le_trans (le_min (min_le_right _ _) (le_trans (min_le_left _ _) (min_le_right _ _)))
        (lerp_ge n.g1 n.g2 _ _ (sub_pos.mpr (lt_of_lt_of_le hlt h2)) (sub_nonneg.mpr hlt.le) (sub_le_sub_right h2 _))
    · exact le_trans (min_le_left _ _) (min_le_right _ _)

theorem itp_centre (n : Node α) : itp n n.a1 = n.g1 := by simp [itp]

theorem itp_enter (n : Node α) (h : n.a0 < n.a1) : itp n n.a0 = n.g0 := by
  have hd : n.a1 - n.a0 ≠ 0 := ne_of_gt (sub_pos.mpr h)
  simp only [itp, h, if_true]
  field_simp
  ring

theorem itp_exit (n : Node α) (h : n.a1 < n.a2) : itp n n.a2 = n.g2 := by
  have hd : n.a2 - n.a1 ≠ 0 := ne_of_gt (sub_pos.mpr h)
  simp only [itp, not_lt_of_gt h, if_false, h, if_true]
  field_simp
  ring

/-- **the two-phase query decides line of sight** (`C05.query_decides`, where the hypotheses are explained) -/
theorem query_decides' {S : α} {t : Tree α} (K ang g : α) (hS : S ≤ g) (hb : BST t) (ha : AugLeQ S t)
    (hK : ∃ n ∈ t.toList, n.key = K)
    (hact : ∀ n ∈ t.toList, n.key < K → spans n ang = true ∨ minv n ≤ g) :
    query S t K ang g ≤ g ↔ ∀ n ∈ t.toList, n.key < K → spans n ang = true → itp n ang ≤ g := by
  unfold query
  rw [if_pos ((contains_iff hb K).mpr hK)]
  simp only
  constructor
  · intro h
    by_cases hs : g < short S t K
    · rw [if_pos hs] at h; exact absurd h (not_le.mpr hs)
    · rw [if_neg hs, walk_le_iff] at h
      intro n hn hk hsp
      exact h.2 n (by simp [hn, hk]) hsp
  · intro hall
    have hs : ¬ g < short S t K := not_lt.mpr (short_le_Q K g hS hb ha (fun n hn hk => by
      rcases hact n hn hk with hsp | hle
      · exact le_trans (minv_le_itp n ang hsp) (hall n hn hk hsp)
      · exact hle))
    rw [if_neg hs, walk_le_iff]
    refine ⟨hS, fun n hn hsp => ?_⟩
    simp only [List.mem_reverse, List.mem_filter, decide_eq_true_eq] at hn
    exact hall n hn.1 hn.2 hsp

end XrsVerif.Viewshed
