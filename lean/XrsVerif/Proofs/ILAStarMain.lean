import XrsVerif.Proofs.ILAStarIter
/-
  Proofs/ILAStarMain.lean -- the main loop and the whole of the generated `_a_star_search`.
-/
namespace XrsVerif.IL
open XrsVerif XrsVerif.AStar
attribute [-simp] List.getD_eq_getElem?_getD
variable {F : Type} [Fl F]

theorem sumI_cons (x : Int) (l : List Int) : sumI (x :: l) = x + sumI l := by
  unfold sumI; rw [← List.sum_eq_foldl, ← List.sum_eq_foldl, List.sum_cons]

theorem sumI_01 (l : List Int) (hl : ∀ x ∈ l, x = 0 ∨ x = 1) :
    0 ≤ sumI l ∧ (0 < sumI l ↔ ∃ x ∈ l, x = 1) := by
  induction l with
  | nil => simp [sumI]
  | cons x l ih =>
    have ih' := ih (fun y hy => hl y (by simp [hy]))
    rw [sumI_cons]
    rcases hl x (by simp) with hx | hx
    · subst hx
      refine ⟨by omega, ?_⟩
      simp only [Int.zero_add, ih'.2, List.mem_cons, exists_eq_or_imp]
      simp
    · subst hx
      refine ⟨by omega, ?_⟩
      constructor
      · intro _; exact ⟨1, by simp, rfl⟩
      · intro _; omega

/-- `np.sum(is_open) > 0` is the model's `anyOpen` -/
theorem anyOpen_iff_sum {e : Env F} {s : State F} {mst : AStar.St F} (ha : SrchAbs e s mst) :
    anyOpen e mst = true ↔ 0 < sumI (s.ia "is_open") := by
  rw [(sumI_01 _ ha.open01).2]
  unfold anyOpen
  rw [List.any_eq_true]
  constructor
  · rintro ⟨c, hc, ho⟩
    have hin := mem_cells.1 hc
    rw [ha.isOpen c hin] at ho
    have hm := getD_mem (s.ia "is_open") (cidx e.w c) 0 (ha.l_open ▸ cidx_lt _ _ _ hin)
    exact ⟨_, hm, (ha.open01 _ hm).resolve_left (by simpa using ho)⟩
  · rintro ⟨x, hx, rfl⟩
    obtain ⟨k, hk, hkx⟩ := List.getElem_of_mem hx
    obtain ⟨c, hin, rfl⟩ := cidx_surj (ha.l_open ▸ hk)
    exact ⟨c, mem_cells.2 hin, by rw [ha.isOpen c hin]; simp [List.getD_eq_getElem?_getD, hk, hkx]⟩

theorem mainLoop_cond {e : Env F} {s : State F} {mst : AStar.St F} (hl : LoopInv e s mst) :
    (BE.cmpI .gt (.var "num_open") (.lit 0)).ok s = true ∧
    (BE.cmpI .gt (.var "num_open") (.lit 0)).eval s = anyOpen e mst := by
  refine ⟨by simp [il], ?_⟩
  simp only [BE.eval, IE.eval, cmpInt, hl.num]
  by_cases h : anyOpen e mst = true
  · rw [h]; simpa using (anyOpen_iff_sum hl.abs).1 h
  · have : ¬ 0 < sumI (s.ia "is_open") := fun h' => h ((anyOpen_iff_sum hl.abs).2 h')
    simp only [Bool.not_eq_true] at h
    rw [h]; simpa using this

/-- **the main loop follows the model's `loop`** (induction on the model's fuel `n`; the program needs `n` units of
    `while` fuel for the iterations plus `h * w` for the parent walk of `_reconstruct_path`):
    * `loop e n mst = found st'`: the program returns, and for the chain of the model's parent walk (if it succeeds and
      stays in the raster) `path_img` received `g[c]` on exactly the cells of the chain, where the array `g`
      (`d_from_start`) holds `st'.g`;
    * `loop e n mst = exhausted st'`: the program leaves the loop normally and `path_img` is untouched. -/
theorem main_loop (e : Env F) : ∀ (n : Nat) (mst : AStar.St F) (s : State F) (fuel : Nat),
    LoopInv e s mst → n + e.h * e.w ≤ fuel →
    (∀ st', loop e n mst = .found st' → ∀ m chain, walk st'.parent e.start m e.goal = some chain →
      (∀ c ∈ chain, inside e.h e.w c = true) → chain.length ≤ e.h * e.w →
      (exec fuel mainLoop s).ctl = .ret ∧ ∃ g : List F,
        (∀ c, inside e.h e.w c = true → st'.g c = g.getD (cidx e.w c) Fl.nan) ∧
        (exec fuel mainLoop s).fa "path_img" = chainW g e.w (e.start :: chain.dropLast) (s.fa "path_img")) ∧
    (∀ st', loop e n mst = .exhausted st' →
      (exec fuel mainLoop s).ctl = .run ∧ (exec fuel mainLoop s).fa "path_img" = s.fa "path_img")
  | 0, mst, s, fuel, hl, hf => by simp [loop]
  | n + 1, mst, s, fuel, hl, hf => by
    obtain ⟨fuel, rfl⟩ : ∃ f, fuel = f + 1 := ⟨fuel - 1, by omega⟩
    obtain ⟨hok, hcond⟩ := mainLoop_cond hl
    unfold loop
    by_cases hany : anyOpen e mst = true
    rotate_left
    · simp only [Bool.not_eq_true] at hany
      rw [hany] at hcond
      have hd : exec (fuel + 1) mainLoop s = s := exec_while_exit fuel _ _ s hok hcond
      simp only [hany, Bool.not_false, if_true]
      refine ⟨(by intro st' h; cases h), ?_⟩
      intro st' _
      rw [hd]; exact ⟨hl.run, rfl⟩
    · rw [hany] at hcond
      simp only [hany, Bool.not_true, Bool.false_eq_true, if_false]
      cases hmin : minCostOpen e mst with
      | none => simp
      | some u =>
        simp only []
        by_cases hug : u = e.goal
        · subst hug
          simp only [if_true]
          refine ⟨?_, by intro st' h; cases h⟩
          intro st' hst' m chain hw hin hlen
          simp only [LoopEnd.found.injEq] at hst'
          subst hst'
          have hg := iter_goal e mst s hl.run hl.const hl.abs hmin fuel m chain hw hin (by omega)
          have hr : exec (fuel + 1) mainLoop s = exec fuel whileBody s :=
            exec_while_ret fuel _ _ s hok hcond hg.1
          rw [hr]
          exact ⟨hg.1, s.fa "d_from_start", fun c hc => hl.abs.g c hc, hg.2⟩
        · simp only [hug, if_false]
          have hx := iter_expand e mst s hl.run hl.const hl.abs u hmin hug fuel
          have hr : exec (fuel + 1) mainLoop s = exec fuel mainLoop (exec fuel whileBody s) :=
            exec_while_step_run _ _ _ _ hok hcond hx.1.run
          rw [hr, ← hx.2]
          exact main_loop e n (expand e mst u) (exec fuel whileBody s) fuel hx.1 (by omega)

/-- well-formed inputs of `_a_star_search`, described by the environment `e` of the hand model -/
structure SrchIn (e : Env F) (s : State F) : Prop where
  ops : e.ops = flOps
  s_data : s.shp "data" = [e.h, e.w]
  s_bars : (s.shp "barriers").length = 1
  s_nys : s.shp "neighbor_ys" = [(s.ia "neighbor_ys").length]
  s_nxs : s.shp "neighbor_xs" = [(s.ia "neighbor_xs").length]
  s_path : s.shp "path_img" = [e.h, e.w]
  nbrs : e.nbrs = (s.ia "neighbor_ys").zip (s.ia "neighbor_xs")
  cross : ∀ c, inside e.h e.w c = true →
    e.cross c = !notCross ((s.fa "data").getD (cidx e.w c) Fl.nan) (s.fa "barriers")
  gy : s.ienv "goal_py" = e.goal.1
  gx : s.ienv "goal_px" = e.goal.2
  sy : s.ienv "start_py" = e.start.1
  sx : s.ienv "start_px" = e.start.2
  start_in : inside e.h e.w e.start = true

theorem getD_replicate_lt {α} (n k : Nat) (x d : α) (h : k < n) : (List.replicate n x).getD k d = x := by
  simp [List.getD_eq_getElem?_getD, h]

theorem replicate_01 (n : Nat) : ∀ x ∈ List.replicate n (0 : Int), x = 0 ∨ x = 1 := by
  intro x hx; exact Or.inl (List.eq_of_mem_replicate hx)

theorem SrchAbs.init {e : Env F} {r : State F} (hops : e.ops = flOps) (hstart : inside e.h e.w e.start = true)
    (h1 : r.ia "is_open" = if e.cross e.start = true then (List.replicate (e.h * e.w) 0).set (cidx e.w e.start) 1
      else List.replicate (e.h * e.w) 0)
    (h2 : r.ia "is_closed" = List.replicate (e.h * e.w) 0)
    (h3 : r.ia "parent_ys" = (List.replicate (e.h * e.w) (-1)).set (cidx e.w e.start) e.start.1)
    (h4 : r.ia "parent_xs" = (List.replicate (e.h * e.w) (-1)).set (cidx e.w e.start) e.start.2)
    (h5 : r.fa "d_from_start" = if e.cross e.start = true then
      (List.replicate (e.h * e.w) (Fl.lit 0 1)).set (cidx e.w e.start) (Fl.lit 0 1)
      else List.replicate (e.h * e.w) (Fl.lit 0 1))
    (h6 : r.fa "cost" = if e.cross e.start = true then
      (List.replicate (e.h * e.w) (Fl.lit 0 1)).set (cidx e.w e.start)
        (Fl.add (Fl.lit 0 1) (flDist e.start e.goal))
      else List.replicate (e.h * e.w) (Fl.lit 0 1)) :
    SrchAbs e r (AStar.init e) := by
  have hpar : ∀ c, inside e.h e.w c = true →
      (upd (fun _ => none) e.start (some e.start) : Cell → Option Cell) c =
        parentOf (r.ia "parent_ys") (r.ia "parent_xs") e.w c := by
    intro c hc
    rw [h3, h4, parentOf_set List.length_replicate List.length_replicate hstart hstart c hc]
    simp [upd, parentOf, List.getD_eq_getElem?_getD, cidx_lt e.h e.w c hc]
  have hps : parentOf (r.ia "parent_ys") (r.ia "parent_xs") e.w e.start ≠ none := by
    rw [← hpar _ hstart]; simp [upd]
  have hupd : ∀ z : F, upd (fun _ => z) e.start z = fun _ => z := fun z => by
    funext c; unfold upd; split <;> rfl
  have hzero := rep_replicate e.h e.w (fun x : Int => decide (x ≠ 0)) 0 0
  unfold AStar.init
  by_cases hcr : e.cross e.start = true
  · simp only [hcr, if_true] at h1 h5 h6 ⊢
    exact ⟨by rw [h1]; simp, by rw [h2]; simp, by rw [h5]; simp, by rw [h6]; simp, by rw [h3]; simp, by rw [h4]; simp,
      h1 ▸ mem_set_01 _ _ _ (Or.inr rfl) (replicate_01 _),
      h1 ▸ rep_set List.length_replicate (fun x : Int => decide (x ≠ 0)) 0 hzero hstart 1, h2 ▸ hzero,
      by rw [h5, hops, ← hupd flOps.zero]; exact rep_set List.length_replicate id Fl.nan (rep_replicate e.h e.w _ _ _) hstart _,
      by rw [h6, hops]; exact rep_set List.length_replicate id Fl.nan (rep_replicate e.h e.w _ _ _) hstart _, hpar, hps⟩
  · simp only [hcr, if_false, Bool.false_eq_true] at h1 h5 h6 ⊢
    exact ⟨by rw [h1]; simp, by rw [h2]; simp, by rw [h5]; simp, by rw [h6]; simp, by rw [h3]; simp, by rw [h4]; simp,
      h1 ▸ replicate_01 _, h1 ▸ hzero, h2 ▸ hzero, by rw [h5, hops]; exact rep_replicate e.h e.w id Fl.nan _,
      by rw [h6, hops]; exact rep_replicate e.h e.w id Fl.nan _, hpar, hps⟩

def initA (e : Env F) (s : State F) : State F :=
  { s with
    ienv := setS (setS s.ienv "height" (e.h : Int)) "width" (e.w : Int),
    ia :=
      setS (setS (setS (setS (setS (setS s.ia "parent_ys" (List.replicate (e.h * e.w) (-1))) "parent_xs"
        (List.replicate (e.h * e.w) (-1)))
        "parent_ys" ((List.replicate (e.h * e.w) (-1)).set (cidx e.w e.start) e.start.1))
        "parent_xs" ((List.replicate (e.h * e.w) (-1)).set (cidx e.w e.start) e.start.2))
        "is_open" (List.replicate (e.h * e.w) 0)) "is_closed" (List.replicate (e.h * e.w) 0),
    fa := setS (setS s.fa "d_from_start" (List.replicate (e.h * e.w) (Fl.lit 0 1))) "cost"
        (List.replicate (e.h * e.w) (Fl.lit 0 1)),
    shp := setS (setS (setS (setS (setS (setS s.shp "parent_ys" [e.h, e.w]) "parent_xs" [e.h, e.w])
        "d_from_start" [e.h, e.w]) "cost" [e.h, e.w]) "is_open" [e.h, e.w]) "is_closed" [e.h, e.w],
    ctl := .run }

theorem SrchConst.of_in {e : Env F} {s r : State F} (hi : SrchIn e s) (hshp : r.shp = (initA e s).shp)
    (hd : r.fa "data" = s.fa "data") (hb : r.fa "barriers" = s.fa "barriers")
    (hn1 : r.ia "neighbor_ys" = s.ia "neighbor_ys") (hn2 : r.ia "neighbor_xs" = s.ia "neighbor_xs")
    (h1 : r.ienv "height" = (e.h : Int)) (h2 : r.ienv "width" = (e.w : Int))
    (h3 : r.ienv "goal_py" = s.ienv "goal_py") (h4 : r.ienv "goal_px" = s.ienv "goal_px")
    (h5 : r.ienv "start_py" = s.ienv "start_py") (h6 : r.ienv "start_px" = s.ienv "start_px") : SrchConst e r :=
  ⟨hi.ops, by rw [hshp]; simp [initA, setS_apply, hi.s_data], by rw [hshp]; simp [initA, setS_apply, hi.s_bars],
   by rw [hshp, hn1]; simp [initA, setS_apply, hi.s_nys], by rw [hshp, hn2]; simp [initA, setS_apply, hi.s_nxs],
   by rw [hshp]; simp [initA, setS_apply], by rw [hshp]; simp [initA],
   by rw [hshp]; simp [initA, setS_apply], by rw [hshp]; simp [initA, setS_apply],
   by rw [hshp]; simp [initA, setS_apply], by rw [hshp]; simp [initA, setS_apply],
   by rw [hshp]; simp [initA, setS_apply, hi.s_path], by rw [hn1, hn2]; exact hi.nbrs,
   by rw [hd, hb]; exact hi.cross, h1, h2, by rw [h3]; exact hi.gy, by rw [h4]; exact hi.gx,
   by rw [h5]; exact hi.sy, by rw [h6]; exact hi.sx, hi.start_in⟩

theorem init_exec (e : Env F) (s : State F) (hs : s.ctl = .run) (hi : SrchIn e s) (fuel : Nat) :
    ∃ s0 : State F, exec fuel searchSt s = exec fuel searchTail s0 ∧ LoopInv e s0 (AStar.init e) ∧
      s0.fa "path_img" = s.fa "path_img" := by
  obtain ⟨r1, r2, ho⟩ := cell_access hi.start_in
  have hlt : cidx e.w e.start < e.h * e.w := cidx_lt _ _ _ hi.start_in
  have hA : exec fuel searchSt s = exec fuel searchB (initA e s) := by
    simp [il, searchSt, initA, hs, hi.s_data, hi.sy, hi.sx, r1, r2, ho]
  have hcr := hi.cross _ hi.start_in
  generalize hdv : (s.fa "data").getD (cidx e.w e.start) Fl.nan = dv at hcr
  obtain ⟨z, hB⟩ := crossCall_exec "_is_not_crossable1$cell_value" "_is_not_crossable1$i" "_is_not_crossable1$ret0"
    "start_py" "start_px" (by simp) searchC fuel (initA e s) rfl e.h e.w (by simp [initA, setS_apply, hi.s_data])
    (by simp [initA, setS_apply, hi.s_bars]) e.start hi.start_in (by simp [initA, setS_apply, hi.sy])
    (by simp [initA, setS_apply, hi.sx]) dv (by simpa [initA, setS_apply] using hdv)
  rw [hA, searchB, hB]
  by_cases hbar : notCross dv (s.fa "barriers") = true
  · have hcf : e.cross e.start = false := by rw [hcr, hbar]; rfl
    simp [il, searchC, initOpen, initA, hbar]
    refine ⟨_, rfl, ⟨rfl, SrchConst.of_in hi ?_ ?_ ?_ ?_ ?_ ?_ ?_ ?_ ?_ ?_ ?_,
      SrchAbs.init hi.ops hi.start_in ?_ ?_ ?_ ?_ ?_ ?_, ?_⟩, ?_⟩
    all_goals simp [initA, setS_apply, hcf, sumI]
  · have hct : e.cross e.start = true := by rw [hcr]; simp [hbar]
    simp [il, searchC, initOpen, initA, hbar, r1, r2, ho, hi.sy, hi.sx, hi.gy, hi.gx,
      getD_replicate_lt _ _ _ _ hlt]
    refine ⟨_, rfl, ⟨rfl, SrchConst.of_in hi ?_ ?_ ?_ ?_ ?_ ?_ ?_ ?_ ?_ ?_ ?_,
      SrchAbs.init hi.ops hi.start_in ?_ ?_ ?_ ?_ ?_ ?_, ?_⟩, ?_⟩
    all_goals simp [initA, setS_apply, hct, sumI, flDist, sqDist]

/-- **`Gen.IL.aStarSearch` computes the hand model `AStar.search`.**  For well-formed inputs (`SrchIn`: `data` and
    `path_img` are `h × w`, the start cell lies in the raster, `e` is the model environment the arrays describe) and
    enough `while` fuel:
    * if the model returns `path chain g` (and the chain lies in the raster, which `C14.path_is_chain` proves), the
      program returns and has written `g c` into `path_img[c]` for exactly the cells `c` of the chain;
    * if the model returns `noPath`, the program returns with `path_img` untouched;
    * nothing is claimed when the model reports the anomaly of `_min_cost_pixel_id` returning `(NONE, NONE)` while a
      cell is open (the program then indexes `[-1][-1]`; excluded for exact costs by `C14.astar_exact`). -/
theorem aStarSearch_refines (e : Env F) (s : State F) (fuel : Nat) (hs : s.ctl = .run) (hi : SrchIn e s)
    (hlen : (s.fa "path_img").length = e.h * e.w) (hfuel : 2 * (e.h * e.w) + 1 ≤ fuel) :
    let r := Gen.IL.aStarSearch.run s fuel
    match search e with
    | .path chain g => (∀ c ∈ chain, inside e.h e.w c = true) →
        r.ctl = .ret ∧ (r.fa "path_img").length = e.h * e.w ∧
        ∀ c, inside e.h e.w c = true → ∀ d, (r.fa "path_img").getD (cidx e.w c) d =
          if c ∈ chain then g c else (s.fa "path_img").getD (cidx e.w c) d
    | .noPath => r.ctl = .ret ∧ r.fa "path_img" = s.fa "path_img"
    | .anomaly _ => True := by
  intro r
  obtain ⟨s0, h0, hl0, hp0⟩ := init_exec e s hs hi fuel
  have hr : r = exec fuel searchTail s0 := by
    show exec fuel Gen.IL.aStarSearch.body s = _
    rw [aStarSearch_body, h0]
  have hm := main_loop e (e.h * e.w + 1) (AStar.init e) s0 fuel hl0 (by omega)
  unfold search
  cases hloop : loop e (e.h * e.w + 1) (AStar.init e) with
  | found st =>
    simp only []
    cases hwalk : walk st.parent e.start (e.h * e.w) e.goal with
    | none => simp
    | some chain =>
      simp only []
      intro hin
      obtain ⟨hret, garr, hg, hpath⟩ := hm.1 st hloop _ chain hwalk hin (walk_length_le hwalk)
      have hr' : r = exec fuel mainLoop s0 := by
        rw [hr, searchTail, exec_seq_stop _ _ _ _ (by rw [hret]; simp)]
      rw [hr', hpath, hp0]
      refine ⟨hret, by rw [chainW_length, hlen], ?_⟩
      intro c hc d
      rw [chainW_walk_getD _ e.h e.w _ hlen (walk_last hwalk) hin c hc d, hg c hc]
  | exhausted st =>
    simp only []
    obtain ⟨hrun, hpath⟩ := hm.2 st hloop
    have hr' : r = { exec fuel mainLoop s0 with ctl := .ret } := by
      rw [hr, searchTail, exec_seq_run _ _ _ _ hrun]; simp [exec]
    rw [hr']
    exact ⟨rfl, by rw [← hp0, ← hpath]⟩
  | sentinel st => simp
  | fuel st => simp

end XrsVerif.IL
