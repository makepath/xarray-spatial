import XrsVerif.Proofs.ILApply
/-
  Proofs/ILApplyRefines.lean -- refinement (layer T3), part 2: the seven programs generated from `_apply_numpy`
  (`Gen.IL.applyMean`, `applySum`, `applyMin`, `applyMax`, `applyRange`, `applyStd`, `applyVar`) compute the hand
  model `applyFlat` of Model/Focal.lean with the model's reducer -- for every raster (also empty, also smaller than the
  kernel) and every kernel of odd shape, any fuel.

  `red_eval_*` (Proofs/ILFocal.lean): numba's one-pass reductions `RedOp.eval` *are* the model's `nanmean` … `nanstd`.
  Besides `out` the raster double loop maintains the shape of `kernel_values`, which every cell re-allocates.
-/
namespace XrsVerif.Focal
open XrsVerif XrsVerif.IL XrsVerif.ILVs XrsVerif.IL.Fc XrsVerif.Gen.Focal
variable {F : Type} [Fl F]

/-- `red` assigns no integer variable and touches no array; run in any running state it ends running with
    `f kernel_values` in `rv` -/
structure RedSpec (red : St) (rv : String) (f : List F → F) : Prop where
  wi : wI red = []
  wfa : wFA red = []
  wsh : wSh red = []
  run : ∀ (fuel : Nat) (s : State F), s.ctl = .run →
    (exec fuel red s).ctl = .run ∧ (exec fuel red s).fenv rv = f (s.fa "kernel_values")

theorem RedSpec.mods {red : St} {rv : String} {f : List F → F} (h : RedSpec red rv f) (fuel : Nat) (s : State F) :
    Mods [] (wF red) (wB red) (wIA red) [] [] s (exec fuel red s) := by
  have hM := exec_frame fuel red s
  rwa [h.wi, h.wfa, h.wsh] at hM

theorem RedSpec.congr {red : St} {rv : String} {f g : List F → F} (h : RedSpec red rv f) (e : ∀ l, f l = g l) :
    RedSpec red rv g :=
  ⟨h.wi, h.wfa, h.wsh, fun fuel s hs => e (s.fa "kernel_values") ▸ h.run fuel s hs⟩

theorem redOf_spec (rv : String) (op : RedOp) : RedSpec (F := F) (redOf rv op) rv (RedOp.eval op) :=
  ⟨rfl, rfl, rfl, fun fuel s hs => by simp [il, redOf, hs]⟩

theorem redRange_spec :
    RedSpec (F := F) redRange "_calc_range1$ret0" (fun l => Fl.sub (RedOp.eval .nanmax l) (RedOp.eval .nanmin l)) :=
  ⟨rfl, rfl, rfl, fun fuel s hs => by simp [il, redRange, setS, hs]⟩

abbrev applyVal (f : List F → F) (data kernel : List F) (rows cols kr kc : Nat) (p q : Nat) : F :=
  f (specWindow (listArr data cols) (listArr kernel kc) rows cols kr kc (p : Int) (q : Int)).flatten

/-- `kernel_values.fill(np.nan)` -/
theorem stFill_exec (data kernel : List F) (rows cols kr kc : Nat) (fuel : Nat) (s : State F)
    (hI : AInv data kernel rows cols kr kc s) :
    exec fuel stFill s = { s with fa := setS s.fa "kernel_values" (List.replicate (kr * kc) Fl.nan) } := by
  have e : setS s.shp "kernel_values" [kr, kc] = s.shp := by rw [← hI.shv]; exact setS_self _ _
  simp [il, stFill, hI.shv, e]

theorem apply_cell (red : St) (rv : String) (f : List F → F) (hred : RedSpec red rv f)
    (data kernel : List F) (rows cols kr kc : Nat) (hkr : kr % 2 = 1) (hkc : kc % 2 = 1)
    (fuel : Nat) (s : State F) (p q : Nat) (hI : AInv data kernel rows cols kr kc s)
    (vy : s.ienv "y" = p) (vx : s.ienv "x" = q) (hp : p < rows) (hq : q < cols) :
    let r := exec fuel (stCellA red rv) s
    r.ctl = .run ∧ r.shp "kernel_values" = [kr, kc] ∧
    r.fa "out" = (s.fa "out").set (p * cols + q) (applyVal f data kernel rows cols kr kc p q) := by
  intro r
  have h1 := stFill_exec data kernel rows cols kr kc fuel s hI
  have hI1 := hI.of_mods (mods_setFa [] [] [] [] ["kernel_values"] [] s "kernel_values"
    (List.replicate (kr * kc) Fl.nan) (by decide)) hI.ctl (by decide)
  obtain ⟨hc2, hkv⟩ := gather_ky data kernel rows cols kr kc fuel _ (p : Int) (q : Int) hI1 vy vx hkr hkc nanArr
    (by simp only [setS_same]; exact BufRel.replicate kr kc)
  replace hkv := hkv.gathered _ _ rows cols _ _ hkr hkc
  have hM2 := exec_frame fuel stGather { s with fa := setS s.fa "kernel_values" (List.replicate (kr * kc) Fl.nan) }
  obtain ⟨hc3, hrv3⟩ := hred.run fuel _ hc2
  have hM3 := hred.mods fuel (exec fuel stGather
    { s with fa := setS s.fa "kernel_values" (List.replicate (kr * kc) Fl.nan) })
  have hI3 := (hI1.of_mods hM2 hc2 (by decide)).of_mods hM3 hc3 (by decide)
  have h4 := exec_stF2_vars fuel "out" "y" "x" rv _ rows cols (p : Int) (q : Int) hI3.sho
    (by rw [hM3.ienv_eq]; exact (hM2.ienv _ (by decide)).trans vy)
    (by rw [hM3.ienv_eq]; exact (hM2.ienv _ (by decide)).trans vx) (by omega) (by omega) (by omega) (by omega)
  simp only [r, stCellA]
  rw [exec_seq_eq fuel _ _ _ _ h1 hI.ctl, exec_seq_run fuel _ _ _ hc2, exec_seq_run fuel _ _ _ hc3, h4]
  refine ⟨hc3, hI3.shv, ?_⟩
  simp only [setS_same, Int.toNat_natCast, hrv3, hkv, hM3.fa_eq]
  rw [hM2.fa _ (by decide)]
  rfl

theorem frame_raster {red : St} {rv : String} {f : List F → F} (hred : RedSpec red rv f) {s st : State F}
    (hM : For2Mods "y" "x" (stCellA red rv) s st) :
    Mods ["y", "x", "ky", "kx", "kyidx", "kxidx"] (wF (stCellA red rv)) (wB (stCellA red rv)) (wIA (stCellA red rv))
      ["kernel_values", "kernel_values", "out"] ["kernel_values"] s st := by
  simp only [For2Mods, stCellA, wI, wFA, wSh, hred.wi, hred.wfa, hred.wsh] at hM
  exact hM

structure ApplyInput (data kernel : List F) (rows cols kr kc : Nat) (s : State F) : Prop where
  ctl : s.ctl = .run
  shd : s.shp "data" = [rows, cols]
  shk : s.shp "kernel" = [kr, kc]
  fad : s.fa "data" = data
  fak : s.fa "kernel" = kernel

/-- the state in front of the raster loop; `hrows`, `hcols` are `int(krows / 2)`, `int(kcols / 2)` (focal.py: float division, then truncation) -/
def applyStart (s : State F) (rows cols kr kc : Nat) : State F :=
  { s with
    ienv := setS (setS (setS (setS (setS (setS s.ienv "rows" (rows : Int)) "cols" (cols : Int)) "krows" (kr : Int))
              "kcols" (kc : Int)) "hrows" ((kr / 2 : Nat) : Int)) "hcols" ((kc / 2 : Nat) : Int),
    shp := setS (setS s.shp "out" [rows, cols]) "kernel_values" [kr, kc],
    fa := setS (setS s.fa "out" (List.replicate (rows * cols) (Fl.lit 0 1))) "kernel_values"
            (List.replicate (kr * kc) (Fl.lit 0 1)) }

theorem apply_prefix (data kernel : List F) (rows cols kr kc : Nat) (fuel : Nat) (s : State F)
    (hin : ApplyInput data kernel rows cols kr kc s) (rest : St) :
    exec fuel
      (.seq (.allocF "out" [(.dim "data" 0), (.dim "data" 1)] (.lit 0 1))
      (.seq (.setI "rows" (.dim "data" 0))
      (.seq (.setI "cols" (.dim "data" 1))
      (.seq (.setI "krows" (.dim "kernel" 0))
      (.seq (.setI "kcols" (.dim "kernel" 1))
      (.seq (.setI "hrows" (.bin .tdiv (.var "krows") (.lit 2)))
      (.seq (.setI "hcols" (.bin .tdiv (.var "kcols") (.lit 2)))
      (.seq (.allocF "kernel_values" [(.dim "kernel" 0), (.dim "kernel" 1)] (.lit 0 1))
      rest)))))))) s = exec fuel rest (applyStart s rows cols kr kc) := by
  simp [exec_seq, exec_setI_def, exec_allocF_def, IE.ok, IE.eval, IOp.eval, FE.ok, FE.eval, setS_apply, hin.shd, hin.shk,
    hin.ctl, applyStart]

theorem applyStart_inv (data kernel : List F) (rows cols kr kc : Nat) (s : State F)
    (hin : ApplyInput data kernel rows cols kr kc s) :
    AInv data kernel rows cols kr kc (applyStart s rows cols kr kc) :=
  ⟨hin.ctl, by simp [applyStart, setS, hin.shd], by simp [applyStart, setS, hin.shk], by simp [applyStart, setS],
    by simp [applyStart], by simp [applyStart, setS, hin.fad], by simp [applyStart, setS, hin.fak],
    by simp [applyStart, setS], by simp [applyStart, setS], by simp [applyStart, setS], by simp [applyStart, setS]⟩

/-- **refinement, shared by the seven programs.** `_apply_numpy` with a reducer `red` that computes `f` of the buffer,
    run on any raster and any kernel of odd shape: ends with `return`, no out-of-range access, inputs unchanged, and
    `out` (raster shape) is the hand model `applyFlat` with the reducer `f` on the flattened window -/
theorem applyBody_refines (red : St) (rv : String) (f : List F → F) (hred : RedSpec red rv f)
    (data kernel : List F) (rows cols kr kc : Nat) (hkr : kr % 2 = 1) (hkc : kc % 2 = 1) (s : State F) (fuel : Nat)
    (hin : ApplyInput data kernel rows cols kr kc s) :
    let r := exec fuel (applyBody red rv) s
    r.ctl = .ret ∧ r.shp "out" = [rows, cols] ∧ r.fa "data" = data ∧ r.fa "kernel" = kernel ∧
    r.fa "out" = applyFlat (listArr data cols) (listArr kernel kc) rows cols kr kc (fun w => f w.flatten) := by
  simp only [applyBody, stRaster]
  rw [apply_prefix data kernel rows cols kr kc fuel s hin]
  have hI := applyStart_inv data kernel rows cols kr kc s hin
  have hIn : ∀ st : State F, For2Mods "y" "x" (stCellA red rv) (applyStart s rows cols kr kc) st → st.ctl = .run →
      st.shp "kernel_values" = [kr, kc] → AInv data kernel rows cols kr kc st :=
    fun st hM hc hshv => hI.of_mods_shv (frame_raster hred hM) hc hshv (by decide)
  obtain ⟨hc, hshv, hout⟩ := exec_for2_sim fuel "y" "x" (.var "rows") (.var "cols") (stCellA red rv) rows cols
    (fun p q => (p, q)) (fun o (x : Nat × Nat) => o.set (x.1 * cols + x.2) (applyVal f data kernel rows cols kr kc x.1 x.2))
    (fun st o => st.shp "kernel_values" = [kr, kc] ∧ st.fa "out" = o) (applyStart s rows cols kr kc) hin.ctl (by decide)
    (by simp [stCellA, wI, hred.wi, stFill, stGather, stGatherKx, stGatherStep]) (fun _ _ _ h => h) (fun _ _ _ h => h)
    ⟨rfl, hI.vrows⟩ (fun st hM => ⟨rfl, ((frame_raster hred hM).ienv "cols" (by simp)).trans hI.vcols⟩)
    (fun st o p q hp hq hc hM vy vx hR => by
      obtain ⟨c1, c2, c3⟩ := apply_cell red rv f hred data kernel rows cols kr kc hkr hkc fuel st p q (hIn st hM hc hR.1)
        vy vx hp hq
      exact ⟨c1, c2, by rw [c3, hR.2]⟩)
    _ ⟨hI.shv, rfl⟩
  have hI' := hIn _ (exec_frame fuel (stRaster red rv) _) hc hshv
  rw [exec_seq_eq fuel _ _ _ _ rfl hc, exec_ret]
  refine ⟨rfl, hI'.sho, hI'.fad, hI'.fak,
    hout.trans ((foldl_pairs_set rows cols _ _ (by simp [applyStart, setS])).trans ?_)⟩
  unfold applyFlat
  rw [applyCells_eq _ _ _ _ _ _ _ rfl, allCells_eq_pairs, List.map_map]
  rfl

def applyState (data kernel : List F) (rows cols kr kc : Nat) : State F :=
  { (State.empty : State F) with
    fa := fun x => if x = "data" then data else if x = "kernel" then kernel else []
    shp := fun x => if x = "data" then [rows, cols] else if x = "kernel" then [kr, kc] else [] }

theorem applyState_input (data kernel : List F) (rows cols kr kc : Nat) :
    ApplyInput data kernel rows cols kr kc (applyState data kernel rows cols kr kc) :=
  ⟨rfl, by simp [applyState], by simp [applyState], by simp [applyState], by simp [applyState]⟩

end XrsVerif.Focal
