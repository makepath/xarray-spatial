import XrsVerif.Proofs.ILViewshedBase
/-
  Refinement of the small generated programs of viewshed's status tree (`Gen.IL.vsFindValueMin`, `vsTreeMinimum`,
  `vsSearch`: `_find_value_min_value`, `_tree_minimum`, `_search_for_node` with `_compare` inlined twice per
  iteration), for every number type `[Fl F]`.
  The loops are proved once for arbitrary variable names (`searchLoop N`, `minLoop x`), and so is the whole of
  `_search_for_node` (`searchProg_spec`, in a scope `searchScope_spec`): `_search_for_node` and `_tree_minimum` are
  inlined under other names in `_max_grad_in_status_struct`, `_tree_successor`, `_delete_from_tree`.
-/
namespace XrsVerif.ILVs
open XrsVerif XrsVerif.IL XrsVerif.Viewshed
variable {F : Type} [Fl F]

theorem vsFindValueMin_refines (s : State F) (fuel n : Nat) (hv : VS s n) (hrun : s.ctl = .run)
    (hp : PtrOK n (s.ienv "node_id")) :
    let r := Gen.IL.vsFindValueMin.run s fuel
    r.ctl = .ret ∧ r.fenv "ret0" = (minv (nodeAt (s.fa "tree_vals") (rowOf n (s.ienv "node_id")))).v ∧
      r.fa = s.fa ∧ r.ia = s.ia := by
  have hb : Gen.IL.vsFindValueMin.body = .seq (.setF "ret0" (minvE "node_id")) .ret := rfl
  simp only [Prog.run, hb]
  rw [exec_seq, exec_setF _ _ _ _ (minvE_ok s n hv.shpV _ (inRange_ptr n _ hp hv.pos))]
  simp only [hrun, if_true, exec_ret, setS_same, minvE_eval s n hv.shpV, and_self]

/-- index of the leftmost node of the tree `node l i _` -/
def minIdx : Sh → Nat → Nat
  | .nil, i => i
  | .node l j _, _ => minIdx l j

def Sh.lheight : Sh → Nat
  | .nil => 0
  | .node l _ _ => l.lheight + 1

/-- `while tree_nodes[x][TN_LEFT_ID] != NIL_ID: x = tree_nodes[x][TN_LEFT_ID]` -/
def minLoop (x : String) : St :=
  (.while (.cmpI .ne (.ld2 "tree_nodes" (.var x) (.lit 1)) (.lit (-1)))
        (.setI x (.ld2 "tree_nodes" (.var x) (.lit 1))))

theorem minLoop_spec (x : String) (n : Nat) (l : Sh) (i : Nat) (r : Sh) (par : Int) (fuel : Nat) (s : State F)
    (hv : VS s n) (hrun : s.ctl = .run) (hl : Linked (s.ia "tree_nodes") n par (.node l i r)) (hx : s.ienv x = i)
    (hf : l.lheight < fuel) :
    exec fuel (minLoop x) s = { s with ienv := setS s.ienv x (minIdx l i) } := by
  -- the invariant: `x` at the root of a subtree with the same leftmost node
  refine while_rule _ _ (fun k t => ∃ (l' : Sh) (i' : Nat) (r' : Sh) (par' : Int), l'.lheight = k ∧
      t = { s with ienv := setS s.ienv x (i' : Int) } ∧ Linked (s.ia "tree_nodes") n par' (.node l' i' r') ∧
      minIdx l' i' = minIdx l i)
    (fun t => t = { s with ienv := setS s.ienv x (minIdx l i) }) ?_ l.lheight fuel s
    ⟨l, i, r, par, rfl, by rw [← hx, setS_self], hl, rfl⟩ hf
  rintro fuel k t _ ⟨l', i', r', par', rfl, ht, hl', hm⟩
  have hvt : VS t n := by rw [ht]; exact hv.of_eq rfl rfl rfl
  have htx : t.ienv x = i' := by rw [ht]; exact setS_same _ _ _
  have hlnk : nAt (t.ia "tree_nodes") i' 1 = l'.ptr := by rw [ht]; exact hl'.2.1
  have hin : inRange (t.ienv x) n = true := by rw [htx]; exact hv.inRange hl'.1
  have hev : BE.eval t (.cmpI .ne (.ld2 "tree_nodes" (.var x) (.lit 1)) (.lit (-1))) = decide (l'.ptr ≠ -1) := by
    rw [BE.eval_cmpI, evalN t n hvt.shpN x 1 (by decide), IE.eval_lit, htx, rowOf_nat]
    simp [cmpInt, hlnk]
  refine ⟨by rw [BE.ok_cmpI, okN t n hvt.shpN x 1 (by decide), hin, IE.ok_lit]; rfl, fun hc => ?_, fun hc => Or.inl ?_⟩
  · rw [hev] at hc
    cases l' with
    | nil => rw [ht, ← hm]; rfl
    | node a b c => simp [Sh.ptr] at hc
  · rw [hev] at hc
    cases l' with
    | nil => simp [Sh.ptr] at hc
    | node ll j lr =>
      rw [exec_setI _ _ _ _ (by rw [okN t n hvt.shpN x 1 (by decide)]; exact hin), evalN t n hvt.shpN x 1 (by decide), htx,
        rowOf_nat, show (1 : Int).toNat = 1 from rfl, hlnk]
      exact ⟨by rw [ht]; exact hrun, _, Nat.lt_succ_self _, ll, j, lr, _, rfl, by rw [ht]; simp only [setS_setS]; rfl,
        hl'.2.2.2.2.1, hm⟩

theorem vsTreeMinimum_body : Gen.IL.vsTreeMinimum.body = .seq (minLoop "x") (.seq (.setI "ret0" (.var "x")) .ret) := rfl

/-- `_tree_minimum(tree_nodes, x)` on the subtree `node l i r` at `x`: the leftmost node -/
theorem vsTreeMinimum_refines (s : State F) (fuel n : Nat) (hv : VS s n) (hrun : s.ctl = .run)
    (l : Sh) (i : Nat) (r : Sh) (par : Int) (hl : Linked (s.ia "tree_nodes") n par (.node l i r))
    (hx : s.ienv "x" = i) (hf : l.lheight < fuel) :
    let q := Gen.IL.vsTreeMinimum.run s fuel
    q.ctl = .ret ∧ q.ienv "ret0" = minIdx l i ∧ q.fa = s.fa ∧ q.ia = s.ia := by
  simp only [Prog.run, vsTreeMinimum_body]
  rw [exec_seq, minLoop_spec "x" n l i r par fuel s hv hrun hl hx hf]
  simp [il, hrun]

/-- the row `_tree_minimum` returns holds the first node of the model tree's in-order list -/
theorem minIdx_head (vals : List F) (nodes : List Int) (l : Sh) (i : Nat) (r : Sh) :
    (absT vals nodes (.node l i r)).toList.head? = some (nodeAt vals (minIdx l i)) := by
  induction l generalizing i r with
  | nil => simp [absT, Tree.toList, minIdx]
  | node ll j lr ih _ =>
    have := ih j lr
    simp only [absT, Tree.toList, minIdx] at this ⊢
    rw [List.head?_append, this]; rfl

/-- the variables of one inlined copy of `_search_for_node` -/
structure SearchNames where
  cur : String
  key : String
  a1 : String
  b1 : String
  r1 : String
  a2 : String
  b2 : String
  r2 : String

def SearchNames.OK (N : SearchNames) : Prop :=
  N.cur ≠ N.r1 ∧ N.cur ≠ N.r2 ∧ N.key ≠ N.a1 ∧ N.key ≠ N.b1 ∧ N.key ≠ N.a2 ∧ N.key ≠ N.b2 ∧ N.a1 ≠ N.b1 ∧ N.a2 ≠ N.b2

def searchBody (N : SearchNames) : St :=
  (.seq (.ite (.cmpI .ne (.var N.cur) (.lit (-1))) .skip .brk)
  (.seq (.setF N.a1 (.var N.key))
  (.seq (.setF N.b1 (.ld2 "tree_vals" (.var N.cur) (.lit 0)))
  (.seq (cmpScope N.a1 N.b1 N.r1)
  (.seq (.ite (.cmpI .ne (.var N.r1) (.lit 0)) .skip .brk)
  (.seq (.setF N.a2 (.var N.key))
  (.seq (.setF N.b2 (.ld2 "tree_vals" (.var N.cur) (.lit 0)))
  (.seq (cmpScope N.a2 N.b2 N.r2)
  (.ite (.cmpI .eq (.var N.r2) (.lit (-1)))
    (.setI N.cur (.ld2 "tree_nodes" (.var N.cur) (.lit 1)))
    (.setI N.cur (.ld2 "tree_nodes" (.var N.cur) (.lit 2))))))))))))

def searchLoop (N : SearchNames) : St := .while .tt (searchBody N)

def SearchNames.iv (N : SearchNames) : List String := [N.cur, N.r1, N.r2]
def SearchNames.fv (N : SearchNames) : List String := [N.a1, N.b1, N.a2, N.b2]

theorem searchBody_nil (N : SearchNames) (fuel : Nat) (s : State F) (hc : s.ienv N.cur = -1) :
    exec fuel (searchBody N) s = { s with ctl := .brk } := by
  simp [il, searchBody, hc]

theorem searchBody_node (N : SearchNames) (hN : N.OK) (n : Nat) (fuel : Nat) (s : State F) (hv : VS s n)
    (hrun : s.ctl = .run) (i : Nat) (hi : i + 1 < n) (hc : s.ienv N.cur = i) :
    let r := exec fuel (searchBody N) s
    let c := cmp3 (s.fenv N.key) (vAt (s.fa "tree_vals") i 0).v
    Frame N.iv N.fv [] s r ∧
    (c = 0 → r.ctl = .brk ∧ r.ienv N.cur = i) ∧
    (c = -1 → r.ctl = .run ∧ r.ienv N.cur = nAt (s.ia "tree_nodes") i 1) ∧
    (c = 1 → r.ctl = .run ∧ r.ienv N.cur = nAt (s.ia "tree_nodes") i 2) := by
  obtain ⟨n1, n2, n3, n4, n5, n6, n7, n8⟩ := hN
  have hin : inRange (i : Int) n = true := hv.inRange hi
  have hne : ¬ ((i : Int) = -1) := by omega
  have eV : ∀ (s' : State F), s'.shp = s.shp → s'.fa = s.fa → s'.ienv N.cur = i →
      FE.eval s' (.ld2 "tree_vals" (.var N.cur) (.lit 0)) = (vAt (s.fa "tree_vals") i 0).v := by
    intro s' h1 h2 h3
    rw [evalV s' n (by rw [h1]; exact hv.shpV) N.cur 0 (by decide), h2, h3]; simp
  have oV : ∀ (s' : State F), s'.shp = s.shp → s'.ienv N.cur = i →
      FE.ok s' (.ld2 "tree_vals" (.var N.cur) (.lit 0)) = true := by
    intro s' h1 h3
    rw [okV s' n (by rw [h1]; exact hv.shpV) N.cur 0 (by decide), h3]; exact hin
  have eN : ∀ (s' : State F) (c : Int) (hc : 0 ≤ c), s'.shp = s.shp → s'.ia = s.ia → s'.ienv N.cur = i →
      IE.eval s' (.ld2 "tree_nodes" (.var N.cur) (.lit c)) = nAt (s.ia "tree_nodes") i c.toNat := by
    intro s' c hc h1 h2 h3
    rw [evalN s' n (by rw [h1]; exact hv.shpN) N.cur c hc, h2, h3]; simp
  have oN : ∀ (s' : State F) (c : Int) (hc : 0 ≤ c ∧ c < 4), s'.shp = s.shp → s'.ienv N.cur = i →
      IE.ok s' (.ld2 "tree_nodes" (.var N.cur) (.lit c)) = true := by
    intro s' c hc h1 h3
    rw [okN s' n (by rw [h1]; exact hv.shpN) N.cur c hc, h3]; exact hin
  intro r c
  -- both inlined `_compare`s return `c`; the same run in each of its three cases
  rcases cmp3_cases (s.fenv N.key) (vAt (s.fa "tree_vals") i 0).v with hcv | hcv | hcv <;>
    simp [r, c, searchBody, exec, cmpScope_spec, BE.ok, BE.eval, IE.ok_var, IE.ok_lit, IE.eval_var, IE.eval_lit, cmpInt, hc,
      hne, FE.ok_var, FE.eval_var, hrun, eV, oV, eN, oN, setS, n1, n2, n3, n4, n7, n8,
      hcv] <;>
    refine ⟨rfl, rfl, rfl, rfl, fun v hv => ?_, fun v hv => ?_, fun _ _ => rfl⟩ <;>
    simp only [SearchNames.iv, SearchNames.fv, List.mem_cons, List.not_mem_nil, or_false, not_or] at hv <;>
    simp [setS, hv]

/-- `_search_for_node` on a shape: the pointer to the node whose key is neither below nor above `K`, else NIL -/
def findPtr (vals : List F) (K : Fv F) : Sh → Int
  | .nil => -1
  | .node l i r =>
    if K < vAt vals i 0 then findPtr vals K l else if vAt vals i 0 < K then findPtr vals K r else (i : Int)

theorem searchLoop_spec (N : SearchNames) (hN : N.OK) (n : Nat) (sh : Sh) (par : Int) (fuel : Nat) (s : State F)
    (hv : VS s n) (hrun : s.ctl = .run) (hl : Linked (s.ia "tree_nodes") n par sh) (hc : s.ienv N.cur = sh.ptr)
    (hf : sh.height < fuel) :
    let r := exec fuel (searchLoop N) s
    r.ctl = .run ∧ Frame N.iv N.fv [] s r ∧ r.ienv N.cur = findPtr (s.fa "tree_vals") ⟨s.fenv N.key⟩ sh := by
  -- the invariant: `cur` at the root of a subtree in which the search gives the same result
  refine while_rule .tt (searchBody N) (fun k t => ∃ (sh' : Sh) (par' : Int), sh'.height = k ∧ t.ctl = .run ∧
      Frame N.iv N.fv [] s t ∧ Linked (s.ia "tree_nodes") n par' sh' ∧ t.ienv N.cur = sh'.ptr ∧
      findPtr (s.fa "tree_vals") ⟨s.fenv N.key⟩ sh' = findPtr (s.fa "tree_vals") ⟨s.fenv N.key⟩ sh)
    (fun t => t.ctl = .run ∧ Frame N.iv N.fv [] s t ∧ t.ienv N.cur = findPtr (s.fa "tree_vals") ⟨s.fenv N.key⟩ sh)
    ?_ sh.height fuel s ⟨sh, par, rfl, hrun, Frame.refl _ _ _ _, hl, hc, rfl⟩ hf
  rintro fuel k t _ ⟨sh', par', rfl, trun, tfr, tl, tc, tf⟩
  refine ⟨BE.ok_tt t, fun h => absurd h (by rw [BE.eval_tt]; decide), fun _ => ?_⟩
  cases sh' with
  | nil =>
    rw [searchBody_nil N fuel t tc]
    exact Or.inr (Or.inr (Or.inl ⟨rfl, rfl, (tfr.ctl _).ctl _, by rw [← tf]; exact tc⟩))
  | node l i rr =>
    obtain ⟨hi, hL, hR, _, hlL, hlR⟩ := tl
    obtain ⟨hfr, h0, hm, hp⟩ := searchBody_node N hN n fuel t (tfr.vs hv) trun i hi tc
    have hkey : t.fenv N.key = s.fenv N.key := by
      apply tfr.fenv
      obtain ⟨n1, n2, n3, n4, n5, n6, n7, n8⟩ := hN
      simp [SearchNames.fv, n3, n4, n5, n6]
    rw [hkey, tfr.fa] at h0 hm hp
    rw [tfr.ia] at hm hp
    simp only [findPtr, fv_lt] at tf
    simp only [Sh.height]
    by_cases h1 : Fl.lt (s.fenv N.key) (vAt (s.fa "tree_vals") i 0).v = true
    · obtain ⟨c1, c2⟩ := hm (by simp [cmp3, h1])
      rw [if_pos h1] at tf
      exact Or.inl ⟨c1, _, by omega, l, _, rfl, c1, tfr.trans hfr, hlL, by rw [c2, hL], tf⟩
    · by_cases h2 : Fl.lt (vAt (s.fa "tree_vals") i 0).v (s.fenv N.key) = true
      · obtain ⟨c1, c2⟩ := hp (by simp [cmp3, h1, h2])
        rw [if_neg h1, if_pos h2] at tf
        exact Or.inl ⟨c1, _, by omega, rr, _, rfl, c1, tfr.trans hfr, hlR, by rw [c2, hR], tf⟩
      · obtain ⟨c1, c2⟩ := h0 (by simp [cmp3, h1, h2])
        rw [if_neg h1, if_neg h2] at tf
        exact Or.inr (Or.inr (Or.inl ⟨c1, trivial, (tfr.trans hfr).ctl _, by rw [← tf]; exact c2⟩))


/-- the names in `_search_for_node` itself -/
def searchNames0 : SearchNames :=
  ⟨"cur_node", "key", "_compare1$a", "_compare1$b", "_compare1$ret0", "_compare2$a", "_compare2$b", "_compare2$ret0"⟩

theorem vsSearch_body : Gen.IL.vsSearch.body =
    .seq (.setI "cur_node" (.var "root")) (.seq (searchLoop searchNames0) (.seq (.setI "ret0" (.var "cur_node")) .ret)) := rfl

/-- `_search_for_node` with the variables `N` -/
def searchProg (N : SearchNames) (root ret : String) : St :=
  .seq (.setI N.cur (.var root)) (.seq (searchLoop N) (.seq (.setI ret (.var N.cur)) .ret))

theorem searchProg_spec (N : SearchNames) (hN : N.OK) (root ret : String) (n : Nat) (sh : Sh) (par : Int) (fuel : Nat)
    (s : State F) (hv : VS s n) (hrun : s.ctl = .run) (hl : Linked (s.ia "tree_nodes") n par sh)
    (hroot : s.ienv root = sh.ptr) (hf : sh.height < fuel) :
    let q := exec fuel (searchProg N root ret) s
    q.ctl = .ret ∧ Frame (ret :: N.iv) N.fv [] s q ∧ q.ienv ret = findPtr (s.fa "tree_vals") ⟨s.fenv N.key⟩ sh := by
  intro q
  obtain ⟨h1, h2, h3⟩ := searchLoop_spec N hN n sh par fuel { s with ienv := setS s.ienv N.cur (s.ienv root) }
    (hv.of_eq rfl rfl rfl) hrun hl (by simp [setS, hroot]) hf
  generalize hsB : exec fuel (searchLoop N) { s with ienv := setS s.ienv N.cur (s.ienv root) } = sB at h1 h2 h3
  have hq : q = { sB with ienv := setS sB.ienv ret (sB.ienv N.cur), ctl := .ret } := by
    simp only [q, searchProg]
    rw [exec_seq_eq fuel _ _ s _ (exec_setI_eq fuel _ _ s _ (IE.ok_var _ _) (IE.eval_var _ _)) hrun,
      exec_seq_eq fuel _ _ _ sB hsB h1]
    simp [exec, IE.ok_var, IE.eval_var, h1]
  rw [hq]
  refine ⟨rfl, ?_, by simpa [setS] using h3⟩
  have hcur : N.cur ∈ ret :: N.iv := List.mem_cons_of_mem _ List.mem_cons_self
  exact ((Frame.setI s _ hcur).trans (h2.mono (fun _ h => List.mem_cons_of_mem _ h) (fun _ h => h) (fun _ h => h))).trans
    ((Frame.setI sB _ List.mem_cons_self).ctl _)

/-- the inlined `_search_for_node`: its `return` ends the scope -/
theorem searchScope_spec (N : SearchNames) (hN : N.OK) (root ret : String) (n : Nat) (sh : Sh) (par : Int) (fuel : Nat)
    (s : State F) (hv : VS s n) (hrun : s.ctl = .run) (hl : Linked (s.ia "tree_nodes") n par sh)
    (hroot : s.ienv root = sh.ptr) (hf : sh.height < fuel) :
    let q := exec fuel (.scope (searchProg N root ret)) s
    q.ctl = .run ∧ Frame (ret :: N.iv) N.fv [] s q ∧ q.ienv ret = findPtr (s.fa "tree_vals") ⟨s.fenv N.key⟩ sh := by
  obtain ⟨h1, h2, h3⟩ := searchProg_spec N hN root ret n sh par fuel s hv hrun hl hroot hf
  intro q
  have hq : q = { exec fuel (searchProg N root ret) s with ctl := .run } := exec_scope_ret fuel _ s h1
  rw [hq]
  exact ⟨rfl, h2.ctl _, h3⟩

/-- `_search_for_node(tree_vals, tree_nodes, root, key)` on a well-linked tree of shape `sh` at `root` returns
    `findPtr` (fuel: one unit per level and one for the last test) -/
theorem vsSearch_refines (s : State F) (fuel n : Nat) (hv : VS s n) (hrun : s.ctl = .run)
    (sh : Sh) (par : Int) (hl : Linked (s.ia "tree_nodes") n par sh) (hroot : s.ienv "root" = sh.ptr)
    (hf : sh.height < fuel) :
    let q := Gen.IL.vsSearch.run s fuel
    q.ctl = .ret ∧ q.ienv "ret0" = findPtr (s.fa "tree_vals") ⟨s.fenv "key"⟩ sh ∧ q.fa = s.fa ∧ q.ia = s.ia := by
  simp only [Prog.run, vsSearch_body]
  obtain ⟨h1, h2, h3⟩ := searchProg_spec searchNames0 (by simp [SearchNames.OK, searchNames0]) "root" "ret0" n sh par fuel s
    hv hrun hl hroot hf
  exact ⟨h1, h3, h2.fa, h2.ia⟩

/-- the pointer search finds a node exactly when the model's `Tree.contains` says so -/
theorem findPtr_contains (vals : List F) (nodes : List Int) (K : Fv F) (sh : Sh) :
    (absT vals nodes sh).contains K = decide (findPtr vals K sh ≠ -1) := by
  induction sh with
  | nil => simp [absT, Tree.contains, findPtr]
  | node l i r ihl ihr =>
    simp only [absT, Tree.contains, findPtr, nodeAt]
    split
    · exact ihl
    · split
      · exact ihr
      · simp

theorem findPtr_mem (vals : List F) (K : Fv F) (sh : Sh) (i : Nat) (h : findPtr vals K sh = (i : Int)) :
    i ∈ sh.idxs ∧ ¬ K < vAt vals i 0 ∧ ¬ vAt vals i 0 < K := by
  induction sh with
  | nil => simp [findPtr] at h
  | node l j r ihl ihr =>
    simp only [findPtr] at h
    simp only [Sh.idxs, List.mem_append, List.mem_cons]
    split at h
    · have := ihl h; exact ⟨Or.inl this.1, this.2⟩
    · split at h
      · have := ihr h; exact ⟨Or.inr (Or.inr this.1), this.2⟩
      · rename_i h1 h2
        have : j = i := by omega
        subst this
        exact ⟨Or.inr (Or.inl rfl), h1, h2⟩

end XrsVerif.ILVs
