import XrsVerif.Proofs.KSimp
import XrsVerif.Model.CircleKernels
import Mathlib.Data.Rat.Floor
import Mathlib.Tactic.NormNum
import Mathlib.Tactic.Ring
set_option linter.unusedSectionVars false
/-! Helper lemmas for the circle / annulus kernel model of C19 (Model/CircleKernels.lean evaluated
    over `NV K`): linspace on integer end points, the generated predicate on integer samples, the
    padded inner kernel, `int(r / cellsize)` as a floor, and A.9 (`inEllipse_mono`). -/
namespace XrsVerif.CircleK
open XrsVerif XrsVerif.DistStr

/-- the ellipse predicate of `_ellipse_kernel` on integer offsets:
    `(x / hw)² + (y / hh)² ≤ 1` with the divisions cleared -/
def inEllipse (hw hh x y : ℤ) : Prop := (x * hh) ^ 2 + (y * hw) ^ 2 ≤ (hw * hh) ^ 2

instance (hw hh x y : ℤ) : Decidable (inEllipse hw hh x y) := by unfold inEllipse; infer_instance

section
variable {K : Type} [Field K] [LinearOrder K] [IsStrictOrderedRing K] [Trig K]

theorem ofInt_eq (n : ℤ) : (ofInt n : NV K) = some (n : K) := by
  simp [ofInt]

/-- `np.linspace(-h, h, 2h+1)[j] = j - h` -/
theorem linspaceAt_centred (h : ℤ) (hh : 0 ≤ h) (j : ℕ) (hj : (j : ℤ) ≤ 2 * h) :
    (linspaceAt (-h) h (2 * h + 1) j : NV K) = some ((j : K) - (h : K)) := by
  unfold linspaceAt
  by_cases h0 : h = 0
  · subst h0
    have : j = 0 := by omega
    subst this
    simp [ofInt]
  · have hpos : 0 < h := lt_of_le_of_ne hh (Ne.symm h0)
    have hne : ((2 * h + 1 - 1 : ℤ) : K) ≠ 0 := by
      have : (2 * h + 1 - 1 : ℤ) ≠ 0 := by omega
      exact_mod_cast this
    have hle : ¬ (2 * h + 1 ≤ 1) := by omega
    simp only [hle, if_false, ofInt_eq, fl_div, fl_mul, fl_add, hne, Option.some.injEq]
    have e : ((h - -h : ℤ) : K) = ((2 * h + 1 - 1 : ℤ) : K) := by congr 1; ring
    rw [e, div_self hne]
    push_cast; ring

theorem pred_eq (hw hh x y : ℤ) :
    Gen.ellipse_pred.cell (predEnv (some (x : K)) (some (y : K)) (some (hw : K)) (some (hh : K)))
        (fun _ _ _ => (none : NV K)) (fun _ => []) =
      some (if inEllipse hw hh x y then 1 else 0) := by
  have key : ((x : K) * hh * (x * hh) + y * hw * (y * hw) ≤ hw * hh * (hw * hh)) ↔ inEllipse hw hh x y := by
    unfold inEllipse
    rw [← Int.cast_le (R := K)]
    push_cast
    simp only [sq]
  simp [kl, Gen.ellipse_pred, predEnv]
  by_cases h : inEllipse hw hh x y
  · simp [h, key.mpr h]
  · simp [h, mt key.mp h]

/-- entry (i, j) of `_ellipse_kernel(hw, hh)` is the mask of the offset (j - hw, i - hh) -/
theorem ellipseEntry_eq (hw hh : ℤ) (h1 : 0 ≤ hw) (h2 : 0 ≤ hh) (i j : ℕ)
    (hi : (i : ℤ) ≤ 2 * hh) (hj : (j : ℤ) ≤ 2 * hw) :
    (ellipseEntry hw hh i j : NV K) = some (if inEllipse hw hh (j - hw) (i - hh) then 1 else 0) := by
  unfold ellipseEntry
  simp only [Gen.ellipse_x_start, Gen.ellipse_x_stop, Gen.ellipse_x_num, Gen.ellipse_y_start,
    Gen.ellipse_y_stop, Gen.ellipse_y_num]
  rw [linspaceAt_centred hw h1 j hj, linspaceAt_centred hh h2 i hi, ofInt_eq, ofInt_eq]
  have := pred_eq (K := K) hw hh (j - hw) (i - hh)
  push_cast at this
  exact this

theorem ellipseKernel_ok (hw hh : ℤ) (h1 : 0 ≤ hw) (h2 : 0 ≤ hh) :
    (ellipseKernel hw hh : Except String (KGrid (NV K))) =
      .ok ⟨(2 * hh + 1).toNat, (2 * hw + 1).toNat, ellipseEntry hw hh⟩ := by
  unfold ellipseKernel
  have a : ¬ (Gen.ellipse_x_num hw hh < 0 ∨ Gen.ellipse_y_num hw hh < 0) := by
    simp only [Gen.ellipse_x_num, Gen.ellipse_y_num]; omega
  have b : ¬ (Gen.ellipse_x_axis ≠ 1 ∨ Gen.ellipse_y_axis ≠ 0) := by decide
  rw [if_neg a, if_neg b]
  simp only [Gen.ellipse_x_num, Gen.ellipse_y_num]

end

theorem pyInt_eq_floor (q : ℚ) (hq : 0 ≤ q) : pyInt q = ⌊q⌋ := by
  unfold pyInt
  rw [Int.tdiv_eq_ediv_of_nonneg (Rat.num_nonneg.mpr hq), Rat.floor_def']

theorem pyInt_nonneg (q : ℚ) (hq : 0 ≤ q) : 0 ≤ pyInt q := by
  rw [pyInt_eq_floor q hq]; exact Int.floor_nonneg.mpr hq

theorem pyInt_mono (a b : ℚ) (ha : 0 ≤ a) (hab : a ≤ b) : pyInt a ≤ pyInt b := by
  rw [pyInt_eq_floor a ha, pyInt_eq_floor b (le_trans ha hab)]; exact Int.floor_le_floor hab

/-- one axis of `circle_kernel`: for a radius `r ≥ 0`, a cell size `c > 0` and a monotone rounding with `rnd 0 = 0`,
    `int(rnd (r / c))` is the floor of the rounded quotient, and not negative -/
theorem pyInt_rnd_div {rnd : ℚ → ℚ} (hm : Monotone rnd) (h0 : rnd 0 = 0) {c r : ℚ} (hc : 0 < c) (hr : 0 ≤ r) :
    pyInt (rnd (r / c)) = ⌊rnd (r / c)⌋ ∧ 0 ≤ ⌊rnd (r / c)⌋ := by
  have n : 0 ≤ rnd (r / c) := by rw [← h0]; exact hm (div_nonneg hr hc.le)
  exact ⟨pyInt_eq_floor _ n, Int.floor_nonneg.mpr n⟩

theorem pyFloorDiv_two (k : ℤ) : pyFloorDiv (2 * k) 2 = k := by
  unfold pyFloorDiv
  rw [Int.fdiv_eq_ediv_of_nonneg _ (by norm_num)]; omega

theorem circleKernel_fin {F : Type} [Fl F] (rnd : ℚ → ℚ) (cx cy r : ℚ) (hx : cx ≠ 0) (hy : cy ≠ 0) :
    (circleKernel rnd cx cy (.val (.fin r)) : Except String (KGrid F)) =
      ellipseKernel (pyInt (rnd (r / cx))) (pyInt (rnd (r / cy))) := by
  simp [circleKernel, halfWidth, hx, hy, Gen.circle_half_w, Gen.circle_half_h]

/-- the slack `A * B - (X * B + Y * A)` is the inner slack plus three products of non-negative differences -/
theorem ellipse_grow {A B A' B' X Y : ℤ} (hX : X ≤ A') (hY : Y ≤ B') (hA : A' ≤ A) (hB : B' ≤ B)
    (h : X * B' + Y * A' ≤ A' * B') : X * B + Y * A ≤ A * B := by
  have e : A * B - (X * B + Y * A) = (A' * B' - (X * B' + Y * A')) + (B - B') * (A' - X) +
      (A - A') * (B' - Y) + (A - A') * (B - B') := by ring
  rw [← sub_nonneg, e]
  exact add_nonneg (add_nonneg (add_nonneg (sub_nonneg.mpr h)
    (mul_nonneg (sub_nonneg.mpr hB) (sub_nonneg.mpr hX)))
    (mul_nonneg (sub_nonneg.mpr hA) (sub_nonneg.mpr hY)))
    (mul_nonneg (sub_nonneg.mpr hA) (sub_nonneg.mpr hB))

/-- A.9: the centred inner ellipse is contained in the outer one -/
theorem inEllipse_mono (a b a' b' x y : ℤ)
    (ha' : 0 ≤ a') (hb' : 0 ≤ b') (haa : a' ≤ a) (hbb : b' ≤ b)
    (hx : |x| ≤ a') (hy : |y| ≤ b')
    (hin : inEllipse a' b' x y) : inEllipse a b x y := by
  unfold inEllipse at *
  simp only [mul_pow] at *
  exact ellipse_grow (sq_le_sq' (abs_le.mp hx).1 (abs_le.mp hx).2) (sq_le_sq' (abs_le.mp hy).1 (abs_le.mp hy).2)
    (pow_le_pow_left₀ ha' haa 2) (pow_le_pow_left₀ hb' hbb 2) hin

section
variable {K : Type} [Field K] [LinearOrder K] [IsStrictOrderedRing K] [Trig K]

/-- the inner mask as seen from the outer kernel's centre: 1 at offsets inside the inner array that
    satisfy the inner ellipse, 0 elsewhere (the padding) -/
def innerAt (hw hh x y : ℤ) : Prop := |x| ≤ hw ∧ |y| ≤ hh ∧ inEllipse hw hh x y

instance (hw hh x y : ℤ) : Decidable (innerAt hw hh x y) := by unfold innerAt; infer_instance

theorem annulusOf_ellipse (HW HH hw hh : ℤ) (h1 : 0 ≤ hw) (h2 : 0 ≤ hh) (h3 : hw ≤ HW) (h4 : hh ≤ HH) :
    ∃ g : KGrid (NV K),
      annulusOf ⟨(2 * HH + 1).toNat, (2 * HW + 1).toNat, ellipseEntry HW HH⟩
                ⟨(2 * hh + 1).toNat, (2 * hw + 1).toNat, ellipseEntry hw hh⟩ = .ok g ∧
      g.rows = (2 * HH + 1).toNat ∧ g.cols = (2 * HW + 1).toNat ∧
      ∀ i j : ℕ, (i : ℤ) ≤ 2 * HH → (j : ℤ) ≤ 2 * HW →
        g.cell i j = some ((if inEllipse HW HH (j - HW) (i - HH) then (1 : K) else 0)
                          - (if innerAt hw hh (j - HW) (i - HH) then 1 else 0)) := by
  -- all four half-sizes and the two paddings as naturals, so that no `toNat` is left for `omega`
  obtain ⟨m, rfl⟩ := Int.eq_ofNat_of_zero_le h1
  obtain ⟨n, rfl⟩ := Int.eq_ofNat_of_zero_le h2
  obtain ⟨a, ha⟩ := Int.eq_ofNat_of_zero_le (sub_nonneg.mpr h3)
  obtain ⟨b, hb⟩ := Int.eq_ofNat_of_zero_le (sub_nonneg.mpr h4)
  obtain rfl : HW = (m : ℤ) + a := by omega
  obtain rfl : HH = (n : ℤ) + b := by omega
  have t : ∀ k : ℕ, (2 * (k : ℤ) + 1).toNat = 2 * k + 1 := fun k => by omega
  have t' : ∀ k l : ℕ, (2 * ((k : ℤ) + l) + 1).toNat = 2 * (k + l) + 1 := fun k l => by omega
  unfold annulusOf
  simp only [Gen.annulus_pad_before_rows, Gen.annulus_pad_after_rows, Gen.annulus_pad_before_cols,
    Gen.annulus_pad_after_cols, t, t']
  have e1 : (((2 * (n + b) + 1 : ℕ) : ℤ) - ((2 * n + 1 : ℕ) : ℤ)) = 2 * (b : ℤ) := by omega
  have e2 : (((2 * (m + a) + 1 : ℕ) : ℤ) - ((2 * m + 1 : ℕ) : ℤ)) = 2 * (a : ℤ) := by omega
  rw [e1, e2, pyFloorDiv_two, pyFloorDiv_two]
  unfold pad
  have c : ¬ ((b : ℤ) < 0 ∨ (b : ℤ) < 0 ∨ (a : ℤ) < 0 ∨ (a : ℤ) < 0) := by omega
  rw [if_neg c]
  simp only [Int.toNat_natCast]
  have r : ¬ (2 * n + 1 + b + b ≠ 2 * (n + b) + 1 ∨ 2 * m + 1 + a + a ≠ 2 * (m + a) + 1) := by omega
  rw [if_neg r]
  refine ⟨_, rfl, rfl, rfl, ?_⟩
  intro i j hi hj
  simp only []
  rw [ellipseEntry_eq _ _ (by omega) (by omega) i j hi hj]
  by_cases hin : b ≤ i ∧ i < b + (2 * n + 1) ∧ a ≤ j ∧ j < a + (2 * m + 1)
  · rw [if_pos hin]
    rw [ellipseEntry_eq _ _ h1 h2 _ _ (by omega) (by omega)]
    have ex : (((j - a : ℕ) : ℤ) - m) = (j : ℤ) - (m + a) := by omega
    have ey : (((i - b : ℕ) : ℤ) - n) = (i : ℤ) - (n + b) := by omega
    rw [ex, ey]
    have hab : |(j : ℤ) - (m + a)| ≤ m ∧ |(i : ℤ) - (n + b)| ≤ n := by
      constructor <;> rw [abs_le] <;> omega
    simp [combine, Gen.annulus_outer_first, Gen.annulus_combine_op, BinOp.eval, innerAt, hab.1, hab.2]
  · rw [if_neg hin]
    have hab : ¬ (|(j : ℤ) - (m + a)| ≤ m ∧ |(i : ℤ) - (n + b)| ≤ n) := by
      intro ⟨a', b'⟩
      rw [abs_le] at a' b'
      apply hin; omega
    have : ¬ innerAt m n (j - (m + a)) (i - (n + b)) := fun h => hab ⟨h.1, h.2.1⟩
    simp [combine, Gen.annulus_outer_first, Gen.annulus_combine_op, BinOp.eval, this, ofInt, Gen.annulus_pad_constant]
end
end XrsVerif.CircleK
