import XrsVerif.Proofs.KSimp
import XrsVerif.Model.Index
/-!
  The spectral-index kernels as closed `Fl` expressions of their bands and scalars, for every number type:
  one symbolic execution per kernel, and the public function's value by looking the bands up in the wiring.
  Every kernel stores a quotient under a `denominator ≠ 0` test and otherwise leaves the NaN the output was
  allocated with (`guarded`).
-/
set_option linter.unusedSectionVars false
namespace XrsVerif
open Gen

section closed
variable {F : Type} [Fl F]

def guarded (d v : F) : F := if Fl.eq d (Fl.lit 0 1) then Fl.nan else v

/-- the kernels spell the test `denominator != 0` -/
theorem ite_eq_false_swap {α : Type} (b : Bool) (x y : α) :
    (if b = false then x else y) = if b = true then y else x := by
  cases b <;> rfl

/-- `_normalized_ratio_cpu`, the kernel behind ndvi, ndmi, nbr and nbr2 -/
def ndF (a b : F) : F := guarded (Fl.add a b) (Fl.div (Fl.sub a b) (Fl.add a b))

/-- a public function that hands the bands `x`, `y` to `_normalized_ratio_cpu` -/
theorem normalized_ratio_value (w : IndexWiring) (x y : String) (hk : w.kernel = normalized_ratio_cpu)
    (ha : w.arrays = [x, y]) (pub : String → F) : w.value pub = ndF (pub x) (pub y) := by
  rw [IndexWiring.value, hk, ha]
  simp [kl, normalized_ratio_cpu, ndF, guarded, apply_ite KSt.out]

def arviF (nir red blue : F) : F :=
  guarded (Fl.add (Fl.add nir (Fl.mul (Fl.lit 2 1) red)) blue)
    (Fl.div (Fl.add (Fl.sub nir (Fl.mul (Fl.lit 2 1) red)) blue) (Fl.add (Fl.add nir (Fl.mul (Fl.lit 2 1) red)) blue))

theorem arvi_value (pub : String → F) :
    arvi_wiring.value pub = arviF (pub "nir_agg") (pub "red_agg") (pub "blue_agg") := by
  simp [kl, IndexWiring.value, arvi_wiring, arvi_cpu, arviF, guarded, apply_ite KSt.out, ite_eq_false_swap]

def eviF (nir red blue c1 c2 L G : F) : F :=
  guarded (Fl.add (Fl.sub (Fl.add nir (Fl.mul c1 red)) (Fl.mul c2 blue)) L)
    (Fl.mul G (Fl.div (Fl.sub nir red) (Fl.add (Fl.sub (Fl.add nir (Fl.mul c1 red)) (Fl.mul c2 blue)) L)))

theorem evi_value (pub : String → F) :
    evi_wiring.value pub = eviF (pub "nir_agg") (pub "red_agg") (pub "blue_agg") (pub "c1") (pub "c2")
      (pub "soil_factor") (pub "gain") := by
  simp [kl, IndexWiring.value, evi_wiring, evi_cpu, eviF, guarded, apply_ite KSt.out, ite_eq_false_swap]

def gciF (nir green : F) : F := guarded green (Fl.sub (Fl.div nir green) (Fl.lit 1 1))

theorem gci_value (pub : String → F) : gci_wiring.value pub = gciF (pub "nir_agg") (pub "green_agg") := by
  simp [kl, IndexWiring.value, gci_wiring, gci_cpu, gciF, guarded, apply_ite KSt.out, ite_eq_false_swap]

def saviF (nir red L : F) : F :=
  guarded (Fl.mul (Fl.add (Fl.add nir red) L) (Fl.add (Fl.lit 1 1) L))
    (Fl.div (Fl.sub nir red) (Fl.mul (Fl.add (Fl.add nir red) L) (Fl.add (Fl.lit 1 1) L)))

theorem savi_value (pub : String → F) :
    savi_wiring.value pub = saviF (pub "nir_agg") (pub "red_agg") (pub "soil_factor") := by
  simp [kl, IndexWiring.value, savi_wiring, savi_cpu, saviF, guarded, apply_ite KSt.out, ite_eq_false_swap]

def sipiF (nir red blue : F) : F := guarded (Fl.sub nir red) (Fl.div (Fl.sub nir blue) (Fl.sub nir red))

theorem sipi_value (pub : String → F) :
    sipi_wiring.value pub = sipiF (pub "nir_agg") (pub "red_agg") (pub "blue_agg") := by
  simp [kl, IndexWiring.value, sipi_wiring, sipi_cpu, sipiF, guarded, apply_ite KSt.out, ite_eq_false_swap]

def ebbiF (red swir tir : F) : F :=
  guarded (Fl.mul (Fl.lit 10 1) (Fl.sqrt (Fl.add swir tir)))
    (Fl.div (Fl.sub swir red) (Fl.mul (Fl.lit 10 1) (Fl.sqrt (Fl.add swir tir))))

theorem ebbi_value (pub : String → F) :
    ebbi_wiring.value pub = ebbiF (pub "red_agg") (pub "swir_agg") (pub "tir_agg") := by
  simp [kl, IndexWiring.value, ebbi_wiring, ebbi_cpu, ebbiF, guarded, apply_ite KSt.out, ite_eq_false_swap]

end closed

section nv
variable {K : Type} [Field K] [LinearOrder K] [IsStrictOrderedRing K] [Trig K]

@[simp] theorem guarded_some (d : K) (v : NV K) : guarded (some d : NV K) v = if d = 0 then none else v := by
  simp [guarded]

@[simp] theorem guarded_nan (d : NV K) : guarded d (none : NV K) = none := ite_self _

theorem ndF_nan_left (b : NV K) : ndF (none : NV K) b = none := by simp [ndF]
theorem ndF_nan_right (a : NV K) : ndF a (none : NV K) = none := by simp [ndF]

theorem ndF_some (a b : K) :
    ndF (some a : NV K) (some b) = if a + b = 0 then none else some ((a - b) / (a + b)) := by
  simp [ndF]

theorem arviF_nan (nir red blue : NV K) (h : nir = none ∨ red = none ∨ blue = none) :
    arviF nir red blue = none := by
  rcases h with rfl | rfl | rfl <;> simp [arviF]

theorem eviF_nan (nir red blue c1 c2 L G : NV K) (h : nir = none ∨ red = none ∨ blue = none) :
    eviF nir red blue c1 c2 L G = none := by
  rcases h with rfl | rfl | rfl <;> simp [eviF]

theorem gciF_nan (nir green : NV K) (h : nir = none ∨ green = none) : gciF nir green = none := by
  rcases h with rfl | rfl <;> simp [gciF]

theorem saviF_nan (nir red L : NV K) (h : nir = none ∨ red = none) : saviF nir red L = none := by
  rcases h with rfl | rfl <;> simp [saviF]

theorem sipiF_nan (nir red blue : NV K) (h : nir = none ∨ red = none ∨ blue = none) :
    sipiF nir red blue = none := by
  rcases h with rfl | rfl | rfl <;> simp [sipiF]

theorem ebbiF_nan (red swir tir : NV K) (h : red = none ∨ swir = none ∨ tir = none) :
    ebbiF red swir tir = none := by
  rcases h with rfl | rfl | rfl <;> simp [ebbiF]

end nv

end XrsVerif
