import XrsVerif.Core.ILang
import XrsVerif.Proofs.ListFold
import XrsVerif.Proofs.SimpAttr
/-
  Lemmas about the interpreter of Core/ILang.lean that mention no model and no generated program; the refinement
  proofs "generated program = hand model" (Proofs/IL*.lean) step through programs with them.  For a statement with a
  bounds check (`setI`, `setF`, `setB`, `ite`, stores, allocations, `forRange`, `forIn`) `exec_X_def` is the equation
  with the check and, for all but the stores and `forIn`, `exec_X` the rule under the hypothesis that the check passes.
  What is true of lists alone (`getD_set`, row-major offsets, folds of stores) is in Proofs/ListFold.lean.

  The namespaces `XrsVerif.IL`, `XrsVerif.ILVs`, `XrsVerif.ILSw`, `XrsVerif.IL.Fc` and the second names `IL.Rg.x`,
  `IL.Sd.x` of this file are named after the areas that needed a rule first (viewshed's status tree, viewshed's sweep,
  focal, regions, zonal's strides) and say nothing of what a rule is for: a refinement proof opens
  `XrsVerif.IL XrsVerif.ILVs XrsVerif.IL.Fc`.
-/
namespace XrsVerif.IL
open XrsVerif
variable {F : Type} [Fl F]
set_option linter.unusedSectionVars false

theorem setS_apply {α} (env : String → α) (v w : String) (x : α) :
    setS env v x w = if w = v then x else env w := rfl

theorem setS_setS {α} (env : String → α) (v : String) (x y : α) :
    setS (setS env v x) v y = setS env v y := by
  funext w; simp only [setS]; split <;> rfl

theorem setS_self {α} (env : String → α) (v : String) : setS env v (env v) = env := by
  funext w; simp only [setS]; split <;> simp_all

theorem setS_comm {α} (env : String → α) (v w : String) (x y : α) (h : v ≠ w) :
    setS (setS env v x) w y = setS (setS env w y) v x := by
  funext u; simp only [setS]; by_cases h1 : u = w <;> by_cases h2 : u = v <;> simp [h1, h2]
  · exact absurd (h2.symm.trans h1) h
  · intro e; exact absurd e.symm h
  · intro e; exact absurd e h

theorem State.eta_ctl (s : State F) (c : Ctl) (h : s.ctl = c) : { s with ctl := c } = s := by
  cases s; simp_all

theorem inRange_iff (i : Int) (n : Nat) :
    inRange i n = true ↔ (0 ≤ i ∧ i < n) ∨ (i < 0 ∧ 0 ≤ i + n) := by
  unfold inRange normIdx
  split <;> simp <;> omega

theorem normIdx_nonneg (i : Int) (n : Nat) (h : 0 ≤ i) : normIdx i n = i := by
  unfold normIdx; simp; omega

theorem normIdx_nat (i n : Nat) : normIdx (i : Int) n = i := normIdx_nonneg _ _ (by omega)

theorem inRange_of_nonneg_lt (i : Int) (n : Nat) (h0 : 0 ≤ i) (h1 : i < n) : inRange i n = true := by
  rw [inRange_iff]; omega

theorem Rg.inRange_of_nonneg_lt (i : Int) (n : Nat) (h0 : 0 ≤ i) (h1 : i < n) : inRange i n = true :=
  IL.inRange_of_nonneg_lt i n h0 h1

theorem inRange_of_lt (i n : Nat) (h : i < n) : inRange (i : Int) n = true := by
  rw [inRange_iff]; omega

/-- an index at or beyond the extent is out of range (numba does not wrap it) -/
theorem inRange_ge (i : Int) (n : Nat) (h : (n : Int) ≤ i) : inRange i n = false := by
  rw [← Bool.not_eq_true, inRange_iff]; omega

theorem off1_nonneg (n : Nat) (i : Int) (hi : 0 ≤ i) : off1 [n] i = i.toNat := by
  unfold off1; simp [normIdx_nonneg, hi]

theorem Rg.off1_nonneg (n : Nat) (i : Int) (hi : 0 ≤ i) : off1 [n] i = i.toNat :=
  IL.off1_nonneg n i hi

theorem off1_nat (n i : Nat) : off1 [n] (i : Int) = i := by
  unfold off1; simp [normIdx_nat]

theorem off2_nonneg (r c : Nat) (i j : Int) (hi : 0 ≤ i) (hj : 0 ≤ j) :
    off2 [r, c] i j = i.toNat * c + j.toNat := by
  unfold off2; simp [normIdx_nonneg, hi, hj]

theorem Rg.off2_nonneg (r c : Nat) (i j : Int) (hi : 0 ≤ i) (hj : 0 ≤ j) :
    off2 [r, c] i j = i.toNat * c + j.toNat :=
  IL.off2_nonneg r c i j hi hj

theorem off2_nat (r c i j : Nat) : off2 [r, c] (i : Int) (j : Int) = i * c + j := by
  unfold off2; simp [normIdx_nat]

theorem getD_pair_0 {α} (a b d : α) : [a, b].getD 0 d = a := rfl
theorem getD_pair_1 {α} (a b d : α) : [a, b].getD 1 d = b := rfl
theorem getD_single_0 {α} (a d : α) : [a].getD 0 d = a := rfl

/- `simp [il, <the block>, <facts about the state>]` runs a block of straight-line code: `il` holds the equations of `exec`
   and of the evaluators of expressions (array reads included: their bounds checks are decided by facts `inRange … = true`
   given to the call), the operators, and reads of an updated environment and of a literal shape.  Two traps.

   The call is made with the default simp set, which turns `l.getD k d` into `l[k]?.getD d`
   (`List.getD_eq_getElem?_getD`).  An array read comes out in that form, and a fact about an array that the call is to
   use has to be stated in it (Proofs/ILBin.lean, ILMean*.lean do so) -- unless the file takes the lemma out of the
   default set, `attribute [-simp] List.getD_eq_getElem?_getD` under its `open` lines (Proofs/ILAStar*.lean,
   ILProx*.lean), and states its facts with `getD`, the form in which `getD_set` … of Proofs/ListFold.lean are written.

   `il` contains `IOp.eval`, so `max`, `min`, `//` come out unfolded (`if b > a then b else a`, `Int.fdiv`), and the
   lemmas `Fc.iop_max`, `iop_min`, `iop_add`, `iop_sub` of Proofs/ILangFocal.lean, which keep `max` and `min`, cannot be
   put into the same call.  A block with `max` / `min` is run by the list `exec_seq, exec_setI_def, IE.ok, IE.eval,
   iop_max, …` written out (`Focal.conv_cell_pre`, Proofs/ILFocal.lean); for `// 2` there is `fdiv_two`. -/
attribute [il] exec BE.ok BE.eval IE.ok IE.eval FE.ok FE.eval IOp.eval cmpInt CmpOp.eval BinOp.eval UnOp.eval State.error
  setS_apply getD_pair_0 getD_pair_1 getD_single_0

/-- `a // 2` (Python floor division as translated: `Int.fdiv`) is Lean's `a / 2` -/
theorem fdiv_two (a : Int) : Int.fdiv a 2 = a / 2 := by
  rw [Int.fdiv_eq_ediv_of_nonneg] ; decide

theorem exec_skip (fuel : Nat) (s : State F) : exec fuel .skip s = s := by simp only [exec]
theorem exec_brk (fuel : Nat) (s : State F) : exec fuel .brk s = { s with ctl := .brk } := by simp only [exec]
theorem exec_cont (fuel : Nat) (s : State F) : exec fuel .cont s = { s with ctl := .cont } := by simp only [exec]
theorem exec_ret (fuel : Nat) (s : State F) : exec fuel .ret s = { s with ctl := .ret } := by simp only [exec]
theorem exec_fail (fuel : Nat) (m : String) (s : State F) : exec fuel (.fail m) s = s.error m := by simp only [exec]

theorem exec_seq (fuel : Nat) (a b : St) (s : State F) :
    exec fuel (.seq a b) s =
      if (exec fuel a s).ctl = .run then exec fuel b (exec fuel a s) else exec fuel a s := by
  simp only [exec]

theorem exec_seq_run (fuel : Nat) (a b : St) (s : State F) (h : (exec fuel a s).ctl = .run) :
    exec fuel (.seq a b) s = exec fuel b (exec fuel a s) := by
  rw [exec_seq, if_pos h]

theorem exec_seq_stop (fuel : Nat) (a b : St) (s : State F) (h : (exec fuel a s).ctl ≠ .run) :
    exec fuel (.seq a b) s = exec fuel a s := by
  rw [exec_seq, if_neg h]

theorem Sd.exec_seq_stop_eq (fuel : Nat) (a b : St) (s s1 : State F) (h : exec fuel a s = s1) (hc : s1.ctl ≠ .run) :
    exec fuel (.seq a b) s = s1 := by
  subst h; exact exec_seq_stop fuel a b s hc

theorem Rg.exec_seq_stop (fuel : Nat) (a b : St) (s s1 : State F) (h : exec fuel a s = s1) (hc : s1.ctl ≠ .run) :
    exec fuel (.seq a b) s = s1 :=
  Sd.exec_seq_stop_eq fuel a b s s1 h hc

theorem exec_seq_eq (fuel : Nat) (a b : St) (s s1 : State F) (h : exec fuel a s = s1) (hc : s1.ctl = .run) :
    exec fuel (.seq a b) s = exec fuel b s1 := by
  subst h; exact exec_seq_run fuel a b s hc

theorem Rg.exec_seq_eq (fuel : Nat) (a b : St) (s s1 : State F) (h : exec fuel a s = s1) (hc : s1.ctl = .run) :
    exec fuel (.seq a b) s = exec fuel b s1 :=
  IL.exec_seq_eq fuel a b s s1 h hc

/-- sequencing is associative (the translator nests to the right; proofs may regroup) -/
theorem exec_seq_assoc (fuel : Nat) (a b c : St) (s : State F) :
    exec fuel (.seq a (.seq b c)) s = exec fuel (.seq (.seq a b) c) s := by
  simp only [exec_seq]
  by_cases h1 : (exec fuel a s).ctl = .run
  · simp only [h1, if_true]
  · simp only [h1, if_false]

theorem exec_setI_def (fuel : Nat) (v : String) (e : IE) (s : State F) :
    exec fuel (.setI v e) s = if e.ok s then { s with ienv := setS s.ienv v (e.eval s) } else s.error "index" := by
  simp only [exec]

theorem exec_setI (fuel : Nat) (v : String) (e : IE) (s : State F) (h : e.ok s = true) :
    exec fuel (.setI v e) s = { s with ienv := setS s.ienv v (e.eval s) } := by
  rw [exec_setI_def, if_pos h]

theorem exec_setI_eq (fuel : Nat) (x : String) (e : IE) (s : State F) (v : Int) (hok : e.ok s = true)
    (hv : e.eval s = v) : exec fuel (.setI x e) s = { s with ienv := setS s.ienv x v } := by
  rw [exec_setI fuel x e s hok, hv]

theorem exec_setI_lit (fuel : Nat) (v : String) (n : Int) (s : State F) :
    exec fuel (.setI v (.lit n)) s = { s with ienv := setS s.ienv v n } :=
  exec_setI fuel v (.lit n) s rfl

theorem exec_setF_def (fuel : Nat) (v : String) (e : FE) (s : State F) :
    exec fuel (.setF v e) s = if e.ok s then { s with fenv := setS s.fenv v (e.eval s) } else s.error "index" := by
  simp only [exec]

theorem exec_setF (fuel : Nat) (v : String) (e : FE) (s : State F) (h : e.ok s = true) :
    exec fuel (.setF v e) s = { s with fenv := setS s.fenv v (e.eval s) } := by
  rw [exec_setF_def, if_pos h]

theorem exec_setB_def (fuel : Nat) (v : String) (c : BE) (s : State F) :
    exec fuel (.setB v c) s = if c.ok s then { s with benv := setS s.benv v (c.eval s) } else s.error "index" := by
  simp only [exec]

theorem exec_setB (fuel : Nat) (v : String) (c : BE) (s : State F) (h : c.ok s = true) :
    exec fuel (.setB v c) s = { s with benv := setS s.benv v (c.eval s) } := by
  rw [exec_setB_def, if_pos h]

theorem exec_ite_def (fuel : Nat) (c : BE) (t f : St) (s : State F) :
    exec fuel (.ite c t f) s =
      if c.ok s then (if c.eval s then exec fuel t s else exec fuel f s) else s.error "index" := by
  simp only [exec]

theorem exec_ite (fuel : Nat) (c : BE) (t f : St) (s : State F) (hok : c.ok s = true) :
    exec fuel (.ite c t f) s = if c.eval s then exec fuel t s else exec fuel f s := by
  rw [exec_ite_def, if_pos hok]

theorem exec_ite_true (fuel : Nat) (c : BE) (t f : St) (s : State F) (hok : c.ok s = true)
    (h : c.eval s = true) : exec fuel (.ite c t f) s = exec fuel t s := by
  rw [exec_ite fuel c t f s hok, if_pos h]

theorem exec_ite_false (fuel : Nat) (c : BE) (t f : St) (s : State F) (hok : c.ok s = true)
    (h : c.eval s = false) : exec fuel (.ite c t f) s = exec fuel f s := by
  rw [exec_ite fuel c t f s hok, h]; rfl

theorem exec_ite_err (fuel : Nat) (c : BE) (t f : St) (s : State F) (hok : c.ok s = false) :
    exec fuel (.ite c t f) s = s.error "index" := by
  rw [exec_ite_def, hok]; rfl

theorem exec_stF1_def (fuel : Nat) (a : String) (i : IE) (e : FE) (s : State F) :
    exec fuel (.stF1 a i e) s =
      if i.ok s && e.ok s && decide ((s.shp a).length = 1) && inRange (i.eval s) ((s.shp a).getD 0 0) then
        { s with fa := setS s.fa a ((s.fa a).set (off1 (s.shp a) (i.eval s)) (e.eval s)) }
      else s.error "index" := by
  simp only [exec]

theorem exec_stF2_def (fuel : Nat) (a : String) (i j : IE) (e : FE) (s : State F) :
    exec fuel (.stF2 a i j e) s =
      if i.ok s && j.ok s && e.ok s && decide ((s.shp a).length = 2) &&
          inRange (i.eval s) ((s.shp a).getD 0 0) && inRange (j.eval s) ((s.shp a).getD 1 0) then
        { s with fa := setS s.fa a ((s.fa a).set (off2 (s.shp a) (i.eval s) (j.eval s)) (e.eval s)) }
      else s.error "index" := by
  simp only [exec]

theorem exec_stI1_def (fuel : Nat) (a : String) (i : IE) (e : IE) (s : State F) :
    exec fuel (.stI1 a i e) s =
      if i.ok s && e.ok s && decide ((s.shp a).length = 1) && inRange (i.eval s) ((s.shp a).getD 0 0) then
        { s with ia := setS s.ia a ((s.ia a).set (off1 (s.shp a) (i.eval s)) (e.eval s)) }
      else s.error "index" := by
  simp only [exec]

theorem exec_stI2_def (fuel : Nat) (a : String) (i j : IE) (e : IE) (s : State F) :
    exec fuel (.stI2 a i j e) s =
      if i.ok s && j.ok s && e.ok s && decide ((s.shp a).length = 2) &&
          inRange (i.eval s) ((s.shp a).getD 0 0) && inRange (j.eval s) ((s.shp a).getD 1 0) then
        { s with ia := setS s.ia a ((s.ia a).set (off2 (s.shp a) (i.eval s) (j.eval s)) (e.eval s)) }
      else s.error "index" := by
  simp only [exec]

theorem FE.ld2_nat (s : State F) (a : String) (i j : IE) (r c p q : Nat) (hs : s.shp a = [r, c])
    (hi : i.ok s = true) (hj : j.ok s = true) (hiv : i.eval s = (p : Int)) (hjv : j.eval s = (q : Int))
    (hp : p < r) (hq : q < c) :
    (FE.ld2 a i j).ok s = true ∧ (FE.ld2 a i j).eval s = (s.fa a).getD (p * c + q) Fl.nan := by
  simp [FE.ok, FE.eval, hs, hi, hj, hiv, hjv, inRange_of_lt _ _ hp, inRange_of_lt _ _ hq, off2_nat]

theorem FE.ld1_nat (s : State F) (a : String) (i : IE) (n p : Nat) (hs : s.shp a = [n])
    (hi : i.ok s = true) (hiv : i.eval s = (p : Int)) (hp : p < n) :
    (FE.ld1 a i).ok s = true ∧ (FE.ld1 a i).eval s = (s.fa a).getD p Fl.nan := by
  simp [FE.ok, FE.eval, hs, hi, hiv, inRange_of_lt _ _ hp, off1_nat]

theorem IE.ld1_nat (s : State F) (a : String) (i : IE) (n p : Nat) (hs : s.shp a = [n])
    (hi : i.ok s = true) (hiv : i.eval s = (p : Int)) (hp : p < n) :
    (IE.ld1 a i).ok s = true ∧ (IE.ld1 a i).eval s = (s.ia a).getD p 0 := by
  simp [IE.ok, IE.eval, hs, hi, hiv, inRange_of_lt _ _ hp, off1_nat]

theorem exec_stF2_nat (fuel : Nat) (a : String) (i j : IE) (e : FE) (s : State F) (r c p q : Nat)
    (hs : s.shp a = [r, c]) (hi : i.ok s = true) (hj : j.ok s = true) (he : e.ok s = true)
    (hiv : i.eval s = (p : Int)) (hjv : j.eval s = (q : Int)) (hp : p < r) (hq : q < c) :
    exec fuel (.stF2 a i j e) s = { s with fa := setS s.fa a ((s.fa a).set (p * c + q) (e.eval s)) } := by
  simp [exec_stF2_def, hs, hi, hj, he, hiv, hjv, inRange_of_lt _ _ hp, inRange_of_lt _ _ hq, off2_nat]

theorem Rg.IE.eval_congr (e : IE) (s t : State F) (h1 : s.ienv = t.ienv) (h2 : s.shp = t.shp) (h3 : s.ia = t.ia) :
    e.eval s = e.eval t := by
  induction e with
  | lit n => rfl
  | var v => simp [IE.eval, h1]
  | bin op a b iha ihb => simp [IE.eval, iha, ihb]
  | neg a ih => simp [IE.eval, ih]
  | dim a k => simp [IE.eval, h2]
  | ld1 a i ih => simp [IE.eval, ih, h2, h3]
  | ld2 a i j ihi ihj => simp [IE.eval, ihi, ihj, h2, h3]
  | sum a => simp [IE.eval, h3]

theorem Rg.IE.ok_congr (e : IE) (s t : State F) (h1 : s.ienv = t.ienv) (h2 : s.shp = t.shp) (h3 : s.ia = t.ia) :
    e.ok s = e.ok t := by
  induction e with
  | lit n => rfl
  | var v => rfl
  | bin op a b iha ihb => simp [IE.ok, iha, ihb, IE.eval_congr b s t h1 h2 h3]
  | neg a ih => simp [IE.ok, ih]
  | dim a k => simp [IE.ok, h2]
  | ld1 a i ih => simp [IE.ok, ih, h2, IE.eval_congr i s t h1 h2 h3]
  | ld2 a i j ihi ihj =>
    simp [IE.ok, ihi, ihj, h2, IE.eval_congr i s t h1 h2 h3, IE.eval_congr j s t h1 h2 h3]
  | sum a => rfl

theorem exec_allocF_def (fuel : Nat) (a : String) (dims : List IE) (fill : FE) (s : State F) :
    exec fuel (.allocF a dims fill) s =
      if dims.all (·.ok s) && fill.ok s && dims.all (fun d => decide (0 ≤ d.eval s)) then
        { s with shp := setS s.shp a (dims.map fun d => (d.eval s).toNat),
                 fa := setS s.fa a (List.replicate ((dims.map fun d => (d.eval s).toNat).foldl (· * ·) 1) (fill.eval s)) }
      else s.error "alloc" := by
  simp only [exec]

theorem exec_allocF (fuel : Nat) (a : String) (dims : List IE) (fill : FE) (s : State F)
    (hok : dims.all (·.ok s) = true) (hf : fill.ok s = true) (hnn : dims.all (fun d => decide (0 ≤ d.eval s)) = true) :
    exec fuel (.allocF a dims fill) s =
      { s with shp := setS s.shp a (dims.map fun d => (d.eval s).toNat),
               fa := setS s.fa a (List.replicate ((dims.map fun d => (d.eval s).toNat).foldl (· * ·) 1) (fill.eval s)) } := by
  rw [exec_allocF_def, hok, hf, hnn]; rfl

theorem exec_allocI_def (fuel : Nat) (a : String) (dims : List IE) (fill : IE) (s : State F) :
    exec fuel (.allocI a dims fill) s =
      if dims.all (·.ok s) && fill.ok s && dims.all (fun d => decide (0 ≤ d.eval s)) then
        { s with shp := setS s.shp a (dims.map fun d => (d.eval s).toNat),
                 ia := setS s.ia a (List.replicate ((dims.map fun d => (d.eval s).toNat).foldl (· * ·) 1) (fill.eval s)) }
      else s.error "alloc" := by
  simp only [exec]

theorem exec_allocI (fuel : Nat) (a : String) (dims : List IE) (fill : IE) (s : State F)
    (hok : dims.all (·.ok s) = true) (hf : fill.ok s = true) (hnn : dims.all (fun d => decide (0 ≤ d.eval s)) = true) :
    exec fuel (.allocI a dims fill) s =
      { s with shp := setS s.shp a (dims.map fun d => (d.eval s).toNat),
               ia := setS s.ia a (List.replicate ((dims.map fun d => (d.eval s).toNat).foldl (· * ·) 1) (fill.eval s)) } := by
  rw [exec_allocI_def, hok, hf, hnn]; rfl

theorem exec_forRange_def (fuel : Nat) (v : String) (lo hi step : IE) (body : St) (s : State F) :
    exec fuel (.forRange v lo hi step body) s =
      if lo.ok s && hi.ok s && step.ok s && decide (step.eval s ≠ 0) then
        loopOver (fun st i => exec fuel body { st with ienv := setS st.ienv v i })
          (rangeList (lo.eval s) (hi.eval s) (step.eval s)) s
      else s.error "index" := by
  simp only [exec]

theorem Rg.exec_forRange (fuel : Nat) (v : String) (lo hi step : IE) (body : St) (s : State F) :
    exec fuel (.forRange v lo hi step body) s =
      if lo.ok s && hi.ok s && step.ok s && decide (step.eval s ≠ 0) then
        loopOver (fun st i => exec fuel body { st with ienv := setS st.ienv v i })
          (rangeList (lo.eval s) (hi.eval s) (step.eval s)) s
      else s.error "index" :=
  exec_forRange_def fuel v lo hi step body s

theorem exec_forRange (fuel : Nat) (v : String) (lo hi step : IE) (body : St) (s : State F)
    (h : (lo.ok s && hi.ok s && step.ok s && decide (step.eval s ≠ 0)) = true) :
    exec fuel (.forRange v lo hi step body) s =
      loopOver (fun st i => exec fuel body { st with ienv := setS st.ienv v i })
        (rangeList (lo.eval s) (hi.eval s) (step.eval s)) s := by
  rw [exec_forRange_def, if_pos h]

theorem exec_forIn_def (fuel : Nat) (v a : String) (body : St) (s : State F) :
    exec fuel (.forIn v a body) s =
      if (s.shp a).length = 1 then
        loopOver (fun st x => exec fuel body { st with fenv := setS st.fenv v x }) (s.fa a) s
      else s.error "index" := by
  rw [exec]

theorem exec_scope (fuel : Nat) (b : St) (s : State F) :
    exec fuel (.scope b) s =
      if (exec fuel b s).ctl = .ret then { exec fuel b s with ctl := .run } else exec fuel b s := by
  simp only [exec]

theorem exec_scope_eq {fuel : Nat} {a : St} {s s1 : State F} (h : exec fuel a s = s1) :
    exec fuel (.scope a) s = if s1.ctl = .ret then { s1 with ctl := .run } else s1 := by
  rw [exec]; simp only [h]

theorem exec_scope_ret (fuel : Nat) (body : St) (s : State F) (h : (exec fuel body s).ctl = .ret) :
    exec fuel (.scope body) s = { exec fuel body s with ctl := .run } := by
  simp only [exec, h, if_true]

theorem exec_scope_other (fuel : Nat) (body : St) (s : State F) (h : (exec fuel body s).ctl ≠ .ret) :
    exec fuel (.scope body) s = exec fuel body s := by
  simp only [exec, h, if_false]

theorem exec_while_zero (c : BE) (body : St) (s : State F) :
    exec 0 (.while c body) s = s.error "fuel" := by
  simp only [exec]

theorem exec_while_exit (fuel : Nat) (c : BE) (b : St) (s : State F) (hok : c.ok s = true)
    (h : c.eval s = false) : exec (fuel + 1) (.while c b) s = s := by
  simp [exec, hok, h]

theorem exec_while_step (fuel : Nat) (c : BE) (body : St) (s : State F)
    (hok : c.ok s = true) (hc : c.eval s = true)
    (hb : (exec fuel body s).ctl = .run ∨ (exec fuel body s).ctl = .cont) :
    exec (fuel + 1) (.while c body) s =
      exec fuel (.while c body) { exec fuel body s with ctl := .run } := by
  simp only [exec, hok, hc, if_true]
  rcases hb with hb | hb
  · simp only [hb]
    congr 1
    cases h : exec fuel body s
    simp_all
  · simp only [hb]

theorem exec_while_step_run (fuel : Nat) (c : BE) (b : St) (s : State F) (hok : c.ok s = true)
    (h : c.eval s = true) (hb : (exec fuel b s).ctl = .run) :
    exec (fuel + 1) (.while c b) s = exec fuel (.while c b) (exec fuel b s) := by
  rw [exec_while_step fuel c b s hok h (Or.inl hb), State.eta_ctl _ _ hb]

theorem exec_while_brk (fuel : Nat) (c : BE) (b : St) (s : State F) (hok : c.ok s = true)
    (h : c.eval s = true) (hb : (exec fuel b s).ctl = .brk) :
    exec (fuel + 1) (.while c b) s = { exec fuel b s with ctl := .run } := by
  simp only [exec, hok, h, if_true, hb]

theorem exec_while_ret (fuel : Nat) (c : BE) (b : St) (s : State F) (hok : c.ok s = true)
    (h : c.eval s = true) (hb : (exec fuel b s).ctl = .ret) :
    exec (fuel + 1) (.while c b) s = exec fuel b s := by
  simp only [exec, hok, h, if_true, hb]

/-- `while`: the invariant `I k` carries a bound `k` on the iterations still to come; the body is run with the fuel the
    loop has left, at least `k` units, and the loop, given more than `k`, ends in `Q`. -/
theorem while_rule (c : BE) (b : St) (I : Nat → State F → Prop) (Q : State F → Prop)
    (step : ∀ (fuel k : Nat) (s : State F), k ≤ fuel → I k s → c.ok s = true ∧ (c.eval s = false → Q s) ∧
      (c.eval s = true →
        ((exec fuel b s).ctl = .run ∧ ∃ k', k' < k ∧ I k' (exec fuel b s)) ∨
        ((exec fuel b s).ctl = .cont ∧ ∃ k', k' < k ∧ I k' { exec fuel b s with ctl := .run }) ∨
        ((exec fuel b s).ctl = .brk ∧ Q { exec fuel b s with ctl := .run }) ∨
        ((exec fuel b s).ctl = .ret ∧ Q (exec fuel b s)))) :
    ∀ (k fuel : Nat) (s : State F), I k s → k < fuel → Q (exec fuel (.while c b) s) := by
  intro k
  induction k using Nat.strongRecOn with
  | _ k ih =>
    intro fuel s hI hf
    obtain ⟨fuel, rfl⟩ : ∃ f, fuel = f + 1 := ⟨fuel - 1, by omega⟩
    obtain ⟨hok, hex, hst⟩ := step fuel k s (by omega) hI
    cases hc : c.eval s with
    | false => rw [exec_while_exit _ _ _ _ hok hc]; exact hex hc
    | true =>
      rcases hst hc with ⟨hrun, k', hk', hI'⟩ | ⟨hcont, k', hk', hI'⟩ | ⟨hbrk, hq⟩ | ⟨hret, hq⟩
      · rw [exec_while_step_run _ _ _ _ hok hc hrun]; exact ih k' hk' fuel _ hI' (by omega)
      · rw [exec_while_step _ _ _ _ hok hc (Or.inr hcont)]; exact ih k' hk' fuel _ hI' (by omega)
      · rw [exec_while_brk _ _ _ _ hok hc hbrk]; exact hq
      · rw [exec_while_ret _ _ _ _ hok hc hret]; exact hq

/-! ### `for`: which rule when

  A `for` is `loopOver` over the list its range or array evaluates to; `loopOver_rule` is the invariant rule of that
  fold, and four families of rules for the statement rest on it.
  * `forRange_rule`, `_up`, `_down`, `_list` (this file): the body is run at `{ st with ienv := setS st.ienv v x }`, the
    step speaks of `afterBody (exec …)`, so the body may end in `continue`; no frame: what the loop leaves alone is part
    of the invariant.
  * `forRange_up_mods` (Proofs/ILangFrame.lean): `forRange_up` that also hands the step `Mods … s st` (`st` differs from
    the state `s` in front of the loop only in what the loop writes) and concludes it of the final state.
  * `Fc.exec_forRange_inv` and its forms, `Fc.exec_for2_sim` / `_map`, `Fc.exec_forIn_any` (Proofs/ILangFocal.lean): the
    step gets `st` with `st.ienv v = x` and that frame, so the invariant speaks only of what the loop computes (and must
    not look at `v`); it speaks of `exec fuel body st` itself, which is to end in `run` or leave the loop: a body that
    may end in `continue` is not covered (only the searches `_any` accept it).
  * `exec_sweep`, `exec_sweep_foldl` (Proofs/ILangRaster.lean): the raster double loop with the step about
    `afterBody (exec …)` and an invariant indexed by the cells done; no frame.

  The rules of ILangFocal first; for a body with `continue`, `exec_sweep*` if it is a raster double loop, else
  `forRange_up_mods` or `forRange_rule`. -/

@[simp] theorem afterBody_run (s : State F) (h : s.ctl = .run) : afterBody s = s := by
  simp [afterBody, h]

theorem afterBody_of_ne_cont (s : State F) (h : s.ctl ≠ .cont) : afterBody s = s := by
  unfold afterBody; split <;> simp_all

theorem afterBody_ctl_run (s : State F) : (afterBody s).ctl = .run ↔ s.ctl = .run ∨ s.ctl = .cont := by
  unfold afterBody; split <;> simp_all

@[simp] theorem afterLoop_run (s : State F) (h : s.ctl = .run) : afterLoop s = s := by
  simp [afterLoop, h]

theorem afterLoop_err (s : State F) (m : String) (h : s.ctl = .err m) : afterLoop s = s := by
  simp [afterLoop, h]

theorem foldl_stuck {α} (f : State F → α → State F) (xs : List α) (s : State F) (h : s.ctl ≠ .run) :
    xs.foldl (fun st x => if st.ctl = .run then afterBody (f st x) else st) s = s := by
  induction xs with
  | nil => rfl
  | cons x xs ih => simp [List.foldl_cons, h, ih]

@[simp] theorem loopOver_nil {α} (f : State F → α → State F) (s : State F) :
    loopOver f [] s = afterLoop s := rfl

theorem loopOver_cons {α} (f : State F → α → State F) (x : α) (xs : List α) (s : State F)
    (h : s.ctl = .run) :
    loopOver f (x :: xs) s =
      if (afterBody (f s x)).ctl = .run then loopOver f xs (afterBody (f s x))
      else afterLoop (afterBody (f s x)) := by
  unfold loopOver
  simp only [List.foldl_cons, h, if_true]
  split
  · rfl
  · rename_i hne
    rw [foldl_stuck _ _ _ hne]

theorem loopOver_stop {α} (f : State F → α → State F) (xs : List α) (s : State F) (h : s.ctl ≠ .run) :
    loopOver f xs s = afterLoop s := by
  unfold loopOver; rw [foldl_stuck _ _ _ h]

theorem loopOver_cons_run {α} (f : State F → α → State F) (x : α) (xs : List α) (s : State F)
    (h : s.ctl = .run) (hb : (afterBody (f s x)).ctl = .run) :
    loopOver f (x :: xs) s = loopOver f xs (afterBody (f s x)) := by
  rw [loopOver_cons _ _ _ _ h, if_pos hb]

theorem loopOver_cons_exit {α} (f : State F → α → State F) (x : α) (xs : List α) (s : State F)
    (h : s.ctl = .run) (h1 : (f s x).ctl ≠ .run) (h2 : (f s x).ctl ≠ .cont) :
    loopOver f (x :: xs) s = afterLoop (f s x) := by
  rw [loopOver_cons _ _ _ _ h, afterBody_of_ne_cont _ h2, if_neg h1]

theorem loopOver_cons_brk {α} (f : State F → α → State F) (x : α) (xs : List α) (s : State F)
    (h : s.ctl = .run) (hb : (f s x).ctl = .brk) :
    loopOver f (x :: xs) s = { f s x with ctl := .run } := by
  rw [loopOver_cons_exit _ _ _ _ h (by simp [hb]) (by simp [hb])]
  simp [hb, afterLoop]

theorem loopOver_rule {α} (f : State F → α → State F) (xs : List α) (P : Nat → State F → Prop)
    (Q : State F → Prop) (s : State F) (h0 : s.ctl = .run) (hP : P 0 s)
    (step : ∀ (i : Nat) (hi : i < xs.length) (st : State F), st.ctl = .run → P i st →
        ((afterBody (f st xs[i])).ctl = .run ∧ P (i + 1) (afterBody (f st xs[i]))) ∨
        ((f st xs[i]).ctl ≠ .run ∧ (f st xs[i]).ctl ≠ .cont ∧ Q (afterLoop (f st xs[i])))) :
    ((loopOver f xs s).ctl = .run ∧ P xs.length (loopOver f xs s)) ∨ Q (loopOver f xs s) := by
  induction xs generalizing s P with
  | nil => simp [h0, hP]
  | cons x xs ih =>
    rcases step 0 (by simp) s h0 hP with ⟨hc, hp⟩ | ⟨h1, h2, hq⟩
    · simp only [List.getElem_cons_zero] at hc hp
      rw [loopOver_cons_run _ _ _ _ h0 hc]
      have := ih (fun i st => P (i + 1) st) (afterBody (f s x)) hc hp
        (fun i hi st hst hpi => by
          have := step (i + 1) (by simpa using hi) st hst hpi
          simpa using this)
      simpa using this
    · simp only [List.getElem_cons_zero] at h1 h2 hq
      rw [loopOver_cons_exit _ _ _ _ h0 h1 h2]
      exact Or.inr hq

theorem loopOver_inv {α} (f : State F → α → State F) (xs : List α) (P : Nat → State F → Prop)
    (s : State F) (h0 : s.ctl = .run) (hP : P 0 s)
    (step : ∀ (i : Nat) (hi : i < xs.length) (st : State F), st.ctl = .run → P i st →
        (afterBody (f st xs[i])).ctl = .run ∧ P (i + 1) (afterBody (f st xs[i]))) :
    (loopOver f xs s).ctl = .run ∧ P xs.length (loopOver f xs s) :=
  (loopOver_rule f xs P (fun _ => False) s h0 hP
    (fun i hi st hst hp => Or.inl (step i hi st hst hp))).resolve_right id

/-- a loop without early exit that computes a fold `g` of an observed value `val` -/
theorem loopOver_foldl {α β} (f : State F → α → State F) (xs : List α) (Good : State F → Prop)
    (val : State F → β) (g : β → α → β)
    (hstep : ∀ st x, x ∈ xs → st.ctl = .run → Good st →
      (afterBody (f st x)).ctl = .run ∧ Good (afterBody (f st x)) ∧ val (afterBody (f st x)) = g (val st) x)
    (s : State F) (h0 : s.ctl = .run) (hg : Good s) :
    (loopOver f xs s).ctl = .run ∧ Good (loopOver f xs s) ∧ val (loopOver f xs s) = xs.foldl g (val s) := by
  induction xs generalizing s with
  | nil => simp [h0, hg]
  | cons x xs ih =>
    obtain ⟨hc, hgd, hv⟩ := hstep s x (by simp) h0 hg
    rw [loopOver_cons_run _ _ _ _ h0 hc, List.foldl_cons, ← hv]
    exact ih (fun st y hy => hstep st y (by simp [hy])) _ hc hgd

theorem Rg.loopOver_foldl {α β} (f : State F → α → State F) (xs : List α) (Good : State F → Prop)
    (val : State F → β) (g : β → α → β)
    (hstep : ∀ st x, x ∈ xs → st.ctl = .run → Good st →
      (afterBody (f st x)).ctl = .run ∧ Good (afterBody (f st x)) ∧ val (afterBody (f st x)) = g (val st) x)
    (s : State F) (h0 : s.ctl = .run) (hg : Good s) :
    (loopOver f xs s).ctl = .run ∧ Good (loopOver f xs s) ∧ val (loopOver f xs s) = xs.foldl g (val s) :=
  IL.loopOver_foldl f xs Good val g hstep s h0 hg

/-- a search: the body sets `flag` and leaves with `break` at the first element with `m x`, and keeps `flag` false
    until then -/
theorem loopOver_any {α} (f : State F → α → State F) (xs : List α) (m : α → Bool) (flag : String)
    (Good : State F → Prop) (hctl : ∀ st c, Good st → Good { st with ctl := c })
    (hstep : ∀ st x, x ∈ xs → st.ctl = .run → Good st → st.benv flag = false →
      Good (f st x) ∧
      if m x then (f st x).ctl = .brk ∧ (f st x).benv flag = true
      else ((f st x).ctl = .run ∨ (f st x).ctl = .cont) ∧ (f st x).benv flag = false)
    (s : State F) (h0 : s.ctl = .run) (hg : Good s) (hf : s.benv flag = false) :
    (loopOver f xs s).ctl = .run ∧ Good (loopOver f xs s) ∧ (loopOver f xs s).benv flag = xs.any m := by
  -- invariant: nothing found among the first `i`; exit: found
  have h := loopOver_rule f xs (fun i st => Good st ∧ st.benv flag = false ∧ (xs.take i).any m = false)
    (fun r => r.ctl = .run ∧ Good r ∧ r.benv flag = true ∧ xs.any m = true) s h0 ⟨hg, hf, by simp⟩
    (fun i hi st hst ⟨hgs, hfs, hnone⟩ => by
      obtain ⟨hg', hb⟩ := hstep st xs[i] (List.getElem_mem hi) hst hgs hfs
      cases hm : m xs[i] with
      | true =>
        rw [hm, if_pos rfl] at hb
        refine Or.inr ⟨by simp [hb.1], by simp [hb.1], ?_⟩
        rw [show afterLoop (f st xs[i]) = { f st xs[i] with ctl := .run } by simp [afterLoop, hb.1]]
        exact ⟨rfl, hctl _ _ hg', hb.2, List.any_eq_true.mpr ⟨_, List.getElem_mem hi, hm⟩⟩
      | false =>
        rw [hm, if_neg Bool.false_ne_true] at hb
        have hab : afterBody (f st xs[i]) = { f st xs[i] with ctl := .run } := by
          rcases hb.1 with h | h
          · rw [afterBody_run _ h, State.eta_ctl _ _ h]
          · simp [afterBody, h]
        rw [hab]
        exact Or.inl ⟨rfl, hctl _ _ hg', hb.2, by rw [any_take_succ _ _ _ hi, hnone, hm]; rfl⟩)
  rcases h with ⟨hc, hgr, hfr, hnone⟩ | ⟨hc, hgr, hfr, hany⟩
  · exact ⟨hc, hgr, by rw [hfr, ← hnone, List.take_length]⟩
  · exact ⟨hc, hgr, by rw [hfr, hany]⟩

theorem rangeList_step1 (lo hi : Int) :
    rangeList lo hi 1 = (List.range (hi - lo).toNat).map (fun (k : Nat) => lo + (k : Int)) := by
  unfold rangeList
  simp only [show (1 : Int) > 0 by decide, if_true]
  have : (hi - lo + 1 - 1) / 1 = hi - lo := by
    have : hi - lo + 1 - 1 = hi - lo := by omega
    rw [this]; simp
  rw [this]
  simp

theorem rangeList_up (n : Nat) : rangeList 0 (n : Int) 1 = (List.range n).map (fun (k : Nat) => (k : Int)) := by
  rw [rangeList_step1]; simp

theorem rangeList_down (n : Nat) :
    rangeList ((n : Int) - 1) (-1) (-1) = (List.range n).reverse.map (fun (k : Nat) => (k : Int)) := by
  unfold rangeList
  have h1 : ¬ ((-1 : Int) > 0) := by decide
  have h2 : (-1 : Int) < 0 := by decide
  simp only [h1, if_false, h2, if_true]
  have : ((n : Int) - 1 - -1 - -1 - 1) / (- -1) = (n : Int) := by
    have : (n : Int) - 1 - -1 - -1 - 1 = (n : Int) := by omega
    rw [this]; simp
  rw [this]
  simp only [Int.toNat_natCast]
  apply List.ext_getElem
  · simp
  · intro i h1 h2
    simp only [List.length_map, List.length_range] at h1
    simp only [List.getElem_map, List.getElem_range, List.getElem_reverse, List.length_range]
    omega

theorem exec_forRange_step1 (fuel : Nat) (v : String) (lo hi : IE) (body : St) (s : State F)
    (hlo : lo.ok s = true) (hok : hi.ok s = true) :
    exec fuel (.forRange v lo hi (.lit 1) body) s =
      loopOver (fun st i => exec fuel body { st with ienv := setS st.ienv v i })
        ((List.range (hi.eval s - lo.eval s).toNat).map (fun (k : Nat) => lo.eval s + (k : Int))) s := by
  simp only [exec, IE.ok, IE.eval, hlo, hok, rangeList_step1]
  simp

theorem Sd.exec_forRange_from (fuel : Nat) (v : String) (lo hi : IE) (body : St) (s : State F) (n : Nat)
    (hlo : lo.ok s = true) (hok : hi.ok s = true) (hn : hi.eval s = lo.eval s + (n : Int)) :
    exec fuel (.forRange v lo hi (.lit 1) body) s =
      loopOver (fun st i => exec fuel body { st with ienv := setS st.ienv v i })
        ((List.range n).map (fun (k : Nat) => lo.eval s + (k : Int))) s := by
  rw [exec_forRange_step1 fuel v lo hi body s hlo hok, hn]
  have : (lo.eval s + (n : Int) - lo.eval s).toNat = n := by omega
  rw [this]

theorem Sd.exec_forRange_empty (fuel : Nat) (v : String) (lo hi : IE) (body : St) (s : State F)
    (hlo : lo.ok s = true) (hok : hi.ok s = true) (hn : hi.eval s ≤ lo.eval s) (hc : s.ctl = .run) :
    exec fuel (.forRange v lo hi (.lit 1) body) s = s := by
  rw [exec_forRange_step1 fuel v lo hi body s hlo hok]
  have : (hi.eval s - lo.eval s).toNat = 0 := by omega
  rw [this]
  simp [hc]

theorem exec_forRange_up (fuel : Nat) (v : String) (hi : IE) (body : St) (s : State F) (n : Nat)
    (hok : hi.ok s = true) (hn : hi.eval s = (n : Int)) :
    exec fuel (.forRange v (.lit 0) hi (.lit 1) body) s =
      loopOver (fun st i => exec fuel body { st with ienv := setS st.ienv v i })
        ((List.range n).map (fun (k : Nat) => (k : Int))) s := by
  simp only [exec, IE.ok, IE.eval, hok, hn, rangeList_up]
  simp

theorem forRange_list (v : String) (lo hi step : IE) (body : St) (s : State F) (fuel : Nat) (xs : List Int)
    (hs : s.ctl = .run) (hlo : lo.ok s = true) (hhi : hi.ok s = true) (hst : step.ok s = true)
    (hne : step.eval s ≠ 0) (hxs : rangeList (lo.eval s) (hi.eval s) (step.eval s) = xs)
    (P : Nat → State F → Prop) (h0 : P 0 s)
    (hstep : ∀ (k : Nat) (hk : k < xs.length) (st : State F), st.ctl = .run → P k st →
      (afterBody (exec fuel body { st with ienv := setS st.ienv v xs[k] })).ctl = .run ∧
      P (k + 1) (afterBody (exec fuel body { st with ienv := setS st.ienv v xs[k] }))) :
    (exec fuel (.forRange v lo hi step body) s).ctl = .run ∧
    P xs.length (exec fuel (.forRange v lo hi step body) s) := by
  simp only [exec, hlo, hhi, hst, hne, ne_eq, not_false_eq_true, decide_true, Bool.and_self, if_true, hxs]
  exact loopOver_inv _ xs P s hs h0 (fun i hi st h1 h2 => hstep i hi st h1 h2)

theorem forRange_rule (v : String) (lo hi : IE) (body : St) (s : State F) (fuel n : Nat)
    (hs : s.ctl = .run) (hlo : lo.ok s = true) (hhi : hi.ok s = true) (hn : (hi.eval s - lo.eval s).toNat = n)
    (P : Nat → State F → Prop) (Q : State F → Prop) (h0 : P 0 s)
    (hstep : ∀ (k : Nat), k < n → ∀ st : State F, st.ctl = .run → P k st →
      ((afterBody (exec fuel body { st with ienv := setS st.ienv v (lo.eval s + (k : Int)) })).ctl = .run ∧
        P (k + 1) (afterBody (exec fuel body { st with ienv := setS st.ienv v (lo.eval s + (k : Int)) }))) ∨
      ((exec fuel body { st with ienv := setS st.ienv v (lo.eval s + (k : Int)) }).ctl ≠ .run ∧
        (exec fuel body { st with ienv := setS st.ienv v (lo.eval s + (k : Int)) }).ctl ≠ .cont ∧
        Q (afterLoop (exec fuel body { st with ienv := setS st.ienv v (lo.eval s + (k : Int)) })))) :
    ((exec fuel (.forRange v lo hi (.lit 1) body) s).ctl = .run ∧
      P n (exec fuel (.forRange v lo hi (.lit 1) body) s)) ∨
    Q (exec fuel (.forRange v lo hi (.lit 1) body) s) := by
  rw [exec_forRange_step1 fuel v lo hi body s hlo hhi, hn]
  have h := loopOver_rule (fun st (i : Int) => exec fuel body { st with ienv := setS st.ienv v i })
    ((List.range n).map (fun (k : Nat) => lo.eval s + (k : Int))) P Q s hs h0
    (fun k hk st h1 h2 => by
      have hk' : k < n := by simpa using hk
      simpa using hstep k hk' st h1 h2)
  simpa using h

/-- `for v in range(n)` -/
theorem forRange_up (v : String) (hi : IE) (body : St) (s : State F) (fuel n : Nat)
    (hs : s.ctl = .run) (hok : hi.ok s = true) (hhi : hi.eval s = (n : Int))
    (P : Nat → State F → Prop) (h0 : P 0 s)
    (hstep : ∀ (k : Nat), k < n → ∀ st : State F, st.ctl = .run → P k st →
      (afterBody (exec fuel body { st with ienv := setS st.ienv v (k : Int) })).ctl = .run ∧
      P (k + 1) (afterBody (exec fuel body { st with ienv := setS st.ienv v (k : Int) }))) :
    (exec fuel (.forRange v (.lit 0) hi (.lit 1) body) s).ctl = .run ∧
    P n (exec fuel (.forRange v (.lit 0) hi (.lit 1) body) s) := by
  have h := forRange_rule v (.lit 0) hi body s fuel n hs rfl hok (by simp [IE.eval, hhi]) P (fun _ => False) h0
    (fun k hk st h1 h2 => Or.inl (by simpa [IE.eval] using hstep k hk st h1 h2))
  exact h.resolve_right id

/-- `for v in range(n - 1, -1, -1)`: the k-th iteration has `v = n - 1 - k` -/
theorem forRange_down (v : String) (lo : IE) (body : St) (s : State F) (fuel n : Nat)
    (hs : s.ctl = .run) (hok : lo.ok s = true) (hlo : lo.eval s = (n : Int) - 1)
    (P : Nat → State F → Prop) (h0 : P 0 s)
    (hstep : ∀ (k : Nat), k < n → ∀ st : State F, st.ctl = .run → P k st →
      (afterBody (exec fuel body { st with ienv := setS st.ienv v ((n - 1 - k : Nat) : Int) })).ctl = .run ∧
      P (k + 1) (afterBody (exec fuel body { st with ienv := setS st.ienv v ((n - 1 - k : Nat) : Int) }))) :
    (exec fuel (.forRange v lo (.lit (-1)) (.lit (-1)) body) s).ctl = .run ∧
    P n (exec fuel (.forRange v lo (.lit (-1)) (.lit (-1)) body) s) := by
  have h := forRange_list v lo (.lit (-1)) (.lit (-1)) body s fuel
    ((List.range n).reverse.map (fun (k : Nat) => (k : Int)))
    hs hok rfl rfl (by simp [IE.eval]) (by simp only [IE.eval, hlo]; exact rangeList_down n) P h0
    (fun k hk st h1 h2 => by
      have hk' : k < n := by simpa using hk
      simpa using hstep k hk' st h1 h2)
  simpa using h

/-- the translator prefixes the locals of an inlined routine with `_<routine><n>$`; the names a caller keeps live do not
    start with `_`, so they are none of those locals -/
theorem ne_inlined (v p x : String) (hv : v.toList.head? ≠ some '_') (hp : p.toList.head? = some '_') : v ≠ p ++ x := by
  intro h
  apply hv
  have := congrArg (fun s => s.toList.head?) h
  simpa [List.head?_append, hp] using this

end XrsVerif.IL

namespace XrsVerif.ILVs
open XrsVerif XrsVerif.IL
variable {F : Type} [Fl F]
set_option linter.unusedSectionVars false

def Inj (ρ : String → String) : Prop := ∀ a b, ρ a = ρ b → a = b

/-- the form `simp` uses to decide `ρ a = ρ b` for two literal names -/
theorem Inj.eq_iff {ρ : String → String} (h : Inj ρ) (a b : String) : ρ a = ρ b ↔ a = b := ⟨h a b, congrArg ρ⟩

theorem inj_id : Inj (fun a => a) := fun _ _ h => h

theorem inj_pre (p : String) : Inj (fun a => p ++ a) := fun _ _ h => (String.append_right_inj p).1 h

/-- a block `a₁; a₂; …; aₖ` continued by `k` (the translator's right-nested form) -/
def seqK : List St → St → St
  | [], k => k
  | a :: as, k => .seq a (seqK as k)

def seqL : List St → St
  | [] => .skip
  | [a] => a
  | a :: b :: r => .seq a (seqL (b :: r))

theorem exec_seqK (fuel : Nat) : ∀ (as : List St) (a : St) (k : St) (s : State F),
    exec fuel (seqK (a :: as) k) s = exec fuel (.seq (seqL (a :: as)) k) s := by
  intro as
  induction as with
  | nil => intro a k s; rfl
  | cons b r ih =>
    intro a k s
    have h1 : exec fuel (seqK (a :: b :: r) k) s = exec fuel (.seq a (.seq (seqL (b :: r)) k)) s := by
      simp only [seqK, exec_seq]
      have := ih b k
      simp only [seqK, exec_seq] at this
      simp only [this]
    rw [h1, exec_seq_assoc]
    rfl

theorem exec_seqK_ne (fuel : Nat) (l : List St) (k : St) (s : State F) (hl : l ≠ []) :
    exec fuel (seqK l k) s = exec fuel (.seq (seqL l) k) s := by
  cases l with
  | nil => exact absurd rfl hl
  | cons a as => exact exec_seqK fuel as a k s

theorem exec_seq_congr (fuel : Nat) (a x y : St) (s : State F) (h : ∀ s' : State F, exec fuel x s' = exec fuel y s') :
    exec fuel (.seq a x) s = exec fuel (.seq a y) s := by
  simp only [exec_seq, h]

theorem exec_seq_seqK (fuel : Nat) (a : St) (l : List St) (k : St) (s : State F) (hl : l ≠ []) :
    exec fuel (.seq a (seqK l k)) s = exec fuel (.seq (.seq a (seqL l)) k) s :=
  (exec_seq_congr fuel a _ _ s fun s' => exec_seqK_ne fuel l k s' hl).trans (exec_seq_assoc fuel a _ k s)

theorem exec_seq3K (fuel : Nat) (a b c k : St) (s : State F) (h : (exec fuel (.seq (.seq a b) c) s).ctl = .run) :
    exec fuel (.seq a (.seq b (.seq c k))) s = exec fuel k (exec fuel (.seq (.seq a b) c) s) := by
  rw [exec_seq_assoc, exec_seq_assoc, exec_seq_run _ _ _ _ h]

theorem exec_seqL_cons (fuel : Nat) (a : St) (r : List St) (s : State F) :
    exec fuel (seqL (a :: r)) s =
      if (exec fuel a s).ctl = .run then exec fuel (seqL r) (exec fuel a s) else exec fuel a s := by
  cases r with
  | nil => simp only [seqL, exec_skip]; split <;> rfl
  | cons b r => simp only [seqL, exec_seq]

/-- the row a pointer addresses in an array of `n` rows: a natural row index, or numba's `-1` = the last row -/
def rowOf (n : Nat) (p : Int) : Nat := (normIdx p n).toNat

@[simp] theorem rowOf_nat (n i : Nat) : rowOf n (i : Int) = i := by
  unfold rowOf; rw [normIdx_nat]; simp

@[simp] theorem rowOf_neg_one (n : Nat) : rowOf n (-1) = n - 1 := by
  unfold rowOf normIdx; simp; omega

/-- a pointer of a tree of `n` rows: `-1` (NIL, the last row) or a row index -/
theorem inRange_ptr (n : Nat) (p : Int) (h : -1 ≤ p ∧ p < n) (hn : 0 < n) : inRange p n = true := by
  rw [inRange_iff]; omega

theorem off2_ptr (n c : Nat) (p : Int) (j : Nat) : off2 [n, c] p (j : Int) = rowOf n p * c + j := by
  unfold off2 rowOf; simp [normIdx_nat]

theorem rowOf_lt (n : Nat) (p : Int) (h : -1 ≤ p ∧ p < n) (hn : 0 < n) : rowOf n p < n := by
  unfold rowOf normIdx; split <;> omega

end XrsVerif.ILVs

namespace XrsVerif.ILSw
open XrsVerif XrsVerif.IL
variable {F : Type} [Fl F]

/-- `Q (exec fuel st s)` with the statement in front.  A long block is stepped one statement per line by
    `refine Post.seq_eq s' h hr ?_`, the goal staying `Post fuel <rest> s' Q`, where a `rw [exec_seq_eq …]` would have to
    abstract every occurrence of the run inside `Q`; and a block with a continuation (`elevCall … rest`,
    Proofs/ILVsInitCell.lean) gets a rule that hands `Post fuel rest s' Q` on to the proof of its caller. -/
def Post (fuel : Nat) (st : St) (s : State F) (Q : State F → Prop) : Prop := Q (exec fuel st s)

theorem Post.seq_eq {fuel : Nat} {a b : St} {s : State F} {Q : State F → Prop} (s' : State F)
    (h : exec fuel a s = s') (hr : s'.ctl = .run) (k : Post fuel b s' Q) : Post fuel (.seq a b) s Q := by
  unfold Post at *; rw [exec_seq_eq _ _ _ _ _ h hr]; exact k

theorem Post.of_eq {fuel : Nat} {a : St} {s : State F} {Q : State F → Prop} (s' : State F)
    (h : exec fuel a s = s') (k : Q s') : Post fuel a s Q := by
  unfold Post; rw [h]; exact k

theorem Post.rw {fuel : Nat} {a b : St} {s s' : State F} {Q : State F → Prop}
    (h : exec fuel a s = exec fuel b s') (k : Post fuel b s' Q) : Post fuel a s Q := by
  unfold Post at *; rw [h]; exact k

end XrsVerif.ILSw
