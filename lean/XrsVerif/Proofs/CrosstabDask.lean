import XrsVerif.Proofs.ZonalDask
/-
  The dask paths of `crosstab` (2-D, and 3-D counts): the per-block tables, added key-wise,
  are the table of the whole raster -- for *any* treatment of the running category offset (so the
  statement does not depend on defect D3) and any partition of the cells into aligned blocks.
-/
set_option linter.unusedSectionVars false
namespace XrsVerif.Zonal

variable {κ γ : Type} [LinearOrder κ] [LinearOrder γ]

/-- how both crosstabs combine their blocks: a fold of `op` over the images of additive families of counts is the
    image of the pointwise sums -/
theorem foldl_of_add {ι β δ : Type} (g : (ι → Nat) → δ) (op : δ → δ → δ)
    (hg : ∀ f1 f2, op (g f1) (g f2) = g (fun i => f1 i + f2 i)) (bs : List β) (t : β → ι → Nat) (T : ι → Nat) :
    (bs.map (fun b => g (t b))).foldl op (g T) = g (fun i => T i + (bs.map (fun b => t b i)).sum) := by
  induction bs generalizing T with
  | nil => simp
  | cons b bs ih =>
    simp only [List.map_cons, List.foldl_cons, List.sum_cons]
    rw [hg, ih]
    congr 1; funext i; omega

theorem emit_lookup_add (always : Bool) (sel : γ → Bool) (c : γ) (us : List γ) :
    ∀ (ks1 ks2 : List Nat) (a1 a2 : Nat), ks1.length = us.length → ks2.length = us.length →
    lookupD 0 c (emit always sel (a1 + a2) (us.zip (List.zipWith (· + ·) ks1 ks2)))
      = lookupD 0 c (emit always sel a1 (us.zip ks1)) + lookupD 0 c (emit always sel a2 (us.zip ks2)) := by
  induction us with
  | nil => intro ks1 ks2 a1 a2 _ _; simp [emit, lookupD]
  | cons u us ih =>
    intro ks1 ks2 a1 a2 h1 h2
    cases ks1 with
    | nil => simp at h1
    | cons k1 r1 =>
      cases ks2 with
      | nil => simp at h2
      | cons k2 r2 =>
        have h1' : r1.length = us.length := by simpa using h1
        have h2' : r2.length = us.length := by simpa using h2
        simp only [List.zipWith_cons_cons, List.zip_cons_cons, emit]
        by_cases hs : sel u = true
        · simp only [hs, if_true, lookupD]
          by_cases huc : u = c
          · simp only [huc, if_true]; omega
          · simp only [huc, if_false]
            have := ih r1 r2 0 0 h1' h2'
            simpa using this
        · have hs' : sel u = false := by simpa using hs
          simp only [hs', Bool.false_eq_true, if_false]
          cases always with
          | true =>
            simp only [if_true]
            have := ih r1 r2 0 0 h1' h2'
            simpa using this
          | false =>
            simp only [Bool.false_eq_true, if_false]
            have := ih r1 r2 (a1 + k1) (a2 + k2) h1' h2'
            have e : a1 + a2 + (k1 + k2) = a1 + k1 + (a2 + k2) := by omega
            rw [e]
            exact this

theorem addRow_rowOf (always : Bool) (uniqCats cats : List γ) (t1 t2 : Nat) (g1 g2 : γ → Nat) :
    ((rowOf always uniqCats cats t1 (uniqCats.map g1)).1 + (rowOf always uniqCats cats t2 (uniqCats.map g2)).1,
      List.zipWith (· + ·) (rowOf always uniqCats cats t1 (uniqCats.map g1)).2
        (rowOf always uniqCats cats t2 (uniqCats.map g2)).2)
      = rowOf always uniqCats cats (t1 + t2) (uniqCats.map (fun c => g1 c + g2 c)) := by
  unfold rowOf
  simp only
  congr 1
  rw [zipWith_map_map]
  apply List.map_congr_left
  intro c _
  have := emit_lookup_add always (fun c => cats.contains c) c uniqCats (uniqCats.map g1) (uniqCats.map g2) 0 0
    (by simp) (by simp)
  rw [zipWith_map_map] at this
  simpa using this.symm

theorem addRows_rowOf (always : Bool) (uniqCats cats : List γ) (W : List κ) (t1 t2 : κ → Nat) (g1 g2 : κ → γ → Nat) :
    addRows (W.map (fun z => rowOf always uniqCats cats (t1 z) (uniqCats.map (g1 z))))
        (W.map (fun z => rowOf always uniqCats cats (t2 z) (uniqCats.map (g2 z))))
      = W.map (fun z => rowOf always uniqCats cats (t1 z + t2 z) (uniqCats.map (fun c => g1 z c + g2 z c))) := by
  unfold addRows
  rw [zipWith_map_map]
  apply List.map_congr_left
  intro z _
  exact addRow_rowOf always uniqCats cats (t1 z) (t2 z) (g1 z) (g2 z)

theorem foldl_addRows {β : Type} (always : Bool) (uniqCats cats : List γ) (W : List κ) (bs : List β)
    (tot : β → κ → Nat) (cnt : β → κ → γ → Nat) (T : κ → Nat) (C : κ → γ → Nat) :
    (bs.map (fun b => W.map (fun z => rowOf always uniqCats cats (tot b z) (uniqCats.map (cnt b z))))).foldl addRows
        (W.map (fun z => rowOf always uniqCats cats (T z) (uniqCats.map (C z))))
      = W.map (fun z => rowOf always uniqCats cats (T z + (bs.map (fun b => tot b z)).sum)
          (uniqCats.map (fun c => C z c + (bs.map (fun b => cnt b z c)).sum))) :=
  -- one family of counts indexed by `κ × Option γ`: the total of zone `z` at `(z, none)`, its count of `c` at `(z, some c)`
  foldl_of_add (ι := κ × Option γ)
    (fun f => W.map fun z => rowOf always uniqCats cats (f (z, none)) (uniqCats.map fun c => f (z, some c))) _
    (fun _ _ => addRows_rowOf always uniqCats cats W _ _ _ _) bs
    (fun b p => p.2.elim (tot b p.1) (cnt b p.1)) fun p => p.2.elim (T p.1) (C p.1)

theorem GoodBlocks.sum_total {ν : Type} {zones : Nat → X κ} {cells : List Nat} {blocks : List Block}
    (hb : GoodBlocks zones cells blocks) (values : Nat → ν) (valid : ν → Bool) (z : κ) :
    (blocks.map fun b => (zoneCells zones values valid b.zc z).length).sum
      = (zoneCells zones values valid cells z).length := by
  rw [← (hb.zone_perm values valid z).length_eq, List.length_flatten, List.map_map]
  rfl

theorem GoodBlocks.sum_countZC {zones : Nat → X κ} {cells : List Nat} {blocks : List Block}
    (hb : GoodBlocks zones cells blocks) (values : Nat → X γ) (valid : X γ → Bool) (z : κ) (c : γ) :
    (blocks.map fun b => countZC zones values valid b.zc z c).sum = countZC zones values valid cells z c := by
  show _ = (finCells zones values valid cells z).count c
  rw [← (hb.fin_perm values valid z).count_eq c, List.count_flatten, List.map_map]
  rfl

theorem block_rows (always : Bool) (zones : Nat → X κ) (values : Nat → X γ) (valid : X γ → Bool)
    (cells : List Nat) (uniq : List κ) (sel : κ → Bool) (uniqCats cats : List γ) (blocks : List Block) (b : Block)
    (hu : CoversCells zones cells uniq) (hc : uniqCats.Pairwise (· < ·))
    (hcov : ∀ i ∈ cells, valid (values i) = true → ∀ c, values i = .fin c → c ∈ uniqCats)
    (hb : GoodBlocks zones cells blocks) (hbm : b ∈ blocks) :
    (zoneRows2d true always (Block.fn b.zc zones) (Block.fn b.vc values) valid uniq sel uniqCats cats b.perm).map
        (fun r => (r.1, cats.map (fun c => lookupD 0 c r.2)))
      = (uniq.filter sel).map (fun z =>
          rowOf always uniqCats cats (zoneCells zones values valid b.zc z).length
            (uniqCats.map (countZC zones values valid b.zc z))) := by
  have e : zoneRows2d true always (Block.fn b.zc zones) (Block.fn b.vc values) valid uniq sel uniqCats cats b.perm
      = zoneRows2d true always zones values valid uniq sel uniqCats cats b.gperm := by
    unfold zoneRows2d
    dsimp only
    rw [hb.aligned b hbm, (sortAndStride_block true zones values b uniq).1, (sortAndStride_block true zones values b uniq).2]
  rw [e]
  exact zoneRows2d_rows_gen always zones values valid b.zc b.gperm uniq sel uniqCats cats
    (Block.sorts_gperm (hb.sorts b hbm)) (hu.mono (hb.sub b hbm)) hc fun i hi => hcov i (hb.sub b hbm i hi)

/-- **block tables add up to the whole table**: for every `always` (treatment of `cat_start`), every
    labelling flag, every good family of blocks, the dask crosstab is the NumPy crosstab -/
theorem crosstabDask2d_eq_numpy (always sortedRows : Bool) (zones : Nat → X κ) (values : Nat → X γ)
    (valid : X γ → Bool) (cells perm : List Nat) (zoneIds : Option (List κ)) (catIds : Option (List γ))
    (blocks : List Block) (hb : GoodBlocks zones cells blocks) (hne : blocks ≠ [])
    (hp : SortsCells zones cells perm) :
    crosstabDask2d true always sortedRows zones values valid cells zoneIds catIds blocks
      = crosstabNumpy2d true always sortedRows zones values valid cells zoneIds catIds perm := by
  have hu := uniqueZones_covers zones cells
  have hc : (findCats2d values valid cells).Pairwise (· < ·) := by unfold findCats2d; exact sorted_sortDedup _
  have hcov : ∀ i ∈ cells, valid (values i) = true → ∀ c, values i = .fin c → c ∈ findCats2d values valid cells := by
    intro i hi hv c hvc
    exact (mem_findCats2d values valid cells c).mpr ⟨i, hi, hv, hvc⟩
  have hnp := zoneRows2d_rows_gen always zones values valid cells perm (uniqueZones zones cells)
    (fun u => (selectIds (uniqueZones zones cells) zoneIds).contains u) (findCats2d values valid cells)
    (selectIds (findCats2d values valid cells) catIds) hp hu hc hcov
  cases blocks with
  | nil => exact absurd rfl hne
  | cons b0 bs =>
    unfold crosstabDask2d crosstabNumpy2d
    rw [if_neg (by rw [blocks_ok _ hb.aligned]; simp)]
    simp only [List.map_cons]
    rw [block_rows always zones values valid cells _ _ _ _ _ b0 hu hc hcov hb List.mem_cons_self,
      List.map_congr_left fun b hbm =>
        block_rows always zones values valid cells _ _ _ _ _ b hu hc hcov hb (List.mem_cons_of_mem _ hbm),
      foldl_addRows]
    -- both sides are tables over the same row list; per zone the blocks' totals and counts add up
    have ht := fun z => hb.sum_total values valid z
    have hcn := fun z c => hb.sum_countZC values valid z c
    simp only [List.map_cons, List.sum_cons] at ht hcn
    simp only [ht, hcn]
    rw [← hnp]
    simp only [List.length_map, List.map_map, Function.comp_def]

section d3
variable {ν : Type}

def colsOf (layers : List (γ × (Nat → ν))) (cats : List γ) (W : List κ) (T : (γ × (Nat → ν)) → κ → Nat) : List (List Nat) :=
  cats.map (fun c => optCol (layers.find? (fun l => l.1 == c)) (fun l => W.map (T l)))

theorem colsOf_eq (layers : List (γ × (Nat → ν))) (cats : List γ) (W : List κ) (T : (γ × (Nat → ν)) → κ → Nat)
    (col : (γ × (Nat → ν)) → List Nat) (h : ∀ l, col l = W.map (T l)) :
    cats.map (fun c => optCol (layers.find? (fun l => l.1 == c)) col) = colsOf layers cats W T := by
  rw [funext h]
  rfl

theorem zipWith_colsOf (layers : List (γ × (Nat → ν))) (cats : List γ) (W : List κ)
    (T1 T2 : (γ × (Nat → ν)) → κ → Nat) :
    List.zipWith (List.zipWith (· + ·)) (colsOf layers cats W T1) (colsOf layers cats W T2)
      = colsOf layers cats W (fun l z => T1 l z + T2 l z) := by
  unfold colsOf
  rw [zipWith_map_map]
  apply List.map_congr_left
  intro c _
  cases layers.find? (fun l => l.1 == c) with
  | none => rfl
  | some l => simp only [optCol]; rw [zipWith_map_map]

theorem foldl_colsOf {β : Type} (layers : List (γ × (Nat → ν))) (cats : List γ) (W : List κ) (bs : List β)
    (tb : β → (γ × (Nat → ν)) → κ → Nat) (T : (γ × (Nat → ν)) → κ → Nat) :
    (bs.map (fun b => colsOf layers cats W (tb b))).foldl (List.zipWith (List.zipWith (· + ·))) (colsOf layers cats W T)
      = colsOf layers cats W (fun l z => T l z + (bs.map (fun b => tb b l z)).sum) :=
  foldl_of_add (fun T => colsOf layers cats W fun l z => T (l, z)) _ (fun _ _ => zipWith_colsOf layers cats W _ _) bs
    (fun b p => tb b p.1 p.2) fun p => T p.1 p.2

/-- **3-D block tables add up**: dask `crosstab` with `agg='count'` on 3-D values equals the NumPy table -/
theorem crosstabDask3d_eq_numpy (sortedRows : Bool) (zones : Nat → X κ) (layers : List (γ × (Nat → ν)))
    (valid : ν → Bool) (cells perm : List Nat) (zoneIds : Option (List κ)) (catIds : Option (List γ))
    (blocks : List Block) (hb : GoodBlocks zones cells blocks) (hne : blocks ≠ [])
    (hp : SortsCells zones cells perm) :
    crosstabDask3d true sortedRows zones layers valid cells zoneIds catIds blocks
      = crosstabNumpy3d true sortedRows zones layers valid List.length cells zoneIds catIds perm := by
  have hu := uniqueZones_covers zones cells
  cases blocks with
  | nil => exact absurd rfl hne
  | cons b0 bs =>
    unfold crosstabDask3d crosstabNumpy3d
    rw [if_neg (by rw [blocks_ok _ hb.aligned]; simp)]
    simp only [List.map_cons]
    have hblock : ∀ b ∈ b0 :: bs,
        (selectIds (layers.map Prod.fst) catIds).map (fun c => optCol (layers.find? (fun l => l.1 == c))
          (fun l => layerCol true (Block.fn b.zc zones) (Block.fn b.vc l.2) valid List.length
              (uniqueZones zones cells) (fun u => (selectIds (uniqueZones zones cells) zoneIds).contains u) b.perm))
        = colsOf layers (selectIds (layers.map Prod.fst) catIds)
            ((uniqueZones zones cells).filter (fun u => (selectIds (uniqueZones zones cells) zoneIds).contains u))
            (fun l z => (zoneCells zones l.2 valid b.zc z).length) := by
      intro b hbm
      refine colsOf_eq layers _ _ _ _ fun l => ?_
      unfold layerCol
      dsimp only
      rw [hb.aligned b hbm, (sortAndStride_block true zones l.2 b _).1, (sortAndStride_block true zones l.2 b _).2]
      exact layerCol_length zones l.2 valid b.zc b.gperm _ _ (Block.sorts_gperm (hb.sorts b hbm))
        (hu.mono (hb.sub b hbm))
    rw [hblock b0 (by simp)]
    rw [List.map_congr_left fun b hbm => hblock b (List.mem_cons_of_mem _ hbm), foldl_colsOf]
    have hnp : (selectIds (layers.map Prod.fst) catIds).map (fun c =>
          optCol (layers.find? (fun l => l.1 == c))
          (fun l => layerCol true zones l.2 valid List.length (uniqueZones zones cells)
              (fun u => (selectIds (uniqueZones zones cells) zoneIds).contains u) perm))
        = colsOf layers (selectIds (layers.map Prod.fst) catIds)
            ((uniqueZones zones cells).filter (fun u => (selectIds (uniqueZones zones cells) zoneIds).contains u))
            (fun l z => (zoneCells zones l.2 valid b0.zc z).length
              + (bs.map (fun b => (zoneCells zones l.2 valid b.zc z).length)).sum) := by
      refine colsOf_eq layers _ _ _ _ fun l => ?_
      rw [layerCol_length zones l.2 valid cells perm _ _ hp hu]
      apply List.map_congr_left
      intro z _
      have := hb.sum_total l.2 valid z
      rw [List.map_cons, List.sum_cons] at this
      exact this.symm
    rw [hnp]

end d3

end XrsVerif.Zonal
