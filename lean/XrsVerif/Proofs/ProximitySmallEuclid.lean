import XrsVerif.Proofs.ProximitySmall
/-! The small-grid table, slices 18 and 19: the Euclidean thresholds on the 3×3 unit grid. -/
namespace XrsVerif.Prox

theorem slice_18 : sliceChecked 18 = true := by decide +kernel
theorem slice_19 : sliceChecked 19 = true := by decide +kernel

end XrsVerif.Prox
