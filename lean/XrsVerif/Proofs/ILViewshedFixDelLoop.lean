import XrsVerif.Proofs.ILViewshedFixDel
/-
  `_rb_delete_fixup` (inlined in `Gen.IL.vsDelete`) computes the model's `rbDelFix` (Model/ViewshedFix.lean), composed
  from the blocks of Proofs/ILViewshedFixDel.lean: the iteration after case 1 is the model's `dfB` (`dfB_spec`), one
  iteration is one unfolding of the model's `delFixP` (case 1 in front of `dfB_spec`), the loop moves the tree by
  `delFixP`, and the whole call (loop, `x` blackened, the root returned) by `rbDelFix` (`delFixThen_spec`).
-/
set_option linter.unusedSectionVars false
namespace XrsVerif.ILVs
open XrsVerif XrsVerif.IL XrsVerif.Viewshed
variable {F : Type} [Fl F]

/-- `nilBlack` is `= 1` here (this fix-up tests `== RB_BLACK`, also on a NIL child of the sibling) and only `≠ 0` in
    `FixCore` (the insertion's fix-up tests `== RB_RED` only) -/
structure DFCore (s : State F) (n : Nat) (xl : Sh) (x : Nat) (xr : Sh) (ctx : Ctx) : Prop where
  vs : VS s n
  run : s.ctl = .run
  linked : Linked (s.ia "tree_nodes") n (-1) (plug (.node xl x xr) ctx)
  nodup : (plug (.node xl x xr) ctx).idxs.Nodup
  hx : s.ienv "_rb_delete_fixup17$x" = x
  hroot : s.ienv "_rb_delete_fixup17$root" = (plug (.node xl x xr) ctx).ptr
  nilBlack : nAt (s.ia "tree_nodes") (n - 1) 0 = 1
  colOK : ∀ j ∈ (plug (.node xl x xr) ctx).idxs, ColV (nAt (s.ia "tree_nodes") j 0)

/-- the state with control reset to `run` (what the `while` does after `continue`) -/
def runOf (s : State F) : State F := { s with ctl := .run }

theorem runOf_run {s : State F} (h : s.ctl = .run) : runOf s = s := State.eta_ctl s _ h

/-- the loop invariant, seen from the state `s` that held the tree `sh`: a move (by some `f`) has left `x` at a position
    of the tree now held, from which the model's loop gives `model`; fewer than `bound` iterations are to come, or none
    (`x` the root, or red) -/
def DFInv (S : Fv F) (s : State F) (n : Nat) (sh : Sh) (bound : Nat) (model : Tree (Fv F) × List Dir) (q : State F) : Prop :=
  ∃ (f : Tree (Fv F) → Tree (Fv F)) (xl : Sh) (x : Nat) (xr : Sh) (ctx : Ctx),
    DFMove n f s q sh (plug (.node xl x xr) ctx) ∧ q.ienv "_rb_delete_fixup17$x" = x ∧
    (ctx.length < bound ∨ ctx = [] ∨ nAt (q.ia "tree_nodes") x 0 = 0) ∧
    delFixP S (ctx.map Fr.dir) (absT (q.fa "tree_vals") (q.ia "tree_nodes") (plug (.node xl x xr) ctx)) = model

/-- what an iteration (or its part after case 1) establishes: it ends normally or with `continue`, and the invariant
    holds again -/
def DFStep (S : Fv F) (s r : State F) (n : Nat) (sh : Sh) (bound : Nat) (model : Tree (Fv F) × List Dir) : Prop :=
  (r.ctl = .run ∨ r.ctl = .cont) ∧ DFInv S s n sh bound model (runOf r)

/-- the colour test `== RB_BLACK` on a sane colour cell -/
theorem colV_black {c : Int} (h : ColV c) : (c = 1) ↔ ¬ (c = 0) := by
  rcases h with h | h <;> simp [h]

/-- `dfB` with the parent red (after case 1) never continues the loop above -/
theorem dfB_k_irrel {α : Type} [LT α] [DecidableLT α] [LE α] [DecidableLE α] (S : α) (dx : Dir) (rq1 : List Dir)
    (k k' : Tree α → Tree α × List Dir) (t : Tree α) : dfB S dx true rq1 k t = dfB S dx true rq1 k' t := by
  simp [dfB]

theorem delFixP_stop (S : Fv F) (V : List F) (N : List Int) (xl : Sh) (x : Nat) (xr : Sh) (ctx : Ctx)
    (h : ctx = [] ∨ nAt N x 0 = 0) :
    delFixP S (ctx.map Fr.dir) (absT V N (plug (.node xl x xr) ctx)) =
      (absT V N (plug (.node xl x xr) ctx), ctx.map Fr.dir) := by
  cases ctx with
  | nil => exact delFixP_nil S _
  | cons fr rest =>
    rcases h with h | h
    · exact absurd h (by simp)
    · simp only [List.map_cons]
      refine delFixP_red S fr.dir (rest.map Fr.dir) _ ?_
      have hp : (rest.map Fr.dir).reverse ++ [fr.dir] = pathOf (fr :: rest) := by rw [pathOf_eq]; simp
      rw [hp, subAt_plug]
      simp [absT, isRed, h]

theorem node_of_isRed {V : List F} {N : List Int} {t : Sh} (h : isRed (absT V N t) = true) : ∃ a b c, t = .node a b c := by
  cases t with
  | nil => simp [absT, isRed] at h
  | node a b c => exact ⟨a, b, c, rfl⟩

/-- the colour test `== RB_BLACK` of a child pointer (NIL or a row of the tree) -/
theorem black_test (V : List F) (N : List Int) (n : Nat) (sub : Sh) (par : Int) (hl : Linked N n par sub)
    (hnil : nAt N (n - 1) 0 = 1) (hcol : ∀ j ∈ sub.idxs, ColV (nAt N j 0)) :
    decide (nAt N (rowOf n sub.ptr) 0 = 1) = !(isRed (absT V N sub)) := by
  cases sub with
  | nil => simp [absT, isRed, Sh.ptr, hnil]
  | node l i r =>
    have := colV_black (hcol i (by simp [Sh.idxs]))
    simp only [absT, isRed, Sh.ptr, rowOf_nat]
    by_cases h0 : nAt N i 0 = 0
    · simp [h0]
    · simp [this.mpr h0]

theorem DFCore.treeAt {s : State F} {n : Nat} {xl : Sh} {x : Nat} {xr : Sh} {ctx : Ctx} (h : DFCore s n xl x xr ctx) :
    DFT s n (plug (.node xl x xr) ctx) := ⟨h.vs, h.run, h.linked, h.nodup, h.hroot⟩

theorem DFCore.of_move {s r : State F} {n : Nat} {xl : Sh} {x : Nat} {xr : Sh} {ctx : Ctx} (h : DFCore s n xl x xr ctx)
    {f : Tree (Fv F) → Tree (Fv F)} {l : Sh} {i : Nat} {q : Sh} {ctx' : Ctx}
    (m : DFMove n f s r (plug (.node xl x xr) ctx) (plug (.node l i q) ctx')) (hx : r.ienv "_rb_delete_fixup17$x" = i) :
    DFCore r n l i q ctx' :=
  ⟨m.holds.vs, m.holds.run, m.holds.linked, m.holds.nodup, hx, m.holds.root, by rw [m.nilCol]; exact h.nilBlack,
   fun j hj => m.col j (h.colOK j (by rw [← m.idxs]; exact hj))⟩

theorem DFStep.of_move {S : Fv F} {s r : State F} {n : Nat} {sh0 sh : Sh} {bound : Nat} {model : Tree (Fv F) × List Dir}
    {f : Tree (Fv F) → Tree (Fv F)} {l : Sh} {i : Nat} {q : Sh} {ctx' : Ctx} (hsh : sh0 = sh)
    (m : DFMove n f s r sh (plug (.node l i q) ctx')) (hx : r.ienv "_rb_delete_fixup17$x" = i)
    (hp : ctx'.length < bound ∨ ctx' = [] ∨ nAt (r.ia "tree_nodes") i 0 = 0)
    (hm : delFixP S (ctx'.map Fr.dir) (absT (r.fa "tree_vals") (r.ia "tree_nodes") (plug (.node l i q) ctx')) = model) :
    DFStep S s r n sh0 bound model := by
  subst hsh
  refine ⟨Or.inl m.holds.run, ?_⟩
  rw [runOf_run m.holds.run]
  exact ⟨f, l, i, q, ctx', m, hx, hp, hm⟩

theorem DFStep.after {S : Fv F} {s s1 r : State F} {n : Nat} {sh sh1 : Sh} {bound : Nat} {model1 model : Tree (Fv F) × List Dir}
    {f : Tree (Fv F) → Tree (Fv F)} (h : DFStep S s1 r n sh1 bound model1) (m : DFMove n f s s1 sh sh1) (hm : model1 = model) :
    DFStep S s r n sh bound model := by
  subst hm
  obtain ⟨hc, g, xl, x, xr, ctx, m', rest⟩ := h
  exact ⟨hc, _, xl, x, xr, ctx, m.trans m', rest⟩

theorem blackE_test (n : Nat) (s : State F) (hv : VS s n) (v : String) (sub : Sh) (par : Int)
    (hl : Linked (s.ia "tree_nodes") n par sub) (hnil : nAt (s.ia "tree_nodes") (n - 1) 0 = 1)
    (hcol : ∀ j ∈ sub.idxs, ColV (nAt (s.ia "tree_nodes") j 0)) (ev : s.ienv v = sub.ptr) :
    (blackE v).ok s = true ∧ (blackE v).eval s = !(isRed (absT (s.fa "tree_vals") (s.ia "tree_nodes") sub)) := by
  constructor
  · simp [blackE, BE.ok, okN s n hv.shpN, ev, hl.inRange hv.pos, IE.ok_lit]
  · simp only [blackE, BE.eval_cmpI, evalN s n hv.shpN _ 0 (by decide : (0 : Int) ≤ 0), ev, IE.eval_lit, cmpInt]
    rw [← black_test (s.fa "tree_vals") (s.ia "tree_nodes") n sub par hl hnil hcol]; rfl

/-- the reads in front of the case distinction: the children of the sibling `w` (the right child's code reads
    `x_parent` again) -/
theorem dfReads_spec (d : Dir) (fuel n : Nat) (s : State F) (hv : VS s n) (hrun : s.ctl = .run) (x p w : Nat) (lp rp : Int)
    (hxn : x + 1 < n) (hwn : w + 1 < n) (ex : s.ienv "_rb_delete_fixup17$x" = x) (ew : s.ienv "_rb_delete_fixup17$w" = w)
    (exp : s.ienv "_rb_delete_fixup17$x_parent" = p) (hx3 : nAt (s.ia "tree_nodes") x 3 = (p : Int))
    (hw1 : nAt (s.ia "tree_nodes") w 1 = lp) (hw2 : nAt (s.ia "tree_nodes") w 2 = rp) (k : St) :
    ∃ s2 : State F, exec fuel (seqK (dfReads d) k) s = exec fuel k s2 ∧ s2.ctl = .run ∧
      Frame ["_rb_delete_fixup17$w_left", "_rb_delete_fixup17$w_right", "_rb_delete_fixup17$x_parent"] [] [] s s2 ∧
      s2.ienv "_rb_delete_fixup17$w_left" = lp ∧ s2.ienv "_rb_delete_fixup17$w_right" = rp ∧
      s2.ienv "_rb_delete_fixup17$x_parent" = p := by
  have h1 := exec_ldN fuel n s hv.shpN "_rb_delete_fixup17$w_left" "_rb_delete_fixup17$w" 1 (by decide)
    (by rw [ew]; exact hv.inRange hwn) lp (by rw [ew, rowOf_nat]; exact hw1)
  have ew1 : setS s.ienv "_rb_delete_fixup17$w_left" lp "_rb_delete_fixup17$w" = w := (setS_other _ _ _ _ (by simp)).trans ew
  have h2 := exec_ldN fuel n { s with ienv := setS s.ienv "_rb_delete_fixup17$w_left" lp } hv.shpN "_rb_delete_fixup17$w_right"
    "_rb_delete_fixup17$w" 2 (by decide) (by simp only [ew1]; exact hv.inRange hwn) rp (by simp only [ew1, rowOf_nat]; exact hw2)
  have f2 : Frame ["_rb_delete_fixup17$w_left", "_rb_delete_fixup17$w_right", "_rb_delete_fixup17$x_parent"] [] [] s
      { s with ienv := setS (setS s.ienv "_rb_delete_fixup17$w_left" lp) "_rb_delete_fixup17$w_right" rp } :=
    (Frame.setI s lp (by simp)).trans (Frame.setI _ rp (by simp))
  cases d with
  | L =>
    refine ⟨{ s with ienv := setS (setS s.ienv "_rb_delete_fixup17$w_left" lp) "_rb_delete_fixup17$w_right" rp }, ?_, hrun, f2,
      ?_, ?_, ?_⟩
    · simp only [dfReads, seqK]
      rw [exec_seq_eq _ _ _ _ _ h1 hrun, exec_seq_eq _ _ _ _ _ h2 hrun]
    all_goals simp [setS, exp]
  | R =>
    have ex2 : setS (setS s.ienv "_rb_delete_fixup17$w_left" lp) "_rb_delete_fixup17$w_right" rp "_rb_delete_fixup17$x" = x :=
      (setS_other _ _ _ _ (by simp)).trans ((setS_other _ _ _ _ (by simp)).trans ex)
    have h3 := exec_ldN fuel n { s with ienv := setS (setS s.ienv "_rb_delete_fixup17$w_left" lp) "_rb_delete_fixup17$w_right" rp }
      hv.shpN "_rb_delete_fixup17$x_parent" "_rb_delete_fixup17$x" 3 (by decide) (by simp only [ex2]; exact hv.inRange hxn) p
      (by simp only [ex2, rowOf_nat]; exact hx3)
    refine ⟨{ s with ienv := (setS (setS (setS s.ienv "_rb_delete_fixup17$w_left" lp) "_rb_delete_fixup17$w_right" rp)
      "_rb_delete_fixup17$x_parent" (p : Int)) }, ?_, hrun, f2.trans (Frame.setI _ (p : Int) (by simp)), ?_, ?_, ?_⟩
    · simp only [dfReads, seqK]
      rw [exec_seq_eq _ _ _ _ _ h1 hrun, exec_seq_eq _ _ _ _ _ h2 hrun, exec_seq_eq _ _ _ _ _ h3 hrun]
    all_goals simp [setS]

/-- **the iteration after case 1, `x` the `d`-child of `p`**: NIL sibling, case 2, case 3 + 4, case 4 = the model's `dfB` -/
theorem dfB_spec (d : Dir) (fuel n : Nat) (s : State F) (xl : Sh) (x : Nat) (xr : Sh) (p : Nat) (wB : Sh) (restB : Ctx)
    (c1 : Bool) (bound : Nat) (h : DFCore s n xl x xr (Fr.mkD d p wB :: restB))
    (ew : s.ienv "_rb_delete_fixup17$w" = wB.ptr) (exp : s.ienv "_rb_delete_fixup17$x_parent" = p)
    (hc1 : c1 = true → nAt (s.ia "tree_nodes") p 0 = 0) (hb : c1 = false → restB.length < bound) :
    DFStep (vAt (s.fa "tree_vals") (n - 1) 7) s (exec fuel (dfIterB d) s) n (plug (.node xl x xr) (Fr.mkD d p wB :: restB)) bound
      (dfB (vAt (s.fa "tree_vals") (n - 1) 7) d c1 (restB.map Fr.dir)
        (delFixP (vAt (s.fa "tree_vals") (n - 1) 7) (restB.map Fr.dir))
        (absT (s.fa "tree_vals") (s.ia "tree_nodes") (plug (.node xl x xr) (Fr.mkD d p wB :: restB)))) := by
  have hpg : (restB.map Fr.dir).reverse = pathOf restB := map_dir_reverse restB
  have hsh : plug (.node xl x xr) (Fr.mkD d p wB :: restB) = plug (Sh.nodeD d (.node xl x xr) p wB) restB := plug_mkD _ _ _ _ _
  have ht : DFT s n (plug (Sh.nodeD d (.node xl x xr) p wB) restB) := hsh ▸ h.treeAt
  obtain ⟨hxn, hx3, hpn, hpw, hlw⟩ := ht.pos.sibling
  generalize hS : vAt (s.fa "tree_vals") (n - 1) 7 = S
  generalize hT : absT (s.fa "tree_vals") (s.ia "tree_nodes") (plug (.node xl x xr) (Fr.mkD d p wB :: restB)) = T
  have hT2 : absT (s.fa "tree_vals") (s.ia "tree_nodes") (plug (Sh.nodeD d (.node xl x xr) p wB) restB) = T := by rw [← hsh]; exact hT
  have hsubw : subAt ((restB.map Fr.dir).reverse ++ [d.flip]) T = absT (s.fa "tree_vals") (s.ia "tree_nodes") wB := by
    rw [← hT, hpg, plug_mkD_sib, ← pathOf_mkD d.flip p (.node xl x xr) restB]; exact subAt_plug _ _ _ wB
  have hsubp : ∀ (V' : List F) (N' : List Int) (sib : Sh), isRed (subAt (pathOf restB)
      (absT V' N' (plug (Sh.nodeD d (.node xl x xr) p sib) restB))) = decide (nAt N' p 0 = 0) := fun V' N' sib => by
    rw [subAt_plug]; rfl
  have hpT : isRed (subAt (pathOf restB) T) = decide (nAt (s.ia "tree_nodes") p 0 = 0) := by rw [← hT2]; exact hsubp _ _ _
  have hprog : restB.length < bound ∨ restB = [] ∨ nAt (s.ia "tree_nodes") p 0 = 0 := by
    cases c1 with
    | false => exact Or.inl (hb rfl)
    | true => exact Or.inr (Or.inr (hc1 rfl))
  -- when case 1 has made the parent red the loop ends one level up
  have hstop : ∀ (V' : List F) (N' : List Int) (sib : Sh), nAt N' p 0 = nAt (s.ia "tree_nodes") p 0 →
      (if c1 = true then (absT V' N' (plug (Sh.nodeD d (.node xl x xr) p sib) restB), restB.map Fr.dir)
        else delFixP S (restB.map Fr.dir) (absT V' N' (plug (Sh.nodeD d (.node xl x xr) p sib) restB))) =
      delFixP S (restB.map Fr.dir) (absT V' N' (plug (Sh.nodeD d (.node xl x xr) p sib) restB)) := fun V' N' sib hp => by
    cases c1 with
    | false => rfl
    | true =>
      simp only [if_true]
      exact (delFixP_stop S V' N' _ p _ restB (Or.inr (by rw [hp]; exact hc1 rfl))).symm
  cases wB with
  | nil =>
    -- NIL sibling: `x` moves to the parent, `continue`
    have htest : exec fuel (.ite (.cmpI .eq (.var "_rb_delete_fixup17$w") (.lit (-1))) (dfNil d) .skip) s =
        { s with ienv := setS s.ienv "_rb_delete_fixup17$x" (p : Int), ctl := .cont } := by
      rw [exec_ite_true _ _ _ _ _ (by simp [BE.ok, IE.ok_var, IE.ok_lit])
        (by simp [BE.eval, IE.eval_var, IE.eval_lit, cmpInt, ew, Sh.ptr]), dnil_spec d fuel n s h.vs h.run x p hxn hx3 h.hx exp]
    have hr : exec fuel (dfIterB d) s = { s with ienv := setS s.ienv "_rb_delete_fixup17$x" (p : Int), ctl := .cont } := by
      rw [dfIterB, exec_seq_stop _ _ _ _ (by rw [htest]; simp), htest]
    rw [hr]
    refine ⟨Or.inr rfl, fun t => t, pickD d (.node xl x xr) .nil, p, pickD d .nil (.node xl x xr), restB,
      ⟨ht.of_eq rfl rfl rfl rfl (by simp [runOf, setS]), (congrArg Sh.idxs hsh).symm, by rw [hsh]; rfl, rfl, rfl,
        fun _ hj => hj⟩, by simp [runOf, setS], hprog, ?_⟩
    show delFixP S (restB.map Fr.dir) (absT (s.fa "tree_vals") (s.ia "tree_nodes") (plug (Sh.nodeD d (.node xl x xr) p .nil) restB)) = _
    rw [dfB_nil S d c1 _ _ T hsubw, ← hT2]
    exact (hstop _ _ _ rfl).symm
  | node wl w wr =>
    obtain ⟨hwn, hw1, hw2, _, hlwl, hlwr⟩ := hlw
    simp only [Sh.ptr] at ew
    have hwne : ¬ ((w : Int) = -1) := by omega
    obtain ⟨s2, hex, hrun2, hF, ewl2, ewr2, exp2⟩ := dfReads_spec d fuel n s h.vs h.run x p w wl.ptr wr.ptr hxn hwn h.hx ew exp
      hx3 hw1 hw2 (.ite (.and (blackE (pickD d "_rb_delete_fixup17$w_left" "_rb_delete_fixup17$w_right")) (blackE (pickD d "_rb_delete_fixup17$w_right" "_rb_delete_fixup17$w_left"))) (dfCase2 d)
        (.seq (.ite (blackE (pickD d "_rb_delete_fixup17$w_right" "_rb_delete_fixup17$w_left")) (dfCase3 d) .skip) (dfCase4 d)))
    have ex2 : s2.ienv "_rb_delete_fixup17$x" = x := (hF.ienv _ (by simp)).trans h.hx
    have ew2 : s2.ienv "_rb_delete_fixup17$w" = w := (hF.ienv _ (by simp)).trans ew
    have hrest : exec fuel (dfIterB d) s = exec fuel (.ite (.and (blackE (pickD d "_rb_delete_fixup17$w_left" "_rb_delete_fixup17$w_right")) (blackE (pickD d "_rb_delete_fixup17$w_right" "_rb_delete_fixup17$w_left")))
        (dfCase2 d) (.seq (.ite (blackE (pickD d "_rb_delete_fixup17$w_right" "_rb_delete_fixup17$w_left")) (dfCase3 d) .skip) (dfCase4 d))) s2 := by
      have hskip : exec fuel (.ite (.cmpI .eq (.var "_rb_delete_fixup17$w") (.lit (-1))) (dfNil d) .skip) s = s := by
        rw [exec_ite_false _ _ _ _ _ (by simp [BE.ok, IE.ok_var, IE.ok_lit])
          (by simp [BE.eval, IE.eval_var, IE.eval_lit, cmpInt, ew, hwne]), exec_skip]
      rw [dfIterB, exec_seq_eq _ _ _ _ _ hskip h.run, hex]
    rw [hrest]
    obtain ⟨near, far, hnear, hfar⟩ : ∃ near far : Sh, near = pickD d wl wr ∧ far = pickD d wr wl := ⟨_, _, rfl, rfl⟩
    have hW : Sh.node wl w wr = Sh.nodeD d near w far := by rw [hnear, hfar]; exact Sh.node_eq_nodeD d wl w wr
    have hsh2 : plug (.node xl x xr) (Fr.mkD d p (.node wl w wr) :: restB) =
        plug (Sh.nodeD d (.node xl x xr) p (Sh.nodeD d near w far)) restB := by rw [hsh, hW]
    have hT3 : absT (s.fa "tree_vals") (s.ia "tree_nodes") (plug (Sh.nodeD d (.node xl x xr) p (Sh.nodeD d near w far)) restB) = T := by
      rw [← hsh2]; exact hT
    have dft2 : DFT s2 n (plug (Sh.nodeD d (.node xl x xr) p (Sh.nodeD d near w far)) restB) := by
      rw [← hsh2]; exact h.treeAt.of_eq hF.shp hF.fa hF.ia hrun2 (hF.ienv _ (by simp))
    have hv2 := dft2.vs
    have hlnear : Linked (s2.ia "tree_nodes") n (w : Int) near := by
      rw [hnear, hF.ia]; exact pickD_rel (R := fun t (_ : Unit) => Linked (s.ia "tree_nodes") n (w : Int) t) d (b := ()) (b' := ()) hlwl hlwr
    have hlfar : Linked (s2.ia "tree_nodes") n (w : Int) far := by
      rw [hfar, hF.ia]; exact pickD_rel (R := fun t (_ : Unit) => Linked (s.ia "tree_nodes") n (w : Int) t) d (b := ()) (b' := ()) hlwr hlwl
    have enear : s2.ienv (pickD d "_rb_delete_fixup17$w_left" "_rb_delete_fixup17$w_right") = near.ptr := by
      rw [hnear]; exact pickD_rel (R := fun v (t : Sh) => s2.ienv v = t.ptr) d ewl2 ewr2
    have efar : s2.ienv (pickD d "_rb_delete_fixup17$w_right" "_rb_delete_fixup17$w_left") = far.ptr := by
      rw [hfar]; exact pickD_rel (R := fun v (t : Sh) => s2.ienv v = t.ptr) d ewr2 ewl2
    have hmem : ∀ j, j ∈ near.idxs ∨ j ∈ far.idxs → ColV (nAt (s2.ia "tree_nodes") j 0) := fun j hj => by
      rw [hF.ia]; refine h.colOK j ?_
      rw [hsh2]; refine mem_plug _ restB _ ?_
      rw [Sh.mem_nodeD, Sh.mem_nodeD]
      exact Or.inr (Or.inr (Or.inr hj))
    have hnil2 : nAt (s2.ia "tree_nodes") (n - 1) 0 = 1 := by rw [hF.ia]; exact h.nilBlack
    obtain ⟨okn, evn⟩ := blackE_test n s2 hv2 _ near _ hlnear hnil2 (fun j hj => hmem j (Or.inl hj)) enear
    obtain ⟨okf, evf⟩ := blackE_test n s2 hv2 _ far _ hlfar hnil2 (fun j hj => hmem j (Or.inr hj)) efar
    rw [hF.fa, hF.ia] at evn evf
    have hok_both : BE.ok s2 (.and (blackE (pickD d "_rb_delete_fixup17$w_left" "_rb_delete_fixup17$w_right")) (blackE (pickD d "_rb_delete_fixup17$w_right" "_rb_delete_fixup17$w_left"))) = true := by
      rw [BE.ok_and, okn, okf]; simp
    have hev_both : BE.eval s2 (.and (blackE (pickD d "_rb_delete_fixup17$w_left" "_rb_delete_fixup17$w_right")) (blackE (pickD d "_rb_delete_fixup17$w_right" "_rb_delete_fixup17$w_left"))) =
        (!(isRed (absT (s.fa "tree_vals") (s.ia "tree_nodes") near)) && !(isRed (absT (s.fa "tree_vals") (s.ia "tree_nodes") far))) := by
      rw [BE.eval_and, evn, evf]
    have hsubw' : subAt ((restB.map Fr.dir).reverse ++ [d.flip]) T =
        .node (absT (s.fa "tree_vals") (s.ia "tree_nodes") wl) (nodeAt (s.fa "tree_vals") w) (vAt (s.fa "tree_vals") w 7)
          (decide (nAt (s.ia "tree_nodes") w 0 = 0)) (absT (s.fa "tree_vals") (s.ia "tree_nodes") wr) := hsubw
    have hpick : ∀ a b : Sh, pickD d (absT (s.fa "tree_vals") (s.ia "tree_nodes") a) (absT (s.fa "tree_vals") (s.ia "tree_nodes") b) =
        absT (s.fa "tree_vals") (s.ia "tree_nodes") (pickD d a b) := fun a b => by cases d <;> rfl
    have hpcol : ColV (nAt (s2.ia "tree_nodes") p 0) := by
      rw [hF.ia]; refine h.colOK p ?_
      rw [hsh]; exact mem_plug _ restB _ (by simp [Sh.nodeD, Sh.idxs])
    by_cases hboth : (!(isRed (absT (s.fa "tree_vals") (s.ia "tree_nodes") near)) && !(isRed (absT (s.fa "tree_vals") (s.ia "tree_nodes") far))) = true
    · -- case 2
      obtain ⟨m, e1, e2⟩ := dcase2_spec d fuel n s2 xl x xr p near w far restB dft2 ew2 ex2 exp2
      rw [exec_ite_true _ _ _ _ _ hok_both (by rw [hev_both]; exact hboth)]
      simp only [Bool.and_eq_true, Bool.not_eq_true'] at hboth
      rw [hF.ia] at e2
      refine DFStep.of_move hsh2 (m.of_eq hF.fa hF.ia) e1 (hprog.imp id (Or.imp id (fun hh => by rw [e2]; exact hh))) ?_
      rw [dfB_case2 S d c1 _ _ T _ _ _ _ _ hsubw' (show isRed (pickD d _ _) = false by rw [hpick, ← hnear]; exact hboth.1)
        (show isRed (pickD d _ _) = false by rw [hpick, ← hfar]; exact hboth.2),
        hpg, ← hT3, ← (m.of_eq hF.fa hF.ia).abs]
      exact (hstop _ _ _ e2).symm
    · -- cases 3 / 4
      have hboth' : (!(isRed (absT (s.fa "tree_vals") (s.ia "tree_nodes") near)) && !(isRed (absT (s.fa "tree_vals") (s.ia "tree_nodes") far))) = false :=
        Bool.eq_false_iff.mpr hboth
      rw [exec_ite_false _ _ _ _ _ hok_both (by rw [hev_both]; exact hboth')]
      by_cases hfr : isRed (absT (s.fa "tree_vals") (s.ia "tree_nodes") far) = true
      · -- case 4 directly: the far child is a red node
        obtain ⟨fl, f, fr, rfl⟩ := node_of_isRed hfr
        have ht3 : exec fuel (.ite (blackE (pickD d "_rb_delete_fixup17$w_right" "_rb_delete_fixup17$w_left")) (dfCase3 d) .skip) s2 = s2 := by
          rw [exec_ite_false _ _ _ _ _ okf (by rw [evf, hfr]; rfl), exec_skip]
        rw [exec_seq_eq _ _ _ _ _ ht3 hrun2]
        obtain ⟨m, e1⟩ := dcase4_spec d fuel n s2 xl x xr p near w fl f fr restB dft2 ew2 ex2 exp2 hpcol
        obtain ⟨l4, i4, r4, hsh4⟩ := plug_nodeD_is_node d (Sh.nodeD d (.node xl x xr) p near) w (.node fl f fr) restB
        rw [hsh4] at m e1
        rw [hF.fa, hF.ia, hS] at m
        refine DFStep.of_move (ctx' := []) hsh2 (m.of_eq hF.fa hF.ia) e1 (Or.inr (Or.inl rfl)) ?_
        show delFixP S [] (absT _ _ (.node l4 i4 r4)) = _
        rw [delFixP_nil, (m.of_eq hF.fa hF.ia).abs, hT3,
          dfB_case4 S d c1 _ _ T _ _ _ _ _ hsubw' (show isRed (pickD d _ _) = true by rw [hpick, ← hfar]; exact hfr), hpg, hpT]
      · -- case 3, then case 4: the near child is a red node
        have hfr' : isRed (absT (s.fa "tree_vals") (s.ia "tree_nodes") far) = false := Bool.eq_false_iff.mpr hfr
        have hnr : isRed (absT (s.fa "tree_vals") (s.ia "tree_nodes") near) = true := by
          rw [hfr'] at hboth'; simpa using hboth'
        obtain ⟨a, b, c, rfl⟩ := node_of_isRed hnr
        obtain ⟨nl, nr, hnl, hnr2⟩ : ∃ nl nr : Sh, nl = pickD d a c ∧ nr = pickD d c a := ⟨_, _, rfl, rfl⟩
        have hB : Sh.node a b c = Sh.nodeD d nl b nr := by rw [hnl, hnr2]; exact Sh.node_eq_nodeD d a b c
        rw [hB] at dft2 hsh2 hT3 enear
        have ht3 : exec fuel (.ite (blackE (pickD d "_rb_delete_fixup17$w_right" "_rb_delete_fixup17$w_left")) (dfCase3 d) .skip) s2 = exec fuel (dfCase3 d) s2 := by
          rw [exec_ite_true _ _ _ _ _ okf (by rw [evf, hfr']; rfl)]
        obtain ⟨m3, e1, e2, e3, e4, e5⟩ := dcase3_spec d fuel n s2 xl x xr p nl b nr w far restB dft2 ew2 enear ex2 exp2
        rw [exec_seq_eq _ _ _ _ _ ht3 m3.holds.run]
        generalize exec fuel (dfCase3 d) s2 = s3 at m3 e1 e2 e3 e4 e5
        obtain ⟨m4, e6⟩ := dcase4_spec d fuel n s3 xl x xr p nl b (pickD d nr far) w (pickD d far nr) restB m3.holds e1 e3 e2
          (by rw [e4]; exact hpcol)
        obtain ⟨l4, i4, r4, hsh4⟩ := plug_nodeD_is_node d (Sh.nodeD d (.node xl x xr) p nl) b (.node (pickD d nr far) w (pickD d far nr)) restB
        have m := (m3.trans m4).of_eq hF.fa hF.ia
        rw [hsh4] at m e6
        refine DFStep.of_move (ctx' := []) hsh2 m e6 (Or.inr (Or.inl rfl)) ?_
        show delFixP S [] (absT _ _ (.node l4 i4 r4)) = _
        have hcp : isRed (subAt (pathOf restB) (absT (s3.fa "tree_vals") (s3.ia "tree_nodes")
            (plug (Sh.nodeD d (.node xl x xr) p (Sh.nodeD d nl b (Sh.nodeD d nr w far))) restB))) =
            decide (nAt (s3.ia "tree_nodes") p 0 = 0) := hsubp _ _ _
        rw [m3.abs, hF.fa, hF.ia, hT3, hS] at hcp
        rw [delFixP_nil, m.abs, hT3, m3.nilMax, hF.fa, hS, ← hcp,
          dfB_case3 S d c1 _ _ T _ _ _ _ _ hsubw' (show isRed (pickD d _ _) = true by rw [hpick, ← hnear]; exact hnr)
          (show isRed (pickD d _ _) = false by rw [hpick, ← hfar]; exact hfr'), hpg]

/-- the test of case 1: `tree_nodes[w][TN_COLOR_ID] == RB_RED` (`w` may be NIL) -/
theorem dfCase1_test (n : Nat) (s : State F) (hv : VS s n) (wB : Sh) (par : Int)
    (hlw : Linked (s.ia "tree_nodes") n par wB) (hnil : nAt (s.ia "tree_nodes") (n - 1) 0 = 1)
    (ew : s.ienv "_rb_delete_fixup17$w" = wB.ptr) :
    BE.ok s (.cmpI .eq (.ld2 "tree_nodes" (.var "_rb_delete_fixup17$w") (.lit 0)) (.lit 0)) = true ∧
    BE.eval s (.cmpI .eq (.ld2 "tree_nodes" (.var "_rb_delete_fixup17$w") (.lit 0)) (.lit 0)) =
      isRed (absT (s.fa "tree_vals") (s.ia "tree_nodes") wB) := by
  constructor
  · simp [BE.ok, okN s n hv.shpN, ew, hlw.inRange hv.pos, IE.ok_lit]
  · simp only [BE.eval_cmpI, evalN s n hv.shpN _ 0 (by decide : (0 : Int) ≤ 0), ew, IE.eval_lit, cmpInt]
    rw [isRed_absT_ptr _ _ n wB hnil]; rfl

theorem dfHead_spec (d : Dir) (fuel n : Nat) (s : State F) (hv : VS s n) (hrun : s.ctl = .run) (x p : Nat) (wp : Int)
    (hxn : x + 1 < n) (hpn : p + 1 < n) (ex : s.ienv "_rb_delete_fixup17$x" = x) (exp : s.ienv "_rb_delete_fixup17$x_parent" = p)
    (hx3 : nAt (s.ia "tree_nodes") x 3 = (p : Int)) (hpw : nAt (s.ia "tree_nodes") p d.flip.col = wp) (k : St) :
    ∃ s1 : State F, exec fuel (seqK (dfHead d) k) s = exec fuel k s1 ∧ s1.ctl = .run ∧
      Frame ["_rb_delete_fixup17$x_parent", "_rb_delete_fixup17$w"] [] [] s s1 ∧ s1.ienv "_rb_delete_fixup17$w" = wp ∧
      s1.ienv "_rb_delete_fixup17$x_parent" = p := by
  cases d with
  | L =>
    have h1 := exec_ldN fuel n s hv.shpN "_rb_delete_fixup17$w" "_rb_delete_fixup17$x_parent" 2 (by decide)
      (by rw [exp]; exact hv.inRange hpn) wp (by rw [exp, rowOf_nat]; exact hpw)
    refine ⟨{ s with ienv := setS s.ienv "_rb_delete_fixup17$w" wp }, ?_, hrun, Frame.setI s wp (by simp), ?_, ?_⟩
    · simp only [dfHead, seqK]
      rw [exec_seq_eq _ _ _ _ _ h1 hrun]
    all_goals simp [setS, exp]
  | R =>
    have h0 := exec_ldN fuel n s hv.shpN "_rb_delete_fixup17$x_parent" "_rb_delete_fixup17$x" 3 (by decide)
      (by rw [ex]; exact hv.inRange hxn) p (by rw [ex, rowOf_nat]; exact hx3)
    have h1 := exec_ldN fuel n { s with ienv := setS s.ienv "_rb_delete_fixup17$x_parent" (p : Int) } hv.shpN "_rb_delete_fixup17$w"
      "_rb_delete_fixup17$x_parent" 1 (by decide) (by simp only [setS_same]; exact hv.inRange hpn) wp
      (by simp only [setS_same, rowOf_nat]; exact hpw)
    refine ⟨{ s with ienv := setS (setS s.ienv "_rb_delete_fixup17$x_parent" (p : Int)) "_rb_delete_fixup17$w" wp }, ?_, hrun,
      (Frame.setI s (p : Int) (by simp)).trans (Frame.setI _ wp (by simp)), ?_, ?_⟩
    · simp only [dfHead, seqK]
      rw [exec_seq_eq _ _ _ _ _ h0 hrun, exec_seq_eq _ _ _ _ _ h1 hrun]
    all_goals simp [setS]

theorem df_spec (d : Dir) (fuel n : Nat) (s : State F) (xl : Sh) (x : Nat) (xr : Sh) (p : Nat) (wB : Sh) (rest : Ctx)
    (h : DFCore s n xl x xr (Fr.mkD d p wB :: rest)) (exp : s.ienv "_rb_delete_fixup17$x_parent" = p) (hxb : nAt (s.ia "tree_nodes") x 0 = 1) :
    DFStep (vAt (s.fa "tree_vals") (n - 1) 7) s (exec fuel (dfSide d) s) n (plug (.node xl x xr) (Fr.mkD d p wB :: rest))
      (rest.length + 1)
      (delFixP (vAt (s.fa "tree_vals") (n - 1) 7) (d :: rest.map Fr.dir)
        (absT (s.fa "tree_vals") (s.ia "tree_nodes") (plug (.node xl x xr) (Fr.mkD d p wB :: rest)))) := by
  obtain ⟨hxn, hx3, hpn, hpw, hlw⟩ := (plug_mkD d _ p wB rest ▸ h.treeAt).pos.sibling
  have hpg : (rest.map Fr.dir).reverse = pathOf rest := map_dir_reverse rest
  obtain ⟨s1, hex, hrun1, hF, ew1, exp1⟩ :=
    dfHead_spec d fuel n s h.vs h.run x p wB.ptr hxn hpn h.hx exp hx3 hpw (.seq (dfCase1 d) (dfIterB d))
  have ex1 : s1.ienv "_rb_delete_fixup17$x" = x := (hF.ienv _ (by simp)).trans h.hx
  have m1 : DFMove n (fun t => t) s s1 _ _ :=
    (Move.refl (h.treeAt.of_eq hF.shp hF.fa hF.ia hrun1 (hF.ienv _ (by simp)))).of_eq hF.fa hF.ia
  have hcore1 : DFCore s1 n xl x xr (Fr.mkD d p wB :: rest) := h.of_move m1 ex1
  obtain ⟨tok, tev⟩ := dfCase1_test n s1 hcore1.vs wB _ (by rw [hF.ia]; exact hlw) hcore1.nilBlack ew1
  rw [hF.fa, hF.ia] at tev
  rw [dfSide, hex]
  have hxm : isRed (subAt ((rest.map Fr.dir).reverse ++ [d])
      (absT (s.fa "tree_vals") (s.ia "tree_nodes") (plug (.node xl x xr) (Fr.mkD d p wB :: rest)))) = false := by
    rw [hpg, ← pathOf_mkD d p wB rest, subAt_plug]
    simp [absT, isRed, hxb]
  have hwm : isRed (subAt ((rest.map Fr.dir).reverse ++ [d.flip])
      (absT (s.fa "tree_vals") (s.ia "tree_nodes") (plug (.node xl x xr) (Fr.mkD d p wB :: rest)))) =
      isRed (absT (s.fa "tree_vals") (s.ia "tree_nodes") wB) := by
    rw [hpg, plug_mkD_sib, ← pathOf_mkD d.flip p (.node xl x xr) rest, subAt_plug]
  by_cases hred : isRed (absT (s.fa "tree_vals") (s.ia "tree_nodes") wB) = true
  · -- case 1, then the rest of the iteration one level further down
    obtain ⟨wl, w, wr, rfl⟩ := node_of_isRed hred
    obtain ⟨near, far, hnear, hfar⟩ : ∃ near far : Sh, near = pickD d wl wr ∧ far = pickD d wr wl := ⟨_, _, rfl, rfl⟩
    have hsh2 : plug (.node xl x xr) (Fr.mkD d p (.node wl w wr) :: rest) =
        plug (Sh.nodeD d (.node xl x xr) p (Sh.nodeD d near w far)) rest := by
      rw [plug_mkD, hnear, hfar, ← Sh.node_eq_nodeD]
    have hsh3 : plug (Sh.nodeD d (Sh.nodeD d (.node xl x xr) p near) w far) rest =
        plug (.node xl x xr) (Fr.mkD d p near :: Fr.mkD d w far :: rest) := by rw [plug_mkD, plug_mkD]
    obtain ⟨m, e1, e2, e3, e4⟩ := dcase1_spec d fuel n s1 xl x xr p near w far rest (by rw [← hsh2]; exact hcore1.treeAt) ew1 exp1
    have ht : exec fuel (dfCase1 d) s1 = exec fuel (dfCase1B d) s1 := by
      rw [dfCase1, exec_ite_true _ _ _ _ _ tok (by rw [tev]; exact hred)]
    rw [exec_seq_eq _ _ _ _ _ ht m.holds.run]
    generalize exec fuel (dfCase1B d) s1 = s2 at m e1 e2 e3 e4
    have m2 := m.of_eq hF.fa hF.ia
    rw [← hsh2, hsh3] at m2
    have hstep := dfB_spec d fuel n s2 xl x xr p near (Fr.mkD d w far :: rest) true (rest.length + 1)
      (h.of_move m2 (by rw [e3, ex1])) e1 e2 (fun _ => e4) (fun hh => by cases hh)
    rw [m2.nilMax, m2.abs, hF.fa, List.map_cons, Fr.dir_mkD] at hstep
    refine hstep.after m2 ?_
    rw [delFixP_c1 _ d _ _ hxm (by rw [hwm]; exact hred), hpg]
    exact dfB_k_irrel _ _ _ _ _ _
  · -- the sibling is black (or NIL)
    have hred' : isRed (absT (s.fa "tree_vals") (s.ia "tree_nodes") wB) = false := Bool.eq_false_iff.mpr hred
    have ht : exec fuel (dfCase1 d) s1 = s1 := by
      rw [dfCase1, exec_ite_false _ _ _ _ _ tok (by rw [tev]; exact hred'), exec_skip]
    rw [exec_seq_eq _ _ _ _ _ ht hrun1]
    have hstep := dfB_spec d fuel n s1 xl x xr p wB rest false (rest.length + 1) hcore1 ew1 exp1 (fun hh => by cases hh)
      (fun _ => Nat.lt_succ_self _)
    rw [hF.fa, hF.ia] at hstep
    refine hstep.after m1 ?_
    rw [delFixP_c0 _ d _ _ hxm (by rw [hwm]; exact hred')]

/-- **one iteration of the loop of `_rb_delete_fixup`**: `x` black and not the root -/
theorem delFixBody_spec (fuel n : Nat) (s : State F) (xl : Sh) (x : Nat) (xr : Sh) (fr : Fr) (rest : Ctx)
    (h : DFCore s n xl x xr (fr :: rest)) (hxb : nAt (s.ia "tree_nodes") x 0 = 1) :
    DFStep (vAt (s.fa "tree_vals") (n - 1) 7) s (exec fuel delFixBody s) n (plug (.node xl x xr) (fr :: rest)) (rest.length + 1)
      (delFixP (vAt (s.fa "tree_vals") (n - 1) 7) ((fr :: rest).map Fr.dir)
        (absT (s.fa "tree_vals") (s.ia "tree_nodes") (plug (.node xl x xr) (fr :: rest)))) := by
  have hp := h.treeAt.pos
  have hxn : x + 1 < n := hp.sub.1
  have hx3 : nAt (s.ia "tree_nodes") x 3 = (fr.idx : Int) := by rw [hp.sub.2.2.2.1, ctxPar_cons]
  obtain ⟨s1, h1, m1, i1, a1⟩ := (Move.refl h.treeAt).exec_ld fuel "_rb_delete_fixup17$x_parent" "_rb_delete_fixup17$x" 3
    (by decide) x hxn h.hx (by simp)
  have ex1 : s1.ienv "_rb_delete_fixup17$x" = x := by rw [a1, setS_other _ _ _ _ (by simp)]; exact h.hx
  have exp1 : s1.ienv "_rb_delete_fixup17$x_parent" = fr.idx := by rw [a1, setS_same]; exact hx3
  have hcore1 : DFCore s1 n xl x xr (fr :: rest) := h.of_move m1 ex1
  have hok : BE.ok s1 (.cmpI .eq (.var "_rb_delete_fixup17$x") (.ld2 "tree_nodes" (.var "_rb_delete_fixup17$x_parent") (.lit 1))) = true := by
    simp [BE.ok, IE.ok_var, okN s1 n hcore1.vs.shpN, exp1, hcore1.vs.inRange hp.ctx.step.1]
  have hev : BE.eval s1 (.cmpI .eq (.var "_rb_delete_fixup17$x") (.ld2 "tree_nodes" (.var "_rb_delete_fixup17$x_parent") (.lit 1))) =
      decide ((x : Int) = nAt (s.ia "tree_nodes") fr.idx 1) := by
    simp only [BE.eval_cmpI, IE.eval_var, evalN s1 n hcore1.vs.shpN _ 1 (by decide : (0 : Int) ≤ 1), ex1, exp1, i1, rowOf_nat, cmpInt]
    rfl
  simp only [delFixBody]
  rw [exec_seq_eq _ _ _ _ _ h1 hcore1.run]
  -- the model takes the side from the frame, the code from the left child cell of the parent
  cases fr with
  | L p wB =>
    have hp1 : nAt (s.ia "tree_nodes") p 1 = (x : Int) := hp.ctx.2.1
    rw [exec_ite_true _ _ _ _ _ hok (by rw [hev]; simp [Fr.idx, hp1])]
    have := df_spec .L fuel n s1 xl x xr p wB rest hcore1 exp1 (by rw [i1]; exact hxb)
    simp only [Fr.mkD] at this
    rw [m1.nilMax, m1.abs] at this
    exact this.after m1 rfl
  | R wB p =>
    have hne : wB.ptr ≠ (x : Int) := hp.ctx.2.2.2.1 (by simp [Sh.ptr])
    have hp1 : nAt (s.ia "tree_nodes") p 1 = wB.ptr := hp.ctx.2.1
    rw [exec_ite_false _ _ _ _ _ hok (by rw [hev]; simp only [Fr.idx, hp1]; exact decide_eq_false (fun hh => hne hh.symm))]
    have := df_spec .R fuel n s1 xl x xr p wB rest hcore1 exp1 (by rw [i1]; exact hxb)
    simp only [Fr.mkD] at this
    rw [m1.nilMax, m1.abs] at this
    exact this.after m1 rfl

/-- the loop test `x != root and tree_nodes[x][TN_COLOR_ID] == RB_BLACK` -/
theorem delFixLoop_test (n : Nat) (s : State F) (xl : Sh) (x : Nat) (xr : Sh) (ctx : Ctx) (h : DFCore s n xl x xr ctx) :
    BE.ok s (.and (.cmpI .ne (.var "_rb_delete_fixup17$x") (.var "_rb_delete_fixup17$root"))
      (.cmpI .eq (.ld2 "tree_nodes" (.var "_rb_delete_fixup17$x") (.lit 0)) (.lit 1))) = true ∧
    BE.eval s (.and (.cmpI .ne (.var "_rb_delete_fixup17$x") (.var "_rb_delete_fixup17$root"))
      (.cmpI .eq (.ld2 "tree_nodes" (.var "_rb_delete_fixup17$x") (.lit 0)) (.lit 1))) =
      (decide (ctx ≠ []) && decide (nAt (s.ia "tree_nodes") x 0 = 1)) := by
  have hinx : inRange (x : Int) n = true := h.vs.inRange h.treeAt.pos.sub.1
  constructor
  · simp [BE.ok, IE.ok_var, okN s n h.vs.shpN, h.hx, hinx, IE.ok_lit]
  · simp only [BE.eval_and, BE.eval_cmpI, IE.eval_var, evalN s n h.vs.shpN _ 0 (by decide : (0 : Int) ≤ 0), h.hx, h.hroot,
      IE.eval_lit, rowOf_nat, cmpInt]
    congr 1
    cases ctx with
    | nil => simp [plug, Sh.ptr]
    | cons fr rest =>
      have := plug_ptr_ne fr rest (.node xl x xr) x (by simp [Sh.idxs]) h.nodup
      simp only [ne_eq, reduceCtorEq, not_false_eq_true, decide_true]
      exact decide_eq_true (fun e => this e.symm)

/-- **the loop of `_rb_delete_fixup`** moves the tree by the model's `delFixP` from the position of `x` and leaves `x` at
    the position the model returns -/
theorem delFixLoop_spec (fuel n : Nat) (s : State F) (xl : Sh) (x : Nat) (xr : Sh) (ctx : Ctx) (h : DFCore s n xl x xr ctx)
    (hf : ctx.length + 1 < fuel) :
    ∃ (xl' : Sh) (x' : Nat) (xr' : Sh) (ctx' : Ctx),
      DFMove n (fun T => (delFixP (vAt (s.fa "tree_vals") (n - 1) 7) (ctx.map Fr.dir) T).1) s (exec fuel delFixLoop s)
        (plug (.node xl x xr) ctx) (plug (.node xl' x' xr') ctx') ∧
      (exec fuel delFixLoop s).ienv "_rb_delete_fixup17$x" = x' ∧
      ctx'.map Fr.dir = (delFixP (vAt (s.fa "tree_vals") (n - 1) 7) (ctx.map Fr.dir)
        (absT (s.fa "tree_vals") (s.ia "tree_nodes") (plug (.node xl x xr) ctx))).2 := by
  generalize hS : vAt (s.fa "tree_vals") (n - 1) 7 = S
  generalize hM : delFixP S (ctx.map Fr.dir) (absT (s.fa "tree_vals") (s.ia "tree_nodes") (plug (.node xl x xr) ctx)) = M
  refine while_rule _ delFixBody (fun k q => DFInv S s n (plug (.node xl x xr) ctx) k M q)
    (fun q => ∃ (xl' : Sh) (x' : Nat) (xr' : Sh) (ctx' : Ctx),
      DFMove n (fun T => (delFixP S (ctx.map Fr.dir) T).1) s q (plug (.node xl x xr) ctx) (plug (.node xl' x' xr') ctx') ∧
      q.ienv "_rb_delete_fixup17$x" = x' ∧ ctx'.map Fr.dir = M.2)
    ?_ (ctx.length + 1) fuel s ⟨fun t => t, xl, x, xr, ctx, Move.refl h.treeAt, h.hx, Or.inl (Nat.lt_succ_self _), hM⟩ hf
  rintro fuel' k q _ ⟨f, xl', x', xr', ctx', m, hx', hp, hm⟩
  have hc : DFCore q n xl' x' xr' ctx' := h.of_move m hx'
  obtain ⟨tok, tev⟩ := delFixLoop_test n q xl' x' xr' ctx' hc
  rw [tev]
  refine ⟨tok, fun hev => ?_, fun hev => ?_⟩
  · -- `x` is the root or red: the model's loop stops too
    have hstop : ctx' = [] ∨ nAt (q.ia "tree_nodes") x' 0 = 0 := by
      by_cases e : ctx' = []
      · exact Or.inl e
      · refine Or.inr (by_contra fun h0 => ?_)
        have := (colV_black (hc.colOK x' (mem_plug _ ctx' _ (by simp [Sh.idxs])))).mpr h0
        simp [e, this] at hev
    rw [delFixP_stop S _ _ _ _ _ _ hstop] at hm
    refine ⟨xl', x', xr', ctx', m.congr ?_, hx', by rw [← hm]⟩
    show f _ = (delFixP S _ _).1
    rw [hM, ← hm, ← m.abs]
  · simp only [Bool.and_eq_true, decide_eq_true_eq] at hev
    obtain ⟨fr, rest, rfl⟩ := List.exists_cons_of_ne_nil hev.1
    have hlen : rest.length + 1 < k := by
      rcases hp with hp | hp | hp
      · exact hp
      · exact absurd hp (by simp)
      · rw [hev.2] at hp; exact absurd hp (by decide)
    have hb := delFixBody_spec fuel' n q xl' x' xr' fr rest hc hev.2
    rw [m.nilMax, hS] at hb
    obtain ⟨b1, b2⟩ := hb.after m hm
    rcases b1 with b1 | b1
    · exact Or.inl ⟨b1, rest.length + 1, hlen, by rw [← runOf_run b1]; exact b2⟩
    · exact Or.inr (Or.inl ⟨b1, rest.length + 1, hlen, b2⟩)

/-- the call of `_rb_delete_fixup(tree_vals, tree_nodes, root, x)` (the branch taken when a black node was spliced
    out and `x` is not NIL) -/
def delFixThen : St :=
  (.seq (.setI "_rb_delete_fixup17$root" (.var "root"))
  (.seq (.setI "_rb_delete_fixup17$x" (.var "x"))
  (.seq (.scope (.seq delFixLoop delFixEnd))
  (.setI "root" (.var "_rb_delete_fixup17$ret0")))))

theorem delFixCall_eq : delFixCall =
    .ite (.and (.cmpI .eq (.ld2 "tree_nodes" (.var "y") (.lit 0)) (.lit 1)) (.cmpI .ne (.var "x") (.lit (-1))))
      delFixThen .skip := rfl

/-- **`_rb_delete_fixup` inlined**, started with `x` at the position `ctx` of a well-linked tree with a black NIL row
    and sane colour cells: a move by the model's `rbDelFix` -/
theorem delFixThen_spec (fuel n : Nat) (s : State F) (xl : Sh) (x : Nat) (xr : Sh) (ctx : Ctx)
    (h : TreeAt "root" s n (plug (.node xl x xr) ctx)) (hx : s.ienv "x" = x)
    (hnil : nAt (s.ia "tree_nodes") (n - 1) 0 = 1)
    (hcol : ∀ j ∈ (plug (.node xl x xr) ctx).idxs, ColV (nAt (s.ia "tree_nodes") j 0))
    (hf : ctx.length + 2 ≤ fuel) :
    ∃ sh' : Sh, Move "root" n (rbDelFix (vAt (s.fa "tree_vals") (n - 1) 7) (ctx.map Fr.dir)) s
      (exec fuel delFixThen s) (plug (.node xl x xr) ctx) sh' := by
  -- the two arguments are passed
  have t1 : DFT ({ s with ienv := setS s.ienv "_rb_delete_fixup17$root" (s.ienv "root") } : State F) n (plug (.node xl x xr) ctx) :=
    ⟨h.vs.of_eq rfl rfl rfl, h.run, h.linked, h.nodup, (setS_same s.ienv "_rb_delete_fixup17$root" _).trans h.root⟩
  obtain ⟨s2, h2, m2, _, a2⟩ := (Move.refl t1).exec_setI fuel "_rb_delete_fixup17$x" (.var "x") (IE.ok_var _ _) (by simp)
  have hcore2 : DFCore s2 n xl x xr ctx :=
    ⟨m2.holds.vs, m2.holds.run, m2.holds.linked, m2.holds.nodup, by simp [a2, setS, IE.eval, hx], m2.holds.root,
     m2.nilCol.trans hnil, fun j hj => m2.col j (hcol j hj)⟩
  obtain ⟨xl4, x4, xr4, ctx4, m4, hx4, c4⟩ := delFixLoop_spec fuel n s2 xl x xr ctx hcore2 (by omega)
  generalize hs4 : exec fuel delFixLoop s2 = s4 at m4 hx4
  rw [m2.nilMax] at m4
  rw [m2.nilMax, m2.abs] at c4
  -- `x` is blackened
  obtain ⟨m5, e5, _, _⟩ := stColE_move fuel n s4 "_rb_delete_fixup17$x" (.lit 1) 1 false (IE.ok_lit _ _) (IE.eval_lit _ _)
    (by decide) colV_one m4.holds ctx4 xl4 x4 xr4 rfl rfl hx4
  generalize hs5 : exec fuel (.stI2 "tree_nodes" (.var "_rb_delete_fixup17$x") (.lit 0) (.lit 1)) s4 = s5 at m5 e5
  have hend : exec fuel delFixEnd s4 =
      { s5 with ienv := setS s5.ienv "_rb_delete_fixup17$ret0" (plug (.node xl4 x4 xr4) ctx4).ptr, ctl := .ret } := by
    simp only [delFixEnd]
    rw [exec_seq_eq _ _ _ _ _ hs5 m5.holds.run, exec_seq_eq _ _ _ _ _ (IL.exec_setI _ _ _ _ (IE.ok_var _ _)) m5.holds.run,
      IE.eval_var, exec_ret, m5.holds.root]
  have hscope : exec fuel (.scope (.seq delFixLoop delFixEnd)) s2 =
      { s5 with ienv := setS s5.ienv "_rb_delete_fixup17$ret0" (plug (.node xl4 x4 xr4) ctx4).ptr, ctl := .run } := by
    rw [exec_scope, exec_seq_eq _ _ _ _ _ hs4 m4.holds.run, hend]
    simp
  have hr : exec fuel delFixThen s = { s5 with
      ienv := (setS (setS s5.ienv "_rb_delete_fixup17$ret0" (plug (.node xl4 x4 xr4) ctx4).ptr) "root" (plug (.node xl4 x4 xr4) ctx4).ptr),
      ctl := .run } :=
    (exec_seq_eq _ _ _ _ _ (IL.exec_setI _ _ _ _ (IE.ok_var _ _)) h.run).trans ((exec_seq_eq _ _ _ _ _ h2 m2.holds.run).trans
      ((exec_seq_eq _ _ _ _ _ hscope rfl).trans (by rw [exec_setI _ _ _ _ (IE.ok_var _ _), IE.eval_var]; simp [setS])))
  rw [hr]
  have m := ((m2.trans m4).trans m5).congr (g := rbDelFix (vAt (s.fa "tree_vals") (n - 1) 7) (ctx.map Fr.dir)) (by
    show atPath (setCol false) (pathOf ctx4) (delFixP _ _ _).1 = _
    unfold rbDelFix
    rw [← c4, map_dir_reverse])
  exact ⟨plug (.node xl4 x4 xr4) ctx4, ⟨m.holds.vs.of_eq rfl rfl rfl, rfl, m.holds.linked, m.holds.nodup, by simp [setS]⟩, m.idxs,
    m.abs, m.nilMax, m.nilCol, m.col⟩

end XrsVerif.ILVs
