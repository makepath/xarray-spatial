import XrsVerif.Proofs.ILangVssweep
import XrsVerif.Proofs.ViewshedEvents
/-
  The generated `_calculate_event_row_col` and `_calc_event_pos` compute the model's corner
  tables `nbOff` / `posOff` (Model/ViewshedEvents.lean) for every (type, cell, observer); proved once for the templates
  `rcBody k p` / `posBody k p`, hence for the stand-alone programs and every inlined copy.  Both tables are read off the one
  table `offTable` (Proofs/ViewshedEvents.lean: `nbOff_eq_offOf`, `posOff_eq_offOf`), whose rows are the branches of the
  nine-way chain the two functions share (`geoChain`).
-/
namespace XrsVerif.ILSw
open XrsVerif XrsVerif.IL XrsVerif.ViewshedEvents
variable {F : Type} [Fl F]

theorem nbS_table :
    nbS 1 (-1) (-1) = (-1, 1) ∧ nbS (-1) (-1) (-1) = (1, -1) ∧
    nbS 1 (-1) 0 = (1, 1) ∧ nbS (-1) (-1) 0 = (1, -1) ∧
    nbS 1 (-1) 1 = (1, 1) ∧ nbS (-1) (-1) 1 = (-1, -1) ∧
    nbS 1 0 1 = (1, -1) ∧ nbS (-1) 0 1 = (-1, -1) ∧
    nbS 1 1 1 = (1, -1) ∧ nbS (-1) 1 1 = (-1, 1) ∧
    nbS 1 1 0 = (-1, -1) ∧ nbS (-1) 1 0 = (-1, 1) ∧
    nbS 1 1 (-1) = (-1, -1) ∧ nbS (-1) 1 (-1) = (1, 1) ∧
    nbS 1 0 (-1) = (-1, 1) ∧ nbS (-1) 0 (-1) = (1, 1) ∧
    nbS 1 0 0 = (0, 0) ∧ nbS (-1) 0 0 = (0, 0) := by decide

inductive Pos9 (dr dc : Int) : Prop
  | nw (h1 : dr < 0) (h2 : dc < 0)
  | n (h1 : dr < 0) (h2 : dc = 0)
  | ne (h1 : dr < 0) (h2 : 0 < dc)
  | e (h1 : dr = 0) (h2 : 0 < dc)
  | se (h1 : 0 < dr) (h2 : 0 < dc)
  | s (h1 : 0 < dr) (h2 : dc = 0)
  | sw (h1 : 0 < dr) (h2 : dc < 0)
  | w (h1 : dr = 0) (h2 : dc < 0)
  | o (h1 : dr = 0) (h2 : dc = 0)

theorem pos9 (dr dc : Int) : Pos9 dr dc := by
  rcases Int.lt_trichotomy dr 0 with h | h | h <;> rcases Int.lt_trichotomy dc 0 with g | g | g
  · exact .nw h g
  · exact .n h g
  · exact .ne h g
  · exact .w h g
  · exact .o h g
  · exact .e h g
  · exact .sw h g
  · exact .s h g
  · exact .se h g

inductive Sgn3 (x : Int) : Prop
  | neg (h : x < 0) (h' : ¬ x = 0) (h'' : ¬ 0 < x)
  | zero (h : x = 0)
  | pos (h : 0 < x) (h' : ¬ x = 0) (h'' : ¬ x < 0)

theorem sgn3 (x : Int) : Sgn3 x := by
  rcases Int.lt_trichotomy x 0 with h | h | h
  · exact .neg h (by omega) (by omega)
  · exact .zero h
  · exact .pos h (by omega) (by omega)

theorem tyIs_ok (k : TyK) (p : String) (c : Int) (s : State F) : (tyIs k p c).ok s = true := by
  cases k <;> simp [tyIs, BE.ok, IE.ok, FE.ok]

theorem tyIs_eval (k : TyK) (p : String) (s : State F) (ty : Int) (hty : TyVal k p s ty) :
    (tyIs k p 0).eval s = decide (ty = 0) ∧ (tyIs k p 1).eval s = decide (ty = 1) := by
  cases k with
  | int => simp only [TyVal] at hty; simp [il, tyIs, hty]
  | num =>
    obtain ⟨h1, h2, h3⟩ := hty
    simp [il, tyIs, h1, h2, h3]

def offS (p : String) (s : State F) (ty : Int) : Int × Int :=
  offOf ty (s.ienv (p ++ "event_row") - s.ienv (p ++ "viewpoint_row")) (s.ienv (p ++ "event_col") - s.ienv (p ++ "viewpoint_col"))

/-- the nine-way case distinction both event functions make on the position of the cell relative to the observer: the
    branch `L ey ex xy xx` carries the ENTER and EXIT offsets, `fin` is run for the observer's own cell; `sw` is the order of
    the two comparisons in a test (`_calculate_event_row_col` asks for the column first) -/
def geoChain (sw : Bool) (p : String) (L : Int → Int → Int → Int → St) (fin : St) : St :=
  let c (a b : BE) : BE := if sw then .and b a else .and a b
  .ite (.and (.cmpI .lt (vR p) (vVR p)) (.cmpI .lt (vC p) (vVC p))) (L (-1) 1 1 (-1))
  (.ite (c (.cmpI .lt (vR p) (vVR p)) (.cmpI .eq (vC p) (vVC p))) (L 1 1 1 (-1))
  (.ite (c (.cmpI .lt (vR p) (vVR p)) (.cmpI .gt (vC p) (vVC p))) (L 1 1 (-1) (-1))
  (.ite (c (.cmpI .eq (vR p) (vVR p)) (.cmpI .gt (vC p) (vVC p))) (L 1 (-1) (-1) (-1))
  (.ite (c (.cmpI .gt (vR p) (vVR p)) (.cmpI .gt (vC p) (vVC p))) (L 1 (-1) (-1) 1)
  (.ite (c (.cmpI .gt (vR p) (vVR p)) (.cmpI .eq (vC p) (vVC p))) (L (-1) (-1) (-1) 1)
  (.ite (c (.cmpI .gt (vR p) (vVR p)) (.cmpI .lt (vC p) (vVC p))) (L (-1) (-1) 1 1)
  (.ite (c (.cmpI .eq (vR p) (vVR p)) (.cmpI .lt (vC p) (vVC p))) (L (-1) 1 1 1)
    (.seq (.ite (.and (.cmpI .eq (vR p) (vVR p)) (.cmpI .eq (vC p) (vVC p))) .skip (.fail "AssertionError")) fin))))))))

theorem rcChain_eq (k : TyK) (p : String) :
    rcChain k p = geoChain true p (rcBr k p) (.seq (.setI (p ++ "x") (vC p)) (.setI (p ++ "y") (vR p))) := rfl

theorem posChain_eq (k : TyK) (p : String) :
    posChain k p = geoChain false p (posBr k p) (.seq (.setF (p ++ "x") (.ofInt (vC p))) (.setF (p ++ "y") (.ofInt (vR p)))) := rfl

/-- the chain runs the branch of `offTable`: the tests select by the signs of `dr`, `dc`, whatever the branches are -/
theorem geoChain_exec (sw : Bool) (p : String) (L : Int → Int → Int → Int → St) (fin : St) (s : State F) (fuel : Nat)
    (hs : s.ctl = .run) (dr dc : Int) (hdr : dr = s.ienv (p ++ "event_row") - s.ienv (p ++ "viewpoint_row"))
    (hdc : dc = s.ienv (p ++ "event_col") - s.ienv (p ++ "viewpoint_col")) :
    exec fuel (geoChain sw p L fin) s =
      if dr = 0 ∧ dc = 0 then exec fuel fin s
      else exec fuel (L (offTable dr dc).1.1 (offTable dr dc).1.2 (offTable dr dc).2.1 (offTable dr dc).2.2) s := by
  generalize her : s.ienv (p ++ "event_row") = er at *
  generalize hec : s.ienv (p ++ "event_col") = ec at *
  generalize hvr : s.ienv (p ++ "viewpoint_row") = vr at *
  generalize hvc : s.ienv (p ++ "viewpoint_col") = vc at *
  have e1 : (er < vr) = (dr < 0) := by apply propext; omega
  have e2 : (er = vr) = (dr = 0) := by apply propext; omega
  have e3 : (vr < er) = (0 < dr) := by apply propext; omega
  have e4 : (ec < vc) = (dc < 0) := by apply propext; omega
  have e5 : (ec = vc) = (dc = 0) := by apply propext; omega
  have e6 : (vc < ec) = (0 < dc) := by apply propext; omega
  clear hdr hdc
  cases sw <;>
  rcases sgn3 dr with ⟨a1, a2, a3⟩ | a1 | ⟨a1, a2, a3⟩ <;> rcases sgn3 dc with ⟨b1, b2, b3⟩ | b1 | ⟨b1, b2, b3⟩ <;>
  simp [il, geoChain, vR, vC, vVR, vVC, offTable, *]

theorem rcSet_exec (p : String) (oy ox : Int) (s : State F) (fuel : Nat) (hs : s.ctl = .run)
    (hy : oy = 1 ∨ oy = -1) (hx : ox = 1 ∨ ox = -1) :
    exec fuel (rcSet p oy ox) s = { s with ienv := (setS (setS s.ienv (p ++ "y") (s.ienv (p ++ "event_row") + oy))
      (p ++ "x") (s.ienv (p ++ "event_col") + ox)) } := by
  rcases hy with rfl | rfl <;> rcases hx with rfl | rfl <;>
  simp [il, rcSet, hs, ← Int.sub_eq_add_neg]

theorem rcChain_exec (k : TyK) (p : String) (s : State F) (fuel : Nat) (hs : s.ctl = .run) (ty : Int)
    (hty : TyVal k p s ty) :
    exec fuel (rcChain k p) s = { s with ienv := (setS (setS s.ienv (p ++ "y") (s.ienv (p ++ "event_row") + (offS p s ty).1))
      (p ++ "x") (s.ienv (p ++ "event_col") + (offS p s ty).2)) } := by
  rw [rcChain_eq, geoChain_exec true p _ _ s fuel hs _ _ rfl rfl]
  unfold offS offOf
  generalize s.ienv (p ++ "event_row") - s.ienv (p ++ "viewpoint_row") = dr
  generalize s.ienv (p ++ "event_col") - s.ienv (p ++ "viewpoint_col") = dc
  by_cases h : dr = 0 ∧ dc = 0
  · have hc : (p ++ "x") ≠ (p ++ "y") := by simp
    simp [il, h, offTable, hs, vR, vC, setS_comm _ _ _ _ _ hc]
  · obtain ⟨⟨g1, g2⟩, g3, g4⟩ := offTable_pm dr dc h
    have hT := (tyIs_eval k p s ty hty).2
    have hO := tyIs_ok (F := F) k p 1
    by_cases h1 : ty = 1 <;>
    simp [rcBr, exec, rcSet_exec, *]

theorem TyVal.frame {k : TyK} {p : String} {s s' : State F} {ty : Int} (h : TyVal k p s ty)
    (hi : s'.ienv (p ++ "event_type") = s.ienv (p ++ "event_type"))
    (hf : s'.fenv (p ++ "event_type") = s.fenv (p ++ "event_type")) : TyVal k p s' ty := by
  cases k with
  | int => simp only [TyVal] at h ⊢; rw [hi, h]
  | num => simp only [TyVal] at h ⊢; rw [hf]; exact h

def rcEnv (p : String) (s : State F) (ty : Int) : String → Int :=
  setS (setS (setS (setS s.ienv (p ++ "y") (s.ienv (p ++ "event_row") + (offS p s ty).1))
    (p ++ "x") (s.ienv (p ++ "event_col") + (offS p s ty).2))
    (p ++ "ret0") (s.ienv (p ++ "event_row") + (offS p s ty).1))
    (p ++ "ret1") (s.ienv (p ++ "event_col") + (offS p s ty).2)

theorem rcBody_exec (k : TyK) (p : String) (s : State F) (fuel : Nat) (hs : s.ctl = .run) (ty : Int)
    (hty : TyVal k p s ty) :
    (ty = 0 → (exec fuel (rcBody k p) s).ctl = .err "ValueError") ∧
    (ty ≠ 0 → exec fuel (rcBody k p) s = { s with ienv := rcEnv p s ty, ctl := .ret }) := by
  obtain ⟨ie, fe, be, ia, fa, shp, ext, ctl⟩ := s
  simp only at hs; subst hs
  let s1 : State F := ⟨setS (setS ie (p ++ "x") 0) (p ++ "y") 0, fe, be, ia, fa, shp, ext, .run⟩
  have ht1 : TyVal k p s1 ty := hty.frame (by simp [s1, setS_apply]) rfl
  have hT := (tyIs_eval k p s1 ty ht1).1
  have hO := tyIs_ok (F := F) k p 0
  have hch := rcChain_exec k p s1 fuel rfl ty ht1
  have hm := offOf_mem ty (ie (p ++ "event_row") - ie (p ++ "viewpoint_row")) (ie (p ++ "event_col") - ie (p ++ "viewpoint_col"))
  simp only [s1] at hch hT
  constructor
  · intro h0
    simp [il, rcBody, hT, hO, h0]
  · intro h0
    simp [offS, setS_apply] at hch
    simp only [rcEnv, offS]
    generalize offOf ty (ie (p ++ "event_row") - ie (p ++ "viewpoint_row")) (ie (p ++ "event_col") - ie (p ++ "viewpoint_col")) = o at *
    have g1 : ¬ 1 < o.1 := by omega
    have g2 : ¬ 1 < o.2 := by omega
    simp [il, rcBody, hT, hO, h0, hch, rcGuard, vC, vR, g1, g2]
    env_eq

/-- index `i` moved by `o / 2` cells (`o` ∈ {1, 0, -1}), as the code computes it -/
def halfF (i o : Int) : F :=
  if o = 1 then Fl.add (Fl.lit i 1) (Fl.lit 1 2) else if o = 0 then Fl.lit i 1 else Fl.sub (Fl.lit i 1) (Fl.lit 1 2)

/-- the law of the number type `_calc_event_pos`'s closing assertion needs: a point half a cell away is less than one
    cell away (`|i - (i ± 1/2)| < 1`, `|i - i| < 1`) -/
def HalfOK (F : Type) [Fl F] : Prop :=
  ∀ (i o : Int), (o = 1 ∨ o = 0 ∨ o = -1) →
    Fl.lt (Fl.abs (Fl.sub (Fl.lit i 1) (halfF i o : F))) (Fl.lit 1 1) = true

theorem posSet_exec (p : String) (oy ox : Int) (s : State F) (fuel : Nat) (hs : s.ctl = .run)
    (hy : oy = 1 ∨ oy = -1) (hx : ox = 1 ∨ ox = -1) :
    exec fuel (posSet p oy ox) s = { s with fenv := (setS (setS s.fenv (p ++ "y") (halfF (s.ienv (p ++ "event_row")) oy))
      (p ++ "x") (halfF (s.ienv (p ++ "event_col")) ox)) } := by
  rcases hy with rfl | rfl <;> rcases hx with rfl | rfl <;>
  simp [il, posSet, vR, vC, hs, halfF]

theorem posChain_exec (k : TyK) (p : String) (s : State F) (fuel : Nat) (hs : s.ctl = .run) (ty : Int)
    (hty : TyVal k p s ty) :
    exec fuel (posChain k p) s = { s with fenv := (setS (setS s.fenv (p ++ "y") (halfF (s.ienv (p ++ "event_row")) (offS p s ty).1))
      (p ++ "x") (halfF (s.ienv (p ++ "event_col")) (offS p s ty).2)) } := by
  rw [posChain_eq, geoChain_exec false p _ _ s fuel hs _ _ rfl rfl]
  unfold offS offOf
  generalize s.ienv (p ++ "event_row") - s.ienv (p ++ "viewpoint_row") = dr
  generalize s.ienv (p ++ "event_col") - s.ienv (p ++ "viewpoint_col") = dc
  by_cases h : dr = 0 ∧ dc = 0
  · have hc : (p ++ "x") ≠ (p ++ "y") := by simp
    simp [il, h, offTable, hs, vR, vC, halfF, setS_comm _ _ _ _ _ hc]
  · obtain ⟨⟨g1, g2⟩, g3, g4⟩ := offTable_pm dr dc h
    have hT := (tyIs_eval k p s ty hty).2
    have hO := tyIs_ok (F := F) k p 1
    by_cases h1 : ty = 1 <;>
    simp [posBr, exec, posSet_exec, *]


def posS' (p : String) (s : State F) (ty : Int) : Int × Int :=
  posOff ty (s.ienv (p ++ "event_row") - s.ienv (p ++ "viewpoint_row")) (s.ienv (p ++ "event_col") - s.ienv (p ++ "viewpoint_col"))

def posEnv (p : String) (s : State F) (ty : Int) : String → F :=
  setS (setS (setS (setS s.fenv (p ++ "y") (halfF (s.ienv (p ++ "event_row")) (posS' p s ty).1))
    (p ++ "x") (halfF (s.ienv (p ++ "event_col")) (posS' p s ty).2))
    (p ++ "ret0") (halfF (s.ienv (p ++ "event_row")) (posS' p s ty).1))
    (p ++ "ret1") (halfF (s.ienv (p ++ "event_col")) (posS' p s ty).2)

theorem posEnv_apply (p : String) (s : State F) (ty : Int) (v : String) :
    posEnv p s ty v =
      if v = p ++ "ret1" then halfF (s.ienv (p ++ "event_col")) (posS' p s ty).2
      else if v = p ++ "ret0" then halfF (s.ienv (p ++ "event_row")) (posS' p s ty).1
      else if v = p ++ "x" then halfF (s.ienv (p ++ "event_col")) (posS' p s ty).2
      else if v = p ++ "y" then halfF (s.ienv (p ++ "event_row")) (posS' p s ty).1 else s.fenv v := by
  simp only [posEnv, setS_apply]

theorem posBody_exec (hH : HalfOK F) (k : TyK) (p : String) (s : State F) (fuel : Nat) (hs : s.ctl = .run) (ty : Int)
    (hty : TyVal k p s ty) :
    exec fuel (posBody k p) s = { s with fenv := posEnv p s ty, ctl := .ret } := by
  obtain ⟨ie, fe, be, ia, fa, shp, ext, ctl⟩ := s
  simp only at hs; subst hs
  let s1 : State F := ⟨ie, setS (setS fe (p ++ "x") (Fl.lit 0 1)) (p ++ "y") (Fl.lit 0 1), be, ia, fa, shp, ext, .run⟩
  have ht1 : TyVal k p s1 ty := hty.frame rfl (by simp [s1, setS_apply])
  have hT := (tyIs_eval k p s1 ty ht1).1
  have hO := tyIs_ok (F := F) k p 0
  have hch := posChain_exec k p s1 fuel rfl ty ht1
  simp only [s1] at hch hT
  simp only [posEnv, posS']
  by_cases h0 : ty = 0
  · subst h0
    simp [il, posBody, hT, hO, vR, vC, posOff_centre, halfF]
    env_eq
  · rw [posOff_eq_offOf _ _ _ h0]
    have hm := offOf_mem ty (ie (p ++ "event_row") - ie (p ++ "viewpoint_row")) (ie (p ++ "event_col") - ie (p ++ "viewpoint_col"))
    simp [offS] at hch
    generalize offOf ty (ie (p ++ "event_row") - ie (p ++ "viewpoint_row")) (ie (p ++ "event_col") - ie (p ++ "viewpoint_col")) = o at *
    have g1 := hH (ie (p ++ "event_row")) o.1 hm.1
    have g2 := hH (ie (p ++ "event_col")) o.2 hm.2
    simp [il, posBody, hT, hO, h0, hch, posAssert, vC, vR, g1, g2]
    env_eq

theorem posBody_int (hH : HalfOK F) (p : String) (s : State F) (fuel : Nat) (hs : s.ctl = .run) :
    exec fuel (posBody .int p) s = { s with fenv := posEnv p s (s.ienv (p ++ "event_type")), ctl := .ret } :=
  posBody_exec hH .int p s fuel hs (s.ienv (p ++ "event_type")) rfl

/-- **the generated `_calculate_event_row_col` returns the model's diagonal neighbour** `(row, col) + nbOff` for every
    ENTER / EXIT code, cell and observer (the guard `abs(x - event_col > 1) or …` never fires); `CENTER` raises -/
theorem vsEventRowCol_refines (s : State F) (fuel : Nat) (hs : s.ctl = .run) :
    let r := Gen.IL.vsEventRowCol.run s fuel
    let ty := s.ienv "event_type"
    let o := nbOff ty (s.ienv "event_row" - s.ienv "viewpoint_row") (s.ienv "event_col" - s.ienv "viewpoint_col")
    (ty = 0 → r.ctl = .err "ValueError") ∧
    (ty ≠ 0 → r.ctl = .ret ∧ r.ienv "ret0" = s.ienv "event_row" + o.1 ∧ r.ienv "ret1" = s.ienv "event_col" + o.2 ∧
      r.fa = s.fa ∧ r.ia = s.ia ∧ r.fenv = s.fenv) := by
  simp only [Prog.run, vsEventRowCol_is_template]
  obtain ⟨h1, h2⟩ := rcBody_exec .int "" s fuel hs (s.ienv "event_type") rfl
  refine ⟨h1, fun h0 => ?_⟩
  rw [h2 h0, nbOff_eq_offOf]
  simp [rcEnv, offS, setS_apply]

/-- **the generated `_calc_event_pos` returns the model's event point**: the cell centre moved by half the model's doubled
    offset `posOff` (ENTER / EXIT corner, the centre itself for CENTER) -/
theorem vsEventPos_refines (hH : HalfOK F) (s : State F) (fuel : Nat) (hs : s.ctl = .run) :
    let r := Gen.IL.vsEventPos.run s fuel
    let o := posOff (s.ienv "event_type") (s.ienv "event_row" - s.ienv "viewpoint_row") (s.ienv "event_col" - s.ienv "viewpoint_col")
    r.ctl = .ret ∧ r.fenv "ret0" = halfF (s.ienv "event_row") o.1 ∧ r.fenv "ret1" = halfF (s.ienv "event_col") o.2 ∧
      r.fa = s.fa ∧ r.ia = s.ia ∧ r.ienv = s.ienv := by
  simp only [Prog.run, vsEventPos_is_template]
  rw [posBody_exec hH .int "" s fuel hs (s.ienv "event_type") rfl]
  simp [posEnv, posS', setS_apply]

end XrsVerif.ILSw
