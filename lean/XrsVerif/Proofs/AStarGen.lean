import XrsVerif.Gen.AStarFacts
import XrsVerif.Proofs.KSimp
import XrsVerif.Proofs.AStarEuclid
/-
  The pieces of `xrspatial/pathfinding.py` that `harness/facts_astar.py` regenerates from the source on every
  run (`Gen/AStarFacts.lean`: kernels and statements of the kernel language), evaluated over `NV K`
  (`none` = NaN, any linearly ordered field `K` with a square root), and tied to the hand model
  `Model/AStar.lean`.

  `_get_pixel_id` = `pixelId` and the updates between the pop and the neighbour loop = `close` are proved where they are
  stated, in Props/C14.lean (`pixel_rule_generated`, `pop_bookkeeping_generated`).
  An edit of the source changes the generated definition and the corresponding theorem stops checking.
-/
set_option linter.unusedSectionVars false
namespace XrsVerif.AStar
open XrsVerif XrsVerif.Gen.AStarFacts
variable {K : Type} [Field K] [LinearOrder K] [IsStrictOrderedRing K] [Trig K]

def argEnv (k : Kernel) (vals : List (NV K)) : String → NV K := envOf (k.scalars.zip vals)

def sqK (a b : Cell) : K := ((a.2 : K) - (b.2 : K)) * ((a.2 : K) - (b.2 : K)) + ((a.1 : K) - (b.1 : K)) * ((a.1 : K) - (b.1 : K))

def distG (a b : Cell) : NV K :=
  distance.cell (argEnv distance [some (a.2 : K), some (a.1 : K), some (b.2 : K), some (b.1 : K)]) (fun _ _ _ => none) (fun _ => [])
def heurG (a b : Cell) : NV K :=
  heuristic.cell (argEnv heuristic [some (a.2 : K), some (a.1 : K), some (b.2 : K), some (b.1 : K)]) (fun _ _ _ => none) (fun _ => [])

theorem distG_val (a b : Cell) : (distG a b : NV K) = some (Trig.sqrt (sqK a b)) := by
  unfold distG argEnv sqK
  simp [kl, distance]

theorem heurG_val (a b : Cell) : (heurG a b : NV K) = some (Trig.sqrt (sqK a b)) := by
  unfold heurG argEnv sqK
  simp [kl, heuristic]

/-- what is assumed of `np.sqrt` on non-negative arguments -/
structure SqrtOk (K : Type) [Field K] [LinearOrder K] [IsStrictOrderedRing K] [Trig K] : Prop where
  nonneg : ∀ x : K, 0 ≤ x → 0 ≤ Trig.sqrt x
  sq : ∀ x : K, 0 ≤ x → Trig.sqrt x * Trig.sqrt x = x

theorem sqK_nonneg (a b : Cell) : (0 : K) ≤ sqK a b :=
  add_nonneg (mul_self_nonneg _) (mul_self_nonneg _)

def stepK (a b : Cell) : K := (distG a b).getD 0
def heurK (a b : Cell) : K := (heurG a b).getD 0

theorem stepK_eq (a b : Cell) : (stepK a b : K) = Trig.sqrt (sqK a b) := by unfold stepK; rw [distG_val]; rfl
theorem heurK_eq (a b : Cell) : (heurK a b : K) = Trig.sqrt (sqK a b) := by unfold heurK; rw [heurG_val]; rfl

theorem sqK_cast (a b : Cell) :
    (sqK a b : K) = (((a.1 - b.1) * (a.1 - b.1) + (a.2 - b.2) * (a.2 - b.2) : Int) : K) := by
  unfold sqK; push_cast; ring

theorem stepK_euclid (hs : SqrtOk K) : IsEuclid (stepK : Cell → Cell → K) :=
  ⟨fun a b => by rw [stepK_eq]; exact hs.nonneg _ (sqK_nonneg a b),
   fun a b => by rw [stepK_eq, hs.sq _ (sqK_nonneg a b), sqK_cast]⟩

/-- `_heuristic` calls `_distance`: whatever `sqrt` is, the two kernels compute the same number -/
theorem heurK_eq_stepK : (heurK : Cell → Cell → K) = stepK := by
  funext a b; rw [heurK_eq, stepK_eq]

theorem IsEuclid.unique {d d' : Cell → Cell → K} (h : IsEuclid d) (h' : IsEuclid d') (a b : Cell) : d a b = d' a b := by
  apply le_antisymm
  · exact nonneg_le_nonneg_of_sq_le_sq (h'.nonneg a b) (by rw [h.sq, h'.sq])
  · exact nonneg_le_nonneg_of_sq_le_sq (h.nonneg a b) (by rw [h.sq, h'.sq])

/-- **the generated heuristic is consistent**: along any step (in particular along every generated
    neighbour offset) it drops by at most the generated step length -/
theorem heurK_consistent (hs : SqrtOk K) (u v goal : Cell) :
    (heurK u goal : K) ≤ stepK u v + heurK v goal := by
  rw [heurK_eq_stepK]
  exact (stepK_euclid hs).triangle u v goal

theorem heurK_goal (hs : SqrtOk K) (goal : Cell) : (heurK goal goal : K) = 0 := by
  have h := (stepK_euclid hs).sq goal goal
  rw [← heurK_eq_stepK] at h
  simp at h
  exact h

theorem sqrt_lt_iff (hs : SqrtOk K) {a b : K} (ha : 0 ≤ a) (hb : 0 ≤ b) : Trig.sqrt a < Trig.sqrt b ↔ a < b := by
  rw [mul_self_lt_mul_self_iff (hs.nonneg a ha) (hs.nonneg b hb), hs.sq a ha, hs.sq b hb]

/-- `_neighborhood_structure`, in the order the neighbour loop visits the offsets -/
theorem neighbors_generated (conn : Nat) :
    neighborsFor (conn : Int) = nbrsOf conn := by
  unfold neighborsFor nbrsOf connTest
  by_cases h : conn = 8
  · subst h; rfl
  · have : ¬ ((conn : Int) = 8) := by omega
    rw [if_neg this, if_neg h]; rfl

/-- the connectivity guard of `a_star_search` raises exactly for a value other than 4 and 8 -/
theorem validate_generated (conn : Nat) :
    (validate.cellFailed (argEnv validate [some (conn : K)]) (fun _ _ _ => none) (fun _ => [])).isSome ↔ (conn ≠ 4 ∧ conn ≠ 8) := by
  unfold argEnv
  have h4 : ((conn : K) = 4) ↔ conn = 4 := by exact_mod_cast Iff.rfl
  have h8 : ((conn : K) = 8) ↔ conn = 8 := by exact_mod_cast Iff.rfl
  simp [kl, validate, h4, h8]
  by_cases a : conn = 4 <;> by_cases b : conn = 8 <;> simp [a, b]

theorem isInside_generated (h w : Nat) (c : Cell) :
    isInside.cell (argEnv isInside [some (c.1 : K), some (c.2 : K), some (h : K), some (w : K)]) (fun _ _ _ => none) (fun _ => [])
      = some (if inside h w c then 1 else 0) := by
  unfold argEnv
  -- run with both tests undecided: 0 if the column is out of range, else 0 if the row is, else 1
  simp [kl, isInside, KSt.ite_env, ite_apply, ← apply_ite some]
  have hh : ((h : K) ≤ (c.1 : K)) ↔ (h : Int) ≤ c.1 := by rw [← Int.cast_natCast, Int.cast_le]
  have hw : ((w : K) ≤ (c.2 : K)) ↔ (w : Int) ≤ c.2 := by rw [← Int.cast_natCast, Int.cast_le]
  simp only [hh, hw, inside_iff]
  split_ifs <;> first | rfl | omega

def b2n (b : Bool) : NV K := some (if b then 1 else 0)

def vecOf (bars : List (NV K)) : String → List (NV K) := fun n => if n = "barriers" then bars else []

/-- `not _is_not_crossable(data[c], barriers)` by the generated condition -/
def crossG (dataV : Cell → NV K) (bars : List (NV K)) (c : Cell) : Bool :=
  !(notCrossable.eval ⟨envOf [("value", dataV c)], fun _ _ _ => none, vecOf bars⟩)

def relaxEnv (e : Env K) (dataV : Cell → NV K) (u off : Cell) (st : St K) : String → NV K :=
  let v : Cell := (u.1 + off.1, u.2 + off.2)
  envOf [ ("u_y", some (u.1:K)), ("u_x", some (u.2:K)), ("off_y", some (off.1:K)), ("off_x", some (off.2 : K)),
          ("rows", some (e.h : K)), ("cols", some (e.w:K)), ("goal_y", some (e.goal.1:K)), ("goal_x", some (e.goal.2 : K)),
          ("data@v", dataV v), ("closed@v", b2n (st.isClosed v)), ("open@v", b2n (st.isOpen v)),
          ("g@u", some (st.g u)), ("g@v", some (st.g v)), ("f@v", some (st.f v))]

/-- the bounds test of the neighbour loop, over the field -/
theorem outside_iff (h w : Nat) (u off : Cell) :
    ((h:K) - 1 < (u.1:K) + (off.1:K) ∨ (u.1:K) + (off.1:K) < 0 ∨ (w:K) - 1 < (u.2:K) + (off.2:K) ∨ (u.2:K) + (off.2:K) < 0)
      ↔ inside h w (u.1 + off.1, u.2 + off.2) = false := by
  have e1 : ((u.1:K) + (off.1:K)) = ((u.1 + off.1 : Int) : K) := by push_cast; ring
  have e2 : ((u.2:K) + (off.2:K)) = ((u.2 + off.2 : Int) : K) := by push_cast; ring
  have e3 : ((h:K) - 1) = (((h:Int) - 1 : Int) : K) := by push_cast; ring
  have e4 : ((w:K) - 1) = (((w:Int) - 1 : Int) : K) := by push_cast; ring
  have z : (0:K) = ((0:Int):K) := by simp
  rw [e1, e2, e3, e4, z]
  simp only [Int.cast_lt]
  rw [← Bool.not_eq_true, inside_iff]
  constructor
  · rintro (h1 | h1 | h1 | h1) <;> omega
  · intro h1; omega


theorem crossG_false_iff (dataV : Cell → NV K) (bars : List (NV K)) (c : Cell) :
    crossG dataV bars c = false ↔ (Fl.isnan (dataV c) = true ∨ ∃ x ∈ bars, Fl.eq x (dataV c) = true) := by
  unfold crossG
  simp [notCrossable, C.eval, E.eval, envOf, vecOf]
  cases Fl.isnan (dataV c) <;> simp

/-- the body of the loop `for y, x in zip(neighbor_ys, neighbor_xs)` of `_a_star_search` is `relax` -/
theorem relax_generated (e : Env K) (wt hh : Cell → Cell → K) (hx : e.ops = fieldOps wt hh)
    (hwt : ∀ a b, wt a b = Trig.sqrt (sqK a b)) (hhh : ∀ a b, hh a b = Trig.sqrt (sqK a b))
    (dataV : Cell → NV K) (bars : List (NV K)) (hc : e.cross = crossG dataV bars) (u off : Cell) (st : St K) :
    let s' := relaxBody.exec (fun _ _ _ => none) (vecOf bars) ⟨relaxEnv e dataV u off st, none, false, none⟩
    s'.failed = none ∧
    (s'.halted = true → relax e u st off = st) ∧
    (s'.halted = false →
      ∃ g f, s'.env "g@v" = some g ∧ s'.env "f@v" = some f ∧ s'.env "open@v" = some 1 ∧
        s'.env "par_y@v" = some (u.1 : K) ∧ s'.env "par_x@v" = some (u.2 : K) ∧
        relax e u st off = relaxed st u (u.1 + off.1, u.2 + off.2) g f) := by
  intro s'
  have hrun : s' = relaxBody.exec (fun _ _ _ => none) (vecOf bars)
      ⟨relaxEnv e dataV u off st, none, false, none⟩ := rfl
  clear_value s'
  -- the body is run once, its four `continue` tests undecided
  rw [relaxBody, S.exec_assign_seq, S.exec_assign_seq, S.exec_guard_seq, S.exec_guard_seq, S.exec_guard_seq,
    S.exec_assign_seq, S.exec_guard_seq] at hrun
  unfold relaxEnv at hrun
  simp [kl, vecOf, b2n] at hrun
  -- the tests and the two inlined distances, in the form evaluation leaves them, are the model's
  have hd : Trig.sqrt ((off.2 : K) * off.2 + off.1 * off.1) = wt u (u.1 + off.1, u.2 + off.2) := by
    rw [hwt]; congr 1; unfold sqK; push_cast; ring
  have hg : Trig.sqrt (((u.2 : K) + off.2 - e.goal.2) * ((u.2 : K) + off.2 - e.goal.2) +
      ((u.1 : K) + off.1 - e.goal.1) * ((u.1 : K) + off.1 - e.goal.1)) =
        hh (u.1 + off.1, u.2 + off.2) e.goal := by
    rw [hhh]; congr 1; unfold sqK; push_cast; ring
  simp only [hd, hg, outside_iff, ← crossG_false_iff, ← hc] at hrun
  -- `relax` asks the same four questions in the same order
  by_cases h1 : inside e.h e.w (u.1 + off.1, u.2 + off.2) = false
  · rw [if_pos h1] at hrun; subst hrun
    exact ⟨rfl, fun _ => relax_outside e u st off h1, fun h => nomatch h⟩
  rw [if_neg h1] at hrun
  by_cases h2 : e.cross (u.1 + off.1, u.2 + off.2) = false
  · rw [if_pos h2] at hrun; subst hrun
    exact ⟨rfl, fun _ => relax_barrier e u st off h2, fun h => nomatch h⟩
  rw [if_neg h2] at hrun
  by_cases h3 : st.isClosed (u.1 + off.1, u.2 + off.2) = true
  · rw [if_pos h3] at hrun; subst hrun
    exact ⟨rfl, fun _ => relax_closed e u st off h3, fun h => nomatch h⟩
  rw [if_neg h3] at hrun
  rcases relax_target e u st off ⟨by simpa using h1, by simpa using h2⟩ (by simpa using h3) with
    ⟨q1, q2, q3⟩ | ⟨q2, q3⟩
  · rw [Exact.lt hx, Exact.add hx, Exact.step hx] at q2
    rw [if_pos ⟨q1, q2⟩] at hrun; subst hrun
    exact ⟨rfl, fun _ => q3, fun h => nomatch h⟩
  · rw [Exact.lt hx, Exact.add hx, Exact.step hx] at q2
    rw [if_neg q2] at hrun; subst hrun
    refine ⟨rfl, (fun h => nomatch h), fun _ => ⟨st.g u + wt u (u.1 + off.1, u.2 + off.2),
      st.g u + wt u (u.1 + off.1, u.2 + off.2) + hh (u.1 + off.1, u.2 + off.2) e.goal, ?_, ?_, ?_, ?_, ?_, ?_⟩⟩
    · simp [setVar]
    · simp [setVar]
    · simp [setVar]
    · simp [setVar]
    · simp [setVar]
    · rw [q3, Exact.add hx, Exact.step hx, Exact.add hx, Exact.heur hx]

/-- the running minimum of `_min_cost_pixel_id` as its three variables: `(NONE, NONE)` is `(-1, -1)` -/
def accVars (acc : Option Cell × K) : NV K × NV K × NV K :=
  match acc.1 with
  | none => (some (-1), some (-1), some acc.2)
  | some c => (some (c.1 : K), some (c.2 : K), some acc.2)

def readAcc (env : String → NV K) : NV K × NV K × NV K := (env "best_y", env "best_x", env "min_cost")

def minEnv (st : St K) (acc : Option Cell × K) (c : Cell) : String → NV K :=
  envOf [("best_y", (accVars acc).1), ("best_x", (accVars acc).2.1), ("min_cost", (accVars acc).2.2),
         ("i", some (c.1 : K)), ("j", some (c.2 : K)), ("open@c", b2n (st.isOpen c)), ("f@c", some (st.f c))]

theorem accVars_cost (acc : Option Cell × K) : (accVars acc).2.2 = some acc.2 := by
  unfold accVars; cases acc.1 <;> rfl

/-- one iteration of the scan of `_min_cost_pixel_id` is `minStep` -/
theorem minStep_generated (e : Env K) (wt hh : Cell → Cell → K) (hx : e.ops = fieldOps wt hh) (st : St K)
    (acc : Option Cell × K) (c : Cell) :
    let s' := minCostBody.exec (fun _ _ _ => none) (fun _ => []) ⟨minEnv st acc c, none, false, none⟩
    readAcc s'.env = accVars (minStep e st acc c) ∧ s'.failed = none ∧ s'.halted = false := by
  intro s'
  have hrun : s' = minCostBody.exec (fun _ _ _ => none) (fun _ => []) ⟨minEnv st acc c, none, false, none⟩ := rfl
  clear_value s'
  unfold minEnv at hrun
  simp [kl, minCostBody, b2n, accVars_cost] at hrun
  unfold minStep
  by_cases h : st.isOpen c = true ∧ st.f c < acc.2
  · have : (st.isOpen c && e.ops.lt (st.f c) acc.2) = true := by
      rw [h.1, (Exact.lt hx _ _).mpr h.2]; rfl
    rw [if_pos this]; rw [if_pos h] at hrun; subst hrun
    refine ⟨?_, rfl, rfl⟩
    simp [readAcc, accVars, setVar]
  · have : ¬ (st.isOpen c && e.ops.lt (st.f c) acc.2) = true := by
      rw [Bool.and_eq_true, Exact.lt hx]; exact h
    rw [if_neg this]; rw [if_neg h] at hrun; subst hrun
    refine ⟨?_, rfl, rfl⟩
    unfold readAcc accVars; cases acc.1 <;> simp [envOf]
/-- the statements before the scan set the running minimum to `(NONE, NONE)` with the sentinel `(h + w)²` -/
theorem minInit_generated (e : Env K) (wt hh : Cell → Cell → K) (hx : e.ops = fieldOps wt hh) :
    let s' := minCostInit.exec (fun _ _ _ => none) (fun _ => [])
      ⟨envOf [("rows", some (e.h : K)), ("cols", some (e.w : K))], none, false, none⟩
    readAcc s'.env = accVars ((none : Option Cell), e.ops.big e.h e.w) ∧ s'.failed = none ∧ minCostRowMajor = true := by
  intro s'
  simp only [s', hx, fieldOps]
  unfold readAcc accVars
  simp [kl, minCostInit, minCostRowMajor]

def minEnvT (st : St K) (t : NV K × NV K × NV K) (c : Cell) : String → NV K :=
  envOf [("best_y", t.1), ("best_x", t.2.1), ("min_cost", t.2.2),
         ("i", some (c.1 : K)), ("j", some (c.2 : K)), ("open@c", b2n (st.isOpen c)), ("f@c", some (st.f c))]

def genMinStep (st : St K) (t : NV K × NV K × NV K) (c : Cell) : NV K × NV K × NV K :=
  readAcc (minCostBody.exec (fun _ _ _ => none) (fun _ => []) ⟨minEnvT st t c, none, false, none⟩).env

/-- **the whole scan of `_min_cost_pixel_id`**: folding the generated loop body over a list of cells, on the three
    result variables, is folding `minStep` -/
theorem minScan_generated (e : Env K) (wt hh : Cell → Cell → K) (hx : e.ops = fieldOps wt hh) (st : St K) (cs : List Cell)
    (acc : Option Cell × K) :
    cs.foldl (genMinStep st) (accVars acc) = accVars (cs.foldl (minStep e st) acc) :=
  -- `minEnv st acc c` is `minEnvT st (accVars acc) c` by definition
  List.foldl_hom accVars fun acc c => (minStep_generated e wt hh hx st acc c).1

/-- exact values as the proof-side numbers: NaN is `none`; the infinities have no counterpart -/
def valNV : Val → NV K
  | .fin q => some (q : K)
  | _ => none

def Val.finiteOrNaN : Val → Prop
  | .pinf => False
  | .ninf => False
  | _ => True

/-- **the generated `_is_not_crossable` is the model's barrier test** on NaN and finite values:
    NaN, or equal (as real numbers) to one of the listed values -/
theorem notCrossable_generated (v : Val) (bars : List Val) (hv : v.finiteOrNaN) (hb : ∀ b ∈ bars, b.finiteOrNaN) :
    notCrossable.eval ⟨envOf [("value", (valNV v : NV K))], fun _ _ _ => none, vecOf (bars.map valNV)⟩
      = notCrossableV v bars := by
  cases v with
  | nan => simp [notCrossable, C.eval, E.eval, envOf, valNV, notCrossableV]
  | pinf => exact hv.elim
  | ninf => exact hv.elim
  | fin q =>
    simp only [notCrossable, C.eval, E.eval, envOf, vecOf, valNV, notCrossableV]
    simp
    induction bars with
    | nil => simp
    | cons b t ih =>
      have ht := ih (fun x hx => hb x (List.mem_cons_of_mem _ hx))
      have hb0 := hb b (List.mem_cons_self)
      cases b with
      | nan => simpa [valNV, Val.eq] using ht
      | pinf => exact hb0.elim
      | ninf => exact hb0.elim
      | fin r =>
        simp only [List.any_cons, Val.eq]
        rw [ht]
        congr 1
        simp only [Function.comp, valNV, fl_eq, Rat.cast_inj]
        by_cases hqr : q = r
        · subst hqr; simp
        · have : ¬ r = q := fun h => hqr h.symm
          simp [hqr, this]

theorem crossG_true_iff (dataV : Cell → NV K) (bars : List (NV K)) (c : Cell) :
    crossG dataV bars c = true ↔ (Fl.isnan (dataV c) = false ∧ ∀ x ∈ bars, Fl.eq x (dataV c) = false) := by
  unfold crossG
  simp [notCrossable, C.eval, E.eval, envOf, vecOf]
theorem sqK_sqDist (a b : Cell) : (sqK a b : K) = ((sqDist a b : Int) : K) := by
  unfold sqK sqDist; push_cast; ring

/-- the candidate of `_find_nearest_pixel` as its variables: `(NONE, NONE)` is `(-1, -1)` -/
def nearVars (acc : Option (Cell × Int)) : NV K × NV K :=
  match acc with
  | none => (some (-1), some (-1))
  | some (c, _) => (some (c.1 : K), some (c.2 : K))

def snapEnv (dataV : Cell → NV K) (p c : Cell) (acc : Option (Cell × Int)) (md : K) : String → NV K :=
  envOf [("y", some (c.1 : K)), ("x", some (c.2 : K)), ("p_y", some (p.1 : K)), ("p_x", some (p.2 : K)),
         ("data@c", dataV c), ("min_distance", some md), ("near_y", (nearVars acc).1), ("near_x", (nearVars acc).2)]

/-- one iteration of the scan of `_find_nearest_pixel` is `nearStep`: the model compares squared
    distances (integers), the code their square roots; `md` is the running `min_distance`
    (for "no candidate yet" any value above the distance at hand: the code starts at infinity,
    `snapInitInf`) -/
theorem snapStep_generated (hs : SqrtOk K) (dataV : Cell → NV K) (bars : List (NV K)) (p c : Cell)
    (acc : Option (Cell × Int)) (md : K)
    (hacc : match acc with
      | none => Trig.sqrt (sqK c p) < md
      | some (_, m) => 0 ≤ m ∧ md = Trig.sqrt ((m : Int) : K)) :
    let s' := snapBody.exec (fun _ _ _ => none) (vecOf bars) ⟨snapEnv dataV p c acc md, none, false, none⟩
    let acc' := nearStep (crossG dataV bars) p acc c
    s'.failed = none ∧ (s'.env "near_y", s'.env "near_x") = nearVars acc' ∧
    s'.env "min_distance" = some (if acc' = acc then md else Trig.sqrt (((sqDist c p : Int)) : K)) ∧
    snapInitInf = true ∧ snapRowMajor = true := by
  intro s' acc'
  have hrun : s' = snapBody.exec (fun _ _ _ => none) (vecOf bars)
      ⟨snapEnv dataV p c acc md, none, false, none⟩ := rfl
  clear_value s'
  unfold snapEnv at hrun
  simp [kl, snapBody, vecOf] at hrun
  have hk : ((c.2 : K) - p.2) * ((c.2 : K) - p.2) + ((c.1 : K) - p.1) * ((c.1 : K) - p.1) =
      ((sqDist c p : Int) : K) := sqK_sqDist c p
  simp only [hk, ← crossG_true_iff] at hrun
  cases hcr : crossG dataV bars c with
  | false =>
    rw [hcr, if_neg Bool.false_ne_true] at hrun; subst hrun
    have ha : acc' = acc := by simp only [acc', nearStep, hcr]; rfl
    rw [ha, if_pos rfl]
    exact ⟨rfl, rfl, rfl, rfl, rfl⟩
  | true =>
    rw [hcr, if_pos rfl] at hrun
    cases acc with
    | none =>
      have ha : acc' = some (c, sqDist c p) := by simp only [acc', nearStep, hcr]; rfl
      rw [sqK_sqDist] at hacc
      rw [if_pos hacc] at hrun; subst hrun
      rw [ha, if_neg (Option.some_ne_none _)]
      refine ⟨rfl, ?_, ?_, rfl, rfl⟩ <;> simp [setVar, nearVars]
    | some cm =>
      obtain ⟨c0, m⟩ := cm
      obtain ⟨hm0, hmd⟩ := hacc
      have hlt : Trig.sqrt (((sqDist c p : Int)) : K) < md ↔ sqDist c p < m := by
        rw [hmd, sqrt_lt_iff hs (by exact_mod_cast sqDist_nonneg c p) (by exact_mod_cast hm0)]
        exact Int.cast_lt
      by_cases hd : sqDist c p < m
      · have ha : acc' = some (c, sqDist c p) := by simp only [acc', nearStep, hcr, hd]; simp
        have hne : ¬ ((some (c, sqDist c p) : Option (Cell × Int)) = some (c0, m)) := by
          intro h; injection h with h; injection h with _ h2; omega
        rw [if_pos (hlt.mpr hd)] at hrun; subst hrun
        rw [ha, if_neg hne]
        refine ⟨rfl, ?_, ?_, rfl, rfl⟩ <;> simp [setVar, nearVars]
      · have ha : acc' = some (c0, m) := by simp only [acc', nearStep, hcr, hd]; simp
        rw [if_neg (fun h => hd (hlt.mp h))] at hrun; subst hrun
        rw [ha, if_pos rfl]
        refine ⟨rfl, ?_, ?_, rfl, rfl⟩ <;> simp [setVar, envOf, nearVars]
/-- the queried cell is returned unchanged exactly when it is crossable -/
theorem snapKeep_generated (dataV : Cell → NV K) (bars : List (NV K)) (p : Cell) :
    snapKeep.eval ⟨envOf [("data@p", dataV p)], fun _ _ _ => none, vecOf bars⟩ = crossG dataV bars p := by
  unfold crossG
  simp [snapKeep, notCrossable, C.eval, E.eval, envOf]

end XrsVerif.AStar
