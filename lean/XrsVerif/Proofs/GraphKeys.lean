/-
  What `Core/Dataflow.lean` takes for granted: *different tasks have different keys*.

  `DF.Graph` numbers its tasks (`Nat → …`): a task *is* its key, two tasks cannot share one.  A dask graph is a
  dictionary `key ↦ task`, and several lazy results evaluated together -- `dask.compute(a, b)`, `a - b`, the
  variables of one `xr.Dataset` -- are evaluated in the *merge* of their dictionaries: tasks with equal keys are taken
  to be the same task, one replaces the other.  This file models that:

  * `merge` = concatenation (which of two entries with the same key survives does not matter below);
  * `joint_eval_eq_alone`: if the graphs *agree* pairwise (equal key ⇒ equal task), every key evaluates in the merged
    graph to what it evaluates to in its own graph -- each result computed together = the result computed alone (and
    the latter is what section 1-5 of Props/C01 and `DF.schedule_independent` speak about);
  * `collision_replaces_a_result`: without agreement it is false -- two one-task graphs under the same key.
  That no call site of the library chooses its own name is a generated fact (Props/C01 `no_call_site_names_its_graph_key`).
  Core Lean only (no Mathlib).
-/
set_option linter.unusedSectionVars false
namespace XrsVerif.GraphKeys

structure Task (K V : Type) where
  deps : List K
  f : List V → V

/-- a dask graph: a dictionary from keys to tasks -/
abbrev Graph (K V : Type) := List (K × Task K V)

variable {K V : Type} [BEq K]

def task? (g : Graph K V) (k : K) : Option (Task K V) := List.lookup k g

def sequence : List (Option V) → Option (List V)
  | [] => some []
  | none :: _ => none
  | some v :: r => (sequence r).map (v :: ·)

/-- the value of key `k` (`fuel` bounds the depth of the dependency chain) -/
def eval (g : Graph K V) : Nat → K → Option V
  | 0, _ => none
  | n + 1, k =>
    match task? g k with
    | none => none
    | some t => (sequence (t.deps.map (eval g n))).map t.f

/-- evaluating several collections together = evaluating in the merged dictionary -/
def merge (gs : List (Graph K V)) : Graph K V := gs.flatten

def Extends (M g : Graph K V) : Prop := ∀ k t, task? g k = some t → task? M k = some t

def Agree (g₁ g₂ : Graph K V) : Prop := ∀ k t₁ t₂, task? g₁ k = some t₁ → task? g₂ k = some t₂ → t₁ = t₂

theorem sequence_mono (f g : K → Option V) (h : ∀ k v, f k = some v → g k = some v) :
    ∀ (ks : List K) (vs : List V), sequence (ks.map f) = some vs → sequence (ks.map g) = some vs := by
  intro ks
  induction ks with
  | nil => intro vs h0; exact h0
  | cons k r ih =>
    intro vs h0
    simp only [List.map_cons] at h0 ⊢
    cases hk : f k with
    | none => rw [hk] at h0; simp [sequence] at h0
    | some v =>
      rw [hk] at h0
      rw [h k v hk]
      simp only [sequence] at h0 ⊢
      cases hr : sequence (r.map f) with
      | none => rw [hr] at h0; simp at h0
      | some ws =>
        rw [hr] at h0
        rw [ih ws hr]
        exact h0

theorem eval_mono (M g : Graph K V) (hx : Extends M g) :
    ∀ (n : Nat) (k : K) (v : V), eval g n k = some v → eval M n k = some v := by
  intro n
  induction n with
  | zero => intro k v h; simp [eval] at h
  | succ n ih =>
    intro k v h
    simp only [eval] at h ⊢
    cases ht : task? g k with
    | none => rw [ht] at h; simp at h
    | some t =>
      rw [ht] at h
      rw [hx k t ht]
      simp only [] at h ⊢
      cases hs : sequence (t.deps.map (eval g n)) with
      | none => rw [hs] at h; simp at h
      | some vs =>
        rw [hs] at h
        rw [sequence_mono (eval g n) (eval M n) ih t.deps vs hs]
        exact h

theorem merge_extends (gs : List (Graph K V)) (hag : ∀ g₁ ∈ gs, ∀ g₂ ∈ gs, Agree g₁ g₂) :
    ∀ g ∈ gs, Extends (merge gs) g := by
  induction gs with
  | nil => intro g hg; cases hg
  | cons g0 rest ih =>
    intro g hg k t ht
    have hrest : ∀ g₁ ∈ rest, ∀ g₂ ∈ rest, Agree g₁ g₂ :=
      fun g₁ h₁ g₂ h₂ => hag g₁ (List.mem_cons_of_mem _ h₁) g₂ (List.mem_cons_of_mem _ h₂)
    show List.lookup k ((g0 :: rest).flatten) = some t
    rw [List.flatten_cons, List.lookup_append]
    cases h0 : List.lookup k g0 with
    | some t0 =>
      -- the first graph has the key: by agreement it is the same task
      have : t0 = t := hag g0 (List.mem_cons_self ..) g hg k t0 t h0 ht
      simp [Option.or, this]
    | none =>
      simp only [Option.or]
      rcases List.mem_cons.mp hg with h | h
      · subst h
        have : List.lookup k g = some t := ht
        rw [h0] at this; cases this
      · exact ih hrest g h k t ht

/-- **each result computed together = the result computed alone**, provided equal keys stand for equal tasks -/
theorem joint_eval_eq_alone (gs : List (Graph K V)) (hag : ∀ g₁ ∈ gs, ∀ g₂ ∈ gs, Agree g₁ g₂)
    (g : Graph K V) (hg : g ∈ gs) (n : Nat) (k : K) (v : V) (h : eval g n k = some v) :
    eval (merge gs) n k = some v :=
  eval_mono (merge gs) g (merge_extends gs hag g hg) n k v h

def gOne : Graph Nat Nat := [(0, ⟨[], fun _ => 1⟩)]
def gTwo : Graph Nat Nat := [(0, ⟨[], fun _ => 2⟩)]

/-- alone each gives its own value; together the second gets the first one's -/
theorem collision_replaces_a_result :
    eval gOne 1 0 = some 1 ∧ eval gTwo 1 0 = some 2 ∧ eval (merge [gOne, gTwo]) 1 0 = some 1 := by
  decide

section layers
variable {C : Type}

/-- the layer a `map_blocks` / `map_overlap` call contributes: one task per block, keyed `(name, i, j)` -/
def layer (name : C → String) (task : C → Nat × Nat → Task (String × Nat × Nat) V) (blocks : List (Nat × Nat)) (c : C) :
    Graph (String × Nat × Nat) V :=
  blocks.map fun b => ((name c, b.1, b.2), task c b)

theorem layer_lookup (name : C → String) (task : C → Nat × Nat → Task (String × Nat × Nat) V)
    (blocks : List (Nat × Nat)) (c : C) (k : String × Nat × Nat) (t : Task (String × Nat × Nat) V)
    (h : task? (layer name task blocks c) k = some t) : k.1 = name c ∧ t = task c k.2 := by
  induction blocks with
  | nil => simp [layer, task?] at h
  | cons b r ih =>
    simp only [layer, task?, List.map_cons, List.lookup_cons] at h
    split at h
    · rename_i hk
      have hk' : k = (name c, b.1, b.2) := by simpa using hk
      injection h with h
      subst hk'
      exact ⟨rfl, h.symm⟩
    · exact ih h

/-- a naming is *faithful* when calls that get the same name map the same task over every block: what dask's
    `funcname(func) ++ "-" ++ tokenize(func, *args, **kwargs)` provides (a deterministic hash of the function and of
    every argument; distinct closures get distinct tokens) -/
def Faithful (name : C → String) (task : C → Nat × Nat → Task (String × Nat × Nat) V) : Prop :=
  ∀ c₁ c₂, name c₁ = name c₂ → task c₁ = task c₂

theorem faithful_names_agree (name : C → String) (task : C → Nat × Nat → Task (String × Nat × Nat) V)
    (hf : Faithful name task) (b₁ b₂ : List (Nat × Nat)) (c₁ c₂ : C) :
    Agree (layer name task b₁ c₁) (layer name task b₂ c₂) := by
  intro k t₁ t₂ h₁ h₂
  obtain ⟨n₁, e₁⟩ := layer_lookup name task b₁ c₁ k t₁ h₁
  obtain ⟨n₂, e₂⟩ := layer_lookup name task b₂ c₂ k t₂ h₂
  rw [e₁, e₂, hf c₁ c₂ (n₁.symm.trans n₂)]

theorem joint_layers_eq_alone (name : C → String) (task : C → Nat × Nat → Task (String × Nat × Nat) V)
    (hf : Faithful name task) (blocks : C → List (Nat × Nat)) (calls : List C) (c : C) (hc : c ∈ calls)
    (n : Nat) (k : String × Nat × Nat) (v : V) (h : eval (layer name task (blocks c) c) n k = some v) :
    eval (merge (calls.map fun c => layer name task (blocks c) c)) n k = some v := by
  have hag : ∀ g₁ ∈ calls.map (fun c => layer name task (blocks c) c),
      ∀ g₂ ∈ calls.map (fun c => layer name task (blocks c) c), Agree g₁ g₂ := by
    intro g₁ h₁ g₂ h₂
    obtain ⟨c₁, _, rfl⟩ := List.mem_map.mp h₁
    obtain ⟨c₂, _, rfl⟩ := List.mem_map.mp h₂
    exact faithful_names_agree name task hf _ _ c₁ c₂
  exact joint_eval_eq_alone (calls.map fun c => layer name task (blocks c) c) hag (layer name task (blocks c) c)
    (List.mem_map.mpr ⟨c, hc, rfl⟩) n k v h

/-- a name the call site writes down itself and that forgets what distinguishes two calls is not faithful:
    `name='normalized_ratio'` for every pair of bands; a token of the first band only; a token without `target_values` -/
theorem constant_name_not_faithful (task : C → Nat × Nat → Task (String × Nat × Nat) V) (s : String) (c₁ c₂ : C)
    (hd : task c₁ ≠ task c₂) : ¬ Faithful (fun _ => s) task :=
  fun hf => hd (hf c₁ c₂ rfl)

theorem partial_token_not_faithful {A : Type} (view : C → A) (tok : A → String)
    (task : C → Nat × Nat → Task (String × Nat × Nat) V) (c₁ c₂ : C) (hv : view c₁ = view c₂) (hd : task c₁ ≠ task c₂) :
    ¬ Faithful (fun c => tok (view c)) task :=
  fun hf => hd (hf c₁ c₂ (by simp [hv]))
end layers

end XrsVerif.GraphKeys
