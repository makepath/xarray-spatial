import XrsVerif.Model.Trim
import XrsVerif.Proofs.ListFold
/-! helper lemmas for Props/C18.lean and Proofs/ILTrim.lean (core Lean only) -/
namespace XrsVerif.Trim

theorem scan_fold_done (ys : List Nat) (hit : Nat → Bool) (c : Nat) :
    ys.foldl (fun (s : Nat × Bool) y => if s.2 then s else (y, hit y)) (c, true) = (c, true) := by
  induction ys with
  | nil => rfl
  | cons y ys ih => simpa using ih

theorem scan_fold (ys : List Nat) (hit : Nat → Bool) (c : Nat) :
    ys.foldl (fun (s : Nat × Bool) y => if s.2 then s else (y, hit y)) (c, false)
      = match ys.find? hit with
        | some y => (y, true)
        | none => (ys.getLast?.getD c, false) := by
  induction ys generalizing c with
  | nil => rfl
  | cons y ys ih =>
    simp only [List.foldl_cons, Bool.false_eq_true, ite_false, List.find?_cons]
    cases hy : hit y with
    | true => simp [scan_fold_done]
    | false =>
      rw [ih y]
      cases hf : ys.find? hit with
      | some z => rfl
      | none =>
        cases ys with
        | nil => simp
        | cons z zs => simp [List.getLast?_cons_cons, List.getLast?_eq_some_getLast (List.cons_ne_nil z zs)]

theorem scan_found {ys : List Nat} {R : Nat → Nat → Prop} {hit : Nat → Bool}
    (hpw : ys.Pairwise R) (h : ∃ y ∈ ys, hit y = true) :
    ∃ m, scan ys hit = (m, true) ∧ m ∈ ys ∧ hit m = true ∧ ∀ y ∈ ys, hit y = true → y = m ∨ R m y := by
  obtain ⟨y0, hy0, hh0⟩ := h
  cases hf : ys.find? hit with
  | none =>
    have := List.find?_eq_none.mp hf y0 hy0
    simp [hh0] at this
  | some m =>
    refine ⟨m, by simp [scan, scan_fold, hf], List.mem_of_find?_eq_some hf, List.find?_some hf, ?_⟩
    obtain ⟨_, as, bs, hsplit, has⟩ := List.find?_eq_some_iff_append.mp hf
    intro y hy hhy
    rw [hsplit] at hy hpw
    rcases List.mem_append.mp hy with hy | hy
    · have := has y hy; simp [hhy] at this
    · rcases List.mem_cons.mp hy with rfl | hy
      · exact Or.inl rfl
      · right
        have := (List.pairwise_append.mp hpw).2.1
        exact (List.pairwise_cons.mp this).1 y hy

theorem scan_none {ys : List Nat} {hit : Nat → Bool} (h : ∀ y ∈ ys, hit y = false) :
    (scan ys hit).2 = false := by
  have hf : ys.find? hit = none := List.find?_eq_none.mpr (by intro y hy; simp [h y hy])
  simp [scan, scan_fold, hf]

theorem rowHit_iff {cols : Nat} {hit : Nat → Nat → Bool} {y : Nat} :
    rowHit cols hit y = true ↔ ∃ x, x < cols ∧ hit y x = true := by
  simp [rowHit, List.any_eq_true, List.mem_range]

theorem colHit_iff {rows : Nat} {hit : Nat → Nat → Bool} {x : Nat} :
    colHit rows hit x = true ↔ ∃ y, y < rows ∧ hit y x = true := by
  simp [colHit, List.any_eq_true, List.mem_range]

theorem rowHit_of_no_hit {rows cols : Nat} {hit : Nat → Nat → Bool}
    (h : ∀ y x, y < rows → x < cols → hit y x = false) {y : Nat} (hy : y < rows) : rowHit cols hit y = false :=
  Bool.eq_false_iff.mpr fun hh => by
    obtain ⟨x, hx, hxx⟩ := rowHit_iff.mp hh
    rw [h y x hy hx] at hxx; cases hxx

theorem colHit_of_no_hit {rows cols : Nat} {hit : Nat → Nat → Bool}
    (h : ∀ y x, y < rows → x < cols → hit y x = false) {x : Nat} (hx : x < cols) : colHit rows hit x = false :=
  Bool.eq_false_iff.mpr fun hh => by
    obtain ⟨y, hy, hyy⟩ := colHit_iff.mp hh
    rw [h y x hy hx] at hyy; cases hyy

theorem scan_range_of_hit {n : Nat} {hit : Nat → Bool} (h : ∃ y, y < n ∧ hit y = true) :
    ∃ lo hi : Nat, scan (List.range n) hit = (lo, true) ∧ scan (List.range n).reverse hit = (hi, true)
      ∧ lo < n ∧ hi < n ∧ hit lo = true ∧ hit hi = true ∧ ∀ y, y < n → hit y = true → lo ≤ y ∧ y ≤ hi := by
  obtain ⟨y0, hy0, hh0⟩ := h
  obtain ⟨lo, e1, m1, h1, hmin⟩ := scan_found (R := (· < ·)) List.pairwise_lt_range
    ⟨y0, List.mem_range.mpr hy0, hh0⟩
  obtain ⟨hi, e2, m2, h2, hmax⟩ := scan_found (R := fun a b => b < a)
    (List.pairwise_reverse.mpr List.pairwise_lt_range) ⟨y0, List.mem_reverse.mpr (List.mem_range.mpr hy0), hh0⟩
  refine ⟨lo, hi, e1, e2, List.mem_range.mp m1, List.mem_range.mp (List.mem_reverse.mp m2), h1, h2, fun y hy hh => ?_⟩
  have a1 := hmin y (List.mem_range.mpr hy) hh
  have a2 := hmax y (List.mem_reverse.mpr (List.mem_range.mpr hy)) hh
  omega

/-- when some cell is a hit: the four scans return the extreme rows / columns that hold a hit -/
theorem bounds_of_hit (rows cols : Nat) (hit : Nat → Nat → Bool)
    (h : ∃ y x, y < rows ∧ x < cols ∧ hit y x = true) :
    ∃ t b l r : Nat, bounds rows cols hit = ⟨t, b, l, r⟩
      ∧ t < rows ∧ b < rows ∧ l < cols ∧ r < cols
      ∧ (∃ x, x < cols ∧ hit t x = true) ∧ (∃ x, x < cols ∧ hit b x = true)
      ∧ (∃ y, y < rows ∧ hit y l = true) ∧ (∃ y, y < rows ∧ hit y r = true)
      ∧ ∀ y x, y < rows → x < cols → hit y x = true → t ≤ y ∧ y ≤ b ∧ l ≤ x ∧ x ≤ r := by
  obtain ⟨y0, x0, hy0, hx0, h0⟩ := h
  obtain ⟨t, b, e1, e2, ht, hb, hht, hhb, hrow⟩ :=
    scan_range_of_hit (hit := rowHit cols hit) ⟨y0, hy0, rowHit_iff.mpr ⟨x0, hx0, h0⟩⟩
  obtain ⟨l, r, e3, e4, hl, hr, hhl, hhr, hcol⟩ :=
    scan_range_of_hit (hit := colHit rows hit) ⟨x0, hx0, colHit_iff.mpr ⟨y0, hy0, h0⟩⟩
  refine ⟨t, b, l, r, by simp [bounds, e1, e2, e3, e4], ht, hb, hl, hr, rowHit_iff.mp hht, rowHit_iff.mp hhb,
    colHit_iff.mp hhl, colHit_iff.mp hhr, fun y x hy hx hh => ?_⟩
  have a1 := hrow y hy (rowHit_iff.mpr ⟨x, hx, hh⟩)
  have a2 := hcol x hx (colHit_iff.mpr ⟨y, hy, hh⟩)
  omega

/-- when no cell is a hit the kernels return the empty window -/
theorem bounds_of_no_hit (rows cols : Nat) (hit : Nat → Nat → Bool)
    (h : ∀ y x, y < rows → x < cols → hit y x = false) :
    bounds rows cols hit = ⟨0, -1, 0, -1⟩ := by
  have : (scan (List.range rows) (rowHit cols hit)).2 = false :=
    scan_none fun y hy => rowHit_of_no_hit h (List.mem_range.mp hy)
  simp [bounds, this]

theorem scan_congr {ys : List Nat} {h h' : Nat → Bool} (e : ∀ y ∈ ys, h y = h' y) : scan ys h = scan ys h' :=
  foldl_congr_mem ys _ _ _ fun y hy s => by rw [e y hy]

theorem bounds_congr (rows cols : Nat) (hit hit' : Nat → Nat → Bool)
    (e : ∀ y x, y < rows → x < cols → hit y x = hit' y x) : bounds rows cols hit = bounds rows cols hit' := by
  have hr : ∀ y, y < rows → rowHit cols hit y = rowHit cols hit' y := by
    intro y hy
    rw [Bool.eq_iff_iff, rowHit_iff, rowHit_iff]
    constructor <;> rintro ⟨x, hx, hh⟩
    · exact ⟨x, hx, by rw [← e y x hy hx]; exact hh⟩
    · exact ⟨x, hx, by rw [e y x hy hx]; exact hh⟩
  have hc : ∀ x, x < cols → colHit rows hit x = colHit rows hit' x := by
    intro x hx
    rw [Bool.eq_iff_iff, colHit_iff, colHit_iff]
    constructor <;> rintro ⟨y, hy, hh⟩
    · exact ⟨y, hy, by rw [← e y x hy hx]; exact hh⟩
    · exact ⟨y, hy, by rw [e y x hy hx]; exact hh⟩
  have s1 := scan_congr (ys := List.range rows) (fun y hy => hr y (List.mem_range.mp hy))
  have s2 := scan_congr (ys := (List.range rows).reverse)
    (fun y hy => hr y (List.mem_range.mp (List.mem_reverse.mp hy)))
  have s3 := scan_congr (ys := List.range cols) (fun x hx => hc x (List.mem_range.mp hx))
  have s4 := scan_congr (ys := (List.range cols).reverse)
    (fun x hx => hc x (List.mem_range.mp (List.mem_reverse.mp hx)))
  simp only [bounds, s1, s2, s3, s4]

theorem sliceIdx_nat (n lo hi : Nat) : sliceIdx n (lo : Int) ((hi : Int) + 1) = List.range' lo (min (hi + 1) n - lo) := by
  simp only [sliceIdx, Int.toNat_natCast]
  have : ((hi : Int) + 1).toNat = hi + 1 := by omega
  rw [this]

theorem sliceIdx_empty (n : Nat) : sliceIdx n 0 (-1 + 1) = [] := by
  simp [sliceIdx]

end XrsVerif.Trim
