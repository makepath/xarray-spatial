import XrsVerif.Proofs.ILViewshedFixIns
/-
  The loop of `_rb_insert_fixup` (inlined in `Gen.IL.vsInsert`), the whole fix-up, and **`vsInsert_refines`**: one
  iteration is one step of the model's `insFixP` (Model/ViewshedFix.lean), for both mirror images and all cases; the
  generated `_insert_into_tree` leaves arrays that hold the model's complete insertion
  `rbInsFix S (insDirsR key t []) (insCoreC node t).1` -- leaf insertion with its upward propagation, then the colour
  fix-up started at the new leaf, the root blackened.

  `FixCore s n zl z zr ctx` is the loop invariant: well-formed arrays, the tree well linked without repeated rows, `z`
  at the position `ctx`, the fix-up's `root` variable the root row, the NIL row black, the root black unless `z` is the
  root.
-/
namespace XrsVerif.ILVs
open XrsVerif XrsVerif.IL XrsVerif.Viewshed
variable {F : Type} [Fl F]

/-- the loop stops at a black parent: the model returns its argument -/
theorem insFixP_stop (S : Fv F) (V : List F) (N : List Int) (zsh : Sh) (ctx : Ctx)
    (h : ∀ pf rest, ctx = pf :: rest → nAt N pf.idx 0 ≠ 0) :
    insFixP S (ctx.map Fr.dir) (absT V N (plug zsh ctx)) = absT V N (plug zsh ctx) := by
  match ctx, h with
  | [], _ => simp [insFixP]
  | [pf], _ => simp [insFixP]
  | pf :: gf :: rest, h =>
    have hp := h pf (gf :: rest) rfl
    simp only [List.map_cons, insFixP]
    have hpath : (rest.map Fr.dir).reverse ++ [gf.dir] = pathOf (gf :: rest) := by rw [pathOf_eq]; simp
    rw [hpath, plug_cons pf, subAt_plug, isRed_fill]
    simp [hp]

structure FixCore (s : State F) (n : Nat) (zl : Sh) (z : Nat) (zr : Sh) (ctx : Ctx) : Prop where
  vs : VS s n
  run : s.ctl = .run
  linked : Linked (s.ia "tree_nodes") n (-1) (plug (.node zl z zr) ctx)
  nodup : (plug (.node zl z zr) ctx).idxs.Nodup
  hz : s.ienv "_rb_insert_fixup6$z" = z
  hroot : s.ienv "_rb_insert_fixup6$root" = (plug (.node zl z zr) ctx).ptr
  nilBlack : nAt (s.ia "tree_nodes") (n - 1) 0 ≠ 0
  rootBlack : ctx ≠ [] → isRed (absT (s.fa "tree_vals") (s.ia "tree_nodes") (plug (.node zl z zr) ctx)) = false

theorem FixCore.treeAt {s : State F} {n : Nat} {zl : Sh} {z : Nat} {zr : Sh} {ctx : Ctx} (h : FixCore s n zl z zr ctx) :
    TreeAt "_rb_insert_fixup6$root" s n (plug (.node zl z zr) ctx) :=
  ⟨h.vs, h.run, h.linked, h.nodup, h.hroot⟩

/-- what one iteration (or a branch of it) establishes: the tree has moved by some `f` and `z` to a position strictly
    higher up, the root still black, and the model's loop from there gives what it gave from the old position -/
def FixStep (s r : State F) (n : Nat) (zl : Sh) (z : Nat) (zr : Sh) (ctx : Ctx) : Prop :=
  ∃ (zl' : Sh) (z' : Nat) (zr' : Sh) (ctx' : Ctx) (f : Tree (Fv F) → Tree (Fv F)),
    Move "_rb_insert_fixup6$root" n f s r (plug (.node zl z zr) ctx) (plug (.node zl' z' zr') ctx') ∧
    r.ienv "_rb_insert_fixup6$z" = z' ∧ ctx'.length < ctx.length ∧
    (ctx' ≠ [] → isRed (f (absT (s.fa "tree_vals") (s.ia "tree_nodes") (plug (.node zl z zr) ctx))) = false) ∧
    insFixP (vAt (s.fa "tree_vals") (n - 1) 7) (ctx'.map Fr.dir)
        (f (absT (s.fa "tree_vals") (s.ia "tree_nodes") (plug (.node zl z zr) ctx))) =
      insFixP (vAt (s.fa "tree_vals") (n - 1) 7) (ctx.map Fr.dir)
        (absT (s.fa "tree_vals") (s.ia "tree_nodes") (plug (.node zl z zr) ctx))

theorem FixCore.of_move {s r : State F} {n : Nat} {zl : Sh} {z : Nat} {zr : Sh} {ctx : Ctx} (h : FixCore s n zl z zr ctx)
    {f : Tree (Fv F) → Tree (Fv F)} {zl' : Sh} {z' : Nat} {zr' : Sh} {ctx' : Ctx}
    (m : Move "_rb_insert_fixup6$root" n f s r (plug (.node zl z zr) ctx) (plug (.node zl' z' zr') ctx'))
    (hz : r.ienv "_rb_insert_fixup6$z" = z')
    (hrb : ctx' ≠ [] → isRed (f (absT (s.fa "tree_vals") (s.ia "tree_nodes") (plug (.node zl z zr) ctx))) = false) :
    FixCore r n zl' z' zr' ctx' :=
  ⟨m.holds.vs, m.holds.run, m.holds.linked, m.holds.nodup, hz, m.holds.root, by rw [m.nilCol]; exact h.nilBlack,
   by rw [m.abs]; exact hrb⟩

/-- one branch: `z.parent` is the `d`-side child of the grandparent -/
theorem case_move (d : Dir) (fuel n : Nat) (s : State F) (zl : Sh) (z : Nat) (zr : Sh) (pf : Fr) (g : Nat) (u : Sh)
    (rest : Ctx) (h : FixCore s n zl z zr (pf :: Fr.mkD d g u :: rest))
    (hzp : s.ienv "_rb_insert_fixup6$z_parent" = pf.idx) (hzpp : s.ienv "_rb_insert_fixup6$z_parent_parent" = g)
    (hred : nAt (s.ia "tree_nodes") pf.idx 0 = 0) :
    FixStep s (exec fuel (insCase d) s) n zl z zr (pf :: Fr.mkD d g u :: rest) := by
  unfold FixStep
  have hrb' := h.rootBlack (by simp)
  obtain ⟨hg, _, hg2, _, hlu⟩ := h.treeAt.pos.up.mkD
  have hinu := hlu.inRange h.vs.pos
  have hcol : 0 ≤ (d.flip.col : Int) ∧ (d.flip.col : Int) < 4 := by cases d <;> decide
  -- y = the uncle
  obtain ⟨s1, h1, m1, i1, a1⟩ := (Move.refl h.treeAt).exec_ld fuel "_rb_insert_fixup6$y" "_rb_insert_fixup6$z_parent_parent"
    d.flip.col hcol g hg hzpp (by simp)
  rw [Int.toNat_natCast, hg2] at a1
  have ey : s1.ienv "_rb_insert_fixup6$y" = u.ptr := by rw [a1, setS_same]
  have ezp : s1.ienv "_rb_insert_fixup6$z_parent" = pf.idx := by rw [a1, setS_other _ _ _ _ (by simp)]; exact hzp
  have ezpp : s1.ienv "_rb_insert_fixup6$z_parent_parent" = g := by rw [a1, setS_other _ _ _ _ (by simp)]; exact hzpp
  have ez : s1.ienv "_rb_insert_fixup6$z" = z := by rw [a1, setS_other _ _ _ _ (by simp)]; exact h.hz
  have hv1 := m1.holds.vs
  rw [show exec fuel (insCase d) s = exec fuel (.ite (.cmpI .eq (.ld2 "tree_nodes" (.var "_rb_insert_fixup6$y") (.lit 0)) (.lit 0))
      recolBlock
      (.seq (.ite (.cmpI .eq (.var "_rb_insert_fixup6$z")
        (.ld2 "tree_nodes" (.var "_rb_insert_fixup6$z_parent") (.lit d.flip.col))) (case2 (rotIn d)) .skip)
        (case3 (rotOut d)))) s1 from exec_seq_eq _ _ _ _ _ h1 m1.holds.run]
  have hcok : BE.ok s1 (.cmpI .eq (.ld2 "tree_nodes" (.var "_rb_insert_fixup6$y") (.lit 0)) (.lit 0)) = true := by
    rw [BE.ok_cmpI, okN s1 n hv1.shpN _ 0 (by decide), ey, hinu, IE.ok_lit]; rfl
  have hcev : BE.eval s1 (.cmpI .eq (.ld2 "tree_nodes" (.var "_rb_insert_fixup6$y") (.lit 0)) (.lit 0)) =
      decide (nAt (s.ia "tree_nodes") (rowOf n u.ptr) 0 = 0) := by
    rw [BE.eval_cmpI, evalN s1 n hv1.shpN _ 0 (by decide), ey, i1, IE.eval_lit]; rfl
  -- the model's two tests
  have hpg : (rest.map Fr.dir).reverse = pathOf rest := map_dir_reverse rest
  have hpp : (rest.map Fr.dir).reverse ++ [d] = pathOf (Fr.mkD d g u :: rest) := by rw [pathOf_mkD, hpg]
  have hparent : isRed (subAt (pathOf (Fr.mkD d g u :: rest))
      (absT (s.fa "tree_vals") (s.ia "tree_nodes") (plug (.node zl z zr) (pf :: Fr.mkD d g u :: rest)))) = true := by
    rw [plug_cons pf, subAt_plug, isRed_fill]; simp [hred]
  have huncle : subAt (pathOf rest ++ [d.flip])
      (absT (s.fa "tree_vals") (s.ia "tree_nodes") (plug (.node zl z zr) (pf :: Fr.mkD d g u :: rest))) =
      absT (s.fa "tree_vals") (s.ia "tree_nodes") u := by
    rw [plug_cons pf, plug_mkD, ← Sh.nodeD_flip, ← plug_mkD, ← pathOf_mkD d.flip g (pf.fill (.node zl z zr)) rest]
    exact subAt_plug _ _ _ u
  by_cases hured : nAt (s.ia "tree_nodes") (rowOf n u.ptr) 0 = 0
  · -- red uncle: it is a node
    cases u with
    | nil => simp only [Sh.ptr, rowOf_neg_one] at hured; exact absurd hured h.nilBlack
    | node ul ui ur =>
      simp only [Sh.ptr, rowOf_nat] at hured ey
      rw [exec_ite_true _ _ _ _ _ hcok (by rw [hcev]; simp [Sh.ptr, hured])]
      obtain ⟨al, ar, hfill⟩ : ∃ al ar, pf.fill (.node zl z zr) = .node al pf.idx ar := by
        cases pf <;> exact ⟨_, _, rfl⟩
      have hW : plug (.node zl z zr) (pf :: Fr.mkD d g (.node ul ui ur) :: rest) =
          plug (.nodeD d (.node al pf.idx ar) g (.node ul ui ur)) rest := by rw [plug_cons, hfill, plug_mkD]
      rw [hW] at m1 hrb' hparent huncle ⊢
      obtain ⟨m2, ez2⟩ := recol_move d fuel n s1 al pf.idx ar g ul ui ur rest m1.holds ezp ey ezpp
      refine ⟨_, g, _, rest, _, m1.trans m2, ez2, by simp only [List.length_cons]; omega, fun hne => ?_, ?_⟩
      · rw [isRed_atPath _ _ (pathOf_ne_nil' hne), isRed_atPath _ _ (by simp), isRed_atPath _ _ (by simp)]
        exact hrb'
      · simp only [List.map_cons, Fr.dir_mkD]
        have hm := insFixP_recol (vAt (s.fa "tree_vals") (n - 1) 7) pf.dir d (rest.map Fr.dir) _
          (by rw [hpp]; exact hparent) (by rw [hpg, huncle]; simp [absT, isRed, hured])
        rw [hpg] at hm
        exact hm.symm
  · -- black uncle
    rw [exec_ite_false _ _ _ _ _ hcok (by rw [hcev]; simp [hured])]
    have hublack : isRed (absT (s.fa "tree_vals") (s.ia "tree_nodes") u) = false := by
      cases u with
      | nil => rfl
      | node ul ui ur => simp only [Sh.ptr, rowOf_nat] at hured; simp [absT, isRed, hured]
    have hpfn : pf.idx + 1 < n := h.treeAt.pos.ctx_lt (Pos.frame_mem List.mem_cons_self)
    have hc2ok : BE.ok s1 (.cmpI .eq (.var "_rb_insert_fixup6$z")
        (.ld2 "tree_nodes" (.var "_rb_insert_fixup6$z_parent") (.lit d.flip.col))) = true := by
      rw [BE.ok_cmpI, okN s1 n hv1.shpN _ _ hcol, ezp, h.vs.inRange hpfn, IE.ok_var]; rfl
    have hc2ev : BE.eval s1 (.cmpI .eq (.var "_rb_insert_fixup6$z")
        (.ld2 "tree_nodes" (.var "_rb_insert_fixup6$z_parent") (.lit d.flip.col))) =
        decide ((z : Int) = nAt (s.ia "tree_nodes") pf.idx d.flip.col) := by
      rw [BE.eval_cmpI, evalN s1 n hv1.shpN _ _ hcol.1, ezp, rowOf_nat, i1, IE.eval_var, ez, Int.toNat_natCast]; rfl
    -- after the last rotation the parent of `z` is the black row `q`: the model's loop stops, the root is black
    have hend : ∀ (q : Nat) (sub sib : Sh) (r : State F) (T T' : Tree (Fv F)),
        absT (r.fa "tree_vals") (r.ia "tree_nodes") (plug sub (Fr.mkD d q sib :: rest)) = T' → nAt (r.ia "tree_nodes") q 0 = 1 →
        isRed T = false → (rest ≠ [] → isRed T' = isRed T) →
        isRed T' = false ∧ ∀ S, insFixP S ((Fr.mkD d q sib :: rest).map Fr.dir) T' = T' := by
      intro q sub sib r T T' habs h1 hT hkeep
      subst habs
      refine ⟨?_, fun S => insFixP_stop _ _ _ _ _ (fun pf' rest' e => by
        rw [← (List.cons.inj e).1, Fr.idx_mkD, h1]; decide)⟩
      cases rest with
      | nil => rw [plug_cons, plug, isRed_fill, Fr.idx_mkD, h1]; rfl
      | cons f' rs => rw [hkeep (by simp)]; exact hT
    rcases Fr.mkD_cases d pf with ⟨p, ps, rfl⟩ | ⟨p, ps, rfl⟩
    · -- outer child
      rw [Fr.idx_mkD] at hc2ev
      obtain ⟨_, _, hp2, hp4, _⟩ := h.treeAt.pos.mkD
      have hne : ¬ ((z : Int) = nAt (s.ia "tree_nodes") p d.flip.col) := by
        rw [hp2]; intro e; exact hp4 (by simp [Sh.ptr]) e.symm
      rw [exec_seq_eq _ _ _ _ s1 (by
        rw [exec_ite_false _ _ _ _ _ hc2ok (by rw [hc2ev]; exact decide_eq_false hne), exec_skip]) m1.holds.run]
      obtain ⟨m2, ez2, hq2⟩ := out_move d fuel n s1 zl z zr p ps g u rest m1.holds ez
      rw [m1.nilMax] at m2
      have m := m1.trans m2
      obtain ⟨e1, e2⟩ := hend p _ _ _ _ _ m.abs hq2 hrb' (fun hne => by
        show isRed (atPath _ _ (atPath _ _ (atPath _ _ _))) = _
        rw [isRed_atPath _ _ (pathOf_ne_nil' hne), isRed_atPath _ _ (pathOf_ne_nil' hne), isRed_atPath _ _ (by simp)])
      refine ⟨zl, z, zr, _, _, m, ez2, by simp, fun _ => e1, ?_⟩
      rw [e2]
      simp only [List.map_cons, Fr.dir_mkD]
      have hm := insFixP_outer (vAt (s.fa "tree_vals") (n - 1) 7) d (rest.map Fr.dir) _
        (by rw [hpp]; exact hparent) (by rw [hpg, huncle]; exact hublack)
      rw [hpg] at hm
      exact hm.symm
    · -- inner child: rotate it outwards first
      rw [Fr.idx_mkD] at hc2ev ezp
      obtain ⟨_, hp1, _⟩ := h.treeAt.pos.mkD
      have heq : (z : Int) = nAt (s.ia "tree_nodes") p d.flip.col := by rw [hp1]; rfl
      obtain ⟨zm, ze, hZ⟩ : ∃ zm ze, Sh.node zl z zr = .nodeD d zm z ze := by
        cases d
        exacts [⟨zl, zr, rfl⟩, ⟨zr, zl, rfl⟩]
      obtain ⟨m2, ez2, c2⟩ := in_move d fuel n s1 zm z ze p ps g u rest (hZ ▸ m1.holds) ezp
      rw [← hZ, m1.nilMax] at m2
      generalize hs2 : exec fuel (case2 (rotIn d)) s1 = s2 at m2 ez2 c2
      rw [exec_seq_eq _ _ _ _ s2 (by
        rw [exec_ite_true _ _ _ _ _ hc2ok (by rw [hc2ev]; exact decide_eq_true heq), hs2]) m2.holds.run]
      obtain ⟨m3, ez3, hq3⟩ := out_move d fuel n s2 _ p _ z ze g u rest m2.holds ez2
      rw [m2.nilMax, m1.nilMax] at m3
      have m := (m1.trans m2).trans m3
      obtain ⟨e1, e2⟩ := hend z _ _ _ _ _ m.abs hq3 hrb' (fun hne => by
        show isRed (atPath _ _ (atPath _ _ (atPath _ _ (atPath _ _ _)))) = _
        rw [isRed_atPath _ _ (pathOf_ne_nil' hne), isRed_atPath _ _ (pathOf_ne_nil' hne), isRed_atPath _ _ (by simp),
          isRed_atPath _ _ (by simp)])
      refine ⟨_, p, _, _, _, m, ez3, by simp, fun _ => e1, ?_⟩
      rw [e2]
      simp only [List.map_cons, Fr.dir_mkD]
      have hm := insFixP_inner (vAt (s.fa "tree_vals") (n - 1) 7) d.flip d (rest.map Fr.dir) _ (by cases d <;> decide)
        (by rw [hpp]; exact hparent) (by rw [hpg, huncle]; exact hublack)
      rw [hpg] at hm
      exact hm.symm

theorem insFixBody_move (fuel n : Nat) (s : State F) (zl : Sh) (z : Nat) (zr : Sh) (pf : Fr) (rest0 : Ctx)
    (h : FixCore s n zl z zr (pf :: rest0)) (hzp : s.ienv "_rb_insert_fixup6$z_parent" = pf.idx)
    (hred : nAt (s.ia "tree_nodes") pf.idx 0 = 0) :
    let r := exec fuel insFixBody s
    ∃ (zl' : Sh) (z' : Nat) (zr' : Sh) (ctx' : Ctx) (f : Tree (Fv F) → Tree (Fv F)),
      Move "_rb_insert_fixup6$root" n f s r (plug (.node zl z zr) (pf :: rest0)) (plug (.node zl' z' zr') ctx') ∧
      FixCore r n zl' z' zr' ctx' ∧ r.ienv "_rb_insert_fixup6$z_parent" = ctxPar ctx' ∧ ctx'.length < (pf :: rest0).length ∧
      insFixP (vAt (s.fa "tree_vals") (n - 1) 7) (ctx'.map Fr.dir)
          (f (absT (s.fa "tree_vals") (s.ia "tree_nodes") (plug (.node zl z zr) (pf :: rest0)))) =
        insFixP (vAt (s.fa "tree_vals") (n - 1) 7) ((pf :: rest0).map Fr.dir)
          (absT (s.fa "tree_vals") (s.ia "tree_nodes") (plug (.node zl z zr) (pf :: rest0))) := by
  intro r
  -- the parent is not the root: the root is black
  obtain ⟨gf, rest, rfl⟩ : ∃ gf rest, rest0 = gf :: rest := by
    cases rest0 with
    | nil =>
      have := h.rootBlack (by simp)
      rw [plug_cons] at this
      simp only [plug, isRed_fill, hred, decide_true] at this
      exact absurd this (by simp)
    | cons a b => exact ⟨a, b, rfl⟩
  have hlz := h.treeAt.pos.sub
  obtain ⟨hpn, hp3, hcp⟩ := h.treeAt.pos.ctx.step
  rw [ctxPar_cons] at hp3
  have hz3 : nAt (s.ia "tree_nodes") z 3 = pf.idx := by have := hlz.2.2.2.1; rwa [ctxPar_cons] at this
  obtain ⟨hgn, _, _⟩ := hcp.step
  obtain ⟨s1, h1, m1, i1, a1⟩ := (Move.refl h.treeAt).exec_ld fuel "_rb_insert_fixup6$z_parent_parent"
    "_rb_insert_fixup6$z_parent" 3 (by decide) pf.idx hpn hzp (by simp)
  obtain ⟨s2, h2, m2, i2, a2⟩ := m1.exec_ld fuel "_rb_insert_fixup6$n1" "_rb_insert_fixup6$z" 3 (by decide) z hlz.1
    (by rw [a1, setS_other _ _ _ _ (by simp)]; exact h.hz) (by simp)
  obtain ⟨s3, h3, m3, i3, a3⟩ := m2.exec_ld fuel "_rb_insert_fixup6$n2" "_rb_insert_fixup6$z_parent_parent" 1 (by decide)
    gf.idx hgn (by rw [a2, a1, setS_other _ _ _ _ (by simp), setS_same]; exact hp3) (by simp)
  rw [i2, i1] at i3
  have ez3 : s3.ienv "_rb_insert_fixup6$z" = z := by simp [a3, a2, a1, setS, h.hz]
  have ezp3 : s3.ienv "_rb_insert_fixup6$z_parent" = pf.idx := by simp [a3, a2, a1, setS, hzp]
  have ezpp3 : s3.ienv "_rb_insert_fixup6$z_parent_parent" = gf.idx := by simp [a3, a2, a1, setS, hp3]
  have hcore3 : FixCore s3 n zl z zr (pf :: gf :: rest) := h.of_move m3 ez3 h.rootBlack
  have hcok : BE.ok s3 (.cmpI .eq (.var "_rb_insert_fixup6$n1") (.var "_rb_insert_fixup6$n2")) = true := by
    rw [BE.ok_cmpI, IE.ok_var, IE.ok_var]; rfl
  have hcev : BE.eval s3 (.cmpI .eq (.var "_rb_insert_fixup6$n1") (.var "_rb_insert_fixup6$n2")) =
      decide ((pf.idx : Int) = nAt (s.ia "tree_nodes") gf.idx 1) := by
    rw [BE.eval_cmpI, IE.eval_var, IE.eval_var]; simp [a3, a2, i2, i1, setS, cmpInt, hz3]
  obtain ⟨r1, hr1, zl', z', zr', ctx', f, m4, hz4, k2, k3, k4⟩ : ∃ r1 : State F,
      exec fuel (.ite (.cmpI .eq (.var "_rb_insert_fixup6$n1") (.var "_rb_insert_fixup6$n2")) (insCase .L) (insCase .R)) s3 = r1 ∧
        FixStep s3 r1 n zl z zr (pf :: gf :: rest) := by
    cases gf with
    | L g u =>
      have hg1 : nAt (s.ia "tree_nodes") g 1 = pf.idx := hcp.2.1
      exact ⟨_, exec_ite_true _ _ _ _ _ hcok (by rw [hcev]; simp [Fr.idx, hg1]),
        case_move .L fuel n s3 zl z zr pf g u rest hcore3 ezp3 ezpp3 (by rw [i3]; exact hred)⟩
    | R u g =>
      obtain ⟨_, hg1, _, hg4, _⟩ := hcp
      have hne : ¬ ((pf.idx : Int) = nAt (s.ia "tree_nodes") g 1) := by
        rw [hg1]; intro e; exact hg4 (by omega) e.symm
      exact ⟨_, exec_ite_false _ _ _ _ _ hcok (by rw [hcev]; exact decide_eq_false hne),
        case_move .R fuel n s3 zl z zr pf g u rest hcore3 ezp3 ezpp3 (by rw [i3]; exact hred)⟩
  rw [m3.abs] at k3
  rw [m3.abs, m3.nilMax] at k4
  -- the tail: `z_parent` for the new `z`
  have hlz' := m4.holds.pos.sub
  obtain ⟨r', h5, m5, _, a5⟩ := (m3.trans m4).exec_ld fuel "_rb_insert_fixup6$z_parent" "_rb_insert_fixup6$z" 3 (by decide)
    z' hlz'.1 hz4 (by simp)
  rw [show r = r' from (exec_seq_eq _ _ _ _ _ h1 m1.holds.run).trans ((exec_seq_eq _ _ _ _ _ h2 m2.holds.run).trans
    ((exec_seq_eq _ _ _ _ _ h3 m3.holds.run).trans ((exec_seq_eq _ _ _ _ _ hr1 m4.holds.run).trans h5)))]
  exact ⟨zl', z', zr', ctx', _, m5, h.of_move m5 (by rw [a5, setS_other _ _ _ _ (by simp)]; exact hz4) k3,
    by rw [a5, setS_same]; exact hlz'.2.2.2.1, k2, k4⟩

/-- **the loop of `_rb_insert_fixup`** moves the tree by the model's `insFixP` from the position of `z` -/
theorem insFixLoop_move (n : Nat) (zl : Sh) (z : Nat) (zr : Sh) (ctx : Ctx) (fuel : Nat) (s : State F)
    (h : FixCore s n zl z zr ctx) (hzp : s.ienv "_rb_insert_fixup6$z_parent" = ctxPar ctx) (hf : ctx.length < fuel) :
    ∃ sh', Move "_rb_insert_fixup6$root" n (insFixP (vAt (s.fa "tree_vals") (n - 1) 7) (ctx.map Fr.dir)) s
      (exec fuel insFixLoop s) (plug (.node zl z zr) ctx) sh' := by
  refine while_rule (.cmpI .eq (.ld2 "tree_nodes" (.var "_rb_insert_fixup6$z_parent") (.lit 0)) (.lit 0)) insFixBody
    (fun k t => ∃ (zl' : Sh) (z' : Nat) (zr' : Sh) (ctx' : Ctx) (f : Tree (Fv F) → Tree (Fv F)), ctx'.length = k ∧
      FixCore t n zl' z' zr' ctx' ∧ t.ienv "_rb_insert_fixup6$z_parent" = ctxPar ctx' ∧
      Move "_rb_insert_fixup6$root" n f s t (plug (.node zl z zr) ctx) (plug (.node zl' z' zr') ctx') ∧
      insFixP (vAt (s.fa "tree_vals") (n - 1) 7) (ctx'.map Fr.dir)
          (f (absT (s.fa "tree_vals") (s.ia "tree_nodes") (plug (.node zl z zr) ctx))) =
        insFixP (vAt (s.fa "tree_vals") (n - 1) 7) (ctx.map Fr.dir)
          (absT (s.fa "tree_vals") (s.ia "tree_nodes") (plug (.node zl z zr) ctx)))
    (fun t => ∃ sh', Move "_rb_insert_fixup6$root" n (insFixP (vAt (s.fa "tree_vals") (n - 1) 7) (ctx.map Fr.dir)) s t
      (plug (.node zl z zr) ctx) sh')
    ?_ ctx.length fuel s ⟨zl, z, zr, ctx, _, rfl, h, hzp, Move.refl h.treeAt, rfl⟩ hf
  rintro fuel k t _ ⟨zl', z', zr', ctx', f, rfl, ht, hzp', m, hm⟩
  -- the test reads the colour of the parent, the NIL row when `z` is the root
  have hin : inRange (ctxPar ctx') n = true := by
    cases ctx' with
    | nil => exact inRange_ptr n _ (by simp [ctxPar]; omega) ht.vs.pos
    | cons pf rest0 =>
      rw [ctxPar_cons]
      exact ht.vs.inRange (ht.treeAt.pos.ctx_lt (Pos.frame_mem List.mem_cons_self))
  have hev : BE.eval t (.cmpI .eq (.ld2 "tree_nodes" (.var "_rb_insert_fixup6$z_parent") (.lit 0)) (.lit 0)) =
      decide (nAt (t.ia "tree_nodes") (rowOf n (ctxPar ctx')) 0 = 0) := by
    rw [BE.eval_cmpI, evalN t n ht.vs.shpN _ 0 (by decide), hzp', IE.eval_lit]; rfl
  refine ⟨by rw [BE.ok_cmpI, okN t n ht.vs.shpN _ 0 (by decide), hzp', hin, IE.ok_lit]; rfl, fun hc => ?_, fun hc => ?_⟩
  · -- black parent: the model's loop stops too
    refine ⟨_, m.congr (hm.symm.trans ?_).symm⟩
    rw [← m.abs]
    refine insFixP_stop _ _ _ _ _ (fun pf' rest' e => ?_)
    subst e
    rw [hev, ctxPar_cons, rowOf_nat] at hc
    exact of_decide_eq_false hc
  · cases ctx' with
    | nil =>
      rw [hev] at hc
      simp only [ctxPar, rowOf_neg_one] at hc
      exact absurd (of_decide_eq_true hc) ht.nilBlack
    | cons pf rest0 =>
      rw [hev, ctxPar_cons, rowOf_nat] at hc
      rw [ctxPar_cons] at hzp'
      obtain ⟨zl1, z1, zr1, ctx1, g, b1, b2, b3, b4, b5⟩ := insFixBody_move fuel n t zl' z' zr' pf rest0 ht hzp'
        (of_decide_eq_true hc)
      rw [m.abs, m.nilMax] at b5
      exact Or.inl ⟨b1.holds.run, _, b4, zl1, z1, zr1, ctx1, _, rfl, b2, b3, m.trans b1, b5.trans hm⟩

/-- **`_rb_insert_fixup` inlined** (`insFixup'`), started with `inserted` = a red node at the position `ctx` of a
    well-linked tree whose root and NIL row are black: it returns from a state that holds `rbInsFix` of the tree -/
theorem insFixup_spec (fuel n : Nat) (s : State F) (zl : Sh) (z : Nat) (zr : Sh) (ctx : Ctx)
    (h : TreeAt "root" s n (plug (.node zl z zr) ctx)) (hins : s.ienv "inserted" = z)
    (hnil : nAt (s.ia "tree_nodes") (n - 1) 0 ≠ 0)
    (hrb : ctx ≠ [] → isRed (absT (s.fa "tree_vals") (s.ia "tree_nodes") (plug (.node zl z zr) ctx)) = false)
    (hf : ctx.length + 2 ≤ fuel) :
    ∃ (q : State F) (sh' : Sh), exec fuel insFixup' s = { q with ctl := .ret } ∧
      Move "root" n (rbInsFix (vAt (s.fa "tree_vals") (n - 1) 7) (ctx.map Fr.dir)) s q (plug (.node zl z zr) ctx) sh' ∧
      q.ienv "ret0" = sh'.ptr := by
  have t1 : TreeAt "_rb_insert_fixup6$root" ({ s with ienv := setS s.ienv "_rb_insert_fixup6$root" (s.ienv "root") } : State F) n
      (plug (.node zl z zr) ctx) :=
    ⟨h.vs.of_eq rfl rfl rfl, h.run, h.linked, h.nodup, (setS_same s.ienv "_rb_insert_fixup6$root" _).trans h.root⟩
  obtain ⟨s2, h2, m2, i2, a2⟩ := (Move.refl t1).exec_setI fuel "_rb_insert_fixup6$z" (.var "inserted") (IE.ok_var _ _) (by simp)
  have hlz := h.pos.sub
  obtain ⟨s3, h3, m3, i3, a3⟩ := m2.exec_ld fuel "_rb_insert_fixup6$z_parent" "_rb_insert_fixup6$z" 3 (by decide) z hlz.1
    (by simp [a2, setS, IE.eval, hins]) (by simp)
  have hcore : FixCore s3 n zl z zr ctx :=
    ⟨m3.holds.vs, m3.holds.run, m3.holds.linked, m3.holds.nodup, by simp [a3, a2, setS, IE.eval, hins], m3.holds.root,
     by rw [m3.nilCol]; exact hnil, by rw [m3.abs]; exact hrb⟩
  obtain ⟨sh', m4⟩ := insFixLoop_move n zl z zr ctx fuel s3 hcore
    (by rw [a3, setS_same, i2]; exact hlz.2.2.2.1) (by omega)
  rw [m3.nilMax] at m4
  generalize hs4 : exec fuel insFixLoop s3 = s4 at m4
  -- the root is blackened
  obtain ⟨l4, i4, r4, rfl⟩ : ∃ l i r, sh' = .node l i r := by
    cases sh' with
    | nil => exact absurd (m4.idxs ▸ mem_plug z ctx _ (by simp [Sh.idxs])) (by simp [Sh.idxs])
    | node l i r => exact ⟨l, i, r, rfl⟩
  obtain ⟨m5, e5, _, _⟩ := stColE_move fuel n s4 "_rb_insert_fixup6$root" (.lit 1) 1 false (IE.ok_lit _ _) (IE.eval_lit _ _)
    (by decide) colV_one m4.holds [] l4 i4 r4 rfl rfl m4.holds.root
  generalize hs5 : exec fuel (.stI2 "tree_nodes" (.var "_rb_insert_fixup6$root") (.lit 0) (.lit 1)) s4 = s5 at m5 e5
  have m := (m3.trans m4).trans m5
  have hR : s5.ienv "_rb_insert_fixup6$root" = (i4 : Int) := m5.holds.root
  refine ⟨{ s5 with ienv := setS (setS (setS s5.ienv "_rb_insert_fixup6$ret0" (i4 : Int)) "root" (i4 : Int)) "ret0" (i4 : Int) },
    _, ?_, ⟨⟨m.holds.vs.of_eq rfl rfl rfl, m.holds.run, m.holds.linked, m.holds.nodup, by simp [setS, Sh.ptr]⟩, m.idxs, m.abs,
      m.nilMax, m.nilCol, m.col⟩, by simp [setS, Sh.ptr]⟩
  have hend : exec fuel (.seq (.setI "_rb_insert_fixup6$ret0" (.var "_rb_insert_fixup6$root")) .ret) s5 =
      { s5 with ienv := setS s5.ienv "_rb_insert_fixup6$ret0" (i4 : Int), ctl := .ret } := by
    simp [il, m5.holds.run, hR]
  have hscope := exec_scope_eq ((exec_seq_eq _ _ _ _ _ h3 m3.holds.run).trans ((exec_seq_eq _ _ _ _ _ hs4 m4.holds.run).trans
    ((exec_seq_eq _ _ _ _ _ hs5 m5.holds.run).trans hend)))
  refine (exec_seq_eq _ _ _ _ _ (IL.exec_setI _ _ _ _ (IE.ok_var _ _)) h.run).trans ((exec_seq_eq _ _ _ _ _ h2 m2.holds.run).trans
    ((exec_seq_eq _ _ _ _ _ hscope (by simp)).trans ?_))
  simp [il, setS]

theorem isRed_insCoreC {α : Type} [LT α] [DecidableLT α] [LE α] [DecidableLE α] (nn : Node α) (l : Tree α) (nd : Node α)
    (mx : α) (c : Bool) (r : Tree α) : isRed (insCoreC nn (.node l nd mx c r)).1 = c := by
  simp only [insCoreC]
  split
  · split <;> rfl
  · split <;> rfl

theorem insZ_dirs (V : List F) (N : List Int) (K : Fv F) : ∀ (sh : Sh) (c : Ctx),
    (insZ V K sh c).map Fr.dir = insDirsR K (absT V N sh) (c.map Fr.dir) := by
  intro sh
  induction sh with
  | nil => intro c; rfl
  | node l i r ihl ihr =>
    intro c
    simp only [insZ, absT, insDirsR, nodeAt_key]
    by_cases h : K < vAt V i 0
    · simp only [h, if_true]; rw [ihl]; rfl
    · simp only [h, if_false]; rw [ihr]; rfl

/-- the model's complete insertion in the code-exact form of the propagation (`insCoreC`: the value travelling
    upwards is the child's stored maximum); over a linear order it is `rbInsert` (`rbInsertC_emb`, Proofs/ILViewshedOrder.lean) -/
def rbInsertC {α : Type} [LT α] [DecidableLT α] [LE α] [DecidableLE α] (S : α) (nn : Node α) (t : Tree α) : Tree α :=
  rbInsFix S (insDirsR nn.key t []) (insCoreC nn t).1

theorem vsInsert_wIA : ∀ a ∈ wIA Gen.IL.vsInsert.body, a = "tree_nodes" := by decide
theorem vsInsert_wFA : ∀ a ∈ wFA Gen.IL.vsInsert.body, a = "tree_vals" := by decide
theorem vsInsert_wSh : wSh Gen.IL.vsInsert.body = [] := by decide

/-- **Refinement of `_insert_into_tree`** (the whole routine: descent, creation and linking of the red leaf, upward
    propagation of its minimum gradient, `_rb_insert_fixup` with its inlined rotations, blackening of the root).
    On a state whose arrays hold a well-linked non-empty tree without repeated rows, the root and the NIL row black,
    `node_id` a fresh row and `value` the new node, the program returns (`ret`) with arrays that hold **the model's
    complete insertion `rbInsertC`** of the abstracted tree -- shape, colours, keys, gradients, stored maxima -- well
    linked, the rows of the old tree plus `node_id`; `ret0` is the root row; the NIL row keeps its maximum (the
    sentinel) and stays black; the root is black; no other array and no shape is touched. -/
theorem vsInsert_refines (s : State F) (fuel n m : Nat) (hv : VS s n) (hm : VVal s m) (hrun : s.ctl = .run)
    (l : Sh) (i : Nat) (rr : Sh) (hL : Linked (s.ia "tree_nodes") n (-1) (.node l i rr))
    (hN : (Sh.node l i rr).idxs.Nodup) (hroot : s.ienv "root" = i) (nid : Nat) (hnid : nid + 1 < n)
    (hfresh : nid ∉ (Sh.node l i rr).idxs) (hid : s.ienv "node_id" = nid)
    (hnil : nAt (s.ia "tree_nodes") (n - 1) 0 ≠ 0) (hblack : nAt (s.ia "tree_nodes") i 0 ≠ 0)
    (hfuel : (Sh.node l i rr).height + 2 ≤ fuel) :
    let r := Gen.IL.vsInsert.run s fuel
    let S : Fv F := vAt (s.fa "tree_vals") (n - 1) 7
    let t0 := absT (s.fa "tree_vals") (s.ia "tree_nodes") (.node l i rr)
    r.ctl = .ret ∧ VS r n ∧ ∃ sh' : Sh, Linked (r.ia "tree_nodes") n (-1) sh' ∧ sh'.idxs.Nodup ∧
      sh'.idxs.Perm (nid :: (Sh.node l i rr).idxs) ∧
      absT (r.fa "tree_vals") (r.ia "tree_nodes") sh' = rbInsertC S (valNode s) t0 ∧
      r.ienv "ret0" = sh'.ptr ∧ vAt (r.fa "tree_vals") (n - 1) 7 = S ∧ nAt (r.ia "tree_nodes") (n - 1) 0 ≠ 0 ∧
      isRed (absT (r.fa "tree_vals") (r.ia "tree_nodes") sh') = false ∧
      (∀ a, a ≠ "tree_nodes" → r.ia a = s.ia a) ∧ (∀ a, a ≠ "tree_vals" → r.fa a = s.fa a) ∧ r.shp = s.shp := by
  intro r S t0
  obtain ⟨sP, p1, p2, p3, p4, p5, p6, p7, p8, p9, p10⟩ :=
    vsInsert_prefix_refines s fuel n m hv hm hrun l i rr hL hN hroot nid hnid hfresh hid (by omega)
  simp only [insShape] at p4 p5 p6
  generalize hctx : insZ (s.fa "tree_vals") (valAt s 0) (.node l i rr) [] = ctx at p4 p5 p6
  have hplug : plug .nil ctx = .node l i rr := by rw [← hctx]; exact insZ_plug _ _ _ []
  have hctx_ne : ctx ≠ [] := hctx ▸ insZ_ne_nil _ (valAt s 0) (.node l i rr) [] (Or.inl (by simp))
  obtain ⟨fr, rest, rfl⟩ := List.exists_cons_of_ne_nil hctx_ne
  have hptr : (plug (.node .nil nid .nil) (fr :: rest)).ptr = (i : Int) := by
    rw [plug_ptr_cons fr rest (.node .nil nid .nil) .nil, hplug]; rfl
  have hlen : (fr :: rest).length ≤ (Sh.node l i rr).height := by
    have := plug_height (fr :: rest) .nil
    rw [hplug] at this
    simpa [Sh.height] using this
  have hrbP : isRed (absT (sP.fa "tree_vals") (sP.ia "tree_nodes") (plug (.node .nil nid .nil) (fr :: rest))) = false := by
    rw [p6]
    show isRed (insCoreC (valNode s) (.node _ _ _ _ _)).1 = false
    rw [isRed_insCoreC]
    simp [hblack]
  obtain ⟨q, sh', f1, f2, f3⟩ := insFixup_spec fuel n sP .nil nid .nil (fr :: rest) ⟨p3, p2, p4, p5, by rw [p8, hptr]⟩ p7
    (by rw [p10]; exact hnil) (fun _ => hrbP) (by omega)
  rw [← insFixup_eq, ← p1] at f1
  have e : r = { q with ctl := .ret } := f1
  have habs := f2.abs
  rw [p6, p9] at habs
  have hfr := exec_frame fuel Gen.IL.vsInsert.body s
  have hperm : sh'.idxs.Perm (nid :: (Sh.node l i rr).idxs) := by
    rw [f2.idxs, ← hplug]
    refine (idxs_plug_perm (fr :: rest) _).trans ?_
    refine List.Perm.trans ?_ (List.Perm.cons nid (idxs_plug_perm (fr :: rest) .nil).symm)
    simp [Sh.idxs]
  refine ⟨by rw [e], by rw [e]; exact f2.holds.vs.of_eq rfl rfl rfl, sh', by rw [e]; exact f2.holds.linked, f2.holds.nodup,
    hperm, ?_, by rw [e]; exact f3, by rw [e]; exact f2.nilMax.trans p9, by rw [e]; exact f2.nilCol ▸ p10 ▸ hnil, ?_,
    fun a ha => hfr.ia a (fun hmem => ha (vsInsert_wIA a hmem)),
    fun a ha => hfr.fa a (fun hmem => ha (vsInsert_wFA a hmem)), ?_⟩
  · rw [e]
    refine habs.trans ?_
    unfold rbInsertC
    congr 1
    have := insZ_dirs (s.fa "tree_vals") (s.ia "tree_nodes") (valAt s 0) (.node l i rr) []
    rw [hctx] at this
    exact this
  · rw [e]
    refine (congrArg isRed habs).trans ?_
    unfold rbInsFix
    cases insFixP (vAt (s.fa "tree_vals") (n - 1) 7) (List.map Fr.dir (fr :: rest))
      (insCoreC (valNode s) (absT (s.fa "tree_vals") (s.ia "tree_nodes") (.node l i rr))).1 <;> rfl
  · funext a
    exact hfr.shp a (by rw [vsInsert_wSh]; simp)

end XrsVerif.ILVs
