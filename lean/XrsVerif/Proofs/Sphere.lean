import Mathlib.Geometry.Euclidean.Angle.Unoriented.TriangleInequality
/-
  The spherical triangle inequality for the haversine central angle (C19, great-circle distance).
  `hv` is the haversine term of two (longitude, latitude) pairs in radians; `vec` the corresponding unit
  vector of Euclidean 3-space; `1 - 2 hv = <vec p, vec q>`, so `2 arcsin √hv` is the angle between the
  two vectors and Mathlib's `InnerProductGeometry.angle_le_angle_add_angle` applies.
-/
open Real

namespace XrsVerif.Sphere

noncomputable def hv (l1 f1 l2 f2 : ℝ) : ℝ :=
  sin ((f2 - f1) / 2) * sin ((f2 - f1) / 2) + cos f1 * cos f2 * (sin ((l2 - l1) / 2) * sin ((l2 - l1) / 2))

noncomputable def vec (l f : ℝ) : EuclideanSpace ℝ (Fin 3) := !₂[cos f * cos l, cos f * sin l, sin f]

theorem inner_vec (l1 f1 l2 f2 : ℝ) : inner ℝ (vec l1 f1) (vec l2 f2) = 1 - 2 * hv l1 f1 l2 f2 := by
  simp only [vec, PiLp.inner_apply, Fin.sum_univ_three, hv]
  simp
  have hs : ∀ x : ℝ, sin (x / 2) * sin (x / 2) = 1 / 2 - cos x / 2 := fun x => by
    have := Real.sin_sq_eq_half_sub (x / 2)
    rw [show 2 * (x / 2) = x by ring] at this
    rw [← this]; ring
  rw [hs, hs, Real.cos_sub, Real.cos_sub]
  ring


theorem hv_self (l f : ℝ) : hv l f l f = 0 := by simp [hv]

theorem norm_vec (l f : ℝ) : ‖vec l f‖ = 1 := by
  have h : ‖vec l f‖ ^ 2 = 1 := by
    rw [← real_inner_self_eq_norm_sq, inner_vec, hv_self]; ring
  have h0 : 0 ≤ ‖vec l f‖ := norm_nonneg _
  nlinarith [sq_nonneg (‖vec l f‖ - 1), sq_nonneg (‖vec l f‖ + 1)]

theorem angle_vec (l1 f1 l2 f2 : ℝ) :
    InnerProductGeometry.angle (vec l1 f1) (vec l2 f2) = arccos (1 - 2 * hv l1 f1 l2 f2) := by
  unfold InnerProductGeometry.angle
  rw [norm_vec, norm_vec, inner_vec]; simp

theorem two_arcsin_sqrt (a : ℝ) (h0 : 0 ≤ a) (h1 : a ≤ 1) : 2 * arcsin (sqrt a) = arccos (1 - 2 * a) := by
  have hs0 : 0 ≤ sqrt a := sqrt_nonneg a
  have hs1 : sqrt a ≤ 1 := Real.sqrt_le_one.mpr h1
  have ht0 : 0 ≤ arcsin (sqrt a) := arcsin_nonneg.mpr hs0
  have ht1 : arcsin (sqrt a) ≤ π / 2 := arcsin_le_pi_div_two _
  have hsin : sin (arcsin (sqrt a)) = sqrt a := sin_arcsin (by linarith) hs1
  have hcos : cos (2 * arcsin (sqrt a)) = 1 - 2 * a := by
    rw [cos_two_mul, cos_sq', hsin, sq_sqrt h0]; ring
  rw [← hcos, arccos_cos (by linarith) (by linarith)]

theorem hv_nonneg (l1 f1 l2 f2 : ℝ) (a1 : -(π / 2) ≤ f1) (b1 : f1 ≤ π / 2) (a2 : -(π / 2) ≤ f2) (b2 : f2 ≤ π / 2) :
    0 ≤ hv l1 f1 l2 f2 := by
  unfold hv
  have c1 := cos_nonneg_of_neg_pi_div_two_le_of_le a1 b1
  have c2 := cos_nonneg_of_neg_pi_div_two_le_of_le a2 b2
  exact add_nonneg (mul_self_nonneg _) (mul_nonneg (mul_nonneg c1 c2) (mul_self_nonneg _))

theorem hv_le_one (l1 f1 l2 f2 : ℝ) : hv l1 f1 l2 f2 ≤ 1 := by
  have h := inner_vec l1 f1 l2 f2
  have hb := abs_real_inner_le_norm (vec l1 f1) (vec l2 f2)
  rw [norm_vec, norm_vec, h] at hb
  have := (abs_le.mp hb).1
  linarith

/-- **spherical triangle inequality** for the haversine central angle -/
theorem haversine_triangle (l1 f1 l2 f2 l3 f3 : ℝ)
    (a1 : -(π / 2) ≤ f1) (b1 : f1 ≤ π / 2) (a2 : -(π / 2) ≤ f2) (b2 : f2 ≤ π / 2)
    (a3 : -(π / 2) ≤ f3) (b3 : f3 ≤ π / 2) :
    2 * arcsin (sqrt (hv l1 f1 l3 f3)) ≤
      2 * arcsin (sqrt (hv l1 f1 l2 f2)) + 2 * arcsin (sqrt (hv l2 f2 l3 f3)) := by
  rw [two_arcsin_sqrt _ (hv_nonneg _ _ _ _ a1 b1 a3 b3) (hv_le_one _ _ _ _),
      two_arcsin_sqrt _ (hv_nonneg _ _ _ _ a1 b1 a2 b2) (hv_le_one _ _ _ _),
      two_arcsin_sqrt _ (hv_nonneg _ _ _ _ a2 b2 a3 b3) (hv_le_one _ _ _ _),
      ← angle_vec, ← angle_vec, ← angle_vec]
  exact InnerProductGeometry.angle_le_angle_add_angle _ _ _

end XrsVerif.Sphere
