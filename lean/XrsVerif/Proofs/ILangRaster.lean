import XrsVerif.Proofs.ILang
/-
  The raster double loop `for vy in range(n): for vx in range(m): body` for a body that may end in `continue` (the step
  is about `afterBody (exec …)`) or an invariant that needs the count of cells done: `exec_sweep` has an invariant `Q k`
  indexed by the number `k` of cells done (row-major: cell `(p, q)` is number `p * m + q`), `exec_sweep_foldl` is its
  form for a scan that folds a step `g` over a row-major list of cells.  No frame is handed over: the invariant carries
  the two bounds (`hY`, `hX`) and is stable under assignments to `vy`, `vx` (`hvy`, `hvx`).  `Fc.exec_for2_sim`
  (Proofs/ILangFocal.lean) is the same loop with the conclusion of `exec_sweep_foldl` and the frame of the two loops,
  for a body that ends in `run`.
-/
namespace XrsVerif.IL
open XrsVerif
variable {F : Type} [Fl F]

theorem exec_sweep (fuel : Nat) (vy vx : String) (hne : vy ≠ vx) (hiY hiX : IE) (body : St) (n m : Nat)
    (Q : Nat → State F → Prop)
    (hvy : ∀ k (st : State F) (i : Int), Q k st → Q k { st with ienv := setS st.ienv vy i })
    (hvx : ∀ k (st : State F) (i : Int), Q k st → Q k { st with ienv := setS st.ienv vx i })
    (hY : ∀ k (st : State F), Q k st → hiY.ok st = true ∧ hiY.eval st = (n : Int))
    (hX : ∀ k (st : State F), Q k st → hiX.ok st = true ∧ hiX.eval st = (m : Int))
    (hbody : ∀ (p q : Nat) (st : State F), p < n → q < m → st.ctl = .run → st.ienv vy = (p : Int) →
      st.ienv vx = (q : Int) → Q (p * m + q) st →
      (afterBody (exec fuel body st)).ctl = .run ∧ (afterBody (exec fuel body st)).ienv vy = (p : Int) ∧
      Q (p * m + q + 1) (afterBody (exec fuel body st)))
    (s : State F) (hs : s.ctl = .run) (h0 : Q 0 s) :
    (exec fuel (.forRange vy (.lit 0) hiY (.lit 1) (.forRange vx (.lit 0) hiX (.lit 1) body)) s).ctl = .run ∧
    Q (n * m) (exec fuel (.forRange vy (.lit 0) hiY (.lit 1) (.forRange vx (.lit 0) hiX (.lit 1) body)) s) :=
  forRange_up vy hiY _ s fuel n hs (hY 0 s h0).1 (hY 0 s h0).2 (fun p st => Q (p * m) st)
    (by rw [Nat.zero_mul]; exact h0)
    (fun p hp st hst hQ => by
      have hQ' := hvy _ st (p : Int) hQ
      have hrow := forRange_up vx hiX body { st with ienv := setS st.ienv vy (p : Int) } fuel m hst
        (hX _ _ hQ').1 (hX _ _ hQ').2 (fun q st' => st'.ienv vy = (p : Int) ∧ Q (p * m + q) st')
        ⟨setS_same _ _ _, hQ'⟩
        (fun q hq st' hst' hq' => by
          exact hbody p q { st' with ienv := setS st'.ienv vx (q : Int) } hp hq hst'
            ((setS_other _ _ _ _ hne).trans hq'.1) (setS_same _ _ _) (hvx _ st' _ hq'.2))
      rw [afterBody_run _ hrow.1, Nat.add_mul, Nat.one_mul]
      exact ⟨hrow.1, hrow.2.2⟩)

theorem exec_sweep_foldl {β γ} (fuel : Nat) (vy vx : String) (hne : vy ≠ vx) (hiY hiX : IE) (body : St) (n m : Nat)
    (cell : Nat → Nat → γ) (g : β → γ → β) (Inv : Nat → State F → β → Prop)
    (hvy : ∀ k (st : State F) a (i : Int), Inv k st a → Inv k { st with ienv := setS st.ienv vy i } a)
    (hvx : ∀ k (st : State F) a (i : Int), Inv k st a → Inv k { st with ienv := setS st.ienv vx i } a)
    (hY : ∀ k (st : State F) a, Inv k st a → hiY.ok st = true ∧ hiY.eval st = (n : Int))
    (hX : ∀ k (st : State F) a, Inv k st a → hiX.ok st = true ∧ hiX.eval st = (m : Int))
    (hbody : ∀ (p q : Nat) (st : State F) a, p < n → q < m → st.ctl = .run → st.ienv vy = (p : Int) →
      st.ienv vx = (q : Int) → Inv (p * m + q) st a →
      (afterBody (exec fuel body st)).ctl = .run ∧ (afterBody (exec fuel body st)).ienv vy = (p : Int) ∧
      Inv (p * m + q + 1) (afterBody (exec fuel body st)) (g a (cell p q)))
    (s : State F) (hs : s.ctl = .run) (a : β) (h0 : Inv 0 s a) :
    (exec fuel (.forRange vy (.lit 0) hiY (.lit 1) (.forRange vx (.lit 0) hiX (.lit 1) body)) s).ctl = .run ∧
    Inv (n * m) (exec fuel (.forRange vy (.lit 0) hiY (.lit 1) (.forRange vx (.lit 0) hiX (.lit 1) body)) s)
      (((List.range n).flatMap fun p => (List.range m).map (cell p)).foldl g a) := by
  have hlen := length_flatMap_range cell n m
  have h := exec_sweep fuel vy vx hne hiY hiX body n m
    (fun k st => Inv k st ((((List.range n).flatMap fun p => (List.range m).map (cell p)).take k).foldl g a))
    (fun k st i => hvy k st _ i) (fun k st i => hvx k st _ i) (fun k st => hY k st _) (fun k st => hX k st _)
    (fun p q st hp hq hst hy hx hI => by
      have hb := hbody p q st _ hp hq hst hy hx hI
      refine ⟨hb.1, hb.2.1, ?_⟩
      have hk := getElem?_flatMap_range cell n m p q hp hq
      have hlt : p * m + q < ((List.range n).flatMap fun p => (List.range m).map (cell p)).length := by
        rw [hlen]; exact rowMajor_lt hp hq
      rw [List.getElem?_eq_getElem hlt, Option.some.injEq] at hk
      rw [List.take_succ_eq_append_getElem hlt, List.foldl_append, hk]
      exact hb.2.2)
    s hs (by simpa using h0)
  rw [List.take_of_length_le (Nat.le_of_eq hlen)] at h
  exact h

end XrsVerif.IL
