import XrsVerif.Proofs.ILVsSweepDefs
import XrsVerif.Proofs.ILangRename
import XrsVerif.Proofs.ILangFrame
/-
  The four inlined status-tree routines of the generated sweep are renamings of the
  stand-alone programs: `qryLoop` of `Gen.IL.vsQuery.body`, `insFill`, `insLoop` of `Gen.IL.vsInsert.body`, `delLoop` of
  `Gen.IL.vsDelete.body` (scalars by the tables below: the routine's prefix, inline counters shifted; arrays by `arrTbl`).
  Checked by evaluation against the regenerated program.  With `exec_ren` / `exec_renA` and a duplicate-free table
  (`TblOK`: proved here for `arrTbl` and `qryTbl` only) this carries `vsQuery_refines` to the copy of the query
  (`qryContract` in Proofs/ILVsSweepQry.lean); `vsInsert_refines` / `vsDelete_refines` are not carried over, the tables
  `insFillTbl`, `insLoopTbl`, `delTbl` have no `TblOK` proof.

  The kernel evaluates every operation on a name byte by byte, at a cost quadratic in its length, and the inlined names
  are long with long common prefixes.  So the evaluations below look names up by a number computed once per name
  (`swapC`), and test a list of names for duplicates on those numbers (`tblOK_of_codes`).
-/
namespace XrsVerif.ILSw
open XrsVerif XrsVerif.IL XrsVerif.ILVs

def nameCode (s : String) : Nat := s.toByteArray.data.toList.foldl (fun a b => a * 256 + b.toNat) 0

/-- `swapT`, searching the table on the codes of the names; a hit is confirmed on the names themselves, so nothing
    about `nameCode` is needed to see that this is `swapT` -/
def swapC (tbl : List (String × String)) (v : String) : String :=
  match tbl.find? (fun p => nameCode p.1 == nameCode v && p.1 == v) with
  | some p => p.2
  | none =>
    match tbl.find? (fun p => nameCode p.2 == nameCode v && p.2 == v) with
    | some p => p.1
    | none => v

theorem swapC_eq_swapT : swapC = swapT := by
  have code_and (a b : String) : (nameCode a == nameCode b && a == b) = (a == b) := by by_cases h : a = b <;> simp [h]
  funext tbl v
  simp only [swapC, swapT, code_and]
  rfl

theorem tblOK_of_codes (tbl : List (String × String))
    (h : ((tbl.map Prod.fst ++ tbl.map Prod.snd).map nameCode).Nodup) : TblOK tbl := List.Nodup.of_map nameCode h

/-- scalar names of the stand-alone `_max_grad_in_status_struct` and of its copy in the sweep -/
def qryTbl : List (String × String) := [
  ("root", "_max_grad_in_status_struct101$root"),
  ("ret0", "_max_grad_in_status_struct101$ret0"),
  ("_find_max_value_within_key1$root", "_max_grad_in_status_struct101$_find_max_value_within_key102$root"),
  ("_find_max_value_within_key1$max_key", "_max_grad_in_status_struct101$_find_max_value_within_key102$max_key"),
  ("distance", "_max_grad_in_status_struct101$distance"),
  ("_find_max_value_within_key1$ang", "_max_grad_in_status_struct101$_find_max_value_within_key102$ang"),
  ("angle", "_max_grad_in_status_struct101$angle"),
  ("_find_max_value_within_key1$gradient", "_max_grad_in_status_struct101$_find_max_value_within_key102$gradient"),
  ("gradient", "_max_grad_in_status_struct101$gradient"),
  ("_find_max_value_within_key1$_search_for_node2$root", "_max_grad_in_status_struct101$_find_max_value_within_key102$_search_for_node103$root"),
  ("_find_max_value_within_key1$_search_for_node2$key", "_max_grad_in_status_struct101$_find_max_value_within_key102$_search_for_node103$key"),
  ("_find_max_value_within_key1$_search_for_node2$cur_node", "_max_grad_in_status_struct101$_find_max_value_within_key102$_search_for_node103$cur_node"),
  ("_find_max_value_within_key1$_search_for_node2$_compare3$a", "_max_grad_in_status_struct101$_find_max_value_within_key102$_search_for_node103$_compare104$a"),
  ("_find_max_value_within_key1$_search_for_node2$_compare3$b", "_max_grad_in_status_struct101$_find_max_value_within_key102$_search_for_node103$_compare104$b"),
  ("_find_max_value_within_key1$_search_for_node2$_compare3$ret0", "_max_grad_in_status_struct101$_find_max_value_within_key102$_search_for_node103$_compare104$ret0"),
  ("_find_max_value_within_key1$_search_for_node2$_compare4$a", "_max_grad_in_status_struct101$_find_max_value_within_key102$_search_for_node103$_compare105$a"),
  ("_find_max_value_within_key1$_search_for_node2$_compare4$b", "_max_grad_in_status_struct101$_find_max_value_within_key102$_search_for_node103$_compare105$b"),
  ("_find_max_value_within_key1$_search_for_node2$_compare4$ret0", "_max_grad_in_status_struct101$_find_max_value_within_key102$_search_for_node103$_compare105$ret0"),
  ("_find_max_value_within_key1$_search_for_node2$ret0", "_max_grad_in_status_struct101$_find_max_value_within_key102$_search_for_node103$ret0"),
  ("_find_max_value_within_key1$key_node", "_max_grad_in_status_struct101$_find_max_value_within_key102$key_node"),
  ("_find_max_value_within_key1$ret0", "_max_grad_in_status_struct101$_find_max_value_within_key102$ret0"),
  ("_find_max_value_within_key1$cur_node", "_max_grad_in_status_struct101$_find_max_value_within_key102$cur_node"),
  ("_find_max_value_within_key1$max", "_max_grad_in_status_struct101$_find_max_value_within_key102$max"),
  ("_find_max_value_within_key1$cur_parent", "_max_grad_in_status_struct101$_find_max_value_within_key102$cur_parent"),
  ("_find_max_value_within_key1$cur_parent_left", "_max_grad_in_status_struct101$_find_max_value_within_key102$cur_parent_left"),
  ("_find_max_value_within_key1$_find_max_value5$row$tree_vals", "_max_grad_in_status_struct101$_find_max_value_within_key102$_find_max_value106$row$tree_vals"),
  ("_find_max_value_within_key1$_find_max_value5$ret0", "_max_grad_in_status_struct101$_find_max_value_within_key102$_find_max_value106$ret0"),
  ("_find_max_value_within_key1$tmp_max", "_max_grad_in_status_struct101$_find_max_value_within_key102$tmp_max"),
  ("_find_max_value_within_key1$_find_value_min_value6$node_id", "_max_grad_in_status_struct101$_find_max_value_within_key102$_find_value_min_value107$node_id"),
  ("_find_max_value_within_key1$_find_value_min_value6$ret0", "_max_grad_in_status_struct101$_find_max_value_within_key102$_find_value_min_value107$ret0"),
  ("_find_max_value_within_key1$min_value", "_max_grad_in_status_struct101$_find_max_value_within_key102$min_value"),
  ("_find_max_value_within_key1$check_me", "_max_grad_in_status_struct101$_find_max_value_within_key102$check_me"),
  ("_find_max_value_within_key1$cur_grad", "_max_grad_in_status_struct101$_find_max_value_within_key102$cur_grad"),
  ("_find_max_value_within_key1$last_node", "_max_grad_in_status_struct101$_find_max_value_within_key102$last_node")]

/-- the array parameters of the status-tree routines and the sweep's arrays passed for them -/
def arrTbl : List (String × String) :=
  [("tree_vals", "status_values"), ("tree_nodes", "status_struct"), ("value", "status_node")]


def insFillTbl : List (String × String) := [
  ("cur_node", "_insert_into_tree15$cur_node"),
  ("root", "_insert_into_tree15$root"),
  ("_compare1$a", "_insert_into_tree15$_compare16$a"),
  ("_compare1$b", "_insert_into_tree15$_compare16$b"),
  ("_compare1$ret0", "_insert_into_tree15$_compare16$ret0"),
  ("next_node", "_insert_into_tree15$next_node"),
  ("_compare2$a", "_insert_into_tree15$_compare17$a"),
  ("_compare2$b", "_insert_into_tree15$_compare17$b"),
  ("_compare2$ret0", "_insert_into_tree15$_compare17$ret0"),
  ("_create_tree_nodes3$x", "_insert_into_tree15$_create_tree_nodes18$x"),
  ("node_id", "_insert_into_tree15$node_id"),
  ("_create_tree_nodes3$color", "_insert_into_tree15$_create_tree_nodes18$color"),
  ("_compare4$a", "_insert_into_tree15$_compare19$a"),
  ("_compare4$b", "_insert_into_tree15$_compare19$b"),
  ("_compare4$ret0", "_insert_into_tree15$_compare19$ret0"),
  ("inserted", "_insert_into_tree15$inserted"),
  ("_find_value_min_value5$node_id", "_insert_into_tree15$_find_value_min_value20$node_id"),
  ("_find_value_min_value5$ret0", "_insert_into_tree15$_find_value_min_value20$ret0"),
  ("next_parent", "_insert_into_tree15$next_parent"),
  ("_rb_insert_fixup6$root", "_insert_into_tree15$_rb_insert_fixup21$root"),
  ("_rb_insert_fixup6$z", "_insert_into_tree15$_rb_insert_fixup21$z"),
  ("_rb_insert_fixup6$z_parent", "_insert_into_tree15$_rb_insert_fixup21$z_parent"),
  ("_rb_insert_fixup6$z_parent_parent", "_insert_into_tree15$_rb_insert_fixup21$z_parent_parent"),
  ("_rb_insert_fixup6$n1", "_insert_into_tree15$_rb_insert_fixup21$n1"),
  ("_rb_insert_fixup6$n2", "_insert_into_tree15$_rb_insert_fixup21$n2"),
  ("_rb_insert_fixup6$y", "_insert_into_tree15$_rb_insert_fixup21$y"),
  ("_rb_insert_fixup6$_left_rotate7$root", "_insert_into_tree15$_rb_insert_fixup21$_left_rotate22$root"),
  ("_rb_insert_fixup6$_left_rotate7$x", "_insert_into_tree15$_rb_insert_fixup21$_left_rotate22$x"),
  ("_rb_insert_fixup6$_left_rotate7$y", "_insert_into_tree15$_rb_insert_fixup21$_left_rotate22$y"),
  ("_rb_insert_fixup6$_left_rotate7$x_left", "_insert_into_tree15$_rb_insert_fixup21$_left_rotate22$x_left"),
  ("_rb_insert_fixup6$_left_rotate7$y_left", "_insert_into_tree15$_rb_insert_fixup21$_left_rotate22$y_left"),
  ("_rb_insert_fixup6$_left_rotate7$tmp_max", "_insert_into_tree15$_rb_insert_fixup21$_left_rotate22$tmp_max"),
  ("_rb_insert_fixup6$_left_rotate7$_find_value_min_value8$node_id", "_insert_into_tree15$_rb_insert_fixup21$_left_rotate22$_find_value_min_value23$node_id"),
  ("_rb_insert_fixup6$_left_rotate7$_find_value_min_value8$ret0", "_insert_into_tree15$_rb_insert_fixup21$_left_rotate22$_find_value_min_value23$ret0"),
  ("_rb_insert_fixup6$_left_rotate7$min_value", "_insert_into_tree15$_rb_insert_fixup21$_left_rotate22$min_value"),
  ("_rb_insert_fixup6$_left_rotate7$y_right", "_insert_into_tree15$_rb_insert_fixup21$_left_rotate22$y_right"),
  ("_rb_insert_fixup6$_left_rotate7$_find_value_min_value9$node_id", "_insert_into_tree15$_rb_insert_fixup21$_left_rotate22$_find_value_min_value24$node_id"),
  ("_rb_insert_fixup6$_left_rotate7$_find_value_min_value9$ret0", "_insert_into_tree15$_rb_insert_fixup21$_left_rotate22$_find_value_min_value24$ret0"),
  ("_rb_insert_fixup6$_left_rotate7$x_parent", "_insert_into_tree15$_rb_insert_fixup21$_left_rotate22$x_parent"),
  ("_rb_insert_fixup6$_left_rotate7$ret0", "_insert_into_tree15$_rb_insert_fixup21$_left_rotate22$ret0"),
  ("_rb_insert_fixup6$_right_rotate10$root", "_insert_into_tree15$_rb_insert_fixup21$_right_rotate25$root"),
  ("_rb_insert_fixup6$_right_rotate10$y", "_insert_into_tree15$_rb_insert_fixup21$_right_rotate25$y"),
  ("_rb_insert_fixup6$_right_rotate10$x", "_insert_into_tree15$_rb_insert_fixup21$_right_rotate25$x"),
  ("_rb_insert_fixup6$_right_rotate10$x_right", "_insert_into_tree15$_rb_insert_fixup21$_right_rotate25$x_right"),
  ("_rb_insert_fixup6$_right_rotate10$y_right", "_insert_into_tree15$_rb_insert_fixup21$_right_rotate25$y_right"),
  ("_rb_insert_fixup6$_right_rotate10$tmp_max", "_insert_into_tree15$_rb_insert_fixup21$_right_rotate25$tmp_max"),
  ("_rb_insert_fixup6$_right_rotate10$_find_value_min_value11$node_id", "_insert_into_tree15$_rb_insert_fixup21$_right_rotate25$_find_value_min_value26$node_id"),
  ("_rb_insert_fixup6$_right_rotate10$_find_value_min_value11$ret0", "_insert_into_tree15$_rb_insert_fixup21$_right_rotate25$_find_value_min_value26$ret0"),
  ("_rb_insert_fixup6$_right_rotate10$min_value", "_insert_into_tree15$_rb_insert_fixup21$_right_rotate25$min_value"),
  ("_rb_insert_fixup6$_right_rotate10$x_left", "_insert_into_tree15$_rb_insert_fixup21$_right_rotate25$x_left"),
  ("_rb_insert_fixup6$_right_rotate10$_find_value_min_value12$node_id", "_insert_into_tree15$_rb_insert_fixup21$_right_rotate25$_find_value_min_value27$node_id"),
  ("_rb_insert_fixup6$_right_rotate10$_find_value_min_value12$ret0", "_insert_into_tree15$_rb_insert_fixup21$_right_rotate25$_find_value_min_value27$ret0"),
  ("_rb_insert_fixup6$_right_rotate10$y_parent", "_insert_into_tree15$_rb_insert_fixup21$_right_rotate25$y_parent"),
  ("_rb_insert_fixup6$_right_rotate10$ret0", "_insert_into_tree15$_rb_insert_fixup21$_right_rotate25$ret0"),
  ("_rb_insert_fixup6$_right_rotate13$root", "_insert_into_tree15$_rb_insert_fixup21$_right_rotate28$root"),
  ("_rb_insert_fixup6$_right_rotate13$y", "_insert_into_tree15$_rb_insert_fixup21$_right_rotate28$y"),
  ("_rb_insert_fixup6$_right_rotate13$x", "_insert_into_tree15$_rb_insert_fixup21$_right_rotate28$x"),
  ("_rb_insert_fixup6$_right_rotate13$x_right", "_insert_into_tree15$_rb_insert_fixup21$_right_rotate28$x_right"),
  ("_rb_insert_fixup6$_right_rotate13$y_right", "_insert_into_tree15$_rb_insert_fixup21$_right_rotate28$y_right"),
  ("_rb_insert_fixup6$_right_rotate13$tmp_max", "_insert_into_tree15$_rb_insert_fixup21$_right_rotate28$tmp_max"),
  ("_rb_insert_fixup6$_right_rotate13$_find_value_min_value14$node_id", "_insert_into_tree15$_rb_insert_fixup21$_right_rotate28$_find_value_min_value29$node_id"),
  ("_rb_insert_fixup6$_right_rotate13$_find_value_min_value14$ret0", "_insert_into_tree15$_rb_insert_fixup21$_right_rotate28$_find_value_min_value29$ret0"),
  ("_rb_insert_fixup6$_right_rotate13$min_value", "_insert_into_tree15$_rb_insert_fixup21$_right_rotate28$min_value"),
  ("_rb_insert_fixup6$_right_rotate13$x_left", "_insert_into_tree15$_rb_insert_fixup21$_right_rotate28$x_left"),
  ("_rb_insert_fixup6$_right_rotate13$_find_value_min_value15$node_id", "_insert_into_tree15$_rb_insert_fixup21$_right_rotate28$_find_value_min_value30$node_id"),
  ("_rb_insert_fixup6$_right_rotate13$_find_value_min_value15$ret0", "_insert_into_tree15$_rb_insert_fixup21$_right_rotate28$_find_value_min_value30$ret0"),
  ("_rb_insert_fixup6$_right_rotate13$y_parent", "_insert_into_tree15$_rb_insert_fixup21$_right_rotate28$y_parent"),
  ("_rb_insert_fixup6$_right_rotate13$ret0", "_insert_into_tree15$_rb_insert_fixup21$_right_rotate28$ret0"),
  ("_rb_insert_fixup6$_left_rotate16$root", "_insert_into_tree15$_rb_insert_fixup21$_left_rotate31$root"),
  ("_rb_insert_fixup6$_left_rotate16$x", "_insert_into_tree15$_rb_insert_fixup21$_left_rotate31$x"),
  ("_rb_insert_fixup6$_left_rotate16$y", "_insert_into_tree15$_rb_insert_fixup21$_left_rotate31$y"),
  ("_rb_insert_fixup6$_left_rotate16$x_left", "_insert_into_tree15$_rb_insert_fixup21$_left_rotate31$x_left"),
  ("_rb_insert_fixup6$_left_rotate16$y_left", "_insert_into_tree15$_rb_insert_fixup21$_left_rotate31$y_left"),
  ("_rb_insert_fixup6$_left_rotate16$tmp_max", "_insert_into_tree15$_rb_insert_fixup21$_left_rotate31$tmp_max"),
  ("_rb_insert_fixup6$_left_rotate16$_find_value_min_value17$node_id", "_insert_into_tree15$_rb_insert_fixup21$_left_rotate31$_find_value_min_value32$node_id"),
  ("_rb_insert_fixup6$_left_rotate16$_find_value_min_value17$ret0", "_insert_into_tree15$_rb_insert_fixup21$_left_rotate31$_find_value_min_value32$ret0"),
  ("_rb_insert_fixup6$_left_rotate16$min_value", "_insert_into_tree15$_rb_insert_fixup21$_left_rotate31$min_value"),
  ("_rb_insert_fixup6$_left_rotate16$y_right", "_insert_into_tree15$_rb_insert_fixup21$_left_rotate31$y_right"),
  ("_rb_insert_fixup6$_left_rotate16$_find_value_min_value18$node_id", "_insert_into_tree15$_rb_insert_fixup21$_left_rotate31$_find_value_min_value33$node_id"),
  ("_rb_insert_fixup6$_left_rotate16$_find_value_min_value18$ret0", "_insert_into_tree15$_rb_insert_fixup21$_left_rotate31$_find_value_min_value33$ret0"),
  ("_rb_insert_fixup6$_left_rotate16$x_parent", "_insert_into_tree15$_rb_insert_fixup21$_left_rotate31$x_parent"),
  ("_rb_insert_fixup6$_left_rotate16$ret0", "_insert_into_tree15$_rb_insert_fixup21$_left_rotate31$ret0"),
  ("_rb_insert_fixup6$ret0", "_insert_into_tree15$_rb_insert_fixup21$ret0"),
  ("ret0", "_insert_into_tree15$ret0")]

def insLoopTbl : List (String × String) := [
  ("cur_node", "_insert_into_tree45$cur_node"),
  ("root", "_insert_into_tree45$root"),
  ("_compare1$a", "_insert_into_tree45$_compare46$a"),
  ("_compare1$b", "_insert_into_tree45$_compare46$b"),
  ("_compare1$ret0", "_insert_into_tree45$_compare46$ret0"),
  ("next_node", "_insert_into_tree45$next_node"),
  ("_compare2$a", "_insert_into_tree45$_compare47$a"),
  ("_compare2$b", "_insert_into_tree45$_compare47$b"),
  ("_compare2$ret0", "_insert_into_tree45$_compare47$ret0"),
  ("_create_tree_nodes3$x", "_insert_into_tree45$_create_tree_nodes48$x"),
  ("node_id", "_insert_into_tree45$node_id"),
  ("_create_tree_nodes3$color", "_insert_into_tree45$_create_tree_nodes48$color"),
  ("_compare4$a", "_insert_into_tree45$_compare49$a"),
  ("_compare4$b", "_insert_into_tree45$_compare49$b"),
  ("_compare4$ret0", "_insert_into_tree45$_compare49$ret0"),
  ("inserted", "_insert_into_tree45$inserted"),
  ("_find_value_min_value5$node_id", "_insert_into_tree45$_find_value_min_value50$node_id"),
  ("_find_value_min_value5$ret0", "_insert_into_tree45$_find_value_min_value50$ret0"),
  ("next_parent", "_insert_into_tree45$next_parent"),
  ("_rb_insert_fixup6$root", "_insert_into_tree45$_rb_insert_fixup51$root"),
  ("_rb_insert_fixup6$z", "_insert_into_tree45$_rb_insert_fixup51$z"),
  ("_rb_insert_fixup6$z_parent", "_insert_into_tree45$_rb_insert_fixup51$z_parent"),
  ("_rb_insert_fixup6$z_parent_parent", "_insert_into_tree45$_rb_insert_fixup51$z_parent_parent"),
  ("_rb_insert_fixup6$n1", "_insert_into_tree45$_rb_insert_fixup51$n1"),
  ("_rb_insert_fixup6$n2", "_insert_into_tree45$_rb_insert_fixup51$n2"),
  ("_rb_insert_fixup6$y", "_insert_into_tree45$_rb_insert_fixup51$y"),
  ("_rb_insert_fixup6$_left_rotate7$root", "_insert_into_tree45$_rb_insert_fixup51$_left_rotate52$root"),
  ("_rb_insert_fixup6$_left_rotate7$x", "_insert_into_tree45$_rb_insert_fixup51$_left_rotate52$x"),
  ("_rb_insert_fixup6$_left_rotate7$y", "_insert_into_tree45$_rb_insert_fixup51$_left_rotate52$y"),
  ("_rb_insert_fixup6$_left_rotate7$x_left", "_insert_into_tree45$_rb_insert_fixup51$_left_rotate52$x_left"),
  ("_rb_insert_fixup6$_left_rotate7$y_left", "_insert_into_tree45$_rb_insert_fixup51$_left_rotate52$y_left"),
  ("_rb_insert_fixup6$_left_rotate7$tmp_max", "_insert_into_tree45$_rb_insert_fixup51$_left_rotate52$tmp_max"),
  ("_rb_insert_fixup6$_left_rotate7$_find_value_min_value8$node_id", "_insert_into_tree45$_rb_insert_fixup51$_left_rotate52$_find_value_min_value53$node_id"),
  ("_rb_insert_fixup6$_left_rotate7$_find_value_min_value8$ret0", "_insert_into_tree45$_rb_insert_fixup51$_left_rotate52$_find_value_min_value53$ret0"),
  ("_rb_insert_fixup6$_left_rotate7$min_value", "_insert_into_tree45$_rb_insert_fixup51$_left_rotate52$min_value"),
  ("_rb_insert_fixup6$_left_rotate7$y_right", "_insert_into_tree45$_rb_insert_fixup51$_left_rotate52$y_right"),
  ("_rb_insert_fixup6$_left_rotate7$_find_value_min_value9$node_id", "_insert_into_tree45$_rb_insert_fixup51$_left_rotate52$_find_value_min_value54$node_id"),
  ("_rb_insert_fixup6$_left_rotate7$_find_value_min_value9$ret0", "_insert_into_tree45$_rb_insert_fixup51$_left_rotate52$_find_value_min_value54$ret0"),
  ("_rb_insert_fixup6$_left_rotate7$x_parent", "_insert_into_tree45$_rb_insert_fixup51$_left_rotate52$x_parent"),
  ("_rb_insert_fixup6$_left_rotate7$ret0", "_insert_into_tree45$_rb_insert_fixup51$_left_rotate52$ret0"),
  ("_rb_insert_fixup6$_right_rotate10$root", "_insert_into_tree45$_rb_insert_fixup51$_right_rotate55$root"),
  ("_rb_insert_fixup6$_right_rotate10$y", "_insert_into_tree45$_rb_insert_fixup51$_right_rotate55$y"),
  ("_rb_insert_fixup6$_right_rotate10$x", "_insert_into_tree45$_rb_insert_fixup51$_right_rotate55$x"),
  ("_rb_insert_fixup6$_right_rotate10$x_right", "_insert_into_tree45$_rb_insert_fixup51$_right_rotate55$x_right"),
  ("_rb_insert_fixup6$_right_rotate10$y_right", "_insert_into_tree45$_rb_insert_fixup51$_right_rotate55$y_right"),
  ("_rb_insert_fixup6$_right_rotate10$tmp_max", "_insert_into_tree45$_rb_insert_fixup51$_right_rotate55$tmp_max"),
  ("_rb_insert_fixup6$_right_rotate10$_find_value_min_value11$node_id", "_insert_into_tree45$_rb_insert_fixup51$_right_rotate55$_find_value_min_value56$node_id"),
  ("_rb_insert_fixup6$_right_rotate10$_find_value_min_value11$ret0", "_insert_into_tree45$_rb_insert_fixup51$_right_rotate55$_find_value_min_value56$ret0"),
  ("_rb_insert_fixup6$_right_rotate10$min_value", "_insert_into_tree45$_rb_insert_fixup51$_right_rotate55$min_value"),
  ("_rb_insert_fixup6$_right_rotate10$x_left", "_insert_into_tree45$_rb_insert_fixup51$_right_rotate55$x_left"),
  ("_rb_insert_fixup6$_right_rotate10$_find_value_min_value12$node_id", "_insert_into_tree45$_rb_insert_fixup51$_right_rotate55$_find_value_min_value57$node_id"),
  ("_rb_insert_fixup6$_right_rotate10$_find_value_min_value12$ret0", "_insert_into_tree45$_rb_insert_fixup51$_right_rotate55$_find_value_min_value57$ret0"),
  ("_rb_insert_fixup6$_right_rotate10$y_parent", "_insert_into_tree45$_rb_insert_fixup51$_right_rotate55$y_parent"),
  ("_rb_insert_fixup6$_right_rotate10$ret0", "_insert_into_tree45$_rb_insert_fixup51$_right_rotate55$ret0"),
  ("_rb_insert_fixup6$_right_rotate13$root", "_insert_into_tree45$_rb_insert_fixup51$_right_rotate58$root"),
  ("_rb_insert_fixup6$_right_rotate13$y", "_insert_into_tree45$_rb_insert_fixup51$_right_rotate58$y"),
  ("_rb_insert_fixup6$_right_rotate13$x", "_insert_into_tree45$_rb_insert_fixup51$_right_rotate58$x"),
  ("_rb_insert_fixup6$_right_rotate13$x_right", "_insert_into_tree45$_rb_insert_fixup51$_right_rotate58$x_right"),
  ("_rb_insert_fixup6$_right_rotate13$y_right", "_insert_into_tree45$_rb_insert_fixup51$_right_rotate58$y_right"),
  ("_rb_insert_fixup6$_right_rotate13$tmp_max", "_insert_into_tree45$_rb_insert_fixup51$_right_rotate58$tmp_max"),
  ("_rb_insert_fixup6$_right_rotate13$_find_value_min_value14$node_id", "_insert_into_tree45$_rb_insert_fixup51$_right_rotate58$_find_value_min_value59$node_id"),
  ("_rb_insert_fixup6$_right_rotate13$_find_value_min_value14$ret0", "_insert_into_tree45$_rb_insert_fixup51$_right_rotate58$_find_value_min_value59$ret0"),
  ("_rb_insert_fixup6$_right_rotate13$min_value", "_insert_into_tree45$_rb_insert_fixup51$_right_rotate58$min_value"),
  ("_rb_insert_fixup6$_right_rotate13$x_left", "_insert_into_tree45$_rb_insert_fixup51$_right_rotate58$x_left"),
  ("_rb_insert_fixup6$_right_rotate13$_find_value_min_value15$node_id", "_insert_into_tree45$_rb_insert_fixup51$_right_rotate58$_find_value_min_value60$node_id"),
  ("_rb_insert_fixup6$_right_rotate13$_find_value_min_value15$ret0", "_insert_into_tree45$_rb_insert_fixup51$_right_rotate58$_find_value_min_value60$ret0"),
  ("_rb_insert_fixup6$_right_rotate13$y_parent", "_insert_into_tree45$_rb_insert_fixup51$_right_rotate58$y_parent"),
  ("_rb_insert_fixup6$_right_rotate13$ret0", "_insert_into_tree45$_rb_insert_fixup51$_right_rotate58$ret0"),
  ("_rb_insert_fixup6$_left_rotate16$root", "_insert_into_tree45$_rb_insert_fixup51$_left_rotate61$root"),
  ("_rb_insert_fixup6$_left_rotate16$x", "_insert_into_tree45$_rb_insert_fixup51$_left_rotate61$x"),
  ("_rb_insert_fixup6$_left_rotate16$y", "_insert_into_tree45$_rb_insert_fixup51$_left_rotate61$y"),
  ("_rb_insert_fixup6$_left_rotate16$x_left", "_insert_into_tree45$_rb_insert_fixup51$_left_rotate61$x_left"),
  ("_rb_insert_fixup6$_left_rotate16$y_left", "_insert_into_tree45$_rb_insert_fixup51$_left_rotate61$y_left"),
  ("_rb_insert_fixup6$_left_rotate16$tmp_max", "_insert_into_tree45$_rb_insert_fixup51$_left_rotate61$tmp_max"),
  ("_rb_insert_fixup6$_left_rotate16$_find_value_min_value17$node_id", "_insert_into_tree45$_rb_insert_fixup51$_left_rotate61$_find_value_min_value62$node_id"),
  ("_rb_insert_fixup6$_left_rotate16$_find_value_min_value17$ret0", "_insert_into_tree45$_rb_insert_fixup51$_left_rotate61$_find_value_min_value62$ret0"),
  ("_rb_insert_fixup6$_left_rotate16$min_value", "_insert_into_tree45$_rb_insert_fixup51$_left_rotate61$min_value"),
  ("_rb_insert_fixup6$_left_rotate16$y_right", "_insert_into_tree45$_rb_insert_fixup51$_left_rotate61$y_right"),
  ("_rb_insert_fixup6$_left_rotate16$_find_value_min_value18$node_id", "_insert_into_tree45$_rb_insert_fixup51$_left_rotate61$_find_value_min_value63$node_id"),
  ("_rb_insert_fixup6$_left_rotate16$_find_value_min_value18$ret0", "_insert_into_tree45$_rb_insert_fixup51$_left_rotate61$_find_value_min_value63$ret0"),
  ("_rb_insert_fixup6$_left_rotate16$x_parent", "_insert_into_tree45$_rb_insert_fixup51$_left_rotate61$x_parent"),
  ("_rb_insert_fixup6$_left_rotate16$ret0", "_insert_into_tree45$_rb_insert_fixup51$_left_rotate61$ret0"),
  ("_rb_insert_fixup6$ret0", "_insert_into_tree45$_rb_insert_fixup51$ret0"),
  ("ret0", "_insert_into_tree45$ret0")]

def delTbl : List (String × String) := [
  ("_search_for_node1$root", "_delete_from_tree64$_search_for_node65$root"),
  ("root", "_delete_from_tree64$root"),
  ("_search_for_node1$key", "_delete_from_tree64$_search_for_node65$key"),
  ("key", "_delete_from_tree64$key"),
  ("_search_for_node1$cur_node", "_delete_from_tree64$_search_for_node65$cur_node"),
  ("_search_for_node1$_compare2$a", "_delete_from_tree64$_search_for_node65$_compare66$a"),
  ("_search_for_node1$_compare2$b", "_delete_from_tree64$_search_for_node65$_compare66$b"),
  ("_search_for_node1$_compare2$ret0", "_delete_from_tree64$_search_for_node65$_compare66$ret0"),
  ("_search_for_node1$_compare3$a", "_delete_from_tree64$_search_for_node65$_compare67$a"),
  ("_search_for_node1$_compare3$b", "_delete_from_tree64$_search_for_node65$_compare67$b"),
  ("_search_for_node1$_compare3$ret0", "_delete_from_tree64$_search_for_node65$_compare67$ret0"),
  ("_search_for_node1$ret0", "_delete_from_tree64$_search_for_node65$ret0"),
  ("z", "_delete_from_tree64$z"),
  ("y", "_delete_from_tree64$y"),
  ("_tree_successor4$x", "_delete_from_tree64$_tree_successor68$x"),
  ("_tree_successor4$_tree_minimum5$x", "_delete_from_tree64$_tree_successor68$_tree_minimum69$x"),
  ("_tree_successor4$_tree_minimum5$ret0", "_delete_from_tree64$_tree_successor68$_tree_minimum69$ret0"),
  ("_tree_successor4$ret0", "_delete_from_tree64$_tree_successor68$ret0"),
  ("_tree_successor4$y", "_delete_from_tree64$_tree_successor68$y"),
  ("deleted", "_delete_from_tree64$deleted"),
  ("x", "_delete_from_tree64$x"),
  ("to_fix", "_delete_from_tree64$to_fix"),
  ("y_parent", "_delete_from_tree64$y_parent"),
  ("cur_node", "_delete_from_tree64$cur_node"),
  ("cur_parent", "_delete_from_tree64$cur_parent"),
  ("_find_value_min_value6$node_id", "_delete_from_tree64$_find_value_min_value70$node_id"),
  ("_find_value_min_value6$ret0", "_delete_from_tree64$_find_value_min_value70$ret0"),
  ("cur_parent_left", "_delete_from_tree64$cur_parent_left"),
  ("cur_parent_right", "_delete_from_tree64$cur_parent_right"),
  ("_find_max_value7$row$tree_vals", "_delete_from_tree64$_find_max_value71$row$tree_vals"),
  ("_find_max_value7$ret0", "_delete_from_tree64$_find_max_value71$ret0"),
  ("left", "_delete_from_tree64$left"),
  ("_find_max_value8$row$tree_vals", "_delete_from_tree64$_find_max_value72$row$tree_vals"),
  ("_find_max_value8$ret0", "_delete_from_tree64$_find_max_value72$ret0"),
  ("right", "_delete_from_tree64$right"),
  ("_find_value_min_value9$node_id", "_delete_from_tree64$_find_value_min_value73$node_id"),
  ("_find_value_min_value9$ret0", "_delete_from_tree64$_find_value_min_value73$ret0"),
  ("min_value", "_delete_from_tree64$min_value"),
  ("to_fix_left", "_delete_from_tree64$to_fix_left"),
  ("to_fix_right", "_delete_from_tree64$to_fix_right"),
  ("tmp_max", "_delete_from_tree64$tmp_max"),
  ("_find_value_min_value10$node_id", "_delete_from_tree64$_find_value_min_value74$node_id"),
  ("_find_value_min_value10$ret0", "_delete_from_tree64$_find_value_min_value74$ret0"),
  ("_find_value_min_value11$node_id", "_delete_from_tree64$_find_value_min_value75$node_id"),
  ("_find_value_min_value11$ret0", "_delete_from_tree64$_find_value_min_value75$ret0"),
  ("z_gradient", "_delete_from_tree64$z_gradient"),
  ("_find_value_min_value12$node_id", "_delete_from_tree64$_find_value_min_value76$node_id"),
  ("_find_value_min_value12$ret0", "_delete_from_tree64$_find_value_min_value76$ret0"),
  ("z_parent", "_delete_from_tree64$z_parent"),
  ("z_parent_left", "_delete_from_tree64$z_parent_left"),
  ("z_parent_right", "_delete_from_tree64$z_parent_right"),
  ("x_parent", "_delete_from_tree64$x_parent"),
  ("x_parent_right", "_delete_from_tree64$x_parent_right"),
  ("_find_value_min_value13$node_id", "_delete_from_tree64$_find_value_min_value77$node_id"),
  ("_find_value_min_value13$ret0", "_delete_from_tree64$_find_value_min_value77$ret0"),
  ("_find_max_value14$row$tree_vals", "_delete_from_tree64$_find_max_value78$row$tree_vals"),
  ("_find_max_value14$ret0", "_delete_from_tree64$_find_max_value78$ret0"),
  ("_find_max_value15$row$tree_vals", "_delete_from_tree64$_find_max_value79$row$tree_vals"),
  ("_find_max_value15$ret0", "_delete_from_tree64$_find_max_value79$ret0"),
  ("_find_value_min_value16$node_id", "_delete_from_tree64$_find_value_min_value80$node_id"),
  ("_find_value_min_value16$ret0", "_delete_from_tree64$_find_value_min_value80$ret0"),
  ("_rb_delete_fixup17$root", "_delete_from_tree64$_rb_delete_fixup81$root"),
  ("_rb_delete_fixup17$x", "_delete_from_tree64$_rb_delete_fixup81$x"),
  ("_rb_delete_fixup17$x_parent", "_delete_from_tree64$_rb_delete_fixup81$x_parent"),
  ("_rb_delete_fixup17$w", "_delete_from_tree64$_rb_delete_fixup81$w"),
  ("_rb_delete_fixup17$_left_rotate18$root", "_delete_from_tree64$_rb_delete_fixup81$_left_rotate82$root"),
  ("_rb_delete_fixup17$_left_rotate18$x", "_delete_from_tree64$_rb_delete_fixup81$_left_rotate82$x"),
  ("_rb_delete_fixup17$_left_rotate18$y", "_delete_from_tree64$_rb_delete_fixup81$_left_rotate82$y"),
  ("_rb_delete_fixup17$_left_rotate18$x_left", "_delete_from_tree64$_rb_delete_fixup81$_left_rotate82$x_left"),
  ("_rb_delete_fixup17$_left_rotate18$y_left", "_delete_from_tree64$_rb_delete_fixup81$_left_rotate82$y_left"),
  ("_rb_delete_fixup17$_left_rotate18$tmp_max", "_delete_from_tree64$_rb_delete_fixup81$_left_rotate82$tmp_max"),
  ("_rb_delete_fixup17$_left_rotate18$_find_value_min_value19$node_id", "_delete_from_tree64$_rb_delete_fixup81$_left_rotate82$_find_value_min_value83$node_id"),
  ("_rb_delete_fixup17$_left_rotate18$_find_value_min_value19$ret0", "_delete_from_tree64$_rb_delete_fixup81$_left_rotate82$_find_value_min_value83$ret0"),
  ("_rb_delete_fixup17$_left_rotate18$min_value", "_delete_from_tree64$_rb_delete_fixup81$_left_rotate82$min_value"),
  ("_rb_delete_fixup17$_left_rotate18$y_right", "_delete_from_tree64$_rb_delete_fixup81$_left_rotate82$y_right"),
  ("_rb_delete_fixup17$_left_rotate18$_find_value_min_value20$node_id", "_delete_from_tree64$_rb_delete_fixup81$_left_rotate82$_find_value_min_value84$node_id"),
  ("_rb_delete_fixup17$_left_rotate18$_find_value_min_value20$ret0", "_delete_from_tree64$_rb_delete_fixup81$_left_rotate82$_find_value_min_value84$ret0"),
  ("_rb_delete_fixup17$_left_rotate18$x_parent", "_delete_from_tree64$_rb_delete_fixup81$_left_rotate82$x_parent"),
  ("_rb_delete_fixup17$_left_rotate18$ret0", "_delete_from_tree64$_rb_delete_fixup81$_left_rotate82$ret0"),
  ("_rb_delete_fixup17$w_left", "_delete_from_tree64$_rb_delete_fixup81$w_left"),
  ("_rb_delete_fixup17$w_right", "_delete_from_tree64$_rb_delete_fixup81$w_right"),
  ("_rb_delete_fixup17$_right_rotate21$root", "_delete_from_tree64$_rb_delete_fixup81$_right_rotate85$root"),
  ("_rb_delete_fixup17$_right_rotate21$y", "_delete_from_tree64$_rb_delete_fixup81$_right_rotate85$y"),
  ("_rb_delete_fixup17$_right_rotate21$x", "_delete_from_tree64$_rb_delete_fixup81$_right_rotate85$x"),
  ("_rb_delete_fixup17$_right_rotate21$x_right", "_delete_from_tree64$_rb_delete_fixup81$_right_rotate85$x_right"),
  ("_rb_delete_fixup17$_right_rotate21$y_right", "_delete_from_tree64$_rb_delete_fixup81$_right_rotate85$y_right"),
  ("_rb_delete_fixup17$_right_rotate21$tmp_max", "_delete_from_tree64$_rb_delete_fixup81$_right_rotate85$tmp_max"),
  ("_rb_delete_fixup17$_right_rotate21$_find_value_min_value22$node_id", "_delete_from_tree64$_rb_delete_fixup81$_right_rotate85$_find_value_min_value86$node_id"),
  ("_rb_delete_fixup17$_right_rotate21$_find_value_min_value22$ret0", "_delete_from_tree64$_rb_delete_fixup81$_right_rotate85$_find_value_min_value86$ret0"),
  ("_rb_delete_fixup17$_right_rotate21$min_value", "_delete_from_tree64$_rb_delete_fixup81$_right_rotate85$min_value"),
  ("_rb_delete_fixup17$_right_rotate21$x_left", "_delete_from_tree64$_rb_delete_fixup81$_right_rotate85$x_left"),
  ("_rb_delete_fixup17$_right_rotate21$_find_value_min_value23$node_id", "_delete_from_tree64$_rb_delete_fixup81$_right_rotate85$_find_value_min_value87$node_id"),
  ("_rb_delete_fixup17$_right_rotate21$_find_value_min_value23$ret0", "_delete_from_tree64$_rb_delete_fixup81$_right_rotate85$_find_value_min_value87$ret0"),
  ("_rb_delete_fixup17$_right_rotate21$y_parent", "_delete_from_tree64$_rb_delete_fixup81$_right_rotate85$y_parent"),
  ("_rb_delete_fixup17$_right_rotate21$ret0", "_delete_from_tree64$_rb_delete_fixup81$_right_rotate85$ret0"),
  ("_rb_delete_fixup17$_left_rotate24$root", "_delete_from_tree64$_rb_delete_fixup81$_left_rotate88$root"),
  ("_rb_delete_fixup17$_left_rotate24$x", "_delete_from_tree64$_rb_delete_fixup81$_left_rotate88$x"),
  ("_rb_delete_fixup17$_left_rotate24$y", "_delete_from_tree64$_rb_delete_fixup81$_left_rotate88$y"),
  ("_rb_delete_fixup17$_left_rotate24$x_left", "_delete_from_tree64$_rb_delete_fixup81$_left_rotate88$x_left"),
  ("_rb_delete_fixup17$_left_rotate24$y_left", "_delete_from_tree64$_rb_delete_fixup81$_left_rotate88$y_left"),
  ("_rb_delete_fixup17$_left_rotate24$tmp_max", "_delete_from_tree64$_rb_delete_fixup81$_left_rotate88$tmp_max"),
  ("_rb_delete_fixup17$_left_rotate24$_find_value_min_value25$node_id", "_delete_from_tree64$_rb_delete_fixup81$_left_rotate88$_find_value_min_value89$node_id"),
  ("_rb_delete_fixup17$_left_rotate24$_find_value_min_value25$ret0", "_delete_from_tree64$_rb_delete_fixup81$_left_rotate88$_find_value_min_value89$ret0"),
  ("_rb_delete_fixup17$_left_rotate24$min_value", "_delete_from_tree64$_rb_delete_fixup81$_left_rotate88$min_value"),
  ("_rb_delete_fixup17$_left_rotate24$y_right", "_delete_from_tree64$_rb_delete_fixup81$_left_rotate88$y_right"),
  ("_rb_delete_fixup17$_left_rotate24$_find_value_min_value26$node_id", "_delete_from_tree64$_rb_delete_fixup81$_left_rotate88$_find_value_min_value90$node_id"),
  ("_rb_delete_fixup17$_left_rotate24$_find_value_min_value26$ret0", "_delete_from_tree64$_rb_delete_fixup81$_left_rotate88$_find_value_min_value90$ret0"),
  ("_rb_delete_fixup17$_left_rotate24$x_parent", "_delete_from_tree64$_rb_delete_fixup81$_left_rotate88$x_parent"),
  ("_rb_delete_fixup17$_left_rotate24$ret0", "_delete_from_tree64$_rb_delete_fixup81$_left_rotate88$ret0"),
  ("_rb_delete_fixup17$_right_rotate27$root", "_delete_from_tree64$_rb_delete_fixup81$_right_rotate91$root"),
  ("_rb_delete_fixup17$_right_rotate27$y", "_delete_from_tree64$_rb_delete_fixup81$_right_rotate91$y"),
  ("_rb_delete_fixup17$_right_rotate27$x", "_delete_from_tree64$_rb_delete_fixup81$_right_rotate91$x"),
  ("_rb_delete_fixup17$_right_rotate27$x_right", "_delete_from_tree64$_rb_delete_fixup81$_right_rotate91$x_right"),
  ("_rb_delete_fixup17$_right_rotate27$y_right", "_delete_from_tree64$_rb_delete_fixup81$_right_rotate91$y_right"),
  ("_rb_delete_fixup17$_right_rotate27$tmp_max", "_delete_from_tree64$_rb_delete_fixup81$_right_rotate91$tmp_max"),
  ("_rb_delete_fixup17$_right_rotate27$_find_value_min_value28$node_id", "_delete_from_tree64$_rb_delete_fixup81$_right_rotate91$_find_value_min_value92$node_id"),
  ("_rb_delete_fixup17$_right_rotate27$_find_value_min_value28$ret0", "_delete_from_tree64$_rb_delete_fixup81$_right_rotate91$_find_value_min_value92$ret0"),
  ("_rb_delete_fixup17$_right_rotate27$min_value", "_delete_from_tree64$_rb_delete_fixup81$_right_rotate91$min_value"),
  ("_rb_delete_fixup17$_right_rotate27$x_left", "_delete_from_tree64$_rb_delete_fixup81$_right_rotate91$x_left"),
  ("_rb_delete_fixup17$_right_rotate27$_find_value_min_value29$node_id", "_delete_from_tree64$_rb_delete_fixup81$_right_rotate91$_find_value_min_value93$node_id"),
  ("_rb_delete_fixup17$_right_rotate27$_find_value_min_value29$ret0", "_delete_from_tree64$_rb_delete_fixup81$_right_rotate91$_find_value_min_value93$ret0"),
  ("_rb_delete_fixup17$_right_rotate27$y_parent", "_delete_from_tree64$_rb_delete_fixup81$_right_rotate91$y_parent"),
  ("_rb_delete_fixup17$_right_rotate27$ret0", "_delete_from_tree64$_rb_delete_fixup81$_right_rotate91$ret0"),
  ("_rb_delete_fixup17$_left_rotate30$root", "_delete_from_tree64$_rb_delete_fixup81$_left_rotate94$root"),
  ("_rb_delete_fixup17$_left_rotate30$x", "_delete_from_tree64$_rb_delete_fixup81$_left_rotate94$x"),
  ("_rb_delete_fixup17$_left_rotate30$y", "_delete_from_tree64$_rb_delete_fixup81$_left_rotate94$y"),
  ("_rb_delete_fixup17$_left_rotate30$x_left", "_delete_from_tree64$_rb_delete_fixup81$_left_rotate94$x_left"),
  ("_rb_delete_fixup17$_left_rotate30$y_left", "_delete_from_tree64$_rb_delete_fixup81$_left_rotate94$y_left"),
  ("_rb_delete_fixup17$_left_rotate30$tmp_max", "_delete_from_tree64$_rb_delete_fixup81$_left_rotate94$tmp_max"),
  ("_rb_delete_fixup17$_left_rotate30$_find_value_min_value31$node_id", "_delete_from_tree64$_rb_delete_fixup81$_left_rotate94$_find_value_min_value95$node_id"),
  ("_rb_delete_fixup17$_left_rotate30$_find_value_min_value31$ret0", "_delete_from_tree64$_rb_delete_fixup81$_left_rotate94$_find_value_min_value95$ret0"),
  ("_rb_delete_fixup17$_left_rotate30$min_value", "_delete_from_tree64$_rb_delete_fixup81$_left_rotate94$min_value"),
  ("_rb_delete_fixup17$_left_rotate30$y_right", "_delete_from_tree64$_rb_delete_fixup81$_left_rotate94$y_right"),
  ("_rb_delete_fixup17$_left_rotate30$_find_value_min_value32$node_id", "_delete_from_tree64$_rb_delete_fixup81$_left_rotate94$_find_value_min_value96$node_id"),
  ("_rb_delete_fixup17$_left_rotate30$_find_value_min_value32$ret0", "_delete_from_tree64$_rb_delete_fixup81$_left_rotate94$_find_value_min_value96$ret0"),
  ("_rb_delete_fixup17$_left_rotate30$x_parent", "_delete_from_tree64$_rb_delete_fixup81$_left_rotate94$x_parent"),
  ("_rb_delete_fixup17$_left_rotate30$ret0", "_delete_from_tree64$_rb_delete_fixup81$_left_rotate94$ret0"),
  ("_rb_delete_fixup17$_right_rotate33$root", "_delete_from_tree64$_rb_delete_fixup81$_right_rotate97$root"),
  ("_rb_delete_fixup17$_right_rotate33$y", "_delete_from_tree64$_rb_delete_fixup81$_right_rotate97$y"),
  ("_rb_delete_fixup17$_right_rotate33$x", "_delete_from_tree64$_rb_delete_fixup81$_right_rotate97$x"),
  ("_rb_delete_fixup17$_right_rotate33$x_right", "_delete_from_tree64$_rb_delete_fixup81$_right_rotate97$x_right"),
  ("_rb_delete_fixup17$_right_rotate33$y_right", "_delete_from_tree64$_rb_delete_fixup81$_right_rotate97$y_right"),
  ("_rb_delete_fixup17$_right_rotate33$tmp_max", "_delete_from_tree64$_rb_delete_fixup81$_right_rotate97$tmp_max"),
  ("_rb_delete_fixup17$_right_rotate33$_find_value_min_value34$node_id", "_delete_from_tree64$_rb_delete_fixup81$_right_rotate97$_find_value_min_value98$node_id"),
  ("_rb_delete_fixup17$_right_rotate33$_find_value_min_value34$ret0", "_delete_from_tree64$_rb_delete_fixup81$_right_rotate97$_find_value_min_value98$ret0"),
  ("_rb_delete_fixup17$_right_rotate33$min_value", "_delete_from_tree64$_rb_delete_fixup81$_right_rotate97$min_value"),
  ("_rb_delete_fixup17$_right_rotate33$x_left", "_delete_from_tree64$_rb_delete_fixup81$_right_rotate97$x_left"),
  ("_rb_delete_fixup17$_right_rotate33$_find_value_min_value35$node_id", "_delete_from_tree64$_rb_delete_fixup81$_right_rotate97$_find_value_min_value99$node_id"),
  ("_rb_delete_fixup17$_right_rotate33$_find_value_min_value35$ret0", "_delete_from_tree64$_rb_delete_fixup81$_right_rotate97$_find_value_min_value99$ret0"),
  ("_rb_delete_fixup17$_right_rotate33$y_parent", "_delete_from_tree64$_rb_delete_fixup81$_right_rotate97$y_parent"),
  ("_rb_delete_fixup17$_right_rotate33$ret0", "_delete_from_tree64$_rb_delete_fixup81$_right_rotate97$ret0"),
  ("_rb_delete_fixup17$ret0", "_delete_from_tree64$_rb_delete_fixup81$ret0"),
  ("ret0", "_delete_from_tree64$ret0"),
  ("ret1", "_delete_from_tree64$ret1")]

theorem arrTbl_ok : TblOK arrTbl := tblOK_of_codes _ (by decide +kernel)

theorem qryTbl_ok : TblOK qryTbl := tblOK_of_codes _ (by decide +kernel)

/-- **the inlined query is the stand-alone program renamed** (breaks when `_max_grad_in_status_struct`, one of its callees
    or the call in `_viewshed_cpu_sweep` is edited) -/
theorem qryLoop_is_renaming : renAS (swapT arrTbl) (renS (swapT qryTbl) Gen.IL.vsQuery.body) = qryLoop := by
  rw [← swapC_eq_swapT]; decide +kernel

theorem insFill_is_renaming : renAS (swapT arrTbl) (renS (swapT insFillTbl) Gen.IL.vsInsert.body) = insFill := by
  rw [← swapC_eq_swapT]; decide +kernel

theorem insLoop_is_renaming : renAS (swapT arrTbl) (renS (swapT insLoopTbl) Gen.IL.vsInsert.body) = insLoop := by
  rw [← swapC_eq_swapT]; decide +kernel

theorem delLoop_is_renaming : renAS (swapT arrTbl) (renS (swapT delTbl) Gen.IL.vsDelete.body) = delLoop := by
  rw [← swapC_eq_swapT]; decide +kernel

theorem qryLoop_writes : wIA qryLoop = [] ∧ wFA qryLoop = [] ∧ wSh qryLoop = [] ∧
    (wI qryLoop).all (fun v => qP.isPrefixOf v) = true ∧ (wF qryLoop).all (fun v => qP.isPrefixOf v) = true := by
  decide +kernel

theorem qry_names : swapT arrTbl "tree_vals" = "status_values" ∧ swapT arrTbl "tree_nodes" = "status_struct" ∧
    swapT qryTbl "root" = qP ++ "root" ∧ swapT qryTbl "distance" = qP ++ "distance" ∧ swapT qryTbl "angle" = qP ++ "angle" ∧
    swapT qryTbl "gradient" = qP ++ "gradient" ∧ swapT qryTbl "ret0" = qP ++ "ret0" := by decide +kernel

end XrsVerif.ILSw
