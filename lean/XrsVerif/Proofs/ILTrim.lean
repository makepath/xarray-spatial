import XrsVerif.Proofs.ILangFocal
import XrsVerif.Proofs.Trim
import XrsVerif.Gen.IL
/-
  Proofs/ILTrim.lean -- refinement: the programs `Gen.IL.trim` / `Gen.IL.crop`, translated statement by
  statement from `zonal._trim` / `zonal._crop` (layer T3), compute `Trim.bounds rows cols hit` of
  Model/Trim.lean, for every raster size (0 included), every list, every number type `[Fl F]`.
-/
namespace XrsVerif.IL.TrimScan
open XrsVerif XrsVerif.IL XrsVerif.ILVs XrsVerif.IL.Fc
variable {F : Type} [Fl F]
set_option linter.unusedSectionVars false

/-- `e == val or (np.isnan(e) and np.isnan(val))` -/
def trimMatch (e v : F) : Bool := Fl.eq e v || (Fl.isnan e && Fl.isnan v)

/-- `_trim`: a cell is a hit (kept) iff no listed value matches it -/
def trimHit (L : List F) (v : F) : Bool := !(L.any fun e => trimMatch e v)

/-- `_crop`: a cell is a hit (selected) iff some listed value `==` it -/
def cropHit (L : List F) (v : F) : Bool := L.any fun e => Fl.eq e v

def trimInner (ev : String) : St :=
  .ite (.or (.cmpF .eq (.var ev) (.var "val")) (.and (.isnan (.var ev)) (.isnan (.var "val"))))
    (.seq (.setB "is_nodata" .tt) .brk) .skip

/-- what `_trim` does with `val = data[y, x]` -/
def trimCell (ev lst : String) : St :=
  .seq (.setB "is_nodata" .ff)
  (.seq (.forIn ev lst (trimInner ev))
  (.ite (.not (.var "is_nodata")) (.seq (.setB "scan_complete" .tt) .brk) .skip))

def cropInner (ev : String) : St :=
  .ite (.cmpF .eq (.var ev) (.var "val")) (.seq (.setB "scan_complete" .tt) .brk) .cont

/-- what `_crop` does with `val = data[y, x]` -/
def cropCell (ev lst : String) : St :=
  .seq (.forIn ev lst (cropInner ev))
  (.ite (.var "scan_complete") .brk .skip)

/-- contract of a per-cell test relative to the arrays of `s`: it assigns no integer and touches no array; started with
    `scan_complete = False` it sets `scan_complete` to `hitv val` and breaks out of the line loop iff it is set -/
structure CellSpec (cell : St) (s : State F) (hitv : F → Bool) : Prop where
  wi : wI cell = []
  wfa : wFA cell = []
  wsh : wSh cell = []
  run : ∀ (fuel : Nat) (st : State F), st.ctl = .run → st.benv "scan_complete" = false →
    st.fa = s.fa → st.shp = s.shp →
    (exec fuel cell st).benv "scan_complete" = hitv (st.fenv "val") ∧
    (exec fuel cell st).ctl = if hitv (st.fenv "val") then .brk else .run

theorem trimInner_exec (fuel : Nat) (ev : String) (st : State F) (h : st.ctl = .run) :
    exec fuel (trimInner ev) st =
      if trimMatch (st.fenv ev) (st.fenv "val") then { st with benv := setS st.benv "is_nodata" true, ctl := .brk }
      else st := by
  cases hm : trimMatch (st.fenv ev) (st.fenv "val") <;> simp only [trimMatch] at hm <;>
    simp [il, trimInner, hm, h]

theorem trimCell_spec (ev lst : String) (hev : ev ≠ "val") (s : State F) (hl : (s.shp lst).length = 1) :
    CellSpec (trimCell ev lst) s (trimHit (s.fa lst)) := by
  refine ⟨rfl, rfl, rfl, fun fuel st hc hsc hfa hshp => ?_⟩
  have h0 : exec fuel (.setB "is_nodata" .ff) st = { st with benv := setS st.benv "is_nodata" false } := by
    simp [il]
  obtain ⟨l1, l2⟩ := exec_forIn_any fuel ev lst (trimInner ev) (fun e => trimMatch e (st.fenv "val")) "is_nodata"
    { st with benv := setS st.benv "is_nodata" false } hc (by rw [hshp]; exact hl) (by simp)
    (fun s1 e _ hc1 hM ve hfl => by
      have hv : s1.fenv "val" = st.fenv "val" := hM.fenv "val" (by simpa [wF, trimInner] using hev.symm)
      rw [trimInner_exec fuel ev s1 hc1, ve, hv]
      cases trimMatch e (st.fenv "val") <;> simp [hc1, hfl])
  have l3 := (exec_frame fuel (.forIn ev lst (trimInner ev)) { st with benv := setS st.benv "is_nodata" false }).benv
    "scan_complete" (by simp [wB, trimInner])
  rw [trimCell, exec_seq_eq fuel _ _ _ _ h0 hc, exec_seq_run fuel _ _ _ l1]
  generalize exec fuel (St.forIn ev lst (trimInner ev)) (_ : State F) = r at l1 l2 l3 ⊢
  replace l2 : r.benv "is_nodata" = (s.fa lst).any (fun e => trimMatch e (st.fenv "val")) := by rw [l2, ← hfa]
  replace l3 : r.benv "scan_complete" = false := l3.trans hsc
  cases hh : trimHit (s.fa lst) (st.fenv "val") <;> simp only [trimHit] at hh
  · have hh' : (s.fa lst).any (fun e => trimMatch e (st.fenv "val")) = true := by simpa using hh
    simp [il, l2, hh', l3, l1]
  · have hh' : (s.fa lst).any (fun e => trimMatch e (st.fenv "val")) = false := by simpa using hh
    simp [il, l2, hh', l1]

theorem cropInner_exec (fuel : Nat) (ev : String) (st : State F) (h : st.ctl = .run) :
    exec fuel (cropInner ev) st =
      if Fl.eq (st.fenv ev) (st.fenv "val") then { st with benv := setS st.benv "scan_complete" true, ctl := .brk }
      else { st with ctl := .cont } := by
  cases hm : Fl.eq (st.fenv ev) (st.fenv "val") <;>
    simp [il, cropInner, hm, h]

theorem cropCell_spec (ev lst : String) (hev : ev ≠ "val") (s : State F) (hl : (s.shp lst).length = 1) :
    CellSpec (cropCell ev lst) s (cropHit (s.fa lst)) := by
  refine ⟨rfl, rfl, rfl, fun fuel st hc hsc hfa hshp => ?_⟩
  obtain ⟨l1, l2⟩ := exec_forIn_any fuel ev lst (cropInner ev) (fun e => Fl.eq e (st.fenv "val")) "scan_complete" st hc
    (by rw [hshp]; exact hl) hsc
    (fun s1 e _ hc1 hM ve hfl => by
      have hv : s1.fenv "val" = st.fenv "val" := hM.fenv "val" (by simpa [wF, cropInner] using hev.symm)
      rw [cropInner_exec fuel ev s1 hc1, ve, hv]
      cases Fl.eq e (st.fenv "val") <;> simp [hfl])
  rw [cropCell, exec_seq_run fuel _ _ _ l1]
  generalize exec fuel (St.forIn ev lst (cropInner ev)) st = r at l1 l2 ⊢
  rw [hfa] at l2
  cases hh : cropHit (s.fa lst) (st.fenv "val") <;> simp only [cropHit] at hh
  · simp [il, l2, hh, l1]
  · simp [il, l2, hh]

/-- `data[y, x]` with the outer / inner loop variable as row index -/
def load (rowOuter : Bool) (outer inner : String) : FE :=
  if rowOuter then .ld2 "data" (.var outer) (.var inner) else .ld2 "data" (.var inner) (.var outer)

/-- `for <inner> in range(<innerN>): val = data[.., ..]; <cell test>` -/
def lineLoop (inner innerN : String) (ld : FE) (cell : St) : St :=
  .forRange inner (.lit 0) (.var innerN) (.lit 1) (.seq (.setF "val" ld) cell)

def outerBody (outer inner res innerN : String) (ld : FE) (cell : St) : St :=
  .seq (.ite (.var "scan_complete") .brk .skip)
  (.seq (.setI res (.var outer))
  (lineLoop inner innerN ld cell))

/-- `<res> = 0; scan_complete = False; for <outer> in range(<olo>, <ohi>, <ostep>): if scan_complete: break;
    <res> = <outer>; <line loop>` -/
def scanSt (outer inner res innerN : String) (olo ohi ostep : IE) (ld : FE) (cell : St) : St :=
  .seq (.setI res (.lit 0))
  (.seq (.setB "scan_complete" .ff)
  (.forRange outer olo ohi ostep (outerBody outer inner res innerN ld cell)))

/-- the scan followed by the rest of the function, in the right-nested form the translator emits -/
def scanThen (outer inner res innerN : String) (olo ohi ostep : IE) (ld : FE) (cell rest : St) : St :=
  .seq (.setI res (.lit 0))
  (.seq (.setB "scan_complete" .ff)
  (.seq (.forRange outer olo ohi ostep (outerBody outer inner res innerN ld cell)) rest))

theorem exec_scanThen (fuel : Nat) (outer inner res innerN : String) (olo ohi ostep : IE) (ld : FE)
    (cell rest : St) (s : State F) :
    exec fuel (scanThen outer inner res innerN olo ohi ostep ld cell rest) s =
      if (exec fuel (scanSt outer inner res innerN olo ohi ostep ld cell) s).ctl = .run then
        exec fuel rest (exec fuel (scanSt outer inner res innerN olo ohi ostep ld cell) s)
      else exec fuel (scanSt outer inner res innerN olo ohi ostep ld cell) s := by
  rw [scanThen, scanSt, exec_seq_assoc, exec_seq_assoc, exec_seq fuel _ rest, ← exec_seq_assoc]

theorem scan_snoc (l : List Nat) (y : Nat) (hit : Nat → Bool) :
    Trim.scan (l ++ [y]) hit = if (Trim.scan l hit).2 then Trim.scan l hit else (y, hit y) := by
  unfold Trim.scan
  rw [List.foldl_append]
  rfl

theorem scan_done (l1 l2 : List Nat) (hit : Nat → Bool) (h : (Trim.scan l1 hit).2 = true) :
    Trim.scan (l1 ++ l2) hit = Trim.scan l1 hit := by
  unfold Trim.scan at h ⊢
  rw [List.foldl_append]
  generalize l1.foldl _ _ = a at h ⊢
  obtain ⟨c, b⟩ := a
  subst h
  exact Trim.scan_fold_done l2 hit c

def scanEnter (res : String) (st : State F) : State F :=
  { st with ienv := setS st.ienv res 0, benv := setS st.benv "scan_complete" false }

def lineHit (ni : Nat) (hitv : F → Bool) (val : Nat → Nat → F) (o : Nat) : Bool :=
  (List.range ni).any fun i => hitv (val o i)

theorem scanSt_mods {cell : St} {s : State F} {hitv : F → Bool} (hcell : CellSpec cell s hitv)
    (outer inner res innerN : String) (olo ohi ostep : IE) (ld : FE) (fuel : Nat) (st : State F) :
    Mods [res, outer, res, inner] ("val" :: wF cell) ("scan_complete" :: wB cell) (wIA cell) [] [] st
      (exec fuel (scanSt outer inner res innerN olo ohi ostep ld cell) st) := by
  have h := exec_frame fuel (scanSt outer inner res innerN olo ohi ostep ld cell) st
  simpa only [scanSt, outerBody, lineLoop, wI, wF, wB, wIA, wFA, wSh, hcell.wi, hcell.wfa, hcell.wsh, List.nil_append,
    List.append_nil, List.singleton_append, List.cons_append] using h

section scan
variable (outer inner res innerN : String) (ld : FE) (cell : St) (s : State F) (hitv : F → Bool)
  (val : Nat → Nat → F) (no ni : Nat)
  (hoi : outer ≠ inner) (hro : res ≠ outer) (hri : res ≠ inner)
  (hno : innerN ≠ outer) (hni : innerN ≠ inner) (hnr : innerN ≠ res)
  (hcell : CellSpec cell s hitv)
  (hld : ∀ (st : State F) (o i : Nat), st.fa = s.fa → st.shp = s.shp → st.ienv outer = o → st.ienv inner = i →
      o < no → i < ni → ld.ok st = true ∧ ld.eval st = val o i)
include hoi hcell hld

theorem lineLoop_spec (fuel : Nat) (o : Nat) (ho : o < no) (st : State F) (hc : st.ctl = .run)
    (hsc : st.benv "scan_complete" = false) (hfa : st.fa = s.fa) (hshp : st.shp = s.shp) (hout : st.ienv outer = o)
    (hin : st.ienv innerN = ni) :
    let r := exec fuel (lineLoop inner innerN ld cell) st
    r.ctl = .run ∧ r.benv "scan_complete" = lineHit ni hitv val o :=
  exec_forRange_any fuel inner (.var innerN) (.seq (.setF "val" ld) cell) (fun i => hitv (val o i)) "scan_complete" st ni hc
    ⟨rfl, hin⟩ hsc
    (fun s1 i hi hc1 hM hv hfl => by
      have hfa1 : s1.fa = s.fa := by
        rw [← hfa]; funext a; exact hM.fa a (by simp [wFA, hcell.wfa])
      have hshp1 : s1.shp = s.shp := by
        rw [← hshp]; funext a; exact hM.shp a (by simp [wSh, hcell.wsh])
      obtain ⟨k1, k2⟩ := hld s1 o i hfa1 hshp1
        ((hM.ienv outer (by simpa [wI, hcell.wi] using hoi)).trans hout) hv ho hi
      obtain ⟨c1, c2⟩ := hcell.run fuel { s1 with fenv := setS s1.fenv "val" (val o i) } hc1 hfl hfa1 hshp1
      have hbody : exec fuel (.seq (.setF "val" ld) cell) s1 =
          exec fuel cell { s1 with fenv := setS s1.fenv "val" (val o i) } := by
        rw [exec_seq, exec_setF_def, if_pos k1, k2]
        exact if_pos hc1
      simp only [setS_same] at c1 c2
      rw [hbody, c1, c2]
      cases hitv (val o i) <;> simp)

include hro hri hno hni hnr

theorem scanSt_spec (olo ohi ostep : IE) (fuel : Nat) (ys : List Nat) (hys : ∀ y ∈ ys, y < no) (st : State F)
    (hc : st.ctl = .run) (hfa : st.fa = s.fa) (hshp : st.shp = s.shp) (hin : st.ienv innerN = ni)
    (hr : ∀ st' : State F, (∀ v, v ≠ res → st'.ienv v = st.ienv v) →
      olo.ok st' = true ∧ ohi.ok st' = true ∧ ostep.ok st' = true ∧ ostep.eval st' ≠ 0 ∧
      rangeList (olo.eval st') (ohi.eval st') (ostep.eval st') = ys.map fun (k : Nat) => (k : Int)) :
    let r := exec fuel (scanSt outer inner res innerN olo ohi ostep ld cell) st
    r.ctl = .run ∧ r.ienv res = (Trim.scan ys (lineHit ni hitv val)).1 ∧
    r.benv "scan_complete" = (Trim.scan ys (lineHit ni hitv val)).2 := by
  intro r
  have hrun : r = exec fuel (.forRange outer olo ohi ostep (outerBody outer inner res innerN ld cell))
      (scanEnter res st) := by
    simp only [r, scanSt, scanEnter, exec_seq, exec_setI_def, exec_setB_def, IE.ok, IE.eval, BE.ok, BE.eval, if_true, hc]
  obtain ⟨r1, r2, r3, r4, r5⟩ := hr (scanEnter res st) (fun v hv => setS_other _ _ _ _ hv)
  have hc0 : (scanEnter res st).ctl = .run := hc
  generalize hs0 : scanEnter res st = s0 at *
  rw [hrun]
  -- invariant: `(res, scan_complete)` is the model's fold over the lines done; exit (`break`): the fold is complete
  rcases exec_forRange_inv fuel outer olo ohi ostep (outerBody outer inner res innerN ld cell) s0 _
    (fun k s1 => s1.ienv res = (Trim.scan (ys.take k) (lineHit ni hitv val)).1 ∧
      s1.benv "scan_complete" = (Trim.scan (ys.take k) (lineHit ni hitv val)).2)
    (fun r => r.ctl = .run ∧ r.ienv res = (Trim.scan ys (lineHit ni hitv val)).1 ∧
      r.benv "scan_complete" = (Trim.scan ys (lineHit ni hitv val)).2)
    hc0 ⟨r1, r2, r3, r4⟩ r5 (fun k s1 x h => ⟨(setS_other _ _ _ _ hro).trans h.1, h.2⟩)
    (fun k hk s1 hc1 hM hv ⟨hres, hscb⟩ => by
      have hk' : k < ys.length := by simpa using hk
      simp only [List.getElem_map] at hv
      have hMfa : s1.fa = s.fa := by
        rw [← hfa, ← (hs0 ▸ rfl : s0.fa = st.fa)]; funext a
        exact hM.fa a (by simp [outerBody, lineLoop, wFA, hcell.wfa])
      have hMshp : s1.shp = s.shp := by
        rw [← hshp, ← (hs0 ▸ rfl : s0.shp = st.shp)]; funext a
        exact hM.shp a (by simp [outerBody, lineLoop, wSh, hcell.wsh])
      have hMin : s1.ienv innerN = ni := by
        rw [hM.ienv innerN (by simp [outerBody, lineLoop, wI, hcell.wi, hno, hnr, hni]), ← hs0]
        exact (setS_other _ _ _ _ hnr).trans hin
      cases hb : s1.benv "scan_complete"
      · -- not yet complete: `res = y`, then the line loop
        have hbody : exec fuel (outerBody outer inner res innerN ld cell) s1 =
            exec fuel (lineLoop inner innerN ld cell) { s1 with ienv := setS s1.ienv res (ys[k] : Int) } := by
          simp [il, outerBody, hb, hc1, hv]
        obtain ⟨q1, q2⟩ := lineLoop_spec outer inner innerN ld cell s hitv val no ni hoi hcell hld fuel ys[k]
          (hys _ (List.getElem_mem hk')) { s1 with ienv := setS s1.ienv res (ys[k] : Int) } hc1 hb hMfa hMshp
          ((setS_other _ _ _ _ hro.symm).trans hv) ((setS_other _ _ _ _ hnr).trans hMin)
        have q3 := (exec_frame fuel (lineLoop inner innerN ld cell)
          { s1 with ienv := setS s1.ienv res (ys[k] : Int) }).ienv res (by simpa [lineLoop, wI, hcell.wi] using hri)
        rw [hbody, List.take_succ_eq_append_getElem hk', scan_snoc, ← hscb, hb, if_neg Bool.false_ne_true]
        exact Or.inl ⟨q1, q3.trans (setS_same _ _ _), q2⟩
      · -- complete: `break`, and the rest of the fold changes nothing
        have hbody : exec fuel (outerBody outer inner res innerN ld cell) s1 = { s1 with ctl := .brk } := by
          simp [il, outerBody, hb]
        rw [hbody, ← List.take_append_drop k ys, scan_done _ _ _ (hscb.symm.trans hb)]
        exact Or.inr ⟨by simp, by simp, rfl, hres, hscb⟩)
    (by rw [← hs0]; simp [scanEnter, setS, Trim.scan]) with ⟨h1, h2⟩ | h
  · rw [List.length_map, List.take_length] at h2
    exact ⟨h1, h2⟩
  · exact h

theorem scanThen_spec (olo ohi ostep : IE) (rest : St) (fuel : Nat) (ys : List Nat) (hys : ∀ y ∈ ys, y < no)
    (st : State F) (hc : st.ctl = .run) (hfa : st.fa = s.fa) (hshp : st.shp = s.shp) (hin : st.ienv innerN = ni)
    (hr : ∀ st' : State F, (∀ v, v ≠ res → st'.ienv v = st.ienv v) →
      olo.ok st' = true ∧ ohi.ok st' = true ∧ ostep.ok st' = true ∧ ostep.eval st' ≠ 0 ∧
      rangeList (olo.eval st') (ohi.eval st') (ostep.eval st') = ys.map fun (k : Nat) => (k : Int)) :
    ∃ r : State F, exec fuel (scanThen outer inner res innerN olo ohi ostep ld cell rest) st = exec fuel rest r ∧
      r.ctl = .run ∧ Mods [res, outer, res, inner] ("val" :: wF cell) ("scan_complete" :: wB cell) (wIA cell) [] [] st r ∧
      r.ienv res = (Trim.scan ys (lineHit ni hitv val)).1 ∧
      r.benv "scan_complete" = (Trim.scan ys (lineHit ni hitv val)).2 := by
  obtain ⟨o1, o5, o6⟩ := scanSt_spec outer inner res innerN ld cell s hitv val no ni hoi hro hri hno hni hnr
    hcell hld olo ohi ostep fuel ys hys st hc hfa hshp hin hr
  exact ⟨_, by rw [exec_scanThen, if_pos o1], o1,
    scanSt_mods hcell outer inner res innerN olo ohi ostep ld fuel st, o5, o6⟩

end scan

/-- `range(0, n, 1)` with `n` in variable `nv` -/
theorem upRange_spec (nv res : String) (hnv : nv ≠ res) (n : Nat) (st : State F) (hn : st.ienv nv = n)
    (st' : State F) (h : ∀ v, v ≠ res → st'.ienv v = st.ienv v) :
    (IE.lit 0).ok st' = true ∧ (IE.var nv).ok st' = true ∧ (IE.lit 1).ok st' = true ∧ (IE.lit 1).eval st' ≠ 0 ∧
    rangeList ((IE.lit 0).eval st') ((IE.var nv).eval st') ((IE.lit 1).eval st') =
      (List.range n).map fun (k : Nat) => (k : Int) := by
  simp [IE.ok, IE.eval, h nv hnv, hn, rangeList_up]

/-- `range(n - 1, -1, -1)` with `n` in variable `nv` -/
theorem downRange_spec (nv res : String) (hnv : nv ≠ res) (n : Nat) (st : State F) (hn : st.ienv nv = n)
    (st' : State F) (h : ∀ v, v ≠ res → st'.ienv v = st.ienv v) :
    (IE.bin .sub (.var nv) (.lit 1)).ok st' = true ∧ (IE.lit (-1)).ok st' = true ∧ (IE.lit (-1)).ok st' = true ∧
    (IE.lit (-1)).eval st' ≠ 0 ∧
    rangeList ((IE.bin .sub (.var nv) (.lit 1)).eval st') ((IE.lit (-1)).eval st') ((IE.lit (-1)).eval st') =
      (List.range n).reverse.map fun (k : Nat) => (k : Int) := by
  simp [IE.ok, IE.eval, IOp.eval, h nv hnv, hn, rangeList_down]

/-- the cell `data[y, x]` of a `rows × cols` array (row-major) -/
def cellAt (s : State F) (cols y x : Nat) : F := (s.fa "data").getD (y * cols + x) Fl.nan

theorem load_row_spec (outer inner : String) (s : State F) (rows cols : Nat) (hd : s.shp "data" = [rows, cols])
    (st : State F) (o i : Nat) (hfa : st.fa = s.fa) (hshp : st.shp = s.shp) (ho : st.ienv outer = o)
    (hi : st.ienv inner = i) (h1 : o < rows) (h2 : i < cols) :
    (load true outer inner).ok st = true ∧ (load true outer inner).eval st = cellAt s cols o i := by
  simp [load, FE.ok, FE.eval, IE.ok, IE.eval, hfa, hshp, hd, ho, hi, inRange_of_lt, h1, h2, off2_nat, cellAt]

theorem load_col_spec (outer inner : String) (s : State F) (rows cols : Nat) (hd : s.shp "data" = [rows, cols])
    (st : State F) (o i : Nat) (hfa : st.fa = s.fa) (hshp : st.shp = s.shp) (ho : st.ienv outer = o)
    (hi : st.ienv inner = i) (h1 : o < cols) (h2 : i < rows) :
    (load false outer inner).ok st = true ∧ (load false outer inner).eval st = cellAt s cols i o := by
  simp [load, FE.ok, FE.eval, IE.ok, IE.eval, hfa, hshp, hd, ho, hi, inRange_of_lt, h1, h2, off2_nat, cellAt]

/-- `if not scan_complete: return 0, -1, 0, -1` -/
def emptyRet : St :=
  .ite (.not (.var "scan_complete"))
    (.seq (.setI "ret0" (.lit 0)) (.seq (.setI "ret1" (.lit (-1))) (.seq (.setI "ret2" (.lit 0))
      (.seq (.setI "ret3" (.lit (-1))) .ret))))
    .skip

/-- `return top, bottom, left, right` -/
def retTail : St :=
  .seq (.setI "ret0" (.var "top")) (.seq (.setI "ret1" (.var "bottom")) (.seq (.setI "ret2" (.var "left"))
    (.seq (.setI "ret3" (.var "right")) .ret)))

/-- the common body of `_trim` and `_crop` after `rows, cols = data.shape`: four instances of `scanThen`
    (rows upwards, rows downwards, columns upwards, columns downwards), with the per-cell tests as parameters -/
def kernel (c1 c2 c3 c4 : St) : St :=
  scanThen "y" "x" "top" "cols" (.lit 0) (.var "rows") (.lit 1) (load true "y" "x") c1
  (.seq emptyRet
  (scanThen "y" "x" "bottom" "cols" (.bin .sub (.var "rows") (.lit 1)) (.lit (-1)) (.lit (-1)) (load true "y" "x") c2
  (scanThen "x" "y" "left" "rows" (.lit 0) (.var "cols") (.lit 1) (load false "x" "y") c3
  (scanThen "x" "y" "right" "rows" (.bin .sub (.var "cols") (.lit 1)) (.lit (-1)) (.lit (-1)) (load false "x" "y") c4
  retTail))))

theorem kernel_spec (c1 c2 c3 c4 : St) (s : State F) (hitv : F → Bool)
    (h1 : CellSpec c1 s hitv) (h2 : CellSpec c2 s hitv) (h3 : CellSpec c3 s hitv) (h4 : CellSpec c4 s hitv)
    (rows cols : Nat) (hd : s.shp "data" = [rows, cols]) (fuel : Nat) (st : State F)
    (hc : st.ctl = .run) (hfa : st.fa = s.fa) (hshp : st.shp = s.shp)
    (hR : st.ienv "rows" = rows) (hC : st.ienv "cols" = cols) :
    let r := exec fuel (kernel c1 c2 c3 c4) st
    r.ctl = .ret ∧ (⟨r.ienv "ret0", r.ienv "ret1", r.ienv "ret2", r.ienv "ret3"⟩ : Trim.Bounds) =
      Trim.bounds rows cols (fun y x => hitv (cellAt s cols y x)) := by
  intro r
  have e1 : lineHit cols hitv (cellAt s cols) = Trim.rowHit cols (fun y x => hitv (cellAt s cols y x)) := rfl
  have e2 : lineHit rows hitv (fun o i => cellAt s cols i o) =
      Trim.colHit rows (fun y x => hitv (cellAt s cols y x)) := rfl
  have mr : ∀ n, ∀ y ∈ List.range n, y < n := fun n y hy => List.mem_range.mp hy
  have mr' : ∀ n, ∀ y ∈ (List.range n).reverse, y < n := fun n y hy => List.mem_range.mp (List.mem_reverse.mp hy)
  simp only [r, kernel]
  obtain ⟨s2, e2', a1, a4, a5, a6⟩ := scanThen_spec "y" "x" "top" "cols" (load true "y" "x") c1 s hitv
    (cellAt s cols) rows cols (by decide) (by decide) (by decide) (by decide) (by decide) (by decide) h1
    (load_row_spec "y" "x" s rows cols hd) (.lit 0) (.var "rows") (.lit 1) _ fuel (List.range rows) (mr rows) st hc hfa
    hshp hC (upRange_spec "rows" "top" (by decide) rows st hR)
  rw [e2']
  rw [e1] at a5 a6
  have hR2 : s2.ienv "rows" = rows := (a4.ienv _ (by decide)).trans hR
  have hC2 : s2.ienv "cols" = cols := (a4.ienv _ (by decide)).trans hC
  rw [exec_seq]
  cases ht : (Trim.scan (List.range rows) (Trim.rowHit cols (fun y x => hitv (cellAt s cols y x)))).2
  · -- nothing found: the empty window
    rw [ht] at a6
    have : exec fuel emptyRet s2 = { s2 with
        ienv := (setS (setS (setS (setS s2.ienv "ret0" 0) "ret1" (-1)) "ret2" 0) "ret3" (-1)), ctl := .ret } := by
      simp [il, emptyRet, a6, a1]
    rw [this]
    simp [setS, Trim.bounds, ht]
  · rw [ht] at a6
    have : exec fuel emptyRet s2 = s2 := by
      simp [il, emptyRet, a6]
    rw [this]
    simp only [a1, if_true]
    obtain ⟨s3, e3', b1, b4, b5, _⟩ := scanThen_spec "y" "x" "bottom" "cols" (load true "y" "x") c2 s hitv
      (cellAt s cols) rows cols (by decide) (by decide) (by decide) (by decide) (by decide) (by decide) h2
      (load_row_spec "y" "x" s rows cols hd) (.bin .sub (.var "rows") (.lit 1)) (.lit (-1)) (.lit (-1)) _ fuel
      (List.range rows).reverse (mr' rows) s2 a1 (a4.fa_eq.trans hfa) (a4.shp_eq.trans hshp) hC2
      (downRange_spec "rows" "bottom" (by decide) rows s2 hR2)
    rw [e3']
    rw [e1] at b5
    have hR3 : s3.ienv "rows" = rows := (b4.ienv _ (by decide)).trans hR2
    have hC3 : s3.ienv "cols" = cols := (b4.ienv _ (by decide)).trans hC2
    obtain ⟨s4, e4', c1', c4', c5', _⟩ := scanThen_spec "x" "y" "left" "rows" (load false "x" "y") c3 s hitv
      (fun o i => cellAt s cols i o) cols rows (by decide) (by decide) (by decide) (by decide) (by decide) (by decide) h3
      (load_col_spec "x" "y" s rows cols hd) (.lit 0) (.var "cols") (.lit 1) _ fuel (List.range cols) (mr cols) s3 b1
      ((b4.fa_eq.trans a4.fa_eq).trans hfa) ((b4.shp_eq.trans a4.shp_eq).trans hshp) hR3
      (upRange_spec "cols" "left" (by decide) cols s3 hC3)
    rw [e4']
    rw [e2] at c5'
    have hR4 : s4.ienv "rows" = rows := (c4'.ienv _ (by decide)).trans hR3
    have hC4 : s4.ienv "cols" = cols := (c4'.ienv _ (by decide)).trans hC3
    obtain ⟨s5, e5', d1, d4, d5, _⟩ := scanThen_spec "x" "y" "right" "rows" (load false "x" "y") c4 s hitv
      (fun o i => cellAt s cols i o) cols rows (by decide) (by decide) (by decide) (by decide) (by decide) (by decide) h4
      (load_col_spec "x" "y" s rows cols hd) (.bin .sub (.var "cols") (.lit 1)) (.lit (-1)) (.lit (-1)) _ fuel
      (List.range cols).reverse (mr' cols) s4 c1' (((c4'.fa_eq.trans b4.fa_eq).trans a4.fa_eq).trans hfa)
      (((c4'.shp_eq.trans b4.shp_eq).trans a4.shp_eq).trans hshp) hR4
      (downRange_spec "cols" "right" (by decide) cols s4 hC4)
    rw [e5']
    rw [e2] at d5
    have t5 : s5.ienv "top" = s2.ienv "top" :=
      (d4.ienv _ (by decide)).trans ((c4'.ienv _ (by decide)).trans (b4.ienv _ (by decide)))
    have bo5 : s5.ienv "bottom" = s3.ienv "bottom" := (d4.ienv _ (by decide)).trans (c4'.ienv _ (by decide))
    have l5 : s5.ienv "left" = s4.ienv "left" := d4.ienv _ (by decide)
    simp [il, retTail, d1, setS, t5, bo5, l5, a5, b5, c5', d5, Trim.bounds, ht]

/-- `rows, cols = data.shape`, then the four scans with `_trim`'s per-cell test -/
def trimBody : St :=
  .seq (.setI "rows" (.dim "data" 0))
  (.seq (.setI "cols" (.dim "data" 1))
  (kernel (trimCell "e" "excludes") (trimCell "e" "excludes") (trimCell "e" "excludes") (trimCell "e" "excludes")))

/-- `rows, cols = data.shape`, the four `-1` initialisations, then the four scans with `_crop`'s per-cell test -/
def cropBody : St :=
  .seq (.setI "rows" (.dim "data" 0))
  (.seq (.setI "cols" (.dim "data" 1))
  (.seq (.setI "top" (.lit (-1)))
  (.seq (.setI "bottom" (.lit (-1)))
  (.seq (.setI "left" (.lit (-1)))
  (.seq (.setI "right" (.lit (-1)))
  (kernel (cropCell "v" "values") (cropCell "e" "values") (cropCell "e" "values") (cropCell "e" "values")))))))

theorem trim_body_eq : Gen.IL.trim.body = trimBody := by decide

theorem crop_body_eq : Gen.IL.crop.body = cropBody := by decide

end XrsVerif.IL.TrimScan

namespace XrsVerif.IL
open XrsVerif XrsVerif.IL.TrimScan
variable {F : Type} [Fl F]

/-- `rows, cols = data.shape` -/
theorem shape_prefix (fuel : Nat) (rest : St) (s : State F) (rows cols : Nat) (hs : s.ctl = .run)
    (hd : s.shp "data" = [rows, cols]) :
    exec fuel (.seq (.setI "rows" (.dim "data" 0)) (.seq (.setI "cols" (.dim "data" 1)) rest)) s =
      exec fuel rest { s with ienv := setS (setS s.ienv "rows" rows) "cols" cols } := by
  have h1 : exec fuel (.setI "rows" (.dim "data" 0)) s = { s with ienv := setS s.ienv "rows" rows } := by
    simp [il, hd]
  have h2 : exec fuel (.setI "cols" (.dim "data" 1)) { s with ienv := setS s.ienv "rows" rows } =
      { s with ienv := setS (setS s.ienv "rows" rows) "cols" cols } := by
    simp [il, hd]
  rw [exec_seq_eq _ _ _ _ _ h1 hs, exec_seq_eq _ _ _ _ _ h2 hs]

/-- **Refinement, `_trim`.**  For every state holding a `rows × cols` array `data` (any size, 0 included) and a 1-D
    array `excludes`, the generated program returns (`ret0..ret3`, control `ret`) the model's
    `Trim.bounds rows cols hit`, a cell being a hit iff no listed value `e` has `e == v or (isnan e and isnan v)`. -/
theorem trim_refines (s : State F) (fuel rows cols : Nat) (hs : s.ctl = .run)
    (hd : s.shp "data" = [rows, cols]) (he : (s.shp "excludes").length = 1) :
    let r := Gen.IL.trim.run s fuel
    r.ctl = .ret ∧ (⟨r.ienv "ret0", r.ienv "ret1", r.ienv "ret2", r.ienv "ret3"⟩ : Trim.Bounds) =
      Trim.bounds rows cols (fun y x => trimHit (s.fa "excludes") (cellAt s cols y x)) := by
  have hc := trimCell_spec "e" "excludes" (by decide) s he
  simp only [Prog.run, trim_body_eq, trimBody]
  rw [shape_prefix fuel _ s rows cols hs hd]
  exact kernel_spec _ _ _ _ s _ hc hc hc hc rows cols hd fuel _ hs rfl rfl (by simp [setS]) (by simp [setS])

/-- **Refinement, `_crop`.**  For every state holding a `rows × cols` array `data` (any size, 0 included) and a 1-D
    array `values`, the generated program returns (`ret0..ret3`, control `ret`) the model's
    `Trim.bounds rows cols hit`, a cell being a hit iff some listed value `==` it. -/
theorem crop_refines (s : State F) (fuel rows cols : Nat) (hs : s.ctl = .run)
    (hd : s.shp "data" = [rows, cols]) (he : (s.shp "values").length = 1) :
    let r := Gen.IL.crop.run s fuel
    r.ctl = .ret ∧ (⟨r.ienv "ret0", r.ienv "ret1", r.ienv "ret2", r.ienv "ret3"⟩ : Trim.Bounds) =
      Trim.bounds rows cols (fun y x => cropHit (s.fa "values") (cellAt s cols y x)) := by
  have hv := cropCell_spec "v" "values" (by decide) s he
  have hc := cropCell_spec "e" "values" (by decide) s he
  simp only [Prog.run, crop_body_eq, cropBody]
  rw [shape_prefix fuel _ s rows cols hs hd]
  simp only [exec_seq, exec_setI_lit, hs, if_true]
  exact kernel_spec _ _ _ _ s _ hv hc hc hc rows cols hd fuel _ rfl rfl rfl (by simp [setS]) (by simp [setS])

def progBounds (r : State F) : Trim.Bounds := ⟨r.ienv "ret0", r.ienv "ret1", r.ienv "ret2", r.ienv "ret3"⟩

def flatCells (rows cols : Nat) (cell : Nat → Nat → F) : List F :=
  (List.range (rows * cols)).map fun k => cell (k / cols) (k % cols)

omit [Fl F] in
theorem flatCells_getD (rows cols : Nat) (cell : Nat → Nat → F) (d : F) (y x : Nat) (hy : y < rows) (hx : x < cols) :
    (flatCells rows cols cell).getD (y * cols + x) d = cell y x := by
  simp [flatCells, List.getD, rowMajor_lt hy hx, rowMajor_div_mod y hx]

/-- what the wrappers hand to the kernel: a 2-D array `data` and a 1-D array `lstName` -/
def inputState (rows cols : Nat) (data : List F) (lstName : String) (lst : List F) : State F :=
  { (State.empty : State F) with
    fa := setS (setS (fun _ => []) "data" data) lstName lst
    shp := setS (setS (fun _ => []) "data" [rows, cols]) lstName [lst.length] }

structure Holds (s : State F) (rows cols : Nat) (cell : Nat → Nat → F) (lstName : String) (lst : List F) : Prop where
  run : s.ctl = .run
  shape : s.shp "data" = [rows, cols]
  cells : ∀ y x, y < rows → x < cols → cellAt s cols y x = cell y x
  lshape : (s.shp lstName).length = 1
  list : s.fa lstName = lst

theorem inputState_holds (rows cols : Nat) (cell : Nat → Nat → F) (lstName : String) (h : lstName ≠ "data")
    (lst : List F) : Holds (inputState rows cols (flatCells rows cols cell) lstName lst) rows cols cell lstName lst := by
  have h' : ("data" = lstName) = False := by simp; exact fun e => h e.symm
  refine ⟨rfl, by simp [inputState, setS, h'], ?_, by simp [inputState, setS], by simp [inputState, setS]⟩
  intro y x hy hx
  have := flatCells_getD rows cols cell Fl.nan y x hy hx
  simpa [cellAt, inputState, setS, h'] using this

end XrsVerif.IL
