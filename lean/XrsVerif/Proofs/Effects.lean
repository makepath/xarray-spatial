import XrsVerif.Model.Effects
import XrsVerif.Core.Dataflow
/-
  The refinement behind C11: a call whose summary passes `noStale W` observes the same
  values from any library state reachable through calls that write only inside `W`.
  Invariant `InvE` (what every reachable state satisfies) and relation `Rel` (two runs of the same
  call, one after a history and one in a fresh interpreter).  Core Lean only.
-/
set_option linter.unusedVariables false
namespace XrsVerif.Effects
variable {A V R : Type}

/-- a dispatcher whose compiled code can safely be reused: it captures only cells nobody writes -/
def goodDisp (W : List Cell) (d : Disp) : Bool :=
  d.caps.all fun
    | .cell c => !W.contains c
    | .arg _ => false

/-- every reachable library state: cells outside `W` still hold their initial value, and every
    reusable-and-good dispatcher froze exactly the initial values -/
structure InvE (W : List Cell) (c0 : Cell → V) (e : Env V) : Prop where
  cells_eq : ∀ c, W.contains c = false → e.cells c = c0 c
  disp_ok : ∀ d k vs, e.disp d k = some vs → goodDisp W d = true →
    ∀ f : String → V, vs = d.caps.map (capVal f c0)

theorem good_caps (W : List Cell) (c0 cells : Cell → V) (d : Disp) (hg : goodDisp W d = true)
    (hc : ∀ c, W.contains c = false → cells c = c0 c) (f f' : String → V) :
    d.caps.map (capVal f cells) = d.caps.map (capVal f' c0) := by
  apply List.map_congr_left
  intro cap hcap
  have h := (List.all_eq_true.mp hg) cap hcap
  cases cap with
  | arg n => simp at h
  | cell c =>
    simp only [Bool.not_eq_true'] at h
    simp only [capVal]
    exact hc c h

theorem upd_other (f : Cell → V) (c k : Cell) (v : V) (h : k ≠ c) : upd f c v k = f k := by
  simp [upd, h]

theorem upd_same (f : Cell → V) (c : Cell) (v : V) : upd f c v c = v := by
  simp [upd]

theorem ne_of_contains (W : List Cell) (c k : Cell) (hc : W.contains c = true)
    (hk : W.contains k = false) : k ≠ c := by
  intro h; subst h; rw [hc] at hk; cases hk

theorem InvE.of_cells {W : List Cell} {c0 : Cell → V} {e e' : Env V} (hi : InvE W c0 e) (hd : e'.disp = e.disp)
    (hc : ∀ k, W.contains k = false → e'.cells k = e.cells k) : InvE W c0 e' :=
  ⟨fun k hk => (hc k hk).trans (hi.cells_eq k hk), by rw [hd]; exact hi.disp_ok⟩

theorem atom_inv (W : List Cell) (c0 : Cell → V) (sem : Sem A V R) (args : A) (a : Atom) (e : Env V)
    (ha : atomConf W a = true) (hi : InvE W c0 e) : InvE W c0 (execAtom sem args a e) := by
  cases a with
  | seed c => exact hi.of_cells rfl fun k hk => upd_other _ _ _ _ (ne_of_contains W c k ha hk)
  | read c => exact hi.of_cells rfl fun _ _ => rfl
  | draw c => exact hi.of_cells rfl fun k hk => upd_other _ _ _ _ (ne_of_contains W c k ha hk)
  | mutate c => exact hi.of_cells rfl fun k hk => upd_other _ _ _ _ (ne_of_contains W c k ha hk)
  | jit d =>
    simp only [execAtom]
    split
    · split
      · exact ⟨hi.cells_eq, hi.disp_ok⟩
      · refine ⟨hi.cells_eq, ?_⟩
        intro d' k' vs hvs hg f
        simp only [updDisp] at hvs
        split at hvs
        · rename_i hdk
          injection hvs with hvs
          subst hvs
          rw [hdk.1] at hg ⊢
          exact good_caps W c0 e.cells d hg hi.cells_eq _ f
        · exact hi.disp_ok d' k' vs hvs hg f
    · exact ⟨hi.cells_eq, hi.disp_ok⟩

theorem iter_pres {α} (P : α → Prop) (f : α → α) (hf : ∀ x, P x → P (f x)) :
    ∀ n x, P x → P (iter f n x)
  | 0, x, h => h
  | n + 1, x, h => iter_pres P f hf n (f x) (hf x h)

theorem exec_inv (W : List Cell) (c0 : Cell → V) (sem : Sem A V R) (args : A) :
    ∀ (p : Prog) (e : Env V), confined W p = true → InvE W c0 e → InvE W c0 (exec sem args p e) := by
  intro p
  induction p with
  | nil => intro e _ hi; exact hi
  | op a rest ih =>
    intro e hc hi
    simp only [confined, Bool.and_eq_true] at hc
    exact ih _ hc.2 (atom_inv W c0 sem args a e hc.1 hi)
  | block body rest ihb ihr =>
    intro e hc hi
    simp only [confined, Bool.and_eq_true] at hc
    exact ihr _ hc.2 (iter_pres (InvE W c0) _ (fun x hx => ihb x hc.1 hx) _ e hi)

/-- two runs of the same call: `S` = cells both runs have overwritten identically -/
structure Rel (W S : List Cell) (c0 : Cell → V) (e e' : Env V) : Prop where
  inv : InvE W c0 e
  inv' : InvE W c0 e'
  agree : ∀ c, S.contains c = true → e.cells c = e'.cells c
  trace : e.trace = e'.trace

theorem capOk_conf (W S : List Cell) (a : Atom) (h : atomOk W S a = true) : atomConf W a = true := by
  cases a <;> simp_all [atomOk, atomConf]

theorem noStale_confined (W : List Cell) : ∀ (p : Prog) (S : List Cell), noStale W S p = true → confined W p = true := by
  intro p
  induction p with
  | nil => intro _ _; rfl
  | op a rest ih =>
    intro S h
    simp only [noStale, Bool.and_eq_true] at h
    simp only [confined, Bool.and_eq_true]
    exact ⟨capOk_conf W S a h.1, ih _ h.2⟩
  | block body rest ihb ihr =>
    intro S h
    simp only [noStale, Bool.and_eq_true] at h
    simp only [confined, Bool.and_eq_true]
    exact ⟨ihb _ h.1, ihr _ h.2⟩

theorem Rel.weaken {W S S' : List Cell} {c0 : Cell → V} {e e' : Env V} (h : Rel W S' c0 e e')
    (hs : ∀ c, S.contains c = true → S'.contains c = true) : Rel W S c0 e e' :=
  ⟨h.inv, h.inv', fun c hc => h.agree c (hs c hc), h.trace⟩

theorem seeds_mono (S : List Cell) (a : Atom) (c : Cell) (h : S.contains c = true) :
    (seeds S a).contains c = true := by
  cases a <;> simp_all [seeds]

theorem Rel.cell_eq {W S : List Cell} {c0 : Cell → V} {e e' : Env V} (h : Rel W S c0 e e') (c : Cell)
    (hc : (!W.contains c || S.contains c) = true) : e.cells c = e'.cells c := by
  simp only [Bool.or_eq_true, Bool.not_eq_true'] at hc
  cases hc with
  | inl hw => rw [h.inv.cells_eq c hw, h.inv'.cells_eq c hw]
  | inr hs => exact h.agree c hs

/-- what the compiled code of `d` sees of its captured variables -/
def jitObs (sem : Sem A V R) (args : A) (d : Disp) (e : Env V) : List V :=
  if d.reuses then
    match e.disp d (sem.sig args d) with
    | some frozen => frozen
    | none => d.caps.map (capVal (sem.capArg args) e.cells)
  else d.caps.map (capVal (sem.capArg args) e.cells)

theorem jit_trace (sem : Sem A V R) (args : A) (d : Disp) (e : Env V) :
    (execAtom sem args (.jit d) e).trace = e.trace ++ jitObs sem args d e := by
  simp only [execAtom, jitObs]
  cases hr : d.reuses
  · simp
  · cases hd : e.disp d (sem.sig args d) <;> simp

theorem upd_agree {f g : Cell → V} {c k : Cell} {v w : V} (hfg : k ≠ c → f k = g k) (hvw : k = c → v = w) :
    upd f c v k = upd g c w k := by
  unfold upd
  split
  · exact hvw ‹_›
  · exact hfg ‹_›

theorem atom_rel (W S : List Cell) (c0 : Cell → V) (sem : Sem A V R) (args : A) (a : Atom) (e e' : Env V)
    (ha : atomOk W S a = true) (h : Rel W S c0 e e') :
    Rel W (seeds S a) c0 (execAtom sem args a e) (execAtom sem args a e') := by
  have hi := atom_inv W c0 sem args a e (capOk_conf W S a ha) h.inv
  have hi' := atom_inv W c0 sem args a e' (capOk_conf W S a ha) h.inv'
  refine ⟨hi, hi', ?_, ?_⟩
  · -- agreement on the overwritten cells
    cases a with
    | seed c =>
      intro k hk
      exact upd_agree (fun hkc => h.agree k (by simpa [seeds, hkc] using hk)) fun _ => by rw [h.trace]
    | read c => intro k hk; exact h.agree k hk
    | draw c =>
      intro k hk
      simp only [atomOk, Bool.and_eq_true] at ha
      exact upd_agree (fun _ => h.agree k hk) fun _ => by rw [h.agree c ha.2]
    | mutate c =>
      intro k hk
      exact upd_agree (fun _ => h.agree k hk) fun hkc => by rw [h.trace, ← hkc, h.agree k hk]
    | jit d =>
      intro k hk
      have hk' : S.contains k = true := hk
      have := h.agree k hk'
      simp only [execAtom]
      split <;> (try split) <;> (try split) <;> exact this
  · -- the observations
    cases a with
    | seed c => exact h.trace
    | read c =>
      simp only [execAtom, h.trace]
      rw [h.cell_eq c ha]
    | draw c =>
      simp only [atomOk, Bool.and_eq_true] at ha
      simp only [execAtom, h.trace]
      rw [h.agree c ha.2]
    | mutate c => exact h.trace
    | jit d =>
      simp only [atomOk] at ha
      rw [jit_trace, jit_trace, h.trace]
      congr 1
      simp only [jitObs]
      by_cases hr : d.reuses = true
      · -- compiled code may be reused: it captured only cells nobody writes
        have hg : goodDisp W d = true := by
          apply List.all_eq_true.mpr
          intro cap hcap
          have := (List.all_eq_true.mp ha) cap hcap
          cases cap with
          | arg n => simp [capOk, hr] at this
          | cell c => simpa [capOk, hr] using this
        have hobs : ∀ (x : Env V), InvE W c0 x →
            (match x.disp d (sem.sig args d) with
              | some frozen => frozen
              | none => d.caps.map (capVal (sem.capArg args) x.cells)) =
            d.caps.map (capVal (sem.capArg args) c0) := by
          intro x hx
          split
          · rename_i frozen hf
            exact hx.disp_ok d _ frozen hf hg _
          · exact good_caps W c0 x.cells d hg hx.cells_eq _ _
        simp only [hr, if_true]
        rw [hobs e h.inv, hobs e' h.inv']
      · -- a dispatcher created by this very call sees the current values
        have hr' : d.reuses = false := by simpa using hr
        simp only [hr', Bool.false_eq_true, if_false]
        apply List.map_congr_left
        intro cap hcap
        have := (List.all_eq_true.mp ha) cap hcap
        cases cap with
        | arg n => rfl
        | cell c =>
          simp only [capVal]
          apply h.cell_eq c
          simpa [capOk, hr'] using this

theorem exec_rel (W : List Cell) (c0 : Cell → V) (sem : Sem A V R) (args : A) :
    ∀ (p : Prog) (S : List Cell) (e e' : Env V), noStale W S p = true → Rel W S c0 e e' →
      Rel W S c0 (exec sem args p e) (exec sem args p e') := by
  intro p
  induction p with
  | nil => intro S e e' _ h; exact h
  | op a rest ih =>
    intro S e e' hn h
    simp only [noStale, Bool.and_eq_true] at hn
    exact (ih _ _ _ hn.2 (atom_rel W S c0 sem args a e e' hn.1 h)).weaken (seeds_mono S a)
  | block body rest ihb ihr =>
    intro S e e' hn h
    simp only [noStale, Bool.and_eq_true] at hn
    simp only [exec]
    apply ihr _ _ _ hn.2
    rw [h.trace]
    generalize sem.iters args e'.trace = n
    induction n generalizing e e' with
    | zero => exact h
    | succ n ihn => exact ihn _ _ (ihb _ _ _ hn.1 h)

theorem step_inv (W : List Cell) (c0 : Cell → V) (s : Lib V) (c : Call A V R)
    (hc : confined W c.prog = true) (hi : InvE W c0 ⟨s.cells, s.disp, []⟩) :
    InvE W c0 ⟨(step s c).1.cells, (step s c).1.disp, []⟩ := by
  have := exec_inv W c0 c.sem c.args c.prog ⟨s.cells, s.disp, []⟩ hc hi
  exact ⟨this.cells_eq, this.disp_ok⟩

theorem runHist_inv (W : List Cell) (c0 : Cell → V) (h : List (Call A V R)) :
    ∀ (s : Lib V), (∀ p ∈ h, confined W p.prog = true) → InvE W c0 ⟨s.cells, s.disp, []⟩ →
      InvE W c0 ⟨(runHist s h).cells, (runHist s h).disp, []⟩ := by
  induction h with
  | nil => intro s _ hi; exact hi
  | cons p ps ih =>
    intro s hh hi
    simp only [runHist, List.foldl_cons]
    exact ih _ (fun q hq => hh q (List.mem_cons_of_mem _ hq))
      (step_inv W c0 s p (hh p (List.mem_cons_self)) hi)

theorem fresh_inv (W : List Cell) (cells : Cell → V) :
    InvE W cells ⟨(Lib.fresh cells).cells, (Lib.fresh cells).disp, []⟩ :=
  ⟨fun _ _ => rfl, fun _ _ _ h => by simp [Lib.fresh] at h⟩

/-- the refinement: from two states satisfying the invariant, a `noStale` call yields the same result -/
theorem step_result_eq (W : List Cell) (c0 : Cell → V) (s s' : Lib V) (c : Call A V R)
    (hc : noStale W [] c.prog = true)
    (hi : InvE W c0 ⟨s.cells, s.disp, []⟩) (hi' : InvE W c0 ⟨s'.cells, s'.disp, []⟩) :
    (step s c).2 = (step s' c).2 := by
  have hr : Rel W [] c0 (⟨s.cells, s.disp, []⟩ : Env V) ⟨s'.cells, s'.disp, []⟩ :=
    ⟨hi, hi', fun c h => by simp at h, rfl⟩
  have := exec_rel W c0 c.sem c.args c.prog [] _ _ hc hr
  simp only [step, this.trace]

/-- by `step_result_eq` the two graphs have the same task functions, and `DF.schedule_independent` does the rest -/
theorem schedule_independent_of_noStale (W : List Cell) (cells : Cell → V)
    (deps : Nat → List Nat) (deps_lt : ∀ i j, j ∈ deps i → j < i)
    (task : Nat → List R → Call A V R) (hp : ∀ i ins, noStale W [] (task i ins).prog = true)
    (hist₁ hist₂ : Nat → List (Call A V R))
    (hh₁ : ∀ i, ∀ p ∈ hist₁ i, confined W p.prog = true) (hh₂ : ∀ i, ∀ p ∈ hist₂ i, confined W p.prog = true)
    (s₁ s₂ : List (List Nat)) (i : Nat) (v w : R)
    (h₁ : DF.run ⟨deps, fun i ins => (step (runHist (Lib.fresh cells) (hist₁ i)) (task i ins)).2, deps_lt⟩ s₁
            (fun _ => none) i = some v)
    (h₂ : DF.run ⟨deps, fun i ins => (step (runHist (Lib.fresh cells) (hist₂ i)) (task i ins)).2, deps_lt⟩ s₂
            (fun _ => none) i = some w) : v = w := by
  have e : (fun i ins => (step (runHist (Lib.fresh cells) (hist₁ i)) (task i ins)).2) =
      (fun i ins => (step (runHist (Lib.fresh cells) (hist₂ i)) (task i ins)).2) := by
    funext i ins
    exact step_result_eq W cells _ _ _ (hp i ins)
      (runHist_inv W cells (hist₁ i) _ (hh₁ i) (fresh_inv W cells))
      (runHist_inv W cells (hist₂ i) _ (hh₂ i) (fresh_inv W cells))
  rw [e] at h₁
  exact DF.schedule_independent _ s₁ s₂ i v w h₁ h₂

end XrsVerif.Effects
