import XrsVerif.Proofs.Zonal
import XrsVerif.Proofs.ListFold
import Mathlib.Tactic.Ring
import Mathlib.Tactic.FieldSimp
/-
  The built-in reducers over an arbitrary linearly ordered field:
  they are order independent, `rmax`/`rmin` (folds) are the greatest / least element, sums over a
  concatenation add, and the dask variance formula `(ss - s^2/n)/n` is the population variance.
-/
set_option linter.unusedSectionVars false
namespace XrsVerif.Zonal

variable {F : Type} [Field F] [LinearOrder F] [IsStrictOrderedRing F]

theorem rmax_spec (l : List F) (hl : l ≠ []) : rmax l ∈ l ∧ ∀ x ∈ l, x ≤ rmax l := by
  cases l with
  | nil => exact absurd rfl hl
  | cons a xs => exact foldl_max_cons a xs

theorem rmin_spec (l : List F) (hl : l ≠ []) : rmin l ∈ l ∧ ∀ x ∈ l, rmin l ≤ x := by
  cases l with
  | nil => exact absurd rfl hl
  | cons a xs => exact foldl_min_cons a xs

/-- a greatest member is unique, so a reducer that returns one (for an antisymmetric `le`, either way round) does not
    depend on the order of the list -/
theorem extremum_perm {α : Type} {le : α → α → Prop} (antisymm : ∀ {a b}, le a b → le b a → a = b) {f : List α → α}
    (hf : ∀ l, l ≠ [] → f l ∈ l ∧ ∀ x ∈ l, le x (f l)) {l l' : List α} (h : l.Perm l') : f l = f l' := by
  by_cases hl : l = []
  · subst hl; rw [h.nil_eq]
  · have hl' : l' ≠ [] := fun e => hl (e ▸ h).eq_nil
    exact antisymm ((hf l' hl').2 _ (h.mem_iff.mp (hf l hl).1)) ((hf l hl).2 _ (h.mem_iff.mpr (hf l' hl').1))

theorem rsum_perm (l l' : List F) (h : l.Perm l') : rsum l = rsum l' := h.sum_eq
theorem rcount_perm (l l' : List F) (h : l.Perm l') : rcount l = rcount l' := by
  unfold rcount; rw [h.length_eq]
theorem rmean_perm (l l' : List F) (h : l.Perm l') : rmean l = rmean l' := by
  unfold rmean; rw [rsum_perm l l' h, rcount_perm l l' h]
theorem rsumsq_perm (l l' : List F) (h : l.Perm l') : rsumsq l = rsumsq l' := (h.map _).sum_eq
theorem rvar_perm (l l' : List F) (h : l.Perm l') : rvar l = rvar l' := by
  unfold rvar; rw [rmean_perm l l' h, rcount_perm l l' h, (h.map _).sum_eq]
theorem rmax_perm (l l' : List F) (h : l.Perm l') : rmax l = rmax l' := extremum_perm le_antisymm rmax_spec h
theorem rmin_perm (l l' : List F) (h : l.Perm l') : rmin l = rmin l' :=
  extremum_perm (le := (· ≥ ·)) (fun h1 h2 => le_antisymm h2 h1) rmin_spec h

theorem Stat.eval_perm (sqrt : F → F) (s : Stat) (l l' : List F) (h : l.Perm l') :
    s.eval sqrt l = s.eval sqrt l' := by
  cases s <;> simp only [Stat.eval]
  · exact rmean_perm l l' h
  · exact rmax_perm l l' h
  · exact rmin_perm l l' h
  · exact rsum_perm l l' h
  · rw [rvar_perm l l' h]
  · exact rvar_perm l l' h
  · exact rcount_perm l l' h

theorem Stat.func_permInv (sqrt : F → F) (s : Stat) : PermInv (Stat.func sqrt s : List (X F) → Option F) := by
  intro l l' h
  unfold Stat.func
  rw [Stat.eval_perm sqrt s _ _ (h.filterMap _)]

theorem rsum_append (a b : List F) : rsum (a ++ b) = rsum a + rsum b := by simp [rsum]
theorem rsumsq_append (a b : List F) : rsumsq (a ++ b) = rsumsq a + rsumsq b := by simp [rsumsq]
theorem rcount_append (a b : List F) : rcount (a ++ b) = rcount a + rcount b := by simp [rcount]

theorem rmax_append (a b : List F) (ha : a ≠ []) (hb : b ≠ []) :
    rmax (a ++ b) = if rmax a < rmax b then rmax b else rmax a := by
  obtain ⟨ma, ga⟩ := rmax_spec a ha
  obtain ⟨mb, gb⟩ := rmax_spec b hb
  obtain ⟨m, g⟩ := rmax_spec (a ++ b) (by simp [ha])
  rw [← max_def_lt]
  apply le_antisymm
  · exact (List.mem_append.mp m).elim (fun h => le_max_of_le_left (ga _ h)) fun h => le_max_of_le_right (gb _ h)
  · exact max_le (g _ (List.mem_append_left _ ma)) (g _ (List.mem_append_right _ mb))

theorem rmin_append (a b : List F) (ha : a ≠ []) (hb : b ≠ []) :
    rmin (a ++ b) = if rmin b < rmin a then rmin b else rmin a := by
  obtain ⟨ma, ga⟩ := rmin_spec a ha
  obtain ⟨mb, gb⟩ := rmin_spec b hb
  obtain ⟨m, g⟩ := rmin_spec (a ++ b) (by simp [ha])
  rw [← min_def_lt]
  apply le_antisymm
  · exact le_min (g _ (List.mem_append_right _ mb)) (g _ (List.mem_append_left _ ma))
  · exact (List.mem_append.mp m).elim (fun h => min_le_of_right_le (ga _ h)) fun h => min_le_of_left_le (gb _ h)

theorem sum_sq_dev (l : List F) (m : F) :
    (l.map (fun x => (x - m) * (x - m))).sum = rsumsq l - 2 * m * rsum l + (l.length : F) * (m * m) := by
  induction l with
  | nil => simp [rsumsq, rsum]
  | cons a l ih =>
    simp only [List.map_cons, List.sum_cons, ih, rsumsq, rsum, List.length_cons, Nat.cast_add, Nat.cast_one]
    ring

theorem length_cast_ne_zero (l : List F) (hl : l ≠ []) : (rcount l) ≠ 0 := by
  have : 0 < l.length := List.length_pos_iff.mpr hl
  exact Nat.cast_ne_zero.mpr (by omega)

/-- `(sum_squares - sum^2 / n) / n` is the population variance (for a non-empty zone) -/
theorem dask_var_eq (l : List F) (hl : l ≠ []) :
    (rsumsq l - rsum l * rsum l / rcount l) / rcount l = rvar l := by
  have hn : (l.length : F) ≠ 0 := length_cast_ne_zero l hl
  unfold rvar rmean
  rw [sum_sq_dev]
  unfold rcount
  field_simp
  ring

theorem dask_mean_eq (l : List F) : rsum l / rcount l = rmean l := rfl

end XrsVerif.Zonal
