import XrsVerif.Proofs.ProximityGrouped
/-!
  The C06 small-grid table: on each of its configurations the four-sweep model equals the exact nearest distance on
  every one of the 2^(H·W) target layouts.  This is a finite fact (the algorithm is not exact from 3×4 on) and is
  checked by kernel evaluation, five configurations at a time: the table lists the nine grid shapes in turn, ten
  unbounded configurations each, then the ten Euclidean and the ten Manhattan thresholds on the 3×3 unit grid.
  What is evaluated is `checkCfg`: on the grids with fewer than six cells `checkAll` itself, the whole model on one
  layout after the other; from six cells on `checkG` (`ProximityGrouped`), which sweeps the layouts that have reached
  the same state together and is proved to imply `checkAll`.  A 3×3 configuration is then at most 1120 line sweeps
  (`checkAll`: 512 · 12) and checks in under ten seconds.  The kernel keeps every intermediate term until the
  declaration is done, so the slices with nine cells are modules of their own (`ProximitySmall3x3`, `…Euclid`,
  `…Manh`: a minute and a half of CPU and 3 GB at the peak each; `…Lt9`: 40 s, 1.6 GB) and are built side by side;
  `ProximitySmallChecked` puts them together.
  The table literal is printed by `harness/tools_C06_small.py`.
-/
namespace XrsVerif.Prox

/-- every grid with H, W ≤ 3, cell sizes (1,1) (1,2) (2,1) (1,3) (3,1), Euclidean and Manhattan, unbounded;
    and the 3×3 unit-cell grid with one finite threshold ⌈2·max²⌉ from every interval on which the two
    threshold tests are constant -/
def smallTable : List Cfg := [
  { H := 1, W := 1, sx := 1, sy := 1, metric := .euclid, max2x2 := none },
  { H := 1, W := 1, sx := 1, sy := 1, metric := .manh, max2x2 := none },
  { H := 1, W := 1, sx := 1, sy := 2, metric := .euclid, max2x2 := none },
  { H := 1, W := 1, sx := 1, sy := 2, metric := .manh, max2x2 := none },
  { H := 1, W := 1, sx := 2, sy := 1, metric := .euclid, max2x2 := none },
  { H := 1, W := 1, sx := 2, sy := 1, metric := .manh, max2x2 := none },
  { H := 1, W := 1, sx := 1, sy := 3, metric := .euclid, max2x2 := none },
  { H := 1, W := 1, sx := 1, sy := 3, metric := .manh, max2x2 := none },
  { H := 1, W := 1, sx := 3, sy := 1, metric := .euclid, max2x2 := none },
  { H := 1, W := 1, sx := 3, sy := 1, metric := .manh, max2x2 := none },
  { H := 1, W := 2, sx := 1, sy := 1, metric := .euclid, max2x2 := none },
  { H := 1, W := 2, sx := 1, sy := 1, metric := .manh, max2x2 := none },
  { H := 1, W := 2, sx := 1, sy := 2, metric := .euclid, max2x2 := none },
  { H := 1, W := 2, sx := 1, sy := 2, metric := .manh, max2x2 := none },
  { H := 1, W := 2, sx := 2, sy := 1, metric := .euclid, max2x2 := none },
  { H := 1, W := 2, sx := 2, sy := 1, metric := .manh, max2x2 := none },
  { H := 1, W := 2, sx := 1, sy := 3, metric := .euclid, max2x2 := none },
  { H := 1, W := 2, sx := 1, sy := 3, metric := .manh, max2x2 := none },
  { H := 1, W := 2, sx := 3, sy := 1, metric := .euclid, max2x2 := none },
  { H := 1, W := 2, sx := 3, sy := 1, metric := .manh, max2x2 := none },
  { H := 1, W := 3, sx := 1, sy := 1, metric := .euclid, max2x2 := none },
  { H := 1, W := 3, sx := 1, sy := 1, metric := .manh, max2x2 := none },
  { H := 1, W := 3, sx := 1, sy := 2, metric := .euclid, max2x2 := none },
  { H := 1, W := 3, sx := 1, sy := 2, metric := .manh, max2x2 := none },
  { H := 1, W := 3, sx := 2, sy := 1, metric := .euclid, max2x2 := none },
  { H := 1, W := 3, sx := 2, sy := 1, metric := .manh, max2x2 := none },
  { H := 1, W := 3, sx := 1, sy := 3, metric := .euclid, max2x2 := none },
  { H := 1, W := 3, sx := 1, sy := 3, metric := .manh, max2x2 := none },
  { H := 1, W := 3, sx := 3, sy := 1, metric := .euclid, max2x2 := none },
  { H := 1, W := 3, sx := 3, sy := 1, metric := .manh, max2x2 := none },
  { H := 2, W := 1, sx := 1, sy := 1, metric := .euclid, max2x2 := none },
  { H := 2, W := 1, sx := 1, sy := 1, metric := .manh, max2x2 := none },
  { H := 2, W := 1, sx := 1, sy := 2, metric := .euclid, max2x2 := none },
  { H := 2, W := 1, sx := 1, sy := 2, metric := .manh, max2x2 := none },
  { H := 2, W := 1, sx := 2, sy := 1, metric := .euclid, max2x2 := none },
  { H := 2, W := 1, sx := 2, sy := 1, metric := .manh, max2x2 := none },
  { H := 2, W := 1, sx := 1, sy := 3, metric := .euclid, max2x2 := none },
  { H := 2, W := 1, sx := 1, sy := 3, metric := .manh, max2x2 := none },
  { H := 2, W := 1, sx := 3, sy := 1, metric := .euclid, max2x2 := none },
  { H := 2, W := 1, sx := 3, sy := 1, metric := .manh, max2x2 := none },
  { H := 2, W := 2, sx := 1, sy := 1, metric := .euclid, max2x2 := none },
  { H := 2, W := 2, sx := 1, sy := 1, metric := .manh, max2x2 := none },
  { H := 2, W := 2, sx := 1, sy := 2, metric := .euclid, max2x2 := none },
  { H := 2, W := 2, sx := 1, sy := 2, metric := .manh, max2x2 := none },
  { H := 2, W := 2, sx := 2, sy := 1, metric := .euclid, max2x2 := none },
  { H := 2, W := 2, sx := 2, sy := 1, metric := .manh, max2x2 := none },
  { H := 2, W := 2, sx := 1, sy := 3, metric := .euclid, max2x2 := none },
  { H := 2, W := 2, sx := 1, sy := 3, metric := .manh, max2x2 := none },
  { H := 2, W := 2, sx := 3, sy := 1, metric := .euclid, max2x2 := none },
  { H := 2, W := 2, sx := 3, sy := 1, metric := .manh, max2x2 := none },
  { H := 2, W := 3, sx := 1, sy := 1, metric := .euclid, max2x2 := none },
  { H := 2, W := 3, sx := 1, sy := 1, metric := .manh, max2x2 := none },
  { H := 2, W := 3, sx := 1, sy := 2, metric := .euclid, max2x2 := none },
  { H := 2, W := 3, sx := 1, sy := 2, metric := .manh, max2x2 := none },
  { H := 2, W := 3, sx := 2, sy := 1, metric := .euclid, max2x2 := none },
  { H := 2, W := 3, sx := 2, sy := 1, metric := .manh, max2x2 := none },
  { H := 2, W := 3, sx := 1, sy := 3, metric := .euclid, max2x2 := none },
  { H := 2, W := 3, sx := 1, sy := 3, metric := .manh, max2x2 := none },
  { H := 2, W := 3, sx := 3, sy := 1, metric := .euclid, max2x2 := none },
  { H := 2, W := 3, sx := 3, sy := 1, metric := .manh, max2x2 := none },
  { H := 3, W := 1, sx := 1, sy := 1, metric := .euclid, max2x2 := none },
  { H := 3, W := 1, sx := 1, sy := 1, metric := .manh, max2x2 := none },
  { H := 3, W := 1, sx := 1, sy := 2, metric := .euclid, max2x2 := none },
  { H := 3, W := 1, sx := 1, sy := 2, metric := .manh, max2x2 := none },
  { H := 3, W := 1, sx := 2, sy := 1, metric := .euclid, max2x2 := none },
  { H := 3, W := 1, sx := 2, sy := 1, metric := .manh, max2x2 := none },
  { H := 3, W := 1, sx := 1, sy := 3, metric := .euclid, max2x2 := none },
  { H := 3, W := 1, sx := 1, sy := 3, metric := .manh, max2x2 := none },
  { H := 3, W := 1, sx := 3, sy := 1, metric := .euclid, max2x2 := none },
  { H := 3, W := 1, sx := 3, sy := 1, metric := .manh, max2x2 := none },
  { H := 3, W := 2, sx := 1, sy := 1, metric := .euclid, max2x2 := none },
  { H := 3, W := 2, sx := 1, sy := 1, metric := .manh, max2x2 := none },
  { H := 3, W := 2, sx := 1, sy := 2, metric := .euclid, max2x2 := none },
  { H := 3, W := 2, sx := 1, sy := 2, metric := .manh, max2x2 := none },
  { H := 3, W := 2, sx := 2, sy := 1, metric := .euclid, max2x2 := none },
  { H := 3, W := 2, sx := 2, sy := 1, metric := .manh, max2x2 := none },
  { H := 3, W := 2, sx := 1, sy := 3, metric := .euclid, max2x2 := none },
  { H := 3, W := 2, sx := 1, sy := 3, metric := .manh, max2x2 := none },
  { H := 3, W := 2, sx := 3, sy := 1, metric := .euclid, max2x2 := none },
  { H := 3, W := 2, sx := 3, sy := 1, metric := .manh, max2x2 := none },
  { H := 3, W := 3, sx := 1, sy := 1, metric := .euclid, max2x2 := none },
  { H := 3, W := 3, sx := 1, sy := 1, metric := .manh, max2x2 := none },
  { H := 3, W := 3, sx := 1, sy := 2, metric := .euclid, max2x2 := none },
  { H := 3, W := 3, sx := 1, sy := 2, metric := .manh, max2x2 := none },
  { H := 3, W := 3, sx := 2, sy := 1, metric := .euclid, max2x2 := none },
  { H := 3, W := 3, sx := 2, sy := 1, metric := .manh, max2x2 := none },
  { H := 3, W := 3, sx := 1, sy := 3, metric := .euclid, max2x2 := none },
  { H := 3, W := 3, sx := 1, sy := 3, metric := .manh, max2x2 := none },
  { H := 3, W := 3, sx := 3, sy := 1, metric := .euclid, max2x2 := none },
  { H := 3, W := 3, sx := 3, sy := 1, metric := .manh, max2x2 := none },
  { H := 3, W := 3, sx := 1, sy := 1, metric := .euclid, max2x2 := some 0 },
  { H := 3, W := 3, sx := 1, sy := 1, metric := .euclid, max2x2 := some 1 },
  { H := 3, W := 3, sx := 1, sy := 1, metric := .euclid, max2x2 := some 2 },
  { H := 3, W := 3, sx := 1, sy := 1, metric := .euclid, max2x2 := some 3 },
  { H := 3, W := 3, sx := 1, sy := 1, metric := .euclid, max2x2 := some 4 },
  { H := 3, W := 3, sx := 1, sy := 1, metric := .euclid, max2x2 := some 5 },
  { H := 3, W := 3, sx := 1, sy := 1, metric := .euclid, max2x2 := some 6 },
  { H := 3, W := 3, sx := 1, sy := 1, metric := .euclid, max2x2 := some 8 },
  { H := 3, W := 3, sx := 1, sy := 1, metric := .euclid, max2x2 := some 9 },
  { H := 3, W := 3, sx := 1, sy := 1, metric := .euclid, max2x2 := some 10 },
  { H := 3, W := 3, sx := 1, sy := 1, metric := .manh, max2x2 := some 0 },
  { H := 3, W := 3, sx := 1, sy := 1, metric := .manh, max2x2 := some 1 },
  { H := 3, W := 3, sx := 1, sy := 1, metric := .manh, max2x2 := some 2 },
  { H := 3, W := 3, sx := 1, sy := 1, metric := .manh, max2x2 := some 3 },
  { H := 3, W := 3, sx := 1, sy := 1, metric := .manh, max2x2 := some 5 },
  { H := 3, W := 3, sx := 1, sy := 1, metric := .manh, max2x2 := some 8 },
  { H := 3, W := 3, sx := 1, sy := 1, metric := .manh, max2x2 := some 10 },
  { H := 3, W := 3, sx := 1, sy := 1, metric := .manh, max2x2 := some 17 },
  { H := 3, W := 3, sx := 1, sy := 1, metric := .manh, max2x2 := some 18 },
  { H := 3, W := 3, sx := 1, sy := 1, metric := .manh, max2x2 := some 32 }
]

theorem smallTable_length : smallTable.length = 110 := rfl

theorem smallTable_unbounded : smallTable.take 90 =
    [1, 2, 3].flatMap fun H => [1, 2, 3].flatMap fun W =>
      [(1, 1), (1, 2), (2, 1), (1, 3), (3, 1)].flatMap fun s => [Metric.euclid, Metric.manh].map fun m =>
        { H := H, W := W, sx := s.1, sy := s.2, metric := m, max2x2 := none } := rfl

/-- what is evaluated for a configuration of the table: below six cells sweeping the layouts one by one is
    cheaper than keeping classes of them -/
def checkCfg (c : Cfg) : Bool := if c.H * c.W < 6 then checkAll c else checkG c

theorem checkCfg_sound (c : Cfg) (h : checkCfg c = true) : checkAll c = true := by
  unfold checkCfg at h
  split at h
  · exact h
  · exact checkG_sound c h

def sliceChecked (k : Nat) : Bool := ((smallTable.drop (5 * k)).take 5).all checkCfg

theorem all_of_slices {α} (p : α → Bool) (n : Nat) (hn : 0 < n) (l : List α)
    (h : ∀ k, n * k < l.length → ((l.drop (n * k)).take n).all p = true) : ∀ a ∈ l, p a = true := by
  intro a ha
  obtain ⟨i, hi, rfl⟩ := List.mem_iff_getElem.mp ha
  have hd := Nat.div_add_mod i n
  refine List.all_eq_true.mp (h (i / n) (by omega)) _ (List.mem_iff_getElem.mpr ⟨i % n, ?_, ?_⟩)
  · have := Nat.mod_lt i hn
    simp only [List.length_take, List.length_drop]; omega
  · simp [hd]

end XrsVerif.Prox
