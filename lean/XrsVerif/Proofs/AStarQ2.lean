import XrsVerif.Proofs.AStarHom
/-
  The executable exact instance `opsQ2` (costs `a + b√2` as pairs of naturals, heuristic 0, i.e.
  Dijkstra) is a homomorphic image of exact field arithmetic, so `search_exact` applies to what
  the driver actually runs.
-/
set_option linter.unusedSectionVars false
namespace XrsVerif.AStar
variable {K : Type} [Field K] [LinearOrder K] [IsStrictOrderedRing K]

def q2val (s : K) (x : Q2) : K := (x.1 : K) + (x.2 : K) * s

theorem Q2.lt_spec (s : K) (hs0 : 0 < s) (hs : s * s = 2) (x y : Q2) :
    Q2.lt x y = decide (q2val s x < q2val s y) := by
  -- p < q·s  with p = x.1 - y.1, q = y.2 - x.2
  have key : q2val s x < q2val s y ↔ (((x.1 : Int) - y.1 : Int) : K) < (((y.2 : Int) - x.2 : Int) : K) * s := by
    unfold q2val; push_cast; constructor <;> intro h <;> linarith
  unfold Q2.lt
  simp only
  generalize ((x.1 : Int) - y.1) = p at *
  generalize ((y.2 : Int) - x.2) = q at *
  rw [decide_eq_decide.mpr key]
  by_cases hp : p < 0
  · simp only [hp, if_true]
    have hpK : (p : K) < 0 := by exact_mod_cast hp
    by_cases hq : q ≥ 0
    · simp only [hq, if_true]
      have hqK : (0 : K) ≤ (q : K) := by exact_mod_cast hq
      symm; rw [decide_eq_true_iff]
      have : 0 ≤ (q : K) * s := mul_nonneg hqK (le_of_lt hs0)
      linarith
    · simp only [hq, if_false]
      have hq' : q < 0 := not_le.mp hq
      have hqK : (q : K) < 0 := by exact_mod_cast hq'
      rw [decide_eq_decide]
      -- p < q s  <->  (-q) s < -p  <->  ((-q) s)^2 < p^2
      have h1 : (p : K) < (q : K) * s ↔ (-(q : K)) * s < -(p : K) := by constructor <;> intro h <;> linarith
      rw [h1, mul_self_lt_mul_self_iff (mul_nonneg (by linarith) (le_of_lt hs0)) (by linarith)]
      have h2 : -(q : K) * s * (-(q : K) * s) = 2 * (q : K) * (q : K) := by
        have : -(q : K) * s * (-(q : K) * s) = (q : K) * (q : K) * (s * s) := by ring
        rw [this, hs]; ring
      have h3 : -(p : K) * -(p : K) = (p : K) * (p : K) := by ring
      rw [h2, h3]
      constructor
      · intro h; exact_mod_cast h
      · intro h; exact_mod_cast h
  · simp only [hp, if_false]
    have hp' : 0 ≤ p := not_lt.mp hp
    have hpK : (0 : K) ≤ (p : K) := by exact_mod_cast hp'
    by_cases hq : q ≤ 0
    · simp only [hq, if_true]
      have hqK : (q : K) ≤ 0 := by exact_mod_cast hq
      symm; rw [decide_eq_false_iff_not]
      have : (q : K) * s ≤ 0 := mul_nonpos_of_nonpos_of_nonneg hqK (le_of_lt hs0)
      linarith
    · simp only [hq, if_false]
      have hq' : 0 < q := not_le.mp hq
      have hqK : (0 : K) < (q : K) := by exact_mod_cast hq'
      rw [decide_eq_decide]
      rw [mul_self_lt_mul_self_iff hpK (mul_nonneg (le_of_lt hqK) (le_of_lt hs0))]
      have h2 : (q : K) * s * ((q : K) * s) = 2 * (q : K) * (q : K) := by
        have : (q : K) * s * ((q : K) * s) = (q : K) * (q : K) * (s * s) := by ring
        rw [this, hs]; ring
      rw [h2]
      constructor
      · intro h; exact_mod_cast h
      · intro h; exact_mod_cast h

def wtQ (s : K) (u v : Cell) : K := q2val s (stepQ2 u v)

theorem wtQ_cases (s : K) (u v : Cell) : wtQ s u v = 1 ∨ wtQ s u v = s := by
  unfold wtQ stepQ2 q2val
  split <;> simp

theorem opsQ2_hom (s : K) (hs0 : 0 < s) (hs : s * s = 2) :
    OpsHom (q2val s) opsQ2 (fieldOps (wtQ s) (fun _ _ => 0)) where
  zero := by simp [q2val, opsQ2, fieldOps]
  add a b := by simp only [q2val, opsQ2, fieldOps]; push_cast; ring
  lt a b := by simp only [opsQ2, fieldOps]; exact Q2.lt_spec s hs0 hs a b
  step u v := rfl
  heur u v := by simp [q2val, opsQ2, fieldOps]
  big h w := by simp only [q2val, opsQ2, fieldOps]; push_cast; ring

/-- **the exact instance the driver runs is complete and optimal**: for every square root of two
    `s` in an ordered field, the pair `(a, b)` it reports at the goal satisfies
    `a + b·s ≤` the length of every route (steps cost `1` or `s`), it reports a path whenever a
    route exists, and it never reaches the sentinel -/
theorem search_q2_exact (s : K) (hs : s * s = 2) (hs0 : 0 < s) (e : Env Q2) (hops : e.ops = opsQ2)
    (hstart : inside e.h e.w e.start = true) :
    match search e with
    | .path chain g => ValidPath e chain g ∧
        ∀ l, Route (e.withOps (fieldOps (wtQ s) (fun _ _ => 0))) e.goal l → q2val s (g e.goal) ≤ l
    | .noPath => ∀ l, ¬ Route e e.goal l
    | .anomaly _ => False := by
  have hs1 : 1 ≤ s := by by_contra h; have := not_le.mp h; nlinarith
  have hs2 : s < 2 := by by_contra h; have := not_lt.mp h; nlinarith
  have hom : OpsHom (q2val s) e.ops (fieldOps (wtQ s) (fun _ _ => 0)) := hops ▸ opsQ2_hom s hs0 hs
  have hK := search_exact (e := e.withOps (fieldOps (wtQ s) (fun _ _ => 0))) (wt := wtQ s)
    (hh := fun _ _ => 0) rfl
    (by
      intro u v _ _ _
      rcases wtQ_cases s u v with h | h
      · rw [h]; simp
      · rw [h]; simp; linarith)
    hstart (s := s) (le_of_lt hs0) hs2
    (by intro u v _; rcases wtQ_cases s u v with h | h
        · rw [h]; exact hs1
        · rw [h])
    (by intro v _; positivity)
  rw [← search_map hom] at hK
  have hgen := search_spec e hstart (fun _ => True) (fun _ _ _ _ _ _ => trivial) trivial
  cases hsr : search e with
  | path chain g =>
    rw [hsr] at hK hgen
    simp only [Outcome.map] at hK
    exact ⟨hgen.1, hK.2⟩
  | noPath => rw [hsr] at hgen; exact hgen
  | anomaly w => rw [hsr] at hK; simp [Outcome.map] at hK

end XrsVerif.AStar
