import XrsVerif.Core.Fl
import XrsVerif.Model.Trim
/-
  The exact extended numbers `Wire.Num` (NaN, ±inf, rationals) read as a number type `Fl`,
  so that a generated ILang program (generic in `[Fl F]`) can be run, in theorems, on the very values the hand
  models of Model/Trim.lean are about.

  Comparisons and the NaN / finiteness tests are the IEEE ones (NaN compares false with everything, `inf == inf`);
  `+ - * / neg abs` are the IEEE operations on extended rationals without signed zeros (`0/0`, `inf - inf`,
  `0 * inf` are NaN; `x/0` is ±inf).  The irrational functions are not representable and return NaN: nothing that is
  proved through this instance may depend on them -- the refinement theorems of `_trim` / `_crop` hold for *every*
  instance of `Fl` and use only `Fl.eq` and `Fl.isnan`.
-/
namespace XrsVerif
open XrsVerif.Wire

namespace NumFl

def sgn (q : Rat) : Int := if q < 0 then -1 else if 0 < q then 1 else 0

def infOf (sg : Int) : Num := if sg < 0 then .ninf else if 0 < sg then .pinf else .nan

def sgnN : Num → Int
  | .nan => 0 | .pinf => 1 | .ninf => -1 | .fin q => sgn q

def add : Num → Num → Num
  | .nan, _ | _, .nan => .nan
  | .pinf, .ninf | .ninf, .pinf => .nan
  | .pinf, _ | _, .pinf => .pinf
  | .ninf, _ | _, .ninf => .ninf
  | .fin a, .fin b => .fin (a + b)

def neg : Num → Num
  | .nan => .nan | .pinf => .ninf | .ninf => .pinf | .fin q => .fin (-q)

def mul : Num → Num → Num
  | .nan, _ | _, .nan => .nan
  | .fin a, .fin b => .fin (a * b)
  | a, b => infOf (sgnN a * sgnN b)

/-- a zero divisor counts as positive (no signed zeros) -/
def div : Num → Num → Num
  | .nan, _ | _, .nan => .nan
  | .fin a, .fin b => if b = 0 then infOf (sgn a) else .fin (a / b)
  | .fin _, .pinf | .fin _, .ninf => .fin 0
  | .pinf, .fin b => if b < 0 then .ninf else .pinf
  | .ninf, .fin b => if b < 0 then .pinf else .ninf
  | _, _ => .nan

def lt : Num → Num → Bool
  | .nan, _ | _, .nan => false
  | .fin a, .fin b => decide (a < b)
  | .ninf, .ninf | .pinf, _ => false
  | .ninf, _ => true
  | .fin _, .pinf => true
  | .fin _, .ninf => false

end NumFl

instance numFl : Fl Num where
  lit n d := .fin ((n : Rat) / (d : Rat))
  nan := .nan
  add := NumFl.add
  sub a b := NumFl.add a (NumFl.neg b)
  mul := NumFl.mul
  div := NumFl.div
  neg := NumFl.neg
  abs a := if NumFl.sgnN a < 0 then NumFl.neg a else a
  lt := NumFl.lt
  le a b := NumFl.lt a b || Trim.ieeeEq a b
  eq := Trim.ieeeEq
  isnan a := a == .nan
  isfinite a := match a with | .fin _ => true | _ => false
  sqrt _ := .nan
  atan _ := .nan
  atan2 _ _ := .nan
  exp _ := .nan
  sin _ := .nan
  cos _ := .nan
  asin _ := .nan

@[simp] theorem numFl_eq (a b : Num) : (Fl.eq a b : Bool) = Trim.ieeeEq a b := rfl
@[simp] theorem numFl_isnan (a : Num) : (Fl.isnan a : Bool) = (a == Num.nan) := rfl

end XrsVerif
