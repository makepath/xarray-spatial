import XrsVerif.Proofs.ILViewshedDelPass
import XrsVerif.Proofs.Viewshed
/-
  Over a linear order the code-form deletion `rbDeleteP eqv` (search, four passes over the ancestors as the code runs
  them, colour fix-up; Proofs/ILViewshedDelPass.lean) is the hand model's deletion: `delCore` (Model/Viewshed.lean: one
  bottom-up recursion `del` / `ancestor` that carries what the passes need) followed by the colour fix-up `rbDelFix` at
  the position of `x` -- `rbDelete` (Model/ViewshedFix.lean).
  The recursion of the hand model is a fold of `ancestor` over the ancestors of `y` (`del_fold`, `delMin_fold`); that
  fold, frame by frame, is loop L1 carried along (`l1Go`) with F1 at the first frame, C at `z`, L2 above `z`
  (`foldAnc_below`, `foldAnc_above`); loop L1 carried along is the pass `scanT (l1Step ..)` (`l1Go_run`).
-/
set_option linter.unusedSectionVars false
namespace XrsVerif.ILVs
open XrsVerif XrsVerif.Viewshed

section
variable {α : Type} [LinearOrder α]

def ancFr (S : α) (fr : TFr α) (res : DelRes α) : DelRes α := ancestor S fr.dir fr.nd fr.mx fr.col fr.sb res

def foldAnc (S : α) (res : DelRes α) (fs : List (TFr α)) : DelRes α := fs.foldl (fun r fr => ancFr S fr r) res

theorem foldAnc_nil (S : α) (res : DelRes α) : foldAnc S res [] = res := rfl
theorem foldAnc_cons (S : α) (res : DelRes α) (fr : TFr α) (fs : List (TFr α)) :
    foldAnc S res (fr :: fs) = foldAnc S (ancFr S fr res) fs := rfl
theorem foldAnc_append (S : α) (res : DelRes α) (a b : List (TFr α)) :
    foldAnc S res (a ++ b) = foldAnc S (foldAnc S res a) b := by simp [foldAnc, List.foldl_append]

/-- what the recursion starts with at `y`: `xT` the subtree of its only child -/
def baseRes (S : α) (xT : Viewshed.Tree α) (yn : Node α) : DelRes α :=
  { t := xT, m1 := mxOf S xT, l1 := true, yv := minv yn, atY := true, xpr := S, zg := none }

/-- the step at `z` in the successor case -/
def zStep (S : α) (l : Viewshed.Tree α) (n : Node α) (mx : α) (c : Bool) (yn : Node α) (res : DelRes α) : DelRes α :=
  { t := .node l yn (recompM (mxOf S l) (mxOf S res.t) (minv yn)) c res.t,
    m1 := if (res.l1 && eqv mx res.yv) then recompM (mxOf S l) res.m1 (minv n) else mx,
    l1 := res.l1 && eqv mx res.yv, yv := res.yv, atY := false,
    xpr := if res.atY then mxOf S res.t else res.xpr, zg := some (minv n) }

/-- `del` at the node that holds the key -/
def delHere (S : α) (l : Viewshed.Tree α) (n : Node α) (mx : α) (c : Bool) (r : Viewshed.Tree α) : Option (DelRes α) :=
  match l, r with
  | .nil, _ => some (baseRes S r n)
  | _, .nil => some (baseRes S l n)
  | _, _ =>
    match delMin S r with
    | none => none
    | some (yn, res) => some (zStep S l n mx c yn res)

theorem del_node (S k : α) (l : Viewshed.Tree α) (n : Node α) (mx : α) (c : Bool) (r : Viewshed.Tree α) :
    del S k (.node l n mx c r) =
      if k < n.key then (del S k l).map (ancestor S .L n mx c r)
      else if n.key < k then (del S k r).map (ancestor S .R n mx c l)
      else delHere S l n mx c r := by
  cases l <;> cases r <;> simp only [del, delHere] <;> rfl

theorem del_fold (S k : α) : ∀ (t : Viewshed.Tree α) (acc : List (TFr α)) (l : Viewshed.Tree α) (n : Node α) (mx : α) (c : Bool)
    (r : Viewshed.Tree α) (acc' : List (TFr α)), findTZ k t acc = some (l, n, mx, c, r, acc') →
    ∃ fs, acc' = fs ++ acc ∧ del S k t = (delHere S l n mx c r).map (fun res => foldAnc S res fs) := by
  intro t
  induction t with
  | nil => intro acc l n mx c r acc' h; simp [findTZ] at h
  | node tl tn tm tc tr ihl ihr =>
    intro acc l n mx c r acc' h
    simp only [findTZ] at h
    rw [del_node]
    by_cases h1 : k < tn.key
    · rw [if_pos h1] at h ⊢
      obtain ⟨fs, e1, e2⟩ := ihl _ _ _ _ _ _ _ h
      refine ⟨fs ++ [.L tn tm tc tr], by rw [e1]; simp, ?_⟩
      rw [e2, Option.map_map]
      congr 1
      funext res
      simp only [Function.comp, foldAnc_append, foldAnc_cons, foldAnc_nil]
      rfl
    · rw [if_neg h1] at h ⊢
      by_cases h2 : tn.key < k
      · rw [if_pos h2] at h ⊢
        obtain ⟨fs, e1, e2⟩ := ihr _ _ _ _ _ _ _ h
        refine ⟨fs ++ [.R tl tn tm tc], by rw [e1]; simp, ?_⟩
        rw [e2, Option.map_map]
        congr 1
        funext res
        simp only [Function.comp, foldAnc_append, foldAnc_cons, foldAnc_nil]
        rfl
      · rw [if_neg h2] at h ⊢
        simp only [Option.some.injEq, Prod.mk.injEq] at h
        obtain ⟨rfl, rfl, rfl, rfl, rfl, rfl⟩ := h
        exact ⟨[], rfl, by simp [foldAnc_nil]⟩

theorem delMin_node (S : α) (a : Viewshed.Tree α) (b : Node α) (bm : α) (bc : Bool) (cc : Viewshed.Tree α) (n : Node α) (mx : α) (c : Bool)
    (r : Viewshed.Tree α) : delMin S (.node (.node a b bm bc cc) n mx c r) =
      match delMin S (.node a b bm bc cc) with
      | none => none
      | some (yn, res) => some (yn, ancestor S .L n mx c r res) := by
  simp only [delMin]
  generalize delMin S (.node a b bm bc cc) = o
  cases o with
  | none => rfl
  | some p => cases p; rfl

theorem delMin_fold (S : α) : ∀ (rl : Viewshed.Tree α) (m : Node α) (mm : α) (mc : Bool) (rr : Viewshed.Tree α) (acc : List (TFr α)),
    ∃ fs, (leftmostTZ rl m mm mc rr acc).2.2.2 = fs ++ acc ∧
      delMin S (.node rl m mm mc rr) = some ((leftmostTZ rl m mm mc rr acc).1,
        foldAnc S (baseRes S (leftmostTZ rl m mm mc rr acc).2.2.1 (leftmostTZ rl m mm mc rr acc).1) fs) := by
  intro rl
  induction rl with
  | nil => intro m mm mc rr acc; exact ⟨[], rfl, rfl⟩
  | node a b bm bc cc iha _ =>
    intro m mm mc rr acc
    obtain ⟨fs, e1, e2⟩ := iha b bm bc cc (.L m mm mc rr :: acc)
    refine ⟨fs ++ [.L m mm mc rr], ?_, ?_⟩
    · show (leftmostTZ a b bm bc cc (.L m mm mc rr :: acc)).2.2.2 = _
      rw [e1]; simp
    · rw [delMin_node, e2]
      show some (_, _) = some ((leftmostTZ a b bm bc cc (.L m mm mc rr :: acc)).1,
        foldAnc S (baseRes S (leftmostTZ a b bm bc cc (.L m mm mc rr :: acc)).2.2.1
          (leftmostTZ a b bm bc cc (.L m mm mc rr :: acc)).1) (fs ++ [.L m mm mc rr]))
      rw [foldAnc_append]
      rfl

theorem DelRes.ext' {a b : DelRes α} (h1 : a.t = b.t) (h2 : a.m1 = b.m1) (h3 : a.l1 = b.l1) (h4 : a.yv = b.yv)
    (h5 : a.atY = b.atY) (h6 : a.xpr = b.xpr) (h7 : a.zg = b.zg) : a = b := by
  cases a; cases b; simp_all

theorem setMx_setMx (fr : TFr α) (a b : α) : (fr.setMx a).setMx b = fr.setMx b := by cases fr <;> rfl
theorem setMx_self (fr : TFr α) : fr.setMx fr.mx = fr := by cases fr <;> rfl
theorem setMx_mx (fr : TFr α) (a : α) : (fr.setMx a).mx = a := by cases fr <;> rfl
theorem setMx_nd (fr : TFr α) (a : α) : (fr.setMx a).nd = fr.nd := by cases fr <;> rfl
theorem setMx_kids (S cm : α) (fr : TFr α) (a : α) : (fr.setMx a).kids S cm = fr.kids S cm := by cases fr <;> rfl

/-- the value loop L1 gives a frame: recomputed while the loop runs and the stored maximum equals `minv y` -/
def l1P1 (S yv : α) (run : Bool) (cm : α) (fr : TFr α) : α :=
  if (run && eqv fr.mx yv) then recompM (fr.kids S cm).1 (fr.kids S cm).2 (minv fr.nd) else fr.mx

/-- loop L1 carried along the ancestors: the frames afterwards, the maximum of the topmost one, whether L1 still runs -/
def l1Go (S yv : α) : Bool → α → List (TFr α) → List (TFr α) × α × Bool
  | run, cm, [] => ([], cm, run)
  | run, cm, fr :: rest =>
    (fr.setMx (l1P1 S yv run cm fr) :: (l1Go S yv (run && eqv fr.mx yv) (l1P1 S yv run cm fr) rest).1,
      (l1Go S yv (run && eqv fr.mx yv) (l1P1 S yv run cm fr) rest).2.1,
      (l1Go S yv (run && eqv fr.mx yv) (l1P1 S yv run cm fr) rest).2.2)

/-- the value loop L2 gives a frame -/
def l2V (S zg xpr cm : α) (fr : TFr α) : α :=
  if eqv fr.mx zg then
    (if !(eqv (minv fr.nd) zg) && !(eqv (fr.kids S cm).1 zg && eqv xpr zg) then fr.recompL S cm else fr.mx)
  else (if fr.mx < cm then cm else fr.mx)

theorem l2Step_eq (S zg xpr cm : α) (fr : TFr α) : l2Step eqv S zg xpr cm fr = some (l2V S zg xpr cm fr) := rfl

theorem ancFr_none (S : α) (fr : TFr α) (res : DelRes α) (hz : res.zg = none) (ha : res.atY = false) :
    ancFr S fr res = DelRes.mk ((fr.setMx (l1P1 S res.yv res.l1 res.m1 fr)).fill res.t)
        (l1P1 S res.yv res.l1 res.m1 fr)
        (res.l1 && eqv fr.mx res.yv)
        (res.yv)
        (false)
        (res.xpr)
        (none) := by
  cases fr <;>
    simp only [ancFr, ancestor, hz, ha, TFr.dir, TFr.nd, TFr.mx, TFr.col, TFr.sb, l1P1, TFr.kids, TFr.setMx, TFr.fill,
      Bool.false_eq_true, if_false]

theorem ancFr_some (S : α) (fr : TFr α) (res : DelRes α) (zg : α) (hz : res.zg = some zg) (ha : res.atY = false) :
    ancFr S fr res =
      DelRes.mk ((fr.setMx (l2V S zg res.xpr (mxOf S res.t) (fr.setMx (l1P1 S res.yv res.l1 res.m1 fr)))).fill res.t)
        (l1P1 S res.yv res.l1 res.m1 fr)
        (res.l1 && eqv fr.mx res.yv)
        (res.yv)
        (false)
        (res.xpr)
        (some zg) := by
  cases fr <;>
    simp only [ancFr, ancestor, hz, ha, TFr.dir, TFr.nd, TFr.mx, TFr.col, TFr.sb, l1P1, TFr.kids, TFr.setMx, TFr.fill,
      Bool.false_eq_true, if_false, l2V, TFr.recompL, recompM, mx2_eq_max, max_comm]

theorem ancFr_base (S : α) (fr : TFr α) (xT : Viewshed.Tree α) (yn : Node α) :
    ancFr S fr (baseRes S xT yn) =
      DelRes.mk ((fr.setMx (fr.recompF S (mxOf S xT))).fill xT)
        (l1P1 S (minv yn) true (mxOf S xT) fr)
        (eqv fr.mx (minv yn))
        (minv yn)
        (false)
        (xprOf S xT [fr])
        (none) := by
  cases fr <;>
    simp only [ancFr, ancestor, baseRes, TFr.dir, TFr.nd, TFr.mx, TFr.col, TFr.sb, l1P1, TFr.kids, TFr.setMx, TFr.fill,
      Bool.true_and, if_true, TFr.recompF, recompM, xprOf]

/-- below `z`: the fold is loop L1 carried along -/
theorem foldAnc_below (S : α) : ∀ (fs : List (TFr α)) (res : DelRes α), res.zg = none → res.atY = false →
    foldAnc S res fs = DelRes.mk (plugT res.t (l1Go S res.yv res.l1 res.m1 fs).1)
        ((l1Go S res.yv res.l1 res.m1 fs).2.1)
        ((l1Go S res.yv res.l1 res.m1 fs).2.2)
        (res.yv)
        (false)
        (res.xpr)
        (none) := by
  intro fs
  induction fs with
  | nil => intro res hz ha; exact DelRes.ext' rfl rfl rfl rfl ha rfl hz
  | cons fr rest ih =>
    intro res hz ha
    rw [foldAnc_cons, ancFr_none S fr res hz ha, ih _ rfl rfl]
    exact DelRes.ext' (by simp only [l1Go]; rw [plugT_cons]) rfl rfl rfl rfl rfl rfl

/-- above `z`: the fold is loop L1 carried along, then loop L2 over the result -/
theorem foldAnc_above (S : α) (zg : α) : ∀ (fs : List (TFr α)) (res : DelRes α), res.zg = some zg → res.atY = false →
    foldAnc S res fs =
      DelRes.mk (plugT res.t (scanT (l2Step eqv S zg res.xpr) (mxOf S res.t) (l1Go S res.yv res.l1 res.m1 fs).1))
        ((l1Go S res.yv res.l1 res.m1 fs).2.1)
        ((l1Go S res.yv res.l1 res.m1 fs).2.2)
        (res.yv)
        (false)
        (res.xpr)
        (some zg) := by
  intro fs
  induction fs with
  | nil => intro res hz ha; exact DelRes.ext' rfl rfl rfl rfl ha rfl hz
  | cons fr rest ih =>
    intro res hz ha
    rw [foldAnc_cons, ancFr_some S fr res zg hz ha, ih _ rfl rfl]
    refine DelRes.ext' ?_ rfl rfl rfl rfl rfl rfl
    simp only [l1Go, scanT, l2Step_eq, mxOf_fill, setMx_mx, setMx_setMx]
    rw [plugT_cons]

theorem l1Go_stopped (S yv : α) : ∀ (fs : List (TFr α)) (cm : α), (l1Go S yv false cm fs).1 = fs := by
  intro fs
  induction fs with
  | nil => intro cm; rfl
  | cons fr rest ih =>
    intro cm
    simp only [l1Go, l1P1, Bool.false_and, Bool.false_eq_true, if_false, setMx_self, ih]

/-- **loop L1 carried along is the pass of the code** -/
theorem l1Go_run (S yv : α) : ∀ (fs : List (TFr α)) (cm : α),
    (l1Go S yv true cm fs).1 = scanT (l1Step eqv S yv) cm fs := by
  intro fs
  induction fs with
  | nil => intro cm; rfl
  | cons fr rest ih =>
    intro cm
    by_cases h : eqv fr.mx yv = true
    · have e : fr.recompL S cm = recompM (fr.kids S cm).1 (fr.kids S cm).2 (minv fr.nd) := by
        simp only [TFr.recompL, recompM, mx2_eq_max, max_comm]
      simp only [l1Go, l1P1, Bool.true_and, h, if_true, scanT, l1Step, e, ih]
    · have h' : eqv fr.mx yv = false := eq_false_of_ne_true h
      simp only [l1Go, l1P1, Bool.true_and, h', Bool.false_eq_true, if_false, scanT, l1Step, setMx_self, l1Go_stopped]

theorem l1Go_append (S yv : α) : ∀ (a b : List (TFr α)) (run : Bool) (cm : α),
    l1Go S yv run cm (a ++ b) =
      ((l1Go S yv run cm a).1 ++ (l1Go S yv (l1Go S yv run cm a).2.2 (l1Go S yv run cm a).2.1 b).1,
        (l1Go S yv (l1Go S yv run cm a).2.2 (l1Go S yv run cm a).2.1 b).2.1,
        (l1Go S yv (l1Go S yv run cm a).2.2 (l1Go S yv run cm a).2.1 b).2.2) := by
  intro a
  induction a with
  | nil => intro b run cm; rfl
  | cons fr rest ih =>
    intro b run cm
    simp only [List.cons_append, l1Go, ih]

theorem l1Go_length (S yv : α) : ∀ (fs : List (TFr α)) (run : Bool) (cm : α), (l1Go S yv run cm fs).1.length = fs.length := by
  intro fs
  induction fs with
  | nil => intro run cm; rfl
  | cons fr rest ih => intro run cm; simp only [l1Go, List.length_cons, ih]

theorem l1f1T_cons (S : α) (xT : Viewshed.Tree α) (yn : Node α) (f0 : TFr α) (rest : List (TFr α)) :
    l1f1T eqv S xT yn (f0 :: rest) =
      (xT, f0.setMx (f0.recompF S (mxOf S xT)) ::
        (l1Go S (minv yn) (eqv f0.mx (minv yn)) (l1P1 S (minv yn) true (mxOf S xT) f0) rest).1) := by
  have hrf : ∀ a : α, (f0.setMx a).recompF S (mxOf S xT) = f0.recompF S (mxOf S xT) := fun a => by
    cases f0 <;> rfl
  by_cases h : eqv f0.mx (minv yn) = true
  · have e : f0.recompL S (mxOf S xT) = recompM (f0.kids S (mxOf S xT)).1 (f0.kids S (mxOf S xT)).2 (minv f0.nd) := by
      simp only [TFr.recompL, recompM, mx2_eq_max, max_comm]
    simp only [l1f1T, scanT, l1Step, h, if_true, hrf, setMx_setMx, l1P1, Bool.true_and, e, l1Go_run]
  · have h' : eqv f0.mx (minv yn) = false := eq_false_of_ne_true h
    simp only [l1f1T, scanT, l1Step, h', Bool.false_eq_true, if_false, l1Go_stopped]

theorem xprOf_setMx (S : α) (xT : Viewshed.Tree α) (f0 : TFr α) (a : α) (rest rest' : List (TFr α)) :
    xprOf S xT (f0.setMx a :: rest) = xprOf S xT (f0 :: rest') := by cases f0 <;> rfl

/-- no successor: loop L1 and F1 -/
theorem foldAnc_plain (S : α) (xT : Viewshed.Tree α) (yn : Node α) (fs : List (TFr α)) :
    (if (foldAnc S (baseRes S xT yn) fs).atY then refresh S (foldAnc S (baseRes S xT yn) fs).t
      else (foldAnc S (baseRes S xT yn) fs).t) =
      plugT (delPassT eqv S xT yn fs none).1 (delPassT eqv S xT yn fs none).2 := by
  cases fs with
  | nil => rfl
  | cons f0 rest =>
    rw [foldAnc_cons, ancFr_base, foldAnc_below S rest _ rfl rfl]
    simp only [delPassT, l1f1T_cons, Bool.false_eq_true, if_false]
    rw [plugT_cons]

/-- the successor case: loop L1, F1, C at `z`, loop L2 above -/
theorem foldAnc_succ (S : α) (l : Viewshed.Tree α) (n : Node α) (mx : α) (c : Bool) (yn : Node α) (yr : Viewshed.Tree α)
    (below above : List (TFr α)) :
    (foldAnc S (zStep S l n mx c yn (foldAnc S (baseRes S yr yn) below)) above).t =
      plugT (delPassT eqv S yr yn (below ++ .R l n mx c :: above) (some below.length)).1
        (delPassT eqv S yr yn (below ++ .R l n mx c :: above) (some below.length)).2 ∧
    (foldAnc S (zStep S l n mx c yn (foldAnc S (baseRes S yr yn) below)) above).atY = false := by
  cases below with
  | nil =>
    rw [foldAnc_nil, foldAnc_above S (minv n) above _ rfl rfl]
    refine ⟨?_, rfl⟩
    simp only [zStep, baseRes, delPassT, List.nil_append, List.length_nil, l1f1T_cons, cl2T, TFr.setMx, TFr.setNd,
      TFr.recompF, TFr.kids, TFr.nd, TFr.mx, xprOf, l1P1, Bool.true_and, if_true, plugT, mxOf, recompM]
  | cons b0 brest =>
    rw [foldAnc_cons, ancFr_base, foldAnc_below S brest _ rfl rfl, foldAnc_above S (minv n) above _ rfl rfl]
    refine ⟨?_, rfl⟩
    obtain ⟨B, hB⟩ : ∃ B, B = l1Go S (minv yn) (eqv b0.mx (minv yn)) (l1P1 S (minv yn) true (mxOf S yr) b0) brest := ⟨_, rfl⟩
    obtain ⟨b0', hb0⟩ : ∃ b0', b0' = b0.setMx (b0.recompF S (mxOf S yr)) := ⟨_, rfl⟩
    rw [← hB, ← hb0]
    dsimp only [zStep]
    simp only [Bool.false_eq_true, if_false]
    obtain ⟨pz, hpz⟩ : ∃ pz, pz = (if (B.2.2 && eqv mx (minv yn)) then recompM (mxOf S l) B.2.1 (minv n) else mx) := ⟨_, rfl⟩
    obtain ⟨A1, hA1⟩ : ∃ A1, A1 = (l1Go S (minv yn) (B.2.2 && eqv mx (minv yn)) pz above).1 := ⟨_, rfl⟩
    rw [← hpz, ← hA1]
    have hL : l1f1T eqv S yr yn ((b0 :: brest) ++ TFr.R l n mx c :: above) = (yr, (b0' :: B.1) ++ TFr.R l n pz c :: A1) := by
      rw [List.cons_append, l1f1T_cons, l1Go_append, ← hB, ← hb0, hA1, hpz]
      rfl
    have hj : (b0 :: brest).length = (b0' :: B.1).length := by
      rw [hB]; simp only [List.length_cons, l1Go_length]
    have hTb : plugT (b0'.fill yr) B.1 = plugT yr (b0' :: B.1) := (plugT_cons yr b0' B.1).symm
    have hxp : xprOf S yr ((b0' :: B.1) ++ TFr.R l n pz c :: A1) = xprOf S yr [b0] := by
      rw [List.cons_append, hb0]; exact xprOf_setMx S yr b0 _ _ []
    simp only [delPassT, hL]
    rw [hj, cl2T_append, hxp, hTb, plugT_append, mxOf_plugT]
    rfl

/-- **the pass form is the hand model's recursion**: with the key found at `(l, n, mx, c, r)` below the ancestors `fs`,
    `delCore` is the tree after the four passes of the code -/
theorem delPassT_eq_delCore (S k : α) (t : Viewshed.Tree α) (l : Viewshed.Tree α) (n : Node α) (mx : α) (c : Bool)
    (r : Viewshed.Tree α) (fs : List (TFr α)) (hf : findTZ k t [] = some (l, n, mx, c, r, fs)) :
    delCore S k t = some (plugT
      (delPassT eqv S (splicePosT l n mx c r fs).1 (splicePosT l n mx c r fs).2.1 (splicePosT l n mx c r fs).2.2.2.1
        (splicePosT l n mx c r fs).2.2.2.2).1
      (delPassT eqv S (splicePosT l n mx c r fs).1 (splicePosT l n mx c r fs).2.1 (splicePosT l n mx c r fs).2.2.2.1
        (splicePosT l n mx c r fs).2.2.2.2).2) := by
  obtain ⟨fs', e1, e2⟩ := del_fold S k t [] l n mx c r fs hf
  rw [List.append_nil] at e1
  subst e1
  unfold delCore
  rw [e2]
  cases l with
  | nil =>
    simp only [delHere, Option.map_some, splicePosT]
    exact congrArg some (foldAnc_plain S r n fs)
  | node a b bm bc cc =>
    cases r with
    | nil =>
      simp only [delHere, Option.map_some, splicePosT]
      exact congrArg some (foldAnc_plain S _ n fs)
    | node rl m mm mc rr =>
      obtain ⟨below, h1, h2⟩ := delMin_fold S rl m mm mc rr (.R (.node a b bm bc cc) n mx c :: fs)
      have hlen : (leftmostTZ rl m mm mc rr (.R (.node a b bm bc cc) n mx c :: fs)).2.2.2.length - (fs.length + 1) =
          below.length := by rw [h1]; simp
      simp only [delHere, h2, Option.map_some, splicePosT, hlen]
      rw [h1]
      obtain ⟨g1, g2⟩ := foldAnc_succ S (.node a b bm bc cc) n mx c _ _ below fs
      rw [g2]
      exact congrArg some g1

theorem minInfo_leftmost : ∀ (rl : Viewshed.Tree α) (m : Node α) (mm : α) (mc : Bool) (rr : Viewshed.Tree α)
    (acc : List (TFr α)),
    minInfo rl mc rr (acc.map TFr.dir) =
      ((leftmostTZ rl m mm mc rr acc).2.2.2.map TFr.dir, (leftmostTZ rl m mm mc rr acc).2.1,
        isNil (leftmostTZ rl m mm mc rr acc).2.2.1) := by
  intro rl
  induction rl with
  | nil => intro m mm mc rr acc; simp only [minInfo, leftmostTZ]
  | node a b bm bc cc iha _ =>
    intro m mm mc rr acc
    exact iha b bm bc cc (.L m mm mc rr :: acc)

theorem spliceInfo_findTZ (k : α) : ∀ (t : Viewshed.Tree α) (acc : List (TFr α)),
    spliceInfo k t (acc.map TFr.dir) =
      (findTZ k t acc).map fun p =>
        ((splicePosT p.1 p.2.1 p.2.2.1 p.2.2.2.1 p.2.2.2.2.1 p.2.2.2.2.2).2.2.2.1.map TFr.dir,
          (splicePosT p.1 p.2.1 p.2.2.1 p.2.2.2.1 p.2.2.2.2.1 p.2.2.2.2.2).2.2.1,
          isNil (splicePosT p.1 p.2.1 p.2.2.1 p.2.2.2.1 p.2.2.2.2.1 p.2.2.2.2.2).1) := by
  intro t
  induction t with
  | nil => intro acc; rfl
  | node l n mx c r ihl ihr =>
    intro acc
    simp only [spliceInfo, findTZ]
    by_cases h1 : k < n.key
    · rw [if_pos h1, if_pos h1]; exact ihl (.L n mx c r :: acc)
    · rw [if_neg h1, if_neg h1]
      by_cases h2 : n.key < k
      · rw [if_pos h2, if_pos h2]; exact ihr (.R l n mx c :: acc)
      · rw [if_neg h2, if_neg h2]
        cases l with
        | nil => simp only [Option.map_some, splicePosT]
        | node a b bm bc cc =>
          cases r with
          | nil => simp only [Option.map_some, splicePosT, isNil]
          | node rl m mm mc rr =>
            simp only [Option.map_some, splicePosT]
            exact congrArg some (minInfo_leftmost rl m mm mc rr (.R (.node a b bm bc cc) n mx c :: acc))

/-- **over a linear order the deletion as the code has it is the hand model's deletion** -/
theorem rbDeleteP_eq_rbDelete (S k : α) (t : Viewshed.Tree α) : rbDeleteP eqv S k t = rbDelete S k t := by
  unfold rbDeleteP rbDelete
  have hsi := spliceInfo_findTZ k t []
  rw [List.map_nil] at hsi
  rw [hsi]
  cases hf : findTZ k t [] with
  | none => rfl
  | some p =>
    obtain ⟨l, n, mx, c, r, fs⟩ := p
    simp only [Option.map_some]
    rw [delPassT_eq_delCore S k t l n mx c r fs hf]
    rfl

end
end XrsVerif.ILVs
