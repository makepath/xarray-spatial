import XrsVerif.Proofs.ILProxNumpyDefs
/-
  The elementwise loops of the generated `_process_numpy` (resets, reading a raster
  line, reading / storing a line of distances): each ends in `run`, changes only the loop counter `i` and the
  arrays it writes (`Only`), and its effect is given entry by entry.
-/
namespace XrsVerif.IL.Px
open XrsVerif XrsVerif.ILVs
variable {F : Type} [Fl F]
attribute [-simp] List.getD_eq_getElem?_getD
attribute [local simp] List.getD_cons_zero List.getD_cons_succ

theorem idx_ge (r n W p : Nat) (h : n < r) : n * W + W ≤ r * W + p := by
  have : (n + 1) * W ≤ r * W := Nat.mul_le_mul_right W h
  rw [Nat.add_mul] at this
  omega

structure Only (ias fas : List String) (s r : State F) : Prop where
  shp : r.shp = s.shp
  ext : r.ext = s.ext
  ienv : ∀ v, v ≠ "i" → r.ienv v = s.ienv v
  fenv : r.fenv = s.fenv
  benv : r.benv = s.benv
  ia : ∀ a, a ∉ ias → r.ia a = s.ia a
  fa : ∀ a, a ∉ fas → r.fa a = s.fa a

theorem Only.of_mods {ias fas : List String} {s r : State F} (h : Mods ["i"] [] [] ias fas [] s r) : Only ias fas s r :=
  ⟨h.shp_eq, h.ext, fun v hv => h.ienv v (by simpa using hv), h.fenv_eq, h.benv_eq, h.ia, h.fa⟩

/-- `for i in range(width): a[i] = -1; b[i] = -1` for two integer arrays -/
theorem reset2_exec (a b : String) (hab : a ≠ b) (st : State F) (fuel W : Nat) (hs : st.ctl = .run)
    (hw : st.ienv "width" = W) (ha : st.shp a = [W]) (hb : st.shp b = [W])
    (la : (st.ia a).length = W) (lb : (st.ia b).length = W) :
    let r := exec fuel (.forRange "i" (.lit 0) (.var "width") (.lit 1)
      (.seq (.stI1 a (.var "i") (.lit (-1))) (.stI1 b (.var "i") (.lit (-1))))) st
    r.ctl = .run ∧ Only [a, b] [] st r ∧ (r.ia a).length = W ∧ (r.ia b).length = W ∧
    ∀ q, q < W → (r.ia a).getD q 0 = -1 ∧ (r.ia b).getD q 0 = -1 := by
  have h := forRange_up_mods "i" (.var "width") (.seq (.stI1 a (.var "i") (.lit (-1))) (.stI1 b (.var "i") (.lit (-1))))
    st fuel W hs rfl (by simp [IE.eval, hw])
    (fun k r => (r.ia a).length = W ∧ (r.ia b).length = W ∧
      ∀ q, q < k → (r.ia a).getD q 0 = -1 ∧ (r.ia b).getD q 0 = -1)
    ⟨la, lb, fun q hq => absurd hq (Nat.not_lt_zero q)⟩
    (by
      intro k hk r hr fr ⟨l1, l2, hq⟩
      have e1 : r.shp a = [W] := (fr.shp a (by simp [wSh])).trans ha
      have e2 : r.shp b = [W] := (fr.shp b (by simp [wSh])).trans hb
      simp [il, exec_seq, hr, setS, e1, e2, inRange_of_lt _ _ hk, off1_nat, afterBody, hab, hab.symm]
      refine ⟨l1, l2, fun q hq' => ?_⟩
      by_cases hqk : k = q
      · subst hqk; simp [getD_set, l1, l2, hk]
      · simp [getD_set_ne _ _ _ _ _ hqk]
        exact hq q (by omega))
  exact ⟨h.1, Only.of_mods h.2.1, h.2.2⟩

theorem resetPan_exec (st : State F) (fuel W : Nat) (hs : st.ctl = .run) (hw : st.ienv "width" = W)
    (hpx : st.shp "pan_near_x" = [W]) (hpy : st.shp "pan_near_y" = [W])
    (lpx : (st.ia "pan_near_x").length = W) (lpy : (st.ia "pan_near_y").length = W) :
    let r := exec fuel resetPan st
    r.ctl = .run ∧ Only ["pan_near_x", "pan_near_y"] [] st r ∧
    (r.ia "pan_near_x").length = W ∧ (r.ia "pan_near_y").length = W ∧
    ∀ q, q < W → (r.ia "pan_near_x").getD q 0 = -1 ∧ (r.ia "pan_near_y").getD q 0 = -1 :=
  reset2_exec "pan_near_x" "pan_near_y" (by simp) st fuel W hs hw hpx hpy lpx lpy

theorem resetNearest_exec (st : State F) (fuel W : Nat) (hs : st.ctl = .run) (hw : st.ienv "width" = W)
    (hnx : st.shp "nearest_xs" = [W]) (hny : st.shp "nearest_ys" = [W])
    (lnx : (st.ia "nearest_xs").length = W) (lny : (st.ia "nearest_ys").length = W) :
    let r := exec fuel resetNearest st
    r.ctl = .run ∧ Only ["nearest_xs", "nearest_ys"] [] st r ∧
    (r.ia "nearest_xs").length = W ∧ (r.ia "nearest_ys").length = W ∧
    ∀ q, q < W → (r.ia "nearest_xs").getD q 0 = -1 ∧ (r.ia "nearest_ys").getD q 0 = -1 :=
  reset2_exec "nearest_xs" "nearest_ys" (by simp) st fuel W hs hw hnx hny lnx lny

/-- `for i in range(width): line_proximity[i] = -1.0; nearest_xs[i] = -1; nearest_ys[i] = -1` -/
theorem resetLine_exec (st : State F) (fuel W : Nat) (hs : st.ctl = .run) (hw : st.ienv "width" = W)
    (hlp : st.shp "line_proximity" = [W]) (hnx : st.shp "nearest_xs" = [W]) (hny : st.shp "nearest_ys" = [W])
    (llp : (st.fa "line_proximity").length = W) (lnx : (st.ia "nearest_xs").length = W)
    (lny : (st.ia "nearest_ys").length = W) :
    let r := exec fuel resetLine st
    r.ctl = .run ∧ Only ["nearest_xs", "nearest_ys"] ["line_proximity"] st r ∧
    (r.fa "line_proximity").length = W ∧ (r.ia "nearest_xs").length = W ∧ (r.ia "nearest_ys").length = W ∧
    ∀ q, q < W → (r.fa "line_proximity").getD q Fl.nan = Fl.neg (Fl.lit 1 1) ∧
      (r.ia "nearest_xs").getD q 0 = -1 ∧ (r.ia "nearest_ys").getD q 0 = -1 := by
  have h := forRange_up_mods "i" (.var "width") resetLineBody st fuel W hs rfl (by simp [IE.eval, hw])
    (fun k r => (r.fa "line_proximity").length = W ∧ (r.ia "nearest_xs").length = W ∧ (r.ia "nearest_ys").length = W ∧
      ∀ q, q < k → (r.fa "line_proximity").getD q Fl.nan = Fl.neg (Fl.lit 1 1) ∧
        (r.ia "nearest_xs").getD q 0 = -1 ∧ (r.ia "nearest_ys").getD q 0 = -1)
    ⟨llp, lnx, lny, fun q hq => absurd hq (Nat.not_lt_zero q)⟩
    (by
      intro k hk r hr fr ⟨l0, l1, l2, hq⟩
      have hsh := fr.shp_eq
      simp [il, resetLineBody, exec_seq, hr, setS, hsh, hlp, hnx, hny, inRange_of_lt _ _ hk, off1_nat, afterBody]
      refine ⟨l0, l1, l2, fun q hq' => ?_⟩
      by_cases hqk : k = q
      · subst hqk; simp [getD_set, l0, l1, l2, hk]
      · simp [getD_set_ne _ _ _ _ _ hqk]
        exact hq q (by omega))
  exact ⟨h.1, Only.of_mods h.2.1, h.2.2⟩

/-- `for i in range(width): dst[i] = src[line][i]` (`dst` 1-D of width `W`, `src` 2-D `H × W`, `line = n < H`) -/
theorem readRow_exec (dst src : String) (hds : dst ≠ src) (st : State F) (fuel H W n : Nat) (hs : st.ctl = .run)
    (hw : st.ienv "width" = W) (hline : st.ienv "line" = n) (hn : n < H)
    (hd : st.shp dst = [W]) (hsrc : st.shp src = [H, W]) (ld : (st.fa dst).length = W) :
    let r := exec fuel (.forRange "i" (.lit 0) (.var "width") (.lit 1)
      (.stF1 dst (.var "i") (.ld2 src (.var "line") (.var "i")))) st
    r.ctl = .run ∧ Only [] [dst] st r ∧ (r.fa dst).length = W ∧
    ∀ q, q < W → (r.fa dst).getD q Fl.nan = (st.fa src).getD (n * W + q) Fl.nan := by
  have h := forRange_up_mods "i" (.var "width") (.stF1 dst (.var "i") (.ld2 src (.var "line") (.var "i"))) st fuel W
    hs rfl (by simp [IE.eval, hw])
    (fun k r => (r.fa dst).length = W ∧
      ∀ q, q < k → (r.fa dst).getD q Fl.nan = (st.fa src).getD (n * W + q) Fl.nan)
    ⟨ld, fun q hq => absurd hq (Nat.not_lt_zero q)⟩
    (by
      intro k hk r hr fr ⟨l0, hq⟩
      have hsh := fr.shp_eq
      have e2 : r.ienv "line" = n := (fr.ienv _ (by simp [wI])).trans hline
      have e3 : r.fa src = st.fa src := fr.fa src (by simp [wFA]; exact fun e => hds e.symm)
      simp [il, hr, setS, hsh, hd, hsrc, e2, e3, inRange_of_lt _ _ hk, inRange_of_lt _ _ hn, off1_nat, off2_nat, afterBody]
      refine ⟨l0, fun q hq' => ?_⟩
      by_cases hqk : k = q
      · subst hqk; simp [getD_set, l0, hk]
      · simp [getD_set_ne _ _ _ _ _ hqk]
        exact hq q (by omega))
  exact ⟨h.1, Only.of_mods h.2.1, h.2.2⟩

/-- `for i in range(width): scan_line[i] = img[line][i]` -/
theorem readLine_exec (st : State F) (fuel H W n : Nat) (hs : st.ctl = .run)
    (hw : st.ienv "width" = W) (hline : st.ienv "line" = n) (hn : n < H)
    (hd : st.shp "scan_line" = [W]) (hsrc : st.shp "img" = [H, W]) (ld : (st.fa "scan_line").length = W) :
    let r := exec fuel readLine st
    r.ctl = .run ∧ Only [] ["scan_line"] st r ∧ (r.fa "scan_line").length = W ∧
    ∀ q, q < W → (r.fa "scan_line").getD q Fl.nan = (st.fa "img").getD (n * W + q) Fl.nan :=
  readRow_exec "scan_line" "img" (by simp) st fuel H W n hs hw hline hn hd hsrc ld

/-- `for i in range(width): line_proximity[i] = img_distance[line][i]` -/
theorem readDistance_exec (st : State F) (fuel H W n : Nat) (hs : st.ctl = .run)
    (hw : st.ienv "width" = W) (hline : st.ienv "line" = n) (hn : n < H)
    (hd : st.shp "line_proximity" = [W]) (hsrc : st.shp "img_distance" = [H, W]) (ld : (st.fa "line_proximity").length = W) :
    let r := exec fuel readDistance st
    r.ctl = .run ∧ Only [] ["line_proximity"] st r ∧ (r.fa "line_proximity").length = W ∧
    ∀ q, q < W → (r.fa "line_proximity").getD q Fl.nan = (st.fa "img_distance").getD (n * W + q) Fl.nan :=
  readRow_exec "line_proximity" "img_distance" (by simp) st fuel H W n hs hw hline hn hd hsrc ld

/-- `for i in range(width): img_distance[line][i] = line_proximity[i]` -/
theorem storeDistance_exec (st : State F) (fuel H W n : Nat) (hs : st.ctl = .run)
    (hw : st.ienv "width" = W) (hline : st.ienv "line" = n) (hn : n < H)
    (hlp : st.shp "line_proximity" = [W]) (hdist : st.shp "img_distance" = [H, W])
    (ld : (st.fa "img_distance").length = H * W) :
    let r := exec fuel storeDistance st
    r.ctl = .run ∧ Only [] ["img_distance"] st r ∧ (r.fa "img_distance").length = H * W ∧
    (∀ q, q < W → (r.fa "img_distance").getD (n * W + q) Fl.nan = (st.fa "line_proximity").getD q Fl.nan) ∧
    (∀ j, (j < n * W ∨ n * W + W ≤ j) → (r.fa "img_distance").getD j Fl.nan = (st.fa "img_distance").getD j Fl.nan) := by
  have h := forRange_up_mods "i" (.var "width") storeDistanceBody st fuel W hs rfl (by simp [IE.eval, hw])
    (fun k r => (r.fa "img_distance").length = H * W ∧
      (∀ q, q < k → (r.fa "img_distance").getD (n * W + q) Fl.nan = (st.fa "line_proximity").getD q Fl.nan) ∧
      (∀ j, (j < n * W ∨ n * W + k ≤ j) → (r.fa "img_distance").getD j Fl.nan = (st.fa "img_distance").getD j Fl.nan))
    ⟨ld, fun q hq => absurd hq (Nat.not_lt_zero q), fun _ _ => rfl⟩
    (by
      intro k hk r hr fr ⟨l0, hq, hj⟩
      have hsh := fr.shp_eq
      have e2 : r.ienv "line" = n := (fr.ienv _ (by simp [wI, storeDistanceBody])).trans hline
      have e3 : r.fa "line_proximity" = st.fa "line_proximity" := fr.fa _ (by simp [wFA, storeDistanceBody])
      simp [il, storeDistanceBody, hr, setS, hsh, hlp, hdist, e2, e3, inRange_of_lt _ _ hk, inRange_of_lt _ _ hn, off1_nat,
        off2_nat, afterBody]
      refine ⟨l0, ?_, ?_⟩
      · intro q hq'
        by_cases hqk : k = q
        · subst hqk
          simp [getD_set, l0, rowMajor_lt hn hk]
        · rw [getD_set_ne _ _ _ _ _ (by omega)]
          exact hq q (by omega)
      · intro j hj'
        rw [getD_set_ne _ _ _ _ _ (by omega)]
        exact hj j (by omega))
  exact ⟨h.1, Only.of_mods h.2.1, h.2.2⟩

end XrsVerif.IL.Px
