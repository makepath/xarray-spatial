import XrsVerif.Proofs.ProximitySmallLt9
import XrsVerif.Proofs.ProximitySmall3x3
import XrsVerif.Proofs.ProximitySmallEuclid
import XrsVerif.Proofs.ProximitySmallManh
namespace XrsVerif.Prox

theorem smallTable_checked : ∀ c, c ∈ smallTable → checkAll c = true := fun c hc =>
  checkCfg_sound c <| all_of_slices checkCfg 5 (by decide) smallTable (fun k hk =>
    match k with
    | 0 => slice_0 | 1 => slice_1 | 2 => slice_2 | 3 => slice_3 | 4 => slice_4 | 5 => slice_5
    | 6 => slice_6 | 7 => slice_7 | 8 => slice_8 | 9 => slice_9 | 10 => slice_10 | 11 => slice_11
    | 12 => slice_12 | 13 => slice_13 | 14 => slice_14 | 15 => slice_15 | 16 => slice_16 | 17 => slice_17
    | 18 => slice_18 | 19 => slice_19 | 20 => slice_20 | 21 => slice_21
    | k + 22 => absurd hk (by rw [smallTable_length]; omega)) c hc

end XrsVerif.Prox
