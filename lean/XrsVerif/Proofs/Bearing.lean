import XrsVerif.Proofs.ILProxDir
import XrsVerif.Proofs.TerrainClosed
/-!
  `_calc_direction` on the finite coordinates of two different cells in closed form: the compass bearing
  `compassDeg` (the same if-chain `aspect` ends in) of `atan2(-(y2 - y1), x2 - x1) · 57.29578`.
  (For the cell itself it is 0: `C06.bearing_self`.)
-/
namespace XrsVerif.Prox
open XrsVerif XrsVerif.IL
variable {K : Type} [Field K] [LinearOrder K] [IsStrictOrderedRing K] [Trig K]

theorem bearing_some (x1 x2 y1 y2 : K) (h : ¬ (x1 = x2 ∧ y1 = y2)) :
    bearing (some x1 : NV K) (some x2) (some y1) (some y2) =
      some (compassDeg (Trig.atan2 (-(y2 - y1)) (x2 - x1) * (2864789 / 50000))) := by
  rw [← Px.dirF_eq_bearing]
  simp [Px.dirF, h, compassDeg, apply_ite some]

end XrsVerif.Prox
