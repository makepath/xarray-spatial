import XrsVerif.Core.Halo
import XrsVerif.Proofs.KSimp
/-
  Dask = NumPy for generated 3x3 stencil kernels over `NV K` (NaN or a field element):
  the halo theorem handles every cell; at the raster's border NumPy leaves the allocation value
  (NaN) while Dask evaluates the kernel on a NaN-padded window, so the kernel has to be NaN-strict
  in every edge row / column of its window (`EdgeStrict`; `EdgeStrict.of_nan_on` gets it from the kernel's
  closed form).
-/
namespace XrsVerif

variable {K : Type} [Field K] [LinearOrder K] [IsStrictOrderedRing K] [Trig K]

def nanFill : String → NV K := fun _ => none

/-- a NaN edge row or column of the 3x3 window makes the cell NaN -/
def EdgeStrict (K : Type) [Field K] [LinearOrder K] [IsStrictOrderedRing K] [Trig K] (k : Kernel) : Prop :=
  ∀ (env : String → NV K) (vec : String → List (NV K)) (rd : String → Int → Int → NV K),
    ((∀ a dx, rd a (-1) dx = none) ∨ (∀ a dx, rd a 1 dx = none) ∨
     (∀ a dy, rd a dy (-1) = none) ∨ (∀ a dy, rd a dy 1 = none)) →
    k.cell env rd vec = none

/-- each edge row and column of the window holds one of the four neighbours of the centre, so a kernel that is NaN as
    soon as array `a` is NaN at one offset of a list `l` containing those four is edge-strict -/
theorem EdgeStrict.of_nan_on {k : Kernel} (a : String) (l : List (Int × Int))
    (hl : ∀ p ∈ [((-1 : Int), (0 : Int)), (1, 0), (0, -1), (0, 1)], p ∈ l)
    (h : ∀ (env : String → NV K) (vec : String → List (NV K)) (rd : String → Int → Int → NV K),
      ∀ p ∈ l, rd a p.1 p.2 = none → k.cell env rd vec = none) : EdgeStrict K k := by
  intro env vec rd hedge
  rcases hedge with e | e | e | e
  · exact h env vec rd (-1, 0) (hl _ (by decide)) (e a 0)
  · exact h env vec rd (1, 0) (hl _ (by decide)) (e a 0)
  · exact h env vec rd (0, -1) (hl _ (by decide)) (e a 0)
  · exact h env vec rd (0, 1) (hl _ (by decide)) (e a 0)

/-- **Dask = NumPy at every cell, for every chunking** for a 3x3 kernel with NaN borders -/
theorem Kernel.stencil1_dask_eq_numpy (k : Kernel)
    (hw : readsWithin k.body.reads 1 1 = true)
    (ht : k.top = 1) (hb : k.bottom = 1) (hl : k.left = 1) (hr : k.right = 1)
    (hfill : k.fill = .nan) (hs : EdgeStrict K k)
    (dr dc : Nat) (hdr : 1 ≤ dr) (hdc : 1 ≤ dc)
    (env : String → NV K) (vec : String → List (NV K)) (dflt : NV K)
    (rch cch : List Nat) (g : Grid (String → NV K))
    (hrs : rch.sum = g.h) (hcs : cch.sum = g.w)
    (i j : Int) (hi : 0 ≤ i) (hi' : i < g.h) (hj : 0 ≤ j) (hj' : j < g.w) :
    (mapOverlap nanFill dflt dr dc (k.runG env vec) rch cch g).cell i j = (k.runG env vec g).cell i j := by
  rw [Kernel.overlap_eq_spec k env vec 1 1 dr dc hw hdr hdc (by omega) (by omega) (by omega) (by omega)
      nanFill dflt rch cch g hrs hcs i j hi hi' hj hj']
  by_cases hin : (k.top : Int) ≤ i ∧ i + k.bottom < g.h ∧ (k.left : Int) ≤ j ∧ j + k.right < g.w
  · rw [Kernel.numpy_eq_spec_interior k env vec 1 1 hw (by omega) (by omega) (by omega) (by omega) nanFill g i j hin]
  · -- border cell: NumPy leaves NaN; the padded window has a NaN edge
    have hnp : (k.runG env vec g).cell i j = none := by
      simp only [Kernel.runG, if_neg hin, hfill, Fill.val, fl_nan]
    rw [hnp]
    unfold spec Kernel.win
    apply hs
    have hcase : i = 0 ∨ i = g.h - 1 ∨ j = 0 ∨ j = g.w - 1 := by
      rw [ht, hb, hl, hr] at hin; omega
    rcases hcase with h | h | h | h
    · left; intro a dx; simp only [Grid.get]; rw [if_neg (by omega)]; rfl
    · right; left; intro a dx; simp only [Grid.get]; rw [if_neg (by omega)]; rfl
    · right; right; left; intro a dy; simp only [Grid.get]; rw [if_neg (by omega)]; rfl
    · right; right; right; intro a dy; simp only [Grid.get]; rw [if_neg (by omega)]; rfl

end XrsVerif
