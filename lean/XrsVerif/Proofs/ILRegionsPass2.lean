import XrsVerif.Proofs.ILRegionsCell
import XrsVerif.Proofs.ILRegionsRelabel
/-
  Proofs/ILRegionsPass2.lean -- step 4 of the refinement of `Gen.IL.areaConnectivity`: the second pass.
-/
namespace XrsVerif.IL.Rg
open XrsVerif XrsVerif.IL XrsVerif.Regions
variable {F : Type} [Fl F]

theorem at_map (rows cols : Nat) (out : List F) (f : F → F) (c : Cell) (hl : out.length = rows * cols)
    (h1 : c.1 < rows) (h2 : c.2 < cols) : at_ cols (out.map f) c = f (at_ cols out c) := by
  have : pos cols c < rows * cols := rowMajor_lt h1 h2
  unfold at_
  simp only [List.getD_eq_getElem?_getD, List.getElem?_map]
  rw [List.getElem?_eq_getElem (by omega)]
  simp

/-- a whole-raster relabel on `out` is the model's `replace` on the labels; NaN cells are not touched -/
theorem OutRel.map (laws : LabelLaws F) {rows cols k : Nat} {D out : List F} {L : Cell → Nat}
    (h : OutRel rows cols D out L k) (A B : Nat) :
    OutRel rows cols D (out.map (relabelF (lab A) (lab B))) (replace L A B) k := by
  refine ⟨by rw [List.length_map]; exact h.len, fun c h1 h2 hc => ?_, fun c h1 h2 hk hc => ?_⟩
  · rw [at_map rows cols out _ c h.len h1 h2, h.rel c h1 h2 hc]
    simp only [relabelF, laws.eq_lab, replace]
    by_cases h : L c = A <;> simp [h]
  · rw [at_map rows cols out _ c h.len h1 h2, h.nan c h1 h2 hk hc]
    simp only [relabelF, laws.eq_nan _ A hc, Bool.false_eq_true, if_false]

/-! ### the merge loop

      assigned_values_min = None
      for j in range(len(neighbor_matches)):
          area_val = area_window[neighbor_matches[j]]
          nn = assigned_values_min is not None
          if nn and assigned_values_min != area_val:
              if assigned_values_min > area_val:  <relabel min -> area_val>; assigned_values_min = area_val
              else:                               <relabel area_val -> min>
          elif assigned_values_min is None:
              assigned_values_min = area_val -/

/-- the abstraction: `out ~ L`, `assigned_values_min ~ mn` -/
structure MSem (rows cols : Nat) (D : List F) (st : State F) (L : Cell → Nat) (mn : Option Nat) : Prop where
  out : OutRel rows cols D (st.fa "out") L (rows * cols)
  flag : st.benv "assigned_values_min$some" = mn.isSome
  amin : ∀ m, mn = some m → st.fenv "assigned_values_min" = lab m

/-- `assigned_values_min = area_val` -/
theorem exec_setMin (fuel : Nat) (s : State F) (hrun : s.ctl = .run) :
    exec fuel setMin s =
      { s with
        fenv := setS s.fenv "assigned_values_min" (s.fenv "area_val"),
        benv := setS s.benv "assigned_values_min$some" true } := by
  simp [il, setMin, hrun]

theorem mergeBody_step (laws : LabelLaws F) (fuel rows cols n : Nat) (D : List F) (idx : List Nat) (AW : List F)
    (hidx : ∀ k ∈ idx, k < n) (cap : Nat → Nat)
    (hcap : ∀ k ∈ idx, AW.getD k Fl.nan = lab (cap k))
    (j : Nat) (hj : j < idx.length) (st : State F) (hl : MLoc rows cols n idx AW st)
    (hjv : st.ienv "j" = (j : Int)) (L : Cell → Nat) (mn : Option Nat) (hs : MSem rows cols D st L mn) :
    (exec fuel mergeBody st).ctl = .run ∧
    MSem rows cols D (exec fuel mergeBody st) (inner (L, mn) (cap (idx.getD j 0))).1
      (inner (L, mn) (cap (idx.getD j 0))).2 := by
  let a := cap (idx.getD j 0)
  let s1 : State F := { st with fenv := setS st.fenv "area_val" (lab a) }
  have h1 : exec fuel (.setF "area_val" (.ld1 "area_window" (.ld1 "neighbor_matches" (.var "j")))) st = s1 := by
    rw [exec_areaVal fuel n idx hidx j hj st hjv hl.nshp hl.nia hl.ashp, hl.afa, hcap _ (getD_mem idx j 0 hj)]
  -- `nn = assigned_values_min is not None`
  let s2 : State F := { s1 with benv := setS st.benv "nn" mn.isSome }
  have h2 : exec fuel (.setB "nn" (.var "assigned_values_min$some")) s1 = s2 := by
    rw [exec_setB_def]
    simp only [BE.ok, BE.eval, if_true]
    show ({ s1 with benv := setS st.benv "nn" (st.benv "assigned_values_min$some") } : State F) = s2
    rw [hs.flag]
  have hrun2 : s2.ctl = .run := hl.run
  have hnn : s2.benv "nn" = mn.isSome := by simp [s2]
  have hsm : s2.benv "assigned_values_min$some" = mn.isSome := by simp [s2, setS, hs.flag]
  have hav2 : s2.fenv "area_val" = lab a := by simp [s2, s1]
  have ham2 : s2.fenv "assigned_values_min" = st.fenv "assigned_values_min" := by simp [s2, s1, setS]
  have hout2 : s2.fa "out" = st.fa "out" := rfl
  unfold mergeBody
  rw [exec_seq, h1, if_pos (by exact hl.run), exec_seq, h2, if_pos (by exact hrun2), exec_ite_def]
  simp only [BE.ok, FE.ok, BE.eval, FE.eval, CmpOp.eval, Bool.and_true, Bool.or_true, if_true,
    hnn, hav2, ham2]
  cases hmn : mn with
  | none =>
    -- first captured label: it becomes the minimum
    simp only [Option.isSome_none, Bool.false_and, Bool.false_eq_true, if_false]
    rw [exec_ite_def]
    simp only [BE.ok, BE.eval, hsm, hmn, Option.isSome_none, Bool.not_false, if_true]
    rw [exec_setMin fuel s2 hrun2]
    refine ⟨hl.run, ?_⟩
    simp only [inner]
    exact { out := hs.out
            flag := by simp [setS]
            amin := by
              intro m hm
              simp only [Option.some.injEq] at hm
              simp only [setS_same, hav2, hm, a] }
  | some m =>
    have ham : st.fenv "assigned_values_min" = lab m := hs.amin m hmn
    simp only [Option.isSome_some, Bool.true_and, ham, laws.eq_lab]
    by_cases hma : m = a
    · -- the same label again
      have hd : decide (m = a) = true := by simp [hma]
      simp only [hd, Bool.not_true, Bool.false_eq_true, if_false]
      rw [exec_ite_def]
      simp only [BE.ok, BE.eval, hsm, hmn, Option.isSome_some, Bool.not_true, Bool.false_eq_true, if_false, exec_skip,
        if_true]
      refine ⟨hrun2, ?_⟩
      have : inner (L, some m) (cap (idx.getD j 0)) = (L, some m) := by
        simp only [inner]; rw [if_pos (by exact hma)]
      rw [this]
      exact { out := hs.out
              flag := by rw [hsm, hmn]
              amin := by intro m' hm'; rw [ham2, ham]; simp only [Option.some.injEq] at hm'; rw [hm'] }
    · have hd : decide (m = a) = false := by simp [hma]
      simp only [hd, Bool.not_false, if_true]
      rw [exec_ite_def]
      simp only [BE.ok, FE.ok, BE.eval, FE.eval, CmpOp.eval, Bool.and_true, if_true, hav2, ham2, ham, laws.lt_lab]
      have hrv2 : s2.ienv "rows" = (rows : Int) := hl.rv
      have hcv2 : s2.ienv "cols" = (cols : Int) := hl.cv
      have hos2 : s2.shp "out" = [rows, cols] := hl.oshp
      have hol2 : (s2.fa "out").length = rows * cols := hs.out.len
      by_cases hlt : a < m
      · -- the captured label is smaller: relabel the minimum's class, new minimum
        simp only [hlt, decide_true, if_true]
        obtain ⟨hkr, hfo⟩ := exec_relabel fuel rows cols "assigned_values_min" "area_val" s2 hrun2 hrv2 hcv2 hos2 hol2
        have hkp := ILVs.exec_frame fuel (relabel "assigned_values_min" "area_val") s2
        rw [exec_seq, if_pos hkr, exec_setMin fuel _ hkr]
        rw [ham2, ham, hav2, hout2] at hfo
        refine ⟨hkr, ?_⟩
        have : inner (L, some m) (cap (idx.getD j 0)) = (replace L m a, some a) := by
          simp only [inner]; rw [if_neg (by exact hma), if_pos (by exact hlt)]
        rw [this]
        exact { out := by show OutRel rows cols D ((exec fuel _ s2).fa "out") _ _; rw [hfo]; exact hs.out.map laws m a
                flag := by simp [setS]
                amin := by
                  intro m' hm'
                  simp only [Option.some.injEq] at hm'
                  simp only [setS_same, hkp.fenv "area_val" (by decide), hav2, hm'] }
      · -- the minimum is smaller: relabel the captured label's class
        simp only [hlt, decide_false, Bool.false_eq_true, if_false]
        obtain ⟨hkr, hfo⟩ := exec_relabel fuel rows cols "area_val" "assigned_values_min" s2 hrun2 hrv2 hcv2 hos2 hol2
        have hkp := ILVs.exec_frame fuel (relabel "area_val" "assigned_values_min") s2
        rw [ham2, ham, hav2, hout2] at hfo
        refine ⟨hkr, ?_⟩
        have : inner (L, some m) (cap (idx.getD j 0)) = (replace L a m, some m) := by
          simp only [inner]; rw [if_neg (by exact hma), if_neg (by exact hlt)]
        rw [this]
        exact { out := by rw [hfo]; exact hs.out.map laws a m
                flag := by rw [hkp.benv "assigned_values_min$some" (by decide), hsm, hmn]
                amin := by
                  intro m' hm'
                  simp only [Option.some.injEq] at hm'
                  rw [hkp.fenv "assigned_values_min" (by decide), ham2, ham, hm'] }

theorem exec_merge (laws : LabelLaws F) (fuel rows cols n : Nat) (D : List F) (idx : List Nat) (AW : List F)
    (hidx : ∀ k ∈ idx, k < n) (cap : Nat → Nat)
    (hcap : ∀ k ∈ idx, AW.getD k Fl.nan = lab (cap k)) (S : State F) (hl : MLoc rows cols n idx AW S)
    (L : Cell → Nat) (ho : OutRel rows cols D (S.fa "out") L (rows * cols)) :
    (exec fuel merge S).ctl = .run ∧
    OutRel rows cols D ((exec fuel merge S).fa "out") ((idx.map cap).foldl inner (L, none)).1 (rows * cols) := by
  let S1 : State F := { S with benv := setS S.benv "assigned_values_min$some" false }
  have hl1 : MLoc rows cols n idx AW S1 :=
    ⟨hl.run, hl.rv, hl.cv, hl.oshp, hl.nshp, hl.nia, hl.ashp, hl.afa⟩
  have h := forRange_up "j" (.dim "neighbor_matches" 0) mergeBody S1 fuel idx.length hl1.run
    (by simp [IE.ok, hl1.nshp]) (by simp [IE.eval, hl1.nshp])
    (fun i st => MLoc rows cols n idx AW st ∧
      MSem rows cols D st (((idx.take i).map cap).foldl inner (L, none)).1
        (((idx.take i).map cap).foldl inner (L, none)).2)
    ⟨hl1, { out := ho, flag := by simp [S1], amin := by intro m hm; simp at hm }⟩
    (fun i hi st hst ⟨hloc, hsem⟩ => by
      have hloc' : MLoc rows cols n idx AW { st with ienv := setS st.ienv "j" (i : Int) } :=
        ⟨hloc.run, (setS_other st.ienv "j" "rows" (i : Int) (by simp)).trans hloc.rv,
          (setS_other st.ienv "j" "cols" (i : Int) (by simp)).trans hloc.cv,
          hloc.oshp, hloc.nshp, hloc.nia, hloc.ashp, hloc.afa⟩
      obtain ⟨hc, hs'⟩ := mergeBody_step laws fuel rows cols n D idx AW hidx cap hcap i hi
        { st with ienv := setS st.ienv "j" (i : Int) } hloc' (setS_same st.ienv "j" (i : Int)) _ _
        ⟨hsem.out, hsem.flag, hsem.amin⟩
      rw [afterBody_run _ hc, take_succ_getD idx i 0 hi, List.map_append, List.foldl_append]
      exact ⟨hc, hloc'.of_mods (ILVs.exec_frame fuel mergeBody _) hc (by decide) (by decide) (by decide) (by decide),
        hs'⟩)
  have hS1 : exec fuel (.setB "assigned_values_min$some" .ff) S = S1 := exec_setB fuel _ _ S rfl
  rw [merge, exec_seq_eq fuel _ _ S S1 hS1 hl.run]
  rw [List.take_length] at h
  exact ⟨h.1, h.2.2.out⟩

theorem cell2_step (laws : LabelLaws F) (fuel rows cols n : Nat) (hn : n = 4 ∨ n = 8) (D : List F)
    (y x : Nat) (hy : y < rows) (hx : x < cols) (s : State F) (g : Geo rows cols n D s)
    (hyv : s.ienv "y" = (y : Int)) (hxv : s.ienv "x" = (x : Int))
    (L : Cell → Nat) (o : Option Nat) (ho : OutRel rows cols D (s.fa "out") L (rows * cols)) :
    Geo rows cols n D (afterBody (exec fuel cell2 s)) ∧ (afterBody (exec fuel cell2 s)).ienv "y" = (y : Int) ∧
      OutRel rows cols D ((afterBody (exec fuel cell2 s)).fa "out")
        (step2 (gridNbrs rows cols (decide (n = 8))) closeF (dataOf cols D) (L, o) (y, x)).1 (rows * cols) := by
  have hl := gridNbrs_length rows cols n hn (y, x)
  have hfr := (ILVs.exec_frame fuel cell2 s).afterBody
  have hyt := (hfr.ienv "y" (by decide)).trans hyv
  -- the windows, `val` and the scratch arrays of the match are all a cell step may change besides `out`
  have hgeo := fun hc => g.of_mods hfr hc (by decide) (by decide) (by decide)
  cases hnan : Fl.isnan (at_ cols D (y, x)) with
  | true =>
    have ht := cell2_nan fuel rows cols n hn D y x hy hx s g hyv hxv hnan
    have hr : step2 (gridNbrs rows cols (decide (n = 8))) closeF (dataOf cols D) (L, o) (y, x) = (L, o) := by
      simp only [step2, dataOf_none cols D (y, x) hnan]
    have hto : (afterBody (exec fuel cell2 s)).fa "out" = s.fa "out" := by rw [ht]; simp [setS]
    rw [hr, hto]
    exact ⟨hgeo (by rw [ht]; exact g.run) (hto ▸ g.olen) (by rw [ht]; simp [setS, hl])
      (by rw [ht]; simp [setS, hl]), hyt, ho⟩
  | false =>
    obtain ⟨ie', hie, hfront⟩ := cell2_front fuel rows cols n hn D y x hy hx s g hyv hxv hnan
    let nbrs := gridNbrs rows cols (decide (n = 8)) (y, x)
    have hl' : nbrs.length = n := hl
    have hin : ∀ q ∈ nbrs, q.1 < rows ∧ q.2 < cols := nbrs_in_grid rows cols _ y x hy hx
    obtain ⟨hlt, hlab, hfil, _, hmapL⟩ :=
      window_model laws rows cols D (s.fa "out") L ho.rel nbrs hin (at_ cols D (y, x))
    let S5 := afterMatch s ie' (at_ cols D (y, x)) (nbrs.map (at_ cols D)) (nbrs.map (at_ cols (s.fa "out")))
    let idx := matchIdx (closeF (at_ cols D (y, x))) (nbrs.map (at_ cols D))
    have hS5out : S5.fa "out" = s.fa "out" := afterMatch_fa _ _ _ _ _ _ (by simp) (by simp)
    have hloc : MLoc rows cols n idx (nbrs.map (at_ cols (s.fa "out"))) S5 :=
      afterMatch_loc g ie' (hie _ (by simp) (by simp) (by simp)) (hie _ (by simp) (by simp) (by simp)) _ _ _
    obtain ⟨hc, ho'⟩ := exec_merge laws fuel rows cols n D idx
      (nbrs.map (at_ cols (s.fa "out"))) (fun k hk => by have := hlt k hk; omega)
      (fun k => L (nb nbrs k)) hlab S5 hloc L (by rw [hS5out]; exact ho)
    have ht : afterBody (exec fuel cell2 s) = exec fuel merge S5 := by
      rw [hfront]; exact afterBody_run _ hc
    have hmf := ILVs.exec_frame fuel merge S5
    have hr : (step2 (gridNbrs rows cols (decide (n = 8))) closeF (dataOf cols D) (L, o) (y, x)).1 =
        ((idx.map fun k => L (nb nbrs k)).foldl inner (L, none)).1 := by
      simp only [step2, dataOf_some cols D (y, x) hnan, matchesOf]
      show ((List.map L (List.filter (matched closeF (dataOf cols D) (at_ cols D (y, x))) nbrs)).foldl inner
        (L, none)).1 = _
      rw [hmapL]
    rw [hr]
    refine ⟨hgeo (ht ▸ hc) (ht ▸ ho'.len) ?_ ?_, hyt, by rw [ht]; exact ho'⟩
    · rw [ht, hmf.fa "src_window" (by decide), afterMatch_fa_sw]; simp [hl']
    · rw [ht, hmf.fa "area_window" (by decide), afterMatch_fa_aw]; simp [hl']

def P2 (rows cols n : Nat) (D : List F) (st : State F) (a : (Cell → Nat) × Option Nat) : Prop :=
  Geo rows cols n D st ∧ OutRel rows cols D (st.fa "out") a.1 (rows * cols)

theorem pass2_refines (laws : LabelLaws F) (fuel rows cols n : Nat) (hn : n = 4 ∨ n = 8) (D : List F)
    (L1 : Cell → Nat) (s : State F) (hP : P2 rows cols n D s (L1, none)) :
    (exec fuel (pass cell2) s).ctl = .run ∧
    P2 rows cols n D (exec fuel (pass cell2) s)
      ((gridCells rows cols).foldl (step2 (gridNbrs rows cols (decide (n = 8))) closeF (dataOf cols D)) (L1, none)) :=
  exec_sweep_foldl fuel "y" "x" (by simp) (.var "rows") (.var "cols") cell2 rows cols (fun p q => (p, q))
    (step2 (gridNbrs rows cols (decide (n = 8))) closeF (dataOf cols D)) (fun _ st a => P2 rows cols n D st a)
    (fun _ st a i hP => ⟨hP.1.set_ienv "y" i (by simp) (by simp) (by simp), hP.2⟩)
    (fun _ st a i hP => ⟨hP.1.set_ienv "x" i (by simp) (by simp) (by simp), hP.2⟩)
    (fun _ st a hP => ⟨rfl, hP.1.rv⟩) (fun _ st a hP => ⟨rfl, hP.1.cv⟩)
    (fun p q st a hp hq hst hy hx hP => by
      obtain ⟨g2, hy2, h2⟩ := cell2_step laws fuel rows cols n hn D p q hp hq st hP.1 hy hx a.1 a.2 hP.2
      exact ⟨g2.run, hy2, g2, h2⟩)
    s hP.1.run (L1, none) hP

end XrsVerif.IL.Rg
