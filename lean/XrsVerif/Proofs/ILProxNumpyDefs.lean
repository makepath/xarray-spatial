import XrsVerif.Proofs.ILangProx
/-
  The generated `_process._process_numpy` cut into named pieces.

  `Gen.IL.processNumpy.body` is a 470-line term: the body of `_process_proximity_line` is inlined four times
  (`.scope`, locals prefixed `_process_proximity_line<k>$`, k = 1, 3, 5, 7) and `_calc_direction` four times
  (k = 2, 4, 6, 8).  Here the same term is written with the line function as `lineBody (NL k)` (template of
  Proofs/ILangProx.lean), the direction function as `dirBody (D k)`, and one definition per loop;
  `processNumpy_is_template : Gen.IL.processNumpy.body = pnBody` is checked by `rfl`, so any edit of
  `_process_numpy`, `_process_proximity_line` or `_calc_direction` in /repo breaks it.
-/
namespace XrsVerif.IL.Px
open XrsVerif

/-- the body of `_calc_direction` with every local prefixed by `D` -/
def dirBody (D : String) : St :=
  (.seq (.ite (.and (.cmpF .eq (.var (D ++ "x1")) (.var (D ++ "x2"))) (.cmpF .eq (.var (D ++ "y1")) (.var (D ++ "y2"))))
    (.seq (.setF (D ++ "ret0") (.ofInt (.lit 0)))
    .ret)
    .skip)
  (.seq (.setF (D ++ "x") (.bin .sub (.var (D ++ "x2")) (.var (D ++ "x1"))))
  (.seq (.setF (D ++ "y") (.bin .sub (.var (D ++ "y2")) (.var (D ++ "y1"))))
  (.seq (.setF (D ++ "d") (.bin .mul (.bin .atan2 (.un .neg (.var (D ++ "y"))) (.var (D ++ "x"))) (.lit 2864789 50000)))
  (.seq (.ite (.cmpF .lt (.var (D ++ "d")) (.ofInt (.lit 0)))
    (.setF (D ++ "d") (.bin .sub (.lit 90 1) (.var (D ++ "d"))))
    (.ite (.cmpF .gt (.var (D ++ "d")) (.lit 90 1))
      (.setF (D ++ "d") (.bin .add (.bin .sub (.lit 360 1) (.var (D ++ "d"))) (.lit 90 1)))
      (.setF (D ++ "d") (.bin .sub (.lit 90 1) (.var (D ++ "d"))))))
  (.seq (.setF (D ++ "ret0") (.var (D ++ "d")))
  .ret))))))

theorem calcDirection_is_template : Gen.IL.calcDirection.body = dirBody "" := rfl

/-- `output_img[line][i] = _calc_direction(x_coords[line, i], x_coords[ny[i], nx[i]], y_coords[line, i], y_coords[ny[i], nx[i]])` -/
def dirCall (D : String) : St :=
  (.seq (.setF (D ++ "x1") (.ld2 "x_coords" (.var "line") (.var "i")))
  (.seq (.setF (D ++ "x2") (.ld2 "x_coords" (.ld1 "nearest_ys" (.var "i")) (.ld1 "nearest_xs" (.var "i"))))
  (.seq (.setF (D ++ "y1") (.ld2 "y_coords" (.var "line") (.var "i")))
  (.seq (.setF (D ++ "y2") (.ld2 "y_coords" (.ld1 "nearest_ys" (.var "i")) (.ld1 "nearest_xs" (.var "i"))))
  (.seq (.scope (dirBody D))
  (.stF2 "output_img" (.var "line") (.var "i") (.var (D ++ "ret0"))))))))

/-- `if nearest_xs[i] != -1 and line_proximity[i] >= 0: <write output_img[line][i] in ALLOCATION / DIRECTION mode>` -/
def mergeStmt (D : String) : St :=
  .ite (.and (.cmpI .ne (.ld1 "nearest_xs" (.var "i")) (.lit (-1))) (.cmpF .ge (.ld1 "line_proximity" (.var "i")) (.ofInt (.lit 0))))
    (.ite (.cmpI .eq (.var "process_mode") (.lit 1))
      (.stF2 "output_img" (.var "line") (.var "i") (.ld2 "img" (.ld1 "nearest_ys" (.var "i")) (.ld1 "nearest_xs" (.var "i"))))
      (.ite (.cmpI .eq (.var "process_mode") (.lit 2))
        (dirCall D)
        .skip))
    .skip

def D (k : String) : String := "_calc_direction" ++ k ++ "$"

def NL (k : String) : Names :=
  Names.pfx ("_process_proximity_line" ++ k ++ "$") "scan_line" "x_coords" "y_coords" "target_values"

theorem NL_wf (k : String) : (NL k).WF := Names.pfx_wf _ _ _ _ _ (by simp) (by simp) (by simp) (by simp)

/-- argument passing + the inlined body + the rest of the caller -/
def callLine (N : Names) (fwd : BE) (rest : St) : St :=
  (.seq (.setB (N.nm .isForward) fwd)
  (.seq (.setI (N.nm .lineId) (.var "line"))
  (.seq (.setI (N.nm .width) (.var "width"))
  (.seq (.setF (N.nm .maxDistance) (.var "max_distance"))
  (.seq (.setI (N.nm .distanceMetric) (.var "distance_metric"))
  (.seq (.scope (lineBody N))
  rest))))))

def resetPanBody : St :=
    (.seq (.stI1 "pan_near_x" (.var "i") (.lit (-1)))
    (.stI1 "pan_near_y" (.var "i") (.lit (-1))))

/-- `for i in range(width): pan_near_x[i] = -1; pan_near_y[i] = -1` -/
def resetPan : St :=
  .forRange "i" (.lit 0) (.var "width") (.lit 1) (resetPanBody)

def resetNearestBody : St :=
    (.seq (.stI1 "nearest_xs" (.var "i") (.lit (-1)))
    (.stI1 "nearest_ys" (.var "i") (.lit (-1))))

/-- `for i in range(width): nearest_xs[i] = -1; nearest_ys[i] = -1` -/
def resetNearest : St :=
  .forRange "i" (.lit 0) (.var "width") (.lit 1) (resetNearestBody)

def readLineBody : St :=
    (.stF1 "scan_line" (.var "i") (.ld2 "img" (.var "line") (.var "i")))

/-- `for i in range(width): scan_line[i] = img[line][i]` -/
def readLine : St :=
  .forRange "i" (.lit 0) (.var "width") (.lit 1) (readLineBody)

def resetLineBody : St :=
    (.seq (.stF1 "line_proximity" (.var "i") (.un .neg (.lit 1 1)))
    (.seq (.stI1 "nearest_xs" (.var "i") (.lit (-1)))
    (.stI1 "nearest_ys" (.var "i") (.lit (-1)))))

/-- `for i in range(width): line_proximity[i] = -1.0; nearest_xs[i] = -1; nearest_ys[i] = -1` -/
def resetLine : St :=
  .forRange "i" (.lit 0) (.var "width") (.lit 1) (resetLineBody)

/-- the merge loop after a sweep -/
def mergeLoop (D : String) : St :=
  .forRange "i" (.lit 0) (.var "width") (.lit 1) (mergeStmt D)

def storeMergeLoopBody (D : String) : St :=
    (.seq (.stF2 "img_distance" (.var "line") (.var "i") (.ld1 "line_proximity" (.var "i")))
    (mergeStmt D))

/-- the last loop of a top-down line: store the distances, then merge -/
def storeMergeLoop (D : String) : St :=
  .forRange "i" (.lit 0) (.var "width") (.lit 1) (storeMergeLoopBody D)

def readDistanceBody : St :=
    (.stF1 "line_proximity" (.var "i") (.ld2 "img_distance" (.var "line") (.var "i")))

/-- `for i in range(width): line_proximity[i] = img_distance[line][i]` -/
def readDistance : St :=
  .forRange "i" (.lit 0) (.var "width") (.lit 1) (readDistanceBody)

def finalLoopBody (D : String) : St :=
    (.ite (.cmpF .lt (.ld1 "line_proximity" (.var "i")) (.ofInt (.lit 0)))
      (.stF1 "line_proximity" (.var "i") .nan)
      (mergeStmt D))

/-- "final post processing of distances" -/
def finalLoop (D : String) : St :=
  .forRange "i" (.lit 0) (.var "width") (.lit 1) (finalLoopBody D)

def storeDistanceBody : St :=
    (.stF2 "img_distance" (.var "line") (.var "i") (.ld1 "line_proximity" (.var "i")))

/-- `for i in range(width): img_distance[line][i] = line_proximity[i]` -/
def storeDistance : St :=
  .forRange "i" (.lit 0) (.var "width") (.lit 1) (storeDistanceBody)

/-- one line of the top-down pass -/
def tdLine : St :=
  (.seq readLine
  (.seq (.allocF "line_proximity" [(.var "width")] (.lit 0 1))
  (.seq resetLine
  (callLine (NL "1") .tt
  (.seq (mergeLoop (D "2"))
  (.seq resetNearest
  (callLine (NL "3") .ff
  (storeMergeLoop (D "4")))))))))

/-- one line of the bottom-up pass -/
def buLine : St :=
  (.seq readDistance
  (.seq readLine
  (.seq resetNearest
  (callLine (NL "5") .ff
  (.seq (mergeLoop (D "6"))
  (.seq resetNearest
  (callLine (NL "7") .tt
  (.seq (finalLoop (D "8"))
  storeDistance))))))))

def tdPass : St := .forRange "line" (.lit 0) (.var "height") (.lit 1) tdLine
def buPass : St := .forRange "line" (.bin .sub (.var "height") (.lit 1)) (.lit (-1)) (.lit (-1)) buLine

/-- allocations and the first reset -/
def pnInit (rest : St) : St :=
  (.seq (.setI "height" (.dim "img" 0))
  (.seq (.setI "width" (.dim "img" 1))
  (.seq (.allocI "pan_near_x" [(.var "width")] (.lit 0))
  (.seq (.allocI "pan_near_y" [(.var "width")] (.lit 0))
  (.seq (.allocF "output_img" [(.var "height"), (.var "width")] .nan)
  (.seq (.allocF "img_distance" [(.var "height"), (.var "width")] (.lit 0 1))
  (.seq resetPan
  (.seq (.allocF "scan_line" [(.var "width")] (.lit 0 1))
  (.seq (.allocI "nearest_xs" [(.var "width")] (.lit 0))
  (.seq (.allocI "nearest_ys" [(.var "width")] (.lit 0))
  rest))))))))))

/-- `_process_numpy` -/
def pnBody : St :=
  pnInit
  (.seq tdPass
  (.seq resetPan
  (.seq buPass
  (.ite (.cmpI .eq (.var "process_mode") (.lit 0)) .ret .ret))))

theorem processNumpy_is_template : Gen.IL.processNumpy.body = pnBody := by
  -- the prefixed names are computed before the two terms are compared: `rfl` alone would compute each of them
  -- again at every occurrence
  simp only [pnBody, pnInit, tdPass, buPass, tdLine, buLine, callLine, lineBody, prologueThen, sweepLoop, pixelBody,
    bInit, bTest, bTgt, bCand, bNds, bAbove, bLastSet, bNb, bTrSet, bUpd, bDist, NL, Names.pfx, LV.base, D,
    mergeLoop, storeMergeLoop, storeMergeLoopBody, finalLoop, finalLoopBody, mergeStmt, dirCall, dirBody,
    String.reduceAppend]
  rfl

end XrsVerif.IL.Px
