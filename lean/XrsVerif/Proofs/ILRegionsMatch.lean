import XrsVerif.Proofs.ILRegionsGather
/-
  Proofs/ILRegionsMatch.lean -- step 2 of the refinement of `Gen.IL.areaConnectivity`: the match block

      rtol = 1e-05; atol = 1e-08
      is_close = np.abs(src_window - val) <= (atol + rtol * np.abs(val))
      neighbor_matches = np.where(is_close)[0]

  which the translator expands into two loops (`closeLoop`, `whereLoop`) and two allocations.

  `exec_matchThen`: afterwards `neighbor_matches` is the increasing list of the window positions `k` with
  `closeF val src_window[k]`, where `closeF v a = Fl.le (Fl.abs (Fl.sub a v)) (Fl.add 1e-8 (Fl.mul 1e-5 (Fl.abs v)))` is the
  source's test read off the `Fl` operations (an abstract Boolean relation: no law of `Fl` is used); its shape is
  `[number of such positions]`; apart from that only the scratch variables `rtol`, `atol`, `is_close`, the loop
  variables and the counter changed.  No access is out of range.
-/
namespace XrsVerif.IL.Rg
open XrsVerif XrsVerif.IL XrsVerif.Regions
variable {F : Type} [Fl F]
set_option linter.unusedSectionVars false

/-- the closeness test of the source with explicit tolerances: window value `a` against the centre value `v` -/
def closeT (atol rtol v a : F) : Bool := Fl.le (Fl.abs (Fl.sub a v)) (Fl.add atol (Fl.mul rtol (Fl.abs v)))

/-- ... with the source's tolerances `atol = 1e-08`, `rtol = 1e-05` -/
def closeF (v a : F) : Bool := closeT (Fl.lit 1 100000000) (Fl.lit 1 100000) v a

abbrev natCast : Nat → Int := fun k => (k : Int)

theorem eq_map_getD {α : Type} (l : List α) (d : α) : l = (List.range l.length).map fun k => l.getD k d := by
  apply List.ext_getElem
  · simp
  · intro i h1 h2; simp [List.getD_eq_getElem?_getD, List.getElem?_eq_getElem h1]

theorem exec_closeBody (fuel : Nat) (ek : String) (n k : Nat) (hk : k < n) (st : State F)
    (hsw : st.shp "src_window" = [n]) (hic : st.shp "is_close" = [n]) (hek : st.ienv ek = (k : Int)) :
    exec fuel (closeBody ek) st =
      { st with ia := setS st.ia "is_close" ((st.ia "is_close").set k
          (if closeT (st.fenv "atol") (st.fenv "rtol") (st.fenv "val") ((st.fa "src_window").getD k Fl.nan)
            then (1 : Int) else 0)) } := by
  unfold closeBody
  rw [exec_ite_def]
  simp only [closeBE, BE.ok, FE.ok, IE.ok, BE.eval, FE.eval, IE.eval, CmpOp.eval, UnOp.eval, BinOp.eval,
    hek, hsw, List.length_cons, List.length_nil, List.getD_cons_zero,
    decide_true, Bool.and_true, inRange_of_lt _ _ hk, off1_nat, if_true]
  by_cases hc : closeT (st.fenv "atol") (st.fenv "rtol") (st.fenv "val") ((st.fa "src_window").getD k Fl.nan) = true <;>
    simp only [closeT] at hc <;>
    simp only [hc, Bool.false_eq_true, if_true, if_false, closeT] <;>
    rw [exec_stI1_def] <;>
    simp only [IE.ok, IE.eval, hek, hic, List.length_cons, List.length_nil, List.getD_cons_zero,
      decide_true, Bool.and_true, inRange_of_lt _ _ hk, off1_nat, if_true]

/-- `is_close = np.abs(src_window - val) <= (atol + rtol * np.abs(val))` -/
theorem exec_closeLoop (fuel : Nat) (ek : String) (n : Nat) (s : State F) (hrun : s.ctl = .run)
    (hsw : s.shp "src_window" = [n]) (hsl : (s.fa "src_window").length = n)
    (hic : s.shp "is_close" = [n]) (hil : (s.ia "is_close").length = n) :
    ∃ ie' : String → Int, (∀ v, v ≠ ek → ie' v = s.ienv v) ∧
      exec fuel (closeLoop ek) s =
        { s with
          ienv := ie',
          ia := setS s.ia "is_close" ((s.fa "src_window").map fun a =>
                  if closeT (s.fenv "atol") (s.fenv "rtol") (s.fenv "val") a then (1 : Int) else 0) } := by
  let g : Nat → Int := fun k =>
    if closeT (s.fenv "atol") (s.fenv "rtol") (s.fenv "val") ((s.fa "src_window").getD k Fl.nan) then 1 else 0
  obtain ⟨-, ie', hie, heq⟩ := forRange_up ek (.dim "src_window" 0) (closeBody ek) s fuel n hrun
    (by simp [IE.ok, hsw]) (by simp [IE.eval, hsw])
    (fun k st => ∃ ie' : String → Int, (∀ v, v ≠ ek → ie' v = s.ienv v) ∧
      st = { s with ienv := ie',
                    ia := setS s.ia "is_close" (putFrom (s.ia "is_close") 0 ((List.range k).map g)) })
    ⟨s.ienv, fun _ _ => rfl, by simp only [List.range_zero, List.map_nil, putFrom, setS_self]⟩
    (fun k hk st _ ⟨ie', hie, hst⟩ => by
      subst hst
      have hb := exec_closeBody fuel ek n k hk
        { s with ienv := setS ie' ek (k : Int),
                 ia := setS s.ia "is_close" (putFrom (s.ia "is_close") 0 ((List.range k).map g)) }
        hsw hic (setS_same _ _ _)
      dsimp only at hb ⊢
      rw [hb, afterBody_run _ (by exact hrun)]
      refine ⟨hrun, setS ie' ek (k : Int), fun v hv => (setS_other _ _ _ _ hv).trans (hie v hv), ?_⟩
      simp only [setS_same, setS_setS, List.range_succ, List.map_append, List.map_cons, List.map_nil, putFrom_snoc,
        List.length_map, List.length_range, Nat.zero_add, g])
  refine ⟨ie', hie, ?_⟩
  unfold closeLoop
  rw [heq, putFrom_all _ _ (by simp [hil])]
  congr 2
  conv => rhs; rw [eq_map_getD (s.fa "src_window") Fl.nan, List.map_map, hsl]
  rfl

theorem exec_whereBody (fuel : Nat) (wn wk : String) (n cnt k c : Nat) (hk : k < n) (st : State F)
    (hrun : st.ctl = .run) (hic : st.shp "is_close" = [n]) (hnm : st.shp "neighbor_matches" = [cnt])
    (hwk : st.ienv wk = (k : Int)) (hwn : st.ienv wn = (c : Int))
    (hc : (st.ia "is_close").getD k 0 ≠ 0 → c < cnt) :
    exec fuel (whereBody wn wk) st =
      if (st.ia "is_close").getD k 0 ≠ 0 then
        { st with ienv := setS st.ienv wn ((c : Int) + 1),
                  ia := setS st.ia "neighbor_matches" ((st.ia "neighbor_matches").set c (k : Int)) }
      else st := by
  unfold whereBody
  rw [exec_ite_def]
  simp only [BE.ok, IE.ok, BE.eval, IE.eval, cmpInt, hwk, hic, List.length_cons, List.length_nil,
    List.getD_cons_zero, decide_true, Bool.and_true, inRange_of_lt _ _ hk, off1_nat, if_true]
  by_cases h : (st.ia "is_close").getD k 0 ≠ 0
  · have hd : decide ((st.ia "is_close").getD k 0 ≠ 0) = true := by simpa using h
    rw [if_pos h, if_pos hd, exec_seq, exec_stI1_def]
    simp only [IE.ok, IE.eval, hnm, hwn, hwk, List.length_cons, List.length_nil, List.getD_cons_zero, decide_true,
      Bool.and_true, inRange_of_lt _ _ (hc h), off1_nat, if_true, hrun]
    rw [exec_setI_def]
    simp only [IE.ok, IE.eval, IOp.eval, Bool.and_true, if_true, hwn]
  · have hd : decide ((st.ia "is_close").getD k 0 ≠ 0) = false := by simpa using h
    rw [if_neg h, hd, exec_skip]
    rfl

/-- `neighbor_matches = np.where(is_close)[0]`, after the allocation and with the counter at 0 -/
theorem exec_whereLoop (fuel : Nat) (wn wk : String) (hne : wn ≠ wk) (n cnt : Nat) (s : State F) (hrun : s.ctl = .run)
    (hic : s.shp "is_close" = [n]) (hnm : s.shp "neighbor_matches" = [cnt])
    (hwn : s.ienv wn = 0)
    (hcnt : ((List.range n).filter fun k => decide ((s.ia "is_close").getD k 0 ≠ 0)).length ≤ cnt) :
    ∃ ie' : String → Int, (∀ v, v ≠ wn → v ≠ wk → ie' v = s.ienv v) ∧
      exec fuel (whereLoop wn wk) s =
        { s with
          ienv := ie',
          ia := setS s.ia "neighbor_matches" (putFrom (s.ia "neighbor_matches") 0
                  (((List.range n).filter fun k => decide ((s.ia "is_close").getD k 0 ≠ 0)).map natCast)) } := by
  let hits : Nat → List Nat := fun k => (List.range k).filter fun k => decide ((s.ia "is_close").getD k 0 ≠ 0)
  have hsucc : ∀ k, hits (k + 1) = if (s.ia "is_close").getD k 0 ≠ 0 then hits k ++ [k] else hits k := by
    intro k
    simp only [hits, List.range_succ, List.filter_append, List.filter_cons, List.filter_nil]
    by_cases h : (s.ia "is_close").getD k 0 ≠ 0
    · rw [if_pos h, if_pos (by simpa using h)]
    · rw [if_neg h, if_neg (by simpa using h), List.append_nil]
  have hmono : ∀ k, k < n → (hits (k + 1)).length ≤ cnt := by
    intro k hk
    refine Nat.le_trans ?_ hcnt
    exact ((List.range_sublist.2 (by omega : k + 1 ≤ n)).filter _).length_le
  obtain ⟨-, ie', hie, -, heq⟩ := forRange_up wk (.dim "is_close" 0) (whereBody wn wk) s fuel n hrun
    (by simp [IE.ok, hic]) (by simp [IE.eval, hic])
    (fun k st => ∃ ie' : String → Int, (∀ v, v ≠ wn → v ≠ wk → ie' v = s.ienv v) ∧ ie' wn = ((hits k).length : Int) ∧
      st = { s with ienv := ie',
                    ia := setS s.ia "neighbor_matches" (putFrom (s.ia "neighbor_matches") 0 ((hits k).map natCast)) })
    ⟨s.ienv, fun _ _ _ => rfl, by simpa [hits] using hwn,
      by simp only [hits, List.range_zero, List.filter_nil, List.map_nil, putFrom, setS_self]⟩
    (fun k hk st _ ⟨ie', hie, hwn', hst⟩ => by
      subst hst
      have hb := exec_whereBody fuel wn wk n cnt k (hits k).length hk
        { s with ienv := setS ie' wk (k : Int),
                 ia := setS s.ia "neighbor_matches" (putFrom (s.ia "neighbor_matches") 0 ((hits k).map natCast)) }
        hrun hic hnm (setS_same _ _ _) ((setS_other _ _ _ _ hne).trans hwn')
        (fun h => by
          have := hmono k hk
          rw [hsucc, if_pos (by simpa [setS] using h)] at this
          simp only [List.length_append, List.length_cons, List.length_nil] at this
          omega)
      have hicl : setS s.ia "neighbor_matches" (putFrom (s.ia "neighbor_matches") 0 ((hits k).map natCast)) "is_close" =
          s.ia "is_close" := setS_other _ _ _ _ (by simp)
      dsimp only at hb ⊢
      rw [hb, hsucc]
      by_cases h : (s.ia "is_close").getD k 0 ≠ 0
      · rw [if_pos (by rw [hicl]; exact h), if_pos h, afterBody_run _ (by exact hrun)]
        refine ⟨hrun, setS (setS ie' wk (k : Int)) wn (((hits k).length : Int) + 1), fun v h1 h2 => ?_, ?_, ?_⟩
        · rw [setS_other _ _ _ _ h1, setS_other _ _ _ _ h2, hie v h1 h2]
        · rw [setS_same]; simp
        · simp only [setS_same, setS_setS, List.map_append, List.map_cons, List.map_nil, putFrom_snoc,
            List.length_map, Nat.zero_add]
      · rw [if_neg (by rw [hicl]; exact h), if_neg h, afterBody_run _ (by exact hrun)]
        exact ⟨hrun, setS ie' wk (k : Int), fun v h1 h2 => (setS_other _ _ _ _ h2).trans (hie v h1 h2),
          (setS_other _ _ _ _ hne).trans hwn', rfl⟩)
  exact ⟨ie', hie, by unfold whereLoop; exact heq⟩

theorem sum_mask_aux (c : F → Bool) (l : List F) (acc : Int) :
    (l.map fun a => if c a then (1 : Int) else 0).foldl (· + ·) acc = acc + ((l.filter c).length : Int) := by
  induction l generalizing acc with
  | nil => simp
  | cons a l ih =>
    simp only [List.map_cons, List.foldl_cons, ih, List.filter_cons]
    by_cases h : c a = true <;> simp [h] <;> omega

def matchIdx (c : F → Bool) (SW : List F) : List Nat :=
  (List.range SW.length).filter fun k => c (SW.getD k Fl.nan)

theorem filter_eq_matchIdx (c : F → Bool) (SW : List F) :
    SW.filter c = (matchIdx c SW).map fun k => SW.getD k Fl.nan := by
  conv => lhs; rw [eq_map_getD SW Fl.nan]
  rw [List.filter_map]
  rfl

theorem matchIdx_length (c : F → Bool) (SW : List F) : (matchIdx c SW).length = (SW.filter c).length := by
  rw [filter_eq_matchIdx]; simp

theorem matchIdx_lt (c : F → Bool) (SW : List F) (k : Nat) (h : k ∈ matchIdx c SW) : k < SW.length := by
  simp only [matchIdx, List.mem_filter, List.mem_range] at h; exact h.1

theorem mask_filter_len (c : F → Bool) (SW : List F) (n : Nat) (h : SW.length = n) :
    ((List.range' 0 n).filter fun k =>
        decide ((SW.map fun a => if c a then (1 : Int) else 0).getD k 0 ≠ 0)) = matchIdx c SW := by
  subst h
  rw [matchIdx, List.range_eq_range']
  apply List.filter_congr
  intro k hk
  have hk' : k < SW.length := by simpa using hk
  simp only [List.getD_eq_getElem?_getD, List.getElem?_map, List.getElem?_eq_getElem hk', Option.map_some,
    Option.getD_some]
  by_cases h : c SW[k] = true <;> simp [h]

theorem exec_matchThen (fuel : Nat) (ek wn wk : String) (hne : wn ≠ wk) (rest : St) (n : Nat) (s : State F)
    (hrun : s.ctl = .run) (hsw : s.shp "src_window" = [n]) (hsl : (s.fa "src_window").length = n) :
    ∃ ie' : String → Int, (∀ v, v ≠ ek → v ≠ wn → v ≠ wk → ie' v = s.ienv v) ∧
      exec fuel (matchThen ek wn wk rest) s = exec fuel rest
        { s with
          ienv := ie',
          fenv := setS (setS s.fenv "rtol" (Fl.lit 1 100000)) "atol" (Fl.lit 1 100000000),
          shp := setS (setS s.shp "is_close" [n]) "neighbor_matches"
                  [(matchIdx (closeF (s.fenv "val")) (s.fa "src_window")).length],
          ia := setS (setS s.ia "is_close"
                  ((s.fa "src_window").map fun a => if closeF (s.fenv "val") a then (1 : Int) else 0))
                  "neighbor_matches" ((matchIdx (closeF (s.fenv "val")) (s.fa "src_window")).map natCast) } := by
  -- rtol, atol, allocation of the mask
  let s3 : State F :=
    { s with
      fenv := setS (setS s.fenv "rtol" (Fl.lit 1 100000)) "atol" (Fl.lit 1 100000000),
      shp := setS s.shp "is_close" [n],
      ia := setS s.ia "is_close" (List.replicate n 0) }
  have h3 : ∀ k : St, exec fuel (.seq (.setF "rtol" (.lit 1 100000)) (.seq (.setF "atol" (.lit 1 100000000))
      (.seq (.allocI "is_close" [(.dim "src_window" 0)] (.lit 0)) k))) s = exec fuel k s3 := by
    intro k
    simp [il, hrun, hsw, s3]
  have hs3sw : s3.shp "src_window" = [n] := by
    show setS s.shp "is_close" [n] "src_window" = [n]
    rw [setS_other _ _ _ _ (by simp)]; exact hsw
  -- the mask
  obtain ⟨ie4, hie4, h4⟩ := exec_closeLoop fuel ek n s3 hrun hs3sw hsl (by simp [s3]) (by simp [s3])
  have hval : s3.fenv "val" = s.fenv "val" := by simp [s3, setS]
  have hat : s3.fenv "atol" = Fl.lit 1 100000000 := by simp [s3]
  have hrt : s3.fenv "rtol" = Fl.lit 1 100000 := by simp [s3, setS]
  rw [hval, hat, hrt] at h4
  let M : List Int := (s.fa "src_window").map fun a => if closeF (s.fenv "val") a then (1 : Int) else 0
  let idx := matchIdx (closeF (s.fenv "val")) (s.fa "src_window")
  have hsum : M.foldl (· + ·) 0 = (idx.length : Int) := by
    simp only [M, idx, sum_mask_aux, matchIdx_length]; simp
  have h4' : exec fuel (closeLoop ek) s3 = { s3 with ienv := ie4, ia := setS s3.ia "is_close" M } := h4
  -- allocation of the result, counter
  let s6 : State F :=
    { s3 with
      ienv := setS ie4 wn 0,
      shp := setS s3.shp "neighbor_matches" [idx.length],
      ia := setS (setS s3.ia "is_close" M) "neighbor_matches" (List.replicate idx.length 0) }
  have h6 : ∀ k : St, exec fuel (.seq (closeLoop ek) (.seq (.allocI "neighbor_matches" [(.sum "is_close")] (.lit 0))
      (.seq (.setI wn (.lit 0)) k))) s3 = exec fuel k s6 := by
    intro k
    simp [il, h4', show s3.ctl = .run from hrun, hsum, s6]
  -- np.where
  have hidx : ((List.range n).filter fun k => decide (M.getD k 0 ≠ 0)) = idx := by
    rw [List.range_eq_range']; exact mask_filter_len _ _ _ hsl
  have hM6 : s6.ia "is_close" = M := by simp [s6, setS]
  obtain ⟨ie7, hie7, h7⟩ := exec_whereLoop fuel wn wk hne n idx.length s6 hrun
    (by simp [s6, s3, setS]) (by simp [s6]) (by simp [s6]) (by rw [hM6, hidx]; omega)
  have h7' : exec fuel (whereLoop wn wk) s6 =
      { s6 with ienv := ie7, ia := setS s6.ia "neighbor_matches" (idx.map natCast) } := by
    rw [h7, hM6, hidx, putFrom_all _ _ (by simp [s6])]
  refine ⟨ie7, fun v h1 h2 h3 => ?_, ?_⟩
  · rw [hie7 v h2 h3]
    show setS ie4 wn 0 v = _
    rw [setS_other _ _ _ _ h2, hie4 v h1]
  · unfold matchThen
    rw [h3, h6, exec_seq, h7', if_pos (by exact hrun)]
    simp only [s6, s3, setS_setS]
    rfl

end XrsVerif.IL.Rg
