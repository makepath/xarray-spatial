import XrsVerif.Proofs.ILVsInitElev
/-
  The three-row ring buffer `inrast` of the generated `_init_event_list`: a row copy
  (`rowcp_exec`), and the rotation at the head of iteration `i` (`ringStep_exec`): `inrast[0] = inrast[1]`,
  `inrast[1] = inrast[2]`, `inrast[2] = tmprast` -- `tmprast` being the *view* `inrast[0]`, i.e. the row just overwritten,
  harmless because row 2 is then replaced by the next raster row or by NaN -- turns `PreRing` (rows 1, 2 = raster rows
  `i - 1`, `i`) into `Ring` (rows 0, 1, 2 = raster rows `i - 1`, `i`, `i + 1`).
-/
namespace XrsVerif.ILSw
open XrsVerif XrsVerif.IL XrsVerif.ViewshedEvents
variable {F : Type} [Fl F]

theorem row_disjoint (r sr C k : Nat) (hk : k < C) (hne : sr ≠ r) : ¬ (r * C ≤ sr * C + k ∧ sr * C + k < r * C + C) := by
  intro ⟨h1, h2⟩
  rcases Nat.lt_or_gt_of_ne hne with h | h
  · have : (sr + 1) * C ≤ r * C := Nat.mul_le_mul_right C h
    rw [Nat.add_mul] at this; omega
  · have : (r + 1) * C ≤ sr * C := Nat.mul_le_mul_right C h
    rw [Nat.add_mul] at this; omega

/-- **a row copy** `dst[<q>r] = src[sv]` between 2-D arrays of the same width (the same array allowed, other row) -/
theorem rowcp_exec (q dst src sv : String) (hsv : sv ≠ q ++ "k") (s : State F) (fuel R C R' r sr : Nat)
    (hs : s.ctl = .run) (hshp : s.shp dst = [R, C]) (hlen : (s.fa dst).length = R * C) (hshs : s.shp src = [R', C])
    (hr : s.ienv (q ++ "r") = r) (hrR : r < R) (hsr : s.ienv sv = sr) (hsrR : sr < R') (hC : 0 < C)
    (hne : dst = src → sr ≠ r) :
    exec fuel (rowcp q dst src sv) s =
      { s with ienv := setS s.ienv (q ++ "k") ((C - 1 : Nat) : Int),
               fa := setS s.fa dst (setRow (s.fa dst) C r (fun k => (s.fa src).getD (sr * C + k) Fl.nan)) } := by
  refine forRange_setRow dst (q ++ "k") (.dim dst 1) (.var (q ++ "r")) (.ld2 src (.var sv) (.var (q ++ "k"))) s fuel R C r _
    hs hshp hlen hrR hC ⟨by simp [IE.ok, hshp], by simp [IE.eval, hshp]⟩ ?_
  intro k l hk hl hout
  have i1 : inRange (sr : Int) R' = true := inRange_of_lt sr R' hsrR
  have i2 : inRange (k : Int) C = true := inRange_of_lt k C hk
  have o : off2 [R', C] (sr : Int) (k : Int) = sr * C + k := off2_nat R' C sr k
  by_cases hds : dst = src
  · subst hds
    have hsame : R' = R := by rw [hshp] at hshs; simpa using hshs.symm
    subst hsame
    have := hout (sr * C + k) (row_disjoint r sr C k hk (hne rfl))
    simp [il, hr, hsr, hsv, hshp, i1, i2, o]
    simpa using this
  · have hds' : ¬ src = dst := fun e => hds e.symm
    simp [il, hr, hsr, hsv, hshs, i1, i2, o, hds']


def terr (rast : List F) (w : Nat) : Int → Int → F := fun r c => rdI rast w r c

/-- the ring buffer at the head of iteration `i`, before its rotation: row 1 holds raster row `i - 1`, row 2 row `i` -/
def PreRing (inr : List F) (T : Int → Int → F) (h w : Nat) (i : Int) : Prop :=
  ∀ d c : Int, 1 ≤ d → d ≤ 2 → 0 ≤ i + d - 2 → i + d - 2 < h → 0 ≤ c → c < w → rdI inr w d c = T (i + d - 2) c

theorem Ring.pre {inr : List F} {T : Int → Int → F} {h w : Nat} {i : Int} (r : Ring inr T h w i) : PreRing inr T h w (i + 1) := by
  intro d c h1 h2 h3 h4 h5 h6
  have := r d c (by omega) h2 (by omega) (by omega) h5 h6
  rw [this]; congr 1; omega

/-- the integer variables the row loop relies on -/
def keepVars : List String := ["i", "n_rows", "n_cols", "vp_row", "vp_col", "count_event"]

structure RingPost (s s' : State F) (T : Int → Int → F) (h w : Nat) (i : Nat) : Prop where
  ctl : s'.ctl = .run
  shp : s'.shp = s.shp
  ia : s'.ia = s.ia
  fa : ∀ a, a ≠ "inrast" → s'.fa a = s.fa a
  len : (s'.fa "inrast").length = 3 * w
  ring : Ring (s'.fa "inrast") T h w i
  keep : ∀ v ∈ keepVars, s'.ienv v = s.ienv v

theorem ring_of_rows (inr4 inr0 rast : List F) (h w : Nat) (i : Nat) (pre : PreRing inr0 (terr rast w) h w i)
    (r0 : ∀ c, c < w → inr4.getD c Fl.nan = inr0.getD (w + c) Fl.nan)
    (r1 : ∀ c, c < w → inr4.getD (w + c) Fl.nan = inr0.getD (2 * w + c) Fl.nan)
    (r2 : i + 1 < h → ∀ c, c < w → inr4.getD (2 * w + c) Fl.nan = rast.getD ((i + 1) * w + c) Fl.nan) :
    Ring inr4 (terr rast w) h w i := by
  intro d c h1 h2 h3 h4 h5 h6
  obtain ⟨cn, rfl⟩ := Int.eq_ofNat_of_zero_le h5
  have hcn : cn < w := by omega
  obtain rfl | rfl | rfl : d = 0 ∨ d = 1 ∨ d = 2 := by omega
  · have := pre 1 cn (by omega) (by omega) (by omega) (by omega) h5 h6
    have q := r0 cn hcn
    simp only [rdI] at this ⊢
    simp at this q ⊢
    rw [q, this]; congr 1; omega
  · have := pre 2 cn (by omega) (by omega) (by omega) (by omega) h5 h6
    have q := r1 cn hcn
    simp only [rdI] at this ⊢
    simp at this q ⊢
    rw [q, this]
  · have hi1 : i + 1 < h := by omega
    have q := r2 hi1 cn hcn
    simp only [rdI, terr]
    simp at q ⊢
    rw [q]
    have e : ((i : Int) + 2).toNat - 1 = i + 1 := by omega
    rw [e]

theorem ringStep_exec (s : State F) (fuel : Nat) (h w i : Nat) (hs : s.ctl = .run)
    (shInr : s.shp "inrast" = [3, w]) (lenInr : (s.fa "inrast").length = 3 * w) (shR : s.shp "raster" = [h, w])
    (pre : PreRing (s.fa "inrast") (terr (s.fa "raster") w) h w i) (vi : s.ienv "i" = i) (nr : s.ienv "n_rows" = h)
    (nc : s.ienv "n_cols" = w) (hw : 0 < w) :
    RingPost s (exec fuel (ILVs.seqL ringStep) s) (terr (s.fa "raster") w) h w i := by
  obtain ⟨ie, fe, be, ia, fa, shp, ext, ctl⟩ := s
  simp only at hs shInr lenInr shR pre vi nr nc; subst hs
  show Post fuel _ _ (fun r => RingPost _ r _ h w i)
  simp only [ringStep, ILVs.seqL]
  refine Post.seq_eq _ (exec_setI_lit _ _ _ _) rfl ?_
  refine Post.seq_eq _ (exec_setI_lit _ _ _ _) rfl ?_
  refine Post.seq_eq _ (exec_setI_lit _ _ _ _) rfl ?_
  refine Post.seq_eq _ (rowcp_exec "rowcp2$" "inrast" "inrast" "rowcp2$s" (by simp) _ fuel 3 w 3 0 1 rfl shInr lenInr shInr
    (by simp [setS_apply]) (by omega) (by simp) (by omega) hw (by intro; omega)) rfl ?_
  refine Post.seq_eq _ (exec_setI_lit _ _ _ _) rfl ?_
  refine Post.seq_eq _ (exec_setI_lit _ _ _ _) rfl ?_
  refine Post.seq_eq _ (rowcp_exec "rowcp3$" "inrast" "inrast" "rowcp3$s" (by simp) _ fuel 3 w 3 1 2 rfl shInr
    (by simp [lenInr]) shInr
    (by simp [setS_apply]) (by omega) (by simp) (by omega) hw (by intro; omega)) rfl ?_
  refine Post.seq_eq _ (exec_setI_lit _ _ _ _) rfl ?_
  refine Post.seq_eq _ (rowcp_exec "rowcp4$" "inrast" "inrast" "row$tmprast" (by simp) _ fuel 3 w 3 2 0 rfl shInr
    (by simp [lenInr]) shInr
    (by simp) (by omega) (by simp [setS_apply]) (by omega) hw (by intro; omega)) rfl ?_
  simp only [setS_apply, setS_setS, if_true]
  -- the three rotated rows
  generalize hI3 : (setRow (setRow (setRow (fa "inrast") w 0 fun k => (fa "inrast").getD (1 * w + k) Fl.nan) w 1 fun k =>
      (setRow (fa "inrast") w 0 fun k => (fa "inrast").getD (1 * w + k) Fl.nan).getD (2 * w + k) Fl.nan) w 2 fun k =>
      (setRow (setRow (fa "inrast") w 0 fun k => (fa "inrast").getD (1 * w + k) Fl.nan) w 1 fun k =>
        (setRow (fa "inrast") w 0 fun k => (fa "inrast").getD (1 * w + k) Fl.nan).getD (2 * w + k) Fl.nan).getD (0 * w + k) Fl.nan) = inr3
  have len3 : inr3.length = 3 * w := by rw [← hI3]; simp [lenInr]
  have row0 : ∀ c, c < w → inr3.getD c Fl.nan = (fa "inrast").getD (w + c) Fl.nan := by
    intro c hc
    rw [← hI3]
    simp only [getD_setRow, length_setRow, lenInr]
    have a1 : ¬ (2 * w ≤ c ∧ c < 2 * w + w ∧ c < 3 * w) := by omega
    have a2 : ¬ (1 * w ≤ c ∧ c < 1 * w + w ∧ c < 3 * w) := by omega
    have a3 : (0 * w ≤ c ∧ c < 0 * w + w ∧ c < 3 * w) := by omega
    rw [if_neg a1, if_neg a2, if_pos a3]
    congr 1; omega
  have row1 : ∀ c, c < w → inr3.getD (w + c) Fl.nan = (fa "inrast").getD (2 * w + c) Fl.nan := by
    intro c hc
    rw [← hI3]
    simp only [getD_setRow, length_setRow, lenInr]
    have a1 : ¬ (2 * w ≤ w + c ∧ w + c < 2 * w + w ∧ w + c < 3 * w) := by omega
    have a2 : (1 * w ≤ w + c ∧ w + c < 1 * w + w ∧ w + c < 3 * w) := by omega
    have a3 : ¬ (0 * w ≤ 2 * w + (w + c - 1 * w) ∧ 2 * w + (w + c - 1 * w) < 0 * w + w ∧ 2 * w + (w + c - 1 * w) < 3 * w) := by omega
    rw [if_neg a1, if_pos a2, if_neg a3]
    congr 1; omega
  -- writing row 2 leaves them
  have rows01 : ∀ f : Nat → F, (∀ c, c < w → (setRow inr3 w 2 f).getD c Fl.nan = (fa "inrast").getD (w + c) Fl.nan) ∧
      (∀ c, c < w → (setRow inr3 w 2 f).getD (w + c) Fl.nan = (fa "inrast").getD (2 * w + c) Fl.nan) := by
    intro f
    constructor
    · intro c hc
      rw [getD_setRow, len3]
      have a1 : ¬ (2 * w ≤ c ∧ c < 2 * w + w ∧ c < 3 * w) := by omega
      rw [if_neg a1]; exact row0 c hc
    · intro c hc
      rw [getD_setRow, len3]
      have a1 : ¬ (2 * w ≤ w + c ∧ w + c < 2 * w + w ∧ w + c < 3 * w) := by omega
      rw [if_neg a1]; exact row1 c hc
  generalize hI9 : (setS (setS (setS (setS (setS (setS (setS (setS (setS ie "row$tmprast" 0) "rowcp2$r" 0) "rowcp2$s" 1)
      ("rowcp2$" ++ "k") ((w - 1 : Nat) : Int)) "rowcp3$r" 1) "rowcp3$s" 2) ("rowcp3$" ++ "k") ((w - 1 : Nat) : Int)) "rowcp4$r" 2)
      ("rowcp4$" ++ "k") ((w - 1 : Nat) : Int)) = ie9
  have keep9 : ∀ v ∈ keepVars, ie9 v = ie v := by
    intro v hv
    simp [keepVars] at hv
    rw [← hI9]
    rcases hv with rfl | rfl | rfl | rfl | rfl | rfl <;> simp [setS_apply]
  have vi9 : ie9 "i" = i := (keep9 _ (by simp [keepVars])).trans vi
  have nr9 : ie9 "n_rows" = h := (keep9 _ (by simp [keepVars])).trans nr
  have nc9 : ie9 "n_cols" = w := (keep9 _ (by simp [keepVars])).trans nc
  by_cases hlast : i + 1 < h
  · -- read the next raster row
    have hc : (BE.cmpI .lt (.var "i") (.bin .sub (.var "n_rows") (.lit 1))).eval
        (⟨ie9, fe, be, ia, setS fa "inrast" inr3, shp, ext, .run⟩ : State F) = true := by
      simp [il, vi9, nr9]; omega
    unfold Post
    rw [exec_ite_true _ _ _ _ _ (by simp [il]) hc]
    show Post fuel _ _ (fun r => RingPost _ r _ h w i)
    refine Post.seq_eq _ (exec_setI_lit _ _ _ _) rfl ?_
    refine Post.seq_eq _ (exec_setI _ _ _ _ (by simp [IE.ok])) rfl ?_
    refine Post.of_eq _ (rowcp_exec "rowcp5$" "inrast" "raster" "rowcp5$s" (by simp) _ fuel 3 w h 2 (i + 1) rfl shInr
      (by simp [len3]) shR (by simp [setS_apply]) (by omega)
      (by simp [il, vi9]) hlast hw (by intro e; exact absurd e (by simp))) ?_
    refine ⟨rfl, rfl, rfl, ?_, ?_, ?_, ?_⟩
    · intro a ha; simp [setS_apply, ha]
    · simp [setS_apply, len3]
    · simp only [setS_apply, if_true]
      refine ring_of_rows _ (fa "inrast") (fa "raster") h w i pre (rows01 _).1 (rows01 _).2 ?_
      · intro _ c hc
        rw [getD_setRow, len3]
        have a1 : (2 * w ≤ 2 * w + c ∧ 2 * w + c < 2 * w + w ∧ 2 * w + c < 3 * w) := by omega
        rw [if_pos a1]
        simp
    · intro v hv
      have := keep9 v hv
      simp [keepVars] at hv
      rcases hv with rfl | rfl | rfl | rfl | rfl | rfl <;> simp [setS_apply, this]
  · -- past the last row: fill with NaN
    have hc : (BE.cmpI .lt (.var "i") (.bin .sub (.var "n_rows") (.lit 1))).eval
        (⟨ie9, fe, be, ia, setS fa "inrast" inr3, shp, ext, .run⟩ : State F) = false := by
      simp [il, vi9, nr9]; omega
    unfold Post
    rw [exec_ite_false _ _ _ _ _ (by simp [il]) hc]
    rw [forRange_setRow "inrast" "j" (.var "n_cols") (.lit 2) .nan _ fuel 3 w 2 (fun _ => Fl.nan) rfl shInr
      (by simp [len3]) (by omega) hw ⟨by simp [IE.ok], by simp [IE.eval, nc9]⟩
      (by intro k l hk hl hout; simp [il])]
    refine ⟨rfl, rfl, rfl, ?_, ?_, ?_, ?_⟩
    · intro a ha; simp [setS_apply, ha]
    · simp [len3]
    · simp only [setS_apply, if_true]
      refine ring_of_rows _ (fa "inrast") (fa "raster") h w i pre (rows01 _).1 (rows01 _).2 ?_
      · intro hh; exact absurd hh hlast
    · intro v hv
      have := keep9 v hv
      simp [keepVars] at hv
      rcases hv with rfl | rfl | rfl | rfl | rfl | rfl <;> simp [setS_apply, this]
end XrsVerif.ILSw
