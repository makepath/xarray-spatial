import XrsVerif.Proofs.Zonal
import XrsVerif.Model.Crosstab
import Mathlib.Tactic.FieldSimp
import Mathlib.Tactic.Ring
/-
  Helper lemmas for C04 (and the crosstab half of C03):
  * `strides` over the sorted values of a zone are the running totals of the category counts;
  * the `cat_start` loop (`catLoop`) emits, for every selected category, its own count plus the
    counts of the unselected categories skipped since the last selected one (`emit`) -- nothing but
    its own count when the offset is advanced for every category;
  * the per-zone rows of the repaired sort-and-stride are the rows of the true contingency table.
-/
set_option linter.unusedSectionVars false
namespace XrsVerif.Zonal

variable {κ γ : Type} [LinearOrder κ] [LinearOrder γ]

def prefixFrom : Nat → List Nat → List Nat
  | _, [] => []
  | c, k :: ks => (c + k) :: prefixFrom (c + k) ks

theorem strides_eq_prefix_slices {α : Type} (ps : List (γ × α)) (us : List γ) (c : Nat) :
    strides (ps.map Prod.fst) c us = prefixFrom c ((slices ps us).map List.length) := by
  induction us generalizing ps c with
  | nil => rfl
  | cons u us ih => rw [strides_map_fst, ih, slices, List.map_cons, List.length_map, prefixFrom]

theorem strides_eq_prefix (s : List γ) (us : List γ) (c : Nat)
    (hs : s.Pairwise (· ≤ ·)) (hu : us.Pairwise (· < ·)) (hmem : ∀ x ∈ s, x ∈ us) :
    strides s c us = prefixFrom c (us.map (fun u => s.count u)) := by
  have h := strides_eq_prefix_slices (s.map fun x => (x, ())) us c
  rw [slices_eq_filter _ us (List.pairwise_map.mpr hs) hu (by simpa using hmem), List.map_map, List.map_map] at h
  simpa [Function.comp_def, List.filter_map, List.count_eq_length_filter] using h

/-- what `catLoop` emits in terms of the per-category counts: a selected category reports its own
    count plus `acc`, the counts of the unselected categories skipped since the last selected one
    (always 0 when the offset advances for every category) -/
def emit (always : Bool) (sel : γ → Bool) : Nat → List (γ × Nat) → List (γ × Nat)
  | _, [] => []
  | acc, (c, k) :: rest =>
    if sel c then (c, acc + k) :: emit always sel 0 rest
    else emit always sel (if always then 0 else acc + k) rest

theorem zip_prefixFrom_cons (u : γ) (us : List γ) (c k : Nat) (ks : List Nat) :
    (u :: us).zip (prefixFrom c (k :: ks)) = (u, c + k) :: us.zip (prefixFrom (c + k) ks) := rfl

theorem catLoop_eq_emit (always : Bool) (sel : γ → Bool) (us : List γ) (ks : List Nat) (cs c0 : Nat)
    (h : cs ≤ c0) :
    catLoop always sel cs (us.zip (prefixFrom c0 ks)) = emit always sel (c0 - cs) (us.zip ks) := by
  induction us generalizing ks cs c0 with
  | nil => simp [catLoop, emit]
  | cons u us ih =>
    cases ks with
    | nil => simp [prefixFrom, catLoop, emit]
    | cons k ks =>
      rw [zip_prefixFrom_cons]
      simp only [List.zip_cons_cons, catLoop, emit]
      by_cases hs : sel u = true
      · simp only [hs, if_true]
        rw [ih ks (c0 + k) (c0 + k) (Nat.le_refl _)]
        simp only [Nat.sub_self]
        congr 2
        omega
      · have hs' : sel u = false := by simpa using hs
        simp only [hs', Bool.false_eq_true, if_false]
        cases always with
        | true =>
          simp only [if_true]
          rw [ih ks (c0 + k) (c0 + k) (Nat.le_refl _)]
          simp
        | false =>
          simp only [Bool.false_eq_true, if_false]
          rw [ih ks cs (c0 + k) (by omega)]
          congr 1
          omega

theorem emit_always (sel : γ → Bool) (l : List (γ × Nat)) :
    emit true sel 0 l = l.filter (fun p => sel p.1) := by
  induction l with
  | nil => rfl
  | cons p l ih =>
    obtain ⟨c, k⟩ := p
    by_cases hs : sel c = true
    · simp [emit, hs, ih]
    · have hs' : sel c = false := by simpa using hs
      simp [emit, hs', ih]

theorem lookupD_map {α β : Type} [DecidableEq α] (d : β) (k : α) (l : List α) (g : α → β) :
    lookupD d k (l.map (fun a => (a, g a))) = if k ∈ l then g k else d := by
  induction l with
  | nil => simp [lookupD]
  | cons a l ih =>
    simp only [List.map_cons, lookupD, ih, List.mem_cons]
    by_cases h : a = k
    · subst h; simp
    · have : ¬ k = a := fun e => h e.symm
      simp [h, this]

def finVals (valid : X γ → Bool) (slice : List (X γ)) : List γ := (slice.filter valid).filterMap X.toFin?

/-- `_single_zone_crosstab_2d` in terms of counts: for any `always` the loop is `emit` over the
    per-category counts of the zone's valid values -/
theorem singleZone2d_eq (always : Bool) (valid : X γ → Bool) (uniqCats catIds : List γ) (slice : List (X γ))
    (hu : uniqCats.Pairwise (· < ·)) (hmem : ∀ x ∈ finVals valid slice, x ∈ uniqCats) :
    singleZone2d always valid uniqCats catIds slice
      = ((slice.filter valid).length,
          emit always (fun c => catIds.contains c) 0
            (uniqCats.zip (uniqCats.map (fun c => (finVals valid slice).count c)))) := by
  unfold singleZone2d
  simp only
  congr 1
  have hp := perm_isort ((slice.filter valid).filterMap X.toFin?)
  rw [strides_eq_prefix _ uniqCats 0 (sorted_isort _) hu (fun x hx => hmem x (hp.subset hx))]
  rw [catLoop_eq_emit always _ uniqCats _ 0 0 (Nat.le_refl _)]
  simp only [Nat.sub_self]
  congr 2
  apply List.map_congr_left
  intro c _
  exact hp.count_eq c

/-- the entry the property asks for: number of cells of `order` with zone `z` whose value is the
    valid (finite, not nodata) number `c` -/
def countZC (zones : Nat → X κ) (values : Nat → X γ) (valid : X γ → Bool) (order : List Nat) (z : κ) (c : γ) : Nat :=
  (finVals valid ((order.filter (fun i => zones i == .fin z)).map values)).count c

theorem countZC_eq_cells (zones : Nat → X κ) (values : Nat → X γ) (valid : X γ → Bool) (order : List Nat)
    (z : κ) (c : γ) :
    countZC zones values valid order z c
      = (order.filter (fun i => zones i == .fin z && (valid (values i) && values i == .fin c))).length := by
  unfold countZC finVals
  rw [List.count_filterMap, List.countP_filter, List.countP_map, List.countP_filter, List.countP_eq_length_filter]
  congr 1
  apply List.filter_congr
  intro i _
  simp only [Function.comp, X.toFin?_beq_some, Bool.and_comm, Bool.and_left_comm]

theorem countZC_perm (zones : Nat → X κ) (values : Nat → X γ) (valid : X γ → Bool) (o₁ o₂ : List Nat)
    (h : o₁.Perm o₂) (z : κ) (c : γ) :
    countZC zones values valid o₁ z c = countZC zones values valid o₂ z c :=
  (finCells_perm zones values valid o₁ o₂ h z).count_eq c

theorem mem_findCats2d (values : Nat → X γ) (valid : X γ → Bool) (cells : List Nat) (c : γ) :
    c ∈ findCats2d values valid cells ↔ ∃ i ∈ cells, valid (values i) = true ∧ values i = .fin c := by
  simp only [findCats2d, mem_sortDedup, List.mem_filterMap, ite_eq_iff, X.toFin?_eq_some, reduceCtorEq, and_false,
    or_false]

/-- the per-zone loop on the repaired sort-and-stride: one row per selected zone, computed from the
    cells of exactly that zone -/
theorem zoneRows2d_fixed (always : Bool) (zones : Nat → X κ) (values : Nat → X γ) (valid : X γ → Bool)
    (cells perm : List Nat) (uniq : List κ) (sel : κ → Bool) (uniqCats catIds : List γ)
    (hp : SortsCells zones cells perm) (hu : CoversCells zones cells uniq) :
    zoneRows2d true always zones values valid uniq sel uniqCats catIds perm
      = (uniq.filter sel).map (fun z =>
          singleZone2d always valid uniqCats catIds ((perm.filter (fun i => zones i == .fin z)).map values)) := by
  unfold zoneRows2d
  simp only
  rw [slices_fixed zones values cells perm uniq hp hu, filter_zip_map]

/-- the row of one zone, for any treatment of the running offset, in terms of the true counts -/
def rowOf (always : Bool) (uniqCats cats : List γ) (total : Nat) (counts : List Nat) : Nat × List Nat :=
  (total, cats.map (fun c => lookupD 0 c (emit always (fun c => cats.contains c) 0 (uniqCats.zip counts))))

/-- the rows are stated over `cells` in their own order: totals and counts do not depend on the order `perm` visits them in -/
theorem zoneRows2d_rows_gen (always : Bool) (zones : Nat → X κ) (values : Nat → X γ) (valid : X γ → Bool)
    (cells perm : List Nat) (uniq : List κ) (sel : κ → Bool) (uniqCats cats : List γ)
    (hp : SortsCells zones cells perm) (hu : CoversCells zones cells uniq)
    (hc : uniqCats.Pairwise (· < ·))
    (hcov : ∀ i ∈ cells, valid (values i) = true → ∀ c, values i = .fin c → c ∈ uniqCats) :
    (zoneRows2d true always zones values valid uniq sel uniqCats cats perm).map
        (fun r => (r.1, cats.map (fun c => lookupD 0 c r.2)))
      = (uniq.filter sel).map (fun z =>
          rowOf always uniqCats cats (zoneCells zones values valid cells z).length
            (uniqCats.map (countZC zones values valid cells z))) := by
  rw [zoneRows2d_fixed always zones values valid cells perm uniq sel uniqCats cats hp hu, List.map_map]
  apply List.map_congr_left
  intro z _
  have hmem : ∀ x ∈ finCells zones values valid perm z, x ∈ uniqCats := by
    intro x hx
    obtain ⟨i, hi, _, hval, hvx⟩ := mem_finCells.mp hx
    exact hcov i (hp.isPerm.subset hi) hval x hvx
  simp only [Function.comp]
  rw [singleZone2d_eq always valid uniqCats cats _ hc hmem]
  show rowOf always uniqCats cats (zoneCells zones values valid perm z).length
    (uniqCats.map (countZC zones values valid perm z)) = _
  rw [(zoneCells_perm zones values valid perm cells hp.isPerm z).length_eq,
    List.map_congr_left fun c _ => countZC_perm zones values valid perm cells hp.isPerm z c]

theorem rowOf_always (uniqCats : List γ) (catIds : Option (List γ)) (total : Nat) (g : γ → Nat) :
    rowOf true uniqCats (selectIds uniqCats catIds) total (uniqCats.map g)
      = (total, (selectIds uniqCats catIds).map g) := by
  unfold rowOf
  congr 1
  apply List.map_congr_left
  intro c hc
  rw [emit_always, zip_map_self, List.filter_map, Function.comp_def]
  simp only
  rw [lookupD_map]
  have hcu : c ∈ uniqCats := by
    cases catIds with
    | none => exact hc
    | some req => simp only [selectIds, List.mem_filter, List.contains_eq_mem, decide_eq_true_eq] at hc; exact hc.2
  simp [List.mem_filter, hcu, hc]

theorem zoneLabels_sorted (uniq : List κ) (zoneIds : Option (List κ)) :
    zoneLabels true uniq zoneIds = uniq.filter (fun u => (selectIds uniq zoneIds).contains u)
      ∧ uniq.filter (fun u => (selectIds uniq zoneIds).contains u) = uniq.filter (wanted zoneIds) := by
  cases zoneIds with
  | none =>
    have : wanted (none : Option (List κ)) = fun _ => true := rfl
    simp only [zoneLabels, selectIds, this]
    constructor
    · symm; apply List.filter_eq_self.mpr; intro a ha; simp [ha]
    · apply List.filter_congr; intro a ha; simp [ha]
  | some req =>
    simp only [zoneLabels, selectIds, if_true]
    constructor
    · apply List.filter_congr; intro a ha; simp [List.mem_filter, ha]
    · apply List.filter_congr; intro a ha; simp [List.mem_filter, ha, wanted]

/-- **the 2-D count table of the repaired code** (indices stripped before the gather, offset advanced
    for every category, rows listed in computed order), for every sorting permutation -/
theorem crosstabNumpy2d_fixed (zones : Nat → X κ) (values : Nat → X γ) (valid : X γ → Bool)
    (cells perm : List Nat) (zoneIds : Option (List κ)) (catIds : Option (List γ))
    (hp : SortsCells zones cells perm) :
    crosstabNumpy2d true true true zones values valid cells zoneIds catIds perm
      = some { zone := wantedZones zones cells zoneIds
               cats := selectIds (findCats2d values valid cells) catIds
               total := (wantedZones zones cells zoneIds).map (fun z => (zoneCells zones values valid cells z).length)
               rows := (wantedZones zones cells zoneIds).map (fun z =>
                  (selectIds (findCats2d values valid cells) catIds).map (countZC zones values valid cells z)) } := by
  have hu := uniqueZones_covers zones cells
  have hl := zoneLabels_sorted (uniqueZones zones cells) zoneIds
  have hrows := zoneRows2d_rows_gen true zones values valid cells perm (uniqueZones zones cells)
    (fun u => (selectIds (uniqueZones zones cells) zoneIds).contains u) (findCats2d values valid cells)
    (selectIds (findCats2d values valid cells) catIds) hp hu (sorted_sortDedup _) fun i hi hv c hvc =>
      (mem_findCats2d values valid cells c).mpr ⟨i, hi, hv, hvc⟩
  unfold crosstabNumpy2d
  simp only
  have hlen : (zoneLabels true (uniqueZones zones cells) zoneIds).length
      = (zoneRows2d true true zones values valid (uniqueZones zones cells)
          (fun u => (selectIds (uniqueZones zones cells) zoneIds).contains u)
          (findCats2d values valid cells) (selectIds (findCats2d values valid cells) catIds) perm).length := by
    have := congrArg List.length hrows
    simp only [List.length_map] at this
    rw [this, hl.1]
  rw [if_neg (by rw [hlen]; simp)]
  have h1 := congrArg (List.map Prod.fst) hrows
  have h2 := congrArg (List.map Prod.snd) hrows
  simp only [List.map_map, Function.comp_def] at h1 h2
  simp only [wantedZones]
  rw [hl.1, hl.2]
  rw [hl.2] at h1 h2
  rw [h1, h2]
  congr 2
  exact List.map_congr_left fun z _ => by rw [rowOf_always (findCats2d values valid cells) catIds]

theorem layerCol_fixed {ν ρ : Type} (zones : Nat → X κ) (layer : Nat → ν) (valid : ν → Bool) (func : List ν → ρ)
    (cells perm : List Nat) (uniq : List κ) (sel : κ → Bool)
    (hp : SortsCells zones cells perm) (hu : CoversCells zones cells uniq) :
    layerCol true zones layer valid func uniq sel perm
      = (uniq.filter sel).map (fun z => func (zoneCells zones layer valid perm z)) := by
  unfold layerCol
  simp only
  rw [slices_fixed zones layer cells perm uniq hp hu, filter_zip_map]
  rfl

theorem layerCol_length {ν : Type} (zones : Nat → X κ) (layer : Nat → ν) (valid : ν → Bool)
    (cells perm : List Nat) (uniq : List κ) (sel : κ → Bool)
    (hp : SortsCells zones cells perm) (hu : CoversCells zones cells uniq) :
    layerCol true zones layer valid List.length uniq sel perm
      = (uniq.filter sel).map (fun z => (zoneCells zones layer valid cells z).length) :=
  (layerCol_fixed zones layer valid List.length cells perm uniq sel hp hu).trans
    (List.map_congr_left fun z _ => (zoneCells_perm zones layer valid perm cells hp.isPerm z).length_eq)

/-- **the 3-D table of the repaired code**: every entry is `func` of the valid cells of that layer
    inside that zone (enumerated in `perm` order) -/
theorem crosstabNumpy3d_fixed {ν ρ : Type} [DecidableEq γ] (zones : Nat → X κ) (layers : List (γ × (Nat → ν)))
    (valid : ν → Bool) (func : List ν → ρ) (cells perm : List Nat)
    (zoneIds : Option (List κ)) (catIds : Option (List γ)) (hp : SortsCells zones cells perm) :
    crosstabNumpy3d true true zones layers valid func cells zoneIds catIds perm
      = some { zone := wantedZones zones cells zoneIds
               cats := selectIds (layers.map Prod.fst) catIds
               cols := (selectIds (layers.map Prod.fst) catIds).map (fun c =>
                  optCol (layers.find? (fun l => l.1 == c)) (fun l =>
                    (wantedZones zones cells zoneIds).map (fun z => func (zoneCells zones l.2 valid perm z)))) } := by
  have hu := uniqueZones_covers zones cells
  have hl := zoneLabels_sorted (uniqueZones zones cells) zoneIds
  unfold crosstabNumpy3d
  simp only
  rw [if_neg (by rw [hl.1]; simp)]
  simp only [wantedZones]
  rw [hl.1, hl.2]
  congr 2
  apply List.map_congr_left
  intro c _
  cases hfind : layers.find? (fun l => l.1 == c) with
  | none => rfl
  | some l =>
    simp only [optCol]
    rw [layerCol_fixed zones l.2 valid func cells perm _ _ hp hu, hl.2]

theorem sum_count_eq_length (cats : List γ) (hc : cats.Pairwise (· < ·)) (l : List γ) (hl : ∀ x ∈ l, x ∈ cats) :
    (cats.map (fun c => l.count c)).sum = l.length := by
  induction l with
  | nil => simp
  | cons x l ih =>
    have hx : x ∈ cats := hl x (by simp)
    have step : ∀ (cs : List γ), cs.Pairwise (· < ·) →
        (cs.map (fun c => (x :: l).count c)).sum = (cs.map (fun c => l.count c)).sum + (if x ∈ cs then 1 else 0) := by
      intro cs hcs
      induction cs with
      | nil => simp
      | cons a cs ihc =>
        rw [List.pairwise_cons] at hcs
        have e := ihc hcs.2
        have hcount : (x :: l).count a = l.count a + (if x = a then 1 else 0) := by
          rw [List.count_cons]; simp
        rw [List.map_cons, List.sum_cons, List.map_cons, List.sum_cons, e, hcount]
        by_cases hxa : x = a
        · subst hxa
          have : x ∉ cs := fun h => lt_irrefl _ (hcs.1 x h)
          simp [this]; omega
        · simp [hxa]; omega
    rw [step cats hc, ih (fun y hy => hl y (List.mem_cons_of_mem _ hy))]
    simp [hx]

theorem sum_countZC (zones : Nat → X κ) (values : Nat → X γ) (valid : X γ → Bool) (cells : List Nat) (z : κ)
    (hfin : ∀ v, valid v = true → v.isFin = true) :
    ((findCats2d values valid cells).map (countZC zones values valid cells z)).sum
      = (zoneCells zones values valid cells z).length := by
  unfold countZC
  rw [sum_count_eq_length (findCats2d values valid cells) (by unfold findCats2d; exact sorted_sortDedup _)]
  · exact length_filterMap_toFin _ fun v hv => hfin v (List.mem_filter.mp hv).2
  · intro x hx
    obtain ⟨i, hi, _, hval, hvx⟩ := mem_finCells.mp hx
    exact (mem_findCats2d values valid cells x).mpr ⟨i, hi, hval, hvx⟩

theorem percent_sum {F : Type} [Field F] [CharZero F] (ns : List Nat) (total : Nat) (ht : total ≠ 0)
    (hs : ns.sum = total) :
    (ns.map (fun (n : Nat) => (n : F) / (total : F) * ((100 : Nat) : F))).sum = ((100 : Nat) : F) := by
  have hT : (total : F) ≠ 0 := Nat.cast_ne_zero.mpr ht
  have : ∀ l : List Nat, (l.map (fun (n : Nat) => (n : F) / (total : F) * ((100 : Nat) : F))).sum
      = ((l.sum : Nat) : F) / (total : F) * ((100 : Nat) : F) := by
    intro l
    induction l with
    | nil => simp
    | cons a l ih => rw [List.map_cons, List.sum_cons, ih, List.sum_cons, Nat.cast_add]; ring
  rw [this, hs]
  field_simp

end XrsVerif.Zonal
