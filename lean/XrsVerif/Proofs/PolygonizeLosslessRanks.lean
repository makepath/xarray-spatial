import XrsVerif.Proofs.PolygonizeRegions
/-
  C15, losslessness: the region ids of `_calculate_regions` are first-pixel ranks (`regionId_ranked`), which is what
  `_scan` relies on (`regions[ij] == region_done + 1` detects exactly the first pixel of the next region).  Provisional
  ids are handed out in increasing order along the scan (`MInv`), the compaction numbers the roots in increasing order
  (`SInv`), and every pointer of the lookup goes to a smaller id (`Forest`).  Core Lean only.
-/
namespace XrsVerif.Polygonize
open XrsVerif.Regions (setL setL_same setL_ne)

structure MInv (k : Nat) (st : CR) : Prop where
  le : ∀ q, st.raw q ≤ st.region
  cr : ∀ u, 1 ≤ u → u ≤ st.region → ∃ p, p < k ∧ st.raw p = u ∧ ∀ q, q < p → st.raw q < u

section pass
variable {V : Type} (nx : Nat) (conn8 : Bool) (close : V → V → Bool) (values : Nat → V) (mask : Nat → Bool)

theorem MInv_set {k : Nat} {st : CR} (h : MInv k st) (v : Nat) (hv : v ≤ st.region) (lk : Lookup) :
    MInv (k + 1) ⟨setL st.raw k v, lk, st.region⟩ := by
  constructor
  · intro q; simp only [setL]; split
    · exact hv
    · exact h.le q
  · intro u h1 h2
    obtain ⟨p, hp, hr, hq⟩ := h.cr u h1 h2
    refine ⟨p, by omega, ?_, ?_⟩
    · simp only [setL]; rw [if_neg (by omega)]; exact hr
    · intro q hqp; simp only [setL]; rw [if_neg (by omega)]; exact hq q hqp

theorem calcStep_MInv {k : Nat} {st : CR} (h : MInv k st) :
    MInv (k + 1) (calcStep nx conn8 close values mask st k) := by
  have hw : (probeW nx conn8 close values mask st.raw k).2 ≤ st.region := by
    simp only [probeW]; split <;> exact h.le _
  have hs : (probeS nx conn8 close values mask st.raw k).2 ≤ st.region := by
    simp only [probeS]; split <;> exact h.le _
  unfold calcStep
  split
  · exact MInv_set h 0 (by omega) _
  · simp only
    split
    · refine MInv_set h _ ?_ _
      unfold minMax; split <;> simp only <;> assumption
    · split
      · exact MInv_set h _ hw _
      · split
        · exact MInv_set h _ hs _
        · constructor
          · intro q; simp only [setL]; split
            · omega
            · have := h.le q; omega
          · intro u h1 h2
            simp only at h2
            by_cases hu : u ≤ st.region
            · obtain ⟨p, hp, hr, hq⟩ := h.cr u h1 hu
              refine ⟨p, by omega, ?_, ?_⟩
              · simp only [setL]; rw [if_neg (by omega)]; exact hr
              · intro q hqp; simp only [setL]; rw [if_neg (by omega)]; exact hq q hqp
            · refine ⟨k, by omega, ?_, ?_⟩
              · simp only [setL, if_true]; omega
              · intro q hqk; simp only [setL]; rw [if_neg (by omega)]
                have := h.le q; omega

end pass

theorem calcPass_MInv {V : Type} (nx ny : Nat) (conn8 : Bool) (close : V → V → Bool) (values : Nat → V)
    (mask : Nat → Bool) : MInv (nx * ny) (calcPass nx ny conn8 close values mask) := by
  have h0 : MInv 0 ⟨fun _ => 0, ⟨fun _ => 0, max 64 (max nx ny)⟩, 0⟩ :=
    ⟨fun q => Nat.le_refl 0, by intro u h1 h2; simp only at h2; omega⟩
  exact foldl_range_inv (calcStep nx conn8 close values mask) MInv (nx * ny) h0
    fun k st _ h => calcStep_MInv nx conn8 close values mask h

structure SInv (k : Nat) (nl : Nat → Nat) (cnt : Nat) : Prop where
  all : ∀ c, c < cnt → ∃ u, u < k ∧ nl u = c
  below : ∀ u, u < k → ∀ c, c < nl u → ∃ u', u' < u ∧ nl u' = c

theorem SInv.assign {k : Nat} {nl : Nat → Nat} {cnt : Nat} (h : SInv k nl cnt) {x cnt' : Nat}
    (hx : ∀ c, c < x → ∃ u, u < k ∧ nl u = c) (hcnt : ∀ c, c < cnt' → c < cnt ∨ c = x) :
    SInv (k + 1) (setL nl k x) cnt' := by
  have old : ∀ {u c : Nat}, u < k → nl u = c → setL nl k x u = c := fun hu e => by
    rw [setL_ne (Nat.ne_of_lt hu)]; exact e
  constructor
  · intro c hc
    rcases hcnt c hc with hc | rfl
    · obtain ⟨u, hu, e⟩ := h.all c hc
      exact ⟨u, Nat.lt_succ_of_lt hu, old hu e⟩
    · exact ⟨k, Nat.lt_succ_self k, setL_same _ _ _⟩
  · intro u hu c hc
    by_cases huk : u = k
    · rw [huk, setL_same] at hc
      obtain ⟨u', hu', e⟩ := hx c hc
      exact ⟨u', huk ▸ hu', old hu' e⟩
    · rw [setL_ne huk] at hc
      obtain ⟨u', hu', e⟩ := h.below u (by omega) c hc
      exact ⟨u', hu', old (by omega) e⟩

theorem compactStep_SInv {lk : Lookup} (hF : Forest lk.get) (hZ : ∀ j, lk.size ≤ j → lk.get j = 0)
    {k : Nat} {st : (Nat → Nat) × Nat} (h : SInv k st.1 st.2) :
    SInv (k + 1) (compactStep lk st k).1 (compactStep lk st k).2 := by
  rw [compactStep_eq hZ]
  by_cases hk0 : lk.get k = 0
  · rw [if_pos hk0]
    exact h.assign h.all fun c hc => by omega
  · rw [if_neg hk0]
    refine h.assign (fun c hc => ?_) fun c hc => Or.inl hc
    obtain ⟨u', hu', e⟩ := h.below _ (hF k hk0) c hc
    exact ⟨u', Nat.lt_trans hu' (hF k hk0), e⟩

theorem compact_SInv {lk : Lookup} (hF : Forest lk.get) (hZ : ∀ j, lk.size ≤ j → lk.get j = 0) (region : Nat) :
    SInv (region + 1) (compact lk region).1 (compact lk region).2 := by
  have h0 : SInv 0 (fun _ => 0) 0 := ⟨by intro c hc; omega, by intro u hu; omega⟩
  exact foldl_range_inv (compactStep lk) (fun k st => SInv k st.1 st.2) (region + 1) h0
    fun k st _ h => compactStep_SInv hF hZ h

/-- **region ids are first-pixel ranks**: a pixel with id `r + 1 ≥ 2` is preceded by a pixel with id `r` -/
theorem regionId_ranked {V : Type} (nx ny : Nat) (conn8 : Bool) (close : V → V → Bool) (values : Nat → V)
    (mask : Nat → Bool) (hnx : 0 < nx) (hsymm : ∀ a b, close a b = true → close b a = true)
    (htrans : ∀ a b c, close a b = true → close b c = true → close a c = true)
    {ij r : Nat} (hij : ij < nx * ny) (hr : 1 ≤ r)
    (h : regionId nx ny conn8 close values mask ij = r + 1) :
    ∃ p, p < ij ∧ regionId nx ny conn8 close values mask p = r := by
  have I := calcPass_CInv nx ny conn8 close values mask hnx hsymm htrans
  have M := calcPass_MInv nx ny conn8 close values mask
  have K := compact_KInv I.F I.B (calcPass nx ny conn8 close values mask).region
  have S := compact_SInv I.F I.B (calcPass nx ny conn8 close values mask).region
  simp only [regionId] at h ⊢
  generalize hst : calcPass nx ny conn8 close values mask = st at *
  have hv := M.le ij
  obtain ⟨u', hu', e⟩ := S.below (st.raw ij) (by omega) r (by omega)
  have hu0 : u' ≠ 0 := by
    intro h0; subst h0
    have := (K.zero (by omega)).1
    omega
  obtain ⟨p, hp, hraw, hbefore⟩ := M.cr u' (by omega) (by omega)
  refine ⟨p, ?_, by rw [hraw]; exact e⟩
  by_cases hlt : p < ij
  · exact hlt
  · exfalso
    by_cases heq : p = ij
    · subst heq; omega
    · have := hbefore ij (by omega); omega

end XrsVerif.Polygonize
