import XrsVerif.Proofs.ILBin
/-
  Proofs/ILBinEmpty.lean -- `_cpu_bin` with an EMPTY `bins` (no bin list at all: outside the property's domain, the
  data-driven classifiers never produce one on a raster with a finite cell).  The real code reads `bins[0]` of a
  zero-length array for the first finite cell (numba does not check bounds: whatever is in memory).  The generated
  ILang program checks bounds, so it stops there with `Ctl.err "index"`: `cpuBin_no_bins`.  (A raster without any
  finite cell never reads `bins` and is covered by `cpuBin_refines`.)

  Also here: the two facts about the read `bins[mid - 1]` at `mid = 0` (numba wraps it to the last bin, and so do
  ILang's `normIdx` and the model's `getW`): `loop_no_wrap` / `search_no_wrap` -- when `bins[0]` is comparable
  with the value (not NaN) the search never looks at a negative index, i.e. its result is the same for *any*
  meaning of `bins[-1]`.
-/
namespace XrsVerif.ILBin
open XrsVerif XrsVerif.IL XrsVerif.ILVs XrsVerif.IL.Fc
variable {F : Type} [Fl F]

theorem findBin_no_bins (fuel : Nat) (s : State F) (hs : s.shp "bins" = [0])
    (hfin : Fl.isfinite (s.fenv "val") = true) : (exec fuel findBin s).ctl = .err "index" := by
  unfold findBin
  rw [exec_ite_true _ _ _ _ _ rfl (show (BE.isfinite (.var "val")).eval s = true from hfin), exec_ite_err]
  · rfl
  · simp [il, hs, inRange, normIdx]

theorem cellBody_no_bins (fuel : Nat) (st : State F) (D B NV : List F) (rows cols nv y x : Nat)
    (hrun : st.ctl = .run) (he : Env D B NV rows cols 0 nv st)
    (hy : st.ienv "y" = y) (hx : st.ienv "x" = x) (hyr : y < rows) (hxc : x < cols)
    (hfin : Fl.isfinite (D.getD (y * cols + x) Fl.nan) = true) :
    (exec fuel cellBody st).ctl = .err "index" := by
  have h := findBin_no_bins fuel (cellEnter st (D.getD (y * cols + x) Fl.nan)) he.bshp (by simpa [cellEnter] using hfin)
  rw [cellBody_eq fuel st D B NV rows cols 0 nv y x hrun he hy hx hyr hxc, exec_seq_stop _ _ _ _ (by rw [h]; simp)]
  exact h

theorem cellBody_weak (fuel : Nat) (st : State F) (D B NV : List F) (rows cols nv y x : Nat)
    (hrun : st.ctl = .run) (he : Env D B NV rows cols 0 nv st) (hB : B.length = 0) (hNV : NV.length = nv)
    (hy : st.ienv "y" = y) (hx : st.ienv "x" = x) (hyr : y < rows) (hxc : x < cols) :
    (exec fuel cellBody st).ctl = .run ∨ (exec fuel cellBody st).ctl = .err "index" := by
  cases hfin : Fl.isfinite (D.getD (y * cols + x) Fl.nan) with
  | true => exact Or.inr (cellBody_no_bins fuel st D B NV rows cols nv y x hrun he hy hx hyr hxc hfin)
  | false =>
    exact Or.inl (cellBody_refines fuel st D B NV rows cols 0 nv y x hrun he hB hNV (Nat.zero_le _)
      (fun h => absurd h (by decide)) hy hx hyr hxc (Or.inr hfin)).1

theorem xLoop_weak (fuel : Nat) (st : State F) (D B NV : List F) (rows cols nv y : Nat)
    (hrun : st.ctl = .run) (he : Env D B NV rows cols 0 nv st) (hB : B.length = 0) (hNV : NV.length = nv)
    (hy : st.ienv "y" = y) (hyr : y < rows) :
    (exec fuel xLoop st).ctl = .run ∨ (exec fuel xLoop st).ctl = .err "index" :=
  exec_forRange_run_or_err fuel "x" (.lit 0) (.var "cols") cellBody st "index" hrun rfl rfl
    (fun s1 x h0 h1 hc hM vx => by
      simp only [IE.eval, he.colsV] at h0 h1
      exact cellBody_weak fuel s1 D B NV rows cols nv y x.toNat hc (he.in_xLoop hM).1 hB hNV ((he.in_xLoop hM).2.trans hy)
        (by rw [vx]; omega) hyr (by omega))

theorem xLoop_no_bins (fuel : Nat) (st : State F) (D B NV : List F) (rows cols nv y q : Nat)
    (hrun : st.ctl = .run) (he : Env D B NV rows cols 0 nv st) (hB : B.length = 0) (hNV : NV.length = nv)
    (hy : st.ienv "y" = y) (hyr : y < rows) (hq : q < cols)
    (hfin : Fl.isfinite (D.getD (y * cols + q) Fl.nan) = true) : (exec fuel xLoop st).ctl = .err "index" :=
  exec_forRange_err fuel "x" (.lit 0) (.var "cols") cellBody st "index" q hrun rfl rfl
    (by simp only [IE.eval, he.colsV]; omega)
    (fun s1 k hk hc hM vx => cellBody_weak fuel s1 D B NV rows cols nv y k hc (he.in_xLoop hM).1 hB hNV
      ((he.in_xLoop hM).2.trans hy) (by simpa [IE.eval] using vx) hyr (by omega))
    (fun s1 hc hM vx => cellBody_no_bins fuel s1 D B NV rows cols nv y q hc (he.in_xLoop hM).1
      ((he.in_xLoop hM).2.trans hy) (by simpa [IE.eval] using vx) hyr hq hfin)

theorem yLoop_no_bins (fuel : Nat) (st : State F) (D B NV : List F) (rows cols nv p q : Nat)
    (hrun : st.ctl = .run) (he : Env D B NV rows cols 0 nv st) (hB : B.length = 0) (hNV : NV.length = nv)
    (hp : p < rows) (hq : q < cols) (hfin : Fl.isfinite (D.getD (p * cols + q) Fl.nan) = true) :
    (exec fuel yLoop st).ctl = .err "index" :=
  exec_forRange_err fuel "y" (.lit 0) (.var "rows") xLoop st "index" p hrun rfl rfl
    (by simp only [IE.eval, he.rowsV]; omega)
    (fun s1 k hk hc hM vy => xLoop_weak fuel s1 D B NV rows cols nv k hc (he.in_yLoop hM) hB hNV
      (by simpa [IE.eval] using vy) (by omega))
    (fun s1 hc hM vy => xLoop_no_bins fuel s1 D B NV rows cols nv p q hc (he.in_yLoop hM) hB hNV
      (by simpa [IE.eval] using vy) hp hq hfin)

/-- **empty `bins`**: as soon as the raster has one finite cell the generated program stops with an index error
    at `bins[0]` (the real code reads out of bounds there) -/
theorem cpuBin_no_bins (s : State F) (fuel rows cols nv : Nat) (hrun : s.ctl = .run)
    (hd : s.shp "data" = [rows, cols]) (hdl : (s.fa "data").length = rows * cols)
    (hb : s.shp "bins" = [0]) (hbl : (s.fa "bins").length = 0)
    (hn : s.shp "new_values" = [nv]) (hnl : (s.fa "new_values").length = nv)
    (hfin : ∃ v ∈ s.fa "data", Fl.isfinite v = true) :
    (Gen.IL.cpuBin.run s fuel).ctl = .err "index" := by
  simp only [Prog.run, body_eq]
  rw [prologue_run fuel _ s rows cols 0 hrun hd hb]
  have he : Env (s.fa "data") (s.fa "bins") (s.fa "new_values") rows cols 0 nv (afterPrologue s rows cols 0) := by
    refine ⟨?_, ?_, ?_, ?_, ?_, ?_, ?_, ?_, ?_, ?_⟩ <;> simp [afterPrologue, setS, hd, hb, hn]
  -- the finite cell, as row `i / cols` and column `i % cols`
  obtain ⟨v, hv, hvf⟩ := hfin
  obtain ⟨i, hi, rfl⟩ := List.getElem_of_mem hv
  have hc0 : 0 < cols := Nat.pos_of_ne_zero (fun h => by rw [hdl, h] at hi; omega)
  have e := yLoop_no_bins fuel (afterPrologue s rows cols 0) _ _ _ rows cols nv (i / cols) (i % cols) hrun he hbl hnl
    (Nat.div_lt_of_lt_mul (by rw [Nat.mul_comm, ← hdl]; exact hi)) (Nat.mod_lt _ hc0)
    (by rw [Nat.div_add_mod', List.getD_eq_getElem?_getD, List.getElem?_eq_getElem hi]; exact hvf)
  rw [exec_seq_stop _ _ _ _ (by rw [e]; simp)]
  exact e

/-- if `bins[0] < val` holds (what `not (val <= bins[0])` means for a comparable `bins[0]`), the loop started at
    `start = 0` never evaluates its test at a negative index: two tests that agree on the non-negative indices
    give the same result -/
theorem loop_no_wrap (below below' : Int → Bool) (hagree : ∀ i, 0 ≤ i → below i = below' i) (n : Nat) :
    ∀ (start stp : Int), 0 ≤ start → (start = 0 → below 0 = true) →
      Bin.loop below n start stp = Bin.loop below' n start stp := by
  induction n with
  | zero => intro start stp _ _; rfl
  | succ n ih =>
    intro start stp h0 hlo
    rw [Bin.loop.eq_def below, Bin.loop.eq_def below']
    simp only []
    by_cases hle : start ≤ stp
    · simp only [hle, if_true]
      have hm1 : start ≤ (stp + start) / 2 := by omega
      generalize (stp + start) / 2 = mid at *
      rw [← hagree mid (by omega)]
      cases hb : below mid with
      | true =>
        simp only [if_true]
        exact ih (mid + 1) stp (by omega) (by omega)
      | false =>
        simp only [Bool.false_eq_true, if_false]
        have hmid : 1 ≤ mid := by
          by_cases h : 1 ≤ mid
          · exact h
          · have hz : mid = 0 := by omega
            have hs0 : start = 0 := by omega
            rw [hz, hlo hs0] at hb; cases hb
        rw [← hagree (mid - 1) (by omega)]
        cases below (mid - 1) with
        | true => rfl
        | false => simp only [Bool.false_eq_true, if_false]; exact ih start (mid - 1) h0 hlo
    · simp [hle]

/-- the whole search: when the first bin is comparable with the value (`bins[0] < v` iff not `v <= bins[0]`), the
    result does not depend on what a negative index reads -- `g` is *any* reading of `bins` that is right on
    `0 <= i` -/
theorem search_no_wrap {α : Type} (lt le : α → α → Bool) (d : α) (bins : List α) (v : α)
    (h0 : lt (Bin.getW d bins 0) v = !le v (Bin.getW d bins 0))
    (g : Int → α) (hg : ∀ i, 0 ≤ i → g i = Bin.getW d bins i) (hne : bins ≠ []) :
    Bin.search lt le d bins v = Bin.searchP (fun i => lt (g i) v) (fun i => le v (g i)) bins.length := by
  have hn : 1 ≤ bins.length := List.length_pos_iff.mpr hne
  unfold Bin.search Bin.searchP
  simp only [hg 0 (by omega), hg ((bins.length : Int) - 1) (by omega)]
  cases h : le v (Bin.getW d bins 0) with
  | true => simp
  | false =>
    simp only [Bool.false_eq_true, if_false]
    split
    · apply loop_no_wrap _ _ (fun i hi => by rw [hg i hi]) _ _ _ (by omega)
      intro _; rw [h0, h]; rfl
    · rfl

end XrsVerif.ILBin
