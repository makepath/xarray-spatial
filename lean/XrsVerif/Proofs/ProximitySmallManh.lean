import XrsVerif.Proofs.ProximitySmall
/-! The small-grid table, slices 20 and 21: the Manhattan thresholds on the 3×3 unit grid. -/
namespace XrsVerif.Prox

theorem slice_20 : sliceChecked 20 = true := by decide +kernel
theorem slice_21 : sliceChecked 21 = true := by decide +kernel

end XrsVerif.Prox
