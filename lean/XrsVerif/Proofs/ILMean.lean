import XrsVerif.Proofs.ILangFocal
import XrsVerif.Proofs.ILFocal
import XrsVerif.Proofs.Focal
/-
  Proofs/ILMean.lean -- refinement (layer T3): the ILang program `Gen.IL.meanNumpy`, generated statement by statement
  from `_mean_numpy` of xrspatial/focal.py (with `_equal_numpy` inlined through `.scope` and the slice
  `data[bottom:top, left:right]` copied into the scratch array `slice1$a`), computes the hand model `meanCell` of
  Model/Focal.lean at every cell -- for every raster (also 1-row / 1-column / empty) and every excludes list.

  `MInv`: what every block needs of the state, carried over a block by what the block writes (`MInv.of_mods`).  The
  `for ex in excludes` loop with its `break` computes `excludes.any (x == ex or both NaN)` (`exec_forIn_any`).
-/
namespace XrsVerif.Focal
open XrsVerif XrsVerif.IL XrsVerif.ILVs XrsVerif.IL.Fc XrsVerif.Gen.Focal
set_option linter.unusedSectionVars false
variable {F : Type} [Fl F]

def stEqual : St :=
  .scope (.seq (.ite (.or (.cmpF .eq (.var "_equal_numpy1$x") (.var "_equal_numpy1$y")) (.and (.isnan (.var "_equal_numpy1$x")) (.isnan (.var "_equal_numpy1$y"))))
      (.seq (.setB "_equal_numpy1$ret0" .tt) .ret)
      .skip)
    (.seq (.setB "_equal_numpy1$ret0" .ff) .ret))

def stExBody : St :=
  .seq (.setF "_equal_numpy1$x" (.ld2 "data" (.var "y") (.var "x")))
  (.seq (.setF "_equal_numpy1$y" (.var "ex"))
  (.seq stEqual
  (.ite (.var "_equal_numpy1$ret0") (.seq (.setB "exclude" .tt) .brk) .skip)))

def stExLoop : St := .forIn "ex" "excludes" stExBody

def stCopy : St :=
  .forRange "slice1$i" (.lit 0) (.dim "slice1$a" 0) (.lit 1)
    (.forRange "slice1$j" (.lit 0) (.dim "slice1$a" 1) (.lit 1)
      (.stF2 "slice1$a" (.var "slice1$i") (.var "slice1$j") (.ld2 "data" (.bin .add (.var "slice1$r0") (.var "slice1$i")) (.bin .add (.var "slice1$c0") (.var "slice1$j")))))

def stWindow : St :=
  .seq (.setI "left" (.bin .max (.bin .sub (.var "x") (.lit 1)) (.lit 0)))
  (.seq (.setI "right" (.bin .min (.bin .add (.var "x") (.lit 2)) (.var "cols")))
  (.seq (.setI "bottom" (.bin .max (.bin .sub (.var "y") (.lit 1)) (.lit 0)))
  (.seq (.setI "top" (.bin .min (.bin .add (.var "y") (.lit 2)) (.var "rows")))
  (.seq (.setI "slice1$r0" (.var "bottom"))
  (.seq (.setI "slice1$c0" (.var "left"))
  (.seq (.allocF "slice1$a" [(.bin .max (.bin .sub (.var "top") (.var "slice1$r0")) (.lit 0)), (.bin .max (.bin .sub (.var "right") (.var "slice1$c0")) (.lit 0))] .nan)
  (.seq stCopy
  (.stF2 "out" (.var "y") (.var "x") (.red .nanmean "slice1$a")))))))))

def stPass : St := .stF2 "out" (.var "y") (.var "x") (.ld2 "data" (.var "y") (.var "x"))

def stCellM : St :=
  .seq (.setB "exclude" .ff) (.seq stExLoop (.ite (.not (.var "exclude")) stWindow stPass))

def stRasterM : St :=
  .forRange "y" (.lit 0) (.var "rows") (.lit 1) (.forRange "x" (.lit 0) (.var "cols") (.lit 1) stCellM)

def meanBody : St :=
  .seq (.allocF "out" [(.dim "data" 0), (.dim "data" 1)] (.lit 0 1))
  (.seq (.setI "rows" (.dim "data" 0))
  (.seq (.setI "cols" (.dim "data" 1))
  (.seq stRasterM
  .ret)))

theorem meanNumpy_body : Gen.IL.meanNumpy.body = meanBody := rfl

/-- sizes, shapes and the two input arrays; `out` is allocated -/
structure MInv (data excl : List F) (rows cols ne : Nat) (s : State F) : Prop where
  shd : s.shp "data" = [rows, cols]
  she : s.shp "excludes" = [ne]
  sho : s.shp "out" = [rows, cols]
  fad : s.fa "data" = data
  fae : s.fa "excludes" = excl
  vrows : s.ienv "rows" = rows
  vcols : s.ienv "cols" = cols

theorem MInv.of_mods {data excl : List F} {rows cols ne : Nat} {iv fv bv ias fas shs : List String} {s r : State F}
    (h : MInv data excl rows cols ne s) (hm : Mods iv fv bv ias fas shs s r)
    (hw : (∀ v ∈ ["rows", "cols"], v ∉ iv) ∧ (∀ x ∈ ["data", "excludes"], x ∉ fas) ∧
      (∀ x ∈ ["data", "excludes", "out"], x ∉ shs)) : MInv data excl rows cols ne r :=
  ⟨(hm.shp _ (hw.2.2 _ (by simp))).trans h.shd, (hm.shp _ (hw.2.2 _ (by simp))).trans h.she,
   (hm.shp _ (hw.2.2 _ (by simp))).trans h.sho, (hm.fa _ (hw.2.1 _ (by simp))).trans h.fad,
   (hm.fa _ (hw.2.1 _ (by simp))).trans h.fae, (hm.ienv _ (hw.1 _ (by simp))).trans h.vrows,
   (hm.ienv _ (hw.1 _ (by simp))).trans h.vcols⟩

/-- `_equal_numpy(v, e)` as a Boolean -/
def eqv (v e : F) : Bool := Fl.eq v e || (Fl.isnan v && Fl.isnan e)

/-- the generated condition of `_equal_numpy` (Gen/Focal.lean, layer T2) is the same test -/
theorem equalNumpy_eq (a b : F) : equalNumpy a b = eqv a b := by
  simp [equalNumpy, equal_numpy_cond, equal_numpy_args, C.eval, E.eval, CmpOp.eval, eqv]

theorem isExcluded_eq (excl : List F) (v : F) : isExcluded excl v = excl.any (eqv v) := by
  unfold isExcluded
  congr 1

theorem ex_body (data excl : List F) (rows cols ne : Nat) (fuel : Nat) (s : State F) (p q : Nat) (e : F)
    (hs : s.ctl = .run) (hI : MInv data excl rows cols ne s) (vy : s.ienv "y" = p) (vx : s.ienv "x" = q)
    (hp : p < rows) (hq : q < cols) (ve : s.fenv "ex" = e) (hfl : s.benv "exclude" = false) :
    let r := exec fuel stExBody s
    r.ctl = (if eqv (listArr data cols p q) e then .brk else .run) ∧ r.benv "exclude" = eqv (listArr data cols p q) e := by
  intro r
  have r1 : inRange (p : Int) rows = true := inRange_of_lt _ _ hp
  have r2 : inRange (q : Int) cols = true := inRange_of_lt _ _ hq
  have o1 : off2 [rows, cols] (p : Int) (q : Int) = p * cols + q := off2_nat _ _ _ _
  have hv : (s.fa "data")[p * cols + q]?.getD Fl.nan = listArr data cols p q := by simp [listArr, hI.fad]
  generalize listArr data cols (p : Int) (q : Int) = v at hv ⊢
  have h0 : exec fuel (.setF "_equal_numpy1$x" (.ld2 "data" (.var "y") (.var "x"))) s =
      { s with fenv := setS s.fenv "_equal_numpy1$x" v } := by
    simp [il, hI.shd, vy, vx, r1, r2, o1, hv]
  simp only [r, stExBody]
  rw [exec_seq_eq fuel _ _ _ _ h0 hs]
  by_cases h1 : Fl.eq v e = true
  · simp [il, stEqual, setS, hs, eqv, h1, ve]
  · have h1' : Fl.eq v e = false := by simpa using h1
    by_cases h2 : Fl.isnan v = true
    · by_cases h3 : Fl.isnan e = true
      · simp [il, stEqual, setS, hs, eqv, h1', h2, h3, ve]
      · have h3' : Fl.isnan e = false := by simpa using h3
        simp [il, stEqual, setS, hs, eqv, h1', h2, h3', ve, hfl]
    · have h2' : Fl.isnan v = false := by simpa using h2
      simp [il, stEqual, setS, hs, eqv, h1', h2', ve, hfl]

theorem ex_loop (data excl : List F) (rows cols ne : Nat) (fuel : Nat) (s : State F) (p q : Nat) (hs : s.ctl = .run)
    (hI : MInv data excl rows cols ne s) (vy : s.ienv "y" = p) (vx : s.ienv "x" = q) (hp : p < rows) (hq : q < cols)
    (hex : s.benv "exclude" = false) :
    (exec fuel stExLoop s).ctl = .run ∧
    (exec fuel stExLoop s).benv "exclude" = isExcluded excl (listArr data cols p q) := by
  rw [isExcluded_eq, ← hI.fae]
  exact exec_forIn_any fuel "ex" "excludes" stExBody (eqv (listArr data cols p q)) "exclude" s hs (by rw [hI.she]; rfl) hex
    (fun st e _ hc hM ve hfl => by
      obtain ⟨b1, b2⟩ := ex_body data excl rows cols ne fuel st p q e hc (hI.of_mods hM (by decide))
        (by rw [hM.ienv_eq]; exact vy) (by rw [hM.ienv_eq]; exact vx) hp hq ve hfl
      rw [b1, b2]
      cases eqv (listArr data cols p q) e <;> simp)

end XrsVerif.Focal
