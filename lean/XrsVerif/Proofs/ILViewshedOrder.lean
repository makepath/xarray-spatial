import XrsVerif.Proofs.ILViewshedQuery
import XrsVerif.Proofs.ViewshedQuery
import XrsVerif.Proofs.NV
import XrsVerif.Proofs.ILViewshedFixInsLoop
/-
  The last step from the generated `_max_grad_in_status_struct` and `_insert_into_tree` to the hand model over a
  linearly ordered field `K` (the domain of `query_decides`):

  * `predsOf_eq_filter`: on a tree with ordered keys (BST) the in-order predecessors of the node the search finds are
    the nodes with a smaller key, nearest first -- the pointer walk of phase 2 visits exactly the list the model
    filters; hence `queryP = query` under BST (`queryP_eq_query`);
  * `emb`, `mapT`: a tree over `K` seen in the ILang value domain `NV K` (all numbers non-NaN), and the model's
    functions commute with it (the deletion's are in Proofs/ILViewshedDelOrder.lean);
  * `vsQuery_model`, `vsInsert_model`: the generated programs run at `NV K` on arrays that hold the image of a tree.
-/
set_option linter.unusedSectionVars false
namespace XrsVerif.ILVs
open XrsVerif XrsVerif.IL XrsVerif.Viewshed

section order
variable {α : Type} [LinearOrder α]

theorem predsOf_eq_filter {t : Viewshed.Tree α} (hb : BST t) (K : α) :
    predsOf t K = (t.toList.filter (fun n => decide (n.key < K))).reverse := by
  induction t with
  | nil => simp [predsOf, Tree.toList]
  | node l n mx c r ihl ihr =>
    obtain ⟨hl, hr, hbl, hbr⟩ := hb
    simp only [predsOf, Tree.toList, List.filter_append, List.filter_cons, List.reverse_append]
    have hrr : K ≤ n.key → r.toList.filter (fun n => decide (n.key < K)) = [] := by
      intro hK
      rw [List.filter_eq_nil_iff]
      intro b hb'
      simp only [decide_eq_true_eq, not_lt]
      exact le_of_lt (lt_of_le_of_lt hK (hr b hb'))
    split
    · rename_i h
      have hn : ¬ n.key < K := not_lt.mpr (le_of_lt h)
      simp [hn, hrr (le_of_lt h), ihl hbl]
    · rename_i h
      have hll : l.toList.filter (fun n => decide (n.key < K)) = l.toList := by
        rw [List.filter_eq_self]
        intro a ha
        simpa using lt_of_lt_of_le (hl a ha) (not_lt.mp h)
      split
      · rename_i h2
        simp [h2, hll, ihr hbr]
      · rename_i h2
        simp [h2, hll, hrr (not_lt.mp h2)]

end order

section field
variable {K : Type} [Field K] [LinearOrder K] [IsStrictOrderedRing K] [Trig K]

theorem queryP_eq_query {S : K} {t : Viewshed.Tree K} (hb : BST t) (Kk ang g : K) :
    queryP S t Kk ang g = query S t Kk ang g := by
  unfold queryP query
  rw [predsOf_eq_filter hb]

/-- a number of `K` as a (non-NaN) ILang value with the hand model's operations -/
def emb (a : K) : Fv (NV K) := ⟨some a⟩

def mapN {α β : Type} (f : α → β) (n : Viewshed.Node α) : Viewshed.Node β :=
  ⟨f n.key, f n.g0, f n.g1, f n.g2, f n.a0, f n.a1, f n.a2⟩

def mapT {α β : Type} (f : α → β) : Viewshed.Tree α → Viewshed.Tree β
  | .nil => .nil
  | .node l n mx c r => .node (mapT f l) (mapN f n) (f mx) c (mapT f r)

theorem emb_lt (a b : K) : (emb a < emb b) ↔ a < b := by
  show Fl.lt (some a : NV K) (some b) = true ↔ a < b
  simp

theorem emb_le (a b : K) : (emb a ≤ emb b) ↔ a ≤ b := by
  show Fl.le (some a : NV K) (some b) = true ↔ a ≤ b
  simp

theorem emb_decide_lt (a b : K) : decide (emb a < emb b) = decide (a < b) := by
  simp only [emb_lt]

theorem emb_decide_le (a b : K) : decide (emb a ≤ emb b) = decide (a ≤ b) := by
  simp only [emb_le]

theorem mx2_emb (a b : K) : mx2 (emb a) (emb b) = emb (mx2 a b) := by
  unfold mx2; simp only [emb_lt]; split <;> rfl

theorem mn2_emb (a b : K) : mn2 (emb a) (emb b) = emb (mn2 a b) := by
  unfold mn2; simp only [emb_lt]; split <;> rfl

theorem minv_emb (n : Viewshed.Node K) : minv (mapN emb n) = emb (minv n) := by
  simp only [minv, mapN, mn2_emb]

theorem mxOf_emb (S : K) (t : Viewshed.Tree K) : mxOf (emb S) (mapT emb t) = emb (mxOf S t) := by
  cases t <;> rfl

theorem contains_emb (t : Viewshed.Tree K) (k : K) : (mapT emb t).contains (emb k) = t.contains k := by
  induction t with
  | nil => rfl
  | node l n mx c r ihl ihr =>
    simp only [mapT, Tree.contains, mapN, emb_lt, ihl, ihr]

theorem short_emb (S : K) (t : Viewshed.Tree K) (k : K) : short (emb S) (mapT emb t) (emb k) = emb (short S t k) := by
  induction t with
  | nil => rfl
  | node l n mx c r ihl ihr =>
    simp only [mapT, short, ihl, ihr, mxOf_emb, minv_emb, mx2_emb]
    simp only [mapN, emb_lt]
    split
    · rfl
    · split <;> rfl

theorem toList_emb (t : Viewshed.Tree K) : (mapT emb t).toList = t.toList.map (mapN emb) := by
  induction t with
  | nil => rfl
  | node l n mx c r ihl ihr => simp [mapT, Tree.toList, ihl, ihr]

theorem predsOf_emb (t : Viewshed.Tree K) (k : K) :
    predsOf (mapT emb t) (emb k) = (predsOf t k).map (mapN emb) := by
  induction t with
  | nil => rfl
  | node l n mx c r ihl ihr =>
    simp only [mapT, predsOf, ihl, ihr, toList_emb]
    simp only [mapN, emb_lt]
    split
    · rfl
    · split <;> simp [mapN]

theorem spans_emb (n : Viewshed.Node K) (ang : K) : spans (mapN emb n) (emb ang) = spans n ang := by
  rw [Bool.eq_iff_iff]
  simp only [spans, mapN, Bool.and_eq_true, decide_eq_true_eq, emb_le]

theorem emb_add (a b : K) : emb a + emb b = emb (a + b) := rfl
theorem emb_sub (a b : K) : emb a - emb b = emb (a - b) := rfl
theorem emb_mul (a b : K) : emb a * emb b = emb (a * b) := rfl
theorem emb_div (a b : K) (h : b ≠ 0) : emb a / emb b = emb (a / b) := by
  show (⟨Fl.div (some a : NV K) (some b)⟩ : Fv (NV K)) = ⟨some (a / b)⟩
  simp [h]

/-- the interpolation never divides by zero on a node that spans the bearing -/
theorem itp_emb (n : Viewshed.Node K) (ang : K) (h : spans n ang = true) :
    itp (mapN emb n) (emb ang) = emb (itp n ang) := by
  rw [spans_iff] at h
  unfold itp
  simp only [mapN, emb_lt]
  split
  · rename_i h1
    have : n.a1 - n.a0 ≠ 0 := by have : n.a0 < n.a1 := lt_of_le_of_lt h.1 h1; exact ne_of_gt (sub_pos.mpr this)
    simp only [emb_sub, emb_mul, emb_div _ _ this, emb_add]
  · split
    · rename_i h1 h2
      have : n.a2 - n.a1 ≠ 0 := by have : n.a1 < n.a2 := lt_of_lt_of_le h2 h.2; exact ne_of_gt (sub_pos.mpr this)
      simp only [emb_sub, emb_mul, emb_div _ _ this, emb_add]
    · rfl

theorem walk_emb (ang g : K) (ns : List (Viewshed.Node K)) (acc : K) :
    walk (emb ang) (emb g) (fun n => itp n (emb ang)) (ns.map (mapN emb)) (emb acc) =
      emb (walk ang g (fun n => itp n ang) ns acc) := by
  induction ns generalizing acc with
  | nil => rfl
  | cons n ns ih =>
    simp only [List.map_cons, walk, spans_emb]
    split
    · rename_i hs
      simp only [itp_emb n ang hs, mx2_emb, emb_lt]
      split
      · rfl
      · exact ih _
    · exact ih _

theorem queryP_emb (S : K) (t : Viewshed.Tree K) (k ang g : K) :
    queryP (emb S) (mapT emb t) (emb k) (emb ang) (emb g) = emb (queryP S t k ang g) := by
  unfold queryP
  simp only [contains_emb, short_emb, emb_lt, predsOf_emb, walk_emb]
  split
  · split <;> rfl
  · rfl

/-- `SMALLEST_GRAD` in `K` -/
def smallestK : K := ((-10000000000000000000000 : Int) : K) / ((1 : Nat) : K)

theorem smallest_emb : (smallest : Fv (NV K)) = emb smallestK := rfl

/-- on the image of a tree with ordered keys the walk over the predecessors of `k` never meets a larger key: the code's
    `raise ValueError` is not reached -/
theorem predsOf_emb_not_lt {t0 : Viewshed.Tree K} (hb : BST t0) (k : K) :
    ∀ nd ∈ predsOf (mapT emb t0) (emb k), ¬ emb k < nd.key := by
  intro nd hnd
  rw [predsOf_emb, predsOf_eq_filter hb] at hnd
  obtain ⟨m, hm, rfl⟩ := List.mem_map.mp hnd
  rw [List.mem_reverse, List.mem_filter] at hm
  have : m.key < k := by simpa using hm.2
  show ¬ (emb k < emb m.key)
  rw [emb_lt]
  exact not_lt.mpr (le_of_lt this)

theorem queryP_emb_eq_query {t0 : Viewshed.Tree K} (hb : BST t0) (S k ang g : K) :
    (queryP (emb S) (mapT emb t0) (emb k) (emb ang) (emb g)).v = some (query S t0 k ang g) := by
  rw [queryP_emb, queryP_eq_query hb]
  rfl

/-- **the generated `_max_grad_in_status_struct` computes the hand model's `query`**: run at `NV K` on arrays that
    hold (the image of) a tree `t0` with ordered keys -- shape `sh`, well linked, no row twice, NIL row = sentinel --
    it returns `some (query S t0 distance angle gradient)` and leaves the arrays alone -/
theorem vsQuery_model (s : State (NV K)) (fuel n : Nat) (hv : VS s n) (hrun : s.ctl = .run) (sh : Sh)
    (hL : Linked (s.ia "tree_nodes") n (-1) sh) (hN : sh.idxs.Nodup) (hroot : s.ienv "root" = sh.ptr)
    (hS : vAt (s.fa "tree_vals") (n - 1) 7 = smallest) (t0 : Viewshed.Tree K)
    (habs : absT (s.fa "tree_vals") (s.ia "tree_nodes") sh = mapT emb t0) (hb : BST t0)
    (Kk ang g : K) (hd : s.fenv "distance" = some Kk) (ha : s.fenv "angle" = some ang) (hg : s.fenv "gradient" = some g)
    (hfuel : sh.size + sh.height + 2 ≤ fuel) :
    let q := Gen.IL.vsQuery.run s fuel
    q.ctl = .ret ∧ q.fenv "ret0" = some (query smallestK t0 Kk ang g) ∧ q.fa = s.fa ∧ q.ia = s.ia := by
  have h := vsQuery_refines s fuel n hv hrun sh hL hN hroot hS (by rw [habs, hd]; exact predsOf_emb_not_lt hb Kk) hfuel
  rw [habs, hd, ha, hg] at h
  obtain ⟨h1, h2, h3, h4⟩ := h
  exact ⟨h1, h2.trans (queryP_emb_eq_query hb smallestK Kk ang g), h3, h4⟩

theorem rotL_emb (S : K) (t : Viewshed.Tree K) : rotL (emb S) (mapT emb t) = mapT emb (rotL S t) := by
  cases t with
  | nil => rfl
  | node xl xn xm xc r =>
    cases r with
    | nil => rfl
    | node yl yn ym yc yr =>
      simp only [mapT, rotL, recomp, recompM, mxOf_emb, minv_emb, mx2_emb]

theorem rotR_emb (S : K) (t : Viewshed.Tree K) : rotR (emb S) (mapT emb t) = mapT emb (rotR S t) := by
  cases t with
  | nil => rfl
  | node l yn ym yc yr =>
    cases l with
    | nil => rfl
    | node xl xn xm xc xr =>
      simp only [mapT, rotR, recomp, recompM, mxOf_emb, minv_emb, mx2_emb]

theorem mapT_emb_injective : ∀ (t u : Viewshed.Tree K), mapT emb t = mapT emb u → t = u := by
  intro t
  induction t with
  | nil => intro u h; cases u <;> simp_all [mapT]
  | node l n mx c r ihl ihr =>
    intro u h
    cases u with
    | nil => simp [mapT] at h
    | node l' n' mx' c' r' =>
      simp only [mapT, Tree.node.injEq, mapN, Node.mk.injEq, emb, Fv.mk.injEq, Option.some.injEq] at h
      obtain ⟨h1, h2, h3, h4, h5⟩ := h
      cases n; cases n'
      simp_all [ihl _ h1, ihr _ h5]

/-- over a linear order the insertion with the child's stored maximum travelling upwards is the hand model's `insCore`
    (while the propagation runs that maximum *is* the new node's `minv`) -/
theorem insCoreC_eq_pair {α : Type} [LinearOrder α] (nn : Node α) : ∀ (t : Viewshed.Tree α),
    insCoreC nn t = ((insCore nn t).1, if (insCore nn t).2 = true then some (minv nn) else none) := by
  intro t
  induction t with
  | nil => simp [insCoreC, insCore, leafT]
  | node l n mx c r ihl ihr =>
    -- where the propagation stops, the stored maximum it leaves is the new node's `minv`
    have key : ∀ (v : α), ¬ v < (if mx < v then v else mx) → (if mx < v then v else mx) = v := by
      intro v h
      by_cases h1 : mx < v
      · simp only [h1, if_true]
      · simp only [h1, if_false] at h ⊢
        exact le_antisymm (not_lt.mp h) (not_lt.mp h1)
    simp only [insCoreC, insCore]
    split
    · rw [ihl]
      rcases insCore nn l with ⟨l2, _ | _⟩
      · simp
      · by_cases hx : minv nn < (if mx < minv nn then minv nn else mx) <;> simp [hx, key]
    · rw [ihr]
      rcases insCore nn r with ⟨r2, _ | _⟩
      · simp
      · by_cases hx : minv nn < (if mx < minv nn then minv nn else mx) <;> simp [hx, key]

theorem insCoreC_eq {α : Type} [LinearOrder α] (nn : Node α) (t : Viewshed.Tree α) :
    (insCoreC nn t).1 = (insCore nn t).1 ∧
      (insCoreC nn t).2 = (if (insCore nn t).2 = true then some (minv nn) else none) := by
  rw [insCoreC_eq_pair]; exact ⟨rfl, rfl⟩

theorem insCoreC_emb (nn : Viewshed.Node K) : ∀ (t : Viewshed.Tree K),
    insCoreC (mapN emb nn) (mapT emb t) = (mapT emb (insCoreC nn t).1, (insCoreC nn t).2.map emb) := by
  intro t
  induction t with
  | nil => simp [insCoreC, mapT, leafT, minv_emb]
  | node l n mx c r ihl ihr =>
    have hk : ((mapN emb nn).key < (mapN emb n).key) ↔ nn.key < n.key := by simp only [mapN, emb_lt]
    simp only [mapT, insCoreC, hk]
    split
    · rw [ihl]
      rcases insCoreC nn l with ⟨l', _ | cm⟩
      · rfl
      · simp only [Option.map_some, emb_lt, mapT, ← apply_ite emb, apply_ite (Option.map emb), Option.map_none]
    · rw [ihr]
      rcases insCoreC nn r with ⟨r', _ | cm⟩
      · rfl
      · simp only [Option.map_some, emb_lt, mapT, ← apply_ite emb, apply_ite (Option.map emb), Option.map_none]

theorem atPath_emb (g : Viewshed.Tree (Fv (NV K)) → Viewshed.Tree (Fv (NV K))) (g0 : Viewshed.Tree K → Viewshed.Tree K)
    (hg : ∀ t, g (mapT emb t) = mapT emb (g0 t)) : ∀ (p : List Dir) (t : Viewshed.Tree K),
    atPath g p (mapT emb t) = mapT emb (atPath g0 p t) := by
  intro p
  induction p with
  | nil => intro t; exact hg t
  | cons d p ih =>
    intro t
    cases t with
    | nil => cases d <;> rfl
    | node l n mx c r => cases d <;> simp [atPath, mapT, ih]

theorem isRed_emb (t : Viewshed.Tree K) : isRed (mapT emb t) = isRed t := by cases t <;> rfl

theorem setCol_emb (c : Bool) (t : Viewshed.Tree K) : setCol c (mapT emb t) = mapT emb (setCol c t) := by cases t <;> rfl

theorem subAt_emb : ∀ (p : List Dir) (t : Viewshed.Tree K), subAt p (mapT emb t) = mapT emb (subAt p t) := by
  intro p
  induction p with
  | nil => intro t; rfl
  | cons d p ih =>
    intro t
    cases t with
    | nil => cases d <;> rfl
    | node l n mx c r => cases d <;> simp [subAt, mapT, ih]

theorem rotD_emb (S : K) (d : Dir) (t : Viewshed.Tree K) : rotD (emb S) d (mapT emb t) = mapT emb (rotD S d t) := by
  cases d
  · exact rotL_emb S t
  · exact rotR_emb S t

theorem insFixP_emb (S : K) : ∀ (k : Nat) (rp : List Dir), rp.length ≤ k → ∀ (t : Viewshed.Tree K),
    insFixP (emb S) rp (mapT emb t) = mapT emb (insFixP S rp t) := by
  intro k
  induction k with
  | zero =>
    intro rp h t
    have : rp = [] := List.length_eq_zero_iff.mp (Nat.le_zero.mp h)
    subst this
    simp [insFixP]
  | succ k ih =>
    intro rp h t
    match rp, h with
    | [], _ => simp [insFixP]
    | [_], _ => simp [insFixP]
    | dz :: dp :: rq, h =>
      have hc := fun (c : Bool) (p : List Dir) (u : Viewshed.Tree K) => atPath_emb _ _ (setCol_emb c) p u
      have hr := fun (d : Dir) (p : List Dir) (u : Viewshed.Tree K) => atPath_emb _ _ (rotD_emb S d) p u
      simp only [insFixP, subAt_emb, isRed_emb]
      split
      · split
        · rw [hc, hc, hc]
          exact ih rq (by simp only [List.length_cons] at h; omega) _
        · split
          · rw [hc, hc, hr]
          · rw [hr, hc, hc, hr]
      · rfl

theorem insDirsR_emb (k : K) : ∀ (t : Viewshed.Tree K) (acc : List Dir),
    insDirsR (emb k) (mapT emb t) acc = insDirsR k t acc := by
  intro t
  induction t with
  | nil => intro acc; rfl
  | node l n mx c r ihl ihr =>
    intro acc
    have hk : (emb k < (mapN emb n).key) ↔ k < n.key := by simp only [mapN, emb_lt]
    simp only [mapT, insDirsR, hk, ihl, ihr]

/-- over a linear order the code-exact complete insertion is the model's `rbInsert`, and it commutes with the
    embedding into `NV K` -/
theorem rbInsertC_emb (S : K) (nn : Viewshed.Node K) (t : Viewshed.Tree K) :
    rbInsertC (emb S) (mapN emb nn) (mapT emb t) = mapT emb (rbInsert S nn t) := by
  unfold rbInsertC rbInsert rbInsFix leafInsert
  have hkey : (mapN emb nn).key = emb nn.key := rfl
  rw [hkey, insDirsR_emb, insCoreC_emb, (insCoreC_eq nn t).1, insFixP_emb S _ _ (Nat.le_refl _), setCol_emb]

/-- **the generated `_insert_into_tree` computes the hand model's complete insertion**: run at `NV K` on arrays holding
    the image of a non-empty tree `t0` (root and NIL row black, the NIL row holding the sentinel), `node_id` a fresh
    row, `value` the node `nn`, it returns with arrays holding the image of `rbInsert S nn t0` -/
theorem vsInsert_model (s : State (NV K)) (fuel n m : Nat) (hv : VS s n) (hm : VVal s m) (hrun : s.ctl = .run)
    (l : Sh) (i : Nat) (rr : Sh) (hL : Linked (s.ia "tree_nodes") n (-1) (.node l i rr))
    (hN : (Sh.node l i rr).idxs.Nodup) (hroot : s.ienv "root" = i) (nid : Nat) (hnid : nid + 1 < n)
    (hfresh : nid ∉ (Sh.node l i rr).idxs) (hid : s.ienv "node_id" = nid)
    (hnil : nAt (s.ia "tree_nodes") (n - 1) 0 ≠ 0) (hblack : nAt (s.ia "tree_nodes") i 0 ≠ 0)
    (hfuel : (Sh.node l i rr).height + 2 ≤ fuel) (S : K) (hS : vAt (s.fa "tree_vals") (n - 1) 7 = emb S)
    (t0 : Viewshed.Tree K) (nn : Viewshed.Node K)
    (habs : absT (s.fa "tree_vals") (s.ia "tree_nodes") (.node l i rr) = mapT emb t0) (hval : valNode s = mapN emb nn) :
    let r := Gen.IL.vsInsert.run s fuel
    r.ctl = .ret ∧ VS r n ∧ ∃ sh' : Sh, Linked (r.ia "tree_nodes") n (-1) sh' ∧ sh'.idxs.Nodup ∧
      sh'.idxs.Perm (nid :: (Sh.node l i rr).idxs) ∧
      absT (r.fa "tree_vals") (r.ia "tree_nodes") sh' = mapT emb (rbInsert S nn t0) ∧
      r.ienv "ret0" = sh'.ptr ∧ vAt (r.fa "tree_vals") (n - 1) 7 = emb S ∧ nAt (r.ia "tree_nodes") (n - 1) 0 ≠ 0 ∧
      isRed (rbInsert S nn t0) = false := by
  intro r
  obtain ⟨r1, r2, sh', r3, r4, r5, r6, r7, r8, r9, r10, _⟩ :=
    vsInsert_refines s fuel n m hv hm hrun l i rr hL hN hroot nid hnid hfresh hid hnil hblack hfuel
  rw [habs, hval, hS, rbInsertC_emb] at r6
  refine ⟨r1, r2, sh', r3, r4, r5, r6, r7, by rw [r8, hS], r9, ?_⟩
  rw [r6, isRed_emb] at r10
  exact r10

end field
end XrsVerif.ILVs
