import XrsVerif.Proofs.ILRegionsCell
import XrsVerif.Proofs.ILangRaster
/-
  Proofs/ILRegionsPass1.lean -- step 3 of the refinement of `Gen.IL.areaConnectivity`: the first pass.
-/
namespace XrsVerif.IL.Rg
open XrsVerif XrsVerif.IL XrsVerif.Regions
variable {F : Type} [Fl F]

/-! ### the search loop

      assigned_value = None
      for j in range(len(neighbor_matches)):
          area_val = area_window[neighbor_matches[j]]
          if area_val > 0:
              assigned_value = area_val
              break

  What the loop leaves alone its callers read off its text (`ILVs.exec_frame`). -/

theorem find?_at {α} (l : List α) (p : α → Bool) (k : Nat) (d : α) (hk : k < l.length)
    (hnone : (l.take k).find? p = none) (hp : p (l.getD k d) = true) : l.find? p = some (l.getD k d) := by
  have hsplit : l = l.take k ++ l.getD k d :: l.drop (k + 1) := by
    simp [List.getD_eq_getElem?_getD, List.getElem?_eq_getElem hk]
  rw [hsplit, List.find?_append, hnone, Option.none_or, List.find?_cons, ← hsplit, hp]

theorem exec_findLoop (fuel : Nat) (n : Nat) (idx : List Nat) (s : State F) (hrun : s.ctl = .run)
    (hidx : ∀ k ∈ idx, k < n) (hns : s.shp "neighbor_matches" = [idx.length])
    (hni : s.ia "neighbor_matches" = idx.map natCast) (has : s.shp "area_window" = [n])
    (hb : s.benv "assigned_value$some" = false) :
    (exec fuel findLoop s).ctl = .run ∧
    ((idx.find? (fun k => isPos ((s.fa "area_window").getD k Fl.nan)) = none ∧
        (exec fuel findLoop s).benv "assigned_value$some" = false) ∨
      ∃ k, idx.find? (fun k => isPos ((s.fa "area_window").getD k Fl.nan)) = some k ∧
        (exec fuel findLoop s).benv "assigned_value$some" = true ∧
        (exec fuel findLoop s).fenv "assigned_value" = (s.fa "area_window").getD k Fl.nan) := by
  let p : Nat → Bool := fun k => isPos ((s.fa "area_window").getD k Fl.nan)
  have h := forRange_rule "j" (.lit 0) (.dim "neighbor_matches" 0) findBody s fuel idx.length hrun rfl
    (by simp [IE.ok, hns]) (by simp [IE.eval, hns])
    (fun k st => st.ia = s.ia ∧ st.fa = s.fa ∧ st.shp = s.shp ∧ st.benv "assigned_value$some" = false ∧
      (idx.take k).find? p = none)
    (fun r => r.ctl = .run ∧ ∃ k, idx.find? p = some k ∧ r.benv "assigned_value$some" = true ∧
      r.fenv "assigned_value" = (s.fa "area_window").getD k Fl.nan)
    ⟨rfl, rfl, rfl, hb, by simp⟩
    (fun k hk st hst ⟨hia, hfa, hshp, hbs, hnone⟩ => by
      simp only [IE.eval, Int.zero_add, findBody]
      rw [exec_seq, exec_areaVal fuel n idx hidx k hk { st with ienv := setS st.ienv "j" (k : Int) } (setS_same st.ienv "j" _)
        ((congrFun hshp _).trans hns) ((congrFun hia _).trans hni) ((congrFun hshp _).trans has),
        if_pos (by exact hst), exec_ite_def]
      simp only [BE.ok, FE.ok, IE.ok, BE.eval, FE.eval, IE.eval, CmpOp.eval, setS_same, hfa, Bool.and_true, if_true]
      rw [take_succ_getD idx k 0 hk, List.find?_append, hnone]
      by_cases hp : Fl.lt (Fl.lit 0 1) ((s.fa "area_window").getD (idx.getD k 0) Fl.nan) = true
      · right
        rw [if_pos hp, exec_seq, exec_setF_def]
        simp only [FE.ok, FE.eval, setS_same, if_true]
        rw [if_pos (by exact hst), exec_seq, exec_setB_def]
        simp only [BE.ok, BE.eval, if_true]
        rw [if_pos (by exact hst), exec_brk]
        exact ⟨by simp, by simp, by simp [afterLoop], idx.getD k 0, find?_at idx p k 0 hk hnone hp,
          by simp [afterLoop], by simp [afterLoop]⟩
      · left
        rw [if_neg hp, exec_skip, afterBody_run _ (by exact hst)]
        exact ⟨hst, hia, rfl, hshp, hbs, by simpa [p, isPos] using hp⟩)
  rcases h with ⟨hc, _, _, _, hbs, hnone⟩ | ⟨hc, k, hk, h1, h2⟩
  · rw [List.take_length] at hnone
    exact ⟨hc, Or.inl ⟨hnone, hbs⟩⟩
  · exact ⟨hc, Or.inr ⟨k, hk, h1, h2⟩⟩

/-! ### the end of a cell step

      if len(neighbor_matches) > 0:
          <search loop>
          if assigned_value is not None: out[y, x] = assigned_value
          else: out[y, x] = uid; uid += 1
      else:
          out[y, x] = uid; uid += 1

  The two branches that store `uid` and the one that stores `assigned_value` are the two cases of the model's `step1`
  (`step1_none`, `step1_some`). -/

/-- `out[y, x] = uid; uid += 1` -/
theorem exec_freshUid (fuel rows cols y x uid : Nat) (hy : y < rows) (hx : x < cols) (s : State F)
    (hrun : s.ctl = .run) (hyv : s.ienv "y" = (y : Int)) (hxv : s.ienv "x" = (x : Int))
    (huv : s.ienv "uid" = (uid : Int)) (hos : s.shp "out" = [rows, cols]) :
    exec fuel freshUid s =
      { s with
        ienv := setS s.ienv "uid" ((uid : Int) + 1),
        fa := setS s.fa "out" ((s.fa "out").set (pos cols (y, x)) (lab uid)) } := by
  unfold freshUid
  rw [exec_seq, exec_store_out fuel rows cols y x hy hx _ s (by simp [il]) hyv hxv hos,
    if_pos (by exact hrun), exec_setI_def]
  simp only [IE.ok, IE.eval, IOp.eval, FE.eval, huv, Bool.and_true, if_true, lab]

theorem exec_assign1 (fuel rows cols n y x uid : Nat) (hy : y < rows) (hx : x < cols) (idx : List Nat)
    (hidx : ∀ k ∈ idx, k < n) (AW : List F) (s : State F) (hl : MLoc rows cols n idx AW s)
    (hyv : s.ienv "y" = (y : Int)) (hxv : s.ienv "x" = (x : Int)) (huv : s.ienv "uid" = (uid : Int)) :
    (exec fuel assign1 s).ctl = .run ∧
    ((idx.find? (fun k => isPos (AW.getD k Fl.nan)) = none ∧
        (exec fuel assign1 s).fa "out" = (s.fa "out").set (pos cols (y, x)) (lab uid) ∧
        (exec fuel assign1 s).ienv "uid" = (uid : Int) + 1) ∨
      ∃ k, idx.find? (fun k => isPos (AW.getD k Fl.nan)) = some k ∧
        (exec fuel assign1 s).fa "out" = (s.fa "out").set (pos cols (y, x)) (AW.getD k Fl.nan) ∧
        (exec fuel assign1 s).ienv "uid" = (uid : Int)) := by
  obtain ⟨hrun, _, _, hos, hns, hni, has, rfl⟩ := hl
  unfold assign1
  rw [exec_ite_def]
  simp only [BE.ok, IE.ok, BE.eval, IE.eval, cmpInt, hns, List.length_cons, List.length_nil, List.getD_cons_zero,
    Nat.lt_add_one, decide_true, Bool.and_true, if_true]
  by_cases hlen : idx.length = 0
  · -- no matching window cell at all: the windows have no zero offset, so a cell sees itself only where the
    -- clamping at the border folds an offset back onto it
    have hnil : idx = [] := List.eq_nil_of_length_eq_zero hlen
    have hnp : ¬ ((0 : Int) < ((idx.length : Nat) : Int)) := by omega
    simp only [hnp, decide_false, Bool.false_eq_true, if_false]
    rw [exec_freshUid fuel rows cols y x uid hy hx s hrun hyv hxv huv hos]
    subst hnil
    exact ⟨hrun, Or.inl ⟨rfl, by simp only [setS_same], by simp only [setS_same]⟩⟩
  · have hpos : (0 : Int) < (idx.length : Int) := by omega
    simp only [hpos, decide_true, if_true]
    -- `assigned_value = None`, then the search; it writes `j` and its own three variables only
    let s1 : State F := { s with benv := setS s.benv "assigned_value$some" false }
    rw [IL.exec_seq_eq fuel _ _ s s1 (exec_setB fuel _ _ s rfl) hrun, exec_seq]
    obtain ⟨hc, hfound⟩ := exec_findLoop fuel n idx s1 hrun hidx hns hni has
      (setS_same s.benv "assigned_value$some" false)
    have hfr := ILVs.exec_frame fuel findLoop s1
    generalize exec fuel findLoop s1 = r at hc hfound hfr
    have hyr : r.ienv "y" = (y : Int) := (hfr.ienv "y" (by decide)).trans hyv
    have hxr : r.ienv "x" = (x : Int) := (hfr.ienv "x" (by decide)).trans hxv
    have hur : r.ienv "uid" = (uid : Int) := (hfr.ienv "uid" (by decide)).trans huv
    have hor : r.shp "out" = [rows, cols] := (hfr.shp "out" (by decide)).trans hos
    have hfo : r.fa "out" = s.fa "out" := hfr.fa "out" (by decide)
    rw [if_pos hc, exec_ite_def]
    simp only [BE.ok, BE.eval, if_true]
    rcases hfound with ⟨hf, hfl⟩ | ⟨k, hf, hfl, hval⟩
    · simp only [hfl, Bool.false_eq_true, if_false]
      rw [exec_freshUid fuel rows cols y x uid hy hx r hc hyr hxr hur hor, hfo]
      exact ⟨hc, Or.inl ⟨hf, setS_same r.fa "out" _, setS_same r.ienv "uid" _⟩⟩
    · simp only [hfl, if_true]
      rw [exec_store_out fuel rows cols y x hy hx _ r (by simp [FE.ok]) hyr hxr hor]
      exact ⟨hc, Or.inr ⟨k, hf, by simp only [FE.eval, hval, hfo]; exact setS_same _ _ _, hur⟩⟩

theorem step1_some {α V : Type} [DecidableEq α] (nbrs : α → List α) (m : V → V → Bool) (data : α → Option V)
    (st : (α → Nat) × Nat) (p : α) (v : V) (q : α) (hv : data p = some v)
    (hf : (matchesOf nbrs m data v p).find? (fun q => 0 < st.1 q) = some q) :
    step1 nbrs m data st p = (setL st.1 p (st.1 q), st.2) := by
  simp only [step1, hv, hf]

theorem step1_none {α V : Type} [DecidableEq α] (nbrs : α → List α) (m : V → V → Bool) (data : α → Option V)
    (st : (α → Nat) × Nat) (p : α) (v : V) (hv : data p = some v)
    (hf : (matchesOf nbrs m data v p).find? (fun q => 0 < st.1 q) = none) :
    step1 nbrs m data st p = (setL st.1 p st.2, st.2 + 1) := by
  simp only [step1, hv, hf]

theorem cell1_step (laws : LabelLaws F) (fuel rows cols n : Nat) (hn : n = 4 ∨ n = 8) (D : List F)
    (y x : Nat) (hy : y < rows) (hx : x < cols) (s : State F) (g : Geo rows cols n D s)
    (hyv : s.ienv "y" = (y : Int)) (hxv : s.ienv "x" = (x : Int)) (uid : Nat) (huv : s.ienv "uid" = (uid : Int))
    (L : Cell → Nat) (ho : OutRel rows cols D (s.fa "out") L (pos cols (y, x))) :
    Geo rows cols n D (afterBody (exec fuel cell1 s)) ∧ (afterBody (exec fuel cell1 s)).ienv "y" = (y : Int) ∧
      (afterBody (exec fuel cell1 s)).ienv "uid" =
        ((step1 (gridNbrs rows cols (decide (n = 8))) closeF (dataOf cols D) (L, uid) (y, x)).2 : Int) ∧
      OutRel rows cols D ((afterBody (exec fuel cell1 s)).fa "out")
        (step1 (gridNbrs rows cols (decide (n = 8))) closeF (dataOf cols D) (L, uid) (y, x)).1 (pos cols (y, x) + 1) := by
  let t := afterBody (exec fuel cell1 s)
  let r := step1 (gridNbrs rows cols (decide (n = 8))) closeF (dataOf cols D) (L, uid) (y, x)
  show Geo rows cols n D t ∧ t.ienv "y" = (y : Int) ∧ t.ienv "uid" = (r.2 : Int) ∧
    OutRel rows cols D (t.fa "out") r.1 (pos cols (y, x) + 1)
  -- a cell step assigns only scratch scalars and `uid`, stores to `out` and the windows
  have hfr : ILVs.Mods _ _ _ _ _ _ s t := (ILVs.exec_frame fuel cell1 s).afterBody
  have hyt : t.ienv "y" = (y : Int) := (hfr.ienv "y" (by decide)).trans hyv
  have hgeo := fun hc => g.of_mods hfr hc (by decide) (by decide) (by decide)
  -- both ways of writing `out[y, x]`: the input NaN, or a label
  have hset := ho.set (y, x) hy hx
  have hsetL : ∀ lv c, c ≠ (y, x) → setL L (y, x) lv c = L c := fun lv c hc => by simp only [setL, hc, if_false]
  cases hnan : Fl.isnan (at_ cols D (y, x)) with
  | true =>
    have ht : t = _ := cell1_nan fuel rows cols n D y x hy hx s g hyv hxv hnan
    have hr : r = (L, uid) := by simp only [r, step1, dataOf_none cols D (y, x) hnan]
    have hto : t.fa "out" = (s.fa "out").set (pos cols (y, x)) (at_ cols D (y, x)) := by rw [ht]; simp [setS]
    have htf : ∀ a, a ≠ "out" → t.fa a = s.fa a := by intro a ha; rw [ht]; simp [setS, ha]
    have h1 : OutRel rows cols D (t.fa "out") L (pos cols (y, x) + 1) :=
      hto ▸ hset _ L (fun _ _ => rfl) (fun h => by rw [hnan] at h; cases h) (fun _ => rfl)
    rw [hr]
    exact ⟨hgeo (by rw [ht]; exact g.run) h1.len (by rw [htf _ (by simp)]; exact g.slen)
      (by rw [htf _ (by simp)]; exact g.alen), hyt, by rw [ht]; exact huv, h1⟩
  | false =>
    obtain ⟨ie', hie, hfront⟩ := cell1_front fuel rows cols n hn D y x hy hx s g hyv hxv hnan
    let nbrs := gridNbrs rows cols (decide (n = 8)) (y, x)
    have hl : nbrs.length = n := gridNbrs_length rows cols n hn (y, x)
    have hin : ∀ q ∈ nbrs, q.1 < rows ∧ q.2 < cols := nbrs_in_grid rows cols _ y x hy hx
    obtain ⟨hlt, hlab, hfil, hfind, _⟩ :=
      window_model laws rows cols D (s.fa "out") L ho.rel nbrs hin (at_ cols D (y, x))
    let S5 := afterMatch s ie' (at_ cols D (y, x)) (nbrs.map (at_ cols D)) (nbrs.map (at_ cols (s.fa "out")))
    let idx := matchIdx (closeF (at_ cols D (y, x))) (nbrs.map (at_ cols D))
    obtain ⟨hc, hres⟩ := exec_assign1 fuel rows cols n y x uid hy hx idx
      (fun k hk => by have := hlt k hk; omega) (nbrs.map (at_ cols (s.fa "out"))) S5
      (afterMatch_loc g ie' (hie _ (by simp) (by simp) (by simp)) (hie _ (by simp) (by simp) (by simp)) _ _ _)
      ((hie _ (by simp) (by simp) (by simp)).trans hyv)
      ((hie _ (by simp) (by simp) (by simp)).trans hxv)
      ((hie _ (by simp) (by simp) (by simp)).trans huv)
    have ht : exec fuel assign1 S5 = t := by
      show _ = afterBody (exec fuel cell1 s)
      rw [hfront]; exact (afterBody_run _ hc).symm
    have haf := ILVs.exec_frame fuel assign1 S5
    rw [ht] at hres haf hc
    rw [afterMatch_fa _ _ _ _ _ _ (by simp) (by simp)] at hres
    -- whatever is stored at `out[y, x]`, `Geo` is kept
    have hgeo' : ∀ X : F, t.fa "out" = (s.fa "out").set (pos cols (y, x)) X → Geo rows cols n D t := fun X hX =>
      hgeo hc (by rw [hX, List.length_set]; exact g.olen)
        (by rw [haf.fa "src_window" (by decide), afterMatch_fa_sw]; simp [hl])
        (by rw [haf.fa "area_window" (by decide), afterMatch_fa_aw]; simp [hl])
    rcases hres with ⟨hf, hout, huid⟩ | ⟨k, hf, hout, huid⟩
    · rw [show List.find? (fun k => isPos ((List.map (at_ cols (s.fa "out")) nbrs).getD k Fl.nan))
          (matchIdx (closeF (at_ cols D (y, x))) (List.map (at_ cols D) nbrs)) = none from hf] at hfind
      have hr : r = (setL L (y, x) uid, uid + 1) :=
        step1_none _ _ _ (L, uid) (y, x) _ (dataOf_some cols D (y, x) hnan) hfind
      rw [hr]
      refine ⟨hgeo' _ hout, hyt, by rw [huid]; simp, ?_⟩
      rw [hout]
      exact hset _ _ (hsetL _) (fun _ => by simp [setL]) (fun h => by rw [hnan] at h; cases h)
    · rw [show List.find? (fun k => isPos ((List.map (at_ cols (s.fa "out")) nbrs).getD k Fl.nan))
          (matchIdx (closeF (at_ cols D (y, x))) (List.map (at_ cols D) nbrs)) = some k from hf] at hfind
      have hr : r = (setL L (y, x) (L (nb nbrs k)), uid) :=
        step1_some _ _ _ (L, uid) (y, x) _ _ (dataOf_some cols D (y, x) hnan) hfind
      rw [hr]
      refine ⟨hgeo' _ hout, hyt, huid, ?_⟩
      rw [hout]
      exact hset _ _ (hsetL _) (fun _ => (hlab k (List.mem_of_find?_eq_some hf)).trans (by simp [setL]))
        (fun h => by rw [hnan] at h; cases h)

def P1 (rows cols n : Nat) (D : List F) (k : Nat) (st : State F) (a : (Cell → Nat) × Nat) : Prop :=
  Geo rows cols n D st ∧ st.ienv "uid" = (a.2 : Int) ∧ OutRel rows cols D (st.fa "out") a.1 k

theorem pass1_refines (laws : LabelLaws F) (fuel rows cols n : Nat) (hn : n = 4 ∨ n = 8) (D : List F)
    (s : State F) (hP : P1 rows cols n D 0 s (fun _ => 0, 1)) :
    (exec fuel (pass cell1) s).ctl = .run ∧
    P1 rows cols n D (rows * cols) (exec fuel (pass cell1) s)
      ((gridCells rows cols).foldl (step1 (gridNbrs rows cols (decide (n = 8))) closeF (dataOf cols D))
        (fun _ => 0, 1)) :=
  exec_sweep_foldl fuel "y" "x" (by simp) (.var "rows") (.var "cols") cell1 rows cols (fun p q => (p, q))
    (step1 (gridNbrs rows cols (decide (n = 8))) closeF (dataOf cols D)) (P1 rows cols n D)
    (fun _ st a i hP => ⟨hP.1.set_ienv "y" i (by simp) (by simp) (by simp),
      (setS_other st.ienv "y" "uid" i (by simp)).trans hP.2.1, hP.2.2⟩)
    (fun _ st a i hP => ⟨hP.1.set_ienv "x" i (by simp) (by simp) (by simp),
      (setS_other st.ienv "x" "uid" i (by simp)).trans hP.2.1, hP.2.2⟩)
    (fun _ st a hP => ⟨rfl, hP.1.rv⟩) (fun _ st a hP => ⟨rfl, hP.1.cv⟩)
    (fun p q st a hp hq hst hy hx hP => by
      obtain ⟨g2, hy2, h2⟩ := cell1_step laws fuel rows cols n hn D p q hp hq st hP.1 hy hx a.2 hP.2.1 a.1 hP.2.2
      exact ⟨g2.run, hy2, g2, h2⟩)
    s hP.1.run (fun _ => 0, 1) hP

end XrsVerif.IL.Rg
