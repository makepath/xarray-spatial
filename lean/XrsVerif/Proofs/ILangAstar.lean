import XrsVerif.Proofs.ILangFrame
import XrsVerif.Proofs.AStarInv
/-
  Lemmas about the interpreter for the refinement proofs of the programs generated from xrspatial/pathfinding.py
  (Proofs/ILAStar*.lean).  Unlike the rest of the library the file imports a hand model: `cidx`, `enc` and their lemmas
  speak of `AStar.Cell` and `AStar.inside` (Proofs/AStarInv.lean).  The programs are templates over an injective
  renaming `q` of their local variables (`ILVs.Inj q`: `ILVs.inj_id` for the stand-alone function, `ILVs.inj_pre` for a
  copy inlined by the translator), so that one proof serves the function and its inlined copies.
-/
namespace XrsVerif.IL
open XrsVerif XrsVerif.AStar
variable {F : Type} [Fl F]
set_option linter.unusedSectionVars false

structure Frame (iv fv bv : List String) (s s' : State F) : Prop where
  ia : s'.ia = s.ia
  fa : s'.fa = s.fa
  shp : s'.shp = s.shp
  ext : s'.ext = s.ext
  ienv : ∀ x, x ∉ iv → s'.ienv x = s.ienv x
  fenv : ∀ x, x ∉ fv → s'.fenv x = s.fenv x
  benv : ∀ x, x ∉ bv → s'.benv x = s.benv x

theorem Frame.refl (iv fv bv : List String) (s : State F) : Frame iv fv bv s s :=
  ⟨rfl, rfl, rfl, rfl, fun _ _ => rfl, fun _ _ => rfl, fun _ _ => rfl⟩

theorem Frame.trans {iv fv bv : List String} {s s' s'' : State F} (h1 : Frame iv fv bv s s')
    (h2 : Frame iv fv bv s' s'') : Frame iv fv bv s s'' :=
  ⟨h2.ia.trans h1.ia, h2.fa.trans h1.fa, h2.shp.trans h1.shp, h2.ext.trans h1.ext,
   fun x hx => (h2.ienv x hx).trans (h1.ienv x hx), fun x hx => (h2.fenv x hx).trans (h1.fenv x hx),
   fun x hx => (h2.benv x hx).trans (h1.benv x hx)⟩

theorem Frame.mono {iv fv bv iv' fv' bv' : List String} {s s' : State F} (h : Frame iv fv bv s s')
    (hi : ∀ x ∈ iv, x ∈ iv') (hf : ∀ x ∈ fv, x ∈ fv') (hb : ∀ x ∈ bv, x ∈ bv') : Frame iv' fv' bv' s s' :=
  ⟨h.ia, h.fa, h.shp, h.ext, fun x hx => h.ienv x (fun hm => hx (hi x hm)),
   fun x hx => h.fenv x (fun hm => hx (hf x hm)), fun x hx => h.benv x (fun hm => hx (hb x hm))⟩

theorem Frame.setI {iv fv bv : List String} {s st : State F} (h : Frame iv fv bv s st) (v : String) (x : Int)
    (hv : v ∈ iv) : Frame iv fv bv s { st with ienv := setS st.ienv v x } :=
  ⟨h.ia, h.fa, h.shp, h.ext, fun y hy => (setS_other _ _ _ _ (fun e : y = v => hy (e ▸ hv))).trans (h.ienv y hy), h.fenv, h.benv⟩

theorem Frame.setF {iv fv bv : List String} {s st : State F} (h : Frame iv fv bv s st) (v : String) (x : F)
    (hv : v ∈ fv) : Frame iv fv bv s { st with fenv := setS st.fenv v x } :=
  ⟨h.ia, h.fa, h.shp, h.ext, h.ienv, fun y hy => (setS_other _ _ _ _ (fun e : y = v => hy (e ▸ hv))).trans (h.fenv y hy), h.benv⟩

theorem Frame.setB {iv fv bv : List String} {s st : State F} (h : Frame iv fv bv s st) (v : String) (x : Bool)
    (hv : v ∈ bv) : Frame iv fv bv s { st with benv := setS st.benv v x } :=
  ⟨h.ia, h.fa, h.shp, h.ext, h.ienv, h.fenv, fun y hy => (setS_other _ _ _ _ (fun e : y = v => hy (e ▸ hv))).trans (h.benv y hy)⟩

theorem Frame.setCtl {iv fv bv : List String} {s st : State F} (h : Frame iv fv bv s st) (c : Ctl) :
    Frame iv fv bv s { st with ctl := c } :=
  ⟨h.ia, h.fa, h.shp, h.ext, h.ienv, h.fenv, h.benv⟩

/-- what a block that stores to no array and allocates nothing leaves alone, read off its text -/
theorem Frame.of_exec (fuel : Nat) (st : St) (s : State F) (iv fv bv : List String)
    (hI : ILVs.wI st ⊆ iv) (hF : ILVs.wF st ⊆ fv) (hB : ILVs.wB st ⊆ bv) (hIA : ILVs.wIA st = [])
    (hFA : ILVs.wFA st = []) (hSh : ILVs.wSh st = []) : Frame iv fv bv s (exec fuel st s) := by
  have h := ILVs.exec_frame fuel st s
  rw [hIA, hFA, hSh] at h
  exact ⟨h.ia_eq, h.fa_eq, h.shp_eq, h.ext, fun x hx => h.ienv x (fun hm => hx (hI hm)),
    fun x hx => h.fenv x (fun hm => hx (hF hm)), fun x hx => h.benv x (fun hm => hx (hB hm))⟩

def cidx (w : Nat) (c : Cell) : Nat := c.1.toNat * w + c.2.toNat

/-- an access `a[c.1, c.2]` to an `h × w` array at a cell of the raster: both bounds checks pass and the offset is
    `cidx w c` (the three facts a `simp [il, …]` call needs to run a load or a store at `c`) -/
theorem cell_access {h w : Nat} {c : Cell} (hc : inside h w c = true) :
    inRange c.1 h = true ∧ inRange c.2 w = true ∧ off2 [h, w] c.1 c.2 = cidx w c := by
  have hc' := inside_iff.1 hc
  exact ⟨inRange_of_nonneg_lt _ _ hc'.1 hc'.2.1, inRange_of_nonneg_lt _ _ hc'.2.2.1 hc'.2.2.2,
    off2_nonneg h w c.1 c.2 hc'.1 hc'.2.2.1⟩

theorem cidx_lt (h w : Nat) (c : Cell) (hc : inside h w c = true) : cidx w c < h * w := by
  rw [inside_iff] at hc
  exact rowMajor_lt (by omega) (by omega)

theorem cidx_inj (h w : Nat) (c c' : Cell) (hc : inside h w c = true) (hc' : inside h w c' = true)
    (he : cidx w c = cidx w c') : c = c' := by
  rw [inside_iff] at hc hc'
  have := idx_inj _ _ _ _ w (by omega) (by omega) he
  exact Prod.ext (by omega) (by omega)

theorem cidx_nat (w i j : Nat) : cidx w ((i : Int), (j : Int)) = i * w + j := by
  unfold cidx; simp

theorem inside_nat (h w i j : Nat) (hi : i < h) (hj : j < w) : inside h w ((i : Int), (j : Int)) = true := by
  rw [inside_iff]; simp; omega

theorem cidx_surj {h w k : Nat} (hk : k < h * w) : ∃ c, inside h w c = true ∧ cidx w c = k := by
  have hw : 0 < w := Nat.pos_of_ne_zero fun h0 => by simp [h0] at hk
  refine ⟨((k / w : Nat), (k % w : Nat)), inside_nat h w _ _ ((Nat.div_lt_iff_lt_mul hw).2 hk) (Nat.mod_lt _ hw), ?_⟩
  rw [cidx_nat, Nat.mul_comm]; exact Nat.div_add_mod k w

/-- the encoding of an optional cell in two integer variables: `(NONE, NONE) = (-1, -1)` -/
def enc : Option Cell → Cell
  | none => (-1, -1)
  | some c => c

end XrsVerif.IL
