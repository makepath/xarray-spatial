import XrsVerif.Proofs.Proximity
/-
  The four-sweep model on a *window* of the raster (what `da.map_overlap` hands to one block: the block's
  cells plus a halo, clipped at the raster edge) versus the model on the whole raster.  Helper lemmas for
  Props/C07.lean (core Lean only).

  * `exactCut_win`: the exact nearest target cut at max_distance is the same on a window and on the whole grid at a
    cell whose targets within max_distance all lie in the window.
  * `noTarget_none`, `single_target_cut`, `window_run_exact_of_single`: the sweep itself agrees when the grid has at
    most one target.
  The general statement for the sweep is false: Props/C07.lean `window_sweep_eq_whole_false`.
-/
set_option linter.unusedVariables false
namespace XrsVerif.Prox

/-- a window of the grid: rows `[r0, r0+h)`, columns `[c0, c0+w)` -/
structure Win where
  r0 : Nat
  c0 : Nat
  h : Nat
  w : Nat

/-- the configuration the block function sees: same steps, metric, max_distance; the window's shape -/
def Win.cfg (v : Win) (c : Cfg) : Cfg := { c with H := v.h, W := v.w }

def Win.tg (v : Win) (tg : Nat → Nat → Bool) : Nat → Nat → Bool := fun r p => tg (v.r0 + r) (v.c0 + p)

/-- the window of the block rows `[a0, a1)` × columns `[b0, b1)` with a halo of `py` rows and `px` columns,
    clipped at the grid edge (the NaN cells dask pads beyond the edge are never targets and never remembered) -/
def haloWin (c : Cfg) (a0 a1 b0 b1 py px : Nat) : Win :=
  { r0 := a0 - py, c0 := b0 - px, h := min c.H (a1 + py) - (a0 - py), w := min c.W (b1 + px) - (b0 - px) }

def HaloCovers (c : Cfg) (py px : Nat) : Prop :=
  ∀ r1 c1 r2 c2, withinMax c (dist2 c r1 c1 r2 c2) = true → adiff r1 r2 ≤ py ∧ adiff c1 c2 ≤ px

theorem adiff_shift (a x y : Nat) : adiff (a + x) (a + y) = adiff x y := by
  unfold adiff; omega

theorem withinMax_cfg (v : Win) (c : Cfg) (d : Nat) : withinMax (v.cfg c) d = withinMax c d := rfl

theorem withinMax_anti (c : Cfg) (d d' : Nat) (h : d ≤ d') (hw : withinMax c d' = true) : withinMax c d = true := by
  unfold withinMax at *
  cases hm : c.max2x2 with
  | none => rfl
  | some m =>
    rw [hm] at hw
    simp only [decide_eq_true_eq] at hw ⊢
    omega

theorem dist2_shift (c : Cfg) (hpl : c.Planar) (v : Win) (r1 c1 r2 c2 : Nat) :
    dist2 (v.cfg c) r1 c1 r2 c2 = dist2 c (v.r0 + r1) (v.c0 + c1) (v.r0 + r2) (v.c0 + c2) := by
  unfold dist2 Win.cfg
  rcases hpl with h | h <;> simp only [h, adiff_shift]

/-- one more row (column) than the halo is already beyond max_distance => the halo covers max_distance -/
theorem haloCovers_of_bound (c : Cfg) (hpl : c.Planar) (m py px : Nat) (hm : c.max2x2 = some m)
    (hy : m < 2 * (((py + 1) * c.sy) * ((py + 1) * c.sy)))
    (hx : m < 2 * (((px + 1) * c.sx) * ((px + 1) * c.sx))) : HaloCovers c py px := by
  intro r1 c1 r2 c2 hw
  unfold withinMax at hw
  rw [hm] at hw
  simp only [decide_eq_true_eq] at hw
  have key : (adiff r1 r2 * c.sy) * (adiff r1 r2 * c.sy) ≤ dist2 c r1 c1 r2 c2 ∧
      (adiff c1 c2 * c.sx) * (adiff c1 c2 * c.sx) ≤ dist2 c r1 c1 r2 c2 := by
    unfold dist2
    rcases hpl with h | h
    · rw [h]; exact ⟨Nat.le_add_left _ _, Nat.le_add_right _ _⟩
    · rw [h]
      exact ⟨Nat.mul_le_mul (Nat.le_add_left _ _) (Nat.le_add_left _ _),
             Nat.mul_le_mul (Nat.le_add_right _ _) (Nat.le_add_right _ _)⟩
  constructor
  · apply Nat.le_of_lt_succ
    apply Nat.lt_of_not_le
    intro hge
    have h1 : (py + 1) * c.sy ≤ adiff r1 r2 * c.sy := Nat.mul_le_mul_right _ hge
    have h2 := Nat.mul_le_mul h1 h1
    have := key.1
    omega
  · apply Nat.le_of_lt_succ
    apply Nat.lt_of_not_le
    intro hge
    have h1 : (px + 1) * c.sx ≤ adiff c1 c2 * c.sx := Nat.mul_le_mul_right _ hge
    have h2 := Nat.mul_le_mul h1 h1
    have := key.2
    omega

def Win.Inside (v : Win) (c : Cfg) : Prop := v.r0 + v.h ≤ c.H ∧ v.c0 + v.w ≤ c.W

theorem win_target_is_grid_target (c : Cfg) (hpl : c.Planar) (tg : Nat → Nat → Bool) (v : Win) (hin : v.Inside c)
    (t : Nat × Nat) (ht : IsTarget (v.cfg c) (v.tg tg) t) (r p : Nat) :
    IsTarget c tg (v.r0 + t.1, v.c0 + t.2) ∧
      dT (v.cfg c) r p t = dT c (v.r0 + r) (v.c0 + p) (v.r0 + t.1, v.c0 + t.2) := by
  obtain ⟨h1, h2, h3⟩ := ht
  have h2' : t.1 < v.h := h2
  have h3' : t.2 < v.w := h3
  refine ⟨⟨h1, ?_, ?_⟩, ?_⟩
  · show v.r0 + t.1 < c.H
    have := hin.1; omega
  · show v.c0 + t.2 < c.W
    have := hin.2; omega
  · unfold dT
    exact dist2_shift c hpl v _ _ _ _

theorem grid_target_in_window (c : Cfg) (tg : Nat → Nat → Bool) (v : Win) (t : Nat × Nat) (ht : IsTarget c tg t)
    (h1 : v.r0 ≤ t.1) (h2 : t.1 < v.r0 + v.h) (h3 : v.c0 ≤ t.2) (h4 : t.2 < v.c0 + v.w) :
    IsTarget (v.cfg c) (v.tg tg) (t.1 - v.r0, t.2 - v.c0) := by
  refine ⟨?_, ?_, ?_⟩
  · show tg (v.r0 + (t.1 - v.r0)) (v.c0 + (t.2 - v.c0)) = true
    have e1 : v.r0 + (t.1 - v.r0) = t.1 := by omega
    have e2 : v.c0 + (t.2 - v.c0) = t.2 := by omega
    rw [e1, e2]; exact ht.1
  · show t.1 - v.r0 < v.h
    omega
  · show t.2 - v.c0 < v.w
    omega

theorem covered_target_in_haloWin (c : Cfg) (a0 a1 b0 b1 py px : Nat) (hc : HaloCovers c py px)
    (r p : Nat) (hr0 : a0 ≤ r) (hr1 : r < a1) (hp0 : b0 ≤ p) (hp1 : p < b1)
    (t : Nat × Nat) (ht1 : t.1 < c.H) (ht2 : t.2 < c.W)
    (hw : withinMax c (dist2 c t.1 t.2 r p) = true) :
    (haloWin c a0 a1 b0 b1 py px).r0 ≤ t.1 ∧
    t.1 < (haloWin c a0 a1 b0 b1 py px).r0 + (haloWin c a0 a1 b0 b1 py px).h ∧
    (haloWin c a0 a1 b0 b1 py px).c0 ≤ t.2 ∧
    t.2 < (haloWin c a0 a1 b0 b1 py px).c0 + (haloWin c a0 a1 b0 b1 py px).w := by
  obtain ⟨h1, h2⟩ := hc t.1 t.2 r p hw
  unfold adiff at h1 h2
  simp only [haloWin]
  refine ⟨by omega, by omega, by omega, by omega⟩

theorem haloWin_inside (c : Cfg) (a0 a1 b0 b1 py px : Nat) (h0 : a0 < a1) (h1 : b0 < b1) (hH : a1 ≤ c.H) (hW : b1 ≤ c.W) :
    (haloWin c a0 a1 b0 b1 py px).Inside c := by
  unfold Win.Inside haloWin
  simp only
  constructor <;> omega

theorem exact_some_of_target (c : Cfg) (tg : Nat → Nat → Bool) (r p : Nat) (t : Nat × Nat) (ht : IsTarget c tg t) :
    ∃ e, exact c tg r p = some e := by
  obtain ⟨e, he, _⟩ := exact_le c tg r p t ht
  exact ⟨e, he⟩

theorem exactCut_eq_of (c c' : Cfg) (tg tg' : Nat → Nat → Bool) (r p r' p' : Nat)
    (hw : ∀ d, withinMax c' d = withinMax c d)
    (hA : ∀ t, IsTarget c' tg' t → ∃ u, IsTarget c tg u ∧ dT c r p u = dT c' r' p' t)
    (hB : ∀ u, IsTarget c tg u → withinMax c (dT c r p u) = true → ∃ t, IsTarget c' tg' t ∧ dT c' r' p' t = dT c r p u) :
    exactCut c' tg' r' p' = exactCut c tg r p := by
  unfold exactCut
  rcases exact_spec c tg r p with ⟨he, hno⟩ | ⟨u, hu, he, hmin⟩
  · rcases exact_spec c' tg' r' p' with ⟨he', _⟩ | ⟨t, ht, _, _⟩
    · rw [he, he']
    · obtain ⟨u, hu, _⟩ := hA t ht; exact absurd hu (hno u)
  · rcases exact_spec c' tg' r' p' with ⟨he', hno'⟩ | ⟨t, ht, he', hmin'⟩
    · -- `c'` has no target: the nearest one of `c` is beyond max_distance
      rw [he, he']
      by_cases hwu : withinMax c (dT c r p u) = true
      · obtain ⟨t, ht, _⟩ := hB u hu hwu; exact absurd ht (hno' t)
      · simp [hwu]
    · rw [he, he']
      obtain ⟨u', hu', e'⟩ := hA t ht
      have h1 : dT c r p u ≤ dT c' r' p' t := e' ▸ hmin u' hu'
      by_cases hwu : withinMax c (dT c r p u) = true
      · -- the nearest target of `c` is within max_distance: it is a target of `c'` and nearest there too
        obtain ⟨t', ht', e⟩ := hB u hu hwu
        have h2 : dT c' r' p' t ≤ dT c r p u := e ▸ hmin' t' ht'
        simp only [show dT c' r' p' t = dT c r p u by omega, hw]
      · -- beyond max_distance: the nearest target of `c'` is not nearer
        have : ¬ withinMax c (dT c' r' p' t) = true := fun h => hwu (withinMax_anti c _ _ h1 h)
        simp [hw, hwu, this]

/-- **halo theorem for the proximity specification**, for any window of the grid that holds every target within
    `max_distance` of the cell -/
theorem exactCut_win (c : Cfg) (hpl : c.Planar) (tg : Nat → Nat → Bool) (v : Win) (hin : v.Inside c) (r p : Nat)
    (hr : v.r0 ≤ r) (hp : v.c0 ≤ p)
    (hcov : ∀ t, IsTarget c tg t → withinMax c (dT c r p t) = true →
      v.r0 ≤ t.1 ∧ t.1 < v.r0 + v.h ∧ v.c0 ≤ t.2 ∧ t.2 < v.c0 + v.w) :
    exactCut (v.cfg c) (v.tg tg) (r - v.r0) (p - v.c0) = exactCut c tg r p := by
  have hr' : v.r0 + (r - v.r0) = r := by omega
  have hp' : v.c0 + (p - v.c0) = p := by omega
  have hA : ∀ t, IsTarget (v.cfg c) (v.tg tg) t →
      IsTarget c tg (v.r0 + t.1, v.c0 + t.2) ∧ dT (v.cfg c) (r - v.r0) (p - v.c0) t = dT c r p (v.r0 + t.1, v.c0 + t.2) :=
    fun t ht => by simpa only [hr', hp'] using win_target_is_grid_target c hpl tg v hin t ht (r - v.r0) (p - v.c0)
  refine exactCut_eq_of c (v.cfg c) tg (v.tg tg) r p _ _ (withinMax_cfg v c) (fun t ht => ⟨_, (hA t ht).1, (hA t ht).2.symm⟩)
    (fun u hu hwu => ?_)
  obtain ⟨g1, g2, g3, g4⟩ := hcov u hu hwu
  have ht' := grid_target_in_window c tg v u hu g1 g2 g3 g4
  refine ⟨_, ht', ((hA _ ht').2).trans ?_⟩
  show dT c r p (v.r0 + (u.1 - v.r0), v.c0 + (u.2 - v.c0)) = dT c r p u
  rw [show v.r0 + (u.1 - v.r0) = u.1 by omega, show v.c0 + (u.2 - v.c0) = u.2 by omega]

theorem noTarget_none (c : Cfg) (hrefl : c.Refl) (tg : Nat → Nat → Bool) (hno : ∀ t, ¬ IsTarget c tg t)
    (r p : Nat) (hr : r < c.H) (hp : p < c.W) :
    proxAt (run c tg) r p = none ∧ allocAt (run c tg) r p = none :=
  (run_cell_cases c tg hrefl r p hr hp).resolve_right (fun ⟨t, hT, _⟩ => hno t hT)

/-- all targets alike under `f`: what `output_img` holds at a cell is read off the proximity there -/
theorem alloc_of_unique (c : Cfg) (hrefl : c.Refl) (tg : Nat → Nat → Bool) {α : Type} (f : Nat × Nat → α) (a : α)
    (h : ∀ t, IsTarget c tg t → f t = a) (r p : Nat) (hr : r < c.H) (hp : p < c.W) :
    (allocAt (run c tg) r p).map f = (proxAt (run c tg) r p).map (fun _ => a) := by
  rcases run_cell_cases c tg hrefl r p hr hp with ⟨h1, h2⟩ | ⟨t, hT, _, h1, h2⟩
  · rw [h1, h2]; rfl
  · rw [h1, h2, Option.map_some, h t hT]; rfl

theorem single_target_cut (c : Cfg) (tg : Nat → Nat → Bool) (hpl : c.Planar) (hsx : 0 < c.sx) (hsy : 0 < c.sy)
    (t0 : Nat × Nat) (ht0 : IsTarget c tg t0) (huniq : ∀ t, IsTarget c tg t → t = t0)
    (r p : Nat) (hr : r < c.H) (hp : p < c.W) : proxAt (run c tg) r p = exactCut c tg r p :=
  (run_single_target c tg (planar_refl c hpl) t0 ht0 huniq r p hr hp (planar_sep c hpl hsx hsy _ _ _ _)
    (fun row q h1 h2 => planar_mono c hpl _ _ _ _ _ _ h1 h2)).trans (exactCut_single c tg r p t0 ht0 huniq).symm

theorem noTarget_exactCut (c : Cfg) (tg : Nat → Nat → Bool) (hno : ∀ t, ¬ IsTarget c tg t) (r p : Nat) :
    exactCut c tg r p = none := by
  unfold exactCut
  cases he : exact c tg r p with
  | none => rfl
  | some e =>
    obtain ⟨t, ht, _⟩ := exact_attained c tg r p e he
    exact absurd ht (hno t)

/-- at most one target in the window when the grid has at most one: the sweep on the window is exact -/
theorem window_run_exact_of_single (c : Cfg) (tg : Nat → Nat → Bool) (hpl : c.Planar) (hsx : 0 < c.sx) (hsy : 0 < c.sy)
    (t0 : Nat × Nat) (huniq : ∀ t, IsTarget c tg t → t = t0) (v : Win) (hin : v.Inside c)
    (r p : Nat) (hr : r < v.h) (hp : p < v.w) :
    proxAt (run (v.cfg c) (v.tg tg)) r p = exactCut (v.cfg c) (v.tg tg) r p := by
  have hplv : (v.cfg c).Planar := hpl
  by_cases hex : ∃ t', IsTarget (v.cfg c) (v.tg tg) t'
  · obtain ⟨t', ht'⟩ := hex
    apply single_target_cut (v.cfg c) (v.tg tg) hplv hsx hsy t' ht' _ r p hr hp
    intro t ht
    have h1 := huniq _ (win_target_is_grid_target c hpl tg v hin t ht 0 0).1
    have h2 := huniq _ (win_target_is_grid_target c hpl tg v hin t' ht' 0 0).1
    have h3 : (v.r0 + t.1, v.c0 + t.2) = (v.r0 + t'.1, v.c0 + t'.2) := h1.trans h2.symm
    have h4 := (Prod.mk.injEq _ _ _ _).mp h3
    apply Prod.ext <;> omega
  · have hno : ∀ t, ¬ IsTarget (v.cfg c) (v.tg tg) t := fun t ht => hex ⟨t, ht⟩
    rw [(noTarget_none (v.cfg c) (planar_refl _ hplv) (v.tg tg) hno r p hr hp).1, noTarget_exactCut _ _ hno]

end XrsVerif.Prox
