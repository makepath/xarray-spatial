import XrsVerif.Proofs.ILang
import XrsVerif.Gen.IL
/-
  Generic ILang lemmas and the *templates over a name prefix* for the small geometry
  functions of `xrspatial/viewshed.py` that the translator inlines (`.scope`, locals prefixed `<callee><k>$`) into
  `_init_event_list` and `_viewshed_cpu_sweep`:

    `rcBody k p`   `_calculate_event_row_col`   (stand-alone: `Gen.IL.vsEventRowCol`, `rcBody .int ""`)
    `posBody k p`  `_calc_event_pos`            (stand-alone: `Gen.IL.vsEventPos`,    `posBody .int ""`)
    `angBody p`    `_calculate_angle`           (stand-alone: `Gen.IL.vsAngle`,       `angBody ""`)
    `vangBody p`   `_get_vertical_ang`          (stand-alone: `Gen.IL.vsVerticalAng`, `vangBody ""`)

  `k : TyK` says how the copy sees `event_type`: as an integer variable (stand-alone programs, the sweep) or as a numeric
  one (`_init_event_list` passes `e[E_TYPE_ID]`, a float64).  The `…_is_template` theorems are checked by `rfl`: an edit
  of one of the functions in /repo changes `Gen/IL.lean` and breaks them.
-/
namespace XrsVerif.ILSw
open XrsVerif XrsVerif.IL
variable {F : Type} [Fl F]

theorem setS_apply {α} (env : String → α) (v w : String) (x : α) : setS env v x w = if w = v then x else env w := rfl

/-- closes `setS (setS … ) … = setS (setS …) …` between environments that agree pointwise -/
macro "env_eq" : tactic =>
  `(tactic| (funext v; simp only [setS_apply]; repeat' split; all_goals simp_all))

def setRowK {α} (l : List α) (C r : Nat) (f : Nat → α) (k : Nat) : List α :=
  (List.range k).foldl (fun acc c => acc.set (r * C + c) (f c)) l

def setRow {α} (l : List α) (C r : Nat) (f : Nat → α) : List α := setRowK l C r f C

theorem setRowK_succ {α} (l : List α) (C r : Nat) (f : Nat → α) (k : Nat) :
    setRowK l C r f (k + 1) = (setRowK l C r f k).set (r * C + k) (f k) := by
  simp [setRowK, List.range_succ, List.foldl_append]

@[simp] theorem length_setRowK {α} (l : List α) (C r : Nat) (f : Nat → α) (k : Nat) :
    (setRowK l C r f k).length = l.length := by
  induction k with
  | zero => rfl
  | succ k ih => rw [setRowK_succ, List.length_set, ih]

@[simp] theorem length_setRow {α} (l : List α) (C r : Nat) (f : Nat → α) : (setRow l C r f).length = l.length :=
  length_setRowK l C r f C

theorem getD_setRowK {α} (l : List α) (C r : Nat) (f : Nat → α) (k idx : Nat) (d : α) :
    (setRowK l C r f k).getD idx d =
      if r * C ≤ idx ∧ idx < r * C + k ∧ idx < l.length then f (idx - r * C) else l.getD idx d := by
  induction k with
  | zero =>
    have : ¬ (r * C ≤ idx ∧ idx < r * C + 0 ∧ idx < l.length) := by omega
    simp only [this, if_false]; rfl
  | succ k ih =>
    rw [setRowK_succ, getD_set, ih, length_setRowK]
    by_cases h1 : r * C + k = idx
    · subst h1
      by_cases h2 : r * C + k < l.length <;> simp [h2]
    · by_cases h2 : r * C ≤ idx ∧ idx < r * C + k ∧ idx < l.length
      · have : r * C ≤ idx ∧ idx < r * C + (k + 1) ∧ idx < l.length := by omega
        simp [h1, h2, this]
      · have : ¬ (r * C ≤ idx ∧ idx < r * C + (k + 1) ∧ idx < l.length) := by omega
        simp [h1, h2, this]

theorem getD_setRow {α} (l : List α) (C r : Nat) (f : Nat → α) (idx : Nat) (d : α) :
    (setRow l C r f).getD idx d =
      if r * C ≤ idx ∧ idx < r * C + C ∧ idx < l.length then f (idx - r * C) else l.getD idx d :=
  getD_setRowK l C r f C idx d


/-- `for kv in range(C): dst[rE, kv] = val` with `rE` evaluating to the row `r` and `val` to `f kv` whatever the row `r` of
    `dst` currently holds -/
theorem forRange_setRow (dst kv : String) (hiE rE : IE) (val : FE) (s : State F) (fuel R C r : Nat) (f : Nat → F)
    (hs : s.ctl = .run) (hshp : s.shp dst = [R, C]) (hlen : (s.fa dst).length = R * C) (hr : r < R) (hC : 0 < C)
    (hhi : hiE.ok s = true ∧ hiE.eval s = (C : Int))
    (hst : ∀ (k : Nat) (l : List F), k < C → l.length = R * C →
      (∀ idx, ¬ (r * C ≤ idx ∧ idx < r * C + C) → l.getD idx Fl.nan = (s.fa dst).getD idx Fl.nan) →
      rE.ok { s with ienv := setS s.ienv kv (k : Int), fa := setS s.fa dst l } = true ∧
      rE.eval { s with ienv := setS s.ienv kv (k : Int), fa := setS s.fa dst l } = (r : Int) ∧
      val.ok { s with ienv := setS s.ienv kv (k : Int), fa := setS s.fa dst l } = true ∧
      val.eval { s with ienv := setS s.ienv kv (k : Int), fa := setS s.fa dst l } = f k) :
    exec fuel (.forRange kv (.lit 0) hiE (.lit 1) (.stF2 dst rE (.var kv) val)) s =
      { s with ienv := setS s.ienv kv ((C - 1 : Nat) : Int), fa := setS s.fa dst (setRow (s.fa dst) C r f) } := by
  obtain ⟨ie, fe, be, ia, fa, shp, ext, ctl⟩ := s
  simp only at hs hshp hlen hhi hst
  subst hs
  have h := forRange_up kv hiE (.stF2 dst rE (.var kv) val) _ fuel C rfl hhi.1 hhi.2
    (fun k st => st = ⟨setS ie kv (if k = 0 then ie kv else ((k - 1 : Nat) : Int)), fe, be, ia,
        setS fa dst (setRowK (fa dst) C r f k), shp, ext, .run⟩)
    (by simp [setRowK, setS_self])
    (fun k hk st hrun hP => by
      subst hP
      obtain ⟨o1, o2, o3, o4⟩ := hst k (setRowK (fa dst) C r f k) hk (by simp [hlen])
        (fun idx hidx => by
          rw [getD_setRowK]
          have : ¬ (r * C ≤ idx ∧ idx < r * C + k ∧ idx < (fa dst).length) := by omega
          simp [this])
      simp only [setS_setS] at *
      have hin1 : inRange (r : Int) R = true := inRange_of_lt r R hr
      have hin2 : inRange (k : Int) C = true := inRange_of_lt k C hk
      simp [il, o1, o2, o3, o4, hshp, hin1, hin2, off2_nat, afterBody, setRowK_succ, setS_setS])
  rw [h.2]
  have : ¬ C = 0 := by omega
  simp [this, setRow]

theorem list7 {α} (l : List α) (h : l.length = 7) : ∃ e0 e1 e2 e3 e4 e5 e6, l = [e0, e1, e2, e3, e4, e5, e6] := by
  match l, h with
  | [a, b, c, d, e, f, g], _ => exact ⟨a, b, c, d, e, f, g, rfl⟩

@[simp] theorem pfx_eq (p a b : String) : (p ++ a = p ++ b) = (a = b) :=
  propext (String.append_right_inj p)

inductive TyK | int | num
  deriving DecidableEq, Repr

def tyIs (k : TyK) (p : String) (c : Int) : BE :=
  match k with
  | .int => .cmpI .eq (.var (p ++ "event_type")) (.lit c)
  | .num => .cmpF .eq (.var (p ++ "event_type")) (.ofInt (.lit c))

/-- the variable `event_type` of the copy holds the event code `ty` (a numeric copy: as the literal the caller stored,
    which compares with the literals 0 and 1 as integers do -- true of every IEEE / field instance) -/
def TyVal (k : TyK) (p : String) (s : State F) (ty : Int) : Prop :=
  match k with
  | .int => s.ienv (p ++ "event_type") = ty
  | .num => s.fenv (p ++ "event_type") = Fl.lit ty 1 ∧
      Fl.eq (Fl.lit ty 1 : F) (Fl.lit 0 1) = decide (ty = 0) ∧ Fl.eq (Fl.lit ty 1 : F) (Fl.lit 1 1) = decide (ty = 1)

/-- the law of the number type the numeric copies of the event functions need (the last two conjuncts of `TyVal .num`):
    the event codes `1, 0, -1` stored as numbers compare with the literals `0` and `1` as the integers do -/
def LitOK (F : Type) [Fl F] : Prop :=
  ∀ ty : Int, (ty = 1 ∨ ty = 0 ∨ ty = -1) →
    Fl.eq (Fl.lit ty 1 : F) (Fl.lit 0 1) = decide (ty = 0) ∧ Fl.eq (Fl.lit ty 1 : F) (Fl.lit 1 1) = decide (ty = 1)

/-! ### `_calculate_event_row_col` -/

/-- `y = event_row ± 1; x = event_col ± 1` (`+` for an offset 1, `-` otherwise) -/
def rcSet (p : String) (oy ox : Int) : St :=
  .seq (.setI (p ++ "y") (.bin (if oy = 1 then .add else .sub) (.var (p ++ "event_row")) (.lit 1)))
    (.setI (p ++ "x") (.bin (if ox = 1 then .add else .sub) (.var (p ++ "event_col")) (.lit 1)))

/-- one branch of the if-chain: ENTER offsets, EXIT offsets -/
def rcBr (k : TyK) (p : String) (ey ex xy xx : Int) : St :=
  .ite (tyIs k p 1) (rcSet p ey ex) (rcSet p xy xx)

def vR (p : String) : IE := .var (p ++ "event_row")
def vC (p : String) : IE := .var (p ++ "event_col")
def vVR (p : String) : IE := .var (p ++ "viewpoint_row")
def vVC (p : String) : IE := .var (p ++ "viewpoint_col")

def rcChain (k : TyK) (p : String) : St :=
  .ite (.and (.cmpI .lt (vR p) (vVR p)) (.cmpI .lt (vC p) (vVC p))) (rcBr k p (-1) 1 1 (-1))
  (.ite (.and (.cmpI .eq (vC p) (vVC p)) (.cmpI .lt (vR p) (vVR p))) (rcBr k p 1 1 1 (-1))
  (.ite (.and (.cmpI .gt (vC p) (vVC p)) (.cmpI .lt (vR p) (vVR p))) (rcBr k p 1 1 (-1) (-1))
  (.ite (.and (.cmpI .gt (vC p) (vVC p)) (.cmpI .eq (vR p) (vVR p))) (rcBr k p 1 (-1) (-1) (-1))
  (.ite (.and (.cmpI .gt (vC p) (vVC p)) (.cmpI .gt (vR p) (vVR p))) (rcBr k p 1 (-1) (-1) 1)
  (.ite (.and (.cmpI .eq (vC p) (vVC p)) (.cmpI .gt (vR p) (vVR p))) (rcBr k p (-1) (-1) (-1) 1)
  (.ite (.and (.cmpI .lt (vC p) (vVC p)) (.cmpI .gt (vR p) (vVR p))) (rcBr k p (-1) (-1) 1 1)
  (.ite (.and (.cmpI .lt (vC p) (vVC p)) (.cmpI .eq (vR p) (vVR p))) (rcBr k p (-1) 1 1 1)
    (.seq (.ite (.and (.cmpI .eq (vR p) (vVR p)) (.cmpI .eq (vC p) (vVC p))) .skip (.fail "AssertionError"))
    (.seq (.setI (p ++ "x") (vC p))
    (.setI (p ++ "y") (vR p)))))))))))

/-- the (ineffective) guard `if abs(x - event_col > 1) or abs(y - event_row > 1): raise ValueError` -/
def rcGuard (p : String) : St :=
  .ite (.or (.cmpI .gt (.bin .sub (.var (p ++ "x")) (vC p)) (.lit 1)) (.cmpI .gt (.bin .sub (.var (p ++ "y")) (vR p)) (.lit 1)))
    (.fail "ValueError") .skip

def rcBody (k : TyK) (p : String) : St :=
  (.seq (.setI (p ++ "x") (.lit 0))
  (.seq (.setI (p ++ "y") (.lit 0))
  (.seq (.ite (tyIs k p 0) (.fail "ValueError") .skip)
  (.seq (rcChain k p)
  (.seq (rcGuard p)
  (.seq (.setI (p ++ "ret0") (.var (p ++ "y")))
  (.seq (.setI (p ++ "ret1") (.var (p ++ "x")))
  .ret)))))))

theorem vsEventRowCol_is_template : Gen.IL.vsEventRowCol.body = rcBody .int "" := rfl

/-! ### `_calc_event_pos` -/

def posSet (p : String) (oy ox : Int) : St :=
  .seq (.setF (p ++ "y") (.bin (if oy = 1 then .add else .sub) (.ofInt (vR p)) (.lit 1 2)))
    (.setF (p ++ "x") (.bin (if ox = 1 then .add else .sub) (.ofInt (vC p)) (.lit 1 2)))

def posBr (k : TyK) (p : String) (ey ex xy xx : Int) : St :=
  .ite (tyIs k p 1) (posSet p ey ex) (posSet p xy xx)

def posChain (k : TyK) (p : String) : St :=
  .ite (.and (.cmpI .lt (vR p) (vVR p)) (.cmpI .lt (vC p) (vVC p))) (posBr k p (-1) 1 1 (-1))
  (.ite (.and (.cmpI .lt (vR p) (vVR p)) (.cmpI .eq (vC p) (vVC p))) (posBr k p 1 1 1 (-1))
  (.ite (.and (.cmpI .lt (vR p) (vVR p)) (.cmpI .gt (vC p) (vVC p))) (posBr k p 1 1 (-1) (-1))
  (.ite (.and (.cmpI .eq (vR p) (vVR p)) (.cmpI .gt (vC p) (vVC p))) (posBr k p 1 (-1) (-1) (-1))
  (.ite (.and (.cmpI .gt (vR p) (vVR p)) (.cmpI .gt (vC p) (vVC p))) (posBr k p 1 (-1) (-1) 1)
  (.ite (.and (.cmpI .gt (vR p) (vVR p)) (.cmpI .eq (vC p) (vVC p))) (posBr k p (-1) (-1) (-1) 1)
  (.ite (.and (.cmpI .gt (vR p) (vVR p)) (.cmpI .lt (vC p) (vVC p))) (posBr k p (-1) (-1) 1 1)
  (.ite (.and (.cmpI .eq (vR p) (vVR p)) (.cmpI .lt (vC p) (vVC p))) (posBr k p (-1) 1 1 1)
    (.seq (.ite (.and (.cmpI .eq (vR p) (vVR p)) (.cmpI .eq (vC p) (vVC p))) .skip (.fail "AssertionError"))
    (.seq (.setF (p ++ "x") (.ofInt (vC p)))
    (.setF (p ++ "y") (.ofInt (vR p))))))))))))

/-- `assert abs(event_col - x) < 1 and abs(event_row - y) < 1` -/
def posAssert (p : String) : St :=
  .ite (.and (.cmpF .lt (.un .abs (.bin .sub (.ofInt (vC p)) (.var (p ++ "x")))) (.ofInt (.lit 1)))
             (.cmpF .lt (.un .abs (.bin .sub (.ofInt (vR p)) (.var (p ++ "y")))) (.ofInt (.lit 1))))
    .skip (.fail "AssertionError")

def posBody (k : TyK) (p : String) : St :=
  (.seq (.setF (p ++ "x") (.ofInt (.lit 0)))
  (.seq (.setF (p ++ "y") (.ofInt (.lit 0)))
  (.seq (.ite (tyIs k p 0)
    (.seq (.setF (p ++ "y") (.ofInt (vR p)))
    (.seq (.setF (p ++ "x") (.ofInt (vC p)))
    (.seq (.setF (p ++ "ret0") (.var (p ++ "y")))
    (.seq (.setF (p ++ "ret1") (.var (p ++ "x")))
    .ret))))
    .skip)
  (.seq (posChain k p)
  (.seq (posAssert p)
  (.seq (.setF (p ++ "ret0") (.var (p ++ "y")))
  (.seq (.setF (p ++ "ret1") (.var (p ++ "x")))
  .ret)))))))

theorem vsEventPos_is_template : Gen.IL.vsEventPos.body = posBody .int "" := rfl

/-! ### `_calculate_angle` -/

/-- the value `FE.eval` gives the constant `.pi` (Core/ILang.lean) -/
def piF : F := Fl.mul (Fl.lit 4 1) (Fl.atan (Fl.lit 1 1))

def aEX (p : String) : FE := .var (p ++ "event_x")
def aEY (p : String) : FE := .var (p ++ "event_y")
def aVX (p : String) : FE := .ofInt (.var (p ++ "viewpoint_x"))
def aVY (p : String) : FE := .ofInt (.var (p ++ "viewpoint_y"))

/-- `if c: return e` -/
def retIf (p : String) (c : BE) (e : FE) : St := .ite c (.seq (.setF (p ++ "ret0") e) .ret) .skip

theorem retIf_seq (fuel : Nat) (p : String) (c : BE) (e : FE) (rest : St) (s : State F) (hs : s.ctl = .run)
    (hc : c.ok s = true) (he : e.ok s = true) :
    exec fuel (.seq (retIf p c e) rest) s =
      if c.eval s = true then { s with fenv := setS s.fenv (p ++ "ret0") (e.eval s), ctl := .ret } else exec fuel rest s := by
  by_cases h : c.eval s = true <;> simp [retIf, exec, hc, he, hs, h]

def angBody (p : String) : St :=
  (.seq (retIf p (.and (.cmpF .eq (aVX p) (aEX p)) (.cmpF .gt (aVY p) (aEY p))) (.bin .div .pi (.ofInt (.lit 2))))
  (.seq (retIf p (.and (.cmpF .eq (aVX p) (aEX p)) (.cmpF .lt (aVY p) (aEY p))) (.bin .div (.bin .mul .pi (.lit 3 1)) (.lit 2 1)))
  (.seq (retIf p (.and (.cmpF .eq (aEX p) (aVX p)) (.cmpF .eq (aEY p) (aVY p))) (.ofInt (.lit 0)))
  (.seq (retIf p (.and (.cmpF .eq (aVY p) (aEY p)) (.cmpF .gt (aEX p) (aVX p))) (.ofInt (.lit 0)))
  (.seq (retIf p (.and (.cmpF .gt (aVX p) (aEX p)) (.cmpF .eq (aVY p) (aEY p))) .pi)
  (.seq (.setF (p ++ "ang") (.un .atan (.bin .div (.un .abs (.bin .sub (aEY p) (aVY p))) (.un .abs (.bin .sub (aEX p) (aVX p))))))
  (.seq (retIf p (.and (.cmpF .gt (aEX p) (aVX p)) (.cmpF .lt (aEY p) (aVY p))) (.var (p ++ "ang")))
  (.seq (retIf p (.and (.cmpF .gt (aVX p) (aEX p)) (.cmpF .gt (aVY p) (aEY p))) (.bin .sub .pi (.var (p ++ "ang"))))
  (.seq (retIf p (.and (.cmpF .gt (aVX p) (aEX p)) (.cmpF .lt (aVY p) (aEY p))) (.bin .add .pi (.var (p ++ "ang"))))
  (.seq (retIf p (.and (.cmpF .lt (aVX p) (aEX p)) (.cmpF .lt (aVY p) (aEY p))) (.bin .sub (.bin .mul .pi (.lit 2 1)) (.var (p ++ "ang"))))
  (.seq (.setF (p ++ "ret0") (.ofInt (.lit 0)))
  .ret)))))))))))

theorem vsAngle_is_template : Gen.IL.vsAngle.body = angBody "" := rfl

/-! ### `_get_vertical_ang` -/

def vangBody (p : String) : St :=
  (.seq (.setF (p ++ "diff_elev") (.bin .sub (.var (p ++ "viewpoint_elev")) (.var (p ++ "elev"))))
  (.seq (.ite (.cmpF .gt (.un .abs (.var (p ++ "distance_to_viewpoint"))) (.lit 0 1)) .skip (.fail "AssertionError"))
  (.seq (.ite (.cmpF .eq (.var (p ++ "diff_elev")) (.lit 0 1))
    (.seq (.setF (p ++ "ret0") (.ofInt (.lit 90))) .ret)
    (.ite (.cmpF .gt (.var (p ++ "diff_elev")) (.ofInt (.lit 0)))
      (.seq (.setF (p ++ "ret0") (.bin .div (.bin .mul (.un .atan (.bin .div (.un .sqrt (.var (p ++ "distance_to_viewpoint"))) (.var (p ++ "diff_elev")))) (.ofInt (.lit 180))) .pi))
      .ret)
      .skip))
  (.seq (.setF (p ++ "ret0") (.bin .add (.bin .div (.bin .mul (.un .atan (.bin .div (.un .abs (.var (p ++ "diff_elev"))) (.un .sqrt (.var (p ++ "distance_to_viewpoint"))))) (.ofInt (.lit 180))) .pi) (.ofInt (.lit 90))))
  .ret))))

theorem vsVerticalAng_is_template : Gen.IL.vsVerticalAng.body = vangBody "" := rfl

end XrsVerif.ILSw
