import XrsVerif.Model.Proximity
import Mathlib.Algebra.Order.Field.Basic
/-
  `Prox.adiff` read in an ordered ring: the integers of the halo computation (Props/C07.lean), the field of the
  metric kernels (Props/C06.lean).  Apart from Proofs/Proximity.lean, which is core Lean only.
-/
namespace XrsVerif.Prox

theorem adiff_cast {R : Type} [Ring R] [LinearOrder R] [IsStrictOrderedRing R] (a b : Nat) :
    ((adiff a b : Nat) : R) = |(a : R) - (b : R)| := by
  unfold adiff
  rcases le_total a b with h | h
  · rw [Nat.sub_eq_zero_of_le h, Nat.zero_add, Nat.cast_sub h, abs_of_nonpos (sub_nonpos.2 (Nat.cast_le.2 h)), neg_sub]
  · rw [Nat.sub_eq_zero_of_le h, Nat.add_zero, Nat.cast_sub h, abs_of_nonneg (sub_nonneg.2 (Nat.cast_le.2 h))]

end XrsVerif.Prox
