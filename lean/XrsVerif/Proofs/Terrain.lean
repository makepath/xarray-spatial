import XrsVerif.Proofs.KSimp
import XrsVerif.Model.Terrain
/-!
  Helper lemmas for C08, valid for *every* translated kernel and every value domain `F`:
  what `Kernel.run` puts at a cell, borders, locality / one-cell change at raster level, and how a
  cell-level symmetry (quarter turn of the window) lifts to the whole raster.
-/
set_option linter.unusedSectionVars false
namespace XrsVerif

def cellOf {α : Type} (g : List (List α)) (y x : Nat) : Option α := (g[y]?).bind (·[x]?)

variable {F : Type} [Fl F]

def windowAt (get : String → Int → Int → F) (y x : Nat) : String → Int → Int → F :=
  fun a dy dx => get a ((y : Int) + dy) ((x : Int) + dx)

/-- (y, x) is inside the loop nest `range(top, rows - bottom) × range(left, cols - right)` -/
def Kernel.inLoop (k : Kernel) (rows cols y x : Nat) : Prop :=
  k.top ≤ y ∧ y + k.bottom < rows ∧ k.left ≤ x ∧ x + k.right < cols

instance (k : Kernel) (rows cols y x : Nat) : Decidable (k.inLoop rows cols y x) := by
  unfold Kernel.inLoop; infer_instance

theorem Kernel.run_cellOf (k : Kernel) (rows cols : Nat) (env : String → F)
    (get : String → Int → Int → F) (vec : String → List F) (y x : Nat) (hy : y < rows) (hx : x < cols) :
    cellOf (k.run rows cols env get vec) y x =
      some (if k.inLoop rows cols y x then k.cell env (windowAt get y x) vec else k.fill.val) := by
  simp [cellOf, Kernel.run, Kernel.inLoop, hy, hx]
  rfl

theorem Kernel.run_cellOf_outside (k : Kernel) (rows cols : Nat) (env : String → F)
    (get : String → Int → Int → F) (vec : String → List F) (y x : Nat) (h : rows ≤ y ∨ cols ≤ x) :
    cellOf (k.run rows cols env get vec) y x = none := by
  by_cases hy : y < rows
  · have hx : ¬ x < cols := by omega
    simp [cellOf, Kernel.run, hy, hx]
  · simp [cellOf, Kernel.run, hy]

/-- first / last row / column keep the value the output was allocated with, for every raster size -/
theorem Kernel.run_border (k : Kernel) (ht : 1 ≤ k.top) (hb : 1 ≤ k.bottom) (hl : 1 ≤ k.left)
    (hr : 1 ≤ k.right) (rows cols : Nat) (env : String → F) (get : String → Int → Int → F)
    (vec : String → List F) (y x : Nat) (hy : y < rows) (hx : x < cols)
    (hedge : y = 0 ∨ y + 1 = rows ∨ x = 0 ∨ x + 1 = cols) :
    cellOf (k.run rows cols env get vec) y x = some k.fill.val := by
  rw [k.run_cellOf rows cols env get vec y x hy hx]
  have : ¬ k.inLoop rows cols y x := by unfold Kernel.inLoop; omega
  simp [this]

theorem Kernel.run_small (k : Kernel) (ht : 1 ≤ k.top) (hb : 1 ≤ k.bottom) (hl : 1 ≤ k.left)
    (hr : 1 ≤ k.right) (rows cols : Nat) (hsmall : rows < 3 ∨ cols < 3) (env : String → F)
    (get : String → Int → Int → F) (vec : String → List F) (y x : Nat) (hy : y < rows) (hx : x < cols) :
    cellOf (k.run rows cols env get vec) y x = some k.fill.val :=
  k.run_border ht hb hl hr rows cols env get vec y x hy hx (by omega)

/-- **locality at raster level**: the output at (y, x) is a function of the input cells within the
    kernel's read radius of (y, x) -/
theorem Kernel.run_local (k : Kernel) (dr dc : Nat) (hw : readsWithin k.body.reads dr dc = true)
    (rows cols : Nat) (env : String → F) (g1 g2 : String → Int → Int → F) (vec : String → List F)
    (y x : Nat)
    (h : ∀ a (i j : Int), (y : Int) - dr ≤ i → i ≤ y + dr → (x : Int) - dc ≤ j → j ≤ x + dc →
        g1 a i j = g2 a i j) :
    cellOf (k.run rows cols env g1 vec) y x = cellOf (k.run rows cols env g2 vec) y x := by
  by_cases hin : y < rows ∧ x < cols
  · rw [k.run_cellOf rows cols env g1 vec y x hin.1 hin.2, k.run_cellOf rows cols env g2 vec y x hin.1 hin.2]
    congr 1
    split
    · apply Kernel.cell_local
      apply AgreeOn_of_within _ dr dc hw
      intro a dy dx h1 h2 h3 h4
      exact h a _ _ (by omega) (by omega) (by omega) (by omega)
    · rfl
  · rw [k.run_cellOf_outside rows cols env g1 vec y x (by omega),
        k.run_cellOf_outside rows cols env g2 vec y x (by omega)]

/-- **one-cell change**: two inputs that differ at most at (i0, j0) give the same output at every cell
    farther than the read radius from (i0, j0) -/
theorem Kernel.run_one_cell_change (k : Kernel) (dr dc : Nat) (hw : readsWithin k.body.reads dr dc = true)
    (rows cols : Nat) (env : String → F) (g1 g2 : String → Int → Int → F) (vec : String → List F)
    (i0 j0 : Int) (hdiff : ∀ a (i j : Int), (i ≠ i0 ∨ j ≠ j0) → g1 a i j = g2 a i j)
    (y x : Nat) (hfar : (y : Int) + dr < i0 ∨ i0 + dr < y ∨ (x : Int) + dc < j0 ∨ j0 + dc < x) :
    cellOf (k.run rows cols env g1 vec) y x = cellOf (k.run rows cols env g2 vec) y x := by
  apply k.run_local dr dc hw
  intro a i j h1 h2 h3 h4
  apply hdiff
  omega

/-- the raster turned a quarter turn counter-clockwise (`np.rot90`): `new[i, j] = old[j, cols-1-i]`,
    where `cols` is the number of columns of the old raster (= number of rows of the new one) -/
def rotGet (cols : Nat) (get : String → Int → Int → F) : String → Int → Int → F :=
  fun a i j => get a j ((cols : Int) - 1 - i)

/-- the same turn applied to a window of relative offsets -/
def rotWin (w : String → Int → Int → F) : String → Int → Int → F :=
  fun a dy dx => w a dx (-dy)

/-- if turning the window changes a cell value by `φ` (identity for slope / curvature, the −90° shift
    for aspect) then turning the raster turns the output raster and applies `φ` to every cell -/
theorem Kernel.run_quarter_turn (k : Kernel) (m : Nat) (ht : k.top = m) (hb : k.bottom = m)
    (hl : k.left = m) (hr : k.right = m) (env : String → F) (vec : String → List F) (φ : F → F)
    (hfill : φ k.fill.val = k.fill.val)
    (rows cols : Nat) (get : String → Int → Int → F)
    (hcell : ∀ y x : Nat, k.cell env (rotWin (windowAt get y x)) vec = φ (k.cell env (windowAt get y x) vec))
    (i j : Nat) (hi : i < cols) (hj : j < rows) :
    cellOf (k.run cols rows env (rotGet cols get) vec) i j =
      (cellOf (k.run rows cols env get vec) j (cols - 1 - i)).map φ := by
  rw [k.run_cellOf cols rows env _ vec i j hi hj,
      k.run_cellOf rows cols env get vec j (cols - 1 - i) hj (by omega)]
  simp only [Option.map_some, Option.some.injEq]
  have hiff : k.inLoop cols rows i j ↔ k.inLoop rows cols j (cols - 1 - i) := by
    unfold Kernel.inLoop; rw [ht, hb, hl, hr]; omega
  by_cases hin : k.inLoop rows cols j (cols - 1 - i)
  · rw [if_pos hin, if_pos (hiff.2 hin), ← hcell]
    congr 1
    funext a dy dx
    simp only [windowAt, rotGet, rotWin]
    congr 1
    omega
  · rw [if_neg hin, if_neg (fun h => hin (hiff.1 h)), hfill]

theorem Kernel.run_congr_cell (k : Kernel) (rows cols : Nat) (env : String → F)
    (g1 g2 : String → Int → Int → F) (vec : String → List F)
    (h : ∀ y x : Nat, k.cell env (windowAt g1 y x) vec = k.cell env (windowAt g2 y x) vec) :
    k.run rows cols env g1 vec = k.run rows cols env g2 vec := by
  unfold Kernel.run
  apply List.map_congr_left; intro y _
  apply List.map_congr_left; intro x _
  split
  · exact h y x
  · rfl

theorem Gen.TerrainWiring.run_congr_cell (wr : Gen.TerrainWiring) (rows cols : Nat) (rx ry : F) (pub : String → F)
    (g1 g2 : Int → Int → F)
    (h : ∀ y x : Nat, wr.cell rx ry pub (fun dy dx => g1 (y + dy) (x + dx)) =
      wr.cell rx ry pub (fun dy dx => g2 (y + dy) (x + dx))) :
    wr.run rows cols rx ry pub g1 = wr.run rows cols rx ry pub g2 :=
  Kernel.run_congr_cell wr.kernel rows cols _ _ _ _ h

theorem Gen.TerrainWiring.run_quarter_turn (wr : Gen.TerrainWiring) (ht : wr.kernel.top = 1)
    (hb : wr.kernel.bottom = 1) (hl : wr.kernel.left = 1) (hr : wr.kernel.right = 1) (rx ry : F)
    (pub : String → F) (φ : F → F) (hfill : φ wr.kernel.fill.val = wr.kernel.fill.val)
    (hcell : ∀ win : Int → Int → F, wr.cell rx ry pub (fun dy dx => win dx (-dy)) = φ (wr.cell rx ry pub win))
    (rows cols : Nat) (get : Int → Int → F) (i j : Nat) (hi : i < cols) (hj : j < rows) :
    cellOf (wr.run cols rows rx ry pub (fun i j => get j ((cols : Int) - 1 - i))) i j =
      (cellOf (wr.run rows cols rx ry pub get) j (cols - 1 - i)).map φ :=
  Kernel.run_quarter_turn wr.kernel 1 ht hb hl hr _ _ φ hfill rows cols (fun _ i j => get i j)
    (fun y x => hcell fun dy dx => get (y + dy) (x + dx)) i j hi hj

def readsIn (k : Kernel) (l : List (Int × Int)) : Bool :=
  k.body.reads.all fun r => l.contains (r.2.1, r.2.2)

theorem cell_congr_on (k : Kernel) (l : List (Int × Int)) (hr : readsIn k l = true) (env : String → F)
    (vec : String → List F) (w1 w2 : Int → Int → F) (h : ∀ p ∈ l, w1 p.1 p.2 = w2 p.1 p.2) :
    k.cell env (fun _ => w1) vec = k.cell env (fun _ => w2) vec := by
  apply Kernel.cell_local
  intro a dy dx hm
  simp only [readsIn, List.all_eq_true] at hr
  have := hr (a, dy, dx) hm
  simp only [List.contains_iff_mem] at this
  exact h (dy, dx) this

section nv
variable {K : Type} [Field K] [LinearOrder K] [IsStrictOrderedRing K] [Trig K]

def finW (z : Int → Int → K) : Int → Int → NV K := fun dy dx => some (z dy dx)
def finiteOn (l : List (Int × Int)) (w : Int → Int → NV K) : Prop := ∀ p ∈ l, w p.1 p.2 ≠ none
/-- the values of a window (0 where NaN; only used where the window is finite) -/
def vals (w : Int → Int → NV K) : Int → Int → K := fun dy dx => (w dy dx).getD 0

theorem finiteOn_agree (l : List (Int × Int)) (w : Int → Int → NV K) (hf : finiteOn l w) :
    ∀ p ∈ l, w p.1 p.2 = finW (vals w) p.1 p.2 := by
  intro p hp
  have := hf p hp
  simp only [finW, vals]
  cases h : w p.1 p.2 with
  | none => exact absurd h this
  | some v => rfl

theorem exists_nan_of_not_finiteOn {l : List (Int × Int)} {w : Int → Int → NV K} (h : ¬ finiteOn l w) :
    ∃ p ∈ l, w p.1 p.2 = none := by
  simpa only [finiteOn, not_forall, not_not, exists_prop] using h

/-- what the lifting lemmas below use of an output cell as a function of its window: it depends on the
    offsets `l` only, is NaN as soon as one of them is, and is `doc` of the values on a finite window -/
structure CellSpec (cell : (Int → Int → NV K) → NV K) (l : List (Int × Int)) (doc : (Int → Int → K) → K) :
    Prop where
  congr_on : ∀ w1 w2 : Int → Int → NV K, (∀ p ∈ l, w1 p.1 p.2 = w2 p.1 p.2) → cell w1 = cell w2
  nan : ∀ (w : Int → Int → NV K) (p : Int × Int), p ∈ l → w p.1 p.2 = none → cell w = none
  eq_doc : ∀ z : Int → Int → K, cell (finW z) = some (doc z)

theorem Gen.TerrainWiring.cellSpec (wr : Gen.TerrainWiring) (l : List (Int × Int)) (hr : readsIn wr.kernel l = true)
    {rx ry : NV K} {pub : String → NV K} {doc : (Int → Int → K) → K}
    (hnan : ∀ (w : Int → Int → NV K) (p : Int × Int), p ∈ l → w p.1 p.2 = none → wr.cell rx ry pub w = none)
    (hdoc : ∀ z : Int → Int → K, wr.cell rx ry pub (finW z) = some (doc z)) :
    CellSpec (wr.cell rx ry pub) l doc :=
  ⟨fun w1 w2 h => cell_congr_on wr.kernel l hr _ _ w1 w2 h, hnan, hdoc⟩

namespace CellSpec
variable {cell : (Int → Int → NV K) → NV K} {l : List (Int × Int)} {doc : (Int → Int → K) → K}

theorem of_finite (s : CellSpec cell l doc) (w : Int → Int → NV K) (hf : finiteOn l w) :
    cell w = some (doc (vals w)) := by
  rw [← s.eq_doc]
  exact s.congr_on _ _ (finiteOn_agree l w hf)

theorem range (s : CellSpec cell l doc) (P : K → Prop) (hP : ∀ z, P (doc z)) (w : Int → Int → NV K) (v : K)
    (h : cell w = some v) : P v := by
  by_cases hf : finiteOn l w
  · rw [s.of_finite w hf, Option.some.injEq] at h
    exact h ▸ hP _
  · obtain ⟨p, hp, hn⟩ := exists_nan_of_not_finiteOn hf
    rw [s.nan w p hp hn] at h
    exact absurd h (Option.some_ne_none v).symm

/-- a law of the documented formula lifts from finite windows to all: `σ` permutes the read offsets, so a NaN
    at a read offset of either window is one of the other -/
theorem lift (s : CellSpec cell l doc) (σ : Int × Int → Int × Int) (hσ : ∀ p ∈ l, σ p ∈ l)
    (hσ' : ∀ q ∈ l, ∃ p ∈ l, σ p = q) (f φ : K → K)
    (hlaw : ∀ z : Int → Int → K, doc (fun dy dx => f (z (σ (dy, dx)).1 (σ (dy, dx)).2)) = φ (doc z))
    (w : Int → Int → NV K) :
    cell (fun dy dx => (w (σ (dy, dx)).1 (σ (dy, dx)).2).map f) = (cell w).map φ := by
  by_cases hf : finiteOn l w
  · rw [s.of_finite w hf, Option.map_some, ← hlaw, ← s.eq_doc]
    apply s.congr_on
    intro p hp
    simp only [finiteOn_agree l w hf (σ p) (hσ p hp), finW, Option.map_some]
  · obtain ⟨q, hq, hnone⟩ := exists_nan_of_not_finiteOn hf
    obtain ⟨p, hp, rfl⟩ := hσ' q hq
    rw [s.nan w (σ p) hq hnone]
    apply s.nan _ p hp
    simp only [hnone, Option.map_none]

theorem lift_inv (s : CellSpec cell l doc) (σ : Int × Int → Int × Int) (hσ : ∀ p ∈ l, σ p ∈ l)
    (hσ' : ∀ q ∈ l, ∃ p ∈ l, σ p = q) (f : K → K)
    (hlaw : ∀ z : Int → Int → K, doc (fun dy dx => f (z (σ (dy, dx)).1 (σ (dy, dx)).2)) = doc z)
    (w : Int → Int → NV K) :
    cell (fun dy dx => (w (σ (dy, dx)).1 (σ (dy, dx)).2).map f) = cell w :=
  (s.lift σ hσ hσ' f id hlaw w).trans Option.map_id_apply

theorem map_inv (s : CellSpec cell l doc) (f : K → K)
    (hlaw : ∀ z : Int → Int → K, doc (fun dy dx => f (z dy dx)) = doc z) (w : Int → Int → NV K) :
    cell (fun dy dx => (w dy dx).map f) = cell w :=
  s.lift_inv id (fun _ hp => hp) (fun q hq => ⟨q, hq, rfl⟩) f hlaw w

end CellSpec
end nv

end XrsVerif
