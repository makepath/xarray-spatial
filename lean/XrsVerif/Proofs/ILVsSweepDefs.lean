import XrsVerif.Proofs.ILangVssweep
/-
  The generated `_viewshed_cpu_sweep` (`Gen.IL.vsSweep`, 2200 lines) cut into named pieces.

  The sweep's own code (status-structure creation, the idle stack, the initial fill of the observer's row, the event loop
  with its three branches) is written out as a template over the inlined geometry functions (`posBody`, `angBody`,
  `vangBody` of Proofs/ILangVssweep.lean; `gradBody`, `distBody` here).  The four inlined status-tree routines -- two copies
  of `_insert_into_tree`, `_delete_from_tree`, `_max_grad_in_status_struct`, 1200 lines -- are *parameters* of the template:
  they are cut out of the generated program itself (`scopeAfter`), so that the template check
  `vsSweep_is_template : Gen.IL.vsSweep.body = sweepBody insFill insLoop delLoop qryLoop` (by `rfl`) pins down everything
  around them, and the iteration theorems (Proofs/ILVsSweep*.lean) can treat them as black boxes with a stated contract.
-/
namespace XrsVerif.ILSw
open XrsVerif XrsVerif.IL

/-- the body of the first `.scope` that directly follows an assignment to the scalar `v` -/
def scopeAfter (v : String) : St → Option St
  | .seq a b =>
    (match a, b with
      | .setI v' _, .seq (.scope body) _ => if v' = v then some body else none
      | .setF v' _, .seq (.scope body) _ => if v' = v then some body else none
      | .setI v' _, .scope body => if v' = v then some body else none
      | _, _ => none) <|> scopeAfter v a <|> scopeAfter v b
  | .ite _ t f => scopeAfter v t <|> scopeAfter v f
  | .while _ b => scopeAfter v b
  | .forRange _ _ _ _ b => scopeAfter v b
  | .forIn _ _ b => scopeAfter v b
  | .scope b => scopeAfter v b
  | _ => none

/-- the four inlined status-tree routines of the generated sweep -/
def insFill : St := (scopeAfter "_insert_into_tree15$node_id" Gen.IL.vsSweep.body).getD .skip
def insLoop : St := (scopeAfter "_insert_into_tree45$node_id" Gen.IL.vsSweep.body).getD .skip
def delLoop : St := (scopeAfter "_delete_from_tree64$key" Gen.IL.vsSweep.body).getD .skip
def qryLoop : St := (scopeAfter "_max_grad_in_status_struct101$gradient" Gen.IL.vsSweep.body).getD .skip

def qP : String := "_max_grad_in_status_struct101$"

def dP : String := "_delete_from_tree64$"

/-- the prefix of the inlined insertion of the event loop -/
def iP : String := "_insert_into_tree45$"

/-- the prefix of the inlined insertion of the initial fill -/
def iP0 : String := "_insert_into_tree15$"

/-- `_init_status_node(status_node)` -/
def initNode : St :=
  .scope (.seq (.stF1 "status_node" (.lit 0) (.ofInt (.lit (-1))))
    (.seq (.stF1 "status_node" (.lit 1) .nan) (.seq (.stF1 "status_node" (.lit 2) .nan) (.seq (.stF1 "status_node" (.lit 3) .nan)
    (.seq (.stF1 "status_node" (.lit 4) .nan) (.seq (.stF1 "status_node" (.lit 5) .nan) (.seq (.stF1 "status_node" (.lit 6) .nan)
    .ret)))))))

/-- the gradient part shared by `_calc_event_grad` and `_calc_dist_n_grad` -/
def gradIte (p : String) : St :=
  .ite (.cmpF .eq (.var (p ++ "distance_to_viewpoint")) (.ofInt (.lit 0)))
    (.ite (.cmpF .gt (.var (p ++ "diff_elev")) (.ofInt (.lit 0)))
      (.setF (p ++ "gradient") (.bin .div .pi (.ofInt (.lit 2))))
      (.ite (.cmpF .lt (.var (p ++ "diff_elev")) (.ofInt (.lit 0)))
        (.setF (p ++ "gradient") (.bin .div (.un .neg .pi) (.ofInt (.lit 2))))
        (.setF (p ++ "gradient") (.ofInt (.lit 0)))))
    (.setF (p ++ "gradient") (.un .atan (.bin .div (.var (p ++ "diff_elev")) (.un .sqrt (.var (p ++ "distance_to_viewpoint"))))))

def dist2 (p : String) : St :=
  .setF (p ++ "distance_to_viewpoint") (.bin .add (.bin .mul (.var (p ++ "dx")) (.var (p ++ "dx"))) (.bin .mul (.var (p ++ "dy")) (.var (p ++ "dy"))))

/-- the body of `_calc_event_grad(row, col, elev, …)` (numeric `row`, `col`: an event point) -/
def gradBody (p : String) : St :=
  (.seq (.setF (p ++ "diff_elev") (.bin .sub (.var (p ++ "elev")) (.var (p ++ "viewpoint_elev"))))
  (.seq (.setF (p ++ "dx") (.bin .mul (.bin .sub (.var (p ++ "col")) (.ofInt (.var (p ++ "viewpoint_col")))) (.var (p ++ "ew_res"))))
  (.seq (.setF (p ++ "dy") (.bin .mul (.bin .sub (.var (p ++ "row")) (.ofInt (.var (p ++ "viewpoint_row")))) (.var (p ++ "ns_res"))))
  (.seq (dist2 p)
  (.seq (gradIte p)
  (.seq (.setF (p ++ "ret0") (.var (p ++ "gradient")))
  .ret))))))

/-- the body of `_calc_dist_n_grad(status_node_row, status_node_col, elev, …)` (integer row, column: a cell centre) -/
def distBody (p : String) : St :=
  (.seq (.setF (p ++ "diff_elev") (.bin .sub (.var (p ++ "elev")) (.var (p ++ "viewpoint_elev"))))
  (.seq (.setF (p ++ "dx") (.bin .mul (.ofInt (.bin .sub (.var (p ++ "status_node_col")) (.var (p ++ "viewpoint_col")))) (.var (p ++ "ew_res"))))
  (.seq (.setF (p ++ "dy") (.bin .mul (.ofInt (.bin .sub (.var (p ++ "status_node_row")) (.var (p ++ "viewpoint_row")))) (.var (p ++ "ns_res"))))
  (.seq (dist2 p)
  (.seq (gradIte p)
  (.seq (.setF (p ++ "ret0") (.var (p ++ "distance_to_viewpoint")))
  (.seq (.setF (p ++ "ret1") (.var (p ++ "gradient")))
  .ret)))))))

/-- `ay, ax = _calc_event_pos(ty, row, col, vp_row, vp_col)` -/
def posCallI (p : String) (tyE rowE colE : IE) (rest : St) : St :=
  (.seq (.setI (p ++ "event_type") tyE)
  (.seq (.setI (p ++ "event_row") rowE)
  (.seq (.setI (p ++ "event_col") colE)
  (.seq (.setI (p ++ "viewpoint_row") (.var "vp_row"))
  (.seq (.setI (p ++ "viewpoint_col") (.var "vp_col"))
  (.seq (.scope (posBody .int p))
  (.seq (.setF "ay" (.var (p ++ "ret0")))
  (.seq (.setF "ax" (.var (p ++ "ret1")))
  rest))))))))

/-- `status_node[k] = _calculate_angle(ax, ay, vp_col, vp_row)` -/
def angCall (a : String) (k : Int) (rest : St) : St :=
  (.seq (.setF (a ++ "event_x") (.var "ax"))
  (.seq (.setF (a ++ "event_y") (.var "ay"))
  (.seq (.setI (a ++ "viewpoint_x") (.var "vp_col"))
  (.seq (.setI (a ++ "viewpoint_y") (.var "vp_row"))
  (.seq (.scope (angBody a))
  (.seq (.stF1 "status_node" (.lit k) (.var (a ++ "ret0")))
  rest))))))

/-- `status_node[k] = _calc_event_grad(ay, ax, elev, vp_row, vp_col, vp_elev, ew_res, ns_res)` -/
def gradCall (g : String) (elevE : FE) (k : Int) (rest : St) : St :=
  (.seq (.setF (g ++ "row") (.var "ay"))
  (.seq (.setF (g ++ "col") (.var "ax"))
  (.seq (.setF (g ++ "elev") elevE)
  (.seq (.setI (g ++ "viewpoint_row") (.var "vp_row"))
  (.seq (.setI (g ++ "viewpoint_col") (.var "vp_col"))
  (.seq (.setF (g ++ "viewpoint_elev") (.var "vp_elev"))
  (.seq (.setF (g ++ "ew_res") (.var "ew_res"))
  (.seq (.setF (g ++ "ns_res") (.var "ns_res"))
  (.seq (.scope (gradBody g))
  (.seq (.stF1 "status_node" (.lit k) (.var (g ++ "ret0")))
  rest))))))))))

/-- `status_node[TN_KEY_ID], status_node[TN_GRAD_1] = _calc_dist_n_grad(status_row, status_col, elev, …)` -/
def distCall (d : String) (elevE : FE) (t1 t2 : String) (rest : St) : St :=
  (.seq (.setI (d ++ "status_node_row") (.var "status_row"))
  (.seq (.setI (d ++ "status_node_col") (.var "status_col"))
  (.seq (.setF (d ++ "elev") elevE)
  (.seq (.setI (d ++ "viewpoint_row") (.var "vp_row"))
  (.seq (.setI (d ++ "viewpoint_col") (.var "vp_col"))
  (.seq (.setF (d ++ "viewpoint_elev") (.var "vp_elev"))
  (.seq (.setF (d ++ "ew_res") (.var "ew_res"))
  (.seq (.setF (d ++ "ns_res") (.var "ns_res"))
  (.seq (.scope (distBody d))
  (.seq (.setF (t1 ++ "v") (.var (d ++ "ret0")))
  (.seq (.stF1 "status_node" (.lit 0) (.var (t1 ++ "v")))
  (.seq (.setF (t2 ++ "v") (.var (d ++ "ret1")))
  (.seq (.stF1 "status_node" (.lit 2) (.var (t2 ++ "v")))
  rest)))))))))))))

/-- `id = _pop(idle)` -/
def popCall (p : String) (rest : St) : St :=
  (.seq (.scope (.seq (.setI (p ++ "item") (.ld1 "idle" (.ld1 "idle" (.lit 0))))
    (.seq (.stI1 "idle" (.lit 0) (.bin .sub (.ld1 "idle" (.lit 0)) (.lit 1)))
    (.seq (.setI (p ++ "ret0") (.var (p ++ "item")))
    .ret))))
  (.seq (.setI "id" (.var (p ++ "ret0")))
  rest))

/-- `root = _insert_into_tree(status_values, status_struct, root, id, status_node)` with the inlined routine `ins` -/
def insCall (p : String) (ins : St) : St :=
  (.seq (.setI (p ++ "root") (.var "root"))
  (.seq (.setI (p ++ "node_id") (.var "id"))
  (.seq (.scope ins)
  (.setI "root" (.var (p ++ "ret0"))))))

/-- `_create_tree_nodes(tree_vals, tree_nodes, x, val, color)` with the dummy value array -/
def createNode (p dv : String) : St :=
  .scope
    (.seq (.stF2 "status_values" (.var (p ++ "x")) (.lit 0) (.ld1 dv (.lit 0)))
    (.seq (.stF2 "status_values" (.var (p ++ "x")) (.lit 1) (.ld1 dv (.lit 1)))
    (.seq (.stF2 "status_values" (.var (p ++ "x")) (.lit 2) (.ld1 dv (.lit 2)))
    (.seq (.stF2 "status_values" (.var (p ++ "x")) (.lit 3) (.ld1 dv (.lit 3)))
    (.seq (.stF2 "status_values" (.var (p ++ "x")) (.lit 4) (.ld1 dv (.lit 4)))
    (.seq (.stF2 "status_values" (.var (p ++ "x")) (.lit 5) (.ld1 dv (.lit 5)))
    (.seq (.stF2 "status_values" (.var (p ++ "x")) (.lit 6) (.ld1 dv (.lit 6)))
    (.seq (.stF2 "status_values" (.var (p ++ "x")) (.lit 7) (.lit (-10000000000000000000000) 1))
    (.seq (.stI2 "status_struct" (.var (p ++ "x")) (.lit 0) (.var (p ++ "color")))
    (.seq (.stI2 "status_struct" (.var (p ++ "x")) (.lit 1) (.lit (-1)))
    (.seq (.stI2 "status_struct" (.var (p ++ "x")) (.lit 2) (.lit (-1)))
    (.seq (.stI2 "status_struct" (.var (p ++ "x")) (.lit 3) (.lit (-1)))
    .ret))))))))))))

/-- the body of `_create_status_struct(status_values, status_struct)` -/
def createStruct : St :=
  let c := "_create_status_struct1$"
  let dv := "_create_status_struct1$dummy_node_value"
  (.seq (.allocF dv [(.lit 10)] (.lit 0 1))
  (.seq (.stF1 dv (.lit 0) (.lit 0 1))
  (.seq (.stF1 dv (.lit 1) (.ofInt (.lit (-1))))
  (.seq (.stF1 dv (.lit 2) (.ofInt (.lit (-1))))
  (.seq (.stF1 dv (.lit 3) (.lit (-10000000000000000000000) 1))
  (.seq (.stF1 dv (.lit 4) (.lit (-10000000000000000000000) 1))
  (.seq (.stF1 dv (.lit 5) (.lit (-10000000000000000000000) 1))
  (.seq (.stF1 dv (.lit 6) (.lit 0 1))
  (.seq (.stF1 dv (.lit 7) (.lit 0 1))
  (.seq (.stF1 dv (.lit 8) (.lit 0 1))
  (.seq (.stF1 dv (.lit 9) (.lit (-10000000000000000000000) 1))
  (.seq (.setI (c ++ "root") (.lit 0))
  (.seq (.setI (c ++ "_create_tree_nodes2$x") (.var (c ++ "root")))
  (.seq (.setI (c ++ "_create_tree_nodes2$color") (.lit 1))
  (.seq (createNode (c ++ "_create_tree_nodes2$") dv)
  (.seq (.setI (c ++ "_create_tree_nodes3$x") (.lit (-1)))
  (.seq (.setI (c ++ "_create_tree_nodes3$color") (.lit 1))
  (.seq (createNode (c ++ "_create_tree_nodes3$") dv)
  (.seq (.setI (c ++ "num_nodes") (.dim "status_values" 0))
  (.seq (.stI2 "status_struct" (.lit (-1)) (.lit 1) (.var (c ++ "num_nodes")))
  (.seq (.stI2 "status_struct" (.lit (-1)) (.lit 2) (.var (c ++ "num_nodes")))
  (.seq (.stI2 "status_struct" (.lit (-1)) (.lit 3) (.var (c ++ "num_nodes")))
  (.seq (.setI (c ++ "ret0") (.var (c ++ "root")))
  .ret)))))))))))))))))))))))

/-- everything before the initial fill: sizes, the two arrays of the status structure with the dummy root and the NIL row,
    the stack of idle rows, the node buffer -/
def sweepSetup : List St :=
  [.setI "n_rows" (.dim "raster" 0), .setI "n_cols" (.dim "raster" 1),
   .setI "num_nodes" (.bin .add (.bin .add (.bin .sub (.var "n_cols") (.var "vp_col")) (.bin .mul (.var "n_cols") (.var "n_rows"))) (.lit 10)),
   .allocF "status_values" [(.var "num_nodes"), (.lit 8)] (.lit 0 1),
   .allocI "status_struct" [(.var "num_nodes"), (.lit 4)] (.lit 0),
   .scope createStruct,
   .setI "root" (.var "_create_status_struct1$ret0"),
   .allocI "idle" [(.var "num_nodes")] (.lit 0),
   .forRange "i" (.lit 0) (.bin .sub (.var "num_nodes") (.lit 1)) (.lit 1) (.stI1 "idle" (.var "i") (.bin .sub (.var "num_nodes") (.var "i"))),
   .stI1 "idle" (.lit 0) (.bin .sub (.var "num_nodes") (.lit 2)),
   .allocF "status_node" [(.lit 7)] (.lit 0 1)]

/-- after the node of an initial cell is complete: the assertion on the centre bearing, the `- 2π` adjustment of the entering
    bearing, an idle row, the insertion -/
def fillTail (ins : St) : St :=
  (.seq (.ite (.cmpF .eq (.ld1 "status_node" (.lit 5)) (.ofInt (.lit 0))) .skip (.fail "AssertionError"))
  (.seq (.ite (.cmpF .gt (.ld1 "status_node" (.lit 4)) (.ld1 "status_node" (.lit 5)))
    (.stF1 "status_node" (.lit 4) (.bin .sub (.ld1 "status_node" (.lit 4)) (.bin .mul (.ofInt (.lit 2)) .pi)))
    .skip)
  (popCall "_pop14$"
  (insCall "_insert_into_tree15$" ins))))

/-- the node of the observer-row cell `(vp_row, i)`: three bearings, three gradients, the key -/
def fillNode (rest : St) : St :=
  (.seq (.setI "e_type" (.lit 1))
  (posCallI "_calc_event_pos5$" (.var "e_type") (.var "e_row") (.var "e_col")
  (angCall "_calculate_angle6$" 4
  (gradCall "_calc_event_grad7$" (.var "e_elev_0") 1
  (.seq (.setI "e_type" (.lit 0))
  (posCallI "_calc_event_pos8$" (.var "e_type") (.var "e_row") (.var "e_col")
  (angCall "_calculate_angle9$" 5
  (distCall "_calc_dist_n_grad10$" (.var "e_elev_1") "tup1$" "tup2$"
  (.seq (.setI "e_type" (.lit (-1)))
  (posCallI "_calc_event_pos11$" (.var "e_type") (.var "e_row") (.var "e_col")
  (angCall "_calculate_angle12$" 6
  (gradCall "_calc_event_grad13$" (.var "e_elev_2") 3
  rest))))))))))))

def fillCore (ins : St) : St := fillNode (fillTail ins)

def fillBody (ins : St) : St :=
  (.seq initNode
  (.seq (.setI "status_row" (.var "vp_row"))
  (.seq (.setI "status_col" (.var "i"))
  (.seq (.setI "e_row" (.var "vp_row"))
  (.seq (.setI "e_col" (.var "i"))
  (.seq (.setF "e_elev_0" (.ld2 "data" (.lit 0) (.var "i")))
  (.seq (.setF "e_elev_1" (.ld2 "data" (.lit 1) (.var "i")))
  (.seq (.setF "e_elev_2" (.ld2 "data" (.lit 2) (.var "i")))
  (.ite (.not (.isnan (.ld2 "data" (.lit 1) (.var "i")))) (fillCore ins) .skip)))))))))

def fillLoop (ins : St) : St := .forRange "i" (.bin .add (.var "vp_col") (.lit 1)) (.var "n_cols") (.lit 1) (fillBody ins)

def rct (k : Int) : IE := .ld2 "event_rcts" (.var "row$e_rct") (.lit k)
def ae (k : Int) : FE := .ld2 "event_aes" (.var "row$e_ae") (.lit k)

/-- after the node of an entering cell is complete: the bearing adjustments across the east ray, an idle row, the insertion -/
def enterTail (ins : St) : St :=
  (.seq (.ite (.cmpF .lt (ae 0) .pi)
    (.ite (.cmpF .gt (.ld1 "status_node" (.lit 4)) (.ld1 "status_node" (.lit 5)))
      (.stF1 "status_node" (.lit 4) (.bin .sub (.ld1 "status_node" (.lit 4)) (.bin .mul (.ofInt (.lit 2)) .pi)))
      .skip)
    (.ite (.cmpF .gt (.ld1 "status_node" (.lit 4)) (.ld1 "status_node" (.lit 5)))
      (.seq (.stF1 "status_node" (.lit 5) (.bin .add (.ld1 "status_node" (.lit 5)) (.bin .mul (.ofInt (.lit 2)) .pi)))
      (.stF1 "status_node" (.lit 6) (.bin .add (.ld1 "status_node" (.lit 6)) (.bin .mul (.ofInt (.lit 2)) .pi))))
      .skip))
  (popCall "_pop44$"
  (insCall "_insert_into_tree45$" ins)))

/-- ENTER: build the node of the cell from the event record (entering bearing as stored, the others recomputed) -/
def enterNode (rest : St) : St :=
  (posCallI "_calc_event_pos36$" (rct 2) (rct 0) (rct 1)
  (.seq (.stF1 "status_node" (.lit 4) (ae 0))
  (gradCall "_calc_event_grad37$" (ae 1) 1
  (.seq (.stI2 "event_rcts" (.var "row$e_rct") (.lit 2) (.lit 0))
  (posCallI "_calc_event_pos38$" (rct 2) (rct 0) (rct 1)
  (angCall "_calculate_angle39$" 5
  (distCall "_calc_dist_n_grad40$" (ae 2) "tup5$" "tup6$"
  (.seq (.stI2 "event_rcts" (.var "row$e_rct") (.lit 2) (.lit (-1)))
  (posCallI "_calc_event_pos41$" (rct 2) (rct 0) (rct 1)
  (angCall "_calculate_angle42$" 6
  (gradCall "_calc_event_grad43$" (ae 3) 3
  (.seq (.stI2 "event_rcts" (.var "row$e_rct") (.lit 2) (.lit 1))
  rest))))))))))))

def enterBranch (ins : St) : St := enterNode (enterTail ins)

/-- EXIT: delete the cell's node, push its row onto the idle stack -/
def exitBranch (del : St) : St :=
  (.seq (.setI "_delete_from_tree64$root" (.var "root"))
  (.seq (.setF "_delete_from_tree64$key" (.ld1 "status_node" (.lit 0)))
  (.seq (.scope del)
  (.seq (.setI "root" (.var "_delete_from_tree64$ret0"))
  (.seq (.setI "deleted" (.var "_delete_from_tree64$ret1"))
  (.seq (.setI "_push100$item" (.var "deleted"))
  (.scope (.seq (.stI1 "idle" (.lit 0) (.bin .add (.ld1 "idle" (.lit 0)) (.lit 1)))
    (.seq (.stI1 "idle" (.ld1 "idle" (.lit 0)) (.var "_push100$item"))
    .ret)))))))))

/-- the visibility write: `vert_ang = _get_vertical_ang(…); _set_visibility(visibility_grid, status_row, status_col, vert_ang)` -/
def visWrite : St :=
  (.seq (.setF "_get_vertical_ang108$viewpoint_elev" (.var "vp_elev"))
  (.seq (.setF "_get_vertical_ang108$distance_to_viewpoint" (.ld1 "status_node" (.lit 0)))
  (.seq (.setF "_get_vertical_ang108$elev" (.bin .add (ae 2) (.var "vp_target")))
  (.seq (.scope (vangBody "_get_vertical_ang108$"))
  (.seq (.setF "vert_ang" (.var "_get_vertical_ang108$ret0"))
  (.seq (.setI "_set_visibility109$i" (.var "status_row"))
  (.seq (.setI "_set_visibility109$j" (.var "status_col"))
  (.seq (.setF "_set_visibility109$value" (.var "vert_ang"))
  (.seq (.scope (.seq (.stF2 "visibility_grid" (.var "_set_visibility109$i") (.var "_set_visibility109$j") (.var "_set_visibility109$value"))
    .ret))
  (.ite (.cmpF .ge (.var "vert_ang") (.ofInt (.lit 0))) .skip (.fail "AssertionError")))))))))))

/-- CENTER: query the status structure; the cell is visible iff `max <= status_node[TN_GRAD_1]` -/
def centerBranch (qry : St) : St :=
  (.seq (.setI "_max_grad_in_status_struct101$root" (.var "root"))
  (.seq (.setF "_max_grad_in_status_struct101$distance" (.ld1 "status_node" (.lit 0)))
  (.seq (.setF "_max_grad_in_status_struct101$angle" (ae 0))
  (.seq (.setF "_max_grad_in_status_struct101$gradient" (.ld1 "status_node" (.lit 2)))
  (.seq (.scope qry)
  (.seq (.setF "max" (.var "_max_grad_in_status_struct101$ret0"))
  (.ite (.cmpF .le (.var "max") (.ld1 "status_node" (.lit 2))) visWrite .skip)))))))

/-- what every event starts with: the node buffer reset, the cell, its key and centre gradient (target height added) -/
def evPrefix (rest : St) : St :=
  (.seq (.setI "row$e_rct" (.var "i"))
  (.seq (.setI "row$e_ae" (.var "i"))
  (.seq initNode
  (.seq (.setI "status_row" (rct 0))
  (.seq (.setI "status_col" (rct 1))
  (distCall "_calc_dist_n_grad35$" (.bin .add (ae 2) (.var "vp_target")) "tup3$" "tup4$"
  (.seq (.setI "etype" (rct 2))
  rest)))))))

def evBody (ins del qry : St) : St :=
  evPrefix
    (.ite (.cmpI .eq (.var "etype") (.lit 1)) (enterBranch ins)
    (.ite (.cmpI .eq (.var "etype") (.lit (-1))) (exitBranch del)
    (.ite (.cmpI .eq (.var "etype") (.lit 0)) (centerBranch qry)
    .skip)))

def evLoop (ins del qry : St) : St := .forRange "i" (.lit 0) (.var "nevents") (.lit 1) (evBody ins del qry)

def sweepBody (ins1 ins2 del qry : St) : St :=
  ILVs.seqK sweepSetup
    (.seq (fillLoop ins1)
    (.seq (.setI "nevents" (.dim "event_rcts" 0))
    (.seq (evLoop ins2 del qry)
    .ret)))

set_option maxRecDepth 20000 in
/-- **the generated `_viewshed_cpu_sweep` is this template around its four inlined status-tree routines** -/
theorem vsSweep_is_template : Gen.IL.vsSweep.body = sweepBody insFill insLoop delLoop qryLoop := by rfl

end XrsVerif.ILSw
