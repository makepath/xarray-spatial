import XrsVerif.Proofs.ILAStarSearch
/-
  Proofs/ILAStarIter.lean -- one iteration of the main `while num_open > 0` loop of the generated `_a_star_search`
  (`whileBody`): pop the open cell of minimum cost, goal test, neighbour loop, recount.
-/
namespace XrsVerif.IL
open XrsVerif XrsVerif.AStar
attribute [-simp] List.getD_eq_getElem?_getD
variable {F : Type} [Fl F]
set_option linter.unusedSectionVars false

theorem minCostOpen_inside {e : Env F} {st : AStar.St F} {u : Cell} (h : minCostOpen e st = some u) :
    inside e.h e.w u = true :=
  (minCostOpen_some h).1

/-- `np.sum(is_open)` -/
def sumI (l : List Int) : Int := l.foldl (· + ·) 0

/-- invariant of the main loop, at the loop test: constants, abstraction of `mst`, `num_open` counted -/
structure LoopInv (e : Env F) (s : State F) (mst : AStar.St F) : Prop where
  run : s.ctl = .run
  const : SrchConst e s
  abs : SrchAbs e s mst
  num : s.ienv "num_open" = sumI (s.ia "is_open")

/-- the pop: `py, px = _min_cost_pixel_id(cost, is_open); is_open[py][px] = 0; is_closed[py][px] = True` -/
theorem pop_exec (e : Env F) (mst : AStar.St F) (s : State F) (hs : s.ctl = .run) (hc : SrchConst e s)
    (ha : SrchAbs e s mst) (u : Cell) (hmin : minCostOpen e mst = some u) (fuel : Nat) :
    ∃ s2 : State F, exec fuel whileBody s = exec fuel wbGoal s2 ∧ s2.ctl = .run ∧ IterInv e u s2 (close mst u) ∧
      s2.fa = s.fa ∧ s2.ia "parent_ys" = s.ia "parent_ys" ∧ s2.ia "parent_xs" = s.ia "parent_xs" := by
  have hu := minCostOpen_inside hmin
  obtain ⟨ru1, ru2, hou⟩ := cell_access hu
  have hm := mc_scope q4 q4_ren e mst s hs (ha.mcAbs hc) fuel
  rw [hmin] at hm
  generalize hr1eq : exec fuel (.scope (mcSt q4)) s = r1 at hm
  obtain ⟨hr1, hfr, hret⟩ := hm
  have e0 : q4 "ret0" = "_min_cost_pixel_id4$ret0" := by decide
  have e1 : q4 "ret1" = "_min_cost_pixel_id4$ret1" := by decide
  rw [e0, e1] at hret
  have hr0 : r1.ienv "_min_cost_pixel_id4$ret0" = u.1 := congrArg Prod.fst hret
  have hr1' : r1.ienv "_min_cost_pixel_id4$ret1" = u.2 := congrArg Prod.snd hret
  let s2 : State F :=
    { r1 with
      ienv := setS (setS r1.ienv "py" u.1) "px" u.2,
      ia := setS (setS r1.ia "is_open" ((r1.ia "is_open").set (cidx e.w u) 0)) "is_closed"
        ((r1.ia "is_closed").set (cidx e.w u) 1) }
  have h2 : exec fuel wbPop r1 = exec fuel wbGoal s2 := by
    simp [il, wbPop, s2, hr1, hr0, hr1', hfr.shp, hc.s_open, hc.s_closed, ru1, ru2, hou]
  refine ⟨s2, ?_, hr1, ⟨?_, ?_, ?_, ?_⟩, hfr.fa, ?_, ?_⟩
  · rw [whileBody, exec_seq_eq _ _ _ _ _ hr1eq hr1, h2]
  · exact hc.of_frame (r := s2) hfr.shp (by simp [s2, hfr.fa]) (by simp [s2, hfr.fa])
      (by simp [s2, setS_apply, hfr.ia]) (by simp [s2, setS_apply, hfr.ia])
      (by simp [s2, setS_apply, hfr.ienv "height" (by decide)])
      (by simp [s2, setS_apply, hfr.ienv "width" (by decide)])
      (by simp [s2, setS_apply, hfr.ienv "goal_py" (by decide)])
      (by simp [s2, setS_apply, hfr.ienv "goal_px" (by decide)])
      (by simp [s2, setS_apply, hfr.ienv "start_py" (by decide)])
      (by simp [s2, setS_apply, hfr.ienv "start_px" (by decide)])
  · exact ha.closed (r := s2) u hu (by simp [s2, setS_apply, hfr.ia]) (by simp [s2, hfr.ia])
      (by simp [s2, setS_apply, hfr.ia]) (by simp [s2, setS_apply, hfr.ia]) (by simp [s2, hfr.fa])
      (by simp [s2, hfr.fa])
  · simp [s2, setS_apply]
  · simp [s2]
  · simp [s2, setS_apply, hfr.ia]
  · simp [s2, setS_apply, hfr.ia]

/-- **one iteration of the main loop is the model's step** (`minCostOpen` returns a cell other than the goal):
    a program state representing `mst` is turned into one that satisfies the loop invariant for `expand e mst u`
    (`num_open` is recounted); `path_img` is not touched -/
theorem iter_expand (e : Env F) (mst : AStar.St F) (s : State F) (hs : s.ctl = .run) (hc : SrchConst e s)
    (ha : SrchAbs e s mst) (u : Cell) (hmin : minCostOpen e mst = some u) (hne : u ≠ e.goal) (fuel : Nat) :
    LoopInv e (exec fuel whileBody s) (expand e mst u) ∧
      (exec fuel whileBody s).fa "path_img" = s.fa "path_img" := by
  have hu := minCostOpen_inside hmin
  obtain ⟨s2, h2, hs2, hinv2, hfa2, -, -⟩ := pop_exec e mst s hs hc ha u hmin fuel
  have hg : exec fuel goalSt s2 = s2 := by
    have : ¬ (u.1 = e.goal.1 ∧ u.2 = e.goal.2) := fun h => hne (Prod.ext h.1 h.2)
    by_cases h1 : u.1 = e.goal.1
    · have h2 : ¬ u.2 = e.goal.2 := fun h => this ⟨h1, h⟩
      simp [il, goalSt, hinv2.py, hinv2.px, hinv2.const.gy, hinv2.const.gx, h1, h2]
    · simp [il, goalSt, hinv2.py, hinv2.px, hinv2.const.gy, hinv2.const.gx, h1]
  have hl := rx_loop e u hu (close mst u) s2 hs2 hinv2 fuel
  rw [h2, wbGoal, exec_seq_eq _ _ _ _ _ hg hs2, wbTail, exec_seq_eq _ _ _ _ _ rfl hl.1]
  generalize exec fuel rxLoop s2 = r3 at hl
  obtain ⟨hr3, hinv3, hp3⟩ := hl
  rw [exec_setI_eq _ _ _ _ (sumI (r3.ia "is_open")) rfl rfl]
  have hinv4 := hinv3.of_mods (ILVs.mods_setI ["num_open"] [] [] [] [] [] r3 "num_open" (sumI (r3.ia "is_open"))
    List.mem_cons_self) (by decide) (by simp) (by simp) (hinv3.abs.of_eq rfl rfl)
  exact ⟨⟨hr3, hinv4.const, hinv4.abs, setS_same r3.ienv "num_open" _⟩, by rw [← hfa2, ← hp3]⟩

/-- **the iteration that pops the goal**: the function returns after `_reconstruct_path` has written
    `d_from_start[c]` into `path_img[c]` for exactly the cells of the model's parent walk from the goal to the start
    (hypotheses: the walk succeeds within some fuel and stays in the raster, the goal has a parent -- both are
    consequences of the search invariant, `AStar.search_spec`) -/
theorem iter_goal (e : Env F) (mst : AStar.St F) (s : State F) (hs : s.ctl = .run) (hc : SrchConst e s)
    (ha : SrchAbs e s mst) (hmin : minCostOpen e mst = some e.goal) (fuel : Nat) (n : Nat) (chain : List Cell)
    (hw : walk mst.parent e.start n e.goal = some chain) (hin : ∀ c ∈ chain, inside e.h e.w c = true)
    (hfuel : chain.length ≤ fuel) :
    (exec fuel whileBody s).ctl = .ret ∧
      (exec fuel whileBody s).fa "path_img" =
        chainW (s.fa "d_from_start") e.w (e.start :: chain.dropLast) (s.fa "path_img") := by
  have hu := minCostOpen_inside hmin
  have hpar : mst.parent e.goal ≠ none := by
    by_cases hgs : e.goal = e.start
    · rw [hgs, ha.parent _ hc.start_in]; exact ha.pstart
    · cases n with
      | zero => simp [walk] at hw
      | succ n =>
        simp only [walk, hgs, if_false] at hw
        intro hnone
        simp [hnone] at hw
  obtain ⟨s2, h2, hs2, hinv2, hfa2, hpy2, hpx2⟩ := pop_exec e mst s hs hc ha e.goal hmin fuel
  have hc2 := hinv2.const
  let s3 : State F :=
    { s2 with
      ienv := setS (setS (setS (setS s2.ienv "_reconstruct_path5$start_py" e.start.1)
                "_reconstruct_path5$start_px" e.start.2) "_reconstruct_path5$goal_py" e.goal.1)
                "_reconstruct_path5$goal_px" e.goal.2,
      ctl := .run }
  have hpo : ∀ c, inside e.h e.w c = true →
      mst.parent c = parentOf (s3.ia "parent_ys") (s3.ia "parent_xs") e.w c := by
    intro c hc'
    rw [ha.parent c hc']
    show _ = parentOf (s2.ia "parent_ys") (s2.ia "parent_xs") e.w c
    rw [hpy2, hpx2]
  have e1 : q5 "start_py" = "_reconstruct_path5$start_py" := by decide
  have e2 : q5 "start_px" = "_reconstruct_path5$start_px" := by decide
  have e3 : q5 "goal_py" = "_reconstruct_path5$goal_py" := by decide
  have e4 : q5 "goal_px" = "_reconstruct_path5$goal_px" := by decide
  have hrc := rc_exec_some q5 q5_ren "d_from_start" e.h e.w s3 fuel rfl
    ⟨hc2.s_path, hc2.s_py, hc2.s_px, hc2.s_g, by decide⟩ e.start e.goal
    ⟨by rw [e1]; simp [s3, setS_apply], by rw [e2]; simp [s3, setS_apply], by rw [e3]; simp [s3, setS_apply],
     by rw [e4]; simp [s3]⟩
    (by rw [← hpo _ hu]; exact hpar) n chain
    (walk_congr hw fun c hc => (hpo c (hin c hc)).symm) hin hfuel
  have hg : exec fuel goalSt s2 = { exec fuel (rcSt q5 "d_from_start") s3 with ctl := .ret } := by
    have hr1 := hrc.1
    simp [il, goalSt, s3, hinv2.py, hinv2.px, hc2.gy, hc2.gx, hc2.sy, hc2.sx, hs2]
    simp only [s3] at hr1
    simp [hr1]
  rw [h2, wbGoal, exec_seq, hg]
  refine ⟨rfl, ?_⟩
  show (exec fuel (rcSt q5 "d_from_start") s3).fa "path_img" = _
  rw [hrc.2]
  simp [s3, hfa2]

end XrsVerif.IL
