import XrsVerif.Proofs.ILVsSweepDefs
import XrsVerif.Proofs.ILViewshedBase
import Mathlib.Tactic.Positivity
/-
  The set-up of the generated `_viewshed_cpu_sweep` (`sweepSetup`): the sizes, the two arrays
  of the status structure with the dummy root in row 0 and the NIL row last (`_create_status_struct`, `createStruct_exec`),
  the stack of idle rows (`idleInit`), the node buffer: `sweepSetup_exec`.  The two arrays then hold the hand model's initial
  status tree (`setup_tree`: the dummy root alone, in terms of the abstraction `Linked` / `absT` of Proofs/ILViewshedBase.lean).
-/
namespace XrsVerif.ILSw
open XrsVerif XrsVerif.IL
variable {F : Type} [Fl F]

/-- `SMALLEST_GRAD` -/
def smallF : F := Fl.lit (-10000000000000000000000) 1

/-- row `r` of the value array after `_create_tree_nodes(…, x, val, color)`: the first seven entries of `val`, then `SMALLEST_GRAD` -/
def nodeRowV (sv : List F) (r : Nat) (dv : List F) : List F :=
  (((((((sv.set (r * 8 + 0) (dv.getD 0 Fl.nan)).set (r * 8 + 1) (dv.getD 1 Fl.nan)).set (r * 8 + 2) (dv.getD 2 Fl.nan)).set
    (r * 8 + 3) (dv.getD 3 Fl.nan)).set (r * 8 + 4) (dv.getD 4 Fl.nan)).set (r * 8 + 5) (dv.getD 5 Fl.nan)).set
    (r * 8 + 6) (dv.getD 6 Fl.nan)).set (r * 8 + 7) smallF

/-- row `r` of the link array after `_create_tree_nodes`: the colour, then three NIL links -/
def nodeRowS (ss : List Int) (r : Nat) (c : Int) : List Int :=
  (((ss.set (r * 4 + 0) c).set (r * 4 + 1) (-1)).set (r * 4 + 2) (-1)).set (r * 4 + 3) (-1)

theorem createNode_exec (p dv : String) (s : State F) (fuel N : Nat) (x : Int) (hs : s.ctl = .run)
    (shV : s.shp "status_values" = [N, 8]) (shS : s.shp "status_struct" = [N, 4]) (shD : s.shp dv = [10])
    (hdv : dv ≠ "status_values") (hx : s.ienv (p ++ "x") = x) (hxr : -1 ≤ x ∧ x < N) (hN : 0 < N) :
    exec fuel (createNode p dv) s =
      { s with fa := setS s.fa "status_values" (nodeRowV (s.fa "status_values") (ILVs.rowOf N x) (s.fa dv)),
               ia := setS s.ia "status_struct" (nodeRowS (s.ia "status_struct") (ILVs.rowOf N x) (s.ienv (p ++ "color"))) } := by
  obtain ⟨ie, fe, be, ia, fa, shp, ext, ctl⟩ := s
  simp only at hs shV shS shD hx; subst hs
  have hin : inRange x N = true := ILVs.inRange_ptr N x hxr hN
  have o0 := ILVs.off2_ptr N 8 x 0
  have o1 := ILVs.off2_ptr N 8 x 1
  have o2 := ILVs.off2_ptr N 8 x 2
  have o3 := ILVs.off2_ptr N 8 x 3
  have o4 := ILVs.off2_ptr N 8 x 4
  have o5 := ILVs.off2_ptr N 8 x 5
  have o6 := ILVs.off2_ptr N 8 x 6
  have o7 := ILVs.off2_ptr N 8 x 7
  have q0 := ILVs.off2_ptr N 4 x 0
  have q1 := ILVs.off2_ptr N 4 x 1
  have q2 := ILVs.off2_ptr N 4 x 2
  have q3 := ILVs.off2_ptr N 4 x 3
  simp only [Nat.cast_ofNat, Nat.cast_zero, Nat.cast_one] at o0 o1 o2 o3 o4 o5 o6 o7 q0 q1 q2 q3
  have i8 : ∀ k : Nat, k < 8 → inRange (k : Int) 8 = true := fun k hk => inRange_of_lt k 8 hk
  have i4 : ∀ k : Nat, k < 4 → inRange (k : Int) 4 = true := fun k hk => inRange_of_lt k 4 hk
  have i10 : ∀ k : Nat, k < 10 → inRange (k : Int) 10 = true := fun k hk => inRange_of_lt k 10 hk
  have a0 := i8 0 (by omega); have a1 := i8 1 (by omega); have a2 := i8 2 (by omega); have a3 := i8 3 (by omega)
  have a4 := i8 4 (by omega); have a5 := i8 5 (by omega); have a6 := i8 6 (by omega); have a7 := i8 7 (by omega)
  have b0 := i4 0 (by omega); have b1 := i4 1 (by omega); have b2 := i4 2 (by omega); have b3 := i4 3 (by omega)
  have c0 := i10 0 (by omega); have c1 := i10 1 (by omega); have c2 := i10 2 (by omega); have c3 := i10 3 (by omega)
  have c4 := i10 4 (by omega); have c5 := i10 5 (by omega); have c6 := i10 6 (by omega)
  have d0 := off1_nat 10 0; have d1 := off1_nat 10 1; have d2 := off1_nat 10 2; have d3 := off1_nat 10 3
  have d4 := off1_nat 10 4; have d5 := off1_nat 10 5; have d6 := off1_nat 10 6
  simp only [Nat.cast_ofNat, Nat.cast_zero, Nat.cast_one] at a0 a1 a2 a3 a4 a5 a6 a7 b0 b1 b2 b3 c0 c1 c2 c3 c4 c5 c6 d0 d1 d2 d3 d4 d5 d6
  simp [createNode, exec, IE.ok, IE.eval, FE.ok, FE.eval, shV, shS, shD, hx, hin, setS_apply, setS_setS, hdv,
    o0, o1, o2, o3, o4, o5, o6, o7, q0, q1, q2, q3, a0, a1, a2, a3, a4, a5, a6, a7, b0, b1, b2, b3, c0, c1, c2, c3, c4, c5, c6,
    d0, d1, d2, d3, d4, d5, d6, nodeRowV, nodeRowS, smallF]

/-- the dummy value array `[0, -1, -1, S, S, S, 0, 0, 0, S]` of `_create_status_struct` -/
def dummyVals : List F :=
  [Fl.lit 0 1, Fl.lit (-1) 1, Fl.lit (-1) 1, smallF, smallF, smallF, Fl.lit 0 1, Fl.lit 0 1, Fl.lit 0 1, smallF]

/-- the value array after `_create_status_struct`: the dummy root in row 0, the NIL row last -/
def svInit (N : Nat) : List F := nodeRowV (nodeRowV (List.replicate (N * 8) (Fl.lit 0 1)) 0 dummyVals) (N - 1) dummyVals

/-- the link array after `_create_status_struct`: both rows black with NIL links; the NIL row's links then set to `num_nodes` -/
def ssInit (N : Nat) : List Int :=
  (((nodeRowS (nodeRowS (List.replicate (N * 4) 0) 0 1) (N - 1) 1).set ((N - 1) * 4 + 1) (N : Int)).set ((N - 1) * 4 + 2) (N : Int)).set
    ((N - 1) * 4 + 3) (N : Int)

/-- the first statements of `_create_status_struct`: the dummy value array -/
def dvInit : List St :=
  let dv := "_create_status_struct1$dummy_node_value"
  [.allocF dv [(.lit 10)] (.lit 0 1), .stF1 dv (.lit 0) (.lit 0 1), .stF1 dv (.lit 1) (.ofInt (.lit (-1))),
   .stF1 dv (.lit 2) (.ofInt (.lit (-1))), .stF1 dv (.lit 3) (.lit (-10000000000000000000000) 1),
   .stF1 dv (.lit 4) (.lit (-10000000000000000000000) 1), .stF1 dv (.lit 5) (.lit (-10000000000000000000000) 1),
   .stF1 dv (.lit 6) (.lit 0 1), .stF1 dv (.lit 7) (.lit 0 1), .stF1 dv (.lit 8) (.lit 0 1),
   .stF1 dv (.lit 9) (.lit (-10000000000000000000000) 1)]

theorem dvInit_exec (s : State F) (fuel : Nat) (hs : s.ctl = .run) :
    exec fuel (ILVs.seqL dvInit) s =
      { s with fa := setS s.fa "_create_status_struct1$dummy_node_value" dummyVals,
               shp := setS s.shp "_create_status_struct1$dummy_node_value" [10] } := by
  obtain ⟨ie, fe, be, ia, fa, shp, ext, ctl⟩ := s
  simp only at hs; subst hs
  simp [dvInit, ILVs.seqL, exec, IE.ok, IE.eval, FE.ok, FE.eval, setS_setS, inRange, normIdx, off1, dummyVals, smallF,
    List.replicate]

/-- the rest of `_create_status_struct`: the root row, the NIL row, the NIL row's links -/
def csRest : St :=
  let c := "_create_status_struct1$"
  let dv := "_create_status_struct1$dummy_node_value"
  (.seq (.setI (c ++ "root") (.lit 0))
  (.seq (.setI (c ++ "_create_tree_nodes2$x") (.var (c ++ "root")))
  (.seq (.setI (c ++ "_create_tree_nodes2$color") (.lit 1))
  (.seq (createNode (c ++ "_create_tree_nodes2$") dv)
  (.seq (.setI (c ++ "_create_tree_nodes3$x") (.lit (-1)))
  (.seq (.setI (c ++ "_create_tree_nodes3$color") (.lit 1))
  (.seq (createNode (c ++ "_create_tree_nodes3$") dv)
  (.seq (.setI (c ++ "num_nodes") (.dim "status_values" 0))
  (.seq (.stI2 "status_struct" (.lit (-1)) (.lit 1) (.var (c ++ "num_nodes")))
  (.seq (.stI2 "status_struct" (.lit (-1)) (.lit 2) (.var (c ++ "num_nodes")))
  (.seq (.stI2 "status_struct" (.lit (-1)) (.lit 3) (.var (c ++ "num_nodes")))
  (.seq (.setI (c ++ "ret0") (.var (c ++ "root")))
  .ret))))))))))))

theorem createStruct_split : createStruct = ILVs.seqK dvInit csRest := rfl

/-- the scalars `_create_status_struct` assigns -/
def csLocals : List String :=
  ["_create_status_struct1$root", "_create_status_struct1$_create_tree_nodes2$x", "_create_status_struct1$_create_tree_nodes2$color",
   "_create_status_struct1$_create_tree_nodes3$x", "_create_status_struct1$_create_tree_nodes3$color",
   "_create_status_struct1$num_nodes", "_create_status_struct1$ret0"]

theorem createStruct_exec (s : State F) (fuel N : Nat) (hs : s.ctl = .run)
    (shV : s.shp "status_values" = [N, 8]) (shS : s.shp "status_struct" = [N, 4])
    (hV : s.fa "status_values" = List.replicate (N * 8) (Fl.lit 0 1)) (hS : s.ia "status_struct" = List.replicate (N * 4) 0)
    (hN : 2 ≤ N) :
    ∃ ie fa' ia' shp', exec fuel (.scope createStruct) s = { s with ienv := ie, fa := fa', ia := ia', shp := shp', ctl := .run } ∧
      ie "_create_status_struct1$ret0" = 0 ∧ (∀ v, v ∉ csLocals → ie v = s.ienv v) ∧
      fa' "status_values" = svInit N ∧
      (∀ a, a ≠ "status_values" → a ≠ "_create_status_struct1$dummy_node_value" → fa' a = s.fa a) ∧
      ia' "status_struct" = ssInit N ∧ (∀ a, a ≠ "status_struct" → ia' a = s.ia a) ∧
      (∀ a, a ≠ "_create_status_struct1$dummy_node_value" → shp' a = s.shp a) := by
  obtain ⟨ie, fe, be, ia, fa, shp, ext, ctl⟩ := s
  simp only at hs shV shS hV hS; subst hs
  have hN0 : 0 < N := by omega
  have hbody : exec fuel createStruct ⟨ie, fe, be, ia, fa, shp, ext, .run⟩ =
      exec fuel csRest ⟨ie, fe, be, ia, setS fa "_create_status_struct1$dummy_node_value" dummyVals,
        setS shp "_create_status_struct1$dummy_node_value" [10], ext, .run⟩ := by
    rw [createStruct_split, ILVs.exec_seqK_ne _ _ _ _ (by simp [dvInit]), exec_seq_eq _ _ _ _ _ (dvInit_exec _ fuel rfl) rfl]
  have hQ : Post fuel csRest (⟨ie, fe, be, ia, setS fa "_create_status_struct1$dummy_node_value" dummyVals,
        setS shp "_create_status_struct1$dummy_node_value" [10], ext, .run⟩ : State F)
      (fun r => r.ctl = .ret ∧ r.fenv = fe ∧ r.benv = be ∧ r.ext = ext ∧
        r.ienv "_create_status_struct1$ret0" = 0 ∧ (∀ v, v ∉ csLocals → r.ienv v = ie v) ∧
        r.fa "status_values" = svInit N ∧
        (∀ a, a ≠ "status_values" → a ≠ "_create_status_struct1$dummy_node_value" → r.fa a = fa a) ∧
        r.ia "status_struct" = ssInit N ∧ (∀ a, a ≠ "status_struct" → r.ia a = ia a) ∧
        (∀ a, a ≠ "_create_status_struct1$dummy_node_value" → r.shp a = shp a)) := by
    simp only [csRest]
    refine Post.seq_eq _ (exec_setI_lit _ _ _ _) rfl ?_
    dsimp only
    refine Post.seq_eq _ (exec_setI _ _ _ _ (by simp [IE.ok])) rfl ?_
    simp only [IE.eval, setS_same]
    refine Post.seq_eq _ (exec_setI_lit _ _ _ _) rfl ?_
    dsimp only
    refine Post.seq_eq _ (createNode_exec _ _ _ fuel N 0 rfl (by simpa [setS_apply] using shV) (by simpa [setS_apply] using shS)
      (by simp) (by simp) (by simp [setS_apply]) (by omega) hN0) rfl ?_
    simp [setS_apply, hV, hS, show ILVs.rowOf N 0 = 0 from ILVs.rowOf_nat N 0]
    refine Post.seq_eq _ (exec_setI_lit _ _ _ _) rfl ?_
    dsimp only
    refine Post.seq_eq _ (exec_setI_lit _ _ _ _) rfl ?_
    dsimp only
    refine Post.seq_eq _ (createNode_exec _ _ _ fuel N (-1) rfl (by simpa [setS_apply] using shV) (by simpa [setS_apply] using shS)
      (by simp) (by simp) (by simp [setS_apply]) (by omega) hN0) rfl ?_
    simp [setS_apply, ILVs.rowOf_neg_one, setS_setS]
    have g1 : (0 : Int) ≤ -1 + (N : Int) := by omega
    have g2 : -1 + (N : Int) < N := by omega
    have g3 : (-1 + (N : Int)).toNat = N - 1 := by omega
    unfold Post
    simp [exec, IE.ok, IE.eval, shV, shS, setS_apply, inRange, normIdx, off2, g1, g2, g3, svInit, ssInit, setS_setS]
    refine ⟨?_, ?_, ?_, ?_⟩
    · intro v hv
      simp [csLocals] at hv
      simp [hv]
    · intro a h1 h2; simp [h1, h2]
    · intro a h1; simp [h1]
    · intro a h1; simp [h1]
  unfold Post at hQ
  obtain ⟨q1, q2, q3, q4, q5, q6, q7, q8, q9, q10, q11⟩ := hQ
  rw [exec_scope, hbody]
  generalize exec fuel csRest (⟨ie, fe, be, ia, setS fa "_create_status_struct1$dummy_node_value" dummyVals,
    setS shp "_create_status_struct1$dummy_node_value" [10], ext, .run⟩ : State F) = r at *
  refine ⟨r.ienv, r.fa, r.ia, r.shp, ?_, q5, q6, q7, q8, q9, q10, q11⟩
  simp only [q1, if_true]
  obtain ⟨a, b, c, d, e, f, g, h⟩ := r
  simp only at q2 q3 q4
  subst q2 q3 q4
  rfl

def fillK (l : List Int) (f : Nat → Int) (k : Nat) : List Int := (List.range k).foldl (fun acc c => acc.set c (f c)) l

theorem fillK_eq_setRowK (l : List Int) (f : Nat → Int) (k : Nat) : fillK l f k = setRowK l 1 0 f k := by
  simp [fillK, setRowK]

theorem fillK_succ (l : List Int) (f : Nat → Int) (k : Nat) : fillK l f (k + 1) = (fillK l f k).set k (f k) := by
  simp [fillK_eq_setRowK, setRowK_succ]

@[simp] theorem length_fillK (l : List Int) (f : Nat → Int) (k : Nat) : (fillK l f k).length = l.length := by
  rw [fillK_eq_setRowK, length_setRowK]

theorem getD_fillK (l : List Int) (f : Nat → Int) (k idx : Nat) (d : Int) :
    (fillK l f k).getD idx d = if idx < k ∧ idx < l.length then f idx else l.getD idx d := by
  rw [fillK_eq_setRowK, getD_setRowK]; simp

/-- `for kv in range(C): a[kv] = val` on a 1-D integer array -/
theorem forRange_fillK (a kv : String) (hiE val : IE) (s : State F) (fuel L C : Nat) (f : Nat → Int)
    (hs : s.ctl = .run) (hshp : s.shp a = [L]) (hCL : C ≤ L) (hC : 0 < C)
    (hhi : hiE.ok s = true ∧ hiE.eval s = (C : Int))
    (hst : ∀ (k : Nat) (l : List Int), k < C →
      val.ok { s with ienv := setS s.ienv kv (k : Int), ia := setS s.ia a l } = true ∧
      val.eval { s with ienv := setS s.ienv kv (k : Int), ia := setS s.ia a l } = f k) :
    exec fuel (.forRange kv (.lit 0) hiE (.lit 1) (.stI1 a (.var kv) val)) s =
      { s with ienv := setS s.ienv kv ((C - 1 : Nat) : Int), ia := setS s.ia a (fillK (s.ia a) f C) } := by
  obtain ⟨ie, fe, be, ia, fa, shp, ext, ctl⟩ := s
  simp only at hs hshp hhi hst
  subst hs
  have h := forRange_up kv hiE (.stI1 a (.var kv) val) _ fuel C rfl hhi.1 hhi.2
    (fun k st => st = ⟨setS ie kv (if k = 0 then ie kv else ((k - 1 : Nat) : Int)), fe, be,
        setS ia a (fillK (ia a) f k), fa, shp, ext, .run⟩)
    (by
      have e1 : setS ie kv (ie kv) = ie := setS_self _ _
      have e2 : setS ia a (ia a) = ia := setS_self _ _
      simp [fillK, e1, e2])
    (fun k hk st hrun hP => by
      subst hP
      obtain ⟨o1, o2⟩ := hst k (fillK (ia a) f k) hk
      simp only [setS_setS] at *
      have hin : inRange (k : Int) L = true := inRange_of_lt k L (by omega)
      simp [il, o1, o2, hshp, hin, off1_nat, afterBody, fillK_succ, setS_setS])
  rw [h.2]
  have : ¬ C = 0 := by omega
  simp [this]

/-- the stack of idle rows after the set-up: `idle[0] = N - 2` (its height), `idle[i] = N - i` below the top -/
def idleInit (N : Nat) : List Int := (fillK (List.replicate N 0) (fun i => (N : Int) - i) (N - 1)).set 0 ((N : Int) - 2)

structure SweepSetup (s r : State F) (h w N : Nat) : Prop where
  ctl : r.ctl = .run
  nr : r.ienv "n_rows" = h
  nc : r.ienv "n_cols" = w
  nn : r.ienv "num_nodes" = N
  root : r.ienv "root" = 0
  shV : r.shp "status_values" = [N, 8]
  shS : r.shp "status_struct" = [N, 4]
  shI : r.shp "idle" = [N]
  shN : r.shp "status_node" = [7]
  sv : r.fa "status_values" = svInit N
  ss : r.ia "status_struct" = ssInit N
  idle : r.ia "idle" = idleInit N
  node : r.fa "status_node" = List.replicate 7 (Fl.lit 0 1)
  fenv : r.fenv = s.fenv
  vp : r.ienv "vp_row" = s.ienv "vp_row" ∧ r.ienv "vp_col" = s.ienv "vp_col"
  keepF : ∀ a, a ∈ ["raster", "data", "event_aes", "visibility_grid"] → r.fa a = s.fa a ∧ r.shp a = s.shp a
  keepI : r.ia "event_rcts" = s.ia "event_rcts" ∧ r.shp "event_rcts" = s.shp "event_rcts"

theorem sweepSetup_exec (s : State F) (fuel h w vc N : Nat) (hs : s.ctl = .run) (shR : s.shp "raster" = [h, w])
    (hvc : s.ienv "vp_col" = vc) (hvcw : vc ≤ w) (hN : (w : Int) - vc + w * h + 10 = (N : Int)) :
    SweepSetup s (exec fuel (ILVs.seqL sweepSetup) s) h w N := by
  obtain ⟨ie, fe, be, ia, fa, shp, ext, ctl⟩ := s
  simp only at hs shR hvc; subst hs
  have hwh : (0 : Int) ≤ (w : Int) * h := by positivity
  have hN2 : 10 ≤ N := by omega
  show Post fuel _ _ (fun r => SweepSetup _ r h w N)
  simp only [sweepSetup, ILVs.seqL]
  refine Post.seq_eq _ (exec_setI _ _ _ _ (by simp [IE.ok, shR])) rfl ?_
  refine Post.seq_eq _ (exec_setI _ _ _ _ (by simp [IE.ok, shR])) rfl ?_
  refine Post.seq_eq _ (exec_setI _ _ _ _ (by simp [IE.ok])) rfl ?_
  simp [IE.eval, IOp.eval, shR, setS_apply, hvc, hN]
  refine Post.seq_eq _ (exec_allocF _ _ _ _ _ (by simp [IE.ok]) (by simp [FE.ok]) (by simp [IE.eval])) rfl ?_
  simp [IE.eval, FE.eval]
  refine Post.seq_eq _ (exec_allocI _ _ _ _ _ (by simp [IE.ok]) (by simp [IE.ok]) (by simp [IE.eval])) rfl ?_
  simp [IE.eval]
  obtain ⟨ie1, fa1, ia1, shp1, e1, c1, c2, c3, c4, c5, c6, c7⟩ := createStruct_exec (F := F)
    ⟨setS (setS (setS ie "n_rows" h) "n_cols" w) "num_nodes" N, fe, be, setS ia "status_struct" (List.replicate (N * 4) 0),
      setS fa "status_values" (List.replicate (N * 8) (Fl.lit 0 1)),
      setS (setS shp "status_values" [N, 8]) "status_struct" [N, 4], ext, .run⟩ fuel N rfl (by simp [setS_apply])
    (by simp) (by simp) (by simp) (by omega)
  have k3 := c2 "num_nodes" (by simp [csLocals])
  refine Post.seq_eq _ e1 rfl ?_
  refine Post.seq_eq _ (exec_setI _ _ _ _ (by simp [IE.ok])) rfl ?_
  simp only [IE.eval, c1]
  refine Post.seq_eq _ (exec_allocI _ _ _ _ _ (by simp [IE.ok]) (by simp [IE.ok])
    (by simp [IE.eval, setS_apply, k3])) rfl ?_
  simp [IE.eval, setS_apply, k3]
  have hshI : (setS shp1 "idle" [N]) "idle" = [N] := by simp
  refine Post.seq_eq _ (forRange_fillK "idle" "i" (.bin .sub (.var "num_nodes") (.lit 1)) (.bin .sub (.var "num_nodes") (.var "i")) _ fuel N
    (N - 1) (fun i => (N : Int) - i) rfl hshI (by omega) (by omega)
    (by simp [IE.ok, IE.eval, IOp.eval, setS_apply, k3]; omega)
    (by intro k l hk; simp [IE.ok, IE.eval, IOp.eval, setS_apply, k3])) rfl ?_
  simp
  have hNn : 0 < N := by omega
  unfold Post
  simp [exec, IE.ok, IE.eval, FE.ok, FE.eval, IOp.eval, setS_apply, setS_setS, inRange, normIdx, off1, hNn,
    k3]
  have k1 := c2 "n_rows" (by simp [csLocals])
  have k2 := c2 "n_cols" (by simp [csLocals])
  have k4 := c2 "vp_row" (by simp [csLocals])
  have k5 := c2 "vp_col" (by simp [csLocals])
  have f1 := c4 "raster" (by simp) (by simp)
  have f2 := c4 "data" (by simp) (by simp)
  have f3 := c4 "event_aes" (by simp) (by simp)
  have f4 := c4 "visibility_grid" (by simp) (by simp)
  have i1 := c6 "event_rcts" (by simp)
  refine ⟨rfl, ?_, ?_, ?_, ?_, ?_, ?_, ?_, ?_, ?_, ?_, ?_, ?_, rfl, ?_, ?_, ?_⟩ <;>
    simp [setS_apply, k1, k2, k3, k4, k5, c7, c3, c5, idleInit, f1, f2, f3, f4, i1]

open XrsVerif.ILVs XrsVerif.Viewshed

theorem getD_nodeRowV (sv : List F) (r : Nat) (dv : List F) (idx : Nat) (hlen : r * 8 + 8 ≤ sv.length) :
    (nodeRowV sv r dv).getD idx Fl.nan =
      if r * 8 ≤ idx ∧ idx < r * 8 + 8 then (if idx = r * 8 + 7 then smallF else dv.getD (idx - r * 8) Fl.nan)
      else sv.getD idx Fl.nan := by
  unfold nodeRowV
  simp only [getD_set, List.length_set]
  by_cases h : r * 8 ≤ idx ∧ idx < r * 8 + 8
  · obtain ⟨k, hk, rfl⟩ : ∃ k, k < 8 ∧ idx = r * 8 + k := ⟨idx - r * 8, by omega, by omega⟩
    have hl : r * 8 + k < sv.length := by omega
    have hk' : k = 0 ∨ k = 1 ∨ k = 2 ∨ k = 3 ∨ k = 4 ∨ k = 5 ∨ k = 6 ∨ k = 7 := by omega
    rcases hk' with rfl | rfl | rfl | rfl | rfl | rfl | rfl | rfl <;> simp [h, hl] <;> omega
  · have e : ∀ k, k < 8 → ¬ (r * 8 + k = idx ∧ idx < sv.length) := by intro k hk; omega
    simp [h, e 1, e 2, e 3, e 4, e 5, e 6, e 7]
    intro h1; omega


/-- the permanent dummy root as `_create_status_struct` stores it: key 0, gradients (-1, -1, S), bearings (S, S, 0) -/
def dummyNodeF : Node (Fv F) := ⟨⟨Fl.lit 0 1⟩, ⟨Fl.lit (-1) 1⟩, ⟨Fl.lit (-1) 1⟩, smallest, smallest, smallest, ⟨Fl.lit 0 1⟩⟩

theorem nAt_ssInit_root (N : Nat) (hN : 2 ≤ N) (j : Nat) (hj : j < 4) :
    nAt (ssInit N) 0 j = if j = 0 then 1 else -1 := by
  unfold nAt ssInit nodeRowS
  simp only [getD_set, List.length_set, List.length_replicate]
  have hj' : j = 0 ∨ j = 1 ∨ j = 2 ∨ j = 3 := by omega
  rcases hj' with rfl | rfl | rfl | rfl <;>
    simp <;> omega

/-- **the status structure after the set-up holds the model's initial tree**: the dummy root alone, black, its stored
    maximum the sentinel; the NIL row's maximum is the sentinel too -/
theorem setup_tree (N : Nat) (hN : 2 ≤ N) :
    Linked (ssInit N) N (-1) (.node .nil 0 .nil) ∧
    absT (svInit N : List F) (ssInit N) (.node .nil 0 .nil) = .node .nil dummyNodeF smallest false .nil ∧
    vAt (svInit N : List F) (N - 1) 7 = smallest := by
  have hl1 : 0 * 8 + 8 ≤ (List.replicate (N * 8) (Fl.lit 0 1 : F)).length := by simp; omega
  have hl2 : (N - 1) * 8 + 8 ≤ (nodeRowV (List.replicate (N * 8) (Fl.lit 0 1 : F)) 0 dummyVals).length := by
    simp [nodeRowV]; omega
  have rd : ∀ k, k < 8 → (svInit N : List F).getD (0 * 8 + k) Fl.nan = if k = 7 then smallF else dummyVals.getD k Fl.nan := by
    intro k hk
    unfold svInit
    rw [getD_nodeRowV _ _ _ _ hl2]
    have a1 : ¬ ((N - 1) * 8 ≤ 0 * 8 + k ∧ 0 * 8 + k < (N - 1) * 8 + 8) := by omega
    rw [if_neg a1, getD_nodeRowV _ _ _ _ hl1]
    have a2 : 0 * 8 ≤ 0 * 8 + k ∧ 0 * 8 + k < 0 * 8 + 8 := by omega
    rw [if_pos a2]
    have : (0 * 8 + k = 0 * 8 + 7) = (k = 7) := by apply propext; omega
    simp
  refine ⟨?_, ?_, ?_⟩
  · simp only [Linked, Sh.ptr]
    refine ⟨by omega, ?_, ?_, ?_, trivial, trivial⟩
    · rw [nAt_ssInit_root N hN 1 (by omega)]; rfl
    · rw [nAt_ssInit_root N hN 2 (by omega)]; rfl
    · rw [nAt_ssInit_root N hN 3 (by omega)]; rfl
  · simp only [absT, nodeAt, vAt, dummyNodeF, smallest]
    rw [rd 0 (by omega), rd 1 (by omega), rd 2 (by omega), rd 3 (by omega), rd 4 (by omega), rd 5 (by omega), rd 6 (by omega),
      rd 7 (by omega), nAt_ssInit_root N hN 0 (by omega)]
    simp [dummyVals, smallF]
  · simp only [vAt, smallest]
    unfold svInit
    rw [getD_nodeRowV _ _ _ _ hl2]
    have a1 : (N - 1) * 8 ≤ (N - 1) * 8 + 7 ∧ (N - 1) * 8 + 7 < (N - 1) * 8 + 8 := by omega
    rw [if_pos a1]
    simp [smallF]

end XrsVerif.ILSw
