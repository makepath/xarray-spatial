import XrsVerif.Proofs.PolygonizeLosslessFollow
import XrsVerif.Proofs.PolygonizeRegions
/-
  C15, losslessness: the invariant of `_scan` (`ScanInv`, over ghost data: the cycles followed so far for each region
  and its first pixel) and its preservation by the two halves of a step (`ext_part`, `hole_part`), hence `scan_inv`.
-/
namespace XrsVerif.Polygonize

/-- what `_scan` has established about a followed region `r` with first pixel `f` and cycles `cs`: closed, pairwise
    disjoint, duplicate free, the first one through the S edge of the first pixel, every other one through a W-headed
    edge under a pixel of another region -/
structure GoodReg (nx ny : Nat) (regs : Nat → Nat) (r f : Nat) (cs : List (List FSt)) : Prop where
  inr : f < nx * ny
  reg : regs f = r
  first : ∀ p, p < f → regs p ≠ r
  head : ∃ c0 rest, cs = c0 :: rest ∧ Est nx f ∈ c0 ∧
    ∀ c ∈ rest, ∃ X Y : Nat, X < nx ∧ Y + 1 < ny ∧ regs (X + (Y + 1) * nx) ≠ r ∧ (⟨(X : Int), (Y : Int), .W⟩ : FSt) ∈ c
  cyc : ∀ c ∈ cs, IsCyc (inRegion nx ny regs r) c
  nodup : cs.flatten.Nodup

/-- Ghost data: `cyc r` = the cycles of boundary-edge states followed so far for region `r` (exterior first),
    `fs r` = the first pixel of region `r`.  The polygons are the rings of the cycles, the column holds the values of
    the first pixels, `regionDone` bounds the ids of the pixels `< ks`, every followed region is `GoodReg`, `v2` holds
    exactly the pixels above the followed W-headed states, and every hole-start candidate `< kc` is flagged. -/
structure ScanInv {V : Type} (nx ny : Nat) (regs : Nat → Nat) (values : Nat → V) (ks kc : Nat) (st : Scan V)
    (cyc : Nat → List (List FSt)) (fs : Nat → Nat) : Prop where
  ok : st.ok = true
  polys : st.polys = (List.range st.regionDone).map (fun i => (cyc (i + 1)).map cycRing)
  col : st.column = ((List.range st.regionDone).map (fun i => values (fs (i + 1)))).reverse
  seen : ∀ p, p < ks → regs p ≤ st.regionDone
  good : ∀ r, 1 ≤ r → r ≤ st.regionDone → GoodReg nx ny regs r (fs r) (cyc r) ∧ fs r < ks
  v2 : ∀ q, q ∈ st.v2 ↔ nx ≤ q ∧ q < nx * ny ∧ 1 ≤ regs (q - nx) ∧ regs (q - nx) ≤ st.regionDone ∧
        Wst nx (q - nx) ∈ (cyc (regs (q - nx))).flatten
  v1 : ∀ q, q ∈ st.v1 → 1 ≤ regs q ∧ regs q ≤ st.regionDone
  cov : ∀ q, nx ≤ q → q < kc → regs q ≠ regs (q - nx) → regs (q - nx) ≠ 0 → q ∈ st.v2

def extPart {V : Type} (nx ny : Nat) (regs : Nat → Nat) (values : Nat → V) (st : Scan V) (ij : Nat) : Scan V :=
  if !(st.v1.contains ij) && regs ij == st.regionDone + 1 then
    match follow nx ny regs ij false with
    | none => { st with ok := false }
    | some tr => { st with v1 := tr.v1 ++ st.v1, v2 := tr.v2 ++ st.v2, regionDone := regs ij,
                           column := values ij :: st.column, polys := st.polys ++ [[tr.pts]] }
  else st

def holePart {V : Type} (nx ny : Nat) (regs : Nat → Nat) (st1 : Scan V) (ij : Nat) : Scan V :=
  if decide (nx ≤ ij) && !(st1.v2.contains ij) && regs ij != regs (ij - nx) && regs (ij - nx) != 0 then
    match follow nx ny regs (ij - nx) true with
    | none => { st1 with ok := false }
    | some tr =>
      let region := regs (ij - nx)
      { st1 with v1 := tr.v1 ++ st1.v1, v2 := tr.v2 ++ st1.v2,
                 polys := appendAt st1.polys (region - 1) tr.pts,
                 ok := st1.ok && decide (region - 1 < st1.polys.length) }
  else st1

theorem modify_range_map {β : Type} (n i : Nat) (f : Nat → β) (g : β → β) :
    ((List.range n).map f).modify i g = (List.range n).map (fun j => if j = i then g (f j) else f j) := by
  apply List.ext_getElem?
  intro j
  rw [List.getElem?_modify, List.getElem?_map, List.getElem?_map]
  by_cases hj : j < n
  · rw [List.getElem?_range hj]
    simp only [Option.map_some, Option.map_eq_map]
    by_cases hji : i = j
    · subst hji; simp
    · simp [hji, Ne.symm hji]
  · rw [List.getElem?_eq_none (by simpa using hj)]
    simp

def Ranked (regs : Nat → Nat) (n : Nat) : Prop :=
  ∀ ij, ij < n → ∀ r, 1 ≤ r → regs ij = r + 1 → ∃ p, p < ij ∧ regs p = r

/-- the `v2` clause after a cycle `c` of region `r0` has been followed: `cs0` are the cycles that region had
    (none if the region is new, `D'` being its id then) -/
theorem ScanInv.v2_add {V : Type} {nx ny : Nat} {regs : Nat → Nat} {values : Nat → V} {ks kc : Nat} {st : Scan V}
    {cyc : Nat → List (List FSt)} {fs : Nat → Nat} (h : ScanInv nx ny regs values ks kc st cyc fs)
    {v2 : List Nat} {c : List FSt} {r0 D' : Nat} {cs0 : List (List FSt)}
    (hv2 : ∀ q, q ∈ v2 ↔ nx ≤ q ∧ q < nx * ny ∧ regs (q - nx) = r0 ∧ Wst nx (q - nx) ∈ c)
    (h1 : 1 ≤ r0) (h2 : r0 ≤ D') (hD : st.regionDone ≤ D') (hnew : ∀ r, st.regionDone < r → r ≤ D' → r = r0)
    (hcs : ∀ s, s ∈ cs0.flatten ↔ r0 ≤ st.regionDone ∧ s ∈ (cyc r0).flatten) (q : Nat) :
    q ∈ v2 ++ st.v2 ↔ nx ≤ q ∧ q < nx * ny ∧ 1 ≤ regs (q - nx) ∧ regs (q - nx) ≤ D' ∧
      Wst nx (q - nx) ∈ (if regs (q - nx) = r0 then cs0 ++ [c] else cyc (regs (q - nx))).flatten := by
  rw [List.mem_append, hv2 q, h.v2 q]
  by_cases hq : regs (q - nx) = r0
  · simp only [hq, if_true, List.flatten_append, List.flatten_cons, List.flatten_nil, List.append_nil,
      List.mem_append, hcs]
    constructor
    · rintro (⟨a, b, _, d⟩ | ⟨a, b, _, e, d⟩)
      · exact ⟨a, b, h1, h2, Or.inr d⟩
      · exact ⟨a, b, h1, h2, Or.inl ⟨e, d⟩⟩
    · rintro ⟨a, b, _, _, ⟨e, d⟩ | d⟩
      · exact Or.inr ⟨a, b, h1, e, d⟩
      · exact Or.inl ⟨a, b, trivial, d⟩
  · simp only [if_neg hq]
    constructor
    · rintro (⟨_, _, e, _⟩ | ⟨a, b, c1, e, d⟩)
      · exact absurd e hq
      · exact ⟨a, b, c1, Nat.le_trans e hD, d⟩
    · rintro ⟨a, b, c1, e, d⟩
      exact Or.inr ⟨a, b, c1, Nat.le_of_not_lt fun hlt => hq (hnew _ hlt e), d⟩

/-- a pixel whose region id is `regionDone + 1` is the first pixel of its region (ids are first-pixel ranks), it is
    not flagged in `v1`, its S edge is a boundary edge, so `follow` returns a cycle, which becomes the exterior of the
    new polygon -/
theorem ext_part {V : Type} (nx ny : Nat) (hnx : 0 < nx) (regs : Nat → Nat) (values : Nat → V)
    (hrank : Ranked regs (nx * ny)) {k : Nat} (hk : k < nx * ny) {st : Scan V}
    {cyc : Nat → List (List FSt)} {fs : Nat → Nat} (h : ScanInv nx ny regs values k k st cyc fs) :
    ∃ cyc' fs', ScanInv nx ny regs values (k + 1) k (extPart nx ny regs values st k) cyc' fs' := by
  by_cases hreg : regs k = st.regionDone + 1
  · -- a new region starts here
    have hnot : k ∉ st.v1 := fun hm => by have := h.v1 k hm; omega
    obtain ⟨tr, c, hf, hcyc, hnd, hE, hpts, hv2, hv1⟩ := follow_spec nx ny regs k false
      (exterior_start_valid nx ny regs k hnx hk (fun hge => by have := h.seen (k - nx) (by omega); omega))
    refine ⟨fun r => if r = regs k then [c] else cyc r, fun r => if r = regs k then k else fs r, ?_⟩
    unfold extPart
    rw [if_pos (by simp [hnot, hreg]), hf]
    simp only
    constructor
    · exact h.ok
    · simp only
      rw [hreg, List.range_succ, List.map_append, h.polys]
      congr 1
      · apply List.map_congr_left
        intro i hi
        have := List.mem_range.mp hi
        rw [if_neg (by omega)]
      · simp [hpts]
    · simp only
      rw [hreg, List.range_succ, List.map_append, List.reverse_append, h.col]
      simp only [List.map_cons, List.map_nil, List.reverse_cons, List.reverse_nil, List.nil_append,
        List.singleton_append, if_true]
      congr 2
      apply List.map_congr_left
      intro i hi
      have := List.mem_range.mp hi
      rw [if_neg (by omega)]
    · intro p hp
      simp only
      by_cases hpk : p = k
      · subst hpk; omega
      · have := h.seen p (by omega); omega
    · intro r h1 h2
      simp only at h2
      by_cases hr : r = regs k
      · subst hr
        simp only [if_true]
        refine ⟨⟨hk, rfl, ?_, ⟨c, [], rfl, hE, fun c' hc' => absurd hc' List.not_mem_nil⟩, ?_, by simpa using hnd⟩,
          by omega⟩
        · intro p hp; have := h.seen p hp; omega
        · intro c' hc'
          rw [List.mem_singleton.mp hc']; exact hcyc
      · simp only [if_neg hr]
        have := h.good r h1 (by omega)
        exact ⟨this.1, by omega⟩
    · exact h.v2_add (cs0 := []) hv2 (by omega) (Nat.le_refl _) (by simp only; omega)
        (fun r ha hb => by simp only at hb; omega) (fun s => by simp; omega)
    · intro q hq
      simp only at hq ⊢
      rcases List.mem_append.mp hq with hq | hq
      · rw [hv1 q hq]; omega
      · have := h.v1 q hq; omega
    · intro q h1 h2 h3 h4
      exact List.mem_append_right _ (h.cov q h1 h2 h3 h4)
  · -- nothing starts here
    refine ⟨cyc, fs, ?_⟩
    unfold extPart
    rw [if_neg (by simp [hreg])]
    refine ⟨h.ok, h.polys, h.col, ?_, ?_, h.v2, h.v1, h.cov⟩
    · intro p hp
      by_cases hpk : p = k
      · subst hpk
        by_cases h0 : regs p = 0
        · omega
        · by_cases h1 : regs p = 1
          · omega
          · obtain ⟨p', hp', e⟩ := hrank p hk (regs p - 1) (by omega) (by omega)
            have := h.seen p' hp'
            omega
      · exact h.seen p (by omega)
    · intro r h1 h2
      have := h.good r h1 h2
      exact ⟨this.1, by omega⟩

/-- a hole is started on the N edge of pixel `ij - nx` only if that edge has not been flagged, i.e. lies on no cycle
    followed so far for that region; the new cycle is then disjoint from all of them (two cycles with a common state
    coincide), and its polygon exists because the region's first pixel precedes `ij - nx` -/
theorem hole_part {V : Type} (nx ny : Nat) (hnx : 0 < nx) (regs : Nat → Nat) (values : Nat → V)
    {k : Nat} (hk : k < nx * ny) {st1 : Scan V}
    {cyc : Nat → List (List FSt)} {fs : Nat → Nat} (h : ScanInv nx ny regs values (k + 1) k st1 cyc fs) :
    ∃ cyc', ScanInv nx ny regs values (k + 1) (k + 1) (holePart nx ny regs st1 k) cyc' fs := by
  by_cases hc : nx ≤ k ∧ regs k ≠ regs (k - nx) ∧ regs (k - nx) ≠ 0 ∧ k ∉ st1.v2
  · obtain ⟨h1, hne, hn0, hv⟩ := hc
    have hr1 : 1 ≤ regs (k - nx) := by omega
    have hr2 : regs (k - nx) ≤ st1.regionDone := h.seen (k - nx) (by omega)
    obtain ⟨tr, c, hf, hcyc, hnd, hW, hpts, hv2, hv1⟩ := follow_spec nx ny regs (k - nx) true
      (hole_start_valid nx ny regs k hnx h1 hk hne)
    obtain ⟨hg, hfs⟩ := h.good _ hr1 hr2
    refine ⟨fun r => if r = regs (k - nx) then cyc (regs (k - nx)) ++ [c] else cyc r, ?_⟩
    unfold holePart
    rw [if_pos (by simp [h1, hne, hn0, hv]), hf]
    simp only
    constructor
    · simp only
      rw [h.ok, h.polys, List.length_map, List.length_range]
      simp; omega
    · simp only
      unfold appendAt
      rw [h.polys, modify_range_map]
      apply List.map_congr_left
      intro i hi
      have := List.mem_range.mp hi
      by_cases hir : i = regs (k - nx) - 1
      · rw [if_pos hir, if_pos (by omega), List.map_append, hir, show regs (k - nx) - 1 + 1 = regs (k - nx) by omega]
        simp [hpts]
      · rw [if_neg hir, if_neg (by omega)]
    · exact h.col
    · exact h.seen
    · intro r hr1' hr2'
      simp only at hr2'
      have hold := h.good r hr1' hr2'
      by_cases hr : r = regs (k - nx)
      · subst hr
        simp only [if_true]
        refine ⟨⟨hg.inr, hg.reg, hg.first, ?_, ?_, ?_⟩, hold.2⟩
        · obtain ⟨c0, rest, e, hm0, hh⟩ := hg.head
          refine ⟨c0, rest ++ [c], by rw [e]; rfl, hm0, ?_⟩
          intro c' hc'
          rcases List.mem_append.mp hc' with hc' | hc'
          · exact hh c' hc'
          · rw [List.mem_singleton.mp hc']
            obtain ⟨hx, hy, hup⟩ := above_pix hnx h1 hk
            exact ⟨_, _, hx, hy, by rw [hup]; exact hne, hW⟩
        · intro c' hc'
          rcases List.mem_append.mp hc' with hc' | hc'
          · exact hg.cyc c' hc'
          · rw [List.mem_singleton.mp hc']; exact hcyc
        · rw [List.flatten_append, List.nodup_append]
          refine ⟨hg.nodup, by simpa using hnd, ?_⟩
          intro a ha b hb hab
          simp only [List.flatten_cons, List.flatten_nil, List.append_nil] at hb
          subst hab
          -- the new cycle would lie on the old ones, so its start would have been flagged
          obtain ⟨_, m, s0, rfl, hit⟩ := hcyc
          have := orbit_subset_of_common (closed_flatten _ (fun c' hc' => (hg.cyc c' hc').1)) hit hb ha _ hW
          exact hv ((h.v2 k).mpr ⟨h1, hk, hr1, hr2, this⟩)
      · simp only [if_neg hr]
        exact hold
    · exact h.v2_add (cs0 := cyc (regs (k - nx))) hv2 hr1 hr2 (Nat.le_refl _) (fun r ha hb => absurd ha (Nat.not_lt.mpr hb))
        (fun s => by simp [hr2])
    · intro q hq
      simp only at hq ⊢
      rcases List.mem_append.mp hq with hq | hq
      · rw [hv1 q hq]; exact ⟨hr1, hr2⟩
      · exact h.v1 q hq
    · intro q hq1 hq2 hq3 hq4
      simp only
      by_cases hqk : q = k
      · subst hqk
        exact List.mem_append_left _ ((hv2 q).mpr ⟨h1, hk, rfl, hW⟩)
      · exact List.mem_append_right _ (h.cov q hq1 (by omega) hq3 hq4)
  · -- no hole starts here
    refine ⟨cyc, ?_⟩
    unfold holePart
    rw [if_neg (by simpa [and_assoc, and_comm, and_left_comm] using hc)]
    refine ⟨h.ok, h.polys, h.col, h.seen, h.good, h.v2, h.v1, ?_⟩
    intro q hq1 hq2 hq3 hq4
    by_cases hqk : q = k
    · subst hqk
      by_cases hmem : q ∈ st1.v2
      · exact hmem
      · exact absurd ⟨hq1, hq3, hq4, hmem⟩ hc
    · exact h.cov q hq1 (by omega) hq3 hq4

theorem scan_inv {V : Type} (nx ny : Nat) (hnx : 0 < nx) (regs : Nat → Nat) (values : Nat → V)
    (hrank : Ranked regs (nx * ny)) :
    ∃ cyc fs, ScanInv nx ny regs values (nx * ny) (nx * ny)
      ((List.range (nx * ny)).foldl (scanStep nx ny regs values) ⟨[], [], 0, [], [], true⟩) cyc fs := by
  have h0 : ScanInv nx ny regs values 0 0 (⟨[], [], 0, [], [], true⟩ : Scan V) (fun _ => []) (fun _ => 0) := by
    refine ⟨rfl, rfl, rfl, ?_, ?_, ?_, ?_, ?_⟩
    · intro p hp; omega
    · intro r h1 h2; simp only at h2; omega
    · intro q; simp only [List.not_mem_nil, false_iff]; intro ⟨_, _, h1, h2, _⟩; omega
    · intro q hq; simp only [List.not_mem_nil] at hq
    · intro q _ hq; omega
  refine foldl_range_inv (scanStep nx ny regs values)
    (fun k st => ∃ cyc fs, ScanInv nx ny regs values k k st cyc fs) (nx * ny) ⟨_, _, h0⟩ ?_
  rintro k st hk ⟨cyc, fs, h⟩
  obtain ⟨cyc1, fs1, h1⟩ := ext_part nx ny hnx regs values hrank hk h
  obtain ⟨cyc2, h2⟩ := hole_part nx ny hnx regs values hk h1
  exact ⟨cyc2, fs1, h2⟩

end XrsVerif.Polygonize
