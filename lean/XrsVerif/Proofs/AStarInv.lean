import XrsVerif.Model.AStar
import XrsVerif.Proofs.ListFold
/-
  Invariants of the A* loop of `Model/AStar.lean`, for EVERY cost structure `Ops C` (nothing is
  assumed about `add`, `lt`, ...; in particular they hold for the IEEE instance the driver runs).

    * `Inv`            the loop invariant (open/closed bookkeeping, parent chains, frontier)
    * `expand_spec`    one expansion cell by cell (`Kept` or `Reached`); `inv_init`, `inv_expand`, `core_expand` from it
    * `loop_spec`      what each way of leaving the loop means
    * `walk_*`         the parent walk of `_reconstruct_path` is deterministic, duplicate-free

  Core Lean only (the refinement proofs of the generated programs, Proofs/ILAStar*.lean, build on it).
-/
namespace XrsVerif.AStar
variable {C : Type}

@[simp] theorem upd_same {α} (f : Cell → α) (c : Cell) (v : α) : upd f c v c = v := by simp [upd]
theorem upd_other {α} (f : Cell → α) {c c' : Cell} (v : α) (h : c' ≠ c) : upd f c v c' = f c' := by
  simp [upd, h]

theorem upd_true_mono {f : Cell → Bool} {u c : Cell} (h : f c = true) : upd f u true c = true := by
  unfold upd; split
  · rfl
  · exact h

theorem of_upd_false {f : Cell → Bool} {u c : Cell} (h : upd f u false c = true) : c ≠ u ∧ f c = true := by
  unfold upd at h; split at h
  · cases h
  · exact ⟨‹_›, h⟩

theorem inside_iff {h w : Nat} {c : Cell} :
    inside h w c = true ↔ 0 ≤ c.1 ∧ c.1 < (h : Int) ∧ 0 ≤ c.2 ∧ c.2 < (w : Int) := by
  simp [inside, and_assoc]

theorem mem_cells {h w : Nat} {c : Cell} : c ∈ cells h w ↔ inside h w c = true := by
  rw [inside_iff]
  simp only [cells, List.mem_flatMap, List.mem_range, List.mem_map]
  constructor
  · rintro ⟨i, hi, j, hj, rfl⟩
    simp; omega
  · rintro ⟨h1, h2, h3, h4⟩
    refine ⟨c.1.toNat, by omega, c.2.toNat, by omega, ?_⟩
    ext <;> simp <;> omega

theorem length_cells (h w : Nat) : (cells h w).length = h * w := length_flatMap_range _ h w

theorem countP_cells_le (h w : Nat) (p : Cell → Bool) : (cells h w).countP p ≤ h * w :=
  length_cells h w ▸ List.countP_le_length

theorem sqDist_nonneg (a b : Cell) : 0 ≤ sqDist a b := by
  have sq (x : Int) : 0 ≤ x * x := by rw [← Int.natAbs_mul_self]; exact Int.natCast_nonneg _
  exact Int.add_nonneg (sq _) (sq _)

def Free (e : Env C) (c : Cell) : Prop := inside e.h e.w c = true ∧ e.cross c = true

def Adj (e : Env C) (u v : Cell) : Prop := ∃ off ∈ e.nbrs, v = (u.1 + off.1, u.2 + off.2)

def Link (e : Env C) (g : Cell → C) (p c : Cell) : Prop :=
  Adj e p c ∧ g c = e.ops.add (g p) (e.ops.step p c)

/-- a list of cells, far end first, is a chain down to `start` (which carries `zero`) -/
def IsChain (e : Env C) (g : Cell → C) : List Cell → Prop
  | [] => False
  | [c] => c = e.start ∧ g c = e.ops.zero
  | c :: p :: rest => Link e g p c ∧ IsChain e g (p :: rest)

inductive Route (e : Env C) : Cell → C → Prop
  | start : Free e e.start → Route e e.start e.ops.zero
  | step {u v : Cell} {l : C} : Route e u l → Adj e u v → Free e v →
      Route e v (e.ops.add l (e.ops.step u v))

theorem IsChain.congr {e : Env C} {g g' : Cell → C} :
    ∀ {l : List Cell}, (∀ x ∈ l, g' x = g x) → IsChain e g l → IsChain e g' l
  | [], _, h => h
  | [c], hg, h => by
    simp only [IsChain] at h ⊢
    exact ⟨h.1, by rw [hg c (by simp)]; exact h.2⟩
  | c :: p :: rest, hg, h => by
    simp only [IsChain] at h ⊢
    refine ⟨⟨h.1.1, ?_⟩, IsChain.congr (fun x hx => hg x (by simp [hx])) h.2⟩
    rw [hg c (by simp), hg p (by simp)]; exact h.1.2

theorem route_of_chain {e : Env C} {g : Cell → C} :
    ∀ {l : List Cell} {c : Cell} {t : List Cell}, l = c :: t → IsChain e g l → (∀ x ∈ l, Free e x) →
      Route e c (g c)
  | _, c, [], rfl, h, hf => by
    simp only [IsChain] at h
    rw [h.1, ← h.1, h.2, h.1]
    exact Route.start (h.1 ▸ hf c (by simp))
  | _, c, p :: rest, rfl, h, hf => by
    simp only [IsChain] at h
    rw [h.1.2]
    exact Route.step (route_of_chain rfl h.2 (fun x hx => hf x (by simp [hx]))) h.1.1 (hf c (by simp))

theorem walk_succ {par : Cell → Option Cell} {s : Cell} {n : Nat} {c : Cell} {l : List Cell} :
    walk par s (n + 1) c = some l ↔
      (c = s ∧ l = [c]) ∨ (c ≠ s ∧ ∃ p t, par c = some p ∧ walk par s n p = some t ∧ l = c :: t) := by
  by_cases hc : c = s
  · simp [walk, hc, eq_comm]
  · cases hp : par c <;> simp [walk, hc, hp, @eq_comm _ l]

theorem walk_head {par : Cell → Option Cell} {s : Cell} :
    ∀ {n : Nat} {c : Cell} {l : List Cell}, walk par s n c = some l → ∃ t, l = c :: t
  | 0, _, _, h => by simp [walk] at h
  | n + 1, c, l, h => by
    rcases walk_succ.mp h with ⟨_, rfl⟩ | ⟨_, p, t, _, _, rfl⟩
    · exact ⟨[], rfl⟩
    · exact ⟨t, rfl⟩

theorem walk_mono {par : Cell → Option Cell} {s : Cell} :
    ∀ {n m : Nat} {c : Cell} {l : List Cell}, walk par s n c = some l → n ≤ m → walk par s m c = some l
  | 0, _, _, _, h, _ => by simp [walk] at h
  | n + 1, 0, _, _, _, hm => by omega
  | n + 1, m + 1, c, l, h, hm => by
    rw [walk_succ] at h ⊢
    rcases h with h | ⟨hc, p, t, hp, ht, rfl⟩
    · exact Or.inl h
    · exact Or.inr ⟨hc, p, t, hp, walk_mono ht (by omega), rfl⟩

theorem walk_det {par : Cell → Option Cell} {s : Cell} {n m : Nat} {c : Cell} {l l' : List Cell}
    (h : walk par s n c = some l) (h' : walk par s m c = some l') : l = l' := by
  rcases Nat.le_total n m with hnm | hnm
  · have := walk_mono h hnm; rw [this] at h'; exact Option.some.inj h'
  · have := walk_mono h' hnm; rw [this] at h; exact (Option.some.inj h).symm

theorem walk_suffix {par : Cell → Option Cell} {s : Cell} :
    ∀ {n : Nat} {c : Cell} {l : List Cell}, walk par s n c = some l →
      ∀ x ∈ l, ∃ m l', walk par s m x = some l' ∧ l'.length ≤ l.length
  | 0, _, _, h => by simp [walk] at h
  | n + 1, c, l, h => by
    intro x hx
    rcases walk_succ.mp h with ⟨_, rfl⟩ | ⟨_, p, t, _, ht, rfl⟩
    · obtain rfl : x = c := by simpa using hx
      exact ⟨n + 1, _, h, Nat.le_refl _⟩
    · rcases List.mem_cons.mp hx with rfl | hxt
      · exact ⟨n + 1, _, h, Nat.le_refl _⟩
      · obtain ⟨m, l', hm, hl⟩ := walk_suffix ht x hxt
        exact ⟨m, l', hm, Nat.le_succ_of_le hl⟩

theorem walk_nodup {par : Cell → Option Cell} {s : Cell} :
    ∀ {n : Nat} {c : Cell} {l : List Cell}, walk par s n c = some l → l.Nodup
  | 0, _, _, h => by simp [walk] at h
  | n + 1, c, l, h => by
    rcases walk_succ.mp h with ⟨_, rfl⟩ | ⟨_, p, t, _, ht, rfl⟩
    · exact List.nodup_cons.mpr ⟨List.not_mem_nil, List.nodup_nil⟩
    · refine List.nodup_cons.mpr ⟨fun hc => ?_, walk_nodup ht⟩
      -- a walk from `c` met again inside its own tail would be shorter than itself
      obtain ⟨m, l', hm, hl⟩ := walk_suffix ht c hc
      rw [walk_det hm h] at hl
      exact Nat.not_succ_le_self _ hl

theorem walk_length_fuel {par : Cell → Option Cell} {s : Cell} :
    ∀ {n : Nat} {c : Cell} {l : List Cell}, walk par s n c = some l → walk par s l.length c = some l
  | 0, _, _, h => by simp [walk] at h
  | n + 1, c, l, h => by
    rcases walk_succ.mp h with ⟨hc, rfl⟩ | ⟨hc, p, t, hp, ht, rfl⟩
    · exact walk_succ.mpr (Or.inl ⟨hc, rfl⟩)
    · exact walk_succ.mpr (Or.inr ⟨hc, p, t, hp, walk_length_fuel ht, rfl⟩)

theorem walk_length_le {par : Cell → Option Cell} {s : Cell} :
    ∀ {n : Nat} {c : Cell} {l : List Cell}, walk par s n c = some l → l.length ≤ n
  | 0, _, _, h => by simp [walk] at h
  | n + 1, c, l, h => by
    rcases walk_succ.mp h with ⟨_, rfl⟩ | ⟨_, p, t, _, ht, rfl⟩
    · exact Nat.succ_le_succ (Nat.zero_le n)
    · exact Nat.succ_le_succ (walk_length_le ht)

theorem walk_congr {par par' : Cell → Option Cell} {s : Cell} :
    ∀ {n : Nat} {c : Cell} {l : List Cell}, walk par s n c = some l → (∀ x ∈ l, par' x = par x) →
      walk par' s n c = some l
  | 0, _, _, h, _ => by simp [walk] at h
  | n + 1, c, l, h, hp => by
    rw [walk_succ] at h ⊢
    rcases h with h | ⟨hc, p, t, hpc, ht, rfl⟩
    · exact Or.inl h
    · exact Or.inr ⟨hc, p, t, (hp c List.mem_cons_self).trans hpc,
        walk_congr ht (fun x hx => hp x (List.mem_cons_of_mem _ hx)), rfl⟩

theorem walk_last {par : Cell → Option Cell} {s : Cell} :
    ∀ {n : Nat} {c : Cell} {l : List Cell}, walk par s n c = some l → l.getLast? = some s
  | 0, _, _, h => by simp [walk] at h
  | n + 1, c, l, h => by
    rcases walk_succ.mp h with ⟨hc, rfl⟩ | ⟨_, p, t, _, ht, rfl⟩
    · rw [hc]; rfl
    · obtain ⟨t', rfl⟩ := walk_head ht
      rw [List.getLast?_cons_cons]; exact walk_last ht

def seen (st : St C) (c : Cell) : Prop := st.isOpen c = true ∨ st.isClosed c = true

structure Core (e : Env C) (st : St C) : Prop where
  open_free : ∀ c, st.isOpen c = true → Free e c
  open_not_closed : ∀ c, st.isOpen c = true → st.isClosed c = false
  closed_free : ∀ c, st.isClosed c = true → Free e c
  /-- every listed cell is tied to `start` by its parents; all cells behind it are closed -/
  chain : ∀ c, seen st c → ∃ n l, walk st.parent e.start n c = some l ∧ IsChain e st.g l ∧
    ∀ x ∈ l.tail, st.isClosed x = true
  start_first : ∀ c, seen st c → c = e.start ∨ st.isClosed e.start = true
  start_seen : Free e e.start → seen st e.start

def Frontier (e : Env C) (st : St C) : Prop :=
  ∀ u, st.isClosed u = true → ∀ v, Adj e u v → Free e v → seen st v

theorem init_isClosed (e : Env C) (c : Cell) : (init e).isClosed c = false := by
  unfold init; split <;> rfl

theorem init_g (e : Env C) (c : Cell) : (init e).g c = e.ops.zero := by
  unfold init; split <;> rfl

theorem init_isOpen_start {e : Env C} (hc : e.cross e.start = true) : (init e).isOpen e.start = true := by
  simp [init, hc]

theorem init_isOpen {e : Env C} {c : Cell} (h : (init e).isOpen c = true) :
    c = e.start ∧ e.cross e.start = true ∧
      (init e).f c = e.ops.add e.ops.zero (e.ops.heur e.start e.goal) := by
  by_cases hc : e.cross e.start = true
  · simp only [init, hc, if_true] at h ⊢
    by_cases hne : c = e.start
    · exact ⟨hne, trivial, by rw [hne, upd_same]⟩
    · simp [upd_other _ _ hne] at h
  · simp [init, hc] at h

theorem core_init (e : Env C) (hs : inside e.h e.w e.start = true) : Core e (init e) := by
  have hcl : ∀ {c}, ¬ (init e).isClosed c = true := fun {c} h => by rw [init_isClosed] at h; cases h
  refine ⟨fun c h => ?_, fun c _ => init_isClosed e c, fun c h => (hcl h).elim, fun c h => ?_, fun c h => ?_,
    fun h => Or.inl (init_isOpen_start h.2)⟩
  · obtain ⟨rfl, hc, _⟩ := init_isOpen h
    exact ⟨hs, hc⟩
  · obtain ⟨rfl, _, _⟩ := init_isOpen (h.resolve_right hcl)
    exact ⟨1, [e.start], by simp [walk], ⟨rfl, init_g e _⟩, by simp⟩
  · exact Or.inl (init_isOpen (h.resolve_right hcl)).1

/-- the state a `continue`-free pass of the neighbour loop leaves: `v` opened with parent `u`, new `g`, `f` -/
def relaxed {K : Type} (st : St K) (u v : Cell) (g f : K) : St K :=
  { isOpen := upd st.isOpen v true, isClosed := st.isClosed, g := upd st.g v g, f := upd st.f v f,
    parent := upd st.parent v (some u) }

theorem relax_outside (e : Env C) (u : Cell) (st : St C) (off : Cell)
    (h : inside e.h e.w (u.1 + off.1, u.2 + off.2) = false) : relax e u st off = st := by
  simp [relax, h]

theorem relax_barrier (e : Env C) (u : Cell) (st : St C) (off : Cell)
    (h : e.cross (u.1 + off.1, u.2 + off.2) = false) : relax e u st off = st := by
  simp only [relax, h]; split <;> simp

theorem relax_closed (e : Env C) (u : Cell) (st : St C) (off : Cell)
    (h : st.isClosed (u.1 + off.1, u.2 + off.2) = true) : relax e u st off = st := by
  simp only [relax, h]; split <;> (try rfl); split <;> simp

theorem relax_worse (e : Env C) (u : Cell) (st : St C) (off : Cell)
    (h : (st.isOpen (u.1 + off.1, u.2 + off.2) &&
      e.ops.lt (st.g (u.1 + off.1, u.2 + off.2))
        (e.ops.add (st.g u) (e.ops.step u (u.1 + off.1, u.2 + off.2)))) = true) :
    relax e u st off = st := by
  simp only [relax, h]; split <;> (try rfl); split <;> (try rfl); split <;> simp

theorem relax_update (e : Env C) (u : Cell) (st : St C) (off : Cell)
    (h1 : inside e.h e.w (u.1 + off.1, u.2 + off.2) = true) (h2 : e.cross (u.1 + off.1, u.2 + off.2) = true)
    (h3 : st.isClosed (u.1 + off.1, u.2 + off.2) = false)
    (h4 : (st.isOpen (u.1 + off.1, u.2 + off.2) &&
      e.ops.lt (st.g (u.1 + off.1, u.2 + off.2))
        (e.ops.add (st.g u) (e.ops.step u (u.1 + off.1, u.2 + off.2)))) = false) :
    relax e u st off = relaxed st u (u.1 + off.1, u.2 + off.2)
      (e.ops.add (st.g u) (e.ops.step u (u.1 + off.1, u.2 + off.2)))
      (e.ops.add (e.ops.add (st.g u) (e.ops.step u (u.1 + off.1, u.2 + off.2)))
        (e.ops.heur (u.1 + off.1, u.2 + off.2) e.goal)) := by
  simp [relax, h1, h2, h3, h4, relaxed]

theorem relax_target (e : Env C) (u : Cell) (st : St C) (off : Cell)
    (hf : Free e (u.1 + off.1, u.2 + off.2)) (hncl : st.isClosed (u.1 + off.1, u.2 + off.2) = false) :
    let v : Cell := (u.1 + off.1, u.2 + off.2)
    let d := e.ops.add (st.g u) (e.ops.step u v)
    (st.isOpen v = true ∧ e.ops.lt (st.g v) d = true ∧ relax e u st off = st) ∨
    (¬ (st.isOpen v = true ∧ e.ops.lt (st.g v) d = true) ∧
     relax e u st off = relaxed st u v d (e.ops.add d (e.ops.heur v e.goal))) := by
  intro v d
  by_cases h4 : st.isOpen v = true ∧ e.ops.lt (st.g v) d = true
  · exact Or.inl ⟨h4.1, h4.2, relax_worse e u st off ((Bool.and_eq_true _ _).mpr h4)⟩
  · exact Or.inr ⟨h4, relax_update e u st off hf.1 hf.2 hncl
      (Bool.eq_false_iff.mpr fun h => h4 ((Bool.and_eq_true _ _).mp h))⟩

theorem relax_cases (e : Env C) (u : Cell) (st : St C) (off : Cell) :
    relax e u st off = st ∨
    (let v : Cell := (u.1 + off.1, u.2 + off.2)
     let d := e.ops.add (st.g u) (e.ops.step u v)
     inside e.h e.w v = true ∧ e.cross v = true ∧ st.isClosed v = false ∧
     ¬ (st.isOpen v = true ∧ e.ops.lt (st.g v) d = true) ∧
     relax e u st off = relaxed st u v d (e.ops.add d (e.ops.heur v e.goal))) := by
  by_cases h1 : inside e.h e.w (u.1 + off.1, u.2 + off.2) = true
  · by_cases h2 : e.cross (u.1 + off.1, u.2 + off.2) = true
    · by_cases h3 : st.isClosed (u.1 + off.1, u.2 + off.2) = true
      · exact Or.inl (relax_closed e u st off h3)
      · have hncl : st.isClosed (u.1 + off.1, u.2 + off.2) = false := by simpa using h3
        rcases relax_target e u st off ⟨h1, h2⟩ hncl with ⟨_, _, h⟩ | ⟨h4, h⟩
        · exact Or.inl h
        · exact Or.inr ⟨h1, h2, hncl, h4, h⟩
    · exact Or.inl (relax_barrier e u st off (by simpa using h2))
  · exact Or.inl (relax_outside e u st off (by simpa using h1))

/-- the expansion of `u` that leads from `st` to `s` leaves the cell `c` as it was, except that `u` itself
    leaves the open list -/
structure Kept (st s : St C) (u c : Cell) : Prop where
  isOpen_eq : s.isOpen c = upd st.isOpen u false c
  g_eq : s.g c = st.g c
  f_eq : s.f c = st.f c
  parent_eq : s.parent c = st.parent c

/-- the expansion of `u` that leads from `st` to `s` relaxes the cell `c`: in `s` it is an open child of `u`,
    a crossable neighbour, not closed, whose entry in `st` did not win the comparison of `relax` -/
structure Reached (e : Env C) (st s : St C) (u c : Cell) : Prop where
  adj : Adj e u c
  free : Free e c
  notClosed : upd st.isClosed u true c = false
  notBeaten : ¬ (upd st.isOpen u false c = true ∧
    e.ops.lt (st.g c) (e.ops.add (st.g u) (e.ops.step u c)) = true)
  isOpen : s.isOpen c = true
  g_eq : s.g c = e.ops.add (st.g u) (e.ops.step u c)
  f_eq : s.f c = e.ops.add (s.g c) (e.ops.heur c e.goal)
  parent_eq : s.parent c = some u

/-- No assumption on the state: a cell can be reached twice only with the same values, and `g u` is never
    overwritten because `u` is closed when the neighbour loop runs. -/
theorem expand_spec (e : Env C) (st : St C) (u : Cell) :
    (expand e st u).isClosed = upd st.isClosed u true ∧
    (∀ c, Kept st (expand e st u) u c ∨ Reached e st (expand e st u) u c) ∧
    ∀ c, Adj e u c → Free e c → upd st.isClosed u true c = false →
      (expand e st u).isOpen c = true ∧
      ((expand e st u).g c = e.ops.add (st.g u) (e.ops.step u c) ∨
        e.ops.lt ((expand e st u).g c) (e.ops.add (st.g u) (e.ops.step u c)) = true) := by
  have hgu : ∀ s : St C, (Kept st s u u ∨ Reached e st s u u) → s.g u = st.g u := by
    rintro s (h | h)
    · exact h.g_eq
    · exact absurd h.notClosed (by simp)
  obtain ⟨⟨h1, h2⟩, h3⟩ := foldl_inv (relax e u)
    (fun s => s.isClosed = upd st.isClosed u true ∧ ∀ c, Kept st s u c ∨ Reached e st s u c)
    (fun off s => Free e (u.1 + off.1, u.2 + off.2) →
      upd st.isClosed u true (u.1 + off.1, u.2 + off.2) = false →
      s.isOpen (u.1 + off.1, u.2 + off.2) = true ∧
      (s.g (u.1 + off.1, u.2 + off.2) = e.ops.add (st.g u) (e.ops.step u (u.1 + off.1, u.2 + off.2)) ∨
        e.ops.lt (s.g (u.1 + off.1, u.2 + off.2))
          (e.ops.add (st.g u) (e.ops.step u (u.1 + off.1, u.2 + off.2))) = true))
    e.nbrs (close st u) ⟨rfl, fun c => Or.inl ⟨rfl, rfl, rfl, rfl⟩⟩
    (by
      intro b a ha ⟨p1, p2⟩
      have hg := hgu b (p2 u)
      constructor
      · rcases relax_cases e u b a with h | ⟨hin, hcr, hncl, hnot, h⟩
        · rw [h]; exact ⟨p1, p2⟩
        · rw [h, hg, relaxed]
          rw [hg] at hnot
          generalize hv : ((u.1 + a.1, u.2 + a.2) : Cell) = v at *
          refine ⟨p1, fun c => ?_⟩
          by_cases hcv : c = v
          · subst hcv
            have hnk : ¬ (upd st.isOpen u false c = true ∧
                e.ops.lt (st.g c) (e.ops.add (st.g u) (e.ops.step u c)) = true) := by
              rcases p2 c with k | r
              · rw [← k.isOpen_eq, ← k.g_eq]; exact hnot
              · exact r.notBeaten
            exact Or.inr ⟨⟨a, ha, hv.symm⟩, ⟨hin, hcr⟩, p1 ▸ hncl, hnk, upd_same _ _ _, upd_same _ _ _,
              by simp only [upd_same], upd_same _ _ _⟩
          · -- another cell than the relaxed one has its four entries of `b`, and `Kept`, `Reached` look at no others
            have hsame : ∀ s : St C, s.isOpen c = b.isOpen c → s.g c = b.g c → s.f c = b.f c →
                s.parent c = b.parent c → Kept st s u c ∨ Reached e st s u c := fun s h1 h2 h3 h4 =>
              (p2 c).imp (fun k => ⟨h1.trans k.isOpen_eq, h2.trans k.g_eq, h3.trans k.f_eq, h4.trans k.parent_eq⟩)
                (fun r => ⟨r.adj, r.free, r.notClosed, r.notBeaten, h1.trans r.isOpen, h2.trans r.g_eq,
                  by rw [h3, h2]; exact r.f_eq, h4.trans r.parent_eq⟩)
            exact hsame _ (upd_other _ _ hcv) (upd_other _ _ hcv) (upd_other _ _ hcv) (upd_other _ _ hcv)
      · intro hf hncl
        rcases relax_target e u b a hf (p1 ▸ hncl) with ⟨q1, q2, q3⟩ | ⟨_, q3⟩
        · rw [q3]; rw [hg] at q2; exact ⟨q1, Or.inr q2⟩
        · rw [q3, hg, relaxed]; simp only [upd_same, true_or, and_self])
    (by
      intro b a a' _ ⟨p1, p2⟩ hq hf hncl
      rcases relax_cases e u b a' with h | ⟨_, _, _, _, h⟩
      · rw [h]; exact hq hf hncl
      · rw [h, hgu b (p2 u), relaxed]
        by_cases hvv : ((u.1 + a.1, u.2 + a.2) : Cell) = (u.1 + a'.1, u.2 + a'.2)
        · rw [← hvv]; simp only [upd_same, true_or, and_self]
        · simp only [upd_other _ _ hvv]; exact hq hf hncl)
  refine ⟨h1, h2, ?_⟩
  rintro c ⟨off, hoff, rfl⟩ hf hncl
  exact h3 off hoff hf hncl

theorem kept_of_closed (e : Env C) {st : St C} {u c : Cell} (h : upd st.isClosed u true c = true) :
    Kept st (expand e st u) u c := by
  rcases (expand_spec e st u).2.1 c with k | r
  · exact k
  · rw [r.notClosed] at h; cases h

theorem seen_expand (e : Env C) {st : St C} (u : Cell) {c : Cell} (h : seen st c) :
    seen (expand e st u) c := by
  obtain ⟨h1, h2, _⟩ := expand_spec e st u
  by_cases hcu : c = u
  · right; rw [h1, hcu]; exact upd_same _ _ _
  · rcases h with h | h
    · left
      rcases h2 c with k | r
      · rw [k.isOpen_eq, upd_other _ _ hcu]; exact h
      · exact r.isOpen
    · right; rw [h1]; exact upd_true_mono h

theorem seen_of_kept {e : Env C} {st : St C} {u c : Cell} (hu : st.isOpen u = true)
    (k : Kept st (expand e st u) u c) (hs : seen (expand e st u) c) : seen st c := by
  by_cases hcu : c = u
  · rw [hcu]; exact Or.inl hu
  · rcases hs with h | h
    · rw [k.isOpen_eq] at h; exact Or.inl (of_upd_false h).2
    · rw [(expand_spec e st u).1, upd_other _ _ hcu] at h; exact Or.inr h

theorem core_expand {e : Env C} {st : St C} {u : Cell} (hc : Core e st) (hu : st.isOpen u = true) :
    Core e (expand e st u) := by
  obtain ⟨h1, h2, _⟩ := expand_spec e st u
  have hkept : ∀ c, upd st.isClosed u true c = true → Kept st (expand e st u) u c := fun c => kept_of_closed e
  have hstart : upd st.isClosed u true e.start = true := by
    rcases hc.start_first u (Or.inl hu) with h | h
    · rw [← h]; exact upd_same _ _ _
    · exact upd_true_mono h
  -- the chain of a kept cell runs through closed cells, which are kept too: it is still its chain
  have hchain : ∀ c, seen st c → Kept st (expand e st u) u c →
      ∃ n l, walk (expand e st u).parent e.start n c = some l ∧ IsChain e (expand e st u).g l ∧
        ∀ x ∈ l.tail, (expand e st u).isClosed x = true := by
    intro c hs k
    obtain ⟨n, l, hw, hch, ht⟩ := hc.chain c hs
    obtain ⟨t, rfl⟩ := walk_head hw
    have hk : ∀ x ∈ c :: t, Kept st (expand e st u) u x := by
      intro x hx
      rcases List.mem_cons.mp hx with rfl | hx
      · exact k
      · exact hkept x (upd_true_mono (ht x hx))
    exact ⟨n, c :: t, walk_congr hw (fun x hx => (hk x hx).parent_eq),
      IsChain.congr (fun x hx => (hk x hx).g_eq) hch, fun x hx => by rw [h1]; exact upd_true_mono (ht x hx)⟩
  refine ⟨?_, ?_, ?_, ?_, fun c _ => Or.inr (by rw [h1]; exact hstart),
    fun h => seen_expand e u (hc.start_seen h)⟩
  · intro c h
    rcases h2 c with k | r
    · rw [k.isOpen_eq] at h; exact hc.open_free c (of_upd_false h).2
    · exact r.free
  · intro c h
    rw [h1]
    rcases h2 c with k | r
    · rw [k.isOpen_eq] at h
      rw [upd_other _ _ (of_upd_false h).1]; exact hc.open_not_closed c (of_upd_false h).2
    · exact r.notClosed
  · intro c h
    rw [h1] at h
    by_cases hcu : c = u
    · rw [hcu]; exact hc.open_free u hu
    · rw [upd_other _ _ hcu] at h; exact hc.closed_free c h
  · intro c hs
    rcases h2 c with k | r
    · exact hchain c (seen_of_kept hu k hs) k
    · -- a reached cell hangs below `u`, whose chain is kept
      have ku := hkept u (upd_same _ _ _)
      obtain ⟨n, l, hw, hch, ht⟩ := hchain u (Or.inl hu) ku
      obtain ⟨tu, rfl⟩ := walk_head hw
      have hcs : c ≠ e.start := fun h => by have := r.notClosed; rw [h, hstart] at this; cases this
      refine ⟨n + 1, c :: u :: tu, walk_succ.mpr (Or.inr ⟨hcs, u, _, r.parent_eq, hw, rfl⟩), ?_, ?_⟩
      · simp only [IsChain]
        exact ⟨⟨r.adj, by rw [r.g_eq, ku.g_eq]⟩, hch⟩
      · intro x hx
        rcases List.mem_cons.mp hx with rfl | hx
        · rw [h1]; exact upd_same _ _ _
        · exact ht x hx

structure Inv (e : Env C) (st : St C) : Prop where
  core : Core e st
  frontier : Frontier e st
  goal_not_closed : st.isClosed e.goal = false

theorem inv_init (e : Env C) (hs : inside e.h e.w e.start = true) : Inv e (init e) := by
  refine ⟨core_init e hs, ?_, ?_⟩
  · intro u hu; rw [init_isClosed] at hu; cases hu
  · exact init_isClosed e _

theorem inv_expand {e : Env C} {st : St C} {u : Cell} (hi : Inv e st) (hu : st.isOpen u = true)
    (hug : u ≠ e.goal) : Inv e (expand e st u) := by
  obtain ⟨h1, _, h3⟩ := expand_spec e st u
  refine ⟨core_expand hi.core hu, ?_, ?_⟩
  · intro x hx v hadj hfree
    rw [h1] at hx
    by_cases hxu : x = u
    · subst hxu
      cases hv : upd st.isClosed x true v with
      | true => exact Or.inr (h1 ▸ hv)
      | false => exact Or.inl (h3 v hadj hfree hv).1
    · rw [upd_other _ _ hxu] at hx
      exact seen_expand e u (hi.frontier x hx v hadj hfree)
  · rw [h1, upd_other _ _ (Ne.symm hug)]; exact hi.goal_not_closed

/-! ### `_min_cost_pixel_id` returns an open cell of the raster -/

theorem minStep_eq (e : Env C) (st : St C) :
    minStep e st = fun b x =>
      if st.isOpen x = true then if e.ops.lt (st.f x) b.2 = true then (some x, st.f x) else b else b := by
  funext b x
  unfold minStep
  cases st.isOpen x <;> cases e.ops.lt (st.f x) b.2 <;> rfl

theorem minCostOpen_some {e : Env C} {st : St C} {u : Cell} (h : minCostOpen e st = some u) :
    inside e.h e.w u = true ∧ st.isOpen u = true := by
  unfold minCostOpen at h
  rw [minStep_eq] at h
  rcases (foldl_pick_keyed (fun b y : Option Cell × C => e.ops.lt y.2 b.2 = true) (fun _ _ => True)
      (fun _ => trivial) (fun _ _ => trivial) (fun _ => trivial) (fun _ => trivial)
      st.isOpen (fun x => (some x, st.f x)) (cells e.h e.w) (none, e.ops.big e.h e.w)).1 with h' | ⟨x, hx, hk, h'⟩
  · rw [h'] at h; cases h
  · rw [h'] at h; cases h; exact ⟨mem_cells.mp hx, hk⟩

theorem anyOpen_false {e : Env C} {st : St C} (hc : Core e st) (h : anyOpen e st = false) :
    ∀ c, st.isOpen c = false := by
  intro c
  cases hop : st.isOpen c with
  | false => rfl
  | true => exact absurd hop (List.any_eq_false.mp h c (mem_cells.mpr (hc.open_free c hop).1))

/-! ### termination: every iteration closes a cell that was not closed -/

def remaining (e : Env C) (st : St C) : Nat := (cells e.h e.w).countP (fun c => !st.isClosed c)

theorem countP_lt_of_flip {p q : Cell → Bool} (hpq : ∀ x, q x = true → p x = true) {u : Cell} :
    ∀ {l : List Cell}, u ∈ l → p u = true → q u = false → l.countP q < l.countP p
  | [], h, _, _ => by simp at h
  | x :: l, h, hp, hq => by
    have hle : l.countP q ≤ l.countP p := List.countP_mono_left (fun y _ hy => hpq y hy)
    simp only [List.countP_cons]
    rcases List.mem_cons.mp h with rfl | h
    · simp [hp, hq]; omega
    · have := countP_lt_of_flip hpq h hp hq
      by_cases hqx : q x = true
      · simp [hqx, hpq x hqx]; omega
      · simp [hqx]; omega

theorem remaining_expand {e : Env C} {st : St C} {u : Cell} (hc : Core e st) (hu : st.isOpen u = true) :
    remaining e (expand e st u) < remaining e st := by
  unfold remaining
  rw [(expand_spec e st u).1]
  refine countP_lt_of_flip (u := u) ?_ (mem_cells.mpr (hc.open_free u hu).1) ?_ ?_
  · intro x hx
    cases h : st.isClosed x with
    | false => rfl
    | true => rw [upd_true_mono h] at hx; cases hx
  · simp [hc.open_not_closed u hu]
  · simp

/-! ### the loop, with an extra invariant `J` supplied by the caller -/

theorem loop_spec (e : Env C) (J : St C → Prop)
    (hJ : ∀ st u, Inv e st → J st → minCostOpen e st = some u → u ≠ e.goal → J (expand e st u)) :
    ∀ (n : Nat) (st : St C), Inv e st → J st → remaining e st < n →
      match loop e n st with
      | .found st' => ∃ st0, Inv e st0 ∧ J st0 ∧ minCostOpen e st0 = some e.goal ∧ st' = close st0 e.goal
      | .exhausted st' => Inv e st' ∧ J st' ∧ ∀ c, st'.isOpen c = false
      | .sentinel st' => Inv e st' ∧ J st' ∧ anyOpen e st' = true ∧ minCostOpen e st' = none
      | .fuel _ => False
  | 0, st, _, _, hr => by omega
  | n + 1, st, hi, hj, hr => by
    unfold loop
    by_cases hany : anyOpen e st = true
    · simp only [hany, Bool.not_true, Bool.false_eq_true, if_false]
      cases hmin : minCostOpen e st with
      | none => exact ⟨hi, hj, hany, hmin⟩
      | some u =>
        simp only
        by_cases hug : u = e.goal
        · simp only [hug, if_true]
          exact ⟨st, hi, hj, hug ▸ hmin, rfl⟩
        · simp only [hug, if_false]
          have hu := (minCostOpen_some hmin).2
          exact loop_spec e J hJ n (expand e st u) (inv_expand hi hu hug) (hJ st u hi hj hmin hug)
            (by have := remaining_expand hi.core hu; omega)
    · have hany' : anyOpen e st = false := by simpa using hany
      simp only [hany', Bool.not_false, if_true]
      exact ⟨hi, hj, anyOpen_false hi.core hany'⟩

theorem remaining_le (e : Env C) (st : St C) : remaining e st ≤ e.h * e.w :=
  countP_cells_le _ _ _

/-- the non-NaN cells of a result: a duplicate-free chain of crossable cells from `goal` back to
    `start`, linked by allowed steps, each carrying its predecessor's value plus the step length -/
structure ValidPath (e : Env C) (chain : List Cell) (g : Cell → C) : Prop where
  head : chain.head? = some e.goal
  last : chain.getLast? = some e.start
  links : IsChain e g chain
  free : ∀ x ∈ chain, Free e x
  nodup : chain.Nodup

theorem closed_of_route {e : Env C} {st : St C} (hi : Inv e st) (hno : ∀ c, st.isOpen c = false)
    {v : Cell} {l : C} (hr : Route e v l) : st.isClosed v = true := by
  induction hr with
  | start hf =>
    rcases hi.core.start_seen hf with h | h
    · rw [hno] at h; cases h
    · exact h
  | step _ hadj hf ih =>
    rcases hi.frontier _ ih _ hadj hf with h | h
    · rw [hno] at h; cases h
    · exact h

theorem search_spec (e : Env C) (hs : inside e.h e.w e.start = true) (J : St C → Prop)
    (hJ : ∀ st u, Inv e st → J st → minCostOpen e st = some u → u ≠ e.goal → J (expand e st u))
    (hJ0 : J (init e)) :
    match search e with
    | .path chain g => ValidPath e chain g ∧
        ∃ st0, Inv e st0 ∧ J st0 ∧ minCostOpen e st0 = some e.goal ∧ g = st0.g
    | .noPath => ∀ l, ¬ Route e e.goal l
    | .anomaly _ => ∃ st', Inv e st' ∧ J st' ∧ anyOpen e st' = true ∧ minCostOpen e st' = none := by
  have hl := loop_spec e J hJ (e.h * e.w + 1) (init e) (inv_init e hs) hJ0
    (by have := remaining_le e (init e); omega)
  unfold search
  cases hloop : loop e (e.h * e.w + 1) (init e) with
  | found st' =>
    rw [hloop] at hl
    obtain ⟨st0, hi, hj, hmin, rfl⟩ := hl
    have hopen := (minCostOpen_some hmin).2
    obtain ⟨n, l, hw, hch, ht⟩ := hi.core.chain e.goal (Or.inl hopen)
    obtain ⟨t, rfl⟩ := walk_head hw
    have hfree : ∀ x ∈ e.goal :: t, Free e x := by
      intro x hx
      rcases List.mem_cons.mp hx with rfl | hx
      · exact hi.core.open_free _ hopen
      · exact hi.core.closed_free x (ht x (by simpa using hx))
    have hnd := walk_nodup hw
    have hlen : (e.goal :: t).length ≤ e.h * e.w := by
      rw [← length_cells]
      exact hnd.length_le_of_subset fun x hx => mem_cells.mpr (hfree x hx).1
    have hw' : walk (close st0 e.goal).parent e.start (e.h * e.w) e.goal = some (e.goal :: t) :=
      walk_mono (walk_length_fuel hw) hlen
    simp only [hw']
    exact ⟨⟨by simp, walk_last hw, hch, hfree, hnd⟩, st0, hi, hj, hmin, rfl⟩
  | exhausted st' =>
    rw [hloop] at hl
    obtain ⟨hi, _, hno⟩ := hl
    intro l hr
    have := closed_of_route hi hno hr
    rw [hi.goal_not_closed] at this; cases this
  | sentinel st' =>
    rw [hloop] at hl
    exact ⟨st', hl⟩
  | fuel st' =>
    rw [hloop] at hl; exact hl.elim

end XrsVerif.AStar
