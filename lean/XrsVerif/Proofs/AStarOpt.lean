import XrsVerif.Proofs.AStarInv
import Mathlib.Tactic.Ring
import Mathlib.Tactic.Linarith
import Mathlib.Tactic.Positivity
/-
  Optimality of the A* loop over exact arithmetic: costs in an arbitrary linearly ordered field
  `K`, step lengths `wt`, heuristic `hh`; the only assumption for optimality is that the
  heuristic is consistent (`hh u ≤ wt u v + hh v` along every allowed step).
-/
set_option linter.unusedSectionVars false
namespace XrsVerif.AStar
variable {K : Type} [Field K] [LinearOrder K] [IsStrictOrderedRing K]

/-- exact arithmetic in `K`; `big` is the sentinel `(height + width)^2` -/
def fieldOps (wt hh : Cell → Cell → K) : Ops K where
  zero := 0
  add := (· + ·)
  lt a b := decide (a < b)
  step := wt
  heur := hh
  big h w := ((h : K) + (w : K)) * ((h : K) + (w : K))

def Exact (e : Env K) (wt hh : Cell → Cell → K) : Prop := e.ops = fieldOps wt hh

def Consistent (e : Env K) (wt hh : Cell → Cell → K) : Prop :=
  ∀ u v, Free e u → Free e v → Adj e u v → hh u e.goal ≤ wt u v + hh v e.goal

section
variable {e : Env K} {wt hh : Cell → Cell → K}

theorem Exact.add (hx : Exact e wt hh) (a b : K) : e.ops.add a b = a + b := by rw [hx]; rfl
theorem Exact.lt (hx : Exact e wt hh) (a b : K) : e.ops.lt a b = true ↔ a < b := by
  rw [hx]; exact decide_eq_true_iff
theorem Exact.step (hx : Exact e wt hh) (u v : Cell) : e.ops.step u v = wt u v := by rw [hx]; rfl
theorem Exact.heur (hx : Exact e wt hh) (u v : Cell) : e.ops.heur u v = hh u v := by rw [hx]; rfl

theorem route_free {C : Type} {e : Env C} {v : Cell} {l : C} (h : Route e v l) : Free e v := by
  cases h with
  | start hf => exact hf
  | step _ _ hf => exact hf

/-! ### `_min_cost_pixel_id` over a linear order: an argmin, or nothing below the sentinel -/

theorem minCostOpen_spec (hx : Exact e wt hh) (st : St K) :
    ∃ m : K, (∀ u, minCostOpen e st = some u → m = st.f u) ∧
      (minCostOpen e st = none → m = e.ops.big e.h e.w) ∧
      ∀ y, inside e.h e.w y = true → st.isOpen y = true → m ≤ st.f y := by
  unfold minCostOpen
  rw [minStep_eq]
  obtain ⟨h1, _, h3⟩ := foldl_pick_keyed (fun b y : Option Cell × K => e.ops.lt y.2 b.2 = true)
    (fun b r => r.2 ≤ b.2) (fun _ => le_refl _) (fun h h' => le_trans h' h)
    (fun h => le_of_lt ((hx.lt _ _).mp h)) (fun h => not_lt.mp fun h' => h ((hx.lt _ _).mpr h'))
    st.isOpen (fun x => (some x, st.f x)) (cells e.h e.w) (none, e.ops.big e.h e.w)
  refine ⟨_, fun u hu => ?_, fun hn => ?_, fun y hy ho => h3 y (mem_cells.mpr hy) ho⟩
  · rcases h1 with h1 | ⟨x, _, _, h1⟩
    · rw [h1] at hu; cases hu
    · rw [h1] at hu ⊢; cases hu; rfl
  · rcases h1 with h1 | ⟨x, _, _, h1⟩
    · rw [h1]
    · rw [h1] at hn; cases hn

theorem minCostOpen_le (hx : Exact e wt hh) {st : St K} {u : Cell} (h : minCostOpen e st = some u)
    {y : Cell} (hy : inside e.h e.w y = true) (hop : st.isOpen y = true) : st.f u ≤ st.f y := by
  obtain ⟨m, h1, _, h3⟩ := minCostOpen_spec hx st
  rw [← h1 u h]; exact h3 y hy hop

/-- `(NONE, NONE)`: no open cell is below the sentinel -/
theorem minCostOpen_none (hx : Exact e wt hh) {st : St K} (h : minCostOpen e st = none)
    {y : Cell} (hy : inside e.h e.w y = true) (hop : st.isOpen y = true) :
    e.ops.big e.h e.w ≤ st.f y := by
  obtain ⟨m, _, h2, h3⟩ := minCostOpen_spec hx st
  rw [← h2 h]; exact h3 y hy hop

structure JK (e : Env K) (wt hh : Cell → Cell → K) (st : St K) : Prop where
  /-- a closed cell carries the length of a shortest route -/
  closed_opt : ∀ u, st.isClosed u = true → ∀ l, Route e u l → st.g u ≤ l
  /-- every crossable, not yet closed neighbour of a closed cell is open and relaxed -/
  relaxed : ∀ u, st.isClosed u = true → ∀ v, Adj e u v → Free e v → st.isClosed v = false →
    st.isOpen v = true ∧ st.g v ≤ st.g u + wt u v
  f_def : ∀ v, st.isOpen v = true → st.f v = st.g v + hh v e.goal

theorem g_start {C : Type} {e : Env C} {st : St C} (hc : Core e st) (h : seen st e.start) :
    st.g e.start = e.ops.zero := by
  obtain ⟨n, l, hw, hch, _⟩ := hc.chain e.start h
  have : walk st.parent e.start 1 e.start = some [e.start] := by simp [walk]
  have := walk_det hw this
  subst this
  simp only [IsChain] at hch
  exact hch.2

theorem frontier_bound (hx : Exact e wt hh) (hcons : Consistent e wt hh) {st : St K}
    (hi : Inv e st) (hj : JK e wt hh st) {v : Cell} {l : K} (hr : Route e v l) :
    st.isClosed v = false → ∃ y, st.isOpen y = true ∧ st.f y ≤ l + hh v e.goal := by
  induction hr with
  | start hf =>
    intro hncl
    have hseen := hi.core.start_seen hf
    have hop : st.isOpen e.start = true := by
      rcases hseen with h | h
      · exact h
      · rw [h] at hncl; cases hncl
    refine ⟨e.start, hop, ?_⟩
    rw [hj.f_def _ hop, g_start hi.core hseen]
  | @step u v l hr hadj hf ih =>
    intro hncl
    rw [hx.add, hx.step]
    by_cases hcu : st.isClosed u = true
    · obtain ⟨hop, hg⟩ := hj.relaxed u hcu v hadj hf hncl
      refine ⟨v, hop, ?_⟩
      rw [hj.f_def _ hop]
      have := hj.closed_opt u hcu l hr
      linarith
    · obtain ⟨y, hy, hfy⟩ := ih (by simpa using hcu)
      refine ⟨y, hy, ?_⟩
      have := hcons u v (route_free hr) hf hadj
      linarith

/-- the cell `_min_cost_pixel_id` picks already carries the length of a shortest route -/
theorem pop_optimal (hx : Exact e wt hh) (hcons : Consistent e wt hh) {st : St K}
    (hi : Inv e st) (hj : JK e wt hh st) {u : Cell} (hmin : minCostOpen e st = some u) :
    ∀ l, Route e u l → st.g u ≤ l := by
  intro l hr
  have hop := (minCostOpen_some hmin).2
  obtain ⟨y, hy, hfy⟩ := frontier_bound hx hcons hi hj hr (hi.core.open_not_closed u hop)
  have hle := minCostOpen_le hx hmin (hi.core.open_free y hy).1 hy
  rw [hj.f_def u hop] at hle
  linarith

theorem f_def_expand (hx : Exact e wt hh) {st : St K} (u : Cell)
    (h : ∀ v, st.isOpen v = true → st.f v = st.g v + hh v e.goal) :
    ∀ v, (expand e st u).isOpen v = true → (expand e st u).f v = (expand e st u).g v + hh v e.goal := by
  intro v hv
  rcases (expand_spec e st u).2.1 v with k | r
  · rw [k.isOpen_eq] at hv; rw [k.f_eq, k.g_eq]; exact h v (of_upd_false hv).2
  · rw [r.f_eq, hx.add, hx.heur]

theorem jk_expand (hx : Exact e wt hh) (hcons : Consistent e wt hh) {st : St K}
    (hi : Inv e st) (hj : JK e wt hh st) {u : Cell} (hmin : minCostOpen e st = some u) :
    JK e wt hh (expand e st u) := by
  obtain ⟨h1, h2, h3⟩ := expand_spec e st u
  have hg : ∀ c, upd st.isClosed u true c = true → (expand e st u).g c = st.g c :=
    fun c hc => (kept_of_closed e hc).g_eq
  refine ⟨?_, ?_, f_def_expand hx u hj.f_def⟩
  · intro c hc l hr
    rw [h1] at hc
    rw [hg c hc]
    by_cases hcu : c = u
    · subst hcu; exact pop_optimal hx hcons hi hj hmin l hr
    · rw [upd_other _ _ hcu] at hc
      exact hj.closed_opt c hc l hr
  · intro x hxc v hadj hf hvn
    rw [h1] at hxc hvn
    rw [hg x hxc]
    by_cases hxu : x = u
    · subst hxu
      obtain ⟨q1, q2⟩ := h3 v hadj hf hvn
      rw [hx.add, hx.step] at q2
      rcases q2 with q2 | q2
      · exact ⟨q1, le_of_eq q2⟩
      · exact ⟨q1, le_of_lt ((hx.lt _ _).mp q2)⟩
    · have hxc' : st.isClosed x = true := by rwa [upd_other _ _ hxu] at hxc
      have hvu : v ≠ u := fun h => by rw [h, upd_same] at hvn; cases hvn
      have hvn' : st.isClosed v = false := by rwa [upd_other _ _ hvu] at hvn
      obtain ⟨r1, r2⟩ := hj.relaxed x hxc' v hadj hf hvn'
      rcases h2 v with k | r
      · rw [k.isOpen_eq, k.g_eq, upd_other _ _ hvu]; exact ⟨r1, r2⟩
      · -- `v` was open before and its old entry lost the comparison
        have hnk := r.notBeaten
        rw [upd_other _ _ hvu] at hnk
        rw [r.g_eq]
        exact ⟨r.isOpen, le_trans (not_lt.mp fun hlt => hnk ⟨r1, (hx.lt _ _).mpr hlt⟩) r2⟩

theorem jk_init (hx : Exact e wt hh) : JK e wt hh (init e) := by
  refine ⟨?_, ?_, ?_⟩
  · intro u hu; rw [init_isClosed] at hu; cases hu
  · intro u hu; rw [init_isClosed] at hu; cases hu
  · intro v hv
    obtain ⟨rfl, _, hf⟩ := init_isOpen hv
    rw [hf, init_g, hx]; rfl

/-! ### the sentinel `(h + w)^2` is above every cost the loop can produce -/

def closedCount (e : Env K) (st : St K) : Nat := (cells e.h e.w).countP st.isClosed

/-- after `k` expansions no listed cell is farther than `k` longest steps -/
def JB (e : Env K) (s : K) (st : St K) : Prop := ∀ v, seen st v → st.g v ≤ s * (closedCount e st : K)

theorem jb_init (hx : Exact e wt hh) (s : K) : JB e s (init e) := by
  intro v _
  have h0 : closedCount e (init e) = 0 := by simp [closedCount, init_isClosed]
  have hg : (init e).g v = 0 := by rw [init_g, hx]; rfl
  rw [h0, hg]; simp

theorem closedCount_expand {st : St K} {u : Cell} (hc : Core e st) (hu : st.isOpen u = true) :
    closedCount e st < closedCount e (expand e st u) := by
  unfold closedCount
  rw [(expand_spec e st u).1]
  exact countP_lt_of_flip (u := u) (fun x => upd_true_mono) (mem_cells.mpr (hc.open_free u hu).1) (by simp)
    (hc.open_not_closed u hu)

theorem jb_expand (hx : Exact e wt hh) {s : K} (hs0 : 0 ≤ s) (hwt : ∀ u v, Adj e u v → wt u v ≤ s)
    {st : St K} (hi : Inv e st) (hj : JB e s st) {u : Cell} (hu : st.isOpen u = true) :
    JB e s (expand e st u) := by
  intro v hv
  -- one more cell is closed, which pays for one more step
  have hcc : (closedCount e st : K) + 1 ≤ (closedCount e (expand e st u) : K) := by
    exact_mod_cast closedCount_expand hi.core hu
  have hstep : s * (closedCount e st : K) + s ≤ s * (closedCount e (expand e st u) : K) := by
    rw [← mul_add_one]; exact mul_le_mul_of_nonneg_left hcc hs0
  rcases (expand_spec e st u).2.1 v with k | r
  · rw [k.g_eq]
    exact le_trans (hj v (seen_of_kept hu k hv)) (le_trans (le_add_of_nonneg_right hs0) hstep)
  · rw [r.g_eq, hx.add, hx.step]
    exact le_trans (add_le_add (hj u (Or.inl hu)) (hwt u v r.adj)) hstep

/-- `_min_cost_pixel_id` cannot come back empty-handed while a cell is open -/
theorem no_sentinel (hx : Exact e wt hh) {s : K} (hs0 : 0 ≤ s) (hs2 : s < 2)
    (hhb : ∀ v, Free e v → hh v e.goal ≤ (e.h : K) + (e.w : K))
    {st : St K} (hi : Inv e st) (hj : JB e s st)
    (hf : ∀ v, st.isOpen v = true → st.f v = st.g v + hh v e.goal) (hany : anyOpen e st = true)
    (hmin : minCostOpen e st = none) : False := by
  obtain ⟨y, hy, hop⟩ := List.any_eq_true.mp hany
  have hin := mem_cells.mp hy
  have hbig := minCostOpen_none hx hmin hin hop
  rw [hf y hop] at hbig
  have hg := hj y (Or.inl hop)
  have hh' := hhb y (hi.core.open_free y hop)
  have hcc : (closedCount e st : K) ≤ (e.h : K) * (e.w : K) := by
    exact_mod_cast countP_cells_le e.h e.w st.isClosed
  obtain ⟨h1, h2, h3, h4⟩ := inside_iff.mp hin
  have hH : (1 : K) ≤ (e.h : K) := by
    have : 1 ≤ e.h := by omega
    exact_mod_cast this
  have hW : (1 : K) ≤ (e.w : K) := by
    have : 1 ≤ e.w := by omega
    exact_mod_cast this
  have hbigv : e.ops.big e.h e.w = ((e.h : K) + (e.w : K)) * ((e.h : K) + (e.w : K)) := by
    rw [hx]; rfl
  rw [hbigv] at hbig
  have hHW : 0 < (e.h : K) * (e.w : K) := by positivity
  have a1 : s * (closedCount e st : K) ≤ s * ((e.h : K) * (e.w : K)) :=
    mul_le_mul_of_nonneg_left hcc hs0
  have a2 : s * ((e.h : K) * (e.w : K)) < 2 * ((e.h : K) * (e.w : K)) :=
    mul_lt_mul_of_pos_right hs2 hHW
  have a3 : (e.h : K) ≤ (e.h : K) * (e.h : K) := le_mul_of_one_le_right (Nat.cast_nonneg _) hH
  have a4 : (e.w : K) ≤ (e.w : K) * (e.w : K) := le_mul_of_one_le_right (Nat.cast_nonneg _) hW
  have a5 : ((e.h : K) + (e.w : K)) * ((e.h : K) + (e.w : K)) =
      (e.h : K) * (e.h : K) + 2 * ((e.h : K) * (e.w : K)) + (e.w : K) * (e.w : K) := by ring
  linarith

/-- **A\* over exact costs**: what `search` returns, in every case -/
theorem search_exact (hx : Exact e wt hh) (hcons : Consistent e wt hh)
    (hs : inside e.h e.w e.start = true) {s : K} (hs0 : 0 ≤ s) (hs2 : s < 2)
    (hwt : ∀ u v, Adj e u v → wt u v ≤ s)
    (hhb : ∀ v, Free e v → hh v e.goal ≤ (e.h : K) + (e.w : K)) :
    match search e with
    | .path chain g => ValidPath e chain g ∧ ∀ l, Route e e.goal l → g e.goal ≤ l
    | .noPath => ∀ l, ¬ Route e e.goal l
    | .anomaly _ => False := by
  have := search_spec e hs (fun st => JK e wt hh st ∧ JB e s st)
    (fun st u hi hj hmin _ =>
      ⟨jk_expand hx hcons hi hj.1 hmin, jb_expand hx hs0 hwt hi hj.2 (minCostOpen_some hmin).2⟩)
    ⟨jk_init hx, jb_init hx s⟩
  cases hsearch : search e with
  | path chain g =>
    rw [hsearch] at this
    obtain ⟨hv, st0, hi, hj, hmin, rfl⟩ := this
    exact ⟨hv, pop_optimal hx hcons hi hj.1 hmin⟩
  | noPath => rw [hsearch] at this; exact this
  | anomaly w =>
    rw [hsearch] at this
    obtain ⟨st', hi, hj, hany, hmin⟩ := this
    exact no_sentinel hx hs0 hs2 hhb hi hj.2 hj.1.f_def hany hmin

end
end XrsVerif.AStar
