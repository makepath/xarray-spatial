import XrsVerif.Proofs.ILAStar
/-
  Proofs/ILAStarSnap.lean -- refinement of the generated `_find_nearest_pixel` (`Gen.IL.findNearestPixel`).

  * `findNearestPixel_refines` (any `[Fl F]`, no laws): the program returns `findNearestF`, the scan of the hand
    model with the float comparison `sqrt(d²) < min_distance` the code performs (`min_distance` starts at `inf`);
  * `findNearestF_eq` : under `SqrtLt F` (`sqrt` of integers is strictly monotone and below `inf`) this is the hand
    model `AStar.findNearest` (which compares squared distances), `(-1, -1)` standing for `none`.
-/
namespace XrsVerif.IL
open XrsVerif XrsVerif.AStar
attribute [-simp] List.getD_eq_getElem?_getD
variable {F : Type} [Fl F]

/-- `np.inf` as the translator spells it -/
def flInf : F := Fl.div (Fl.lit 1 1) (Fl.lit 0 1)

/-- `_distance(c.x, c.y, p.x, p.y)` on pixel indices -/
def flDist (c p : Cell) : F := Fl.sqrt (Fl.lit (sqDist c p) 1)

/-- one iteration of the scan of `_find_nearest_pixel` with the comparison the code performs -/
def nearStepF (cross : Cell → Bool) (p : Cell) (acc : Cell × F) (c : Cell) : Cell × F :=
  if cross c && Fl.lt (flDist c p : F) acc.2 then (c, flDist c p) else acc

/-- `_find_nearest_pixel` with float comparisons; `(-1, -1)` = nothing found -/
def findNearestF (h w : Nat) (cross : Cell → Bool) (p : Cell) : Cell :=
  if cross p then p else ((cells h w).foldl (nearStepF (F := F) cross p) ((-1, -1), flInf)).1

def fnA : St := .setF "_is_not_crossable2$cell_value" (.ld2 "data" (.var "y") (.var "x"))

def fnC : St :=
  .ite (.not (.var "_is_not_crossable2$ret0"))
    (.seq (.setI "_distance3$x1" (.var "x"))
    (.seq (.setI "_distance3$y1" (.var "y"))
    (.seq (.setI "_distance3$x2" (.var "px"))
    (.seq (.setI "_distance3$y2" (.var "py"))
    (.seq (.scope (.seq (.setF "_distance3$ret0" (.un .sqrt (.ofInt (.bin .add (.bin .mul (.bin .sub (.var "_distance3$x1") (.var "_distance3$x2")) (.bin .sub (.var "_distance3$x1") (.var "_distance3$x2"))) (.bin .mul (.bin .sub (.var "_distance3$y1") (.var "_distance3$y2")) (.bin .sub (.var "_distance3$y1") (.var "_distance3$y2")))))))
    .ret))
    (.seq (.setF "d" (.var "_distance3$ret0"))
    (.ite (.cmpF .lt (.var "d") (.var "min_distance"))
      (.seq (.setF "min_distance" (.var "d"))
      (.seq (.setI "nearest_y" (.var "y"))
      (.setI "nearest_x" (.var "x"))))
      .skip)))))))
    .skip

def fnBody : St :=
  .seq fnA (.seq (.scope (ncSt "_is_not_crossable2$cell_value" "_is_not_crossable2$i" "_is_not_crossable2$ret0")) fnC)

def fnLoops : St :=
  .forRange "y" (.lit 0) (.var "height") (.lit 1) (.forRange "x" (.lit 0) (.var "width") (.lit 1) fnBody)

def fnTail : St :=
  .seq (.setI "height" (.dim "data" 0))
  (.seq (.setI "width" (.dim "data" 1))
  (.seq (.setF "min_distance" .inf)
  (.seq (.setI "nearest_y" (.lit (-1)))
  (.seq (.setI "nearest_x" (.lit (-1)))
  (.seq fnLoops
  (.seq (.setI "ret0" (.var "nearest_y"))
  (.seq (.setI "ret1" (.var "nearest_x"))
  .ret)))))))

def fnKeep : St :=
  .ite (.not (.var "_is_not_crossable1$ret0"))
    (.seq (.setI "ret0" (.var "py")) (.seq (.setI "ret1" (.var "px")) .ret)) .skip

theorem findNearestPixel_body : Gen.IL.findNearestPixel.body =
    .seq (.setF "_is_not_crossable1$cell_value" (.ld2 "data" (.var "py") (.var "px")))
    (.seq (.scope (ncSt "_is_not_crossable1$cell_value" "_is_not_crossable1$i" "_is_not_crossable1$ret0"))
    (.seq fnKeep fnTail)) := rfl

def fnI : List String := ["height", "width", "nearest_y", "nearest_x", "y", "x", "_distance3$x1", "_distance3$y1",
  "_distance3$x2", "_distance3$y2", "ret0", "ret1"]
def fnF : List String := ["_is_not_crossable1$cell_value", "_is_not_crossable1$i", "_is_not_crossable2$cell_value",
  "_is_not_crossable2$i", "min_distance", "d", "_distance3$ret0"]
def fnB : List String := ["_is_not_crossable1$ret0", "_is_not_crossable2$ret0"]

/-- the inputs of `_find_nearest_pixel`: `data` is an `h × w` raster, `cross` its crossability -/
structure FnAbs (h w : Nat) (cross : Cell → Bool) (s : State F) : Prop where
  sd : s.shp "data" = [h, w]
  sb : (s.shp "barriers").length = 1
  cross : ∀ c, inside h w c = true → cross c = !notCross ((s.fa "data").getD (cidx w c) Fl.nan) (s.fa "barriers")

/-- what the scan computes: the nearest cell so far and its distance -/
structure FnInv (st : State F) (acc : Cell × F) : Prop where
  pos : (st.ienv "nearest_y", st.ienv "nearest_x") = acc.1
  md : st.fenv "min_distance" = acc.2

theorem fn_body (h w : Nat) (cross : Cell → Bool) (s : State F) (habs : FnAbs h w cross s) (fuel : Nat)
    (i j : Nat) (hi : i < h) (hj : j < w) (st : State F) (hst : st.ctl = .run) (acc : Cell × F)
    (hfa : st.fa = s.fa) (hshp : st.shp = s.shp) (hpy : st.ienv "py" = s.ienv "py") (hpx : st.ienv "px" = s.ienv "px")
    (hinv : FnInv st acc) (hy : st.ienv "y" = (i : Int)) (hx : st.ienv "x" = (j : Int)) :
    let r := exec fuel fnBody st
    r.ctl = .run ∧ FnInv r (nearStepF cross (s.ienv "py", s.ienv "px") acc ((i : Int), (j : Int))) := by
  have hin := inside_nat h w i j hi hj
  obtain ⟨z, hz⟩ := crossCall_exec "_is_not_crossable2$cell_value" "_is_not_crossable2$i" "_is_not_crossable2$ret0"
    "y" "x" (by simp) fnC fuel st hst h w (by rw [hshp, habs.sd]) (by rw [hshp, habs.sb]) _ hin hy hx _ rfl
  intro r
  show (exec fuel fnBody st).ctl = .run ∧ FnInv (exec fuel fnBody st) _
  rw [fnBody, fnA, hz]
  simp only [nearStepF, habs.cross _ hin, cidx_nat, ← hinv.md, hfa]
  by_cases c1 : notCross ((s.fa "data").getD (i * w + j) Fl.nan) (s.fa "barriers") = true
  · simp [il, fnC, c1, hst]
    exact ⟨by simp [hinv.pos], by simp [setS_apply, hinv.md]⟩
  · by_cases c2 : Fl.lt (flDist ((i : Int), (j : Int)) (s.ienv "py", s.ienv "px") : F) (st.fenv "min_distance") = true
    · simp only [c2]
      simp only [flDist, sqDist] at c2 ⊢
      simp [il, fnC, c1, c2, hst, hy, hx, hpy, hpx]
      exact ⟨by simp [setS_apply], by simp⟩
    · simp only [c2]
      simp only [flDist, sqDist] at c2 ⊢
      simp [il, fnC, c1, c2, hst, hy, hx, hpy, hpx]
      exact ⟨by simp [setS_apply, hinv.pos], by simp [setS_apply, hinv.md]⟩

/-- the scan; `st` is the state in front of the loops, `s` the one the function was called in -/
theorem fn_loops (h w : Nat) (cross : Cell → Bool) (s : State F) (habs : FnAbs h w cross s) (fuel : Nat)
    (st : State F) (hst : st.ctl = .run) (acc : Cell × F) (hfa : st.fa = s.fa) (hshp : st.shp = s.shp)
    (hpy : st.ienv "py" = s.ienv "py") (hpx : st.ienv "px" = s.ienv "px") (hh : st.ienv "height" = (h : Int))
    (hw : st.ienv "width" = (w : Int)) (hinv : FnInv st acc) :
    (exec fuel fnLoops st).ctl = .run ∧
    FnInv (exec fuel fnLoops st) ((cells h w).foldl (nearStepF cross (s.ienv "py", s.ienv "px")) acc) :=
  Fc.exec_for2_sim fuel "y" "x" (.var "height") (.var "width") fnBody h w (fun i j => ((i : Int), (j : Int)))
    (nearStepF cross (s.ienv "py", s.ienv "px")) FnInv st hst (by simp) (by decide)
    (fun _ _ _ hi => ⟨hi.pos, hi.md⟩) (fun _ _ _ hi => ⟨hi.pos, hi.md⟩)
    ⟨rfl, hh⟩ (fun _ hM => ⟨rfl, (hM.ienv "width" (by decide)).trans hw⟩)
    (fun st' a i j hi hj hc hM hy hx hinv =>
      fn_body h w cross s habs fuel i j hi hj st' hc a (hM.fa_eq.trans hfa) (hM.shp_eq.trans hshp)
        ((hM.ienv "py" (by decide)).trans hpy) ((hM.ienv "px" (by decide)).trans hpx) hinv hy hx)
    acc hinv

/-- the part of `_find_nearest_pixel` after the early return: the scan -/
theorem fn_tail (h w : Nat) (cross : Cell → Bool) (s : State F) (habs : FnAbs h w cross s) (fuel : Nat)
    (st : State F) (hst : st.ctl = .run) (hfr : Frame fnI fnF fnB s st) :
    let r := exec fuel fnTail st
    r.ctl = .ret ∧ Frame fnI fnF fnB s r ∧ (r.ienv "ret0", r.ienv "ret1") =
      ((cells h w).foldl (nearStepF cross (s.ienv "py", s.ienv "px")) ((-1, -1), (flInf : F))).1 := by
  intro r
  suffices hr : r.ctl = .ret ∧ (r.ienv "ret0", r.ienv "ret1") =
      ((cells h w).foldl (nearStepF cross (s.ienv "py", s.ienv "px")) ((-1, -1), (flInf : F))).1 from
    ⟨hr.1, hfr.trans (Frame.of_exec fuel fnTail st _ _ _ (by decide) (by decide) (by decide) rfl rfl rfl), hr.2⟩
  have hsd : st.shp "data" = [h, w] := by rw [hfr.shp, habs.sd]
  have hl := fn_loops h w cross s habs fuel
    { st with ienv := setS (setS (setS (setS st.ienv "height" (h : Int)) "width" (w : Int)) "nearest_y" (-1))
                        "nearest_x" (-1),
              fenv := setS st.fenv "min_distance" (Fl.div (Fl.lit 1 1) (Fl.lit 0 1)), ctl := .run } rfl
    ((-1, -1), (flInf : F)) hfr.fa hfr.shp (by simp [setS_apply, hfr.ienv "py" (by decide)])
    (by simp [setS_apply, hfr.ienv "px" (by decide)]) (by simp [setS_apply]) (by simp [setS_apply])
    ⟨by simp [setS_apply], by simp [flInf]⟩
  show (exec fuel fnTail st).ctl = .ret ∧
    ((exec fuel fnTail st).ienv "ret0", (exec fuel fnTail st).ienv "ret1") = _
  simp [il, fnTail, hst, hsd, hl.1]
  exact hl.2.pos

/-- **`Gen.IL.findNearestPixel` computes `findNearestF`** (any number type): a crossable cell is returned
    unchanged; otherwise the scan over all cells in row-major order keeps the first crossable cell whose distance
    `sqrt(dx² + dy²)` is `<` the running minimum, which starts at `inf`; `(-1, -1)` if none.  The arrays are not
    written.  Well-formedness: `data` has shape `[h, w]`, `(py, px)` is a cell of the raster. -/
theorem findNearestPixel_refines (h w : Nat) (cross : Cell → Bool) (s : State F) (fuel : Nat) (hs : s.ctl = .run)
    (habs : FnAbs h w cross s) (hp : inside h w (s.ienv "py", s.ienv "px") = true) :
    let r := Gen.IL.findNearestPixel.run s fuel
    r.ctl = .ret ∧ (r.ienv "ret0", r.ienv "ret1") = findNearestF (F := F) h w cross (s.ienv "py", s.ienv "px") ∧
      r.fa = s.fa ∧ r.ia = s.ia := by
  have hcr := habs.cross _ hp
  generalize hdv : (s.fa "data").getD (cidx w (s.ienv "py", s.ienv "px")) Fl.nan = dv at hcr
  obtain ⟨z, hz⟩ := crossCall_exec "_is_not_crossable1$cell_value" "_is_not_crossable1$i" "_is_not_crossable1$ret0"
    "py" "px" (by simp) (.seq fnKeep fnTail) fuel s hs h w habs.sd habs.sb _ hp rfl rfl dv hdv
  simp only [Prog.run, findNearestPixel_body]
  rw [hz]
  simp only [findNearestF, hcr]
  by_cases c1 : notCross dv (s.fa "barriers") = true
  · simp only [c1]
    have ht := fn_tail h w cross s habs fuel
      { s with fenv := setS (setS s.fenv "_is_not_crossable1$cell_value" dv) "_is_not_crossable1$i" z,
               benv := setS s.benv "_is_not_crossable1$ret0" true, ctl := .run }
      rfl (((((Frame.refl fnI fnF fnB s).setF "_is_not_crossable1$cell_value" dv (by decide)).setF
        "_is_not_crossable1$i" z (by decide)).setB "_is_not_crossable1$ret0" true (by decide)).setCtl .run)
    simp [il, fnKeep, hs]
    exact ⟨ht.1, ht.2.2, ht.2.1.fa, ht.2.1.ia⟩
  · simp only [c1]
    simp [il, fnKeep, hs]

/-- the two facts about `np.sqrt`, `<` and `np.inf` the comparison of distances relies on (they hold for IEEE
    doubles as long as the squared distances stay below 2^52; they fail for a number type whose `1/0` is NaN) -/
structure SqrtLt (F : Type) [Fl F] : Prop where
  inf : ∀ a : Int, 0 ≤ a → Fl.lt (Fl.sqrt (Fl.lit a 1) : F) flInf = true
  mono : ∀ a b : Int, 0 ≤ a → 0 ≤ b → Fl.lt (Fl.sqrt (Fl.lit a 1) : F) (Fl.sqrt (Fl.lit b 1)) = decide (a < b)

/-- the float accumulator `(cell, min_distance)` represents the model's `Option (Cell × Int)` -/
def NearRel (a : Cell × F) : Option (Cell × Int) → Prop
  | none => a = ((-1, -1), flInf)
  | some (c, m) => a = (c, Fl.sqrt (Fl.lit m 1)) ∧ 0 ≤ m

theorem nearStep_rel (hF : SqrtLt F) (cross : Cell → Bool) (p : Cell) (a : Cell × F) (b : Option (Cell × Int))
    (c : Cell) (h : NearRel a b) : NearRel (nearStepF cross p a c) (nearStep cross p b c) := by
  unfold nearStepF nearStep
  by_cases hc : cross c = true
  · simp only [hc, Bool.true_and, if_true]
    cases b with
    | none =>
      simp only [NearRel] at h
      simp only [h, flDist, hF.inf _ (sqDist_nonneg c p), if_true]
      exact ⟨rfl, sqDist_nonneg c p⟩
    | some cm =>
      obtain ⟨c0, m⟩ := cm
      simp only [NearRel] at h
      obtain ⟨h1, h2⟩ := h
      simp only [h1, flDist, hF.mono _ _ (sqDist_nonneg c p) h2, decide_eq_true_eq]
      split
      · exact ⟨rfl, sqDist_nonneg c p⟩
      · exact ⟨rfl, h2⟩
  · simp only [hc, Bool.false_and]
    exact h

theorem findNearestF_eq (hF : SqrtLt F) (h w : Nat) (cross : Cell → Bool) (p : Cell) :
    findNearestF (F := F) h w cross p = enc (findNearest h w cross p) := by
  unfold findNearestF findNearest
  by_cases hc : cross p = true
  · simp [hc, enc]
  · simp only [hc]
    have : NearRel ((cells h w).foldl (nearStepF (F := F) cross p) ((-1, -1), flInf))
        ((cells h w).foldl (nearStep cross p) none) :=
      List.foldl_rel rfl fun c _ a b hab => nearStep_rel hF cross p a b c hab
    generalize (cells h w).foldl (nearStepF (F := F) cross p) ((-1, -1), flInf) = a at this ⊢
    generalize (cells h w).foldl (nearStep cross p) none = b at this ⊢
    cases b with
    | none => simp only [NearRel] at this; simp [this, enc]
    | some cm => obtain ⟨c0, m⟩ := cm; simp only [NearRel] at this; simp [this.1, enc]

end XrsVerif.IL
