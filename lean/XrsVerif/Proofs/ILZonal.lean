import XrsVerif.Proofs.ILang
import XrsVerif.Gen.IL
import XrsVerif.Model.Zonal
/-
  Proofs/ILZonal.lean -- refinement (layer T3): the ILang program `Gen.IL.strides`, generated statement by
  statement from `_strides` of xrspatial/zonal.py, computes the hand model `Zonal.strides` (Model/Zonal.lean)
  for all arrays.

  * `stridesBy eq`: the hand model with the comparison of elements as a parameter (`strides = stridesBy (· == ·)`,
    `stridesBy_beq`); the program compares with `Fl.eq` (IEEE `==`: NaN equals nothing).
  * `strides_while`: the inner `while` advances `count` over the run of elements `Fl.eq` to `unique_zones[i]`,
    never reads out of range (the bound test comes first, `and` short-circuits), changes nothing else.
-/
namespace XrsVerif.Zonal
open XrsVerif XrsVerif.IL

/-- `strides` with the element comparison as a parameter (`eq x u`: the element `x` of `flatten_zones` equals
    the id `u`) -/
def stridesBy {κ : Type} (eq : κ → κ → Bool) : List κ → Nat → List κ → List Nat
  | _, _, [] => []
  | fz, c, u :: us =>
      let k := (fz.takeWhile (fun x => eq x u)).length
      (c + k) :: stridesBy eq (fz.drop k) (c + k) us

theorem stridesBy_beq {κ : Type} [DecidableEq κ] (fz : List κ) (c : Nat) (us : List κ) :
    stridesBy (fun x u => x == u) fz c us = strides fz c us := by
  induction us generalizing fz c with
  | nil => rfl
  | cons u us ih => simp only [stridesBy, strides, ih]

theorem stridesBy_map {κ F : Type} (e : F → F → Bool) (d : κ → κ → Bool) (emb : κ → F)
    (h : ∀ x y, e (emb x) (emb y) = d x y) (fz : List κ) (c : Nat) (us : List κ) :
    stridesBy e (fz.map emb) c (us.map emb) = stridesBy d fz c us := by
  induction us generalizing fz c with
  | nil => rfl
  | cons u us ih =>
    have hk : ((fz.map emb).takeWhile (fun x => e x (emb u))).length = (fz.takeWhile (fun x => d x u)).length := by
      rw [List.takeWhile_map, List.length_map]
      exact congrArg (fun p => (fz.takeWhile p).length) (funext fun x => h x u)
    simp only [List.map_cons, stridesBy, hk, ← List.map_drop, ih]

variable {F : Type} [Fl F]

def stCond : BE :=
  .and (.cmpI .lt (.var "count") (.var "num_elements"))
    (.cmpF .eq (.ld1 "flatten_zones" (.var "count")) (.ld1 "unique_zones" (.var "i")))
def stWhile : St := .while stCond (.setI "count" (.bin .add (.var "count") (.lit 1)))
def stBody : St := .seq stWhile (.stI1 "strides" (.var "i") (.var "count"))

/-- what the loops need of the state: the two arrays with their shapes, `num_elements` -/
structure StInv (fz uz : List F) (s : State F) : Prop where
  ctl : s.ctl = .run
  shf : s.shp "flatten_zones" = [fz.length]
  shu : s.shp "unique_zones" = [uz.length]
  faf : s.fa "flatten_zones" = fz
  fau : s.fa "unique_zones" = uz
  ne : s.ienv "num_elements" = fz.length

theorem state_eta_run (s : State F) (v : String) (x : Int) (h : s.ctl = .run) (hx : s.ienv v = x) :
    { s with ienv := setS s.ienv v x, ctl := .run } = s := by
  subst hx; rw [setS_self]; exact State.eta_ctl s .run h

theorem strides_while (fz uz : List F) (u : F) (fuel : Nat) :
    ∀ (s : State F) (c j : Nat), StInv fz uz s → s.ienv "count" = c → s.ienv "i" = j → uz[j]? = some u →
      fz.length - c < fuel →
      exec fuel stWhile s =
        { s with ienv := setS s.ienv "count" ((c + ((fz.drop c).takeWhile (fun x => Fl.eq x u)).length : Nat) : Int), ctl := .run } := by
  induction fuel with
  | zero => intro s c j _ _ _ _ h; omega
  | succ fuel ih =>
    intro s c j hI hc hj hu hf
    obtain ⟨hjl, huj⟩ := List.getElem?_eq_some_iff.mp hu
    have hjr : inRange (j : Int) uz.length = true := inRange_of_lt j uz.length hjl
    by_cases hlt : c < fz.length
    · have hcr : inRange (c : Int) fz.length = true := inRange_of_lt c fz.length hlt
      have hd : fz.drop c = fz[c] :: fz.drop (c + 1) := List.drop_eq_getElem_cons hlt
      have hok : stCond.ok s = true := by
        simp [stCond, BE.ok, FE.ok, IE.ok, IE.eval, hI.shf, hI.shu, hc, hj, hcr, hjr]
      have hev : stCond.eval s = Fl.eq fz[c] u := by
        simp [stCond, BE.eval, FE.eval, IE.eval, CmpOp.eval, cmpInt, hI.shf, hI.shu, hI.faf, hI.fau, hI.ne, hc, hj,
          off1_nat, hlt, hjl, huj]
      by_cases he : Fl.eq fz[c] u = true
      · -- one more element equal to u
        have hs1 : exec fuel (.setI "count" (.bin .add (.var "count") (.lit 1))) s
            = { s with ienv := setS s.ienv "count" ((c + 1 : Nat) : Int) } := by
          simp [il, hc]
        simp only [stWhile, exec, hok, hev, he, if_true, hs1]
        simp only [hI.ctl]
        have hI1 : StInv fz uz { s with ienv := setS s.ienv "count" ((c + 1 : Nat) : Int) } :=
          ⟨hI.ctl, hI.shf, hI.shu, hI.faf, hI.fau, by simp [setS, hI.ne]⟩
        have := ih _ (c + 1) j hI1 (by simp) (by simp [setS, hj]) hu (by omega)
        simp only [stWhile, hI.ctl] at this
        rw [this, hd, List.takeWhile_cons]
        simp only [he, if_true, List.length_cons, setS_setS]
        congr 3; omega
      · simp only [stWhile, exec, hok, hev, he, if_true]
        rw [hd, List.takeWhile_cons]
        simp only [he]
        exact (state_eta_run s "count" _ hI.ctl hc).symm
    · have hd : fz.drop c = [] := List.drop_eq_nil_of_le (by omega)
      have hok : stCond.ok s = true := by
        simp [stCond, BE.ok, FE.ok, IE.ok, BE.eval, IE.eval, cmpInt, hI.ne, hc]; omega
      have hev : stCond.eval s = false := by
        simp [stCond, BE.eval, IE.eval, cmpInt, hI.ne, hc]; omega
      simp only [stWhile, exec, hok, hev, if_true]
      simp only [hd, List.takeWhile_nil, List.length_nil, Nat.add_zero]
      exact (state_eta_run s "count" _ hI.ctl hc).symm

theorem strides_step (fz uz : List F) (u : F) (fuel : Nat) (s : State F) (c j : Nat)
    (hI : StInv fz uz s) (hsh : s.shp "strides" = [uz.length]) (hc : s.ienv "count" = c)
    (hu : uz[j]? = some u) (hf : fz.length < fuel) :
    exec fuel stBody { s with ienv := setS s.ienv "i" (j : Int) } =
      { s with ienv := setS (setS s.ienv "i" (j : Int)) "count"
                  ((c + ((fz.drop c).takeWhile (fun x => Fl.eq x u)).length : Nat) : Int),
               ia := setS s.ia "strides" ((s.ia "strides").set j
                  ((c + ((fz.drop c).takeWhile (fun x => Fl.eq x u)).length : Nat) : Int)),
               ctl := .run } := by
  have hjl := (List.getElem?_eq_some_iff.mp hu).1
  have hI1 : StInv fz uz { s with ienv := setS s.ienv "i" (j : Int) } :=
    ⟨hI.ctl, hI.shf, hI.shu, hI.faf, hI.fau, by simp [setS, hI.ne]⟩
  have hw := strides_while fz uz u fuel { s with ienv := setS s.ienv "i" (j : Int) } c j hI1
    (by simp [setS, hc]) (by simp) hu (by omega)
  simp only [stBody, exec, hw]
  simp [IE.ok, IE.eval, hsh, inRange_of_lt j uz.length hjl, off1_nat, setS]

theorem strides_for (fz uz : List F) (fuel : Nat) (hf : fz.length < fuel) :
    ∀ (us pre : List F) (s : State F) (c : Nat), uz = pre ++ us → StInv fz uz s →
      s.shp "strides" = [uz.length] → (s.ia "strides").length = uz.length → s.ienv "count" = c →
      let r := loopOver (fun st i => exec fuel stBody { st with ienv := setS st.ienv "i" i })
        ((List.range' pre.length us.length).map (fun (k : Nat) => (k : Int))) s
      r.ctl = .run ∧ r.shp = s.shp ∧ r.fa = s.fa ∧
      r.ia "strides" = (s.ia "strides").take pre.length ++ (stridesBy Fl.eq (fz.drop c) c us).map (fun (k : Nat) => (k : Int)) := by
  intro us
  induction us with
  | nil =>
    intro pre s c huz hI _ hl _
    simp only [List.length_nil, List.range'_zero, List.map_nil, loopOver_nil, afterLoop_run _ hI.ctl, stridesBy,
      List.append_nil]
    rw [huz, List.append_nil] at hl
    exact ⟨hI.ctl, trivial, trivial, by rw [← hl, List.take_length]⟩
  | cons u us ih =>
    intro pre s c huz hI hsh hl hc
    have hu : uz[pre.length]? = some u := by rw [huz]; simp
    have hst := strides_step fz uz u fuel s c pre.length hI hsh hc hu hf
    simp only [List.length_cons, List.range'_succ, List.map_cons]
    rw [loopOver_cons _ _ _ _ hI.ctl]
    simp only [hst]
    rw [afterBody_run _ rfl]
    simp only [if_true]
    have hI1 : StInv fz uz { s with
        ienv := setS (setS s.ienv "i" (pre.length : Int)) "count"
                  ((c + ((fz.drop c).takeWhile (fun x => Fl.eq x u)).length : Nat) : Int),
        ia := setS s.ia "strides" ((s.ia "strides").set pre.length
                  ((c + ((fz.drop c).takeWhile (fun x => Fl.eq x u)).length : Nat) : Int)),
        ctl := .run } :=
      ⟨rfl, hI.shf, hI.shu, hI.faf, hI.fau, by simp [setS, hI.ne]⟩
    have := ih (pre ++ [u]) _ (c + ((fz.drop c).takeWhile (fun x => Fl.eq x u)).length)
      (by rw [huz]; simp) hI1 hsh (by simpa using hl) (by simp)
    simp only [List.length_append, List.length_cons, List.length_nil, Nat.zero_add] at this
    refine ⟨this.1, this.2.1, this.2.2.1, ?_⟩
    rw [this.2.2.2]
    have hlt : pre.length < (s.ia "strides").length := by rw [hl, huz]; simp
    simp only [stridesBy, List.drop_drop, setS_same, List.map_cons]
    rw [List.take_add_one]
    simp [List.take_set_of_le, hlt]

structure StridesInput (fz uz : List F) (s : State F) : Prop where
  ctl : s.ctl = .run
  shf : s.shp "flatten_zones" = [fz.length]
  shu : s.shp "unique_zones" = [uz.length]
  faf : s.fa "flatten_zones" = fz
  fau : s.fa "unique_zones" = uz

/-- **refinement.** the program generated from `_strides`, run on any two arrays with fuel exceeding the number
    of elements, returns (never reading out of range) the integer array of the hand model's breaks, with `Fl.eq`
    as the comparison of elements; the input arrays are unchanged -/
theorem strides_refines (fz uz : List F) (s : State F) (fuel : Nat) (hin : StridesInput fz uz s)
    (hf : fz.length < fuel) :
    let r := Gen.IL.strides.run s fuel
    r.ctl = .ret ∧ r.shp "strides" = [uz.length] ∧ r.fa = s.fa ∧
    r.ia "strides" = (stridesBy Fl.eq fz 0 uz).map (fun (k : Nat) => (k : Int)) := by
  have hbody : Gen.IL.strides.body =
      .seq (.setI "num_elements" (.dim "flatten_zones" 0))
      (.seq (.setI "num_zones" (.dim "unique_zones" 0))
      (.seq (.allocI "strides" [(.dim "unique_zones" 0)] (.lit 0))
      (.seq (.setI "count" (.lit 0))
      (.seq (.forRange "i" (.lit 0) (.var "num_zones") (.lit 1) stBody)
      .ret)))) := rfl
  simp only [Prog.run, hbody]
  rw [exec_seq_eq fuel _ _ s { s with ienv := setS s.ienv "num_elements" (fz.length : Int) }
        (by simp [il, hin.shf]) hin.ctl]
  rw [exec_seq_eq fuel _ _ _ { s with ienv := setS (setS s.ienv "num_elements" (fz.length : Int)) "num_zones" (uz.length : Int) }
        (by simp [il, hin.shu]) hin.ctl]
  rw [exec_seq_eq fuel _ _ _ { s with
          ienv := setS (setS s.ienv "num_elements" (fz.length : Int)) "num_zones" (uz.length : Int),
          shp := setS s.shp "strides" [uz.length],
          ia := setS s.ia "strides" (List.replicate uz.length 0) }
        (by simp [il, hin.shu]) hin.ctl]
  rw [exec_seq_eq fuel _ _ _ { s with
          ienv := setS (setS (setS s.ienv "num_elements" (fz.length : Int)) "num_zones" (uz.length : Int)) "count" 0,
          shp := setS s.shp "strides" [uz.length],
          ia := setS s.ia "strides" (List.replicate uz.length 0) }
        (by simp [il]) hin.ctl]
  have hI : StInv fz uz { s with
          ienv := setS (setS (setS s.ienv "num_elements" (fz.length : Int)) "num_zones" (uz.length : Int)) "count" 0,
          shp := setS s.shp "strides" [uz.length],
          ia := setS s.ia "strides" (List.replicate uz.length 0) } :=
    ⟨hin.ctl, by simp [setS, hin.shf], by simp [setS, hin.shu], hin.faf, hin.fau, by simp [setS]⟩
  have hfor := strides_for fz uz fuel hf uz [] _ 0 rfl hI (by simp) (by simp) (by simp)
  simp only [List.length_nil, List.take_zero, List.nil_append, List.drop_zero, ← List.range_eq_range'] at hfor
  rw [exec_seq_eq fuel _ _ _ _ (exec_forRange_up fuel "i" (.var "num_zones") stBody _ uz.length rfl (by simp [IE.eval, setS]))
        hfor.1]
  simp only [exec]
  exact ⟨trivial, by rw [hfor.2.1]; simp, hfor.2.2.1, hfor.2.2.2⟩

/-- **refinement to `Zonal.strides`.** for ids of a type `κ` with decidable equality embedded into the number
    type such that `Fl.eq` on images is equality of ids (finite numbers: `some : K → NV K`; NaN is not in the image),
    the generated program returns the breaks `strides fz 0 uz` of the hand model -/
theorem strides_refines_model {κ : Type} [DecidableEq κ] (emb : κ → F)
    (hemb : ∀ x y, Fl.eq (emb x) (emb y) = decide (x = y)) (fz uz : List κ) (s : State F) (fuel : Nat)
    (hin : StridesInput (fz.map emb) (uz.map emb) s) (hf : fz.length < fuel) :
    let r := Gen.IL.strides.run s fuel
    r.ctl = .ret ∧ r.shp "strides" = [uz.length] ∧ r.fa = s.fa ∧
    r.ia "strides" = (strides fz 0 uz).map (fun (k : Nat) => (k : Int)) := by
  have h := strides_refines (fz.map emb) (uz.map emb) s fuel hin (by simpa using hf)
  simp only [List.length_map] at h
  rw [stridesBy_map Fl.eq (fun x u => x == u) emb (by intro x y; rw [hemb]; rfl), stridesBy_beq] at h
  exact h


def stridesState (fz uz : List F) : State F :=
  { (State.empty : State F) with
    fa := fun a => if a = "flatten_zones" then fz else if a = "unique_zones" then uz else []
    shp := fun a => if a = "flatten_zones" then [fz.length] else if a = "unique_zones" then [uz.length] else [] }

theorem stridesState_input (fz uz : List F) : StridesInput fz uz (stridesState fz uz) :=
  ⟨rfl, by simp [stridesState], by simp [stridesState], by simp [stridesState], by simp [stridesState]⟩

end XrsVerif.Zonal
