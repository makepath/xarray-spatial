import XrsVerif.Model.ViewshedEvents
import Mathlib.Tactic.Ring
import Mathlib.Tactic.Linarith
/-
  C05 -- lemmas about the event geometry (Model/ViewshedEvents.lean): the corner tables read from the source and their
  closed form `ILSw.offTable` (the nine positions of a cell relative to the observer; also what the generated if-chains
  run, Proofs/ILVsGeom.lean), exact bearings by cross products and what makes a corner of a cell the extreme one
  (`CwCorner`), the event list as a nested flatMap.
-/
namespace XrsVerif.ILSw

/-- the offsets of the code's nine branches: (ENTER dy, dx), (EXIT dy, dx) -/
def offTable (dr dc : Int) : (Int × Int) × (Int × Int) :=
  if dr < 0 then (if dc < 0 then ((-1, 1), (1, -1)) else if dc = 0 then ((1, 1), (1, -1)) else ((1, 1), (-1, -1)))
  else if dr = 0 then (if dc < 0 then ((-1, 1), (1, 1)) else if dc = 0 then ((0, 0), (0, 0)) else ((1, -1), (-1, -1)))
  else (if dc < 0 then ((-1, -1), (1, 1)) else if dc = 0 then ((-1, -1), (-1, 1)) else ((1, -1), (-1, 1)))

/-- ENTER (`ty = 1`) / EXIT (any other non-zero code) offset of the code's branch -/
def offOf (ty dr dc : Int) : Int × Int := if ty = 1 then (offTable dr dc).1 else (offTable dr dc).2

end XrsVerif.ILSw

namespace XrsVerif.ViewshedEvents
open XrsVerif.Gen.Viewshed XrsVerif.ILSw

theorem sg_neg {x : Int} (h : x < 0) : sg x = -1 := by simp [sg, h]
theorem sg_zero : sg 0 = 0 := by decide
theorem sg_pos {x : Int} (h : 0 < x) : sg x = 1 := by
  have h1 : ¬ x < 0 := by omega
  have h2 : ¬ x = 0 := by omega
  simp [sg, h1, h2]

theorem sg_cases (x : Int) : (x < 0 ∧ sg x = -1) ∨ (x = 0 ∧ sg x = 0) ∨ (0 < x ∧ sg x = 1) := by
  rcases Int.lt_trichotomy x 0 with h | rfl | h
  · exact Or.inl ⟨h, sg_neg h⟩
  · exact Or.inr (Or.inl ⟨rfl, sg_zero⟩)
  · exact Or.inr (Or.inr ⟨h, sg_pos h⟩)

/-- an if-chain table as a function of the two signs -/
def pickS (tbl : List Row6) (ty sr sc : Int) : Int × Int :=
  match branch tbl sr sc with
  | some (_, _, ey, ex, xy, xx) => if ty = 1 then (ey, ex) else (xy, xx)
  | none => (0, 0)

def posS (ty sr sc : Int) : Int × Int := if ty = 0 then (0, 0) else pickS calcEventPosTable ty sr sc
def nbS (ty sr sc : Int) : Int × Int := pickS calcEventRowColTable ty sr sc

theorem posOff_eq (ty dr dc : Int) : posOff ty dr dc = posS ty (sg dr) (sg dc) := rfl
theorem nbOff_eq (ty dr dc : Int) : nbOff ty dr dc = nbS ty (sg dr) (sg dc) := rfl

theorem sg_mem (x : Int) : sg x ∈ [-1, 0, 1] := by
  rcases sg_cases x with ⟨_, h⟩ | ⟨_, h⟩ | ⟨_, h⟩ <;> simp [h]

/-- **the nine positions of a cell relative to the observer, with the ENTER and EXIT corner of each** -/
theorem offTable_cases (dr dc : Int) :
    (dr < 0 ∧ dc < 0 ∧ offTable dr dc = ((-1, 1), (1, -1))) ∨
    (dr < 0 ∧ dc = 0 ∧ offTable dr dc = ((1, 1), (1, -1))) ∨
    (dr < 0 ∧ 0 < dc ∧ offTable dr dc = ((1, 1), (-1, -1))) ∨
    (dr = 0 ∧ 0 < dc ∧ offTable dr dc = ((1, -1), (-1, -1))) ∨
    (0 < dr ∧ 0 < dc ∧ offTable dr dc = ((1, -1), (-1, 1))) ∨
    (0 < dr ∧ dc = 0 ∧ offTable dr dc = ((-1, -1), (-1, 1))) ∨
    (0 < dr ∧ dc < 0 ∧ offTable dr dc = ((-1, -1), (1, 1))) ∨
    (dr = 0 ∧ dc < 0 ∧ offTable dr dc = ((-1, 1), (1, 1))) ∨
    (dr = 0 ∧ dc = 0 ∧ offTable dr dc = ((0, 0), (0, 0))) := by
  unfold offTable
  split_ifs with h1 h2 h3 h4 h5 h6 h7 h8
  · exact Or.inl ⟨h1, h2, rfl⟩
  · exact Or.inr (Or.inl ⟨h1, h3, rfl⟩)
  · exact Or.inr (Or.inr (Or.inl ⟨h1, by omega, rfl⟩))
  · exact Or.inr (Or.inr (Or.inr (Or.inr (Or.inr (Or.inr (Or.inr (Or.inl ⟨h4, h5, rfl⟩)))))))
  · exact Or.inr (Or.inr (Or.inr (Or.inr (Or.inr (Or.inr (Or.inr (Or.inr ⟨h4, h6, rfl⟩)))))))
  · exact Or.inr (Or.inr (Or.inr (Or.inl ⟨h4, by omega, rfl⟩)))
  · exact Or.inr (Or.inr (Or.inr (Or.inr (Or.inr (Or.inr (Or.inl ⟨by omega, h7, rfl⟩))))))
  · exact Or.inr (Or.inr (Or.inr (Or.inr (Or.inr (Or.inl ⟨by omega, h8, rfl⟩)))))
  · exact Or.inr (Or.inr (Or.inr (Or.inr (Or.inl ⟨by omega, by omega, rfl⟩))))

theorem sg_lt0 (x : Int) : (sg x < 0) = (x < 0) := by
  rcases sg_cases x with ⟨h, e⟩ | ⟨h, e⟩ | ⟨h, e⟩ <;> rw [e] <;> simp <;> omega

theorem sg_eq0 (x : Int) : (sg x = 0) = (x = 0) := by
  rcases sg_cases x with ⟨h, e⟩ | ⟨h, e⟩ | ⟨h, e⟩ <;> rw [e] <;> simp <;> omega

theorem offTable_sg (dr dc : Int) : offTable (sg dr) (sg dc) = offTable dr dc := by
  simp only [offTable, sg_lt0, sg_eq0]

/-- **both if-chains read from the source are the table** (a changed branch breaks this `decide`):
    `_calculate_event_row_col` names the diagonal neighbour beyond the very corner `_calc_event_pos` returns -/
theorem tables_eq_offTable : ∀ sr ∈ [-1, 0, 1], ∀ sc ∈ [-1, 0, 1],
    (posS 1 sr sc, posS (-1) sr sc) = offTable sr sc ∧ (nbS 1 sr sc, nbS (-1) sr sc) = offTable sr sc := by decide

theorem pickS_exit (tbl : List Row6) (ty sr sc : Int) (h : ty ≠ 1) : pickS tbl ty sr sc = pickS tbl (-1) sr sc := by
  unfold pickS
  cases branch tbl sr sc with
  | none => rfl
  | some e => simp [h]

/-- **the if-chain of `_calculate_event_row_col` read from the source (`nbOff`) is the closed form** -/
theorem nbOff_eq_offOf (ty dr dc : Int) : nbOff ty dr dc = offOf ty dr dc := by
  have h := (tables_eq_offTable _ (sg_mem dr) _ (sg_mem dc)).2
  rw [offTable_sg] at h
  rw [nbOff_eq, offOf, ← h]
  by_cases hty : ty = 1
  · rw [hty]; rfl
  · rw [if_neg hty]; exact pickS_exit _ _ _ _ hty

/-- **so is the if-chain of `_calc_event_pos` (`posOff`)** for the ENTER / EXIT codes -/
theorem posOff_eq_offOf (ty dr dc : Int) (h0 : ty ≠ 0) : posOff ty dr dc = offOf ty dr dc := by
  have h := (tables_eq_offTable _ (sg_mem dr) _ (sg_mem dc)).1
  rw [offTable_sg] at h
  rw [posOff_eq, offOf, ← h, posS, if_neg h0]
  by_cases hty : ty = 1
  · rw [hty]; rfl
  · rw [if_neg hty]; exact (pickS_exit _ _ _ _ hty).trans (by simp [posS])

theorem posOff_enter (dr dc : Int) : posOff 1 dr dc = (offTable dr dc).1 := posOff_eq_offOf 1 dr dc (by decide)
theorem posOff_exit (dr dc : Int) : posOff (-1) dr dc = (offTable dr dc).2 := posOff_eq_offOf (-1) dr dc (by decide)

theorem nbOff_eq_posOff (ty dr dc : Int) (hty : ty = 1 ∨ ty = -1) : nbOff ty dr dc = posOff ty dr dc := by
  rw [nbOff_eq_offOf, posOff_eq_offOf ty dr dc (by omega)]

theorem posOff_centre (dr dc : Int) : posOff 0 dr dc = (0, 0) := rfl

/-! ### the extreme corners of a cell, by cross products of the doubled vectors (x east, y north) -/

/-- The corner at offset `(oy, ox)` of the cell at `(dr, dc)` from which both edges of the cell turn counter-clockwise as
    seen from the observer: `edgeY` is (half) the cross product of the corner with the edge to the corner `(-oy, ox)`,
    `edgeX` with the edge to `(oy, -ox)`.  The centre and the three other corners are reached along these two edges, so
    this corner is the most clockwise point of the cell.  Mirrored north ↔ south (`dr`, `oy` negated, which reverses every
    cross product) it is the most counter-clockwise one. -/
structure CwCorner (dr dc oy ox : Int) : Prop where
  pmY : oy = 1 ∨ oy = -1
  pmX : ox = 1 ∨ ox = -1
  edgeY : 0 < oy * (2 * dc + ox)
  edgeX : 0 < -(ox * (2 * dr + oy))

namespace CwCorner
variable {dr dc oy ox : Int}

/-- the centre is half of each edge away: the cross product is `edgeY + edgeX` -/
theorem centre (h : CwCorner dr dc oy ox) : 0 < cross (2 * dc + ox) (-(2 * dr + oy)) (2 * dc) (-(2 * dr)) := by
  unfold cross; linarith [h.edgeY, h.edgeX]

/-- a corner is none, one or both of the edges away: the cross product is `0`, `2 edgeY`, `2 edgeX` or their sum -/
theorem corner (h : CwCorner dr dc oy ox) {py px : Int} (hy : py = 1 ∨ py = -1) (hx : px = 1 ∨ px = -1) :
    0 ≤ cross (2 * dc + ox) (-(2 * dr + oy)) (2 * dc + px) (-(2 * dr + py)) := by
  have hy' : py = oy ∨ py = -oy := by have := h.pmY; omega
  have hx' : px = ox ∨ px = -ox := by have := h.pmX; omega
  unfold cross
  rcases hy' with rfl | rfl <;> rcases hx' with rfl | rfl <;> linarith [h.edgeY, h.edgeX]

theorem centre_mirror (h : CwCorner (-dr) dc (-oy) ox) :
    0 < cross (2 * dc) (-(2 * dr)) (2 * dc + ox) (-(2 * dr + oy)) := by
  have := h.centre; unfold cross at this ⊢; linarith

theorem corner_mirror (h : CwCorner (-dr) dc (-oy) ox) {py px : Int} (hy : py = 1 ∨ py = -1) (hx : px = 1 ∨ px = -1) :
    0 ≤ cross (2 * dc + px) (-(2 * dr + py)) (2 * dc + ox) (-(2 * dr + oy)) := by
  have := h.corner (py := -py) (by omega) hx; unfold cross at this ⊢; linarith

/-- on the observer's row the north-south edge tells on which side of the row the corner lies: south of it to the east of
    the observer (going north raises the bearing there), north of it to the west -/
theorem row {dc oy ox : Int} (h : CwCorner 0 dc oy ox) : (0 < dc → oy = 1) ∧ (dc < 0 → oy = -1) := by
  obtain ⟨hy, hx, a, -⟩ := h
  rcases hy with rfl | rfl <;> omega

end CwCorner

/-- **the corner the code calls entering is the one from which both edges turn counter-clockwise, the exiting corner the one
    from which both turn clockwise**: two linear facts per branch of the if-chain -/
theorem offTable_corners (dr dc : Int) (hne : dr ≠ 0 ∨ dc ≠ 0) :
    CwCorner dr dc (offTable dr dc).1.1 (offTable dr dc).1.2 ∧
      CwCorner (-dr) dc (-(offTable dr dc).2.1) (offTable dr dc).2.2 := by
  rcases offTable_cases dr dc with ⟨hr, hc, e⟩ | ⟨hr, hc, e⟩ | ⟨hr, hc, e⟩ | ⟨hr, hc, e⟩ | ⟨hr, hc, e⟩ | ⟨hr, hc, e⟩ |
      ⟨hr, hc, e⟩ | ⟨hr, hc, e⟩ | ⟨hr, hc, e⟩
  pick_goal 9
  · omega
  all_goals
    rw [e]; dsimp only
    exact ⟨⟨by decide, by decide, by omega, by omega⟩, ⟨by decide, by decide, by omega, by omega⟩⟩

theorem offTable_pm (dr dc : Int) (h : ¬ (dr = 0 ∧ dc = 0)) :
    (((offTable dr dc).1.1 = 1 ∨ (offTable dr dc).1.1 = -1) ∧ ((offTable dr dc).1.2 = 1 ∨ (offTable dr dc).1.2 = -1)) ∧
    (((offTable dr dc).2.1 = 1 ∨ (offTable dr dc).2.1 = -1) ∧ ((offTable dr dc).2.2 = 1 ∨ (offTable dr dc).2.2 = -1)) := by
  obtain ⟨hE, hX⟩ := offTable_corners dr dc (by omega)
  exact ⟨⟨hE.pmY, hE.pmX⟩, by have := hX.pmY; omega, hX.pmX⟩

theorem offOf_mem (ty dr dc : Int) :
    ((offOf ty dr dc).1 = 1 ∨ (offOf ty dr dc).1 = 0 ∨ (offOf ty dr dc).1 = -1) ∧
    ((offOf ty dr dc).2 = 1 ∨ (offOf ty dr dc).2 = 0 ∨ (offOf ty dr dc).2 = -1) := by
  unfold offOf
  by_cases h : dr = 0 ∧ dc = 0
  · obtain ⟨rfl, rfl⟩ := h
    split <;> decide
  · obtain ⟨⟨a, b⟩, c, d⟩ := offTable_pm dr dc h
    split <;> omega

theorem filter_flatMap_range_single {α : Type} (n i0 : Nat) (f : Nat → List α) (p : α → Bool)
    (hne : ∀ i, i ≠ i0 → ∀ x ∈ f i, p x = false) :
    ((List.range n).flatMap f).filter p = if i0 < n then (f i0).filter p else [] := by
  induction n with
  | zero => rfl
  | succ n ih =>
    rw [List.range_succ, List.flatMap_append, List.filter_append, ih, List.flatMap_singleton]
    have tail : n ≠ i0 → (f n).filter p = [] := fun hn =>
      List.filter_eq_nil_iff.mpr fun x hx => by simp [hne n hn x hx]
    rcases Nat.lt_trichotomy i0 n with h | rfl | h
    · rw [if_pos h, if_pos (by omega), tail (by omega), List.append_nil]
    · rw [if_neg (Nat.lt_irrefl _), if_pos (Nat.lt_succ_self _), List.nil_append]
    · rw [if_neg (by omega), if_neg (by omega), tail (by omega)]; rfl

theorem filter_flatMap_range_none {α : Type} (n : Nat) (f : Nat → List α) (p : α → Bool)
    (hne : ∀ i, ∀ x ∈ f i, p x = false) : ((List.range n).flatMap f).filter p = [] :=
  (filter_flatMap_range_single n n f p fun i _ => hne i).trans (if_neg (Nat.lt_irrefl n))

def ofCell (r c : Int) (e : Event) : Bool := decide (e.row = r) && decide (e.col = c)

theorem cellEvents_ofCell (T : Int → Int → Rat) (h w vr vc row col r c : Int) :
    ∀ e ∈ cellEvents T h w vr vc row col, ofCell r c e = (decide (row = r) && decide (col = c)) := by
  intro e he
  simp only [cellEvents, List.mem_cons, List.not_mem_nil, or_false] at he
  rcases he with rfl | rfl | rfl <;> rfl

theorem eventList_filter_cell (T : Int → Int → Rat) (h w : Nat) (vr vc : Int) (r c : Nat) :
    (eventList T h w vr vc).filter (ofCell r c) =
      if r < h ∧ c < w ∧ ¬((r : Int) = vr ∧ (c : Int) = vc) then cellEvents T h w vr vc r c else [] := by
  unfold eventList
  have ne : ∀ i j : Nat, i ≠ r ∨ j ≠ c → ∀ x ∈ (if (i : Int) = vr ∧ (j : Int) = vc then [] else cellEvents T h w vr vc i j),
      ofCell r c x = false := by
    intro i j hij x hx
    split at hx
    · simp at hx
    · rw [cellEvents_ofCell T h w vr vc i j r c x hx]
      have : ¬ ((i : Int) = r ∧ (j : Int) = c) := by omega
      simpa using this
  have outer_ne : ∀ i : Nat, i ≠ r → ∀ x ∈ ((List.range w).flatMap fun (j : Nat) =>
      if (i : Int) = vr ∧ (j : Int) = vc then [] else cellEvents T h w vr vc i j), ofCell r c x = false :=
    fun i hi x hx => let ⟨j, _, hx⟩ := List.mem_flatMap.mp hx; ne i j (Or.inl hi) x hx
  have inner_ne : ∀ j : Nat, j ≠ c → ∀ x ∈ (if (r : Int) = vr ∧ (j : Int) = vc then [] else cellEvents T h w vr vc r j),
      ofCell r c x = false := fun j hj => ne r j (Or.inr hj)
  rw [filter_flatMap_range_single h r _ _ outer_ne, filter_flatMap_range_single w c _ _ inner_ne]
  by_cases hin : r < h ∧ c < w ∧ ¬((r : Int) = vr ∧ (c : Int) = vc)
  · rw [if_pos hin.1, if_pos hin.2.1, if_neg hin.2.2, if_pos hin, List.filter_eq_self]
    intro e he
    rw [cellEvents_ofCell T h w vr vc r c r c e he]; simp
  · rw [if_neg hin]
    split
    · split
      · split
        · rfl
        · exact absurd ⟨‹_›, ‹_›, ‹_›⟩ hin
      · rfl
    · rfl

theorem length_flatMap_range_one_exception {α : Type} (n k : Nat) (hk : k < n) (f : Nat → List α) (a b : Nat)
    (ha : ∀ j, j ≠ k → (f j).length = a) (hb : (f k).length = b) :
    ((List.range n).flatMap f).length = (n - 1) * a + b := by
  have gen : ∀ m, ((List.range m).flatMap f).length = if k < m then (m - 1) * a + b else m * a := by
    intro m
    induction m with
    | zero => simp
    | succ m ih =>
      rw [List.range_succ, List.flatMap_append, List.length_append, ih]
      simp only [List.flatMap_cons, List.flatMap_nil, List.append_nil]
      by_cases h1 : k < m
      · have : k < m + 1 := by omega
        simp only [h1, this, if_true]
        rw [ha m (by omega)]
        have : m + 1 - 1 = (m - 1) + 1 := by omega
        rw [this, Nat.add_mul]; omega
      · by_cases h2 : k = m
        · subst h2
          simp only [Nat.lt_irrefl, if_false, Nat.lt_succ_self, if_true, hb]
          simp
        · have : ¬ k < m + 1 := by omega
          simp only [h1, this, if_false]
          rw [ha m (by omega), Nat.add_mul]; omega
  rw [gen n]; simp [hk]

theorem int_le_sq (x : Int) : x ≤ x * x ∧ -x ≤ x * x :=
  ⟨by simpa [sq] using Int.le_self_sq x, by simpa [sq] using Int.le_self_sq (-x)⟩

end XrsVerif.ViewshedEvents
