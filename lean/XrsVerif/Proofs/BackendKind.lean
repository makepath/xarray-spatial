import XrsVerif.Model.BackendKind
/-!
  Helper lemmas for the backend clause of C10: the abstraction relation between concrete kind environments and
  abstract ones, soundness of the abstract right-hand sides (in particular of `liftSet`), the post-fixpoint property of
  `bloop`, and soundness of `bcheck` for every run.
-/
namespace XrsVerif.BK

def Rel (e : Env) (a : AEnv) : Prop := ∀ v, (a v).has (e v) = true

theorem has_top (x : Kind) : KSet.top.has x = true := by cases x <;> rfl

theorem has_only (x : Kind) : (KSet.only x).has x = true := by cases x <;> rfl

theorem has_only_iff {x y : Kind} : (KSet.only x).has y = true ↔ y = x := by
  cases x <;> cases y <;> simp [KSet.only, KSet.has]

theorem has_join {a b : KSet} {x : Kind} : (a.join b).has x = true ↔ (a.has x = true ∨ b.has x = true) := by
  cases x <;> simp [KSet.join, KSet.has]

theorem sub_has {a b : KSet} (h : a.sub b = true) {x : Kind} (hx : a.has x = true) : b.has x = true := by
  cases a; cases b; cases x <;> simp_all [KSet.sub, KSet.has]

theorem Rel.weaken {e : Env} {a b : AEnv} (h : Rel e a) (hsub : ∀ v x, (a v).has x = true → (b v).has x = true) :
    Rel e b := fun v => hsub v _ (h v)

theorem rel_set {e : Env} {a : AEnv} {d : Nat} {x : Kind} {s : KSet} (h : Rel e a) (hs : s.has x = true) :
    Rel (e.set d x) (a.set d s) := by
  intro v
  by_cases hv : v = d
  · simp [Env.set, AEnv.set, hv, hs]
  · simp [Env.set, AEnv.set, hv, h v]

theorem rel_joinL {e : Env} {a b : AEnv} (h : Rel e a) : Rel e (joinE a b) :=
  fun v => has_join.mpr (Or.inl (h v))

theorem rel_joinR {e : Env} {a b : AEnv} (h : Rel e b) : Rel e (joinE a b) :=
  fun v => has_join.mpr (Or.inr (h v))

theorem rel_widen {e : Env} {a : AEnv} (n : Nat) (h : Rel e a) : Rel e (widen n a) := by
  intro v
  by_cases hv : v < n
  · simp [widen, hv, h v]
  · simp [widen, hv, has_top]

theorem rel_init {e : Env} {ps : List Nat} (h : ∀ p ∈ ps, e p = .lazy) : Rel e (initEnv ps) := by
  intro v
  by_cases hv : v ∈ ps
  · simp [initEnv, hv, h v hv, KSet.only, KSet.has]
  · simp [initEnv, hv, has_top]

theorem lift_sound {e : Env} {a : AEnv} (h : Rel e a) (vs : List Nat) :
    (liftSet (vs.map a)).has (liftKind (vs.map e)) = true := by
  unfold liftKind
  by_cases hl : (vs.map e).contains Kind.lazy = true
  · rw [if_pos hl]
    simp only [List.contains_eq_mem, List.mem_map, decide_eq_true_eq] at hl
    obtain ⟨v, hv, hev⟩ := hl
    have hv' := h v
    rw [hev] at hv'
    simp only [KSet.has, liftSet, List.any_eq_true, List.mem_map]
    exact ⟨a v, ⟨v, hv, rfl⟩, hv'⟩
  · rw [if_neg hl]
    simp only [List.contains_eq_mem, List.mem_map, decide_eq_true_eq, not_exists, not_and] at hl
    have hnl : ∀ v ∈ vs, ((a v).e || (a v).s) = true := by
      intro v hv
      have h1 := h v
      have h2 := hl v hv
      cases hev : e v with
      | lazy => exact absurd hev h2
      | eager => rw [hev] at h1; simp [KSet.has] at h1; simp [h1]
      | scalar => rw [hev] at h1; simp [KSet.has] at h1; simp [h1]
    by_cases he : (vs.map e).contains Kind.eager = true
    · rw [if_pos he]
      simp only [List.contains_eq_mem, List.mem_map, decide_eq_true_eq] at he
      obtain ⟨v, hv, hev⟩ := he
      have hv' := h v
      rw [hev] at hv'
      simp only [KSet.has, liftSet, Bool.and_eq_true, List.all_eq_true, List.any_eq_true, List.mem_map]
      refine ⟨?_, a v, ⟨v, hv, rfl⟩, hv'⟩
      rintro s ⟨w, hw, rfl⟩
      exact hnl w hw
    · rw [if_neg he]
      simp only [List.contains_eq_mem, List.mem_map, decide_eq_true_eq, not_exists, not_and] at he
      simp only [KSet.has, liftSet, List.all_eq_true, List.mem_map]
      rintro s ⟨w, hw, rfl⟩
      have h1 := h w
      cases hev : e w with
      | lazy => exact absurd hev (hl w hw)
      | eager => exact absurd hev (he w hw)
      | scalar => rw [hev] at h1; exact h1

theorem aeval_sound {e : Env} {a : AEnv} {r : Rhs} {x : Kind} (h : Rel e a) (hy : r.yields e x) :
    (r.aeval a).has x = true := by
  cases hy with
  | const => exact has_only _
  | same => exact h _
  | lift => exact lift_sound h _
  | any => exact has_top _

def Wide (n : Nat) (a : AEnv) : Prop := ∀ v, n ≤ v → a v = .top

theorem wide_widen (n : Nat) (a : AEnv) : Wide n (widen n a) := by
  intro v hv
  have : ¬ v < n := by omega
  simp [widen, this]

theorem widen_of_wide {n : Nat} {a : AEnv} (h : Wide n a) : widen n a = a := by
  funext v
  by_cases hv : v < n
  · simp [widen, hv]
  · simp [widen, hv, h v (by omega)]

theorem wide_joinE {n : Nat} {a b : AEnv} (h : Wide n a) : Wide n (joinE a b) := by
  intro v hv
  simp [joinE, h v hv, KSet.join, KSet.top]

theorem subN_spec {n : Nat} {a b : AEnv} (h : subN n a b = true) (hb : Wide n b) :
    ∀ v x, (a v).has x = true → (b v).has x = true := by
  intro v x hx
  by_cases hv : v < n
  · simp only [subN, List.all_eq_true, List.mem_range] at h
    exact sub_has (h v hv) hx
  · rw [hb v (by omega)]; exact has_top x

/-- what `bloop` returns is a post-fixpoint of the abstract body that contains the entry environment, together
    with the kinds the body may return when started there -/
theorem bloop_spec {n : Nat} {f : AEnv → Option (AEnv × KSet)} {fuel : Nat} {a m : AEnv} {r : KSet}
    (h : bloop n f fuel a = some (m, r)) (ha : Wide n a) :
    (∀ v x, (a v).has x = true → (m v).has x = true) ∧ Wide n m ∧
      ∃ m', f m = some (m', r) ∧ subN n m' m = true := by
  induction fuel generalizing a with
  | zero => simp [bloop] at h
  | succ k ih =>
    simp only [bloop] at h
    cases hf : f a with
    | none => simp [hf] at h
    | some pr =>
      obtain ⟨a', r'⟩ := pr
      simp only [hf] at h
      by_cases hs : subN n a' a = true
      · simp only [hs, if_true, Option.some.injEq, Prod.mk.injEq] at h
        obtain ⟨h1, h2⟩ := h
        subst h1; subst h2
        exact ⟨fun _ _ hx => hx, ha, a', hf, hs⟩
      · simp only [hs] at h
        obtain ⟨h1, h2, h3⟩ := ih h (wide_joinE ha)
        exact ⟨fun v x hx => h1 v x (has_join.mpr (Or.inl hx)), h2, h3⟩

theorem bloop_stable {n : Nat} {f : AEnv → Option (AEnv × KSet)} {fuel : Nat} {a m : AEnv} {r : KSet}
    (h : bloop n f fuel a = some (m, r)) (ha : Wide n a) : bloop n f fuel m = some (m, r) := by
  obtain ⟨_, _, m', hf, hs⟩ := bloop_spec h ha
  cases fuel with
  | zero => simp [bloop] at h
  | succ k => simp [bloop, hf, hs]

def Sound (o : Outcome) (a' : AEnv) (rs : KSet) : Prop :=
  match o with
  | .fell e' => Rel e' a'
  | .returned x => rs.has x = true

theorem Sound.mono {o : Outcome} {a' : AEnv} {rs rs' : KSet} (h : Sound o a' rs)
    (hsub : ∀ x, rs.has x = true → rs'.has x = true) : Sound o a' rs' := by
  cases o with
  | fell e' => exact h
  | returned x => exact hsub x h

theorem bcheck_ite {n : Nat} {p q k : Prog} {a a' : AEnv} {rs : KSet}
    (h : bcheck n (.ite p q k) a = some (a', rs)) :
    ∃ a1 r1 a2 r2 r3, bcheck n p a = some (a1, r1) ∧ bcheck n q a = some (a2, r2) ∧
      bcheck n k (joinE a1 a2) = some (a', r3) ∧ rs = (r1.join r2).join r3 := by
  simp only [bcheck] at h
  split at h
  · rename_i a1 r1 a2 r2 hp hq
    split at h
    · rename_i a3 r3 hk
      simp only [Option.some.injEq, Prod.mk.injEq] at h
      obtain ⟨rfl, rfl⟩ := h
      exact ⟨a1, r1, a2, r2, r3, hp, hq, hk, rfl⟩
    · simp at h
  · simp at h

theorem bcheck_loop {n : Nat} {b k : Prog} {a a' : AEnv} {rs : KSet}
    (h : bcheck n (.loop b k) a = some (a', rs)) :
    ∃ m rb r3, bloop n (bcheck n b) loopFuel (widen n a) = some (m, rb) ∧ bcheck n k m = some (a', r3) ∧
      rs = rb.join r3 := by
  simp only [bcheck] at h
  split at h
  · rename_i m rb hm
    split at h
    · rename_i a3 r3 hk
      simp only [Option.some.injEq, Prod.mk.injEq] at h
      obtain ⟨rfl, rfl⟩ := h
      exact ⟨m, rb, r3, hm, hk, rfl⟩
    · simp at h
  · simp at h

/-- **soundness of the checker**: along every run the fall-through environment is covered by the abstract one and a
    returned value's kind is among the kinds the checker reports -/
theorem bcheck_sound {n : Nat} {p : Prog} {e : Env} {o : Outcome} (hx : Exec p e o) :
    ∀ {a a' : AEnv} {rs : KSet}, Rel e a → bcheck n p a = some (a', rs) → Sound o a' rs := by
  induction hx with
  | done e =>
    intro a a' rs h hb
    simp only [bcheck, Option.some.injEq, Prod.mk.injEq] at hb
    obtain ⟨h1, _⟩ := hb; subst h1; exact h
  | assign hy _ ih =>
    intro a a' rs h hb
    simp only [bcheck] at hb
    exact ih (rel_set h (aeval_sound h hy)) hb
  | ret hy =>
    intro a a' rs h hb
    simp only [bcheck, Option.some.injEq, Prod.mk.injEq] at hb
    obtain ⟨_, h2⟩ := hb; subst h2
    exact aeval_sound h hy
  | iteL _ _ ihp ihk =>
    intro a a' rs h hb
    obtain ⟨a1, r1, a2, r2, r3, hp, hq, hk, rfl⟩ := bcheck_ite hb
    exact (ihk (rel_joinL (ihp h hp)) hk).mono fun x hx => has_join.mpr (Or.inr hx)
  | iteLret _ ihp =>
    intro a a' rs h hb
    obtain ⟨a1, r1, a2, r2, r3, hp, hq, hk, rfl⟩ := bcheck_ite hb
    exact has_join.mpr (Or.inl (has_join.mpr (Or.inl (ihp h hp))))
  | iteR _ _ ihq ihk =>
    intro a a' rs h hb
    obtain ⟨a1, r1, a2, r2, r3, hp, hq, hk, rfl⟩ := bcheck_ite hb
    exact (ihk (rel_joinR (ihq h hq)) hk).mono fun x hx => has_join.mpr (Or.inr hx)
  | iteRret _ ihq =>
    intro a a' rs h hb
    obtain ⟨a1, r1, a2, r2, r3, hp, hq, hk, rfl⟩ := bcheck_ite hb
    exact has_join.mpr (Or.inl (has_join.mpr (Or.inr (ihq h hq))))
  | loopExit _ ihk =>
    intro a a' rs h hb
    obtain ⟨m, rb, r3, hm, hk, rfl⟩ := bcheck_loop hb
    have hm1 := (bloop_spec hm (wide_widen n a)).1
    exact (ihk ((rel_widen n h).weaken hm1) hk).mono fun x hx => has_join.mpr (Or.inr hx)
  | loopIter _ _ ihb ihloop =>
    -- one more iteration from the post-fixpoint `m` lands below `m` again, where the same check applies
    intro a a' rs h hb
    obtain ⟨m, rb, r3, hm, hk, rfl⟩ := bcheck_loop hb
    obtain ⟨hsub, hwide, m', hf, hs⟩ := bloop_spec hm (wide_widen n a)
    have h1 : Rel _ m' := ihb ((rel_widen n h).weaken hsub) hf
    refine ihloop (h1.weaken (subN_spec hs hwide)) ?_
    simp only [bcheck, widen_of_wide hwide, bloop_stable hm (wide_widen n a), hk]
  | loopRet _ ihb =>
    intro a a' rs h hb
    obtain ⟨m, rb, r3, hm, hk, rfl⟩ := bcheck_loop hb
    obtain ⟨hsub, hwide, m', hf, hs⟩ := bloop_spec hm (wide_widen n a)
    exact has_join.mpr (Or.inl (ihb ((rel_widen n h).weaken hsub) hf))

end XrsVerif.BK
