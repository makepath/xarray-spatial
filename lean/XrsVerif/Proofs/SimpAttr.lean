import Lean.Meta.Tactic.Simp.RegisterCommand
/-
  Proofs/SimpAttr.lean -- the simp sets `il` and `kl` (a simp attribute cannot be used in the module that declares it);
  Proofs/ILang.lean and Proofs/KSimp.lean say what is in them.
-/

/-- the equations by which `simp` runs straight-line ILang code -/
register_simp_attr il

/-- the equations by which `simp` runs a generated kernel (KLang) -/
register_simp_attr kl
