import XrsVerif.Proofs.ILangFocal
import XrsVerif.Proofs.Bin
import XrsVerif.Gen.IL
/-
  Proofs/ILBin.lean -- refinement: the program `Gen.IL.cpuBin`, translated statement by statement from
  `classify._cpu_bin` of /repo's current source (harness/facts_il.py), computes the hand model `Bin.cellG`
  (Model/Bin.lean: first-bin test, last-bin test, `Bin.loop`, `getW`) in every cell -- for every number type
  `[Fl F]` (only `Fl.lt`, `Fl.le`, `Fl.isfinite`, `Fl.nan` are used), every raster shape (empty too), every
  `bins` of length >= 1 (NaN, unsorted, ±inf: whatever the comparisons answer) and `new_values` at least as
  long as `bins`.
-/
set_option linter.unusedSectionVars false
namespace XrsVerif.ILBin
open XrsVerif XrsVerif.IL XrsVerif.ILVs XrsVerif.IL.Fc
variable {F : Type} [Fl F]

def whileBody : St :=
  (.seq (.ite (.cmpF .lt (.ld1 "bins" (.var "mid")) (.var "val"))
    (.setI "start" (.bin .add (.var "mid") (.lit 1)))
    (.ite (.cmpF .gt (.var "val") (.ld1 "bins" (.bin .sub (.var "mid") (.lit 1))))
      .brk
      (.setI "end" (.bin .sub (.var "mid") (.lit 1)))))
  (.setI "mid" (.bin .fdiv (.bin .add (.var "end") (.var "start")) (.lit 2))))

def whileS : St := .while (.cmpI .le (.var "start") (.var "end")) whileBody

def searchBlock : St :=
  (.seq (.setI "start" (.lit 0))
  (.seq (.setI "end" (.bin .sub (.var "nbins") (.lit 1)))
  (.seq (.setI "mid" (.bin .fdiv (.bin .add (.var "end") (.var "start")) (.lit 2)))
  (.seq whileS
  (.setI "val_bin" (.var "mid"))))))

def findBin : St :=
  (.ite (.isfinite (.var "val"))
    (.ite (.cmpF .le (.var "val") (.ld1 "bins" (.lit 0)))
      (.setI "val_bin" (.lit 0))
      (.ite (.cmpF .le (.var "val") (.ld1 "bins" (.bin .sub (.var "nbins") (.lit 1))))
        searchBlock
        .skip))
    .skip)

def storeCell : St :=
  (.ite (.cmpI .gt (.var "val_bin") (.lit (-1)))
    (.stF2 "out" (.var "y") (.var "x") (.ld1 "new_values" (.var "val_bin")))
    (.stF2 "out" (.var "y") (.var "x") .nan))

def cellBody : St :=
  (.seq (.setF "val" (.ld2 "data" (.var "y") (.var "x")))
  (.seq (.setI "val_bin" (.lit (-1)))
  (.seq findBin storeCell)))

def xLoop : St := .forRange "x" (.lit 0) (.var "cols") (.lit 1) cellBody
def yLoop : St := .forRange "y" (.lit 0) (.var "rows") (.lit 1) xLoop

def prologue (rest : St) : St :=
  (.seq (.allocF "out" [(.dim "data" 0), (.dim "data" 1)] (.lit 0 1))
  (.seq (.allocF "out" [(.dim "out" 0), (.dim "out" 1)] .nan)
  (.seq (.setI "rows" (.dim "data" 0))
  (.seq (.setI "cols" (.dim "data" 1))
  (.seq (.setI "nbins" (.dim "bins" 0))
  rest)))))

/-- the generated program is the composition of these blocks (the tie: this `rfl` is about the regenerated
    `Gen.IL.cpuBin`) -/
theorem body_eq : Gen.IL.cpuBin.body = prologue (.seq yLoop .ret) := rfl

theorem getD_off1_getW (l : List F) (nb : Nat) (hl : l.length = nb) (i : Int) (h : inRange i nb = true) (d : F) :
    l.getD (off1 [nb] i) d = Bin.getW d l i := by
  rw [inRange_iff] at h
  unfold off1 normIdx Bin.getW
  simp only [List.getD_cons_zero, hl]
  by_cases hi : i < 0
  · have : (0 : Int) ≤ i + nb := by omega
    simp [hi, this]
  · have : (0 : Int) ≤ i := by omega
    simp [hi, this]

theorem getElem?_off1_getW (l : List F) (nb : Nat) (hl : l.length = nb) (i : Int) (h : inRange i nb = true) (d : F) :
    l[off1 [nb] i]?.getD d = Bin.getW d l i := by
  rw [← List.getD_eq_getElem?_getD]; exact getD_off1_getW l nb hl i h d

theorem ld1_ok (s : State F) (a : String) (i : IE) (nb : Nat) (hs : s.shp a = [nb]) (hi : i.ok s = true)
    (hr : inRange (i.eval s) nb = true) : (FE.ld1 a i).ok s = true := by
  simp [FE.ok, hs, hi, hr]

theorem ld1_eval (s : State F) (a : String) (i : IE) (nb : Nat) (hs : s.shp a = [nb])
    (hl : (s.fa a).length = nb) (hr : inRange (i.eval s) nb = true) :
    (FE.ld1 a i).eval s = Bin.getW Fl.nan (s.fa a) (i.eval s) := by
  simp only [FE.eval, hs]
  exact getD_off1_getW _ nb hl _ hr _

/-- `bins[i] < val` on the current state (wrapped read) -/
def below (s : State F) : Int → Bool := fun i => Fl.lt (Bin.getW Fl.nan (s.fa "bins") i) (s.fenv "val")
/-- `val <= bins[i]` -/
def atMost (s : State F) : Int → Bool := fun i => Fl.le (s.fenv "val") (Bin.getW Fl.nan (s.fa "bins") i)

structure SameButI (vars : List String) (s r : State F) : Prop where
  fenv : r.fenv = s.fenv
  benv : r.benv = s.benv
  ia : r.ia = s.ia
  fa : r.fa = s.fa
  shp : r.shp = s.shp
  ext : r.ext = s.ext
  ienv : ∀ v, v ∉ vars → r.ienv v = s.ienv v

theorem SameButI.of_mods {vars : List String} {s r : State F} (h : Mods vars [] [] [] [] [] s r) : SameButI vars s r :=
  ⟨h.fenv_eq, h.benv_eq, h.ia_eq, h.fa_eq, h.shp_eq, h.ext, h.ienv⟩

theorem below_congr {s r : State F} (hfa : r.fa = s.fa) (hfe : r.fenv = s.fenv) : below r = below s := by
  unfold below; rw [hfa, hfe]

/-- `mid - 1` passes the bounds check even for `mid = 0`: numba (and `normIdx`) wrap `bins[-1]` to the last bin -/
theorem inRange_pred (m : Int) (nb : Nat) (h0 : 0 ≤ m) (h1 : m < nb) : inRange (m - 1) nb = true := by
  rw [inRange_iff]; omega

theorem whileBody_exec (fuel : Nat) (s : State F) (nb : Nat) (hrun : s.ctl = .run) (hs : s.shp "bins" = [nb])
    (hl : (s.fa "bins").length = nb) (h0 : 0 ≤ s.ienv "mid") (h1 : s.ienv "mid" < nb) :
    exec fuel whileBody s =
      if below s (s.ienv "mid") then
        { s with ienv := setS (setS s.ienv "start" (s.ienv "mid" + 1)) "mid" ((s.ienv "end" + (s.ienv "mid" + 1)) / 2) }
      else if below s (s.ienv "mid" - 1) then { s with ctl := .brk }
      else { s with ienv := setS (setS s.ienv "end" (s.ienv "mid" - 1)) "mid" ((s.ienv "mid" - 1 + s.ienv "start") / 2) } := by
  have hr : inRange (s.ienv "mid") nb = true := by rw [inRange_iff]; omega
  have hr2 := inRange_pred _ nb h0 h1
  have hb : Fl.lt ((s.fa "bins")[off1 [nb] (s.ienv "mid")]?.getD Fl.nan) (s.fenv "val") = below s (s.ienv "mid") := by
    rw [getElem?_off1_getW _ nb hl _ hr]; rfl
  have hc : Fl.lt ((s.fa "bins")[off1 [nb] (s.ienv "mid" - 1)]?.getD Fl.nan) (s.fenv "val") =
      below s (s.ienv "mid" - 1) := by
    rw [getElem?_off1_getW _ nb hl _ hr2]; rfl
  cases hb' : below s (s.ienv "mid") <;> cases hc' : below s (s.ienv "mid" - 1) <;> rw [hb'] at hb <;> rw [hc'] at hc <;>
    simp [il, whileBody, hs, hr, hr2, hrun, hb, hc, setS, fdiv_two]

theorem cmp_start_end (s : State F) :
    (BE.cmpI .le (.var "start") (.var "end")).eval s = decide (s.ienv "start" ≤ s.ienv "end") := rfl

theorem bisect {lo hi m : Int} {k : Nat} (hm : m = (hi + lo) / 2) (hle : lo ≤ hi) (hk : (hi - lo + 1).toNat ≤ k + 1) :
    lo ≤ m ∧ m ≤ hi ∧ hi - (m + 1) + 1 ≤ k ∧ m - 1 - lo + 1 ≤ k := by omega

theorem loop_done (below : Int → Bool) (k : Nat) (start stp : Int) (h : ¬ start ≤ stp) :
    Bin.loop below k start stp = (stp + start) / 2 := by
  cases k <;> simp [Bin.loop, h]

theorem loop_succ (below : Int → Bool) (k : Nat) (start stp : Int) (h : start ≤ stp) :
    Bin.loop below (k + 1) start stp =
      if below ((stp + start) / 2) then Bin.loop below k ((stp + start) / 2 + 1) stp
      else if below ((stp + start) / 2 - 1) then (stp + start) / 2
      else Bin.loop below k start ((stp + start) / 2 - 1) := by
  simp [Bin.loop, h]

theorem while_refines (nb n fuel : Nat) (s : State F)
    (hrun : s.ctl = .run) (hs : s.shp "bins" = [nb]) (hl : (s.fa "bins").length = nb)
    (h0 : 0 ≤ s.ienv "start") (h1 : s.ienv "end" < nb) (h2 : s.ienv "start" ≤ s.ienv "end" + 1)
    (hm : s.ienv "mid" = (s.ienv "end" + s.ienv "start") / 2)
    (hn : (s.ienv "end" - s.ienv "start" + 1).toNat ≤ n) (hf : n < fuel) :
    (exec fuel whileS s).ctl = .run ∧
    (exec fuel whileS s).ienv "mid" = Bin.loop (below s) n (s.ienv "start") (s.ienv "end") ∧
    SameButI ["start", "end", "mid"] s (exec fuel whileS s) := by
  -- invariant: the model's loop, run from the bounds of `st` with the fuel `k` still to come, gives the result sought
  have h := while_rule (.cmpI .le (.var "start") (.var "end")) whileBody
    (fun k st => st.ctl = .run ∧ Mods ["start", "end", "mid"] [] [] [] [] [] s st ∧ 0 ≤ st.ienv "start" ∧
      st.ienv "end" < nb ∧ st.ienv "start" ≤ st.ienv "end" + 1 ∧ st.ienv "mid" = (st.ienv "end" + st.ienv "start") / 2 ∧
      (st.ienv "end" - st.ienv "start" + 1).toNat ≤ k ∧
      Bin.loop (below s) k (st.ienv "start") (st.ienv "end") = Bin.loop (below s) n (s.ienv "start") (s.ienv "end"))
    (fun r => r.ctl = .run ∧ r.ienv "mid" = Bin.loop (below s) n (s.ienv "start") (s.ienv "end") ∧
      Mods ["start", "end", "mid"] [] [] [] [] [] s r)
    (fun f k st _ ⟨c, hM, a0, a1, a2, am, ak, aL⟩ => by
      refine ⟨rfl, fun hc => ?_, fun hc => ?_⟩
      · have hgt : ¬ st.ienv "start" ≤ st.ienv "end" := by simpa [cmp_start_end] using hc
        exact ⟨c, by rw [am, ← loop_done (below s) k _ _ hgt, aL], hM⟩
      · have hle : st.ienv "start" ≤ st.ienv "end" := by simpa [cmp_start_end] using hc
        obtain ⟨k, rfl⟩ : ∃ k', k = k' + 1 := ⟨k - 1, by omega⟩
        obtain ⟨b0, b1, b2, b3⟩ := bisect am hle ak
        have hbody := whileBody_exec f st nb c (hM.shp_eq ▸ hs) (hM.fa_eq ▸ hl) (a0.trans b0) (Int.lt_of_le_of_lt b1 a1)
        have hM' := hM.trans (exec_frame f whileBody st)
        rw [below_congr hM.fa_eq hM.fenv_eq] at hbody
        rw [loop_succ _ _ _ _ hle, ← am] at aL
        cases hb : below s (st.ienv "mid") with
        | true =>
          rw [hb, if_pos rfl] at aL hbody
          rw [hbody] at hM' ⊢
          refine Or.inl ⟨c, k, Nat.lt_succ_self k, c, hM', ?_⟩
          simp [setS]
          exact ⟨Int.le_add_one (a0.trans b0), a1, b1, b2, aL⟩
        | false =>
          rw [hb, if_neg Bool.false_ne_true] at aL hbody
          cases hc' : below s (st.ienv "mid" - 1) with
          | true =>
            rw [hc', if_pos rfl] at aL hbody
            rw [hbody] at hM' ⊢
            exact Or.inr (Or.inr (Or.inl ⟨rfl, rfl, aL, hM'.ctl .run⟩))
          | false =>
            rw [hc', if_neg Bool.false_ne_true] at aL hbody
            rw [hbody] at hM' ⊢
            refine Or.inl ⟨c, k, Nat.lt_succ_self k, c, hM', ?_⟩
            simp [setS]
            exact ⟨a0, Int.lt_of_le_of_lt (Int.sub_le_self _ (by decide)) (Int.lt_of_le_of_lt b1 a1), b0, b3, aL⟩)
    n fuel s ⟨hrun, Mods.refl _ _ _ _ _ _ s, h0, h1, h2, hm, hn, rfl⟩ hf
  exact ⟨h.1, h.2.1, .of_mods h.2.2⟩

theorem loop_range (below : Int → Bool) (n : Nat) : ∀ (start stp : Int), start ≤ stp + 1 →
    start - 1 ≤ Bin.loop below n start stp ∧ Bin.loop below n start stp ≤ stp := by
  induction n with
  | zero => intro start stp h; simp only [Bin.loop]; omega
  | succ n ih =>
    intro start stp h
    rw [Bin.loop.eq_def]
    simp only []
    by_cases hle : start ≤ stp
    · simp only [hle, if_true]
      have hm1 : start ≤ (stp + start) / 2 := by omega
      have hm2 : (stp + start) / 2 ≤ stp := by omega
      split
      · have := ih ((stp + start) / 2 + 1) stp (by omega); omega
      · split
        · omega
        · have := ih start ((stp + start) / 2 - 1) (by omega); omega
    · simp only [hle, if_false]; omega

def enter (s : State F) (nb : Nat) : State F :=
  { s with ienv := setS (setS (setS s.ienv "start" 0) "end" ((nb : Int) - 1)) "mid" (((nb : Int) - 1 + 0) / 2) }

theorem searchBlock_eq (fuel : Nat) (s : State F) (nb : Nat) (hrun : s.ctl = .run) (hnb : s.ienv "nbins" = nb) :
    exec fuel searchBlock s = exec fuel (.seq whileS (.setI "val_bin" (.var "mid"))) (enter s nb) := by
  simp [il, searchBlock, enter, hrun, hnb, fdiv_two, setS]

theorem searchBlock_refines (fuel : Nat) (s : State F) (nb : Nat) (hrun : s.ctl = .run)
    (hnb : s.ienv "nbins" = nb) (hs : s.shp "bins" = [nb]) (hl : (s.fa "bins").length = nb) (hf : nb < fuel) :
    (exec fuel searchBlock s).ctl = .run ∧
    (exec fuel searchBlock s).ienv "val_bin" = Bin.loop (below s) nb 0 ((nb : Int) - 1) := by
  rw [searchBlock_eq fuel s nb hrun hnb]
  have e1 : (enter s nb).ienv "start" = 0 := by simp [enter, setS]
  have e2 : (enter s nb).ienv "end" = (nb : Int) - 1 := by simp [enter, setS]
  have e3 : (enter s nb).ienv "mid" = ((nb : Int) - 1 + 0) / 2 := by simp [enter, setS]
  obtain ⟨w1, w2, _⟩ := while_refines nb nb fuel (enter s nb) hrun hs hl (by omega) (by omega) (by omega)
    (by rw [e3, e2, e1]) (by omega) hf
  rw [exec_seq_run _ _ _ _ w1, exec_setI _ _ _ _ rfl]
  refine ⟨w1, ?_⟩
  simp only [setS_same, IE.eval]
  rw [w2, e1, e2]
  rfl

def binOf (s : State F) : Int :=
  if Fl.isfinite (s.fenv "val") then Bin.search Fl.lt Fl.le Fl.nan (s.fa "bins") (s.fenv "val") else -1

theorem le_bins (s : State F) (e : IE) (nb : Nat) (hs : s.shp "bins" = [nb]) (hl : (s.fa "bins").length = nb)
    (he : e.ok s = true) (hr : inRange (e.eval s) nb = true) :
    (BE.cmpF .le (.var "val") (.ld1 "bins" e)).ok s = true ∧
    (BE.cmpF .le (.var "val") (.ld1 "bins" e)).eval s = atMost s (e.eval s) := by
  refine ⟨?_, ?_⟩
  · have := ld1_ok s "bins" e nb hs he hr
    simp only [BE.ok, this]; rfl
  · show Fl.le (s.fenv "val") ((FE.ld1 "bins" e).eval s) = _
    rw [ld1_eval s "bins" e nb hs hl hr]; rfl

/-- `if np.isfinite(val): ...` leaves the model's bin in `val_bin`.  With an empty `bins` only a non-finite value
    gets through (`hne`): a finite one reads `bins[0]` out of range, see `findBin_no_bins`. -/
theorem findBin_refines (fuel : Nat) (s : State F) (nb : Nat) (hrun : s.ctl = .run)
    (hnb : s.ienv "nbins" = nb) (hs : s.shp "bins" = [nb]) (hl : (s.fa "bins").length = nb)
    (hf : 1 ≤ nb → nb < fuel)
    (hne : 1 ≤ nb ∨ Fl.isfinite (s.fenv "val") = false) (hvb : s.ienv "val_bin" = -1) :
    (exec fuel findBin s).ctl = .run ∧ (exec fuel findBin s).ienv "val_bin" = binOf s := by
  have hfok : (BE.isfinite (.var "val")).ok s = true := rfl
  have hfev : (BE.isfinite (.var "val")).eval s = Fl.isfinite (s.fenv "val") := rfl
  unfold findBin binOf
  cases hfin : Fl.isfinite (s.fenv "val") with
  | false =>
    rw [exec_ite_false _ _ _ _ _ hfok (by rw [hfev, hfin]), exec_skip]
    exact ⟨hrun, hvb⟩
  | true =>
    have hnb1 : 1 ≤ nb := hne.resolve_right (by rw [hfin]; simp)
    rw [exec_ite_true _ _ _ _ _ hfok (by rw [hfev, hfin])]
    obtain ⟨hok0, hev0⟩ := le_bins s (.lit 0) nb hs hl rfl (inRange_of_lt 0 nb hnb1)
    have hidx : (IE.bin .sub (.var "nbins") (.lit 1)).eval s = (nb : Int) - 1 := by
      simp [IE.eval, IOp.eval, hnb]
    obtain ⟨hok1, hev1⟩ := le_bins s (.bin .sub (.var "nbins") (.lit 1)) nb hs hl rfl
      (by rw [hidx, inRange_iff]; omega)
    rw [hidx] at hev1
    have hsearch : Bin.search Fl.lt Fl.le Fl.nan (s.fa "bins") (s.fenv "val") =
        if atMost s 0 then 0 else if atMost s ((nb : Int) - 1) then Bin.loop (below s) nb 0 ((nb : Int) - 1)
        else -1 := by
      unfold Bin.search Bin.searchP; rw [hl]; rfl
    simp only [if_true]
    rw [hsearch]
    cases h0 : atMost s 0 with
    | true =>
      rw [exec_ite_true _ _ _ _ _ hok0 (by rw [hev0]; exact h0), exec_setI _ _ _ _ rfl]
      exact ⟨hrun, by simp [IE.eval]⟩
    | false =>
      rw [exec_ite_false _ _ _ _ _ hok0 (by rw [hev0]; exact h0)]
      cases h1 : atMost s ((nb : Int) - 1) with
      | true =>
        rw [exec_ite_true _ _ _ _ _ hok1 (by rw [hev1, h1])]
        obtain ⟨w1, w2⟩ := searchBlock_refines fuel s nb hrun hnb hs hl (hf hnb1)
        exact ⟨w1, by simpa using w2⟩
      | false =>
        rw [exec_ite_false _ _ _ _ _ hok1 (by rw [hev1, h1]), exec_skip]
        exact ⟨hrun, by simpa using hvb⟩

theorem binOf_range (s : State F) (nb : Nat) (hl : (s.fa "bins").length = nb) :
    -1 ≤ binOf s ∧ binOf s < max nb 1 := by
  unfold binOf Bin.search Bin.searchP
  rw [hl]
  split
  · split
    · omega
    · split
      · have := loop_range (fun i => Fl.lt (Bin.getW Fl.nan (s.fa "bins") i) (s.fenv "val")) nb 0 ((nb : Int) - 1)
          (by omega)
        omega
      · omega
  · omega

/-- `out[y, x] = new_values[val_bin]` / `nan` -/
theorem storeCell_run (fuel : Nat) (s : State F) (rows cols nv y x : Nat)
    (ho : s.shp "out" = [rows, cols]) (hn : s.shp "new_values" = [nv]) (hnl : (s.fa "new_values").length = nv)
    (hy : s.ienv "y" = y) (hx : s.ienv "x" = x) (hyr : y < rows) (hxc : x < cols)
    (hb1 : s.ienv "val_bin" < nv ∨ s.ienv "val_bin" = -1) :
    exec fuel storeCell s =
      { s with fa := setS s.fa "out" ((s.fa "out").set (y * cols + x)
          (if s.ienv "val_bin" > -1 then Bin.getW Fl.nan (s.fa "new_values") (s.ienv "val_bin") else Fl.nan)) } := by
  have hiy := inRange_of_lt y rows hyr
  have hix := inRange_of_lt x cols hxc
  by_cases hb : s.ienv "val_bin" > -1
  · have hr : inRange (s.ienv "val_bin") nv = true := by rw [inRange_iff]; omega
    have hg := getElem?_off1_getW (s.fa "new_values") nv hnl _ hr (Fl.nan : F)
    simp [il, storeCell, ho, hn, hy, hx, hiy, hix, hb, hr, hg, off2_nat]
  · simp [il, storeCell, ho, hy, hx, hiy, hix, hb, off2_nat]

/-- what the loops keep fixed: the inputs, the shape of `out`, the three size variables -/
structure Env (D B NV : List F) (rows cols nb nv : Nat) (st : State F) : Prop where
  dshp : st.shp "data" = [rows, cols]
  dfa : st.fa "data" = D
  bshp : st.shp "bins" = [nb]
  bfa : st.fa "bins" = B
  nshp : st.shp "new_values" = [nv]
  nfa : st.fa "new_values" = NV
  oshp : st.shp "out" = [rows, cols]
  rowsV : st.ienv "rows" = rows
  colsV : st.ienv "cols" = cols
  nbinsV : st.ienv "nbins" = nb

theorem Env.of_mods {D B NV : List F} {rows cols nb nv : Nat} {iv fv bv ias fas shs : List String} {s r : State F}
    (h : Env D B NV rows cols nb nv s) (hm : Mods iv fv bv ias fas shs s r)
    (hw : (∀ v ∈ ["rows", "cols", "nbins"], v ∉ iv) ∧ (∀ x ∈ ["data", "bins", "new_values"], x ∉ fas) ∧
      (∀ x ∈ ["data", "bins", "new_values", "out"], x ∉ shs)) : Env D B NV rows cols nb nv r :=
  ⟨(hm.shp _ (hw.2.2 _ (by simp))).trans h.dshp, (hm.fa _ (hw.2.1 _ (by simp))).trans h.dfa,
   (hm.shp _ (hw.2.2 _ (by simp))).trans h.bshp, (hm.fa _ (hw.2.1 _ (by simp))).trans h.bfa,
   (hm.shp _ (hw.2.2 _ (by simp))).trans h.nshp, (hm.fa _ (hw.2.1 _ (by simp))).trans h.nfa,
   (hm.shp _ (hw.2.2 _ (by simp))).trans h.oshp, (hm.ienv _ (hw.1 _ (by simp))).trans h.rowsV,
   (hm.ienv _ (hw.1 _ (by simp))).trans h.colsV, (hm.ienv _ (hw.1 _ (by simp))).trans h.nbinsV⟩

abbrev cellF (B NV : List F) (v : F) : F := Bin.cellG Fl.lt Fl.le Fl.isfinite Fl.nan B NV v

def cellEnter (st : State F) (v : F) : State F :=
  { st with fenv := setS st.fenv "val" v, ienv := setS st.ienv "val_bin" (-1) }

theorem cellBody_eq (fuel : Nat) (st : State F) (D B NV : List F) (rows cols nb nv y x : Nat)
    (hrun : st.ctl = .run) (he : Env D B NV rows cols nb nv st)
    (hy : st.ienv "y" = y) (hx : st.ienv "x" = x) (hyr : y < rows) (hxc : x < cols) :
    exec fuel cellBody st = exec fuel (.seq findBin storeCell) (cellEnter st (D.getD (y * cols + x) Fl.nan)) := by
  simp [il, cellBody, cellEnter, he.dshp, he.dfa, hy, hx, inRange_of_lt y rows hyr, inRange_of_lt x cols hxc, hrun,
    off2_nat, List.getD_eq_getElem?_getD]

theorem cellBody_refines (fuel : Nat) (st : State F) (D B NV : List F) (rows cols nb nv y x : Nat)
    (hrun : st.ctl = .run) (he : Env D B NV rows cols nb nv st)
    (hB : B.length = nb) (hNV : NV.length = nv) (hnv : nb ≤ nv)
    (hf : 1 ≤ nb → nb < fuel)
    (hy : st.ienv "y" = y) (hx : st.ienv "x" = x) (hyr : y < rows) (hxc : x < cols)
    (hne : 1 ≤ nb ∨ Fl.isfinite (D.getD (y * cols + x) Fl.nan) = false) :
    (exec fuel cellBody st).ctl = .run ∧
    (exec fuel cellBody st).fa "out" = (st.fa "out").set (y * cols + x) (cellF B NV (D.getD (y * cols + x) Fl.nan)) := by
  rw [cellBody_eq fuel st D B NV rows cols nb nv y x hrun he hy hx hyr hxc]
  have hM2 : Mods ["start", "end", "mid", "val_bin"] ["val"] [] [] [] [] st (cellEnter st (D.getD (y * cols + x) Fl.nan)) :=
    (mods_setF _ _ _ _ _ _ st "val" _ (by simp)).trans (mods_setI _ _ _ _ _ _ _ "val_bin" _ (by simp))
  generalize hs2 : cellEnter st (D.getD (y * cols + x) Fl.nan) = s2 at hM2 ⊢
  have he2 := he.of_mods hM2 (by decide)
  have f2 : s2.fenv "val" = D.getD (y * cols + x) Fl.nan := by subst hs2; simp [cellEnter]
  obtain ⟨g1, g2⟩ := findBin_refines fuel s2 nb (by subst hs2; exact hrun) he2.nbinsV he2.bshp
    (by rw [he2.bfa]; exact hB) hf (by rw [f2]; exact hne) (by subst hs2; simp [cellEnter])
  have hM3 := hM2.trans ((exec_frame fuel findBin s2).mono (by decide) (by decide) (by decide) (by decide) (by decide)
    (by decide))
  rw [exec_seq_run _ _ _ _ g1]
  generalize exec fuel findBin s2 = s3 at g1 g2 hM3 ⊢
  have he3 := he.of_mods hM3 (by decide)
  have hbin : binOf s2 = (if Fl.isfinite (D.getD (y * cols + x) Fl.nan) then
      Bin.search Fl.lt Fl.le Fl.nan B (D.getD (y * cols + x) Fl.nan) else -1) := by
    unfold binOf; rw [f2, he2.bfa]
  have hrange := binOf_range s2 nb (by rw [he2.bfa]; exact hB)
  rw [storeCell_run fuel s3 rows cols nv y x he3.oshp he3.nshp (by rw [he3.nfa]; exact hNV)
    ((hM3.ienv _ (by simp)).trans hy) ((hM3.ienv _ (by simp)).trans hx) hyr hxc
    (by
      rw [g2]
      rcases hne with h | h
      · left; omega
      · right; rw [hbin, h]; rfl)]
  refine ⟨g1, ?_⟩
  show setS s3.fa "out" _ "out" = _
  rw [setS_same, hM3.fa_eq, he.nfa, g2, hbin]
  unfold cellF Bin.cellG
  cases Fl.isfinite (D.getD (y * cols + x) Fl.nan) <;> simp

theorem Env.in_yLoop {D B NV : List F} {rows cols nb nv : Nat} {s st : State F} (he : Env D B NV rows cols nb nv s)
    (hM : For2Mods "y" "x" cellBody s st) : Env D B NV rows cols nb nv st := he.of_mods hM (by decide)

theorem Env.in_xLoop {D B NV : List F} {rows cols nb nv : Nat} {s st : State F} (he : Env D B NV rows cols nb nv s)
    (hM : LoopMods "x" cellBody s st) : Env D B NV rows cols nb nv st ∧ st.ienv "y" = s.ienv "y" :=
  ⟨he.of_mods hM (by decide), hM.ienv "y" (by decide)⟩

def afterPrologue (s : State F) (rows cols nb : Nat) : State F :=
  { s with
    shp := setS (setS s.shp "out" [rows, cols]) "out" [rows, cols]
    fa := setS (setS s.fa "out" (List.replicate (rows * cols) (Fl.lit 0 1))) "out" (List.replicate (rows * cols) Fl.nan)
    ienv := setS (setS (setS s.ienv "rows" rows) "cols" cols) "nbins" nb }

theorem prologue_run (fuel : Nat) (rest : St) (s : State F) (rows cols nb : Nat) (hrun : s.ctl = .run)
    (hd : s.shp "data" = [rows, cols]) (hb : s.shp "bins" = [nb]) :
    exec fuel (prologue rest) s = exec fuel rest (afterPrologue s rows cols nb) := by
  simp [il, prologue, afterPrologue, hd, hb, hrun, setS]

/-- **refinement**: on well-formed inputs (shapes match the array lengths; `bins` not empty -- or no finite cell at
    all; `new_values` at least as long as `bins`; more fuel than `nbins`, the bound on the iterations of the binary
    search) the program generated from `_cpu_bin` ends with `return`, `out` has the raster's shape and holds the
    hand model `Bin.cellG` of every cell, and the inputs are unchanged. -/
theorem cpuBin_refines (s : State F) (fuel rows cols nb nv : Nat) (hrun : s.ctl = .run)
    (hd : s.shp "data" = [rows, cols]) (hdl : (s.fa "data").length = rows * cols)
    (hb : s.shp "bins" = [nb]) (hbl : (s.fa "bins").length = nb)
    (hn : s.shp "new_values" = [nv]) (hnl : (s.fa "new_values").length = nv)
    (hnv : nb ≤ nv) (hf : nb < fuel)
    (hne : 1 ≤ nb ∨ ∀ v ∈ s.fa "data", Fl.isfinite v = false) :
    let r := Gen.IL.cpuBin.run s fuel
    r.ctl = .ret ∧ r.shp "out" = [rows, cols] ∧
    r.fa "out" = (s.fa "data").map (Bin.cellG Fl.lt Fl.le Fl.isfinite Fl.nan (s.fa "bins") (s.fa "new_values")) ∧
    r.fa "data" = s.fa "data" ∧ r.fa "bins" = s.fa "bins" ∧ r.fa "new_values" = s.fa "new_values" := by
  simp only [Prog.run, body_eq, yLoop, xLoop]
  rw [prologue_run fuel _ s rows cols nb hrun hd hb]
  have he : Env (s.fa "data") (s.fa "bins") (s.fa "new_values") rows cols nb nv (afterPrologue s rows cols nb) := by
    refine ⟨?_, ?_, ?_, ?_, ?_, ?_, ?_, ?_, ?_, ?_⟩ <;> simp [afterPrologue, setS, hd, hb, hn]
  obtain ⟨c1, c3⟩ := exec_for2_map fuel "y" "x" (.var "rows") (.var "cols") cellBody "out" rows cols
    (fun y x => cellF (s.fa "bins") (s.fa "new_values") ((s.fa "data").getD (y * cols + x) Fl.nan))
    (afterPrologue s rows cols nb) hrun (by decide) (by decide) (by simp [afterPrologue, setS]) ⟨rfl, he.rowsV⟩
    (fun st hM => ⟨rfl, (he.in_yLoop hM).colsV⟩)
    (fun st y x hy hx hc hM vy vx =>
      cellBody_refines fuel st _ _ _ rows cols nb nv y x hc (he.in_yLoop hM) hbl hnl hnv (fun _ => hf) vy vx hy hx
        (hne.imp id fun h => h _ (by
          rw [List.getD_eq_getElem?_getD, List.getElem?_eq_getElem (by rw [hdl]; exact rowMajor_lt hy hx)]; simp)))
  have he' := he.in_yLoop (exec_frame fuel yLoop _)
  rw [exec_seq_run _ _ _ _ c1, exec_ret]
  refine ⟨rfl, he'.oshp, c3.trans ?_, he'.dfa, he'.bfa, he'.nfa⟩
  apply ext_rowMajor rows cols _ _ (by simp [pairs_length]) (by simp [hdl])
  intro p q hp hq
  have := rowMajor_lt hp hq
  simp [pairs_getElem? rows cols p q hp hq, List.getD_eq_getElem?_getD, hdl, this, cellF]

end XrsVerif.ILBin
