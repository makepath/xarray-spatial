import XrsVerif.Proofs.ILProxBlocks
/-
  The abstraction relation between an ILang state of the generated line sweep and the
  hand model's `Prox.LineSt`, and the explicit hypotheses on the number domain.

  The model works with *squared distances as naturals* and the threshold `⌈2·max²⌉`.  The generated program
  works with numbers `F`: `dist = _distance(...)` (external), `dist ** 2`, `max_distance ** 2 * 2.0`,
  `sqrt(near_distance_square)`, and the comparisons `<`, `>=`.  `Arith c emb mx` lists what is assumed of `F`:
  an embedding `emb : Nat → F` of the model's squared distances under which the comparisons of the program
  are the comparisons of the model, and `sqrt` is exact on embedded values.  `SweepEnv.dist` is the hypothesis
  on `_distance` and the coordinate grids: the square of the external distance between two cells is the
  embedded `dist2` of the model.  Nothing else is assumed for the line sweep; `_process_numpy` adds `-1.0 < 0`
  (`PNInput.neg1`, Proofs/ILProxInLine.lean).
-/
namespace XrsVerif.IL.Px
open XrsVerif XrsVerif.Prox
variable {F : Type} [Fl F]
set_option linter.unusedSectionVars false

/-- what the refinement assumes of the number type, for the model configuration `c`, the embedding `emb` of
    squared distances and the value `mx` of `max_distance` -/
structure Arith (c : Cfg) (emb : Nat → F) (mx : F) : Prop where
  /-- `<` on embedded squared distances is `<` on naturals -/
  lt_emb : ∀ a b, Fl.lt (emb a) (emb b) = decide (a < b)
  /-- `dist² < max_distance ** 2 * 2.0` is the model's `d < ⌈2·max²⌉` -/
  thr_lt : ∀ d, Fl.lt (emb d) (Fl.mul (Fl.mul mx mx) (Fl.lit 2 1)) = ltOpt d c.max2x2
  /-- `max_distance * max_distance >= dist²` is the model's `2·d ≤ ⌈2·max²⌉` -/
  thr_ge : ∀ d, Fl.le (emb d) (Fl.mul mx mx) = withinMax c d
  /-- `sqrt` is exact on embedded values, and non-negative -/
  sqrt_sq : ∀ d, Fl.mul (Fl.sqrt (emb d)) (Fl.sqrt (emb d)) = emb d
  sqrt_lt : ∀ d, Fl.lt (Fl.sqrt (emb d)) (Fl.lit 0 1) = false
  sqrt_le : ∀ d, Fl.le (Fl.lit 0 1) (Fl.sqrt (emb d)) = true
  /-- the literal `0.0` stored at a target pixel -/
  zero_sq : Fl.mul (Fl.lit 0 1 : F) (Fl.lit 0 1) = emb 0
  zero_lt : Fl.lt (Fl.lit 0 1 : F) (Fl.lit 0 1) = false
  zero_le : Fl.le (Fl.lit 0 1 : F) (Fl.lit 0 1) = true

/-- a stored `line_proximity` value against the model's squared proximity (`none` = "still -1") -/
def lpRel (emb : Nat → F) (y : F) : Option Nat → Prop
  | none => Fl.lt y (Fl.lit 0 1) = true
  | some d => Fl.lt y (Fl.lit 0 1) = false ∧ Fl.le (Fl.lit 0 1) y = true ∧ Fl.mul y y = emb d

/-- a pair `(pan_near_x[q], pan_near_y[q])` / `(nearest_xs[q], nearest_ys[q])` against a model target -/
def tgtRel (H W : Nat) (x y : Int) : Tgt → Prop
  | none => x = -1
  | some t => x = (t.2 : Int) ∧ y = (t.1 : Int) ∧ t.1 < H ∧ t.2 < W

/-- `near_distance_square` against the model's bound: still the threshold, or an embedded distance -/
def NdsOK (c : Cfg) (emb : Nat → F) (mx x : F) (n : Option Nat) : Prop :=
  (x = Fl.mul (Fl.mul mx mx) (Fl.lit 2 1) ∧ n = c.max2x2) ∨ ∃ d, n = some d ∧ x = emb d

theorem NdsOK.lt {c : Cfg} {emb : Nat → F} {mx x : F} {n : Option Nat} (ar : Arith c emb mx)
    (h : NdsOK c emb mx x n) (d : Nat) : Fl.lt (emb d) x = ltOpt d n := by
  rcases h with ⟨hx, hn⟩ | ⟨e, hn, hx⟩
  · rw [hx, hn, ar.thr_lt]
  · rw [hx, hn, ar.lt_emb]; rfl

/-- the scalars one pixel assigns -/
def LV.scratch : LV → Bool
  | .i | .isTarget | .nds | .x1 | .y1 | .x2 | .y2 | .dist | .distSqr | .last | .tr => true
  | _ => false

/-- the scalars the sweep loop assigns: the pixel's and the loop variable -/
def LV.sweepScratch (a : LV) : Bool := a.scratch || a == .pixel

/-- the scalars `_process_proximity_line` assigns -/
def LV.lineScratch (a : LV) : Bool :=
  a.sweepScratch || a == .start || a == .end_ || a == .step || a == .nValues

/-- what a piece of the line sweep leaves unchanged: shapes, `_distance`, every scalar outside `S`, every
    array but the five it writes -/
structure FrameS (S : LV → Bool) (N : Names) (s r : State F) : Prop where
  shp : r.shp = s.shp
  ext : r.ext = s.ext
  ienv : ∀ v, (∀ a : LV, S a = true → v ≠ N.nm a) → r.ienv v = s.ienv v
  fenv : ∀ v, (∀ a : LV, S a = true → v ≠ N.nm a) → r.fenv v = s.fenv v
  benv : ∀ v, (∀ a : LV, S a = true → v ≠ N.nm a) → r.benv v = s.benv v
  ia : ∀ a, a ≠ "pan_near_x" → a ≠ "pan_near_y" → a ≠ "nearest_xs" → a ≠ "nearest_ys" → r.ia a = s.ia a
  fa : ∀ a, a ≠ "line_proximity" → r.fa a = s.fa a

abbrev PixFrame (N : Names) (s r : State F) : Prop := FrameS LV.scratch N s r

theorem FrameS.refl (S : LV → Bool) (N : Names) (s : State F) : FrameS S N s s :=
  ⟨rfl, rfl, fun _ _ => rfl, fun _ _ => rfl, fun _ _ => rfl, fun _ _ _ _ _ => rfl, fun _ _ => rfl⟩

theorem FrameS.trans {S : LV → Bool} {N : Names} {s r t : State F} (h1 : FrameS S N s r) (h2 : FrameS S N r t) :
    FrameS S N s t :=
  ⟨h2.shp.trans h1.shp, h2.ext.trans h1.ext,
   fun v hv => (h2.ienv v hv).trans (h1.ienv v hv), fun v hv => (h2.fenv v hv).trans (h1.fenv v hv),
   fun v hv => (h2.benv v hv).trans (h1.benv v hv),
   fun a h1' h2' h3' h4' => (h2.ia a h1' h2' h3' h4').trans (h1.ia a h1' h2' h3' h4'),
   fun a ha => (h2.fa a ha).trans (h1.fa a ha)⟩

theorem FrameS.mono {S S' : LV → Bool} {N : Names} {s r : State F} (h : FrameS S N s r)
    (hS : ∀ a, S a = true → S' a = true) : FrameS S' N s r :=
  ⟨h.shp, h.ext, fun v hv => h.ienv v (fun a ha => hv a (hS a ha)), fun v hv => h.fenv v (fun a ha => hv a (hS a ha)),
   fun v hv => h.benv v (fun a ha => hv a (hS a ha)), h.ia, h.fa⟩

theorem PixFrame.refl (N : Names) (s : State F) : PixFrame N s s := FrameS.refl _ N s

theorem FrameS.setI {S : LV → Bool} {N : Names} (s : State F) (b : LV) (hb : S b = true) (v : Int) :
    FrameS S N s { s with ienv := setS s.ienv (N.nm b) v } :=
  ⟨rfl, rfl, fun _ hw => setS_other _ _ _ _ (hw b hb), fun _ _ => rfl, fun _ _ => rfl, fun _ _ _ _ _ => rfl, fun _ _ => rfl⟩

theorem nm_ne_scratch {S : LV → Bool} {N : Names} (hN : N.WF) (b : LV) (hb : S b = false) :
    ∀ a : LV, S a = true → N.nm b ≠ N.nm a := by
  intro a ha e
  have := hN.inj _ _ e
  subst this
  rw [hb] at ha; cases ha

theorem FrameS.keepI {S : LV → Bool} {N : Names} {s r : State F} (hN : N.WF) (f : FrameS S N s r) (b : LV) (hb : S b = false) :
    r.ienv (N.nm b) = s.ienv (N.nm b) := f.ienv _ (nm_ne_scratch hN b hb)

theorem FrameS.keepF {S : LV → Bool} {N : Names} {s r : State F} (hN : N.WF) (f : FrameS S N s r) (b : LV) (hb : S b = false) :
    r.fenv (N.nm b) = s.fenv (N.nm b) := f.fenv _ (nm_ne_scratch hN b hb)

theorem FrameS.keepB {S : LV → Bool} {N : Names} {s r : State F} (hN : N.WF) (f : FrameS S N s r) (b : LV) (hb : S b = false) :
    r.benv (N.nm b) = s.benv (N.nm b) := f.benv _ (nm_ne_scratch hN b hb)

section proj
variable (N : Names) (W : Nat) (s : State F) (tr tc r p : Nat) (x y : Int) (d2 : F)

@[simp] theorem afterDist_ia : (afterDist N W s tr tc r p).ia = s.ia := rfl
@[simp] theorem afterDist_fa : (afterDist N W s tr tc r p).fa = s.fa := rfl
@[simp] theorem afterDist_shp : (afterDist N W s tr tc r p).shp = s.shp := rfl
@[simp] theorem afterDist_ext : (afterDist N W s tr tc r p).ext = s.ext := rfl
@[simp] theorem afterDist_ctl : (afterDist N W s tr tc r p).ctl = s.ctl := rfl
@[simp] theorem afterDist_ienv : (afterDist N W s tr tc r p).ienv = s.ienv := rfl
@[simp] theorem afterDist_benv : (afterDist N W s tr tc r p).benv = s.benv := rfl
@[simp] theorem setNds_ia : (setNds N s d2).ia = s.ia := rfl
@[simp] theorem setNds_fa : (setNds N s d2).fa = s.fa := rfl
@[simp] theorem setNds_shp : (setNds N s d2).shp = s.shp := rfl
@[simp] theorem setNds_ext : (setNds N s d2).ext = s.ext := rfl
@[simp] theorem setNds_ctl : (setNds N s d2).ctl = s.ctl := rfl
@[simp] theorem setNds_ienv : (setNds N s d2).ienv = s.ienv := rfl
@[simp] theorem setNds_benv : (setNds N s d2).benv = s.benv := rfl
@[simp] theorem setNds_nds : (setNds N s d2).fenv (N.nm .nds) = d2 := by simp [setNds]
@[simp] theorem setPan_fa : (setPan s p x y).fa = s.fa := rfl
@[simp] theorem setPan_shp : (setPan s p x y).shp = s.shp := rfl
@[simp] theorem setPan_ext : (setPan s p x y).ext = s.ext := rfl
@[simp] theorem setPan_ctl : (setPan s p x y).ctl = s.ctl := rfl
@[simp] theorem setPan_ienv : (setPan s p x y).ienv = s.ienv := rfl
@[simp] theorem setPan_fenv : (setPan s p x y).fenv = s.fenv := rfl
@[simp] theorem setPan_benv : (setPan s p x y).benv = s.benv := rfl
@[simp] theorem setPan_px : (setPan s p x y).ia "pan_near_x" = (s.ia "pan_near_x").set p x := by simp [setPan, setS]
@[simp] theorem setPan_py : (setPan s p x y).ia "pan_near_y" = (s.ia "pan_near_y").set p y := by simp [setPan, setS]
@[simp] theorem setPan_nx : (setPan s p x y).ia "nearest_xs" = s.ia "nearest_xs" := by simp [setPan, setS]
@[simp] theorem setPan_ny : (setPan s p x y).ia "nearest_ys" = s.ia "nearest_ys" := by simp [setPan, setS]

theorem afterDist_fenv_keep (hN : N.WF) (b : LV)
    (hb : b ≠ .x1 ∧ b ≠ .y1 ∧ b ≠ .x2 ∧ b ≠ .y2 ∧ b ≠ .dist ∧ b ≠ .distSqr) :
    (afterDist N W s tr tc r p).fenv (N.nm b) = s.fenv (N.nm b) := by
  simp [afterDist, setS, hN.nm_eq, hb]

theorem setNds_fenv_keep (hN : N.WF) (b : LV) (hb : b ≠ .nds) :
    (setNds N s d2).fenv (N.nm b) = s.fenv (N.nm b) := by
  simp [setNds, setS, hN.nm_eq, hb]

theorem afterDist_frame : PixFrame N s (afterDist N W s tr tc r p) := by
  refine ⟨rfl, rfl, fun _ _ => rfl, ?_, fun _ _ => rfl, fun _ _ _ _ _ => rfl, fun _ _ => rfl⟩
  intro v hv
  simp [afterDist, setS, hv .x1 rfl, hv .y1 rfl, hv .x2 rfl, hv .y2 rfl, hv .dist rfl, hv .distSqr rfl]

theorem setNds_frame : PixFrame N s (setNds N s d2) := by
  refine ⟨rfl, rfl, fun _ _ => rfl, ?_, fun _ _ => rfl, fun _ _ _ _ _ => rfl, fun _ _ => rfl⟩
  intro v hv
  simp [setNds, setS, hv .nds rfl]

theorem setPan_frame : PixFrame N s (setPan s p x y) := by
  refine ⟨rfl, rfl, fun _ _ => rfl, fun _ _ => rfl, fun _ _ => rfl, ?_, fun _ _ => rfl⟩
  intro a h1 h2 _ _
  simp [setPan, setS, h1, h2]

end proj

/-- the read-only part of a state during the sweep of line `row` in direction `fwd`, and the hypotheses that
    tie it to the model: configuration `c`, target predicate `tg`, distances `dist2 c` -/
structure SweepEnv (N : Names) (c : Cfg) (emb : Nat → F) (tg : Nat → Nat → Bool) (row : Nat) (fwd : Bool)
    (s : State F) : Prop where
  shp : LineShp N c.H c.W s
  vshp : s.shp N.vals = [(s.fa N.vals).length]
  nv : s.ienv (N.nm .nValues) = ((s.fa N.vals).length : Int)
  row_lt : row < c.H
  row_eq : s.ienv (N.nm .lineId) = (row : Int)
  start : s.ienv (N.nm .start) = if fwd then 0 else (c.W : Int) - 1
  end_ : s.ienv (N.nm .end_) = if fwd then (c.W : Int) else -1
  step : s.ienv (N.nm .step) = if fwd then 1 else -1
  arith : Arith c emb (s.fenv (N.nm .maxDistance))
  /-- `_distance` on the coordinate grids, squared, is the model's `dist2` -/
  dist : ∀ tr tc r p, tr < c.H → tc < c.W → r < c.H → p < c.W →
    cellDist2 N c.W s tr tc r p = emb (dist2 c tr tc r p)
  /-- the target test on this line is the model's target predicate -/
  tgt : ∀ p, p < c.W → targetTest ((s.fa N.src).getD p Fl.nan) (s.fa N.vals) = tg row p

theorem SweepEnv.of_frame {N : Names} {c : Cfg} {emb : Nat → F} {tg : Nat → Nat → Bool} {row : Nat} {fwd : Bool}
    {s r : State F} (hN : N.WF) (h : SweepEnv N c emb tg row fwd s) (f : FrameS LV.sweepScratch N s r) :
    SweepEnv N c emb tg row fwd r := by
  have e1 : r.fa N.vals = s.fa N.vals := f.fa _ hN.vals_ne
  have e2 : r.fa N.src = s.fa N.src := f.fa _ hN.src_ne
  have e3 : r.fa N.xs = s.fa N.xs := f.fa _ hN.xs_ne
  have e4 : r.fa N.ys = s.fa N.ys := f.fa _ hN.ys_ne
  refine ⟨h.shp.of_shp f.shp, ?_, ?_, h.row_lt, ?_, ?_, ?_, ?_, ?_, ?_, ?_⟩
  · rw [f.shp, e1]; exact h.vshp
  · rw [f.keepI hN .nValues rfl, e1]; exact h.nv
  · rw [f.keepI hN .lineId rfl]; exact h.row_eq
  · rw [f.keepI hN .start rfl]; exact h.start
  · rw [f.keepI hN .end_ rfl]; exact h.end_
  · rw [f.keepI hN .step rfl]; exact h.step
  · rw [f.keepF hN .maxDistance rfl]; exact h.arith
  · intro tr tc r' p h1 h2 h3 h4
    have := h.dist tr tc r' p h1 h2 h3 h4
    simpa [cellDist2, cellDist, e3, e4, f.ext, f.keepI hN .distanceMetric rfl] using this
  · intro p hp
    rw [e1, e2]; exact h.tgt p hp

/-- the five arrays a sweep writes, against the model's line state -/
structure LineRel (c : Cfg) (emb : Nat → F) (s : State F) (m : LineSt) : Prop where
  len_px : (s.ia "pan_near_x").length = c.W
  len_py : (s.ia "pan_near_y").length = c.W
  len_nx : (s.ia "nearest_xs").length = c.W
  len_ny : (s.ia "nearest_ys").length = c.W
  len_lp : (s.fa "line_proximity").length = c.W
  mlen_pan : m.pan.length = c.W
  mlen_lp : m.lp.length = c.W
  mlen_nr : m.nr.length = c.W
  pan : ∀ q, q < c.W → tgtRel c.H c.W ((s.ia "pan_near_x").getD q 0) ((s.ia "pan_near_y").getD q 0) (m.pan.getD q none)
  nr : ∀ q, q < c.W → tgtRel c.H c.W ((s.ia "nearest_xs").getD q 0) ((s.ia "nearest_ys").getD q 0) (m.nr.getD q none)
  lp : ∀ q, q < c.W → lpRel emb ((s.fa "line_proximity").getD q Fl.nan) (m.lp.getD q none)
  /-- (model side) a pixel recorded in this sweep has a defined proximity -/
  nrlp : ∀ q, q < c.W → m.nr.getD q none ≠ none → m.lp.getD q none ≠ none

theorem SweepEnv.of_pix {N : Names} {c : Cfg} {emb : Nat → F} {tg : Nat → Nat → Bool} {row : Nat} {fwd : Bool}
    {s r : State F} (hN : N.WF) (h : SweepEnv N c emb tg row fwd s) (f : PixFrame N s r) :
    SweepEnv N c emb tg row fwd r :=
  h.of_frame hN (f.mono (fun a ha => by simp [LV.sweepScratch, ha]))

theorem LineRel.congr5 {c : Cfg} {emb : Nat → F} {s r : State F} {m : LineSt} (h : LineRel c emb s m)
    (e1 : r.ia "pan_near_x" = s.ia "pan_near_x") (e2 : r.ia "pan_near_y" = s.ia "pan_near_y")
    (e3 : r.ia "nearest_xs" = s.ia "nearest_xs") (e4 : r.ia "nearest_ys" = s.ia "nearest_ys")
    (e5 : r.fa "line_proximity" = s.fa "line_proximity") : LineRel c emb r m :=
  ⟨e1 ▸ h.len_px, e2 ▸ h.len_py, e3 ▸ h.len_nx, e4 ▸ h.len_ny, e5 ▸ h.len_lp, h.mlen_pan, h.mlen_lp, h.mlen_nr,
   by rw [e1, e2]; exact h.pan, by rw [e3, e4]; exact h.nr, by rw [e5]; exact h.lp, h.nrlp⟩

theorem LineRel.congr {c : Cfg} {emb : Nat → F} {s r : State F} {m : LineSt} (h : LineRel c emb s m)
    (e1 : r.ia = s.ia) (e2 : r.fa = s.fa) : LineRel c emb r m :=
  h.congr5 (by rw [e1]) (by rw [e1]) (by rw [e1]) (by rw [e1]) (by rw [e2])

theorem LineRel.lp_nonneg {c : Cfg} {emb : Nat → F} {s : State F} {m : LineSt} (h : LineRel c emb s m) {q : Nat}
    (hq : q < c.W) (hne : m.nr.getD q none ≠ none) :
    Fl.lt ((s.fa "line_proximity").getD q Fl.nan) (Fl.lit 0 1) = false ∧
    Fl.le (Fl.lit 0 1) ((s.fa "line_proximity").getD q Fl.nan) = true := by
  have h3 := h.lp q hq
  cases hl : m.lp.getD q none with
  | none => exact absurd hl (h.nrlp q hq hne)
  | some d => rw [hl] at h3; exact ⟨h3.1, h3.2.1⟩

end XrsVerif.IL.Px
