import XrsVerif.Proofs.ILRegionsMatch
import XrsVerif.Proofs.Regions
import XrsVerif.Proofs.ILangFrame
/-
  Proofs/ILRegionsRel.lean -- the abstraction between the states of `Gen.IL.areaConnectivity` and the hand model
  `Model/Regions.lean`, and the laws of the number type the refinement needs.

  * the program stores labels in the *numeric* array `out` (`np.zeros_like(data)`): the label `k` is the number
    `lab k = Fl.lit k 1`.  `LabelLaws F` lists what is used about these numbers: comparisons of labels agree with the
    comparisons of the naturals (`area_val > 0`, `assigned_values_min != area_val`, `… > area_val`,
    `out[y1, x1] == …`), a NaN never `==` a label, and a NaN window value is never close to the centre.  They hold
    for exact arithmetic with NaN (`NV K`, see Props/C16.lean) and for IEEE doubles as long as labels stay below 2^53;
    float32 rasters round labels above 2^24 -- outside ILang, like the int64 wrap-around.
  * `dataOf cols D` is the model's `data`: `none` at NaN cells; the model's match relation is `closeF`.
  * `window_model`: with `SW = nbrs.map data`, `AW = nbrs.map out` and `out ~ L` (`Rel`), the matching window positions
    are the model's `matchesOf`, the numbers they hold in `area_window` are the labels `lab (L q)` of those cells, and the
    program's search for the first positive one is the model's `find? (0 < L ·)`; both passes read their window through it.
-/
namespace XrsVerif.IL.Rg
open XrsVerif XrsVerif.IL XrsVerif.Regions
variable {F : Type} [Fl F]
set_option linter.unusedSectionVars false

/-- the number that stands for label `k` (`out[y, x] = uid` converts the integer) -/
def lab (k : Nat) : F := Fl.lit (k : Int) 1

/-- what the refinement uses about the number type -/
structure LabelLaws (F : Type) [Fl F] : Prop where
  lt_lab : ∀ a b : Nat, Fl.lt (lab a : F) (lab b) = decide (a < b)
  eq_lab : ∀ a b : Nat, Fl.eq (lab a : F) (lab b) = decide (a = b)
  eq_nan : ∀ (x : F) (a : Nat), Fl.isnan x = true → Fl.eq x (lab a) = false
  close_nan : ∀ (v x : F), Fl.isnan x = true → closeF v x = false

theorem lab_inj (laws : LabelLaws F) (a b : Nat) (h : (lab a : F) = lab b) : a = b := by
  have h1 := laws.eq_lab a b
  rw [h, laws.eq_lab b b] at h1
  simpa using h1.symm

/-- the model's `data`: `none` = NaN -/
def dataOf (cols : Nat) (D : List F) : Cell → Option F := fun c =>
  if Fl.isnan (at_ cols D c) then none else some (at_ cols D c)

theorem dataOf_none (cols : Nat) (D : List F) (c : Cell) (h : Fl.isnan (at_ cols D c) = true) :
    dataOf cols D c = none := by simp [dataOf, h]

theorem dataOf_some (cols : Nat) (D : List F) (c : Cell) (h : Fl.isnan (at_ cols D c) = false) :
    dataOf cols D c = some (at_ cols D c) := by simp [dataOf, h]

theorem matched_eq (laws : LabelLaws F) (cols : Nat) (D : List F) (v : F) (q : Cell) :
    matched closeF (dataOf cols D) v q = closeF v (at_ cols D q) := by
  unfold matched dataOf
  by_cases h : Fl.isnan (at_ cols D q) = true
  · simp [h, laws.close_nan v _ h]
  · simp [h]

/-- what every cell step keeps -/
structure Geo (rows cols n : Nat) (D : List F) (s : State F) : Prop where
  run : s.ctl = .run
  rv : s.ienv "rows" = (rows : Int)
  cv : s.ienv "cols" = (cols : Int)
  nv : s.ienv "n" = (n : Int)
  dshp : s.shp "data" = [rows, cols]
  oshp : s.shp "out" = [rows, cols]
  sshp : s.shp "src_window" = [n]
  ashp : s.shp "area_window" = [n]
  dat : s.fa "data" = D
  olen : (s.fa "out").length = rows * cols
  slen : (s.fa "src_window").length = n
  alen : (s.fa "area_window").length = n

theorem Geo.set_ienv {rows cols n : Nat} {D : List F} {s : State F} (g : Geo rows cols n D s) (v : String) (i : Int)
    (h1 : v ≠ "rows") (h2 : v ≠ "cols") (h3 : v ≠ "n") :
    Geo rows cols n D { s with ienv := setS s.ienv v i } :=
  { g with
    rv := (setS_other _ _ _ _ (Ne.symm h1)).trans g.rv
    cv := (setS_other _ _ _ _ (Ne.symm h2)).trans g.cv
    nv := (setS_other _ _ _ _ (Ne.symm h3)).trans g.nv }

theorem Geo.of_mods {rows cols n : Nat} {D : List F} {s t : State F} {iv fv bv ias fas shs : List String}
    (g : Geo rows cols n D s) (h : ILVs.Mods iv fv bv ias fas shs s t) (hrun : t.ctl = .run)
    (hiv : ∀ v ∈ ["rows", "cols", "n"], v ∉ iv) (hfa : "data" ∉ fas)
    (hsh : ∀ a ∈ ["data", "out", "src_window", "area_window"], a ∉ shs)
    (ho : (t.fa "out").length = rows * cols) (hs : (t.fa "src_window").length = n)
    (ha : (t.fa "area_window").length = n) : Geo rows cols n D t :=
  { run := hrun
    rv := (h.ienv _ (hiv _ (by simp))).trans g.rv
    cv := (h.ienv _ (hiv _ (by simp))).trans g.cv
    nv := (h.ienv _ (hiv _ (by simp))).trans g.nv
    dshp := (h.shp _ (hsh _ (by simp))).trans g.dshp
    oshp := (h.shp _ (hsh _ (by simp))).trans g.oshp
    sshp := (h.shp _ (hsh _ (by simp))).trans g.sshp
    ashp := (h.shp _ (hsh _ (by simp))).trans g.ashp
    dat := (h.fa _ hfa).trans g.dat
    olen := ho, slen := hs, alen := ha }

/-- at non-NaN raster cells `out` holds the label of the model -/
def Rel (rows cols : Nat) (D out : List F) (L : Cell → Nat) : Prop :=
  ∀ c : Cell, c.1 < rows → c.2 < cols → Fl.isnan (at_ cols D c) = false → at_ cols out c = lab (L c)

theorem pos_inj (cols : Nat) (c p : Cell) (h1 : c.2 < cols) (h2 : p.2 < cols) (h : pos cols c = pos cols p) :
    c = p :=
  Prod.ext (idx_inj _ _ _ _ _ h1 h2 h).1 (idx_inj _ _ _ _ _ h1 h2 h).2

theorem at_set (rows cols : Nat) (out : List F) (p c : Cell) (v : F) (hl : out.length = rows * cols)
    (hp1 : p.1 < rows) (hp2 : p.2 < cols) (hc2 : c.2 < cols) :
    at_ cols (out.set (pos cols p) v) c = if c = p then v else at_ cols out c :=
  getD_set_at (pos cols) out p c v Fl.nan (hl ▸ rowMajor_lt hp1 hp2) (pos_inj cols c p hc2 hp2)

/-- `out` against the model's labels `L` when the first `k` cells (raster order) are done: the labels at the non-NaN
    cells, and the NaN cells among the first `k` hold their input value -/
structure OutRel (rows cols : Nat) (D out : List F) (L : Cell → Nat) (k : Nat) : Prop where
  len : out.length = rows * cols
  rel : Rel rows cols D out L
  nan : ∀ c : Cell, c.1 < rows → c.2 < cols → pos cols c < k → Fl.isnan (at_ cols D c) = true →
    at_ cols out c = at_ cols D c

theorem OutRel.set {rows cols : Nat} {D out : List F} {L : Cell → Nat} (p : Cell)
    (h : OutRel rows cols D out L (pos cols p)) (hp1 : p.1 < rows) (hp2 : p.2 < cols) (X : F) (L' : Cell → Nat)
    (hL' : ∀ c, c ≠ p → L' c = L c) (hlab : Fl.isnan (at_ cols D p) = false → X = lab (L' p))
    (hnan : Fl.isnan (at_ cols D p) = true → X = at_ cols D p) :
    OutRel rows cols D (out.set (pos cols p) X) L' (pos cols p + 1) := by
  refine ⟨by rw [List.length_set]; exact h.len, fun c h1 h2 hcn => ?_, fun c h1 h2 hk hcn => ?_⟩
  · rw [at_set rows cols _ p c _ h.len hp1 hp2 h2]
    by_cases hcp : c = p
    · rw [if_pos hcp, hcp, hlab (hcp ▸ hcn)]
    · rw [if_neg hcp, hL' c hcp]; exact h.rel c h1 h2 hcn
  · rw [at_set rows cols _ p c _ h.len hp1 hp2 h2]
    by_cases hcp : c = p
    · rw [if_pos hcp, hcp, hnan (hcp ▸ hcn)]
    · rw [if_neg hcp]
      apply h.nan c h1 h2 _ hcn
      have : pos cols c ≠ pos cols p := fun e => hcp (pos_inj cols c p h2 hp2 e)
      omega

theorem nbrs_in_grid (rows cols : Nat) (n8 : Bool) (y x : Nat) (hy : y < rows) (hx : x < cols) (q : Cell)
    (hq : q ∈ gridNbrs rows cols n8 (y, x)) : q.1 < rows ∧ q.2 < cols :=
  mem_gridCells.mp (gridNbrs_closed rows cols n8 (y, x) (mem_gridCells.mpr ⟨hy, hx⟩) q hq)

theorem gridNbrs_length (rows cols n : Nat) (hn : n = 4 ∨ n = 8) (c : Cell) :
    (gridNbrs rows cols (decide (n = 8)) c).length = n := by
  rcases hn with h | h <;> subst h <;> simp [gridNbrs, window, window4, window8]

/-- `area_val > 0` -/
def isPos (a : F) : Bool := Fl.lt (Fl.lit 0 1) a

def nb (l : List Cell) (k : Nat) : Cell := l.getD k (0, 0)

theorem getD_map_nb (l : List Cell) (f : Cell → F) (k : Nat) (h : k < l.length) :
    (l.map f).getD k Fl.nan = f (nb l k) := by
  simp [nb, List.getD_eq_getElem?_getD, List.getElem?_eq_getElem h]

theorem filter_cells (l : List Cell) (f : Cell → F) (c : F → Bool) :
    l.filter (fun q => c (f q)) = (matchIdx c (l.map f)).map (nb l) := by
  conv => lhs; rw [eq_map_getD l (0, 0)]
  rw [List.filter_map]
  congr 1
  unfold matchIdx
  rw [List.length_map]
  apply List.filter_congr
  intro k hk
  have hk' : k < l.length := by simpa using hk
  simp only [Function.comp, getD_map_nb l f k hk', nb]

theorem find?_congr' {α : Type} (l : List α) (p q : α → Bool) (h : ∀ a ∈ l, p a = q a) :
    l.find? p = l.find? q := by
  induction l with
  | nil => rfl
  | cons a l ih =>
    simp only [List.find?_cons, h a (by simp)]
    rw [ih (fun b hb => h b (by simp [hb]))]

theorem isPos_lab (laws : LabelLaws F) (k : Nat) : isPos (lab k : F) = decide (0 < k) := laws.lt_lab 0 k

theorem window_model (laws : LabelLaws F) (rows cols : Nat) (D out : List F) (L : Cell → Nat)
    (hrel : Rel rows cols D out L) (nbrs : List Cell) (hin : ∀ q ∈ nbrs, q.1 < rows ∧ q.2 < cols) (v : F) :
    let idx := matchIdx (closeF v) (nbrs.map (at_ cols D))
    (∀ k ∈ idx, k < nbrs.length) ∧
    (∀ k ∈ idx, (nbrs.map (at_ cols out)).getD k Fl.nan = lab (L (nb nbrs k))) ∧
    nbrs.filter (matched closeF (dataOf cols D) v) = idx.map (nb nbrs) ∧
    (nbrs.filter (matched closeF (dataOf cols D) v)).find? (fun q => decide (0 < L q)) =
      (idx.find? (fun k => isPos ((nbrs.map (at_ cols out)).getD k Fl.nan))).map (nb nbrs) ∧
    (nbrs.filter (matched closeF (dataOf cols D) v)).map L = idx.map (fun k => L (nb nbrs k)) := by
  intro idx
  have hlt : ∀ k ∈ idx, k < nbrs.length := by
    intro k hk
    have := matchIdx_lt _ _ k hk
    simpa using this
  have hlab : ∀ k ∈ idx, (nbrs.map (at_ cols out)).getD k Fl.nan = lab (L (nb nbrs k)) := by
    intro k hk
    have hk' := hlt k hk
    rw [getD_map_nb nbrs _ k hk']
    obtain ⟨h1, h2⟩ := hin (nb nbrs k) (getD_mem nbrs k (0, 0) hk')
    apply hrel _ h1 h2
    -- a close window value is not NaN
    have hc : closeF v ((nbrs.map (at_ cols D)).getD k Fl.nan) = true := by
      simp only [idx, matchIdx, List.mem_filter] at hk; exact hk.2
    rw [getD_map_nb nbrs _ k hk'] at hc
    cases hn : Fl.isnan (at_ cols D (nb nbrs k)) with
    | false => rfl
    | true => rw [laws.close_nan v _ hn] at hc; cases hc
  have hfil : nbrs.filter (matched closeF (dataOf cols D) v) = idx.map (nb nbrs) := by
    have : (matched closeF (dataOf cols D) v) = fun q => closeF v (at_ cols D q) := by
      funext q; exact matched_eq laws cols D v q
    rw [this]
    exact filter_cells nbrs (at_ cols D) (closeF v)
  refine ⟨hlt, hlab, hfil, ?_, ?_⟩
  · rw [hfil, List.find?_map]
    congr 1
    apply find?_congr'
    intro k hk
    simp only [Function.comp, hlab k hk, isPos_lab laws]
  · rw [hfil, List.map_map]; rfl

end XrsVerif.IL.Rg
