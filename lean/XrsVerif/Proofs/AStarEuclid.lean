import XrsVerif.Proofs.AStarOpt
/-
  The Euclidean step length / heuristic of pathfinding.py (`_distance`, `_heuristic`) in an
  ordered field: any function `d` with `0 ≤ d a b` and `d a b ^ 2 = Δy² + Δx²`.  Such a `d`
  is consistent (triangle inequality), its steps are `1` or a square root of two, and it stays
  below `h + w` inside the raster -- the hypotheses of `search_exact`.
-/
set_option linter.unusedSectionVars false
namespace XrsVerif.AStar
variable {K : Type} [Field K] [LinearOrder K] [IsStrictOrderedRing K]

structure IsEuclid (d : Cell → Cell → K) : Prop where
  nonneg : ∀ a b, 0 ≤ d a b
  sq : ∀ a b, d a b * d a b =
    (((a.1 - b.1) * (a.1 - b.1) + (a.2 - b.2) * (a.2 - b.2) : Int) : K)

/-- the triangle inequality in the plane, for lengths `u`, `v`, `t` of `(p, q)`, `(r, s)` and their sum:
    Cauchy-Schwarz `p * r + q * s ≤ u * v` from Lagrange's identity, then compare the squares -/
theorem length_add_le {p q r s u v t : K} (hu : 0 ≤ u) (hv : 0 ≤ v)
    (eu : u * u = p * p + q * q) (ev : v * v = r * r + s * s)
    (et : t * t = (p + r) * (p + r) + (q + s) * (q + s)) : t ≤ u + v := by
  have hcs : p * r + q * s ≤ u * v := by
    apply nonneg_le_nonneg_of_sq_le_sq (mul_nonneg hu hv)
    have e : u * v * (u * v) =
        (p * r + q * s) * (p * r + q * s) + (p * s - q * r) * (p * s - q * r) := by
      rw [mul_mul_mul_comm, eu, ev]; ring
    rw [e]
    exact le_add_of_nonneg_right (mul_self_nonneg _)
  apply nonneg_le_nonneg_of_sq_le_sq (add_nonneg hu hv)
  have e : (u + v) * (u + v) = t * t + 2 * (u * v - (p * r + q * s)) := by
    rw [add_mul_self_eq, eu, ev, et]; ring
  rw [e]
  exact le_add_of_nonneg_right (mul_nonneg zero_le_two (sub_nonneg.mpr hcs))

variable {d : Cell → Cell → K}

theorem IsEuclid.triangle (hd : IsEuclid d) (a b c : Cell) : d a c ≤ d a b + d b c := by
  refine length_add_le (p := (a.1 : K) - b.1) (q := (a.2 : K) - b.2) (r := (b.1 : K) - c.1)
    (s := (b.2 : K) - c.2) (hd.nonneg a b) (hd.nonneg b c) ?_ ?_ ?_
  · rw [hd.sq]; push_cast; rfl
  · rw [hd.sq]; push_cast; rfl
  · rw [hd.sq]; push_cast; ring

def IsEuclid.sqrt2 (d : Cell → Cell → K) : K := d (0, 0) (1, 1)

theorem IsEuclid.sqrt2_sq (hd : IsEuclid d) : IsEuclid.sqrt2 d * IsEuclid.sqrt2 d = 2 := by
  have := hd.sq (0, 0) (1, 1)
  simp only [IsEuclid.sqrt2]
  rw [this]; norm_num

theorem IsEuclid.sqrt2_bounds (hd : IsEuclid d) : 1 < IsEuclid.sqrt2 d ∧ IsEuclid.sqrt2 d < 2 := by
  have h0 : 0 ≤ IsEuclid.sqrt2 d := hd.nonneg _ _
  have h2 := hd.sqrt2_sq
  constructor
  · exact lt_of_mul_self_lt_mul_self₀ h0 (by rw [h2]; norm_num)
  · exact lt_of_mul_self_lt_mul_self₀ zero_le_two (by rw [h2]; norm_num)

theorem nbrs8_len : ∀ off ∈ nbrs8,
    (off.1 * off.1 + off.2 * off.2 = 1 ∧ (off.1 = 0 ∨ off.2 = 0)) ∨
    (off.1 * off.1 + off.2 * off.2 = 2 ∧ off.1 ≠ 0 ∧ off.2 ≠ 0) := by decide

theorem IsEuclid.step_len (hd : IsEuclid d) (u off : Cell) (hoff : off ∈ nbrs8) :
    (d u (u.1 + off.1, u.2 + off.2) = 1 ∧ (off.1 = 0 ∨ off.2 = 0)) ∨
    (d u (u.1 + off.1, u.2 + off.2) = IsEuclid.sqrt2 d ∧ off.1 ≠ 0 ∧ off.2 ≠ 0) := by
  have hnn := hd.nonneg u (u.1 + off.1, u.2 + off.2)
  have hsq : d u (u.1 + off.1, u.2 + off.2) * d u (u.1 + off.1, u.2 + off.2) =
      ((off.1 * off.1 + off.2 * off.2 : Int) : K) := by
    rw [hd.sq]; congr 1; ring
  rcases nbrs8_len off hoff with ⟨h1, hs⟩ | ⟨h2, hs⟩
  · exact Or.inl ⟨(mul_self_inj hnn zero_le_one).mp (by rw [hsq, h1]; norm_num), hs⟩
  · exact Or.inr ⟨(mul_self_inj hnn (b := IsEuclid.sqrt2 d) (hd.nonneg _ _)).mp
      (by rw [hsq, h2, hd.sqrt2_sq]; norm_num), hs⟩

theorem nbrs4_sub_nbrs8 {off : Cell} (h : off ∈ nbrs4) : off ∈ nbrs8 := by
  simp only [nbrs4, List.mem_cons, List.mem_nil_iff, or_false] at h
  rcases h with rfl | rfl | rfl | rfl <;> simp [nbrs8]

theorem nbrsOf_sub_nbrs8 {conn : Nat} {off : Cell} (h : off ∈ nbrsOf conn) : off ∈ nbrs8 := by
  unfold nbrsOf at h
  split at h
  · exact h
  · exact nbrs4_sub_nbrs8 h

theorem nbrs4_straight {off : Cell} (h : off ∈ nbrs4) : off.1 = 0 ∨ off.2 = 0 := by
  simp only [nbrs4, List.mem_cons, List.mem_nil_iff, or_false] at h
  rcases h with rfl | rfl | rfl | rfl <;> simp

theorem IsEuclid.le_h_add_w (hd : IsEuclid d) {h w : Nat} {a b : Cell}
    (ha : inside h w a = true) (hb : inside h w b = true) : d a b ≤ (h : K) + (w : K) := by
  obtain ⟨a1, a2, a3, a4⟩ := inside_iff.mp ha
  obtain ⟨b1, b2, b3, b4⟩ := inside_iff.mp hb
  have hH : (0 : K) ≤ (h : K) := Nat.cast_nonneg h
  have hW : (0 : K) ≤ (w : K) := Nat.cast_nonneg w
  apply nonneg_le_nonneg_of_sq_le_sq (add_nonneg hH hW)
  rw [hd.sq]
  have i1 : (a.1 - b.1) * (a.1 - b.1) ≤ (h : Int) * (h : Int) :=
    mul_self_le_mul_self_of_le_of_neg_le (by omega) (by omega)
  have i2 : (a.2 - b.2) * (a.2 - b.2) ≤ (w : Int) * (w : Int) :=
    mul_self_le_mul_self_of_le_of_neg_le (by omega) (by omega)
  have i3 : (((a.1 - b.1) * (a.1 - b.1) + (a.2 - b.2) * (a.2 - b.2) : Int) : K) ≤
      (((h : Int) * (h : Int) + (w : Int) * (w : Int) : Int) : K) := by
    exact_mod_cast add_le_add i1 i2
  refine i3.trans ?_
  push_cast
  rw [add_mul_self_eq]
  linarith [mul_nonneg (mul_nonneg zero_le_two hH) hW]

end XrsVerif.AStar
