import XrsVerif.Proofs.ILProxLoops
import XrsVerif.Proofs.ILProxRel
/-
  The generated `_calc_direction` (`dirF`), its inlined copies, and the statement that
  writes `output_img[line][i]` after a sweep (`mergeStmt`).  What the statement leaves unchanged is read off the
  program text (`exec_frame`).
-/
namespace XrsVerif.IL.Px
open XrsVerif XrsVerif.Prox XrsVerif.ILVs
variable {F : Type} [Fl F]
attribute [-simp] List.getD_eq_getElem?_getD
attribute [local simp] List.getD_cons_zero List.getD_cons_succ

/-- `_calc_direction(x1, x2, y1, y2)` on numbers -/
def dirF (x1 x2 y1 y2 : F) : F :=
  if (Fl.eq x1 x2 && Fl.eq y1 y2) = true then Fl.lit 0 1
  else
    if Fl.lt (Fl.mul (Fl.atan2 (Fl.neg (Fl.sub y2 y1)) (Fl.sub x2 x1)) (Fl.lit 2864789 50000)) (Fl.lit 0 1) = true then
      Fl.sub (Fl.lit 90 1) (Fl.mul (Fl.atan2 (Fl.neg (Fl.sub y2 y1)) (Fl.sub x2 x1)) (Fl.lit 2864789 50000))
    else if Fl.lt (Fl.lit 90 1) (Fl.mul (Fl.atan2 (Fl.neg (Fl.sub y2 y1)) (Fl.sub x2 x1)) (Fl.lit 2864789 50000)) = true then
      Fl.add (Fl.sub (Fl.lit 360 1) (Fl.mul (Fl.atan2 (Fl.neg (Fl.sub y2 y1)) (Fl.sub x2 x1)) (Fl.lit 2864789 50000))) (Fl.lit 90 1)
    else Fl.sub (Fl.lit 90 1) (Fl.mul (Fl.atan2 (Fl.neg (Fl.sub y2 y1)) (Fl.sub x2 x1)) (Fl.lit 2864789 50000))

def dirLocals : List String := ["x1", "x2", "y1", "y2", "x", "y", "d", "ret0"]

theorem dirBody_exec (D : String) (u : State F) (fuel : Nat) (hu : u.ctl = .run) :
    ∃ e : String → F, exec fuel (dirBody D) u = { u with fenv := e, ctl := .ret } ∧
      e (D ++ "ret0") = dirF (u.fenv (D ++ "x1")) (u.fenv (D ++ "x2")) (u.fenv (D ++ "y1")) (u.fenv (D ++ "y2")) := by
  generalize hx1 : u.fenv (D ++ "x1") = x1
  generalize hx2 : u.fenv (D ++ "x2") = x2
  generalize hy1 : u.fenv (D ++ "y1") = y1
  generalize hy2 : u.fenv (D ++ "y2") = y2
  cases h0 : (Fl.eq x1 x2 && Fl.eq y1 y2) with
  | true =>
    refine ⟨setS u.fenv (D ++ "ret0") (Fl.lit 0 1), ?_, by simp [dirF, h0]⟩
    simp at h0
    simp [il, dirBody, exec_seq, hu, hx1, hx2, hy1, hy2, h0]
  | false =>
    generalize hd : Fl.mul (Fl.atan2 (Fl.neg (Fl.sub y2 y1)) (Fl.sub x2 x1)) (Fl.lit 2864789 50000) = d
    -- whichever of the three branches is taken, `d` and then `ret0` receive the value `res` of `dirF`
    have key : ∀ res : F, dirF x1 x2 y1 y2 = res →
        exec fuel (dirBody D) u = { u with fenv := setS (setS (setS (setS (setS u.fenv (D ++ "x") (Fl.sub x2 x1))
            (D ++ "y") (Fl.sub y2 y1)) (D ++ "d") d) (D ++ "d") res) (D ++ "ret0") res, ctl := .ret } →
        ∃ e : String → F, exec fuel (dirBody D) u = { u with fenv := e, ctl := .ret } ∧
          e (D ++ "ret0") = dirF x1 x2 y1 y2 :=
      fun res h1 h2 => ⟨_, h2, by simp [h1]⟩
    have h0' : ¬ (Fl.eq x1 x2 = true ∧ Fl.eq y1 y2 = true) := by simpa using h0
    cases h1 : Fl.lt d (Fl.lit 0 1) with
    | true =>
      apply key (Fl.sub (Fl.lit 90 1) d)
      · simp [dirF, h0, hd, h1]
      · simp [il, dirBody, exec_seq, hu, hx1, hx2, hy1, hy2, h0', setS, hd, h1]
    | false =>
      cases h2 : Fl.lt (Fl.lit 90 1) d with
      | true =>
        apply key (Fl.add (Fl.sub (Fl.lit 360 1) d) (Fl.lit 90 1))
        · simp [dirF, h0, hd, h1, h2]
        · simp [il, dirBody, exec_seq, hu, hx1, hx2, hy1, hy2, h0', setS, hd, h1, h2]
      | false =>
        apply key (Fl.sub (Fl.lit 90 1) d)
        · simp [dirF, h0, hd, h1, h2]
        · simp [il, dirBody, exec_seq, hu, hx1, hx2, hy1, hy2, h0', setS, hd, h1, h2]

/-- the generated `_calc_direction` computes `dirF` -/
theorem calcDirection_refines (s : State F) (fuel : Nat) (hs : s.ctl = .run) :
    let r := Gen.IL.calcDirection.run s fuel
    r.ctl = .ret ∧ r.fenv "ret0" = dirF (s.fenv "x1") (s.fenv "x2") (s.fenv "y1") (s.fenv "y2") := by
  simp only [Prog.run, calcDirection_is_template]
  obtain ⟨e, h1, h2⟩ := dirBody_exec "" s fuel hs
  rw [h1]
  exact ⟨rfl, by simpa using h2⟩

theorem exec_setF_seq (fuel : Nat) (v : String) (e : FE) (rest : St) (s : State F) (hs : s.ctl = .run)
    (hok : e.ok s = true) :
    exec fuel (.seq (.setF v e) rest) s = exec fuel rest { s with fenv := setS s.fenv v (e.eval s) } := by
  rw [exec_seq_run] <;> simp [exec, hok, hs]

theorem mergeStmt_mods (D : String) (fuel : Nat) (s : State F) :
    Mods [] (dirLocals.map (D ++ ·)) [] [] ["output_img"] [] s (exec fuel (mergeStmt D) s) :=
  (exec_frame fuel (mergeStmt D) s).mono (by simp [wI, mergeStmt, dirCall, dirBody])
    (by
      intro v hv
      simp only [wF, mergeStmt, dirCall, dirBody, List.nil_append, List.append_nil, List.cons_append, List.mem_cons,
        List.not_mem_nil, or_false] at hv
      rcases hv with h | h | h | h | h | h | h | h | h | h | h | h <;> exact h ▸ List.mem_map_of_mem (by simp [dirLocals]))
    (by simp [wB, mergeStmt, dirCall, dirBody]) (by simp [wIA, mergeStmt, dirCall, dirBody])
    (by simp [wFA, mergeStmt, dirCall, dirBody]) (by simp [wSh, mergeStmt, dirCall, dirBody])

structure MergeCtx (H W n k : Nat) (s : State F) : Prop where
  run : s.ctl = .run
  hn : n < H
  hk : k < W
  line : s.ienv "line" = n
  i : s.ienv "i" = k
  nx : s.shp "nearest_xs" = [W]
  ny : s.shp "nearest_ys" = [W]
  lp : s.shp "line_proximity" = [W]
  img : s.shp "img" = [H, W]
  xc : s.shp "x_coords" = [H, W]
  yc : s.shp "y_coords" = [H, W]
  out : s.shp "output_img" = [H, W]
  lout : (s.fa "output_img").length = H * W

/-- DIRECTION mode: `output_img[line][i] = _calc_direction(...)` for the nearest target `(tr, tc)` -/
theorem dirCall_exec (D : String) (s : State F) (fuel H W n k tr tc : Nat) (cx : MergeCtx H W n k s)
    (htr : tr < H) (htc : tc < W) (hx : (s.ia "nearest_xs").getD k 0 = tc) (hy : (s.ia "nearest_ys").getD k 0 = tr) :
    ∃ e : String → F, exec fuel (dirCall D) s =
        { s with fenv := e, fa := setS s.fa "output_img" ((s.fa "output_img").set (n * W + k)
          (dirF ((s.fa "x_coords").getD (n * W + k) Fl.nan) ((s.fa "x_coords").getD (tr * W + tc) Fl.nan)
            ((s.fa "y_coords").getD (n * W + k) Fl.nan) ((s.fa "y_coords").getD (tr * W + tc) Fl.nan))) } := by
  have hs := cx.run
  have rk := inRange_of_lt _ _ cx.hk
  have rn := inRange_of_lt _ _ cx.hn
  have rtr := inRange_of_lt _ _ htr
  have rtc := inRange_of_lt _ _ htc
  unfold dirCall
  simp only [exec_setF_seq, hs, FE.ok, FE.eval, IE.ok, IE.eval, cx.xc, cx.yc, cx.nx, cx.ny, cx.line, cx.i, rk, rn, rtr, rtc,
    off1_nat, off2_nat, hx, hy, List.length_cons, List.length_nil, List.getD_cons_zero, List.getD_cons_succ,
    Bool.and_self, decide_true, Nat.reduceAdd]
  -- the state `u` in which the inlined body starts is kept opaque but for what the rest reads
  generalize hu : ({ s with fenv := (setS (setS (setS (setS s.fenv (D ++ "x1") ((s.fa "x_coords").getD (n * W + k) Fl.nan))
      (D ++ "x2") ((s.fa "x_coords").getD (tr * W + tc) Fl.nan)) (D ++ "y1") ((s.fa "y_coords").getD (n * W + k) Fl.nan))
      (D ++ "y2") ((s.fa "y_coords").getD (tr * W + tc) Fl.nan)), ctl := .run } : State F) = u
  have hu1 : u.ctl = .run ∧ u.fenv (D ++ "x1") = (s.fa "x_coords").getD (n * W + k) Fl.nan ∧
      u.fenv (D ++ "x2") = (s.fa "x_coords").getD (tr * W + tc) Fl.nan ∧
      u.fenv (D ++ "y1") = (s.fa "y_coords").getD (n * W + k) Fl.nan ∧
      u.fenv (D ++ "y2") = (s.fa "y_coords").getD (tr * W + tc) Fl.nan ∧
      u.ienv = s.ienv ∧ u.benv = s.benv ∧ u.ia = s.ia ∧ u.fa = s.fa ∧ u.shp = s.shp ∧ u.ext = s.ext := by
    subst hu
    exact ⟨rfl, by simp [setS], by simp [setS], by simp [setS], by simp [setS], rfl, rfl, rfl, rfl, rfl, rfl⟩
  obtain ⟨uc, u1, u2, u3, u4, ui, ub, uia, ufa, ush, uex⟩ := hu1
  obtain ⟨e, he, hret⟩ := dirBody_exec D u fuel uc
  have hsc : exec fuel (.scope (dirBody D)) u = { u with fenv := e, ctl := .run } := by
    rw [exec_scope_ret _ _ _ (by rw [he]), he]
  rw [exec_seq_run _ _ _ _ (by rw [hsc]), hsc]
  refine ⟨e, ?_⟩
  rw [u1, u2, u3, u4] at hret
  simp [il, ush, ui, cx.out, cx.line, cx.i, rk, rn, off2_nat, hret, ub, uia, ufa, uex]

/-- the value `output_img[line][i]` holds after the merge statement, `old` being its previous value and `t` the
    target in `nearest_xs/ys[i]` -/
def mergeVal (mode : Int) (img xc yc : List F) (W n k : Nat) (old : F) : Tgt → F
  | none => old
  | some t =>
    if mode = 1 then img.getD (t.1 * W + t.2) Fl.nan
    else if mode = 2 then
      dirF (xc.getD (n * W + k) Fl.nan) (xc.getD (t.1 * W + t.2) Fl.nan)
        (yc.getD (n * W + k) Fl.nan) (yc.getD (t.1 * W + t.2) Fl.nan)
    else old

/-- `if nearest_xs[i] != -1 and line_proximity[i] >= 0: …` for the model's nearest target `t` at `i = k` -/
theorem mergeStmt_exec (D : String) (s : State F) (fuel H W n k : Nat) (cx : MergeCtx H W n k s) (t : Tgt)
    (hrel : tgtRel H W ((s.ia "nearest_xs").getD k 0) ((s.ia "nearest_ys").getD k 0) t)
    (hlp : t ≠ none → Fl.le (Fl.lit 0 1) ((s.fa "line_proximity").getD k Fl.nan) = true) :
    let r := exec fuel (mergeStmt D) s
    r.ctl = .run ∧ (r.fa "output_img").length = H * W ∧
    (r.fa "output_img").getD (n * W + k) Fl.nan =
      mergeVal (s.ienv "process_mode") (s.fa "img") (s.fa "x_coords") (s.fa "y_coords") W n k
        ((s.fa "output_img").getD (n * W + k) Fl.nan) t ∧
    ∀ j, j ≠ n * W + k → (r.fa "output_img").getD j Fl.nan = (s.fa "output_img").getD j Fl.nan := by
  have hs := cx.run
  have rk := inRange_of_lt _ _ cx.hk
  have rn := inRange_of_lt _ _ cx.hn
  have idx := rowMajor_lt cx.hn cx.hk
  cases t with
  | none =>
    have hx : (s.ia "nearest_xs").getD k 0 = -1 := hrel
    have : exec fuel (mergeStmt D) s = s := by
      simp [il, mergeStmt, cx.nx, cx.lp, cx.i, rk, off1_nat, hx]
    simp only [this]
    exact ⟨hs, cx.lout, by simp [mergeVal], by simp⟩
  | some t =>
    obtain ⟨hx, hy, htr, htc⟩ := hrel
    have hx1 : ¬ ((t.2 : Int) = -1) := by omega
    have hl := hlp (by simp)
    have rtr := inRange_of_lt _ _ htr
    have rtc := inRange_of_lt _ _ htc
    have hok : (BE.and (BE.cmpI CmpOp.ne (IE.ld1 "nearest_xs" (IE.var "i")) (IE.lit (-1)))
        (BE.cmpF CmpOp.ge (FE.ld1 "line_proximity" (IE.var "i")) (FE.ofInt (IE.lit 0)))).ok s = true := by
      simp [il, cx.nx, cx.lp, cx.i, rk]
    rw [mergeStmt, exec_ite _ _ _ _ _ hok]
    simp only [BE.eval, IE.eval, FE.eval, cmpInt, CmpOp.eval, cx.nx, cx.lp, cx.i, off1_nat, hx, hl, ne_eq, hx1,
      not_false_eq_true, decide_true, Bool.and_self, if_true]
    rw [exec_ite _ _ _ _ _ rfl]
    simp only [BE.eval, IE.eval, cmpInt]
    by_cases hm1 : s.ienv "process_mode" = 1
    · have : exec fuel (.stF2 "output_img" (.var "line") (.var "i")
            (.ld2 "img" (.ld1 "nearest_ys" (.var "i")) (.ld1 "nearest_xs" (.var "i")))) s =
          { s with fa := setS s.fa "output_img" ((s.fa "output_img").set (n * W + k) ((s.fa "img").getD (t.1 * W + t.2) Fl.nan)) } := by
        simp [il, cx.out, cx.img, cx.nx, cx.ny, cx.line, cx.i, rk, rn, off1_nat, off2_nat, hx, hy, rtr, rtc]
      simp only [hm1, decide_true, if_true, this]
      refine ⟨hs, by simp [setS, cx.lout], ?_, ?_⟩
      · simp [setS, getD_set, cx.lout, idx, mergeVal]
      · intro j hj; simp [setS, getD_set_ne _ _ _ _ _ (Ne.symm hj)]
    · simp only [hm1, decide_false, Bool.false_eq_true, if_false]
      rw [exec_ite _ _ _ _ _ rfl]
      simp only [BE.eval, IE.eval, cmpInt]
      by_cases hm2 : s.ienv "process_mode" = 2
      · obtain ⟨e, he⟩ := dirCall_exec D s fuel H W n k t.1 t.2 cx htr htc hx hy
        simp only [hm2, decide_true, if_true, he]
        refine ⟨hs, by simp [setS, cx.lout], ?_, ?_⟩
        · have : ¬ ((2 : Int) = 1) := by decide
          simp [setS, getD_set, cx.lout, idx, mergeVal, this]
        · intro j hj; simp [setS, getD_set_ne _ _ _ _ _ (Ne.symm hj)]
      · simp only [hm2, decide_false, Bool.false_eq_true, if_false]
        rw [exec_skip]
        exact ⟨hs, cx.lout, by simp [mergeVal, hm1, hm2], fun _ _ => rfl⟩

end XrsVerif.IL.Px
