import XrsVerif.Proofs.ProximitySmall
/-! The small-grid table, slices 0–15: the eight grid shapes with fewer than nine cells. -/
namespace XrsVerif.Prox

theorem slice_0 : sliceChecked 0 = true := by decide +kernel
theorem slice_1 : sliceChecked 1 = true := by decide +kernel
theorem slice_2 : sliceChecked 2 = true := by decide +kernel
theorem slice_3 : sliceChecked 3 = true := by decide +kernel
theorem slice_4 : sliceChecked 4 = true := by decide +kernel
theorem slice_5 : sliceChecked 5 = true := by decide +kernel
theorem slice_6 : sliceChecked 6 = true := by decide +kernel
theorem slice_7 : sliceChecked 7 = true := by decide +kernel
theorem slice_8 : sliceChecked 8 = true := by decide +kernel
theorem slice_9 : sliceChecked 9 = true := by decide +kernel
theorem slice_10 : sliceChecked 10 = true := by decide +kernel
theorem slice_11 : sliceChecked 11 = true := by decide +kernel
theorem slice_12 : sliceChecked 12 = true := by decide +kernel
theorem slice_13 : sliceChecked 13 = true := by decide +kernel
theorem slice_14 : sliceChecked 14 = true := by decide +kernel
theorem slice_15 : sliceChecked 15 = true := by decide +kernel

end XrsVerif.Prox
