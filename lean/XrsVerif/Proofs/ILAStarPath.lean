import XrsVerif.Proofs.ILAStar
import XrsVerif.Proofs.AStarInv
/-
  Proofs/ILAStarPath.lean -- refinement of the generated `_reconstruct_path` (`Gen.IL.reconstructPath`) and of the
  copy inlined into `_a_star_search`.
-/
namespace XrsVerif.IL
open XrsVerif XrsVerif.AStar
attribute [-simp] List.getD_eq_getElem?_getD
variable {F : Type} [Fl F]

/-- the back pointer stored for cell `c` (`none` = `(NONE, NONE)`) -/
def parentOf (pys pxs : List Int) (w : Nat) (c : Cell) : Option Cell :=
  if pys.getD (cidx w c) 0 = -1 ∨ pxs.getD (cidx w c) 0 = -1 then none
  else some (pys.getD (cidx w c) 0, pxs.getD (cidx w c) 0)

theorem parentOf_eq_none {pys pxs : List Int} {w : Nat} {c : Cell} :
    parentOf pys pxs w c = none ↔ pys.getD (cidx w c) 0 = -1 ∨ pxs.getD (cidx w c) 0 = -1 := by
  unfold parentOf; split <;> simp [*]

theorem parentOf_eq_some {pys pxs : List Int} {w : Nat} {c p : Cell} (h : parentOf pys pxs w c = some p) :
    p = (pys.getD (cidx w c) 0, pxs.getD (cidx w c) 0) := by
  unfold parentOf at h; split at h
  · cases h
  · exact (Option.some.inj h).symm

/-- write `cost[c]` into `img[c]` for the cells of the list, in order -/
def chainW (cost : List F) (w : Nat) (cs : List Cell) (img : List F) : List F :=
  cs.foldl (fun l c => l.set (cidx w c) (cost.getD (cidx w c) Fl.nan)) img

theorem chainW_length (cost : List F) (w : Nat) (cs : List Cell) (img : List F) :
    (chainW cost w cs img).length = img.length :=
  foldl_set_length cs (cidx w) (fun c => cost.getD (cidx w c) Fl.nan) img

theorem chainW_getD (cost : List F) (h w : Nat) (cs : List Cell) (img : List F) (hl : img.length = h * w)
    (hcs : ∀ c ∈ cs, inside h w c = true) (c : Cell) (hc : inside h w c = true) (d : F) :
    (chainW cost w cs img).getD (cidx w c) d =
      if c ∈ cs then cost.getD (cidx w c) Fl.nan else img.getD (cidx w c) d := by
  unfold chainW
  rw [List.getD_eq_getElem?_getD, List.getD_eq_getElem?_getD (l := img)]
  split
  · rename_i hm
    rw [foldl_set_hit cs (cidx w) _ img _ (cost.getD (cidx w c) Fl.nan) (fun x _ hx => by rw [hx]) ⟨c, hm, rfl⟩
      (hl ▸ cidx_lt h w c hc)]
    rfl
  · rename_i hm
    rw [foldl_set_miss cs (cidx w) _ img _ fun x hx he => hm (cidx_inj h w c x hc (hcs x hx) he.symm ▸ hx)]

def rcLoopBody (q : String → String) (costArr : String) : St :=
  .seq (.stF2 "path_img" (.var (q "current_y")) (.var (q "current_x"))
          (.ld2 costArr (.var (q "current_y")) (.var (q "current_x"))))
  (.seq (.setI (q "parent_y") (.ld2 "parent_ys" (.var (q "current_y")) (.var (q "current_x"))))
  (.seq (.setI (q "parent_x") (.ld2 "parent_xs" (.var (q "current_y")) (.var (q "current_x"))))
  (.seq (.setI (q "current_y") (.var (q "parent_y")))
  (.setI (q "current_x") (.var (q "parent_x"))))))

def rcCond (q : String → String) : BE :=
  .or (.cmpI .ne (.var (q "current_x")) (.var (q "start_px"))) (.cmpI .ne (.var (q "current_y")) (.var (q "start_py")))

def rcWhile (q : String → String) (costArr : String) : St := .while (rcCond q) (rcLoopBody q costArr)

/-- the body of `_reconstruct_path`, locals renamed by `q`, the array of values named `costArr` -/
def rcSt (q : String → String) (costArr : String) : St :=
  .seq (.setI (q "current_x") (.var (q "goal_px")))
  (.seq (.setI (q "current_y") (.var (q "goal_py")))
  (.seq (.ite (.and (.cmpI .ne (.ld2 "parent_xs" (.var (q "current_y")) (.var (q "current_x"))) (.lit (-1)))
                    (.cmpI .ne (.ld2 "parent_ys" (.var (q "current_y")) (.var (q "current_x"))) (.lit (-1))))
    (.seq (.stF2 "path_img" (.var (q "start_py")) (.var (q "start_px"))
             (.ld2 costArr (.var (q "start_py")) (.var (q "start_px"))))
    (rcWhile q costArr))
    .skip)
  .ret))

theorem reconstructPath_body : Gen.IL.reconstructPath.body = rcSt (fun a => a) "cost" := rfl

structure RcShp (h w : Nat) (costArr : String) (s : State F) : Prop where
  sp : s.shp "path_img" = [h, w]
  sy : s.shp "parent_ys" = [h, w]
  sx : s.shp "parent_xs" = [h, w]
  sc : s.shp costArr = [h, w]
  ne : costArr ≠ "path_img"

theorem rcSt_ia (q : String → String) (costArr : String) (fuel : Nat) (s : State F) :
    (exec fuel (rcSt q costArr) s).ia = s.ia :=
  funext fun a => (ILVs.exec_frame fuel (rcSt q costArr) s).ia a List.not_mem_nil

theorem rc_loop (q : String → String) (hq : ILVs.Inj q) (costArr : String) (h w : Nat) (start : Cell) :
    ∀ (n : Nat) (cur : Cell) (chain : List Cell) (st : State F) (fuel : Nat),
      walk (parentOf (st.ia "parent_ys") (st.ia "parent_xs") w) start n cur = some chain →
      (∀ c ∈ chain, inside h w c = true) → st.ctl = .run → RcShp h w costArr st →
      st.ienv (q "current_y") = cur.1 → st.ienv (q "current_x") = cur.2 →
      st.ienv (q "start_py") = start.1 → st.ienv (q "start_px") = start.2 → chain.length ≤ fuel →
      (exec fuel (rcWhile q costArr) st).ctl = .run ∧
      (exec fuel (rcWhile q costArr) st).fa =
        setS st.fa "path_img" (chainW (st.fa costArr) w chain.dropLast (st.fa "path_img"))
  | 0, _, _, _, _, hw, _, _, _, _, _, _, _, _ => by simp [walk] at hw
  | n + 1, cur, chain, st, fuel, hw, hin, hst, hshp, hcy, hcx, hsy, hsx, hfuel => by
    simp only [walk] at hw
    by_cases hcs : cur = start
    · simp only [hcs, if_true, Option.some.injEq] at hw
      subst hw
      obtain ⟨fuel, rfl⟩ : ∃ f, fuel = f + 1 := ⟨fuel - 1, by simp at hfuel; omega⟩
      have hd : exec (fuel + 1) (rcWhile q costArr) st = st :=
        exec_while_exit _ _ _ _ (by simp [rcCond, BE.ok, IE.ok])
          (by simp [rcCond, BE.eval, IE.eval, cmpInt, hcy, hcx, hsy, hsx, hcs])
      rw [hd]
      exact ⟨hst, by simp [chainW, setS_self]⟩
    · simp only [hcs, if_false] at hw
      cases hp : parentOf (st.ia "parent_ys") (st.ia "parent_xs") w cur with
      | none => simp [hp] at hw
      | some p =>
        simp only [hp, Option.map_eq_some_iff] at hw
        obtain ⟨t, ht, rfl⟩ := hw
        obtain ⟨r1, r2, ho⟩ := cell_access (hin cur (by simp))
        have hp := parentOf_eq_some hp
        obtain ⟨fuel, rfl⟩ : ∃ f, fuel = f + 1 := ⟨fuel - 1, by simp at hfuel; omega⟩
        let st1 : State F :=
          { st with
            fa := setS st.fa "path_img"
              ((st.fa "path_img").set (cidx w cur) ((st.fa costArr).getD (cidx w cur) Fl.nan)),
            ienv := setS (setS (setS (setS st.ienv (q "parent_y") p.1) (q "parent_x") p.2)
              (q "current_y") p.1) (q "current_x") p.2 }
        have hb : exec fuel (rcLoopBody q costArr) st = st1 := by
          simp [il, st1, rcLoopBody, hshp.sp, hshp.sy, hshp.sx, hshp.sc, hcy, hcx, r1, r2, ho, hst, hq.eq_iff,
            hp]
        have hc1 : (rcCond q).eval st = true := by
          simp only [rcCond, BE.eval, IE.eval, cmpInt, hcy, hcx, hsy, hsx, Bool.or_eq_true, decide_eq_true_eq]
          exact Decidable.byContradiction fun hno => hcs (Prod.ext (by omega) (by omega))
        rw [rcWhile, exec_while_step_run _ _ _ _ (by simp [rcCond, BE.ok, IE.ok]) hc1 (by rw [hb]; exact hst), hb]
        have ih := rc_loop q hq costArr h w start n p t st1 fuel ht
          (fun c hc => hin c (by simp [hc])) hst
          ⟨hshp.sp, hshp.sy, hshp.sx, hshp.sc, hshp.ne⟩
          (by simp [st1, setS_apply, hq.eq_iff]) (by simp [st1])
          (by simp [st1, setS_apply, hq.eq_iff, hsy]) (by simp [st1, setS_apply, hq.eq_iff, hsx])
          (by simp at hfuel; omega)
        obtain ⟨t', rfl⟩ := walk_head ht
        rw [rcWhile] at ih
        refine ⟨ih.1, ?_⟩
        rw [ih.2]
        simp [st1, setS_setS, setS_apply, hshp.ne, chainW]

/-- inputs of `_reconstruct_path`: the scalar parameters name the cells `start` and `goal` -/
structure RcArgs (q : String → String) (start goal : Cell) (s : State F) : Prop where
  sy : s.ienv (q "start_py") = start.1
  sx : s.ienv (q "start_px") = start.2
  gy : s.ienv (q "goal_py") = goal.1
  gx : s.ienv (q "goal_px") = goal.2

theorem rc_exec_none (q : String → String) (hq : ILVs.Inj q) (costArr : String) (h w : Nat) (s : State F) (fuel : Nat)
    (hs : s.ctl = .run) (hshp : RcShp h w costArr s) (start goal : Cell) (ha : RcArgs q start goal s)
    (hg : inside h w goal = true)
    (hnone : parentOf (s.ia "parent_ys") (s.ia "parent_xs") w goal = none) :
    (exec fuel (rcSt q costArr) s).ctl = .ret ∧ (exec fuel (rcSt q costArr) s).fa = s.fa := by
  obtain ⟨r1, r2, ho⟩ := cell_access hg
  have hr : exec fuel (rcSt q costArr) s =
      { s with ienv := setS (setS s.ienv (q "current_x") goal.2) (q "current_y") goal.1, ctl := .ret } := by
    rcases parentOf_eq_none.mp hnone with hc | hc
    · by_cases hx : (s.ia "parent_xs").getD (cidx w goal) 0 = -1
      · simp [il, rcSt, hs, hq.eq_iff, ha.gy, ha.gx, hshp.sx, hshp.sy, r1, r2, ho, hx]
      · simp [il, rcSt, hs, hq.eq_iff, ha.gy, ha.gx, hshp.sx, hshp.sy, r1, r2, ho, hx, hc]
    · simp [il, rcSt, hs, hq.eq_iff, ha.gy, ha.gx, hshp.sx, hshp.sy, r1, r2, ho, hc]
  rw [hr]
  exact ⟨rfl, rfl⟩

theorem rc_exec_some (q : String → String) (hq : ILVs.Inj q) (costArr : String) (h w : Nat) (s : State F) (fuel : Nat)
    (hs : s.ctl = .run) (hshp : RcShp h w costArr s) (start goal : Cell) (ha : RcArgs q start goal s)
    (hsome : parentOf (s.ia "parent_ys") (s.ia "parent_xs") w goal ≠ none)
    (n : Nat) (chain : List Cell)
    (hw : walk (parentOf (s.ia "parent_ys") (s.ia "parent_xs") w) start n goal = some chain)
    (hin : ∀ c ∈ chain, inside h w c = true) (hfuel : chain.length ≤ fuel) :
    (exec fuel (rcSt q costArr) s).ctl = .ret ∧
      (exec fuel (rcSt q costArr) s).fa =
        setS s.fa "path_img" (chainW (s.fa costArr) w (start :: chain.dropLast) (s.fa "path_img")) := by
  obtain ⟨t, rfl⟩ := walk_head hw
  obtain ⟨r1, r2, ho⟩ := cell_access (hin goal (by simp))
  obtain ⟨r3, r4, ho'⟩ := cell_access (hin start (List.mem_of_getLast? (walk_last hw)))
  have hpp := not_or.mp (mt parentOf_eq_none.mpr hsome)
  let s2 : State F :=
    { s with ienv := setS (setS s.ienv (q "current_x") goal.2) (q "current_y") goal.1,
             fa := setS s.fa "path_img"
               ((s.fa "path_img").set (cidx w start) ((s.fa costArr).getD (cidx w start) Fl.nan)),
             ctl := .run }
  have hl := rc_loop q hq costArr h w start n goal (goal :: t) s2 fuel hw hin rfl
    ⟨hshp.sp, hshp.sy, hshp.sx, hshp.sc, hshp.ne⟩ (by simp [s2]) (by simp [s2, setS_apply, hq.eq_iff])
    (by simp [s2, setS_apply, hq.eq_iff, ha.sy]) (by simp [s2, setS_apply, hq.eq_iff, ha.sx]) hfuel
  have hr : exec fuel (rcSt q costArr) s = { exec fuel (rcWhile q costArr) s2 with ctl := .ret } := by
    have hl1 := hl.1
    simp only [s2] at hl1
    simp [il, rcSt, s2, hs, hq.eq_iff, ha.gy, ha.gx, ha.sy, ha.sx, hshp.sx, hshp.sy, hshp.sp, hshp.sc, r1, r2, r3, r4, ho,
      ho', hpp.1, hpp.2, hl1]
  rw [hr]
  refine ⟨rfl, ?_⟩
  show (exec fuel (rcWhile q costArr) s2).fa = _
  rw [hl.2]
  simp [s2, setS_setS, setS_apply, hshp.ne, chainW]

theorem mem_start_dropLast {chain : List Cell} {start : Cell} (hl : chain.getLast? = some start) (c : Cell) :
    c ∈ start :: chain.dropLast ↔ c ∈ chain := by
  have : chain = chain.dropLast ++ [start] := by
    obtain ⟨ys, rfl⟩ := List.getLast?_eq_some_iff.mp hl
    simp
  constructor
  · intro hc
    rw [this]
    rcases List.mem_cons.1 hc with rfl | hc
    · simp
    · simp [hc]
  · intro hc
    rw [this] at hc
    rcases List.mem_append.1 hc with hc | hc
    · simp [hc]
    · simp at hc; simp [hc]

/-- what `_reconstruct_path` leaves in `path_img`: it writes the start first and then the walk down to the cell in
    front of the start, which is the walk -/
theorem chainW_walk_getD (cost : List F) (h w : Nat) {chain : List Cell} {start : Cell} (img : List F)
    (hl : img.length = h * w) (hlast : chain.getLast? = some start) (hin : ∀ c ∈ chain, inside h w c = true)
    (c : Cell) (hc : inside h w c = true) (d : F) :
    (chainW cost w (start :: chain.dropLast) img).getD (cidx w c) d =
      if c ∈ chain then cost.getD (cidx w c) Fl.nan else img.getD (cidx w c) d := by
  rw [chainW_getD _ h w _ _ hl (fun x hx => hin x ((mem_start_dropLast hlast x).mp hx)) c hc d]
  simp only [mem_start_dropLast hlast]

/-- **`Gen.IL.reconstructPath` writes exactly the chain of the model's parent walk.**  Inputs: four `h × w` arrays,
    the back pointers read by `parentOf`, the goal has a back pointer, and `AStar.walk` from `goal` reaches `start`
    within some fuel `n` visiting `chain` (cells of the raster; inside `_a_star_search` the search invariant provides
    this walk: `AStar.search_spec`).  With `while`-fuel `≥ chain.length` the program ends
    by `return`; afterwards `path_img[c] = cost[c]` for `c ∈ chain`, every other cell of `path_img` is unchanged,
    and no other array is written. -/
theorem reconstructPath_refines (h w : Nat) (s : State F) (fuel : Nat) (hs : s.ctl = .run)
    (hshp : RcShp h w "cost" s) (hlen : (s.fa "path_img").length = h * w) (start goal : Cell)
    (ha : RcArgs (fun a => a) start goal s)
    (hsome : parentOf (s.ia "parent_ys") (s.ia "parent_xs") w goal ≠ none)
    (n : Nat) (chain : List Cell)
    (hw : walk (parentOf (s.ia "parent_ys") (s.ia "parent_xs") w) start n goal = some chain)
    (hin : ∀ c ∈ chain, inside h w c = true) (hfuel : chain.length ≤ fuel) :
    let r := Gen.IL.reconstructPath.run s fuel
    r.ctl = .ret ∧ r.ia = s.ia ∧ (∀ a, a ≠ "path_img" → r.fa a = s.fa a) ∧
      (r.fa "path_img").length = h * w ∧
      ∀ c, inside h w c = true → ∀ d, (r.fa "path_img").getD (cidx w c) d =
        if c ∈ chain then (s.fa "cost").getD (cidx w c) Fl.nan else (s.fa "path_img").getD (cidx w c) d := by
  have hr := rc_exec_some (fun a => a) ILVs.inj_id "cost" h w s fuel hs hshp start goal ha hsome n chain hw hin hfuel
  simp only [Prog.run, reconstructPath_body]
  refine ⟨hr.1, rcSt_ia _ _ fuel s, ?_, ?_, ?_⟩
  · intro a ha'; rw [hr.2]; simp [setS_apply, ha']
  · rw [hr.2]; simp [chainW_length, hlen]
  · intro c hc d
    rw [hr.2]
    simp only [setS_same]
    exact chainW_walk_getD _ h w _ hlen (walk_last hw) hin c hc d

/-- `Gen.IL.reconstructPath` when the goal has no back pointer: returns without writing anything -/
theorem reconstructPath_refines_none (h w : Nat) (s : State F) (fuel : Nat) (hs : s.ctl = .run)
    (hshp : RcShp h w "cost" s) (start goal : Cell) (ha : RcArgs (fun a => a) start goal s)
    (hg : inside h w goal = true)
    (hnone : parentOf (s.ia "parent_ys") (s.ia "parent_xs") w goal = none) :
    let r := Gen.IL.reconstructPath.run s fuel
    r.ctl = .ret ∧ r.ia = s.ia ∧ r.fa = s.fa := by
  have hr := rc_exec_none (fun a => a) ILVs.inj_id "cost" h w s fuel hs hshp start goal ha hg hnone
  simp only [Prog.run, reconstructPath_body]
  exact ⟨hr.1, rcSt_ia _ _ fuel s, hr.2⟩

end XrsVerif.IL
