import XrsVerif.Proofs.ZonalDask
/-
  The dask chunk grid is a partition of the raster:
  for every list of row chunk sizes summing to `h` and column chunk sizes summing to `w`, the blocks
  of `gridBlocks w rs cs`, concatenated, are a permutation of the flat indices `0 .. h*w-1`;
  and `pairBlocks` with the rechunk (`align = true`) pairs every zones block with the values block
  over the same cells, whatever the chunking the values arrived with.
-/
namespace XrsVerif.Zonal

theorem chunkRanges_flat (cs : List Nat) (off : Nat) :
    (chunkRanges off cs).flatMap (fun r => List.range' r.1 r.2) = List.range' off cs.sum := by
  induction cs generalizing off with
  | nil => simp [chunkRanges]
  | cons c cs ih =>
    simp only [chunkRanges, List.flatMap_cons, List.sum_cons, ih]
    rw [List.range'_append_1]

theorem flatMap_swap {α β γ : Type} (l1 : List α) (l2 : List β) (f : α → β → List γ) :
    (l1.flatMap (fun a => l2.flatMap (fun b => f a b))).Perm (l2.flatMap (fun b => l1.flatMap (fun a => f a b))) := by
  induction l1 with
  | nil => simp
  | cons a l1 ih =>
    simp only [List.flatMap_cons]
    exact (List.Perm.append_left _ ih).trans (List.flatMap_append_perm l2 (f a) (fun b => l1.flatMap (fun a => f a b)))

theorem rowMajor_eq_range (h w : Nat) :
    (List.range' 0 h).flatMap (fun i => (List.range' 0 w).map (fun j => i * w + j)) = List.range (h * w) := by
  induction h with
  | zero => simp
  | succ h ih =>
    rw [List.range'_1_concat, List.flatMap_append, ih]
    simp only [Nat.zero_add, List.flatMap_cons, List.flatMap_nil, List.append_nil]
    rw [Nat.succ_mul, List.range_add]
    congr 1
    rw [List.range_eq_range']

theorem gridBlocks_perm (h w : Nat) (rs cs : List Nat) (hr : rs.sum = h) (hc : cs.sum = w) :
    (gridBlocks w rs cs).flatten.Perm (List.range (h * w)) := by
  unfold gridBlocks
  rw [List.flatMap_def, List.flatten_flatten, List.map_map]
  simp only [← List.flatMap_def, Function.comp_def]
  have step : ∀ r : Nat × Nat,
      ((chunkRanges 0 cs).flatMap (fun c => blockCells w r c)).Perm
        ((List.range' r.1 r.2).flatMap (fun i => (List.range' 0 w).map (fun j => i * w + j))) := by
    intro r
    unfold blockCells
    refine (flatMap_swap (chunkRanges 0 cs) (List.range' r.1 r.2)
      (fun c i => (List.range' c.1 c.2).map (fun j => i * w + j))).trans ?_
    apply List.Perm.of_eq
    congr 1
    funext i
    rw [← List.map_flatMap, chunkRanges_flat, hc]
  have h2 : ((chunkRanges 0 rs).flatMap (fun r => (chunkRanges 0 cs).flatMap (fun c => blockCells w r c))).Perm
      ((chunkRanges 0 rs).flatMap (fun r =>
        (List.range' r.1 r.2).flatMap (fun i => (List.range' 0 w).map (fun j => i * w + j)))) :=
    List.Perm.flatMap_left _ (fun r _ => step r)
  refine h2.trans (List.Perm.of_eq ?_)
  rw [← List.flatMap_assoc, chunkRanges_flat, hr, rowMajor_eq_range]

/-- with the rechunk every pair of `zip(zones_blocks, values_blocks)` covers the same cells, namely a
    block of the *zones* chunking -- whatever chunking `vch` the values arrived with -/
theorem pairBlocks_aligned (w : Nat) (zch vch : List Nat × List Nat) (perms : List (List Nat))
    (hl : perms.length = (gridBlocks w zch.1 zch.2).length) :
    (∀ b ∈ pairBlocks true w zch vch perms, b.vc = b.zc) ∧
    (pairBlocks true w zch vch perms).map (fun b => b.zc) = gridBlocks w zch.1 zch.2 ∧
    (pairBlocks true w zch vch perms).map (fun b => b.perm) = perms := by
  unfold pairBlocks
  simp only [if_true]
  generalize gridBlocks w zch.1 zch.2 = zb at hl
  induction zb generalizing perms with
  | nil =>
    cases perms with
    | nil => simp
    | cons p ps => simp at hl
  | cons z zb ih =>
    cases perms with
    | nil => simp at hl
    | cons p ps =>
      have := ih ps (by simpa using hl)
      simp only [List.zip_cons_cons, List.map_cons, List.mem_cons, forall_eq_or_imp, true_and]
      exact ⟨this.1, by rw [this.2.1], by rw [this.2.2]⟩

/-- so the pairs of an `h × w` raster are good blocks as soon as every block was sorted -/
theorem goodBlocks_pairBlocks {κ : Type} [LinearOrder κ] (zones : Nat → X κ) (h w : Nat)
    (zch vch : List Nat × List Nat) (perms : List (List Nat)) (hr : zch.1.sum = h) (hc : zch.2.sum = w)
    (hl : perms.length = (gridBlocks w zch.1 zch.2).length)
    (hs : ∀ b ∈ pairBlocks true w zch vch perms, SortsCells (Block.fn b.zc zones) (List.range b.zc.length) b.perm) :
    GoodBlocks zones (List.range (h * w)) (pairBlocks true w zch vch perms) := by
  have ha := pairBlocks_aligned w zch vch perms hl
  exact ⟨ha.1, ha.2.1 ▸ gridBlocks_perm h w zch.1 zch.2 hr hc, hs⟩

theorem pairBlocks_ne_nil (w : Nat) (zch vch : List Nat × List Nat) (perms : List (List Nat))
    (hl : perms.length = (gridBlocks w zch.1 zch.2).length) (hne : gridBlocks w zch.1 zch.2 ≠ []) :
    pairBlocks true w zch vch perms ≠ [] := by
  intro e
  have ha := (pairBlocks_aligned w zch vch perms hl).2.1
  rw [e] at ha
  exact hne ha.symm

end XrsVerif.Zonal
