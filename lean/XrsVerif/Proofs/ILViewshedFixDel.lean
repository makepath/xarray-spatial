import XrsVerif.Proofs.ILViewshedDel
/-
  The blocks of one iteration of `_rb_delete_fixup` (inlined in `Gen.IL.vsDelete`) at a position of the whole tree, `x`
  the `d`-child of its parent.  Each statement of a block (a colour write `stColE_move`, an inlined rotation
  `rotCall_move`) is a `Move`: the arrays still hold a tree with the same rows and the model tree changes by an `atPath`;
  a block is their composition (`dcase1_spec` … `dcase4_spec` conclude a `Move`, like the `*_move` of the insertion's
  fix-up).
-/
namespace XrsVerif.ILVs
open XrsVerif XrsVerif.IL XrsVerif.Viewshed
variable {F : Type} [Fl F]

/-! `_rb_delete_fixup` treats `x` as a left child and as a right child by mirrored code; the model (`dfB`, `delFixP`) has
one code for both, indexed by the side `d` of `x` (shapes and frames: `Sh.nodeD d`, `Fr.mkD d`, Proofs/ILViewshedZip.lean). -/

/-- `TreeAt` at the root variable of the inlined `_rb_delete_fixup` (`DFMove`: `Move` there) -/
abbrev DFT (s : State F) (n : Nat) (sh : Sh) : Prop := TreeAt "_rb_delete_fixup17$root" s n sh

abbrev DFMove (n : Nat) (f : Tree (Fv F) → Tree (Fv F)) (s r : State F) (sh sh' : Sh) : Prop :=
  Move "_rb_delete_fixup17$root" n f s r sh sh'

/-- **case 1**: the red sibling `w` becomes black, the parent `p` red, and the rotation at `p` puts `w` above it; the new
    sibling of `x` is the child of `w` that was on its side -/
theorem dcase1_spec (d : Dir) (fuel n : Nat) (s : State F) (xl : Sh) (x : Nat) (xr : Sh) (p : Nat) (near : Sh) (w : Nat)
    (far : Sh) (rest : Ctx) (h : DFT s n (plug (Sh.nodeD d (.node xl x xr) p (Sh.nodeD d near w far)) rest))
    (ew : s.ienv "_rb_delete_fixup17$w" = w) (exp : s.ienv "_rb_delete_fixup17$x_parent" = p) :
    let r := exec fuel (dfCase1B d) s
    DFMove n (fun T => atPath (rotD (vAt (s.fa "tree_vals") (n - 1) 7) d) (pathOf rest) (atPath (setCol true) (pathOf rest)
        (atPath (setCol false) (pathOf rest ++ [d.flip]) T))) s r
      (plug (Sh.nodeD d (.node xl x xr) p (Sh.nodeD d near w far)) rest)
      (plug (Sh.nodeD d (Sh.nodeD d (.node xl x xr) p near) w far) rest) ∧
    r.ienv "_rb_delete_fixup17$w" = near.ptr ∧ r.ienv "_rb_delete_fixup17$x_parent" = p ∧ r.ienv "_rb_delete_fixup17$x" = s.ienv "_rb_delete_fixup17$x" ∧ nAt (r.ia "tree_nodes") p 0 = 0 := by
  intro r
  obtain ⟨m1, e1, _, _⟩ := stColE_move fuel n s "_rb_delete_fixup17$w" (.lit 1) 1 false (IE.ok_lit _ _) (IE.eval_lit _ _)
    (by decide) colV_one h (Fr.mkD d.flip p (.node xl x xr) :: rest) (pickD d near far) w (pickD d far near)
    (by cases d <;> rfl) (pathOf_mkD _ _ _ _) ew
  generalize hs1 : exec fuel (.stI2 "tree_nodes" (.var "_rb_delete_fixup17$w") (.lit 0) (.lit 1)) s = s1 at m1 e1
  obtain ⟨m2, e2, _, c2⟩ := stColE_move fuel n s1 "_rb_delete_fixup17$x_parent" (.lit 0) 0 true (IE.ok_lit _ _) (IE.eval_lit _ _)
    (by decide) colV_zero m1.holds rest _ p _ rfl rfl ((congrFun e1 _).trans exp)
  generalize hs2 : exec fuel (.stI2 "tree_nodes" (.var "_rb_delete_fixup17$x_parent") (.lit 0) (.lit 0)) s1 = s2 at m2 e2 c2
  have e12 : s2.ienv = s.ienv := e2.trans e1
  obtain ⟨m3, k3, c3⟩ := rotCall_move d (pickD d dren18 dren27) (by cases d <;> exact rotRen_inj _ _ _)
    "_rb_delete_fixup17$x_parent" (by cases d <;> decide) fuel n s2 _ (m2.nilMax.trans m1.nilMax) m2.holds rest
    (.node xl x xr) p near w far rfl rfl rfl ((congrFun e12 _).trans exp)
  generalize hs3 : exec fuel (rotCall (pickD d Gen.IL.vsLeftRotate.body Gen.IL.vsRightRotate.body) (pickD d dren18 dren27)
    (pickD d "x" "y") "_rb_delete_fixup17$root" "_rb_delete_fixup17$x_parent") s2 = s3 at m3 k3 c3
  have exp3 : s3.ienv "_rb_delete_fixup17$x_parent" = p :=
    (k3 _ (by cases d <;> decide)).trans ((congrFun e12 _).trans exp)
  have ex3 : s3.ienv "_rb_delete_fixup17$x" = s.ienv "_rb_delete_fixup17$x" :=
    (k3 _ (by cases d <;> decide)).trans (congrFun e12 _)
  obtain ⟨_, _, hpn, hpw, _⟩ := Pos.sibling (N := s3.ia "tree_nodes") (sib := near) (rest := Fr.mkD d w far :: rest)
    ⟨by rw [plug_mkD]; exact m3.holds.linked, by rw [plug_mkD]; exact m3.holds.nodup⟩
  obtain ⟨s4, h4, m4, i4, a4⟩ := ((m1.trans m2).trans m3).exec_ld fuel "_rb_delete_fixup17$w" "_rb_delete_fixup17$x_parent"
    d.flip.col (by cases d <;> decide) p hpn exp3 (by simp)
  have hr : r = s4 :=
    (exec_seq_eq _ _ _ _ _ hs1 m1.holds.run).trans ((exec_seq_eq _ _ _ _ _ hs2 m2.holds.run).trans (by
      have hk : pickD d dlrot18 drrot27 = rotCallK (pickD d Gen.IL.vsLeftRotate.body Gen.IL.vsRightRotate.body)
          (pickD d dren18 dren27) (pickD d "x" "y") "_rb_delete_fixup17$root" "_rb_delete_fixup17$x_parent" := by
        cases d <;> rfl
      rw [hk, exec_rotCallK, exec_seq_eq _ _ _ _ _ hs3 m3.holds.run, h4]))
  rw [hr]
  refine ⟨m4, ?_, by rw [a4, setS_other _ _ _ _ (by simp)]; exact exp3, by rw [a4, setS_other _ _ _ _ (by simp)]; exact ex3,
    by rw [i4]; exact (c3 p).trans c2⟩
  rw [a4, setS_same]
  cases d <;> exact hpw

/-- **case 2**: the sibling becomes red, `x` moves to its parent -/
theorem dcase2_spec (d : Dir) (fuel n : Nat) (s : State F) (xl : Sh) (x : Nat) (xr : Sh) (p : Nat) (near : Sh) (w : Nat)
    (far : Sh) (rest : Ctx) (h : DFT s n (plug (Sh.nodeD d (.node xl x xr) p (Sh.nodeD d near w far)) rest))
    (ew : s.ienv "_rb_delete_fixup17$w" = w) (ex : s.ienv "_rb_delete_fixup17$x" = x) (exp : s.ienv "_rb_delete_fixup17$x_parent" = p) :
    let r := exec fuel (dfCase2 d) s
    DFMove n (atPath (setCol true) (pathOf rest ++ [d.flip])) s r
      (plug (Sh.nodeD d (.node xl x xr) p (Sh.nodeD d near w far)) rest)
      (plug (Sh.nodeD d (.node xl x xr) p (Sh.nodeD d near w far)) rest) ∧
    r.ienv "_rb_delete_fixup17$x" = p ∧ nAt (r.ia "tree_nodes") p 0 = nAt (s.ia "tree_nodes") p 0 := by
  intro r
  obtain ⟨m1, e1, o1, _⟩ := stColE_move fuel n s "_rb_delete_fixup17$w" (.lit 0) 0 true (IE.ok_lit _ _) (IE.eval_lit _ _)
    (by decide) colV_zero h (Fr.mkD d.flip p (.node xl x xr) :: rest) (pickD d near far) w (pickD d far near)
    (by cases d <;> rfl) (pathOf_mkD _ _ _ _) ew
  generalize hs1 : exec fuel (.stI2 "tree_nodes" (.var "_rb_delete_fixup17$w") (.lit 0) (.lit 0)) s = s1 at m1 e1 o1
  obtain ⟨hxn, hx3, _, _, _⟩ := m1.holds.pos.sibling
  have hpw : p ≠ w := fun e => (Sh.nodup_nodeD h.pos.sub_nodup).2.2.2.1 ((Sh.mem_nodeD d near w far p).mpr (Or.inl e))
  -- the left child's code reads `x.parent`, the right child's `x_parent`
  cases d with
  | L =>
    obtain ⟨s2, h2, m2, i2, a2⟩ := m1.exec_ld fuel "_rb_delete_fixup17$x" "_rb_delete_fixup17$x" 3 (by decide) x hxn
      ((congrFun e1 _).trans ex) (by simp)
    rw [show r = s2 from (exec_seq_eq _ _ _ _ _ hs1 m1.holds.run).trans h2]
    exact ⟨m2, by rw [a2, setS_same]; exact hx3, by rw [i2]; exact o1 p hpw⟩
  | R =>
    obtain ⟨s2, h2, m2, i2, a2⟩ := m1.exec_setI fuel "_rb_delete_fixup17$x" (.var "_rb_delete_fixup17$x_parent")
      (IE.ok_var _ _) (by simp)
    rw [show r = s2 from (exec_seq_eq _ _ _ _ _ hs1 m1.holds.run).trans h2]
    exact ⟨m2, by rw [a2, setS_same, IE.eval_var, e1]; exact exp, by rw [i2]; exact o1 p hpw⟩

/-- NIL sibling: `x` moves to its parent and the loop goes on -/
theorem dnil_spec (d : Dir) (fuel n : Nat) (s : State F) (hv : VS s n) (hrun : s.ctl = .run) (x p : Nat) (hxn : x + 1 < n)
    (hx3 : nAt (s.ia "tree_nodes") x 3 = (p : Int)) (ex : s.ienv "_rb_delete_fixup17$x" = x) (exp : s.ienv "_rb_delete_fixup17$x_parent" = p) :
    exec fuel (dfNil d) s = { s with ienv := setS s.ienv "_rb_delete_fixup17$x" (p : Int), ctl := .cont } := by
  cases d with
  | L =>
    exact (exec_seq_eq _ _ _ _ _ (exec_ldN fuel n s hv.shpN _ "_rb_delete_fixup17$x" 3 (by decide)
      (by rw [ex]; exact hv.inRange hxn) p (by rw [ex, rowOf_nat]; exact hx3)) hrun).trans (exec_cont _ _)
  | R =>
    exact (exec_seq_eq _ _ _ _ { s with ienv := setS s.ienv "_rb_delete_fixup17$x" (p : Int) }
      ((exec_setI _ _ _ _ (IE.ok_var _ _)).trans (by rw [IE.eval_var, exp])) hrun).trans (exec_cont _ _)

/-- **case 3**: the red near child `b` of the sibling becomes black, the sibling red, and the rotation at the sibling
    makes `b` the new sibling, with a red far child -/
theorem dcase3_spec (d : Dir) (fuel n : Nat) (s : State F) (xl : Sh) (x : Nat) (xr : Sh) (p : Nat) (nl : Sh) (b : Nat)
    (nr : Sh) (w : Nat) (far : Sh) (rest : Ctx)
    (h : DFT s n (plug (Sh.nodeD d (.node xl x xr) p (Sh.nodeD d (Sh.nodeD d nl b nr) w far)) rest))
    (ew : s.ienv "_rb_delete_fixup17$w" = w) (eb : s.ienv (pickD d "_rb_delete_fixup17$w_left" "_rb_delete_fixup17$w_right") = b) (ex : s.ienv "_rb_delete_fixup17$x" = x) (exp : s.ienv "_rb_delete_fixup17$x_parent" = p) :
    let r := exec fuel (dfCase3 d) s
    DFMove n (fun T => atPath (rotD (vAt (s.fa "tree_vals") (n - 1) 7) d.flip) (pathOf rest ++ [d.flip])
        (atPath (setCol true) (pathOf rest ++ [d.flip]) (atPath (setCol false) (pathOf rest ++ [d.flip] ++ [d]) T))) s r
      (plug (Sh.nodeD d (.node xl x xr) p (Sh.nodeD d (Sh.nodeD d nl b nr) w far)) rest)
      (plug (Sh.nodeD d (.node xl x xr) p (Sh.nodeD d nl b (Sh.nodeD d nr w far))) rest) ∧
    r.ienv "_rb_delete_fixup17$w" = b ∧ r.ienv "_rb_delete_fixup17$x_parent" = p ∧ r.ienv "_rb_delete_fixup17$x" = x ∧ nAt (r.ia "tree_nodes") p 0 = nAt (s.ia "tree_nodes") p 0 ∧
      nAt (r.ia "tree_nodes") w 0 = 0 := by
  intro r
  have hp : p ∉ (Sh.nodeD d (Sh.nodeD d nl b nr) w far).idxs := (Sh.nodup_nodeD h.pos.sub_nodup).2.2.2.1
  have hpw : p ≠ w := fun e => hp ((Sh.mem_nodeD d _ w far p).mpr (Or.inl e))
  have hpb : p ≠ b := fun e => hp ((Sh.mem_nodeD d _ w far p).mpr (Or.inr (Or.inl ((Sh.mem_nodeD d nl b nr p).mpr (Or.inl e)))))
  obtain ⟨m1, e1, o1, _⟩ := stColE_move fuel n s (pickD d "_rb_delete_fixup17$w_left" "_rb_delete_fixup17$w_right") (.lit 1) 1 false
    (IE.ok_lit _ _) (IE.eval_lit _ _) (by decide) colV_one h (Fr.mkD d w far :: Fr.mkD d.flip p (.node xl x xr) :: rest)
    (pickD d nl nr) b (pickD d nr nl) (by cases d <;> rfl) (by rw [pathOf_mkD, pathOf_mkD]) eb
  generalize hs1 : exec fuel (.stI2 "tree_nodes" (.var (pickD d "_rb_delete_fixup17$w_left" "_rb_delete_fixup17$w_right")) (.lit 0) (.lit 1)) s = s1 at m1 e1 o1
  obtain ⟨m2, e2, o2, c2⟩ := stColE_move fuel n s1 "_rb_delete_fixup17$w" (.lit 0) 0 true (IE.ok_lit _ _) (IE.eval_lit _ _)
    (by decide) colV_zero m1.holds (Fr.mkD d.flip p (.node xl x xr) :: rest) (pickD d (Sh.nodeD d nl b nr) far) w
    (pickD d far (Sh.nodeD d nl b nr)) (by cases d <;> rfl) (pathOf_mkD _ _ _ _) ((congrFun e1 _).trans ew)
  generalize hs2 : exec fuel (.stI2 "tree_nodes" (.var "_rb_delete_fixup17$w") (.lit 0) (.lit 0)) s1 = s2 at m2 e2 o2 c2
  have e12 : s2.ienv = s.ienv := e2.trans e1
  obtain ⟨m3, k3, c3⟩ := rotCall_move d.flip (pickD d dren21 dren30) (by cases d <;> exact rotRen_inj _ _ _)
    "_rb_delete_fixup17$w" (by cases d <;> decide) fuel n s2 _ (m2.nilMax.trans m1.nilMax)
    (sh' := plug (Sh.nodeD d (.node xl x xr) p (Sh.nodeD d nl b (Sh.nodeD d nr w far))) rest) m2.holds
    (Fr.mkD d.flip p (.node xl x xr) :: rest) far w nr b nl (by cases d <;> rfl) (by cases d <;> rfl) (pathOf_mkD _ _ _ _)
    ((congrFun e12 _).trans ew)
  generalize hs3 : exec fuel (rotCall (pickD d.flip Gen.IL.vsLeftRotate.body Gen.IL.vsRightRotate.body) (pickD d dren21 dren30)
    (pickD d.flip "x" "y") "_rb_delete_fixup17$root" "_rb_delete_fixup17$w") s2 = s3 at m3 k3 c3
  have m := (m1.trans m2).trans m3
  obtain ⟨hxn, hx3, hpn, hpb', _⟩ := m3.holds.pos.sibling
  have hcp : nAt (s3.ia "tree_nodes") p 0 = nAt (s.ia "tree_nodes") p 0 := (c3 p).trans ((o2 p hpw).trans (o1 p hpb))
  -- the new sibling is read off the parent; the left child's code reads `x.parent` again first
  cases d with
  | L =>
    have ex3 : s3.ienv "_rb_delete_fixup17$x" = x := (k3 _ (by decide)).trans ((congrFun e12 _).trans ex)
    obtain ⟨s4, h4, m4, i4, a4⟩ := m.exec_ld fuel "_rb_delete_fixup17$x_parent" "_rb_delete_fixup17$x" 3 (by decide) x hxn
      ex3 (by simp)
    have exp4 : s4.ienv "_rb_delete_fixup17$x_parent" = p := by rw [a4, setS_same]; exact hx3
    obtain ⟨s5, h5, m5, i5, a5⟩ := m4.exec_ld fuel "_rb_delete_fixup17$w" "_rb_delete_fixup17$x_parent" 2 (by decide) p hpn
      exp4 (by simp)
    have hr : r = s5 :=
      (exec_seq_eq _ _ _ _ _ hs1 m1.holds.run).trans ((exec_seq_eq _ _ _ _ _ hs2 m2.holds.run).trans ((exec_rotCallK _ _ _ _ _ _ _ _).trans
        ((exec_seq_eq _ _ _ _ _ hs3 m3.holds.run).trans ((exec_seq_eq _ _ _ _ _ h4 m4.holds.run).trans h5))))
    rw [hr, i5, i4]
    refine ⟨m5, by rw [a5, setS_same, i4]; exact hpb', by rw [a5, setS_other _ _ _ _ (by simp)]; exact exp4, ?_, hcp,
      (c3 w).trans c2⟩
    rw [a5, setS_other _ _ _ _ (by simp), a4, setS_other _ _ _ _ (by simp)]
    exact ex3
  | R =>
    have ex3 : s3.ienv "_rb_delete_fixup17$x" = x := (k3 _ (by decide)).trans ((congrFun e12 _).trans ex)
    have exp3 : s3.ienv "_rb_delete_fixup17$x_parent" = p := (k3 _ (by decide)).trans ((congrFun e12 _).trans exp)
    obtain ⟨s5, h5, m5, i5, a5⟩ := m.exec_ld fuel "_rb_delete_fixup17$w" "_rb_delete_fixup17$x_parent" 1 (by decide) p hpn
      exp3 (by simp)
    have hr : r = s5 :=
      (exec_seq_eq _ _ _ _ _ hs1 m1.holds.run).trans ((exec_seq_eq _ _ _ _ _ hs2 m2.holds.run).trans ((exec_rotCallK _ _ _ _ _ _ _ _).trans
        ((exec_seq_eq _ _ _ _ _ hs3 m3.holds.run).trans h5)))
    rw [hr, i5]
    exact ⟨m5, by rw [a5, setS_same]; exact hpb', by rw [a5, setS_other _ _ _ _ (by simp)]; exact exp3,
      by rw [a5, setS_other _ _ _ _ (by simp)]; exact ex3, hcp, (c3 w).trans c2⟩

/-- **case 4**: the sibling takes the parent's colour, the parent and the red far child `f` become black, and the
    rotation at the parent puts the sibling above it; `x` becomes the root, which ends the loop -/
theorem dcase4_spec (d : Dir) (fuel n : Nat) (s : State F) (xl : Sh) (x : Nat) (xr : Sh) (p : Nat) (near : Sh) (w : Nat)
    (fl : Sh) (f : Nat) (fr : Sh) (rest : Ctx)
    (h : DFT s n (plug (Sh.nodeD d (.node xl x xr) p (Sh.nodeD d near w (.node fl f fr))) rest))
    (ew : s.ienv "_rb_delete_fixup17$w" = w) (ex : s.ienv "_rb_delete_fixup17$x" = x) (exp : s.ienv "_rb_delete_fixup17$x_parent" = p) (hcp : ColV (nAt (s.ia "tree_nodes") p 0)) :
    let r := exec fuel (dfCase4 d) s
    let sh' := plug (Sh.nodeD d (Sh.nodeD d (.node xl x xr) p near) w (.node fl f fr)) rest
    DFMove n (fun T => atPath (rotD (vAt (s.fa "tree_vals") (n - 1) 7) d) (pathOf rest)
        (atPath (setCol false) (pathOf rest ++ [d.flip] ++ [d.flip]) (atPath (setCol false) (pathOf rest)
          (atPath (setCol (decide (nAt (s.ia "tree_nodes") p 0 = 0))) (pathOf rest ++ [d.flip]) T)))) s r
      (plug (Sh.nodeD d (.node xl x xr) p (Sh.nodeD d near w (.node fl f fr))) rest) sh' ∧
    r.ienv "_rb_delete_fixup17$x" = sh'.ptr := by
  intro r sh'
  obtain ⟨hxn, hx3, hpn, _, hlw⟩ := h.pos.sibling
  have hcolE : ∀ q : State F, VS q n → q.ienv "_rb_delete_fixup17$x_parent" = p → q.ia = s.ia →
      (IE.ld2 "tree_nodes" (.var "_rb_delete_fixup17$x_parent") (.lit 0)).ok q = true ∧
      (IE.ld2 "tree_nodes" (.var "_rb_delete_fixup17$x_parent") (.lit 0)).eval q = nAt (s.ia "tree_nodes") p 0 :=
    fun q hq hqp hqa => ⟨by rw [okN q n hq.shpN _ 0 (by decide), hqp]; exact hq.inRange hpn,
      by rw [evalN q n hq.shpN _ 0 (by decide), hqp, rowOf_nat, hqa]; rfl⟩
  -- the two sides do the same writes, with the reads at different places
  cases d with
  | L =>
    obtain ⟨s1, h1, m1, i1, a1⟩ := (Move.refl h).exec_ld fuel "_rb_delete_fixup17$x_parent" "_rb_delete_fixup17$x" 3
      (by decide) x hxn ex (by simp)
    have ew1 : s1.ienv "_rb_delete_fixup17$w" = w := by rw [a1, setS_other _ _ _ _ (by simp)]; exact ew
    obtain ⟨s2, h2, m2, i2, a2⟩ := m1.exec_ld fuel "_rb_delete_fixup17$w_right" "_rb_delete_fixup17$w" 2 (by decide) w hlw.1
      ew1 (by simp)
    have exp2 : s2.ienv "_rb_delete_fixup17$x_parent" = p := by
      rw [a2, setS_other _ _ _ _ (by simp), a1, setS_same]; exact hx3
    have ew2 : s2.ienv "_rb_delete_fixup17$w" = w := by rw [a2, setS_other _ _ _ _ (by simp)]; exact ew1
    have ewr2 : s2.ienv "_rb_delete_fixup17$w_right" = f := by rw [a2, setS_same, i1]; exact hlw.2.2.1
    obtain ⟨hok, hev⟩ := hcolE s2 m2.holds.vs exp2 (i2.trans i1)
    obtain ⟨m3, e3, _, _⟩ := stColE_move fuel n s2 "_rb_delete_fixup17$w" _ _ _ hok hev rfl hcp m2.holds
      (.R (.node xl x xr) p :: rest) near w (.node fl f fr) rfl rfl ew2
    generalize hs3 : exec fuel (.stI2 "tree_nodes" (.var "_rb_delete_fixup17$w") (.lit 0)
      (.ld2 "tree_nodes" (.var "_rb_delete_fixup17$x_parent") (.lit 0))) s2 = s3 at m3 e3
    obtain ⟨m4, e4, _, _⟩ := stColE_move fuel n s3 "_rb_delete_fixup17$x_parent" (.lit 1) 1 false (IE.ok_lit _ _) (IE.eval_lit _ _)
      (by decide) colV_one m3.holds rest _ p _ rfl rfl ((congrFun e3 _).trans exp2)
    generalize hs4 : exec fuel (.stI2 "tree_nodes" (.var "_rb_delete_fixup17$x_parent") (.lit 0) (.lit 1)) s3 = s4 at m4 e4
    obtain ⟨m5, e5, _, _⟩ := stColE_move fuel n s4 "_rb_delete_fixup17$w_right" (.lit 1) 1 false (IE.ok_lit _ _) (IE.eval_lit _ _)
      (by decide) colV_one m4.holds (.R near w :: .R (.node xl x xr) p :: rest) fl f fr rfl rfl
      ((congrFun (e4.trans e3) _).trans ewr2)
    generalize hs5 : exec fuel (.stI2 "tree_nodes" (.var "_rb_delete_fixup17$w_right") (.lit 0) (.lit 1)) s4 = s5 at m5 e5
    have m25 := ((m2.trans m3).trans m4).trans m5
    obtain ⟨m6, _, _⟩ := rotCall_move .L dren24 (rotRen_inj _ _ _) "_rb_delete_fixup17$x_parent" (by decide) fuel n s5 _
      m25.nilMax m5.holds rest (.node xl x xr) p near w (.node fl f fr) rfl rfl rfl
      ((congrFun (e5.trans (e4.trans e3)) _).trans exp2)
    generalize hs6 : exec fuel (rotCall (pickD .L Gen.IL.vsLeftRotate.body Gen.IL.vsRightRotate.body) dren24 (pickD .L "x" "y")
      "_rb_delete_fixup17$root" "_rb_delete_fixup17$x_parent") s5 = s6 at m6
    obtain ⟨s7, h7, m7, _, a7⟩ := (m25.trans m6).exec_setI fuel "_rb_delete_fixup17$x"
      (.var "_rb_delete_fixup17$root") (IE.ok_var _ _) (by simp)
    have hr : r = s7 :=
      (exec_seq_eq _ _ _ _ _ h1 m1.holds.run).trans ((exec_seq_eq _ _ _ _ _ h2 m2.holds.run).trans
        ((exec_seq_eq _ _ _ _ _ hs3 m3.holds.run).trans ((exec_seq_eq _ _ _ _ _ hs4 m4.holds.run).trans
        ((exec_seq_eq _ _ _ _ _ hs5 m5.holds.run).trans ((exec_rotCallK _ _ _ _ _ _ _ _).trans
        ((exec_seq_eq _ _ _ _ _ hs6 m6.holds.run).trans h7))))))
    rw [hr]
    exact ⟨m7, by rw [a7, setS_same, IE.eval_var]; exact m6.holds.root⟩
  | R =>
    obtain ⟨hok, hev⟩ := hcolE s h.vs exp rfl
    obtain ⟨m3, e3, o3, _⟩ := stColE_move fuel n s "_rb_delete_fixup17$w" _ _ _ hok hev rfl hcp h
      (.L p (.node xl x xr) :: rest) (.node fl f fr) w near rfl rfl ew
    generalize hs3 : exec fuel (.stI2 "tree_nodes" (.var "_rb_delete_fixup17$w") (.lit 0)
      (.ld2 "tree_nodes" (.var "_rb_delete_fixup17$x_parent") (.lit 0))) s = s3 at m3 e3 o3
    obtain ⟨m4, e4, _, _⟩ := stColE_move fuel n s3 "_rb_delete_fixup17$x_parent" (.lit 1) 1 false (IE.ok_lit _ _) (IE.eval_lit _ _)
      (by decide) colV_one m3.holds rest _ p _ rfl rfl ((congrFun e3 _).trans exp)
    generalize hs4 : exec fuel (.stI2 "tree_nodes" (.var "_rb_delete_fixup17$x_parent") (.lit 0) (.lit 1)) s3 = s4 at m4 e4
    obtain ⟨_, _, _, _, hlw4⟩ := m4.holds.pos.sibling
    obtain ⟨s5, h5, m5, _, a5⟩ := (m3.trans m4).exec_ld fuel "_rb_delete_fixup17$w_left" "_rb_delete_fixup17$w" 1 (by decide) w
      hlw.1 ((congrFun (e4.trans e3) _).trans ew) (by simp)
    obtain ⟨m6, e6, _, _⟩ := stColE_move fuel n s5 "_rb_delete_fixup17$w_left" (.lit 1) 1 false (IE.ok_lit _ _) (IE.eval_lit _ _)
      (by decide) colV_one m5.holds (.L w near :: .L p (.node xl x xr) :: rest) fl f fr rfl rfl
      (by rw [a5, setS_same]; exact hlw4.2.1)
    generalize hs6 : exec fuel (.stI2 "tree_nodes" (.var "_rb_delete_fixup17$w_left") (.lit 0) (.lit 1)) s5 = s6 at m6 e6
    have m56 := m5.trans m6
    obtain ⟨m7, _, _⟩ := rotCall_move .R dren33 (rotRen_inj _ _ _) "_rb_delete_fixup17$x_parent" (by decide) fuel n s6 _
      m56.nilMax m6.holds rest (.node xl x xr) p near w (.node fl f fr) rfl rfl rfl
      ((congrFun e6 _).trans (by rw [a5, setS_other _ _ _ _ (by simp)]; exact (congrFun (e4.trans e3) _).trans exp))
    generalize hs7 : exec fuel (rotCall (pickD .R Gen.IL.vsLeftRotate.body Gen.IL.vsRightRotate.body) dren33 (pickD .R "x" "y")
      "_rb_delete_fixup17$root" "_rb_delete_fixup17$x_parent") s6 = s7 at m7
    obtain ⟨s8, h8, m8, _, a8⟩ := (m56.trans m7).exec_setI fuel "_rb_delete_fixup17$x"
      (.var "_rb_delete_fixup17$root") (IE.ok_var _ _) (by simp)
    have hr : r = s8 :=
      (exec_seq_eq _ _ _ _ _ hs3 m3.holds.run).trans ((exec_seq_eq _ _ _ _ _ hs4 m4.holds.run).trans
        ((exec_seq_eq _ _ _ _ _ h5 m5.holds.run).trans ((exec_seq_eq _ _ _ _ _ hs6 m6.holds.run).trans
        ((exec_rotCallK _ _ _ _ _ _ _ _).trans ((exec_seq_eq _ _ _ _ _ hs7 m7.holds.run).trans h8)))))
    rw [hr]
    exact ⟨m8, by rw [a8, setS_same, IE.eval_var]; exact m7.holds.root⟩

end XrsVerif.ILVs
