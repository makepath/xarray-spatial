import XrsVerif.Proofs.ILangFocal
import XrsVerif.Proofs.ILFocal
import XrsVerif.Proofs.Focal
/-
  Proofs/ILApply.lean -- refinement (layer T3), part 1: the gather block of `_apply_numpy`.

  The seven generated programs `Gen.IL.applyMean` … `Gen.IL.applyVar` (xrspatial/focal.py `_apply_numpy` specialised to
  each `_calc_*` reducer) have the same body up to the inlined reducer: `applyBody red rv` (`apply*_body`, by `rfl`).
  This file is about the part in front of the reducer: for output cell `(y, x)`, after `kernel_values.fill(np.nan)` and
  the two gather loops, `kernel_values` is -- for **every** raster and every kernel of odd shape -- the row-major list
  of the model's gather buffer `applyGather … nanArr y x` (Model/Focal.lean: the same two loops as folds over `Arr`),
  i.e. `data[y - krows/2 + a, x - kcols/2 + b]` where `kernel[a, b] == 1` and that cell is inside the raster, NaN
  elsewhere (`applyGather_eq` of Proofs/Focal.lean).  One proof for the seven programs: the two loops simulate the
  model's two folds, the flat buffer and the model's `Arr` buffer related by `BufRel` (`gather_kx`, `gather_ky`), and a
  flat buffer that holds `applyGather … nanArr y x` is the flattened `specWindow` (`BufRel.gathered`).
-/
namespace XrsVerif.Focal
open XrsVerif XrsVerif.IL XrsVerif.ILVs XrsVerif.IL.Fc XrsVerif.Gen.Focal
set_option linter.unusedSectionVars false
variable {F : Type} [Fl F]

def stGatherStep : St :=
  .ite (.and (.cmpI .ge (.var "ky") (.lit 0)) (.and (.cmpI .lt (.var "ky") (.var "rows")) (.and (.cmpI .ge (.var "kx") (.lit 0)) (.cmpI .lt (.var "kx") (.var "cols")))))
    (.seq (.setI "kyidx" (.bin .sub (.var "ky") (.bin .sub (.var "y") (.var "hrows"))))
    (.seq (.setI "kxidx" (.bin .sub (.var "kx") (.bin .sub (.var "x") (.var "hcols"))))
    (.ite (.cmpF .eq (.ld2 "kernel" (.var "kyidx") (.var "kxidx")) (.ofInt (.lit 1)))
      (.stF2 "kernel_values" (.var "kyidx") (.var "kxidx") (.ld2 "data" (.var "ky") (.var "kx")))
      .skip)))
    .skip

def stGatherKx : St :=
  .forRange "kx" (.bin .sub (.var "x") (.var "hcols")) (.bin .add (.bin .add (.var "x") (.var "hcols")) (.lit 1)) (.lit 1)
    stGatherStep

def stGather : St :=
  .forRange "ky" (.bin .sub (.var "y") (.var "hrows")) (.bin .add (.bin .add (.var "y") (.var "hrows")) (.lit 1)) (.lit 1)
    stGatherKx

def stFill : St := .allocF "kernel_values" [(.dim "kernel_values" 0), (.dim "kernel_values" 1)] .nan

/-- the per-cell body: reset the buffer, gather, reduce (`red` leaves its result in the numeric variable `rv`), store -/
def stCellA (red : St) (rv : String) : St :=
  .seq stFill (.seq stGather (.seq red (.stF2 "out" (.var "y") (.var "x") (.var rv))))

def stRaster (red : St) (rv : String) : St :=
  .forRange "y" (.lit 0) (.var "rows") (.lit 1) (.forRange "x" (.lit 0) (.var "cols") (.lit 1) (stCellA red rv))

/-- `_apply_numpy` with the reducer `red` inlined -/
def applyBody (red : St) (rv : String) : St :=
  .seq (.allocF "out" [(.dim "data" 0), (.dim "data" 1)] (.lit 0 1))
  (.seq (.setI "rows" (.dim "data" 0))
  (.seq (.setI "cols" (.dim "data" 1))
  (.seq (.setI "krows" (.dim "kernel" 0))
  (.seq (.setI "kcols" (.dim "kernel" 1))
  (.seq (.setI "hrows" (.bin .tdiv (.var "krows") (.lit 2)))
  (.seq (.setI "hcols" (.bin .tdiv (.var "kcols") (.lit 2)))
  (.seq (.allocF "kernel_values" [(.dim "kernel" 0), (.dim "kernel" 1)] (.lit 0 1))
  (.seq (stRaster red rv)
  .ret))))))))

/-- an inlined one-line reducer `return np.<op>(array)` -/
def redOf (rv : String) (op : RedOp) : St := .scope (.seq (.setF rv (.red op "kernel_values")) .ret)

/-- `_calc_range`, with its two callees inlined -/
def redRange : St :=
  .scope (.seq (.scope (.seq (.setF "_calc_range1$_calc_min2$ret0" (.red .nanmin "kernel_values")) .ret))
    (.seq (.setF "_calc_range1$value_min" (.var "_calc_range1$_calc_min2$ret0"))
    (.seq (.scope (.seq (.setF "_calc_range1$_calc_max3$ret0" (.red .nanmax "kernel_values")) .ret))
    (.seq (.setF "_calc_range1$value_max" (.var "_calc_range1$_calc_max3$ret0"))
    (.seq (.setF "_calc_range1$ret0" (.bin .sub (.var "_calc_range1$value_max") (.var "_calc_range1$value_min")))
    .ret)))))

theorem applyMean_body : Gen.IL.applyMean.body = applyBody (redOf "_calc_mean1$ret0" .nanmean) "_calc_mean1$ret0" := rfl
theorem applySum_body : Gen.IL.applySum.body = applyBody (redOf "_calc_sum1$ret0" .nansum) "_calc_sum1$ret0" := rfl
theorem applyMin_body : Gen.IL.applyMin.body = applyBody (redOf "_calc_min1$ret0" .nanmin) "_calc_min1$ret0" := rfl
theorem applyMax_body : Gen.IL.applyMax.body = applyBody (redOf "_calc_max1$ret0" .nanmax) "_calc_max1$ret0" := rfl
theorem applyStd_body : Gen.IL.applyStd.body = applyBody (redOf "_calc_std1$ret0" .nanstd) "_calc_std1$ret0" := rfl
theorem applyVar_body : Gen.IL.applyVar.body = applyBody (redOf "_calc_var1$ret0" .nanvar) "_calc_var1$ret0" := rfl
theorem applyRange_body : Gen.IL.applyRange.body = applyBody redRange "_calc_range1$ret0" := rfl

/-- sizes, half widths, shapes and the two input arrays; `out` and `kernel_values` are allocated -/
structure AInv (data kernel : List F) (rows cols kr kc : Nat) (s : State F) : Prop where
  ctl : s.ctl = .run
  shd : s.shp "data" = [rows, cols]
  shk : s.shp "kernel" = [kr, kc]
  sho : s.shp "out" = [rows, cols]
  shv : s.shp "kernel_values" = [kr, kc]
  fad : s.fa "data" = data
  fak : s.fa "kernel" = kernel
  vrows : s.ienv "rows" = rows
  vcols : s.ienv "cols" = cols
  vhr : s.ienv "hrows" = ((kr / 2 : Nat) : Int)
  vhc : s.ienv "hcols" = ((kc / 2 : Nat) : Int)


/-- `kernel_values.fill(np.nan)` is translated as an allocation with the array's own shape, so a block that contains it
    "writes" that shape: its value after the block is asked for separately -/
theorem AInv.of_mods_shv {data kernel : List F} {rows cols kr kc : Nat} {iv fv bv ias fas shs : List String}
    {s r : State F} (h : AInv data kernel rows cols kr kc s) (hm : Mods iv fv bv ias fas shs s r) (hc : r.ctl = .run)
    (hshv : r.shp "kernel_values" = [kr, kc])
    (hw : (∀ v ∈ ["rows", "cols", "hrows", "hcols"], v ∉ iv) ∧ (∀ x ∈ ["data", "kernel"], x ∉ fas) ∧
      (∀ x ∈ ["data", "kernel", "out"], x ∉ shs)) : AInv data kernel rows cols kr kc r :=
  ⟨hc, (hm.shp _ (hw.2.2 _ (by simp))).trans h.shd, (hm.shp _ (hw.2.2 _ (by simp))).trans h.shk,
   (hm.shp _ (hw.2.2 _ (by simp))).trans h.sho, hshv,
   (hm.fa _ (hw.2.1 _ (by simp))).trans h.fad, (hm.fa _ (hw.2.1 _ (by simp))).trans h.fak,
   (hm.ienv _ (hw.1 _ (by simp))).trans h.vrows, (hm.ienv _ (hw.1 _ (by simp))).trans h.vcols,
   (hm.ienv _ (hw.1 _ (by simp))).trans h.vhr, (hm.ienv _ (hw.1 _ (by simp))).trans h.vhc⟩

theorem AInv.of_mods {data kernel : List F} {rows cols kr kc : Nat} {iv fv bv ias fas shs : List String}
    {s r : State F} (h : AInv data kernel rows cols kr kc s) (hm : Mods iv fv bv ias fas shs s r) (hc : r.ctl = .run)
    (hw : (∀ v ∈ ["rows", "cols", "hrows", "hcols"], v ∉ iv) ∧ (∀ x ∈ ["data", "kernel"], x ∉ fas) ∧
      (∀ x ∈ ["kernel_values", "data", "kernel", "out"], x ∉ shs)) : AInv data kernel rows cols kr kc r :=
  h.of_mods_shv hm hc ((hm.shp _ (hw.2.2 _ List.mem_cons_self)).trans h.shv)
    ⟨hw.1, hw.2.1, fun x hx => hw.2.2 x (List.mem_cons_of_mem _ hx)⟩

theorem AInv.in_kx {data kernel : List F} {rows cols kr kc : Nat} {s st : State F} {y x ky : Int}
    (hI : AInv data kernel rows cols kr kc s) (hM : LoopMods "kx" stGatherStep s st) (hc : st.ctl = .run)
    (vy : s.ienv "y" = y) (vx : s.ienv "x" = x) (vky : s.ienv "ky" = ky) :
    AInv data kernel rows cols kr kc st ∧ st.ienv "y" = y ∧ st.ienv "x" = x ∧ st.ienv "ky" = ky :=
  ⟨hI.of_mods hM hc (by decide), (hM.ienv _ (by decide)).trans vy, (hM.ienv _ (by decide)).trans vx,
    (hM.ienv _ (by decide)).trans vky⟩

theorem AInv.in_ky {data kernel : List F} {rows cols kr kc : Nat} {s st : State F} {y x : Int}
    (hI : AInv data kernel rows cols kr kc s) (hM : LoopMods "ky" stGatherKx s st) (hc : st.ctl = .run)
    (vy : s.ienv "y" = y) (vx : s.ienv "x" = x) :
    AInv data kernel rows cols kr kc st ∧ st.ienv "y" = y ∧ st.ienv "x" = x :=
  ⟨hI.of_mods hM hc (by decide), (hM.ienv _ (by decide)).trans vy, (hM.ienv _ (by decide)).trans vx⟩

theorem kidx_bounds {kr : Nat} (hkr : kr % 2 = 1) {y k : Int} (h0 : y - ((kr / 2 : Nat) : Int) ≤ k)
    (h1 : k < y + ((kr / 2 : Nat) : Int) + 1) :
    0 ≤ k - (y - ((kr / 2 : Nat) : Int)) ∧ k - (y - ((kr / 2 : Nat) : Int)) < kr := by omega

/-- what one iteration of the innermost loop does to the flat buffer -/
def gStepL (D K : Arr F) (rows cols kr kc : Nat) (y x ky kx : Int) (l : List F) : List F :=
  if 0 ≤ ky ∧ ky < rows ∧ 0 ≤ kx ∧ kx < cols then
    if Fl.eq (K (ky - (y - ((kr / 2 : Nat) : Int))) (kx - (x - ((kc / 2 : Nat) : Int)))) (Fl.lit 1 1) = true then
      l.set ((ky - (y - ((kr / 2 : Nat) : Int))).toNat * kc + (kx - (x - ((kc / 2 : Nat) : Int))).toNat) (D ky kx)
    else l
  else l


def stGatherStore : St :=
  .ite (.cmpF .eq (.ld2 "kernel" (.var "kyidx") (.var "kxidx")) (.ofInt (.lit 1)))
    (.stF2 "kernel_values" (.var "kyidx") (.var "kxidx") (.ld2 "data" (.var "ky") (.var "kx"))) .skip

theorem gather_step_pre (data kernel : List F) (rows cols kr kc : Nat) (fuel : Nat) (s : State F) (y x ky kx : Int)
    (hI : AInv data kernel rows cols kr kc s) (vy : s.ienv "y" = y) (vx : s.ienv "x" = x) (vky : s.ienv "ky" = ky)
    (vkx : s.ienv "kx" = kx) :
    exec fuel stGatherStep s =
      if 0 ≤ ky ∧ ky < rows ∧ 0 ≤ kx ∧ kx < cols then
        exec fuel stGatherStore
          { s with ienv := setS (setS s.ienv "kyidx" (ky - (y - ((kr / 2 : Nat) : Int))))
                     "kxidx" (kx - (x - ((kc / 2 : Nat) : Int))) }
      else s := by
  have hs := hI.ctl
  have vhr := hI.vhr
  have vhc := hI.vhc
  generalize ((kr / 2 : Nat) : Int) = hr' at *
  generalize ((kc / 2 : Nat) : Int) = hc' at *
  have hcok : BE.ok s
      (.and (.cmpI .ge (.var "ky") (.lit 0)) (.and (.cmpI .lt (.var "ky") (.var "rows")) (.and (.cmpI .ge (.var "kx") (.lit 0)) (.cmpI .lt (.var "kx") (.var "cols"))))) = true := by
    simp [BE.ok, IE.ok]
  have hcev : BE.eval s
      (.and (.cmpI .ge (.var "ky") (.lit 0)) (.and (.cmpI .lt (.var "ky") (.var "rows")) (.and (.cmpI .ge (.var "kx") (.lit 0)) (.cmpI .lt (.var "kx") (.var "cols"))))) =
      decide (0 ≤ ky ∧ ky < rows ∧ 0 ≤ kx ∧ kx < cols) := by
    simp [BE.eval, IE.eval, cmpInt, vky, vkx, hI.vrows, hI.vcols]
  by_cases hin : 0 ≤ ky ∧ ky < rows ∧ 0 ≤ kx ∧ kx < cols
  · rw [if_pos hin]
    simp only [stGatherStep]
    rw [exec_ite_true fuel _ _ _ _ hcok (by rw [hcev]; simp [hin])]
    rw [exec_seq_eq fuel _ _ _ { s with ienv := setS s.ienv "kyidx" (ky - (y - hr')) }
      (by simp [il, vy, vky, vhr]) hs]
    rw [exec_seq_eq fuel _ _ _ { s with ienv := setS (setS s.ienv "kyidx" (ky - (y - hr'))) "kxidx" (kx - (x - hc')) }
      (by simp [il, setS, vx, vkx, vhc]) hs]
    rfl
  · rw [if_neg hin]
    simp only [stGatherStep]
    rw [exec_ite_false fuel _ _ _ _ hcok (by rw [hcev]; simp [hin]), exec_skip]

theorem gather_step (data kernel : List F) (rows cols kr kc : Nat) (fuel : Nat) (s : State F) (y x ky kx : Int)
    (hI : AInv data kernel rows cols kr kc s) (vy : s.ienv "y" = y) (vx : s.ienv "x" = x) (vky : s.ienv "ky" = ky)
    (vkx : s.ienv "kx" = kx)
    (ha0 : 0 ≤ ky - (y - ((kr / 2 : Nat) : Int))) (ha1 : ky - (y - ((kr / 2 : Nat) : Int)) < kr)
    (hb0 : 0 ≤ kx - (x - ((kc / 2 : Nat) : Int))) (hb1 : kx - (x - ((kc / 2 : Nat) : Int)) < kc) :
    let r := exec fuel stGatherStep s
    r.ctl = .run ∧
    r.fa "kernel_values" =
      gStepL (listArr data cols) (listArr kernel kc) rows cols kr kc y x ky kx (s.fa "kernel_values") := by
  intro r
  simp only [r, gather_step_pre data kernel rows cols kr kc fuel s y x ky kx hI vy vx vky vkx, gStepL]
  have hs := hI.ctl
  generalize ky - (y - ((kr / 2 : Nat) : Int)) = a at *
  generalize kx - (x - ((kc / 2 : Nat) : Int)) = b at *
  by_cases hin : 0 ≤ ky ∧ ky < rows ∧ 0 ≤ kx ∧ kx < cols
  · rw [if_pos hin, if_pos hin]
    have r1 : inRange a kr = true := inRange_of_nonneg_lt _ _ ha0 ha1
    have r2 : inRange b kc = true := inRange_of_nonneg_lt _ _ hb0 hb1
    have r3 : inRange ky rows = true := inRange_of_nonneg_lt _ _ hin.1 hin.2.1
    have r4 : inRange kx cols = true := inRange_of_nonneg_lt _ _ hin.2.2.1 hin.2.2.2
    have o1 : off2 [kr, kc] a b = a.toNat * kc + b.toNat := off2_nonneg _ _ _ _ ha0 hb0
    have o2 : off2 [rows, cols] ky kx = ky.toNat * cols + kx.toNat := off2_nonneg _ _ _ _ hin.1 hin.2.2.1
    have hkok : BE.ok { s with ienv := setS (setS s.ienv "kyidx" a) "kxidx" b }
        (.cmpF .eq (.ld2 "kernel" (.var "kyidx") (.var "kxidx")) (.ofInt (.lit 1))) = true := by
      simp [BE.ok, FE.ok, IE.ok, IE.eval, setS, hI.shk, r1, r2]
    have hkev : BE.eval { s with ienv := setS (setS s.ienv "kyidx" a) "kxidx" b }
        (.cmpF .eq (.ld2 "kernel" (.var "kyidx") (.var "kxidx")) (.ofInt (.lit 1))) =
        Fl.eq (listArr kernel kc a b) (Fl.lit 1 1) := by
      simp [BE.eval, FE.eval, IE.eval, CmpOp.eval, setS, hI.shk, hI.fak, o1, listArr]
    simp only [stGatherStore]
    by_cases hk : Fl.eq (listArr kernel kc a b) (Fl.lit 1 1) = true
    · rw [exec_ite_true fuel _ _ _ _ hkok (by rw [hkev]; exact hk), if_pos hk]
      simp [il, setS, hI.shv, hI.shd, hI.fad, vky, vkx, r1, r2, r3, r4, o1, o2, listArr, hs]
    · rw [exec_ite_false fuel _ _ _ _ hkok (by rw [hkev]; simpa using hk), if_neg hk, exec_skip]
      exact ⟨hs, rfl⟩
  · rw [if_neg hin, if_neg hin]
    exact ⟨hs, rfl⟩

/-- the flat `kr × kc` buffer `l` holds the entries of `b` -/
def BufRel (kr kc : Nat) (l : List F) (b : Arr F) : Prop :=
  l.length = kr * kc ∧ ∀ p q : Nat, p < kr → q < kc → l[p * kc + q]? = some (b (p : Int) (q : Int))

theorem BufRel.eq_map {kr kc : Nat} {l : List F} {b : Arr F} (h : BufRel kr kc l b) :
    l = (allCells kr kc).map fun p => b p.1 p.2 := by
  apply ext_rowMajor kr kc _ _ h.1 (by rw [List.length_map, allCells_length])
  intro p q hp hq
  rw [h.2 _ _ hp hq, List.getElem?_map, allCells_getElem? kr kc _ _ hp hq]
  rfl

theorem BufRel.replicate (kr kc : Nat) : BufRel kr kc (List.replicate (kr * kc) (Fl.nan : F)) nanArr := by
  refine ⟨by simp, ?_⟩
  intro p q hp hq
  simp [rowMajor_lt hp hq, nanArr]

theorem BufRel.set {kr kc : Nat} {l : List F} {b : Arr F} (h : BufRel kr kc l b) (a c : Int) (ha0 : 0 ≤ a)
    (hc0 : 0 ≤ c) (hc1 : c < kc) (v : F) : BufRel kr kc (l.set (a.toNat * kc + c.toNat) v) (b.set a c v) := by
  refine ⟨by rw [List.length_set]; exact h.1, fun p q hp hq => ?_⟩
  unfold Arr.set
  by_cases hpq : (p : Int) = a ∧ (q : Int) = c
  · rw [if_pos hpq, show a.toNat = p by omega, show c.toNat = q by omega,
      List.getElem?_set_self (by rw [h.1]; exact rowMajor_lt hp hq)]
  · rw [if_neg hpq, List.getElem?_set_ne, h.2 p q hp hq]
    intro e
    have := idx_inj a.toNat c.toNat p q kc (by omega) hq e
    exact hpq (by omega)

theorem apply_in_bounds_iff (rows cols kr kc : Nat) (y x ky kx : Int) :
    apply_in_bounds { applyVars rows cols kr kc y x with ky := ky, kx := kx } = true ↔
      0 ≤ ky ∧ ky < rows ∧ 0 ≤ kx ∧ kx < cols := by
  simp only [apply_in_bounds, Bool.and_eq_true]
  exact ⟨fun ⟨⟨⟨a1, a2⟩, a3⟩, a4⟩ =>
      ⟨of_decide_eq_true a1, of_decide_eq_true a2, of_decide_eq_true a3, of_decide_eq_true a4⟩,
    fun ⟨a1, a2, a3, a4⟩ => ⟨⟨⟨decide_eq_true a1, decide_eq_true a2⟩, decide_eq_true a3⟩, decide_eq_true a4⟩⟩

/-- the model's gather step with the generated index expressions spelled out: the shape of `gStepL` -/
theorem applyStep_set (D K : Arr F) (rows cols kr kc : Nat) (y x ky kx : Int) (b : Arr F) :
    applyStep D K { applyVars rows cols kr kc y x with ky := ky, kx := kx } b =
      if 0 ≤ ky ∧ ky < rows ∧ 0 ≤ kx ∧ kx < cols then
        if Fl.eq (K (ky - (y - ((kr / 2 : Nat) : Int))) (kx - (x - ((kc / 2 : Nat) : Int)))) (Fl.lit 1 1) = true then
          b.set (ky - (y - ((kr / 2 : Nat) : Int))) (kx - (x - ((kc / 2 : Nat) : Int))) (D ky kx)
        else b
      else b := by
  unfold applyStep
  by_cases hin : 0 ≤ ky ∧ ky < rows ∧ 0 ≤ kx ∧ kx < cols
  · rw [if_pos hin, if_pos ((apply_in_bounds_iff rows cols kr kc y x ky kx).mpr hin)]; rfl
  · rw [if_neg hin, if_neg (fun h => hin ((apply_in_bounds_iff rows cols kr kc y x ky kx).mp h))]

theorem BufRel.step {kr kc : Nat} {l : List F} {b : Arr F} (D K : Arr F) (rows cols : Nat) (y x ky kx : Int)
    (h : BufRel kr kc l b)
    (ha0 : 0 ≤ ky - (y - ((kr / 2 : Nat) : Int)))
    (hb0 : 0 ≤ kx - (x - ((kc / 2 : Nat) : Int))) (hb1 : kx - (x - ((kc / 2 : Nat) : Int)) < kc) :
    BufRel kr kc (gStepL D K rows cols kr kc y x ky kx l)
      (applyStep D K { applyVars rows cols kr kc y x with ky := ky, kx := kx } b) := by
  rw [applyStep_set, gStepL]
  split
  · split
    · exact h.set _ _ ha0 hb0 hb1 _
    · exact h
  · exact h

theorem gather_kx (data kernel : List F) (rows cols kr kc : Nat) (fuel : Nat) (s : State F) (y x ky : Int)
    (hI : AInv data kernel rows cols kr kc s) (vy : s.ienv "y" = y) (vx : s.ienv "x" = x) (vky : s.ienv "ky" = ky)
    (ha0 : 0 ≤ ky - (y - ((kr / 2 : Nat) : Int))) (ha1 : ky - (y - ((kr / 2 : Nat) : Int)) < kr)
    (hkc : kc % 2 = 1) (b : Arr F) (hR : BufRel kr kc (s.fa "kernel_values") b) :
    let r := exec fuel stGatherKx s
    r.ctl = .run ∧
    BufRel kr kc (r.fa "kernel_values")
      ((intRange (x - ((kc / 2 : Nat) : Int)) (x + ((kc / 2 : Nat) : Int) + 1)).foldl (fun b kx =>
        applyStep (listArr data cols) (listArr kernel kc) { applyVars rows cols kr kc y x with ky := ky, kx := kx } b) b) := by
  intro r
  obtain ⟨hc, hv⟩ := exec_forRange_sim fuel "kx" (.bin .sub (.var "x") (.var "hcols"))
    (.bin .add (.bin .add (.var "x") (.var "hcols")) (.lit 1)) stGatherStep s
    (fun st b => BufRel kr kc (st.fa "kernel_values") b)
    (fun b kx => applyStep (listArr data cols) (listArr kernel kc) { applyVars rows cols kr kc y x with ky := ky, kx := kx } b)
    hI.ctl rfl rfl (fun _ _ _ h => h)
    (fun st kx b h0 h1 hc hM vkx hRb => by
      simp only [IE.eval, IOp.eval, vx, hI.vhc] at h0 h1
      obtain ⟨hI', vy', vx', vky'⟩ := hI.in_kx hM hc vy vx vky
      obtain ⟨hb0, hb1⟩ := kidx_bounds hkc h0 h1
      obtain ⟨c1, c2⟩ := gather_step data kernel rows cols kr kc fuel st y x ky kx hI' vy' vx' vky' vkx ha0 ha1 hb0 hb1
      exact ⟨c1, c2 ▸ hRb.step _ _ rows cols y x ky kx ha0 hb0 hb1⟩)
    b hR
  simp only [IE.eval, IOp.eval, vx, hI.vhc] at hv
  exact ⟨hc, hv⟩

theorem gather_ky (data kernel : List F) (rows cols kr kc : Nat) (fuel : Nat) (s : State F) (y x : Int)
    (hI : AInv data kernel rows cols kr kc s) (vy : s.ienv "y" = y) (vx : s.ienv "x" = x)
    (hkr : kr % 2 = 1) (hkc : kc % 2 = 1) (b : Arr F) (hR : BufRel kr kc (s.fa "kernel_values") b) :
    let r := exec fuel stGather s
    r.ctl = .run ∧
    BufRel kr kc (r.fa "kernel_values") (applyGather (listArr data cols) (listArr kernel kc) rows cols kr kc b y x) := by
  intro r
  obtain ⟨hc, hv⟩ := exec_forRange_sim fuel "ky" (.bin .sub (.var "y") (.var "hrows"))
    (.bin .add (.bin .add (.var "y") (.var "hrows")) (.lit 1)) stGatherKx s
    (fun st b => BufRel kr kc (st.fa "kernel_values") b)
    (fun b ky => (intRange (x - ((kc / 2 : Nat) : Int)) (x + ((kc / 2 : Nat) : Int) + 1)).foldl (fun b kx =>
      applyStep (listArr data cols) (listArr kernel kc) { applyVars rows cols kr kc y x with ky := ky, kx := kx } b) b)
    hI.ctl rfl rfl (fun _ _ _ h => h)
    (fun st ky b h0 h1 hc hM vky hRb => by
      simp only [IE.eval, IOp.eval, vy, hI.vhr] at h0 h1
      obtain ⟨hI', vy', vx'⟩ := hI.in_ky hM hc vy vx
      exact gather_kx data kernel rows cols kr kc fuel st y x ky hI' vy' vx' vky (kidx_bounds hkr h0 h1).1
        (kidx_bounds hkr h0 h1).2 hkc b hRb)
    b hR
  simp only [IE.eval, IOp.eval, vy, hI.vhr] at hv
  exact ⟨hc, hv⟩

theorem BufRel.gathered {kr kc : Nat} {l : List F} (D K : Arr F) (rows cols : Nat) (y x : Int)
    (h : BufRel kr kc l (applyGather D K rows cols kr kc nanArr y x)) (hkr : kr % 2 = 1) (hkc : kc % 2 = 1) :
    l = (specWindow D K rows cols kr kc y x).flatten := by
  rw [h.eq_map, specWindow, flatten_windowOf]
  apply List.map_congr_left
  intro p hp
  obtain ⟨a, b, ha, hb, rfl⟩ := (mem_allCells _ _ _).mp hp
  exact applyGather_eq D K rows cols kr kc nanArr y x a b (by omega) (by omega) (by omega) (by omega)

end XrsVerif.Focal
