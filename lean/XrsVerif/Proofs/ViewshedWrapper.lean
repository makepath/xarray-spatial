import XrsVerif.Model.ViewshedWrapper
import Mathlib.Tactic.Ring
import Mathlib.Tactic.Linarith
import Mathlib.Tactic.FieldSimp
/-
  C05 -- lemmas about the wrapper glue (Model/ViewshedWrapper.lean): nearest coordinate, the equality lookup,
  the cell size of equally spaced coordinates, the key as a squared coordinate distance.
-/
namespace XrsVerif.ViewshedWrapper
open XrsVerif.Gen.Viewshed XrsVerif.ViewshedEvents

theorem wiringOk_holds : wiringOk = true := by decide +kernel

theorem dist_eq_abs (a b : Rat) : dist a b = |a - b| := by
  unfold dist
  split
  · rename_i h
    rw [abs_of_nonpos (by linarith)]; ring
  · rename_i h
    rw [abs_of_nonneg (by linarith)]

theorem nearest_isSome (v : Rat) : ∀ (l : List Rat), l ≠ [] → ∃ p, nearest v l = some p
  | [], h => absurd rfl h
  | c :: cs, _ => by
    unfold nearest
    cases nearest v cs with
    | none => exact ⟨_, rfl⟩
    | some p =>
      simp only
      split <;> exact ⟨_, rfl⟩

theorem nearest_spec (v : Rat) : ∀ (l : List Rat) (i : Nat) (b : Rat), nearest v l = some (i, b) →
    l[i]? = some b ∧ ∀ c ∈ l, dist b v ≤ dist c v
  | [], i, b, h => by simp [nearest] at h
  | c :: cs, i, b, h => by
    unfold nearest at h
    cases hr : nearest v cs with
    | none =>
      rw [hr] at h
      simp at h
      obtain ⟨rfl, rfl⟩ := h
      obtain rfl : cs = [] := by
        by_contra hne; obtain ⟨p, hp⟩ := nearest_isSome v cs hne; rw [hp] at hr; nomatch hr
      simp
    | some p =>
      obtain ⟨j, b'⟩ := p
      rw [hr] at h
      have ih := nearest_spec v cs j b' hr
      simp only at h
      split at h
      · rename_i hlt
        simp at h
        obtain ⟨rfl, rfl⟩ := h
        have hle : dist c v ≤ dist b' v := by
          rcases hlt with h1 | h1
          · exact le_of_lt h1
          · exact le_of_eq h1.1
        refine ⟨by simp, ?_⟩
        intro d hd
        rcases List.mem_cons.mp hd with rfl | hd
        · exact le_refl _
        · exact le_trans hle (ih.2 d hd)
      · rename_i hge
        simp at h
        obtain ⟨rfl, rfl⟩ := h
        refine ⟨by simpa using ih.1, ?_⟩
        intro d hd
        rcases List.mem_cons.mp hd with rfl | hd
        · exact not_lt.mp (fun hh => hge (Or.inl hh))
        · exact ih.2 d hd

/-- the equality lookup `np.where(coords == b)[0][0]` finds an index holding `b` -/
theorem findIdx_eq_spec (l : List Rat) (b : Rat) (hb : b ∈ l) :
    ∃ h : l.findIdx (fun c => c == b) < l.length, l[l.findIdx (fun c => c == b)] = b := by
  have hlt : l.findIdx (fun c => c == b) < l.length :=
    List.findIdx_lt_length_of_exists ⟨b, hb, by simp⟩
  exact ⟨hlt, by simpa using List.findIdx_getElem (w := hlt)⟩

/-- the observer's index along an axis is an index of a nearest coordinate (whatever the order of the coordinates) -/
theorem obsIndex_nearest (cs : List Rat) (v : Rat) (hne : cs ≠ []) :
    ∃ i, (nearest v cs).map (fun p => cs.findIdx (fun c => c == p.2)) = some i ∧ ∃ hi : i < cs.length,
      ∀ j (hj : j < cs.length), dist cs[i] v ≤ dist cs[j] v := by
  obtain ⟨⟨k, b⟩, hk⟩ := nearest_isSome v cs hne
  have hs := nearest_spec v cs k b hk
  have hb : b ∈ cs := List.mem_of_getElem? hs.1
  obtain ⟨hlt, e⟩ := findIdx_eq_spec cs b hb
  refine ⟨_, by simp [hk], hlt, ?_⟩
  intro j hj
  rw [e]
  exact hs.2 _ (List.getElem_mem hj)

theorem coordsAP_length (c0 d : Rat) (n : Nat) : (coordsAP c0 d n).length = n := by simp [coordsAP]

theorem coordsAP_getElem (c0 d : Rat) (n j : Nat) (hj : j < (coordsAP c0 d n).length) :
    (coordsAP c0 d n)[j] = c0 + (j : Rat) * d := by
  simp [coordsAP]

theorem coordsAP_head (c0 d : Rat) (n : Nat) (hn : 1 ≤ n) : (coordsAP c0 d n).head? = some c0 := by
  cases n with
  | zero => omega
  | succ m => simp [coordsAP, List.range_succ_eq_map]

theorem coordsAP_getLast (c0 d : Rat) (n : Nat) (hn : 1 ≤ n) :
    (coordsAP c0 d n).getLast? = some (c0 + ((n - 1 : Nat) : Rat) * d) := by
  cases n with
  | zero => omega
  | succ m => simp [coordsAP, List.range_succ]

theorem coordsAP_ne_nil (c0 d : Rat) (n : Nat) (hn : 1 ≤ n) : coordsAP c0 d n ≠ [] :=
  List.ne_nil_of_length_pos ((coordsAP_length c0 d n).symm ▸ hn)

/-- `(c[-1] - c[0]) / (n - 1)` of equally spaced coordinates is the (signed) step -/
theorem span_div (c0 d : Rat) (n : Nat) (hn : 2 ≤ n) :
    ((c0 + ((n - 1 : Nat) : Rat) * d) - c0) / ((n : Rat) - 1) = d := by
  have h1 : ((n - 1 : Nat) : Rat) = (n : Rat) - 1 := by
    have : 1 ≤ n := by omega
    push_cast [Nat.cast_sub this]
    ring
  have h2 : (n : Rat) - 1 ≠ 0 := by
    have : (2 : Rat) ≤ (n : Rat) := by exact_mod_cast hn
    intro h; linarith
  rw [h1]
  field_simp
  ring

/-- the key the kernels compute from the signed steps is the squared distance between the two cells' coordinates -/
theorem key_eq_coord_dist (x0 dx y0 dy : Rat) (vr vc row col : Int) :
    key dx dy vr vc row col =
      ((x0 + (col : Rat) * dx) - (x0 + (vc : Rat) * dx)) ^ 2 + ((y0 + (row : Rat) * dy) - (y0 + (vr : Rat) * dy)) ^ 2 := by
  unfold key
  push_cast
  ring

end XrsVerif.ViewshedWrapper
