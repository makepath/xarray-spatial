import XrsVerif.Model.Local
import XrsVerif.Proofs.ListFold
/-! helper lemmas for Props/C17.lean (core Lean only) -/
namespace XrsVerif.Local

theorem minOf_mem {xs : List Rat} (h : xs ≠ []) : minOf xs ∈ xs := by
  cases xs with
  | nil => contradiction
  | cons x xs => exact (foldl_min_cons x xs).1

theorem minOf_le {xs : List Rat} {x : Rat} (hx : x ∈ xs) : minOf xs ≤ x := by
  cases xs with
  | nil => cases hx
  | cons a xs => exact (foldl_min_cons a xs).2 x hx

theorem maxOf_mem {xs : List Rat} (h : xs ≠ []) : maxOf xs ∈ xs := by
  cases xs with
  | nil => contradiction
  | cons x xs => exact (foldl_max_cons x xs).1

theorem le_maxOf {xs : List Rat} {x : Rat} (hx : x ∈ xs) : x ≤ maxOf xs := by
  cases xs with
  | nil => cases hx
  | cons a xs => exact (foldl_max_cons a xs).2 x hx

theorem idxOf_first {xs : List Rat} {a : Rat} (ha : a ∈ xs) :
    ∃ h : xs.idxOf a < xs.length, xs[xs.idxOf a] = a ∧ ∀ j (hj : j < xs.idxOf a), xs[j]'(by omega) ≠ a := by
  have h : xs.idxOf a < xs.length := List.idxOf_lt_length_iff.mpr ha
  refine ⟨h, List.getElem_idxOf h, ?_⟩
  intro j hj
  have := List.not_of_lt_findIdx (p := (· == a)) (xs := xs) (i := j) (by simpa [List.idxOf] using hj)
  simpa using this

/-- the first position of an extremum `m`, for a minimum (`le`, `lt` are `≤`, `<`) and a maximum (`≥`, `>`) alike:
    every element is `le`-above the one found there, every earlier one strictly -/
theorem idxOf_extremum (le lt : Rat → Rat → Prop) (hlt : ∀ {a b}, le a b → a ≠ b → lt a b) {xs : List Rat} {m : Rat}
    (hm : m ∈ xs) (hle : ∀ x ∈ xs, le m x) :
    ∃ h : xs.idxOf m < xs.length, (∀ x ∈ xs, le xs[xs.idxOf m] x) ∧
      ∀ j (hj : j < xs.idxOf m), lt xs[xs.idxOf m] (xs[j]'(by omega)) := by
  obtain ⟨h, he, hfirst⟩ := idxOf_first hm
  exact ⟨h, by rw [he]; exact hle,
    fun j hj => by rw [he]; exact hlt (hle _ (List.getElem_mem _)) (hfirst j hj).symm⟩

theorem insertSorted_perm (a : Rat) (l : List Rat) : (insertSorted a l).Perm (a :: l) := by
  induction l with
  | nil => simp [insertSorted]
  | cons b t ih =>
    simp only [insertSorted]
    split
    · exact List.Perm.refl _
    · exact (List.Perm.cons b ih).trans (List.Perm.swap a b t)

theorem insertSorted_pairwise (a : Rat) {l : List Rat} (h : l.Pairwise (· ≤ ·)) :
    (insertSorted a l).Pairwise (· ≤ ·) := by
  induction l with
  | nil => simp [insertSorted]
  | cons b t ih =>
    rw [List.pairwise_cons] at h
    simp only [insertSorted]
    split
    · rename_i hab
      refine List.pairwise_cons.mpr ⟨?_, List.pairwise_cons.mpr h⟩
      intro x hx
      rcases List.mem_cons.mp hx with rfl | hx
      · exact hab
      · have := h.1 x hx; grind
    · rename_i hab
      refine List.pairwise_cons.mpr ⟨?_, ih h.2⟩
      intro x hx
      rcases List.mem_cons.mp ((insertSorted_perm a t).mem_iff.mp hx) with rfl | hx
      · grind
      · exact h.1 x hx

theorem sorted_perm (xs : List Rat) : (sorted xs).Perm xs := by
  induction xs with
  | nil => simp [sorted]
  | cons a t ih => exact (insertSorted_perm a _).trans (List.Perm.cons a ih)

theorem sorted_pairwise (xs : List Rat) : (sorted xs).Pairwise (· ≤ ·) := by
  induction xs with
  | nil => simp [sorted]
  | cons a t ih => exact insertSorted_pairwise a ih

theorem sorted_length (xs : List Rat) : (sorted xs).length = xs.length := (sorted_perm xs).length_eq

theorem pairwise_nth_counts {s : List Rat} (hs : s.Pairwise (· ≤ ·)) {k : Nat} (hk : k < s.length) :
    s.countP (fun x => decide (x < s[k])) ≤ k ∧ k < s.countP (fun x => decide (x ≤ s[k])) := by
  induction s generalizing k with
  | nil => simp at hk
  | cons a t ih =>
    rw [List.pairwise_cons] at hs
    cases k with
    | zero =>
      simp only [List.getElem_cons_zero, List.countP_cons, Rat.lt_irrefl, decide_false, Rat.le_refl,
        decide_true]
      have : t.countP (fun x => decide (x < a)) = 0 := by
        rw [List.countP_eq_zero]; intro x hx; have := hs.1 x hx; simp; grind
      simp [this]
    | succ k =>
      have hk' : k < t.length := by simpa using hk
      have ih' := ih hs.2 hk'
      have hak : a ≤ t[k] := hs.1 _ (List.getElem_mem hk')
      simp only [List.getElem_cons_succ, List.countP_cons]
      have h1 : (if decide (a ≤ t[k]) = true then 1 else 0) = 1 := by simp [hak]
      constructor
      · split <;> omega
      · rw [h1]; omega

theorem sorted_nth_counts (xs : List Rat) {k : Nat} (hk : k < (sorted xs).length) :
    xs.countP (fun x => decide (x < (sorted xs)[k])) ≤ k ∧ k < xs.countP (fun x => decide (x ≤ (sorted xs)[k])) := by
  rw [← (sorted_perm xs).countP_eq, ← (sorted_perm xs).countP_eq]
  exact pairwise_nth_counts (sorted_pairwise xs) hk

/-- order-statistic characterisation: a value with fewer than `r` elements strictly below it and at
    least `r` elements at or below it is unique -/
theorem order_stat_unique {xs : List Rat} {r : Nat} {v w : Rat}
    (hv1 : xs.countP (fun x => decide (x < v)) < r) (hv2 : r ≤ xs.countP (fun x => decide (x ≤ v)))
    (hw1 : xs.countP (fun x => decide (x < w)) < r) (hw2 : r ≤ xs.countP (fun x => decide (x ≤ w))) :
    v = w := by
  have mono : ∀ a b : Rat, a < b → xs.countP (fun x => decide (x ≤ a)) ≤ xs.countP (fun x => decide (x < b)) := by
    intro a b hab
    apply List.countP_mono_left
    intro x _ hx
    simp only [decide_eq_true_eq] at hx ⊢
    grind
  rcases Std.lt_trichotomy v w with h | h | h
  · have := mono v w h; omega
  · exact h
  · have := mono w v h; omega

theorem median_counts (xs : List Rat) (hne : xs ≠ []) :
    xs.length ≤ 2 * xs.countP (fun x => decide (x ≤ medianOf xs))
    ∧ xs.length ≤ 2 * xs.countP (fun x => decide (medianOf xs ≤ x)) := by
  have hp := sorted_perm xs
  have hs := sorted_pairwise xs
  have hl := sorted_length xs
  have hn : 0 < xs.length := List.length_pos_iff.mpr hne
  rw [← hp.countP_eq, ← hp.countP_eq, ← hl]
  generalize hS : sorted xs = s at *
  have hmed : medianOf xs = if s.length % 2 = 1 then s.getD (s.length / 2) 0
      else (s.getD (s.length / 2 - 1) 0 + s.getD (s.length / 2) 0) / 2 := by
    simp [medianOf, hS]
  have hcompl : ∀ m : Rat, s.length = s.countP (fun x => decide (m ≤ x)) + s.countP (fun x => decide (x < m)) := by
    intro m
    rw [List.length_eq_countP_add_countP (fun x => decide (m ≤ x)) (l := s)]
    congr 2
    funext x
    simp [Rat.not_le]
  by_cases hodd : s.length % 2 = 1
  · have hk : s.length / 2 < s.length := by omega
    have hm : medianOf xs = s[s.length / 2] := by
      rw [hmed, if_pos hodd]; simp [List.getD_eq_getElem?_getD, hk]
    have c := pairwise_nth_counts hs hk
    rw [hm]
    have := hcompl s[s.length / 2]
    omega
  · have hk1 : s.length / 2 - 1 < s.length := by omega
    have hk2 : s.length / 2 < s.length := by omega
    have hm : medianOf xs = (s[s.length / 2 - 1] + s[s.length / 2]) / 2 := by
      rw [hmed, if_neg hodd]; simp [List.getD_eq_getElem?_getD, hk1, hk2]
    have hab : s[s.length / 2 - 1] ≤ s[s.length / 2] := by
      have := List.pairwise_iff_getElem.mp hs (s.length / 2 - 1) (s.length / 2) hk1 hk2 (by omega)
      exact this
    have c1 := pairwise_nth_counts hs hk1
    have c2 := pairwise_nth_counts hs hk2
    have hlo : s[s.length / 2 - 1] ≤ medianOf xs := by rw [hm]; grind
    have hhi : medianOf xs ≤ s[s.length / 2] := by rw [hm]; grind
    have m1 : s.countP (fun x => decide (x ≤ s[s.length / 2 - 1])) ≤ s.countP (fun x => decide (x ≤ medianOf xs)) := by
      apply List.countP_mono_left; intro x _ hx; simp only [decide_eq_true_eq] at hx ⊢; grind
    have m2 : s.countP (fun x => decide (x < medianOf xs)) ≤ s.countP (fun x => decide (x < s[s.length / 2])) := by
      apply List.countP_mono_left; intro x _ hx; simp only [decide_eq_true_eq] at hx ⊢; grind
    have := hcompl (medianOf xs)
    omega
section Dedup
variable {α : Type} [BEq α] [LawfulBEq α]

theorem mem_dedup {l : List α} {a : α} : a ∈ dedup l ↔ a ∈ l := by
  induction l with
  | nil => simp [dedup]
  | cons x xs ih => simp only [dedup, List.mem_cons, List.mem_filter, ih]; grind

theorem nodup_dedup (l : List α) : (dedup l).Nodup := by
  induction l with
  | nil => simp [dedup]
  | cons x xs ih =>
    simp only [dedup, List.nodup_cons, List.mem_filter]
    exact ⟨by simp, ih.filter _⟩

theorem dedup_append (l₁ l₂ : List α) :
    dedup (l₁ ++ l₂) = dedup l₁ ++ (dedup l₂).filter (fun x => decide (x ∉ l₁)) := by
  induction l₁ with
  | nil =>
    have : (dedup l₂).filter (fun _ => true) = dedup l₂ := List.filter_eq_self.mpr (by simp)
    simp [dedup, this]
  | cons x xs ih =>
    simp only [List.cons_append, dedup, ih, List.filter_append, List.filter_filter, List.cons.injEq, true_and]
    congr 1
    apply List.filter_congr
    intro y _
    by_cases h1 : y = x <;> by_cases h2 : y ∈ xs <;> simp [h1, h2]

theorem dedup_snoc (l : List α) (a : α) : dedup (l ++ [a]) = dedup l ++ if a ∈ l then [] else [a] := by
  rw [dedup_append]
  by_cases h : a ∈ l <;> simp [dedup, h]

theorem not_mem_take_idxOf (l : List α) (a : α) : a ∉ l.take (l.idxOf a) := by
  intro hmem
  obtain ⟨j, hj, hje⟩ := List.getElem_of_mem hmem
  rw [List.length_take] at hj
  have hj' : j < l.idxOf a := by omega
  have := List.not_of_lt_findIdx (p := (· == a)) (xs := l) (i := j) (by simpa [List.idxOf] using hj')
  rw [List.getElem_take] at hje
  simp [hje] at this

theorem idxOf_dedup {l : List α} {a : α} (ha : a ∈ l) :
    (dedup l).idxOf a = (dedup (l.take (l.idxOf a))).length := by
  have hk : l.idxOf a < l.length := List.idxOf_lt_length_iff.mpr ha
  have hnot := not_mem_take_idxOf l a
  -- split `l` at the first occurrence of `a`
  conv => lhs; rw [← List.take_append_drop (l.idxOf a) l, List.drop_eq_getElem_cons hk, List.getElem_idxOf hk]
  rw [dedup_append, List.idxOf_append, if_neg fun h => hnot (mem_dedup.mp h)]
  simp [dedup, hnot]

theorem idxOf_dedup_mono {l : List α} {a b : α} (ha : a ∈ l) (hb : b ∈ l)
    (h : l.idxOf a < l.idxOf b) : (dedup l).idxOf a < (dedup l).idxOf b := by
  rw [idxOf_dedup ha, idxOf_dedup hb]
  have hk : l.idxOf a < l.length := List.idxOf_lt_length_iff.mpr ha
  obtain ⟨d, hd⟩ : ∃ d, l.idxOf b = l.idxOf a + (d + 1) := ⟨l.idxOf b - l.idxOf a - 1, by omega⟩
  rw [hd, List.take_add, List.drop_eq_getElem_cons hk, List.getElem_idxOf hk, List.take_succ_cons,
    dedup_append, List.length_append]
  have hnot := not_mem_take_idxOf l a
  simp only [dedup, List.filter_cons, hnot, not_false_eq_true, decide_true, ite_true, List.length_cons]
  omega

theorem idxOf_inj_of_mem {l : List α} {a b : α} (ha : a ∈ l) (h : l.idxOf a = l.idxOf b) : a = b := by
  have hk : l.idxOf a < l.length := List.idxOf_lt_length_iff.mpr ha
  have hk' : l.idxOf b < l.length := by omega
  have e1 := List.getElem_idxOf hk
  have e2 := List.getElem_idxOf hk'
  rw [← e1, ← e2]; simp [h]

/-- **first-occurrence order**: `dedup` lists the distinct elements in the order in which they first
    appear -/
theorem idxOf_dedup_lt_iff {l : List α} {a b : α} (ha : a ∈ l) (hb : b ∈ l) :
    (dedup l).idxOf a < (dedup l).idxOf b ↔ l.idxOf a < l.idxOf b := by
  constructor
  · intro h
    rcases Nat.lt_trichotomy (l.idxOf a) (l.idxOf b) with h1 | h1 | h1
    · exact h1
    · obtain rfl := idxOf_inj_of_mem ha h1
      omega
    · have := idxOf_dedup_mono hb ha h1; omega
  · exact idxOf_dedup_mono ha hb

theorem lookup_zipIdx (K : List α) (n : Nat) (t : α) :
    (K.zipIdx n).lookup t = if t ∈ K then some (K.idxOf t + n) else none := by
  induction K generalizing n with
  | nil => simp
  | cons x xs ih =>
    simp only [List.zipIdx_cons, List.lookup_cons, List.mem_cons, List.idxOf_cons]
    by_cases h : t = x
    · subst h; simp
    · have h1 : (t == x) = false := by simpa using h
      have h2 : (x == t) = false := by simpa using (Ne.symm h)
      simp only [h1, h2, ih, cond_false]
      by_cases hm : t ∈ xs <;> simp [hm, h, Nat.add_assoc, Nat.add_comm 1 n]
end Dedup

def specId (K : List (List Rat)) (c : List V) : Option Nat :=
  if anyNaN c then none else some (K.idxOf (vals c) + 1)

theorem tuples_snoc (cells : List (List V)) (c : List V) :
    tuples (cells ++ [c]) = tuples cells ++ if anyNaN c then [] else [vals c] := by
  unfold tuples
  by_cases h : anyNaN c = true <;> simp [List.filter_append, h]

theorem vals_mem_tuples {cells : List (List V)} {c : List V} (hc : c ∈ cells) (h : anyNaN c = false) :
    vals c ∈ tuples cells :=
  List.mem_map.mpr ⟨c, List.mem_filter.mpr ⟨hc, by simp [h]⟩, rfl⟩

/-- an id once given stays when the dictionary grows at its end -/
theorem specId_append {K : List (List Rat)} {c : List V} (h : anyNaN c = false → vals c ∈ K) (K2 : List (List Rat)) :
    specId (K ++ K2) c = specId K c := by
  unfold specId
  cases hn : anyNaN c with
  | true => rfl
  | false => simp [List.idxOf_append, h hn]

/-- the loop invariant, over the cells done: the dictionary numbers their distinct NaN-free tuples from 1 in order of
    first occurrence, `next` is the next free number, and every id written is the one that dictionary gives -/
theorem combineRun_spec (cells : List (List V)) :
    (combineRun cells).dict = (dedup (tuples cells)).zipIdx 1
    ∧ (combineRun cells).next = (dedup (tuples cells)).length + 1
    ∧ (combineRun cells).out = cells.map (specId (dedup (tuples cells))) := by
  refine foldl_snoc_inv combineStep (fun done st => st.dict = (dedup (tuples done)).zipIdx 1
    ∧ st.next = (dedup (tuples done)).length + 1 ∧ st.out = done.map (specId (dedup (tuples done)))) cells ?_
    ⟨rfl, rfl, rfl⟩
  rintro done c st - ⟨hd, hn, ho⟩
  have hold : ∀ K2, done.map (specId (dedup (tuples done) ++ K2)) = done.map (specId (dedup (tuples done))) :=
    fun K2 => List.map_congr_left fun c' hc' => specId_append (fun h => mem_dedup.mpr (vals_mem_tuples hc' h)) K2
  rw [tuples_snoc, List.map_append]
  cases hnan : anyNaN c with
  | true => simp [combineStep, hnan, hd, hn, ho, specId]
  | false =>
    rw [if_neg (by simp), dedup_snoc]
    by_cases hmem : vals c ∈ tuples done
    · -- known tuple: the dictionary is untouched
      have hl : st.dict.lookup (vals c) = some ((dedup (tuples done)).idxOf (vals c) + 1) := by
        rw [hd, lookup_zipIdx, if_pos (mem_dedup.mpr hmem)]
      have hstep : combineStep st c =
          { st with out := st.out ++ [some ((dedup (tuples done)).idxOf (vals c) + 1)] } := by
        simp [combineStep, hnan, hl]
      rw [hstep]
      simp [hmem, hd, hn, ho, specId, hnan]
    · -- new tuple: appended with the next id
      have hK : vals c ∉ dedup (tuples done) := fun h => hmem (mem_dedup.mp h)
      have hl : st.dict.lookup (vals c) = none := by rw [hd, lookup_zipIdx, if_neg hK]
      have hstep : combineStep st c =
          { dict := st.dict ++ [(vals c, st.next)], next := st.next + 1, out := st.out ++ [some st.next] } := by
        simp [combineStep, hnan, hl]
      rw [hstep]
      simp [hmem, hd, hn, ho, hold, specId, hnan, List.zipIdx_append, List.idxOf_append, hK, Nat.add_comm]

theorem anyNaN_iff_mem {c : List V} : anyNaN c = true ↔ none ∈ c := by
  simp only [anyNaN, List.any_eq_true]
  constructor
  · rintro ⟨x, hx, h⟩; cases x <;> simp_all
  · intro h; exact ⟨none, h, rfl⟩

theorem anyNaN_eq_false {c : List V} (h : none ∉ c) : anyNaN c = false :=
  Bool.eq_false_iff.mpr fun hc => h (anyNaN_iff_mem.mp hc)

@[simp] theorem anyNaN_map_some (xs : List Rat) : anyNaN (xs.map some) = false := by
  simp [anyNaN]

@[simp] theorem vals_map_some (xs : List Rat) : vals (xs.map some) = xs := by
  simp [vals, List.filterMap_map]

theorem eq_map_some_of_noNaN {c : List V} (h : anyNaN c = false) : c = (vals c).map some := by
  induction c with
  | nil => simp [vals]
  | cons x xs ih =>
    cases x with
    | none => simp [anyNaN] at h
    | some q =>
      have h' : anyNaN xs = false := by simpa [anyNaN] using h
      have := ih h'
      simp only [vals, List.filterMap_cons, id_eq, List.map_cons, List.cons.injEq, true_and] at this ⊢
      exact this

theorem vals_length_of_noNaN {c : List V} (h : anyNaN c = false) : (vals c).length = c.length := by
  conv => rhs; rw [eq_map_some_of_noNaN h]
  simp

theorem lookup_swap_zipIdx {α : Type} (K : List α) (n i : Nat) :
    ((K.zipIdx n).map (fun p => (p.2, p.1))).lookup (i + n) = K[i]? := by
  induction K generalizing n i with
  | nil => simp
  | cons x xs ih =>
    simp only [List.zipIdx_cons, List.map_cons, List.lookup_cons]
    cases i with
    | zero => simp
    | succ i =>
      have h : (i + 1 + n == n) = false := by simp
      rw [h]
      have := ih (n + 1) i
      simpa [Nat.add_assoc, Nat.add_comm 1 n] using this

end XrsVerif.Local
