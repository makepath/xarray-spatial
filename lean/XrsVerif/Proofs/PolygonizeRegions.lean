import XrsVerif.Proofs.Polygonize
import XrsVerif.Proofs.Regions
/-
  `_calculate_regions` computes the connected components (`regionId_spec`; C15, shared vocabulary with C16): the merge
  loop keeps the lookup a forest and adds exactly one pair to the equivalence its pointers generate (`mergeLoop_spec`),
  the labelling pass keeps ids and chains of links in step (`CInv`), the compaction renumbers the classes
  (`compact_KInv`).  Core Lean only.
-/
set_option linter.unusedVariables false
namespace XrsVerif.Polygonize
open XrsVerif.Regions (setL setL_same setL_ne)

inductive Cl (E : Nat → Nat → Prop) : Nat → Nat → Prop
  | base {u v : Nat} : E u v → Cl E u v
  | refl (u : Nat) : Cl E u u
  | symm {u v : Nat} : Cl E u v → Cl E v u
  | trans {u v w : Nat} : Cl E u v → Cl E v w → Cl E u w

theorem Cl.mono {E E' : Nat → Nat → Prop} (h : ∀ u v, E u v → Cl E' u v) {u v : Nat} (c : Cl E u v) :
    Cl E' u v := by
  induction c with
  | base e => exact h _ _ e
  | refl u => exact Cl.refl u
  | symm _ ih => exact Cl.symm ih
  | trans _ _ ih1 ih2 => exact Cl.trans ih1 ih2

/-- parent edges of a lookup table: `u` points to `g u ≠ 0` -/
def Par (g : Nat → Nat) (u v : Nat) : Prop := g u = v ∧ v ≠ 0

/-- the ids joined so far -/
def Eqv (g : Nat → Nat) : Nat → Nat → Prop := Cl (Par g)

def EqvPlus (g : Nat → Nat) (a b : Nat) : Nat → Nat → Prop := Cl (fun u v => Par g u v ∨ (u = a ∧ v = b))

def Forest (g : Nat → Nat) : Prop := ∀ u, g u ≠ 0 → g u < u

theorem eqvPlus_of_eqv {g : Nat → Nat} {a b u v : Nat} (h : Eqv g u v) : EqvPlus g a b u v :=
  Cl.mono (fun _ _ e => Cl.base (Or.inl e)) h

theorem minMax_fst (a b : Nat) : (minMax a b).1 = min a b := by unfold minMax; split <;> simp <;> omega
theorem minMax_snd (a b : Nat) : (minMax a b).2 = max a b := by unfold minMax; split <;> simp <;> omega

theorem Forest.set {lk : Lookup} (hF : Forest lk.get) {u v : Nat} (h : v < u) : Forest (lk.set u v).get := by
  intro a ha
  simp only [Lookup.set] at ha ⊢
  split
  · rename_i e; subst e; exact h
  · rename_i e; simp [e] at ha; exact hF a ha

theorem par_set {lk : Lookup} {u v a b : Nat} :
    Par (lk.set u v).get a b ↔ (a = u ∧ b = v ∧ v ≠ 0) ∨ (a ≠ u ∧ Par lk.get a b) := by
  unfold Par
  simp only [Lookup.set]
  by_cases h : a = u
  · simp only [h, if_true, true_and, ne_eq, not_true_eq_false, false_and, or_false]
    constructor
    · rintro ⟨rfl, h0⟩; exact ⟨rfl, h0⟩
    · rintro ⟨rfl, h0⟩; exact ⟨rfl, h0⟩
  · simp [h]

/-- re-linking `upper` from `prev` to the smaller of `lower`, `prev` and going on with that pair joins the same
    three ids `upper`, `lower`, `prev` as the old pointer and the pair `(lower, upper)` do: either way `upper` is
    joined to both of the others -/
theorem mergeLoop_spec : ∀ (fuel : Nat) (lk : Lookup) (lower upper : Nat),
    Forest lk.get → 0 < lower → lower < upper → upper < fuel →
    Forest (mergeLoop fuel lk lower upper).get ∧
    (∀ u v, Eqv (mergeLoop fuel lk lower upper).get u v ↔ EqvPlus lk.get lower upper u v) ∧
    (∀ w, upper < w → (mergeLoop fuel lk lower upper).get w = lk.get w) ∧
    (mergeLoop fuel lk lower upper).size = lk.size := by
  intro fuel
  induction fuel with
  | zero => intro lk lower upper _ _ _ h; omega
  | succ fuel ih =>
    intro lk lower upper hF hl hlu hfuel
    simp only [mergeLoop]
    by_cases hrep : lk.get upper ≠ 0 ∧ lk.get upper ≠ lower
    · rw [if_pos hrep, minMax_fst, minMax_snd]
      obtain ⟨hp0, hpl⟩ := hrep
      have hpu : lk.get upper < upper := hF upper hp0
      generalize hprev : lk.get upper = prev at *
      generalize hlo : min lower prev = lo
      generalize hpv : max lower prev = pv
      have hlopv : 0 < lo ∧ lo < pv ∧ pv < upper := by omega
      obtain ⟨hF', hE', hW', hS'⟩ :=
        ih (lk.set upper lo) lo pv (hF.set (by omega)) (by omega) (by omega) (by omega)
      refine ⟨hF', fun u v => ?_, fun w hw => ?_, by rw [hS']; rfl⟩
      · rw [hE']
        constructor
        · refine Cl.mono ?_
          have key : ∀ x, x = lower ∨ x = prev →
              Cl (fun u v => Par lk.get u v ∨ (u = lower ∧ v = upper)) upper x := by
            rintro x (rfl | rfl)
            · exact Cl.symm (Cl.base (Or.inr ⟨rfl, rfl⟩))
            · exact Cl.base (Or.inl ⟨hprev, hp0⟩)
          have hlo' : lo = lower ∨ lo = prev := by omega
          have hpv' : pv = lower ∨ pv = prev := by omega
          rintro a b (hab | ⟨rfl, rfl⟩)
          · rcases par_set.mp hab with ⟨rfl, rfl, _⟩ | ⟨_, hab⟩
            · exact key _ hlo'
            · exact Cl.base (Or.inl hab)
          · exact Cl.trans (Cl.symm (key _ hlo')) (key _ hpv')
        · refine Cl.mono ?_
          have g1 : Cl (fun u v => Par (lk.set upper lo).get u v ∨ (u = lo ∧ v = pv)) upper lo :=
            Cl.base (Or.inl (par_set.mpr (Or.inl ⟨rfl, rfl, by omega⟩)))
          have key : ∀ x, x = lo ∨ x = pv →
              Cl (fun u v => Par (lk.set upper lo).get u v ∨ (u = lo ∧ v = pv)) upper x := by
            rintro x (rfl | rfl)
            · exact g1
            · exact Cl.trans g1 (Cl.base (Or.inr ⟨rfl, rfl⟩))
          rintro a b (⟨hg, hb0⟩ | ⟨rfl, rfl⟩)
          · by_cases hau : a = upper
            · subst hau; rw [hprev] at hg; subst hg; exact key _ (by omega)
            · exact Cl.base (Or.inl (par_set.mpr (Or.inr ⟨hau, hg, hb0⟩)))
          · exact Cl.symm (key _ (by omega))
      · rw [hW' w (by omega)]
        simp [Lookup.set]; omega
    · rw [if_neg hrep]
      refine ⟨hF.set hlu, fun u v => ?_, fun w hw => ?_, rfl⟩
      · have hcase : lk.get upper = 0 ∨ lk.get upper = lower := by
          by_cases h0 : lk.get upper = 0
          · exact Or.inl h0
          · exact Or.inr (Classical.not_not.mp fun h1 => hrep ⟨h0, h1⟩)
        constructor
        · refine Cl.mono ?_
          intro a b hab
          rcases par_set.mp hab with ⟨rfl, rfl, _⟩ | ⟨_, hab⟩
          · exact Cl.symm (Cl.base (Or.inr ⟨rfl, rfl⟩))
          · exact Cl.base (Or.inl hab)
        · refine Cl.mono ?_
          rintro a b (⟨hg, hb0⟩ | ⟨rfl, rfl⟩)
          · by_cases hau : a = upper
            · subst hau
              rcases hcase with h0 | h1
              · rw [h0] at hg; exact absurd hg.symm hb0
              · rw [h1] at hg; subst hg
                exact Cl.base (par_set.mpr (Or.inl ⟨rfl, rfl, hb0⟩))
            · exact Cl.base (par_set.mpr (Or.inr ⟨hau, hg, hb0⟩))
          · exact Cl.symm (Cl.base (par_set.mpr (Or.inl ⟨rfl, rfl, by omega⟩)))
      · simp [Lookup.set]; omega

/-- `_merge_regions`: the resize changes no entry and makes room for `upper`, then the loop runs with enough fuel -/
theorem mergeRegions_spec {lk : Lookup} (hF : Forest lk.get) {lower upper : Nat} (hl : 0 < lower)
    (hlu : lower < upper) :
    Forest (mergeRegions lk lower upper).get ∧
    (∀ u v, Eqv (mergeRegions lk lower upper).get u v ↔ EqvPlus lk.get lower upper u v) ∧
    (∀ w, upper < w → (mergeRegions lk lower upper).get w = lk.get w) ∧
    lk.size ≤ (mergeRegions lk lower upper).size ∧ upper < (mergeRegions lk lower upper).size := by
  have hget : (lk.grow upper).get = lk.get := by unfold Lookup.grow; split <;> rfl
  have hsize : lk.size ≤ (lk.grow upper).size ∧ upper < (lk.grow upper).size := by
    unfold Lookup.grow; split <;> simp <;> omega
  obtain ⟨hF', hE', hW', hS'⟩ := mergeLoop_spec (upper + 1) (lk.grow upper) lower upper (hget ▸ hF) hl hlu
    (Nat.lt_succ_self _)
  rw [hget] at hE' hW'
  unfold mergeRegions
  rw [hS']
  exact ⟨hF', hE', hW', hsize⟩

def iter (g : Nat → Nat) : Nat → Nat → Nat
  | 0, u => u
  | n + 1, u => iter g n (g u)

theorem forest_le {g : Nat → Nat} (hF : Forest g) (w : Nat) : g w ≤ w := by
  by_cases h : g w = 0
  · omega
  · exact Nat.le_of_lt (hF w h)

theorem iter_le {g : Nat → Nat} (hF : Forest g) : ∀ n u, iter g n u ≤ u := by
  intro n
  induction n with
  | zero => intro u; simp [iter]
  | succ n ih => intro u; simp only [iter]; exact Nat.le_trans (ih (g u)) (forest_le hF u)

def Desc (g : Nat → Nat) (r u : Nat) : Prop := ∃ n, iter g n u = r

theorem desc_par {g : Nat → Nat} {r u v : Nat} (hr : g r = 0) (h : Par g u v) : Desc g r u ↔ Desc g r v := by
  obtain ⟨hg, hv⟩ := h
  constructor
  · intro ⟨n, hn⟩
    cases n with
    | zero => simp [iter] at hn; subst hn; rw [hr] at hg; exact absurd hg.symm hv
    | succ n => simp only [iter] at hn; rw [hg] at hn; exact ⟨n, hn⟩
  · intro ⟨n, hn⟩
    exact ⟨n + 1, by simp only [iter]; rw [hg]; exact hn⟩

theorem eqv_desc {g : Nat → Nat} {r u v : Nat} (hr : g r = 0) (h : Eqv g u v) : Desc g r u ↔ Desc g r v := by
  induction h with
  | base e => exact desc_par hr e
  | refl u => exact Iff.rfl
  | symm _ ih => exact ih.symm
  | trans _ _ ih1 ih2 => exact ih1.trans ih2

theorem root_le {g : Nat → Nat} (hF : Forest g) {k v : Nat} (hk : g k = 0) (h : Eqv g k v) : k ≤ v := by
  obtain ⟨n, hn⟩ := (eqv_desc hk h).mp ⟨0, rfl⟩
  rw [← hn]; exact iter_le hF n v

structure KInv (g : Nat → Nat) (k : Nat) (nl : Nat → Nat) (cnt : Nat) : Prop where
  lt : ∀ u, u < k → nl u < cnt
  zero : 0 < k → nl 0 = 0 ∧ 1 ≤ cnt
  start : k = 0 → cnt = 0
  pos : ∀ u, 1 ≤ u → u < k → 1 ≤ nl u
  iff : ∀ u v, u < k → v < k → (nl u = nl v ↔ Eqv g u v)

theorem compactStep_eq {lk : Lookup} (hZ : ∀ j, lk.size ≤ j → lk.get j = 0) (st : (Nat → Nat) × Nat) (k : Nat) :
    compactStep lk st k =
      if lk.get k = 0 then (setL st.1 k st.2, st.2 + 1) else (setL st.1 k (st.1 (lk.get k)), st.2) := by
  have htarget : (if k < lk.size then lk.get k else 0) = lk.get k := by
    split
    · rfl
    · rename_i hh; exact (hZ k (by omega)).symm
  simp only [compactStep, htarget]

theorem KInv.assign {g : Nat → Nat} {k : Nat} {nl : Nat → Nat} {cnt : Nat} (h : KInv g k nl cnt) {x cnt' : Nat}
    (hcnt : cnt ≤ cnt') (hx : x < cnt') (hz : k = 0 → x = 0) (hpos : 1 ≤ k → 1 ≤ x)
    (hiff : ∀ v, v < k → (x = nl v ↔ Eqv g k v)) : KInv g (k + 1) (setL nl k x) cnt' := by
  refine ⟨fun u hu => ?_, fun _ => ?_, fun hk => by omega, fun u hu1 hu => ?_, fun u v hu hv => ?_⟩
  · by_cases huk : u = k
    · rw [huk, setL_same]; exact hx
    · rw [setL_ne huk]; exact Nat.lt_of_lt_of_le (h.lt u (by omega)) hcnt
  · by_cases hk : k = 0
    · rw [hk, setL_same]; exact ⟨hz hk, by omega⟩
    · rw [setL_ne (Ne.symm hk)]; exact ⟨(h.zero (by omega)).1, by have := (h.zero (by omega)).2; omega⟩
  · by_cases huk : u = k
    · rw [huk, setL_same]; exact hpos (by omega)
    · rw [setL_ne huk]; exact h.pos u hu1 (by omega)
  · by_cases h1 : u = k <;> by_cases h2 : v = k
    · rw [h1, h2]; exact ⟨fun _ => Cl.refl _, fun _ => rfl⟩
    · rw [h1, setL_same, setL_ne h2]; exact hiff v (by omega)
    · rw [h2, setL_same, setL_ne h1, eq_comm, hiff u (by omega)]; exact ⟨Cl.symm, Cl.symm⟩
    · rw [setL_ne h1, setL_ne h2]; exact h.iff u v (by omega) (by omega)

theorem compactStep_KInv {lk : Lookup} (hF : Forest lk.get) (hZ : ∀ j, lk.size ≤ j → lk.get j = 0)
    {k : Nat} {st : (Nat → Nat) × Nat} (h : KInv lk.get k st.1 st.2) :
    KInv lk.get (k + 1) (compactStep lk st k).1 (compactStep lk st k).2 := by
  rw [compactStep_eq hZ]
  by_cases hk0 : lk.get k = 0
  · -- a root gets the next new id; it is the smallest id of its class, so no earlier id is equivalent
    rw [if_pos hk0]
    refine h.assign (Nat.le_succ _) (Nat.lt_succ_self _) h.start (fun hk => (h.zero hk).2) fun v hv => ?_
    exact ⟨fun e => absurd (h.lt v hv) (by omega), fun e => absurd (root_le hF hk0 e) (by omega)⟩
  · -- any other id gets the new id of its parent, an earlier member of its class
    rw [if_neg hk0]
    have ht : lk.get k < k := hF k hk0
    have hpar : Eqv lk.get k (lk.get k) := Cl.base ⟨rfl, hk0⟩
    refine h.assign (Nat.le_refl _) (h.lt _ ht) (fun hk => by omega) (fun _ => h.pos _ (by omega) ht) fun v hv => ?_
    rw [h.iff _ v ht hv]
    exact ⟨Cl.trans hpar, Cl.trans (Cl.symm hpar)⟩

theorem compact_KInv {lk : Lookup} (hF : Forest lk.get) (hZ : ∀ j, lk.size ≤ j → lk.get j = 0) (region : Nat) :
    KInv lk.get (region + 1) (compact lk region).1 (compact lk region).2 := by
  have h0 : KInv lk.get 0 (fun _ => 0) 0 :=
    ⟨by intro u hu; omega, by intro h; omega, fun _ => rfl, by intro u _ hu; omega, by intro u v hu; omega⟩
  exact foldl_range_inv (compactStep lk) (fun k st => KInv lk.get k st.1 st.2) (region + 1) h0
    fun k st _ h => compactStep_KInv hF hZ h

section pass
variable {V : Type} (nx : Nat) (conn8 : Bool) (close : V → V → Bool) (values : Nat → V) (mask : Nat → Bool)
variable (n : Nat)

/-- the earlier pixels adjacent to `ij`: W, S, and for connectivity 8 also SW, SE -/
def back (ij : Nat) : List Nat :=
  (if 0 < ij % nx then [ij - 1] else []) ++ (if nx ≤ ij then [ij - nx] else []) ++
  (if conn8 = true ∧ nx ≤ ij ∧ 0 < ij % nx then [ij - nx - 1] else []) ++
  (if conn8 = true ∧ nx ≤ ij ∧ ij % nx + 1 < nx then [ij - nx + 1] else [])

def Link (p q : Nat) : Prop :=
  p < n ∧ q ∈ back nx conn8 p ∧ mask p = true ∧ mask q = true ∧ close (values p) (values q) = true

theorem mem_back {p q : Nat} : q ∈ back nx conn8 p ↔
    (0 < p % nx ∧ q = p - 1) ∨ (nx ≤ p ∧ q = p - nx) ∨
    (conn8 = true ∧ nx ≤ p ∧ 0 < p % nx ∧ q = p - nx - 1) ∨
    (conn8 = true ∧ nx ≤ p ∧ p % nx + 1 < nx ∧ q = p - nx + 1) := by
  unfold back
  simp only [List.mem_append]
  constructor
  · intro h
    rcases h with ((h | h) | h) | h
    · split at h <;> simp at h; rename_i h1; exact Or.inl ⟨h1, h⟩
    · split at h <;> simp at h; rename_i h1; exact Or.inr (Or.inl ⟨h1, h⟩)
    · split at h <;> simp at h; rename_i h1; exact Or.inr (Or.inr (Or.inl ⟨h1.1, h1.2.1, h1.2.2, h⟩))
    · split at h <;> simp at h; rename_i h1; exact Or.inr (Or.inr (Or.inr ⟨h1.1, h1.2.1, h1.2.2, h⟩))
  · intro h
    rcases h with ⟨h1, h⟩ | ⟨h1, h⟩ | ⟨h1, h2, h3, h⟩ | ⟨h1, h2, h3, h⟩
    · left; left; left; simp [h1, h]
    · left; left; right; simp [h1, h]
    · left; right; simp [h1, h2, h3, h]
    · right; simp [h1, h2, h3, h]

theorem back_lt (hnx : 0 < nx) {p q : Nat} (h : q ∈ back nx conn8 p) : q < p := by
  rcases (mem_back nx conn8).mp h with ⟨h1, h⟩ | ⟨h1, h⟩ | ⟨_, h2, h3, h⟩ | ⟨_, h2, h3, h⟩
  · have : 0 < p := by
      by_cases hp : p = 0
      · subst hp; simp at h1
      · omega
    omega
  · omega
  · omega
  · omega

/-- `q` is the W, S, SW or SE neighbour of `p` (cells are (row, column)) -/
def Earlier (n8 : Bool) (p q : Nat × Nat) : Prop :=
  (q.1 = p.1 ∧ q.2 + 1 = p.2) ∨ (q.1 + 1 = p.1 ∧ q.2 = p.2) ∨
  (n8 = true ∧ q.1 + 1 = p.1 ∧ q.2 + 1 = p.2) ∨ (n8 = true ∧ q.1 + 1 = p.1 ∧ q.2 = p.2 + 1)

theorem back_iff_earlier {X Y X' Y' : Nat} (hX : X < nx) (hX' : X' < nx) :
    X' + Y' * nx ∈ back nx conn8 (X + Y * nx) ↔ Earlier conn8 (Y, X) (Y', X') := by
  have down : nx ≤ X + Y * nx → ∃ Y0, Y = Y0 + 1 := fun h => by
    cases Y with
    | zero => rw [Nat.zero_mul] at h; omega
    | succ Y0 => exact ⟨Y0, rfl⟩
  have inj : ∀ {a b : Nat}, a < nx → X' + Y' * nx = a + b * nx → Y' = b ∧ X' = a := fun ha e => by
    have h := xy_of X' Y' hX'
    rw [e, (xy_of _ _ ha).1, (xy_of _ _ ha).2] at h
    exact ⟨h.2.symm, h.1.symm⟩
  rw [mem_back, (xy_of X Y hX).1]
  unfold Earlier
  dsimp only
  constructor
  · rintro (⟨h1, e⟩ | ⟨h1, e⟩ | ⟨h8, h1, h2, e⟩ | ⟨h8, h1, h2, e⟩)
    · obtain ⟨rfl, rfl⟩ := inj (a := X - 1) (b := Y) (by omega) (by omega)
      exact .inl ⟨rfl, by omega⟩
    · obtain ⟨Y0, rfl⟩ := down h1
      rw [Nat.add_mul, Nat.one_mul] at e h1
      obtain ⟨rfl, rfl⟩ := inj (a := X) (b := Y0) hX (by omega)
      exact .inr (.inl ⟨rfl, rfl⟩)
    · obtain ⟨Y0, rfl⟩ := down h1
      rw [Nat.add_mul, Nat.one_mul] at e h1
      obtain ⟨rfl, rfl⟩ := inj (a := X - 1) (b := Y0) (by omega) (by omega)
      exact .inr (.inr (.inl ⟨h8, rfl, by omega⟩))
    · obtain ⟨Y0, rfl⟩ := down h1
      rw [Nat.add_mul, Nat.one_mul] at e h1
      obtain ⟨rfl, rfl⟩ := inj (a := X + 1) (b := Y0) (by omega) (by omega)
      exact .inr (.inr (.inr ⟨h8, rfl, rfl⟩))
  · rintro (⟨rfl, rfl⟩ | ⟨rfl, rfl⟩ | ⟨h8, rfl, rfl⟩ | ⟨h8, rfl, rfl⟩)
    · exact .inl ⟨by omega, by omega⟩
    · rw [Nat.add_mul, Nat.one_mul]; exact .inr (.inl ⟨by omega, by omega⟩)
    · rw [Nat.add_mul, Nat.one_mul]; exact .inr (.inr (.inl ⟨h8, by omega, by omega, by omega⟩))
    · rw [Nat.add_mul, Nat.one_mul]; exact .inr (.inr (.inr ⟨h8, by omega, by omega, by omega⟩))

theorem back_earlier (hnx : 0 < nx) {u v : Nat} (h : v ∈ back nx conn8 u) :
    Earlier conn8 (u / nx, u % nx) (v / nx, v % nx) :=
  (back_iff_earlier nx conn8 (Nat.mod_lt u hnx) (Nat.mod_lt v hnx)).mp (by rwa [Nat.mod_add_div', Nat.mod_add_div'])

theorem back_coords (hnx : 0 < nx) {p q : Nat} (h : q ∈ back nx conn8 p) :
    (((q % nx : Nat) : Int) = ((p % nx : Nat) : Int) - 1 ∧ ((q / nx : Nat) : Int) = ((p / nx : Nat) : Int)) ∨
    (((q % nx : Nat) : Int) = ((p % nx : Nat) : Int) ∧ ((q / nx : Nat) : Int) = ((p / nx : Nat) : Int) - 1) ∨
    (((q % nx : Nat) : Int) = ((p % nx : Nat) : Int) - 1 ∧ ((q / nx : Nat) : Int) = ((p / nx : Nat) : Int) - 1) ∨
    (((q % nx : Nat) : Int) = ((p % nx : Nat) : Int) + 1 ∧ ((q / nx : Nat) : Int) = ((p / nx : Nat) : Int) - 1) := by
  rcases back_earlier nx conn8 hnx h with ⟨e1, e2⟩ | ⟨e1, e2⟩ | ⟨_, e1, e2⟩ | ⟨_, e1, e2⟩ <;> simp only at e1 e2
  · exact .inl ⟨by omega, by omega⟩
  · exact .inr (.inl ⟨by omega, by omega⟩)
  · exact .inr (.inr (.inl ⟨by omega, by omega⟩))
  · exact .inr (.inr (.inr ⟨by omega, by omega⟩))

/-- Both probes compute `(m0 || use, if use then x else y)` where `use` contains `!m0`: a hit is the first
    candidate `y`, or the second candidate `x` with all its tests true. -/
theorem probe_hit_cases {m0 a d mk cl : Bool} (x y : Nat) (h : (m0 || (a && !m0 && d && mk && cl)) = true) :
    (m0 = true ∧ (if (a && !m0 && d && mk && cl) = true then x else y) = y) ∨
    ((a = true ∧ d = true ∧ mk = true ∧ cl = true) ∧
      (if (a && !m0 && d && mk && cl) = true then x else y) = x) := by
  cases m0 <;> simp_all

theorem probeW_hit (raw : Nat → Nat) (c : Nat) (hc : c < n) (hm : mask c = true)
    (h : (probeW nx conn8 close values mask raw c).1 = true) :
    ∃ q, Link nx conn8 close values mask n c q ∧ (probeW nx conn8 close values mask raw c).2 = raw q := by
  rcases probe_hit_cases (raw (c - nx - 1)) (raw (c - 1)) h with ⟨h0, e⟩ | ⟨⟨ha, hd, hmk, hcl⟩, e⟩
  · simp only [Bool.and_eq_true, decide_eq_true_eq] at h0
    exact ⟨c - 1, ⟨hc, (mem_back nx conn8).mpr (Or.inl ⟨h0.1.1, rfl⟩), hm, h0.1.2, h0.2⟩, e⟩
  · simp only [Bool.and_eq_true, decide_eq_true_eq] at ha hd
    exact ⟨c - nx - 1, ⟨hc, (mem_back nx conn8).mpr (Or.inr (Or.inr (Or.inl ⟨ha.1, ha.2, hd, rfl⟩))), hm, hmk, hcl⟩, e⟩

theorem probeS_hit (raw : Nat → Nat) (c : Nat) (hc : c < n) (hm : mask c = true)
    (h : (probeS nx conn8 close values mask raw c).1 = true) :
    ∃ q, Link nx conn8 close values mask n c q ∧ (probeS nx conn8 close values mask raw c).2 = raw q := by
  rcases probe_hit_cases (raw (c - nx + 1)) (raw (c - nx)) h with ⟨h0, e⟩ | ⟨⟨ha, hd, hmk, hcl⟩, e⟩
  · simp only [Bool.and_eq_true, decide_eq_true_eq] at h0
    exact ⟨c - nx, ⟨hc, (mem_back nx conn8).mpr (Or.inr (Or.inl ⟨h0.1.1, rfl⟩)), hm, h0.1.2, h0.2⟩, e⟩
  · simp only [Bool.and_eq_true, decide_eq_true_eq] at ha hd
    exact ⟨c - nx + 1, ⟨hc, (mem_back nx conn8).mpr (Or.inr (Or.inr (Or.inr ⟨ha.1, ha.2, hd, rfl⟩))), hm, hmk, hcl⟩, e⟩

theorem succ_mod {a n : Nat} (h : a % n + 1 < n) : (a + 1) % n = a % n + 1 := by
  rw [Nat.add_mod, Nat.mod_eq_of_lt (show 1 < n by omega), Nat.mod_eq_of_lt h]

theorem probe_complete (hnx : 0 < nx) (hsymm : ∀ a b, close a b = true → close b a = true)
    (htrans : ∀ a b c, close a b = true → close b c = true → close a c = true)
    (raw g : Nat → Nat) (c : Nat)
    (hC : ∀ p, p < c → ∀ q, Link nx conn8 close values mask n p q → Eqv g (raw p) (raw q))
    {q : Nat} (h : Link nx conn8 close values mask n c q) :
    ((probeW nx conn8 close values mask raw c).1 = true ∧ Eqv g (probeW nx conn8 close values mask raw c).2 (raw q)) ∨
    ((probeS nx conn8 close values mask raw c).1 = true ∧ Eqv g (probeS nx conn8 close values mask raw c).2 (raw q)) := by
  obtain ⟨hcn', hb, hmc, hmq, hcl⟩ := h
  rcases (mem_back nx conn8).mp hb with ⟨h1, rfl⟩ | ⟨h1, rfl⟩ | ⟨h8, h2, h3, rfl⟩ | ⟨h8, h2, h3, rfl⟩
  · -- W
    left
    have hm0 : (decide (0 < c % nx) && mask (c - 1) && close (values c) (values (c - 1))) = true := by
      simp [h1, hmq, hcl]
    simp only [probeW, hm0, Bool.true_or, Bool.not_true, Bool.and_false, Bool.false_and]
    exact ⟨trivial, Cl.refl _⟩
  · -- S
    right
    have hm0 : (decide (nx ≤ c) && mask (c - nx) && close (values c) (values (c - nx))) = true := by
      simp [h1, hmq, hcl]
    simp only [probeS, hm0, Bool.true_or, Bool.not_true, Bool.and_false, Bool.false_and]
    exact ⟨trivial, Cl.refl _⟩
  · -- SW
    left
    by_cases hm0 : (decide (0 < c % nx) && mask (c - 1) && close (values c) (values (c - 1))) = true
    · simp only [probeW, hm0, Bool.true_or, Bool.not_true, Bool.and_false, Bool.false_and]
      refine ⟨trivial, ?_⟩
      simp only [Bool.and_eq_true, decide_eq_true_eq] at hm0
      have hcn : c ≠ nx := by intro e; rw [e, Nat.mod_self] at h3; omega
      have hlink : Link nx conn8 close values mask n (c - 1) (c - nx - 1) := by
        refine ⟨by omega, (mem_back nx conn8).mpr (Or.inr (Or.inl ⟨by omega, by omega⟩)), hm0.1.2, hmq, ?_⟩
        exact htrans _ _ _ (hsymm _ _ hm0.2) hcl
      exact hC (c - 1) (by omega) _ hlink
    · simp only [Bool.not_eq_true] at hm0
      have huse : (conn8 && decide (nx ≤ c) && decide (0 < c % nx) && mask (c - nx - 1)
          && close (values c) (values (c - nx - 1))) = true := by simp [h8, h2, h3, hmq, hcl]
      simp only [probeW, hm0, Bool.false_or, Bool.not_false, Bool.and_true, huse]
      exact ⟨trivial, Cl.refl _⟩
  · -- SE
    right
    by_cases hm0 : (decide (nx ≤ c) && mask (c - nx) && close (values c) (values (c - nx))) = true
    · simp only [probeS, hm0, Bool.true_or, Bool.not_true, Bool.and_false, Bool.false_and]
      refine ⟨trivial, ?_⟩
      simp only [Bool.and_eq_true, decide_eq_true_eq] at hm0
      have hmod : (c - nx + 1) % nx = c % nx + 1 := by
        have e : (c - nx) % nx = c % nx := (Nat.mod_eq_sub_mod h2).symm
        rw [succ_mod (by rw [e]; exact h3), e]
      have hlink : Link nx conn8 close values mask n (c - nx + 1) (c - nx) := by
        refine ⟨by omega, (mem_back nx conn8).mpr (Or.inl ⟨by omega, by omega⟩), hmq, hm0.1.2, ?_⟩
        exact htrans _ _ _ (hsymm _ _ hcl) hm0.2
      have := hC (c - nx + 1) (by omega) _ hlink
      simp only [Bool.false_eq_true, if_false]
      exact Cl.symm this
    · simp only [Bool.not_eq_true] at hm0
      have huse : (conn8 && decide (nx ≤ c) && decide (c % nx + 1 < nx) && mask (c - nx + 1)
          && close (values c) (values (c - nx + 1))) = true := by simp [h8, h2, h3, hmq, hcl]
      simp only [probeS, hm0, Bool.false_or, Bool.not_false, Bool.and_true, huse]
      exact ⟨trivial, Cl.refl _⟩

def ConnP : Nat → Nat → Prop := Cl (fun p q => Link nx conn8 close values mask n p q)

theorem cl_inrange {E : Nat → Nat → Prop} {InR : Nat → Prop} (hE : ∀ u v, E u v → InR u ∧ InR v)
    {u v : Nat} (h : Cl E u v) : u = v ∨ (InR u ∧ InR v) := by
  induction h with
  | base e => exact Or.inr (hE _ _ e)
  | refl u => exact Or.inl rfl
  | symm _ ih => rcases ih with h | h; exact Or.inl h.symm; exact Or.inr ⟨h.2, h.1⟩
  | trans _ _ ih1 ih2 =>
    rcases ih1 with h1 | h1
    · subst h1; exact ih2
    · rcases ih2 with h2 | h2
      · subst h2; exact Or.inr h1
      · exact Or.inr ⟨h1.1, h2.2⟩

/-- soundness transfers along a closure when every generator and every pair of equal ids is sound
    and every id in range is carried by some pixel -/
theorem sound_of_gens (k' : Nat) (raw' : Nat → Nat) (E' : Nat → Nat → Prop) (InR : Nat → Prop)
    (hE : ∀ u v, E' u v → InR u ∧ InR v)
    (hU : ∀ u, InR u → ∃ p, p < k' ∧ mask p = true ∧ raw' p = u)
    (hgen : ∀ u v, E' u v → ∀ p q, p < k' → q < k' → mask p = true → mask q = true → raw' p = u → raw' q = v →
      ConnP nx conn8 close values mask n p q)
    (hsame : ∀ p q, p < k' → q < k' → mask p = true → mask q = true → raw' p = raw' q →
      ConnP nx conn8 close values mask n p q) :
    ∀ u v, Cl E' u v → ∀ p q, p < k' → q < k' → mask p = true → mask q = true → raw' p = u → raw' q = v →
      ConnP nx conn8 close values mask n p q := by
  intro u v h
  induction h with
  | base e => exact hgen _ _ e
  | refl u => intro p q hp hq hmp hmq e1 e2; exact hsame p q hp hq hmp hmq (by rw [e1, e2])
  | symm _ ih => intro p q hp hq hmp hmq e1 e2; exact Cl.symm (ih q p hq hp hmq hmp e2 e1)
  | trans h1 h2 ih1 ih2 =>
    intro p q hp hq hmp hmq e1 e2
    rcases cl_inrange hE h1 with e | ⟨_, hw⟩
    · subst e; exact ih2 p q hp hq hmp hmq e1 e2
    · obtain ⟨pw, hpw, hmw, hrw⟩ := hU _ hw
      exact Cl.trans (ih1 p pw hp hpw hmp hmw e1 hrw) (ih2 pw q hpw hq hmw hmq hrw e2)

/-- the labelling pass after `k` pixels: the lookup is a forest; ids are in range and each is carried by a pixel
    (`U`); sound (`S`): equivalent ids => pixels joined by a chain of links; complete (`C`): linked pixels =>
    equivalent ids.  Preserving `C` is where the closeness test has to be symmetric and transitive: the SW / SE
    short-cuts of connectivity 8 skip a probe when the W / S neighbour already matched (`probe_complete`). -/
structure CInv (k : Nat) (st : CR) : Prop where
  F : Forest st.lk.get
  Z : ∀ u, st.region < u → st.lk.get u = 0
  B : ∀ j, st.lk.size ≤ j → st.lk.get j = 0
  R0 : ∀ p, p < k → mask p = false → st.raw p = 0
  R1 : ∀ p, p < k → mask p = true → 1 ≤ st.raw p ∧ st.raw p ≤ st.region
  U : ∀ u, 1 ≤ u → u ≤ st.region → ∃ p, p < k ∧ mask p = true ∧ st.raw p = u
  S : ∀ p q, p < k → q < k → mask p = true → mask q = true → Eqv st.lk.get (st.raw p) (st.raw q) →
        ConnP nx conn8 close values mask n p q
  C : ∀ p, p < k → ∀ q, Link nx conn8 close values mask n p q → Eqv st.lk.get (st.raw p) (st.raw q)

theorem par_inrange {k : Nat} {st : CR} (h : CInv nx conn8 close values mask n k st) {u v : Nat}
    (e : Par st.lk.get u v) : (1 ≤ u ∧ u ≤ st.region) ∧ (1 ≤ v ∧ v ≤ st.region) := by
  obtain ⟨hg, hv⟩ := e
  have hlt : st.lk.get u < u := h.F u (by rw [hg]; exact hv)
  have hur : u ≤ st.region := by
    by_cases hh : u ≤ st.region
    · exact hh
    · have := h.Z u (by omega); rw [this] at hg; exact absurd hg.symm hv
  omega

/-- the current pixel takes the id of a matching earlier neighbour; possibly two ids are joined -/
theorem join_step (hnx : 0 < nx) {k : Nat} {st : CR} (h : CInv nx conn8 close values mask n k st)
    (hm : mask k = true) (newId : Nat) (lk' : Lookup) (extra : Nat → Nat → Prop)
    (hF' : Forest lk'.get) (hZ' : ∀ u, st.region < u → lk'.get u = 0) (hB' : ∀ j, lk'.size ≤ j → lk'.get j = 0)
    (hEq : ∀ u v, Eqv lk'.get u v ↔ Cl (fun u v => Par st.lk.get u v ∨ extra u v) u v)
    (hextra : ∀ u v, extra u v → ∃ qa qb, Link nx conn8 close values mask n k qa ∧
      Link nx conn8 close values mask n k qb ∧ st.raw qa = u ∧ st.raw qb = v)
    (hrep : ∃ qr, Link nx conn8 close values mask n k qr ∧ st.raw qr = newId)
    (hcomp : ∀ q, Link nx conn8 close values mask n k q → Eqv lk'.get newId (st.raw q)) :
    CInv nx conn8 close values mask n (k + 1) ⟨setL st.raw k newId, lk', st.region⟩ := by
  obtain ⟨qr, hqr, hrq⟩ := hrep
  have hlink_lt : ∀ {q}, Link nx conn8 close values mask n k q → q < k ∧ mask q = true :=
    fun hl => ⟨back_lt nx conn8 hnx hl.2.1, hl.2.2.2.1⟩
  have hold : ∀ u v, Eqv st.lk.get u v → Eqv lk'.get u v := by
    intro u v e; rw [hEq]; exact Cl.mono (fun _ _ e => Cl.base (Or.inl e)) e
  -- every pixel ≤ k has a representative < k with the same id
  have hrepr : ∀ p, p < k + 1 → mask p = true → ∃ p', p' < k ∧ mask p' = true ∧
      st.raw p' = setL st.raw k newId p ∧ ConnP nx conn8 close values mask n p p' := by
    intro p hp hmp
    by_cases hpk : p = k
    · subst hpk
      exact ⟨qr, (hlink_lt hqr).1, (hlink_lt hqr).2, by rw [setL_same, hrq], Cl.base hqr⟩
    · exact ⟨p, by omega, hmp, by rw [setL_ne hpk], Cl.refl _⟩
  have hnew : 1 ≤ newId ∧ newId ≤ st.region := by
    rw [← hrq]; exact h.R1 qr (hlink_lt hqr).1 (hlink_lt hqr).2
  refine ⟨hF', hZ', hB', ?_, ?_, ?_, ?_, ?_⟩
  all_goals dsimp only
  · intro p hp hmp
    have : p ≠ k := by intro e; subst e; rw [hm] at hmp; cases hmp
    rw [setL_ne this]; exact h.R0 p (by omega) hmp
  · intro p hp hmp
    by_cases hpk : p = k
    · rw [hpk, setL_same]; exact hnew
    · rw [setL_ne hpk]; exact h.R1 p (by omega) hmp
  · intro u hu1 hu2
    obtain ⟨p, hp, hmp, hr⟩ := h.U u hu1 hu2
    exact ⟨p, by omega, hmp, by rw [setL_ne (by omega)]; exact hr⟩
  · -- soundness
    intro p q hp hq hmp hmq he
    rw [hEq] at he
    have hsame : ∀ p q, p < k + 1 → q < k + 1 → mask p = true → mask q = true →
        setL st.raw k newId p = setL st.raw k newId q → ConnP nx conn8 close values mask n p q := by
      intro p q hp hq hmp hmq e
      obtain ⟨p', hp', hmp', hrp, hcp⟩ := hrepr p hp hmp
      obtain ⟨q', hq', hmq', hrq', hcq⟩ := hrepr q hq hmq
      have := h.S p' q' hp' hq' hmp' hmq' (by rw [hrp, hrq', e]; exact Cl.refl _)
      exact Cl.trans hcp (Cl.trans this (Cl.symm hcq))
    refine sound_of_gens nx conn8 close values mask n (k + 1) (setL st.raw k newId)
      (fun u v => Par st.lk.get u v ∨ extra u v) (fun u => 1 ≤ u ∧ u ≤ st.region) ?_ ?_ ?_ hsame _ _ he p q hp hq hmp hmq rfl rfl
    · intro u v e
      rcases e with e | e
      · exact par_inrange nx conn8 close values mask n h e
      · obtain ⟨qa, qb, ha, hb, ra, rb⟩ := hextra u v e
        rw [← ra, ← rb]
        exact ⟨h.R1 qa (hlink_lt ha).1 (hlink_lt ha).2, h.R1 qb (hlink_lt hb).1 (hlink_lt hb).2⟩
    · intro u ⟨hu1, hu2⟩
      obtain ⟨p, hp, hmp, hr⟩ := h.U u hu1 hu2
      exact ⟨p, by omega, hmp, by rw [setL_ne (by omega)]; exact hr⟩
    · intro u v e p q hp hq hmp hmq e1 e2
      obtain ⟨p', hp', hmp', hrp, hcp⟩ := hrepr p hp hmp
      obtain ⟨q', hq', hmq', hrq', hcq⟩ := hrepr q hq hmq
      rcases e with e | e
      · have := h.S p' q' hp' hq' hmp' hmq' (by rw [hrp, hrq', e1, e2]; exact Cl.base e)
        exact Cl.trans hcp (Cl.trans this (Cl.symm hcq))
      · obtain ⟨qa, qb, ha, hb, ra, rb⟩ := hextra u v e
        have s1 := h.S p' qa hp' (hlink_lt ha).1 hmp' (hlink_lt ha).2 (by rw [hrp, e1, ra]; exact Cl.refl _)
        have s2 := h.S qb q' (hlink_lt hb).1 hq' (hlink_lt hb).2 hmq' (by rw [hrq', e2, rb]; exact Cl.refl _)
        exact Cl.trans hcp (Cl.trans s1 (Cl.trans (Cl.symm (Cl.base ha)) (Cl.trans (Cl.base hb)
          (Cl.trans s2 (Cl.symm hcq)))))
  · -- completeness
    intro p hp q hl
    have hq : q < p := back_lt nx conn8 hnx hl.2.1
    rw [setL_ne (show q ≠ k by omega)]
    by_cases hpk : p = k
    · rw [hpk, setL_same]; exact hcomp q (hpk ▸ hl)
    · rw [setL_ne hpk]; exact hold _ _ (h.C p (by omega) q hl)

theorem keep_step (hnx : 0 < nx) {k : Nat} {st : CR} (h : CInv nx conn8 close values mask n k st)
    (hm : mask k = true) (newId : Nat)
    (hrep : ∃ qr, Link nx conn8 close values mask n k qr ∧ st.raw qr = newId)
    (hcomp : ∀ q, Link nx conn8 close values mask n k q → Eqv st.lk.get newId (st.raw q)) :
    CInv nx conn8 close values mask n (k + 1) ⟨setL st.raw k newId, st.lk, st.region⟩ :=
  join_step nx conn8 close values mask n hnx h hm newId st.lk (fun _ _ => False) h.F h.Z h.B
    (fun u v => ⟨Cl.mono fun _ _ e => Cl.base (Or.inl e), Cl.mono fun _ _ e => e.elim Cl.base False.elim⟩)
    (fun _ _ e => e.elim) hrep hcomp

theorem masked_step {k : Nat} {st : CR} (h : CInv nx conn8 close values mask n k st) (hnx : 0 < nx)
    (hm : mask k = false) :
    CInv nx conn8 close values mask n (k + 1) ⟨setL st.raw k 0, st.lk, st.region⟩ := by
  have hne : ∀ p, mask p = true → p ≠ k := by intro p hp e; subst e; rw [hm] at hp; cases hp
  refine ⟨h.F, h.Z, h.B, ?_, ?_, ?_, ?_, ?_⟩
  all_goals dsimp only
  · intro p hp hmp
    by_cases hpk : p = k
    · rw [hpk, setL_same]
    · rw [setL_ne hpk]; exact h.R0 p (by omega) hmp
  · intro p hp hmp
    rw [setL_ne (hne p hmp)]; exact h.R1 p (by have := hne p hmp; omega) hmp
  · intro u hu1 hu2
    obtain ⟨p, hp, hmp, hr⟩ := h.U u hu1 hu2
    exact ⟨p, by omega, hmp, by rw [setL_ne (hne p hmp)]; exact hr⟩
  · intro p q hp hq hmp hmq he
    rw [setL_ne (hne p hmp), setL_ne (hne q hmq)] at he
    exact h.S p q (by have := hne p hmp; omega) (by have := hne q hmq; omega) hmp hmq he
  · intro p hp q hl
    have hq : q < p := back_lt nx conn8 hnx hl.2.1
    rw [setL_ne (hne p hl.2.2.1), setL_ne (hne q hl.2.2.2.1)]
    exact h.C p (by have := hne p hl.2.2.1; omega) q hl

theorem fresh_step {k : Nat} {st : CR} (h : CInv nx conn8 close values mask n k st) (hnx : 0 < nx)
    (hm : mask k = true) (hnone : ∀ q, ¬ Link nx conn8 close values mask n k q) :
    CInv nx conn8 close values mask n (k + 1) ⟨setL st.raw k (st.region + 1), st.lk, st.region + 1⟩ := by
  have hiso : ∀ v, Eqv st.lk.get (st.region + 1) v → v = st.region + 1 := by
    intro v e
    rcases cl_inrange (InR := fun u => 1 ≤ u ∧ u ≤ st.region)
      (fun u v e => par_inrange nx conn8 close values mask n h e) e with e1 | ⟨e1, _⟩
    · exact e1.symm
    · omega
  refine ⟨h.F, (by intro u hu; simp only at hu; exact h.Z u (by omega)), h.B, ?_, ?_, ?_, ?_, ?_⟩
  all_goals dsimp only
  · intro p hp hmp
    have : p ≠ k := by intro e; subst e; rw [hm] at hmp; cases hmp
    rw [setL_ne this]; exact h.R0 p (by omega) hmp
  · intro p hp hmp
    by_cases hpk : p = k
    · rw [hpk, setL_same]; exact ⟨Nat.le_add_left _ _, Nat.le_refl _⟩
    · rw [setL_ne hpk]; have := h.R1 p (by omega) hmp; exact ⟨this.1, Nat.le_succ_of_le this.2⟩
  · intro u hu1 hu2
    by_cases hu : u = st.region + 1
    · exact ⟨k, by omega, hm, by rw [setL_same, hu]⟩
    · obtain ⟨p, hp, hmp, hr⟩ := h.U u hu1 (by omega)
      exact ⟨p, by omega, hmp, by rw [setL_ne (by omega)]; exact hr⟩
  · intro p q hp hq hmp hmq he
    by_cases h1 : p = k <;> by_cases h2 : q = k
    · rw [h1, h2]; exact Cl.refl _
    · rw [h1, setL_same, setL_ne h2] at he
      have := hiso _ he
      have := h.R1 q (by omega) hmq; omega
    · rw [h2, setL_same, setL_ne h1] at he
      have := hiso _ (Cl.symm he)
      have := h.R1 p (by omega) hmp; omega
    · rw [setL_ne h1, setL_ne h2] at he
      exact h.S p q (by omega) (by omega) hmp hmq he
  · intro p hp q hl
    have hq : q < p := back_lt nx conn8 hnx hl.2.1
    rw [setL_ne (show q ≠ k by omega)]
    by_cases hpk : p = k
    · exact absurd (hpk ▸ hl) (hnone q)
    · rw [setL_ne hpk]; exact h.C p (by omega) q hl

theorem calcStep_CInv (hnx : 0 < nx) (hsymm : ∀ a b, close a b = true → close b a = true)
    (htrans : ∀ a b c, close a b = true → close b c = true → close a c = true)
    {k : Nat} {st : CR} (h : CInv nx conn8 close values mask n k st) (hk : k < n) :
    CInv nx conn8 close values mask n (k + 1) (calcStep nx conn8 close values mask st k) := by
  unfold calcStep
  by_cases hm : mask k = true
  · simp only [hm, Bool.not_true, Bool.false_eq_true, if_false]
    have hcomplete := fun q (hl : Link nx conn8 close values mask n k q) =>
      probe_complete nx conn8 close values mask n hnx hsymm htrans st.raw st.lk.get k h.C hl
    have hlink_lt : ∀ {q}, Link nx conn8 close values mask n k q → q < k ∧ mask q = true :=
      fun hl => ⟨back_lt nx conn8 hnx hl.2.1, hl.2.2.2.1⟩
    generalize hw : probeW nx conn8 close values mask st.raw k = w at hcomplete ⊢
    generalize hs : probeS nx conn8 close values mask st.raw k = s at hcomplete ⊢
    have hwhit := probeW_hit nx conn8 close values mask n st.raw k hk hm
    have hshit := probeS_hit nx conn8 close values mask n st.raw k hk hm
    rw [hw] at hwhit; rw [hs] at hshit
    by_cases hw1 : w.1 = true <;> by_cases hs1 : s.1 = true
    · -- both match
      simp only [hw1, hs1, Bool.and_self, if_true]
      obtain ⟨qW, hlW, hrW⟩ := hwhit hw1
      obtain ⟨qS, hlS, hrS⟩ := hshit hs1
      have hRW := h.R1 qW (hlink_lt hlW).1 (hlink_lt hlW).2
      have hRS := h.R1 qS (hlink_lt hlS).1 (hlink_lt hlS).2
      rw [← hrW] at hRW; rw [← hrS] at hRS
      rw [minMax_fst, minMax_snd]
      by_cases hne : min w.2 s.2 ≠ max w.2 s.2
      · rw [if_pos hne]
        obtain ⟨hF', hE', hW', hS1, hS2⟩ :=
          mergeRegions_spec h.F (lower := min w.2 s.2) (upper := max w.2 s.2) (by omega) (by omega)
        -- after the merge the smaller id is equivalent to both probe results
        have hlo : ∀ x, x = min w.2 s.2 ∨ x = max w.2 s.2 →
            Eqv (mergeRegions st.lk (min w.2 s.2) (max w.2 s.2)).get (min w.2 s.2) x := by
          rintro x (rfl | rfl)
          · exact Cl.refl _
          · exact (hE' _ _).mpr (Cl.base (Or.inr ⟨rfl, rfl⟩))
        refine join_step nx conn8 close values mask n hnx h hm (min w.2 s.2) _
          (fun u v => u = min w.2 s.2 ∧ v = max w.2 s.2) hF' ?_ ?_ hE' ?_ ?_ ?_
        · intro u hu; rw [hW' u (by omega)]; exact h.Z u hu
        · intro j hj; rw [hW' j (by omega)]; exact h.B j (by omega)
        · rintro u v ⟨rfl, rfl⟩
          rcases Nat.le_total w.2 s.2 with hle | hle
          · exact ⟨qW, qS, hlW, hlS, by rw [← hrW, Nat.min_eq_left hle], by rw [← hrS, Nat.max_eq_right hle]⟩
          · exact ⟨qS, qW, hlS, hlW, by rw [← hrS, Nat.min_eq_right hle], by rw [← hrW, Nat.max_eq_left hle]⟩
        · rcases Nat.le_total w.2 s.2 with hle | hle
          · exact ⟨qW, hlW, by rw [← hrW, Nat.min_eq_left hle]⟩
          · exact ⟨qS, hlS, by rw [← hrS, Nat.min_eq_right hle]⟩
        · intro q hl
          rcases hcomplete q hl with ⟨_, e⟩ | ⟨_, e⟩
          · exact Cl.trans (hlo w.2 (by omega)) ((hE' _ _).mpr (eqvPlus_of_eqv e))
          · exact Cl.trans (hlo s.2 (by omega)) ((hE' _ _).mpr (eqvPlus_of_eqv e))
      · rw [if_neg hne]
        have heq : w.2 = s.2 := by omega
        refine keep_step nx conn8 close values mask n hnx h hm (min w.2 s.2)
          ⟨qW, hlW, by rw [← hrW, ← heq, Nat.min_self]⟩ ?_
        intro q hl
        rw [← heq, Nat.min_self]
        rcases hcomplete q hl with ⟨_, e⟩ | ⟨_, e⟩
        · exact e
        · rw [heq]; exact e
    · -- only W
      simp only [hw1, hs1, Bool.and_false, Bool.false_eq_true, if_false, if_true]
      obtain ⟨qW, hlW, hrW⟩ := hwhit hw1
      refine keep_step nx conn8 close values mask n hnx h hm w.2 ⟨qW, hlW, hrW.symm⟩ ?_
      intro q hl
      rcases hcomplete q hl with ⟨_, e⟩ | ⟨e1, _⟩
      · exact e
      · exact absurd e1 hs1
    · -- only S
      simp only [hw1, hs1, Bool.false_and, Bool.false_eq_true, if_false, if_true]
      obtain ⟨qS, hlS, hrS⟩ := hshit hs1
      refine keep_step nx conn8 close values mask n hnx h hm s.2 ⟨qS, hlS, hrS.symm⟩ ?_
      intro q hl
      rcases hcomplete q hl with ⟨e1, _⟩ | ⟨_, e⟩
      · exact absurd e1 hw1
      · exact e
    · -- new region
      simp only [hw1, hs1, Bool.and_self, Bool.false_eq_true, if_false]
      refine fresh_step nx conn8 close values mask n h hnx hm ?_
      intro q hl
      rcases hcomplete q hl with ⟨e1, _⟩ | ⟨e1, _⟩
      · exact hw1 e1
      · exact hs1 e1
  · simp only [Bool.not_eq_true] at hm
    simp only [hm, Bool.not_false, if_true]
    exact masked_step nx conn8 close values mask n h hnx hm

end pass

theorem calcPass_CInv {V : Type} (nx ny : Nat) (conn8 : Bool) (close : V → V → Bool) (values : Nat → V)
    (mask : Nat → Bool) (hnx : 0 < nx) (hsymm : ∀ a b, close a b = true → close b a = true)
    (htrans : ∀ a b c, close a b = true → close b c = true → close a c = true) :
    CInv nx conn8 close values mask (nx * ny) (nx * ny) (calcPass nx ny conn8 close values mask) := by
  have h0 : CInv nx conn8 close values mask (nx * ny) 0 ⟨fun _ => 0, ⟨fun _ => 0, max 64 (max nx ny)⟩, 0⟩ :=
    ⟨by intro u hu; exact absurd rfl hu, by intro u _; rfl, by intro j _; rfl, by intro p hp; omega,
     by intro p hp; omega, by intro u h1 h2; simp only at h2; omega, by intro p q hp; omega,
     by intro p hp; omega⟩
  exact foldl_range_inv (calcStep nx conn8 close values mask) (CInv nx conn8 close values mask (nx * ny)) (nx * ny)
    h0 fun k st hk h => calcStep_CInv nx conn8 close values mask (nx * ny) hnx hsymm htrans h hk

/-- **`_calculate_regions` computes the connected components**: a masked pixel gets 0, an unmasked
    pixel a positive id, and two unmasked pixels get the same id exactly when they are joined by a chain of
    W/S (connectivity 8: also SW/SE) neighbours inside the raster whose values are close. -/
theorem regionId_spec {V : Type} {nx ny : Nat} (conn8 : Bool) {close : V → V → Bool} (values : Nat → V)
    (mask : Nat → Bool) (hnx : 0 < nx) (hsymm : ∀ a b, close a b = true → close b a = true)
    (htrans : ∀ a b c, close a b = true → close b c = true → close a c = true)
    {p q : Nat} (hp : p < nx * ny) (hq : q < nx * ny) :
    (mask p = false → regionId nx ny conn8 close values mask p = 0) ∧
    (mask p = true → 1 ≤ regionId nx ny conn8 close values mask p) ∧
    (mask p = true → mask q = true →
      (regionId nx ny conn8 close values mask p = regionId nx ny conn8 close values mask q ↔
        ConnP nx conn8 close values mask (nx * ny) p q)) := by
  have I := calcPass_CInv nx ny conn8 close values mask hnx hsymm htrans
  have K := compact_KInv I.F I.B (calcPass nx ny conn8 close values mask).region
  refine ⟨?_, ?_, ?_⟩
  · intro hm
    simp only [regionId]
    rw [I.R0 p hp hm]
    exact (K.zero (by omega)).1
  · intro hm
    simp only [regionId]
    have := I.R1 p hp hm
    exact K.pos _ this.1 (by omega)
  · intro hmp hmq
    simp only [regionId]
    have rp := I.R1 p hp hmp
    have rq := I.R1 q hq hmq
    rw [K.iff _ _ (by omega) (by omega)]
    constructor
    · exact I.S p q hp hq hmp hmq
    · intro hc
      have key : ∀ a b, ConnP nx conn8 close values mask (nx * ny) a b →
          Eqv (calcPass nx ny conn8 close values mask).lk.get
            ((calcPass nx ny conn8 close values mask).raw a) ((calcPass nx ny conn8 close values mask).raw b) := by
        intro a b h
        induction h with
        | base e => exact I.C _ e.1 _ e
        | refl u => exact Cl.refl _
        | symm _ ih => exact Cl.symm ih
        | trans _ _ ih1 ih2 => exact Cl.trans ih1 ih2
      exact key p q hc

theorem calculateRegions_eq {V : Type} (nx ny : Nat) (conn8 : Bool) (close : V → V → Bool) (values : Nat → V)
    (mask : Nat → Bool) :
    calculateRegions nx ny conn8 close values mask =
      (List.range (nx * ny)).map (regionId nx ny conn8 close values mask) := rfl

end XrsVerif.Polygonize
