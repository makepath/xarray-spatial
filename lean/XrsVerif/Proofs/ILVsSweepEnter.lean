import XrsVerif.Proofs.ILVsSweepIns
/-
  One ENTER event of the generated sweep: the node of the entering cell (`enterNode_exec`: three
  inlined `_calc_event_pos`, two `_calculate_angle`, two `_calc_event_grad`, one `_calc_dist_n_grad`, the event type in
  `event_rcts` flipped to CENTER, EXIT and back), the bearing adjustments across the east ray, then `_pop(idle)` and the
  inlined `_insert_into_tree` (`insNode_exec` of Proofs/ILVsSweepIns.lean).
-/
namespace XrsVerif.ILSw
open XrsVerif XrsVerif.IL XrsVerif.ILVs XrsVerif.Viewshed XrsVerif.ViewshedEvents
variable {F : Type} [Fl F]
set_option linter.unusedVariables false

theorem enterNode_exec (hH : HalfOK F) (rest : St) (s : State F) (fuel ne k : Nat) (r c vr vc : Int) (e0 e1 e2 e3 e4 e5 e6 : F)
    (hs : s.ctl = .run) (shN : s.shp "status_node" = [7]) (hE : s.fa "status_node" = [e0, e1, e2, e3, e4, e5, e6])
    (shR : s.shp "event_rcts" = [ne, 3]) (lenR : (s.ia "event_rcts").length = ne * 3) (shA : s.shp "event_aes" = [ne, 4])
    (hk : k < ne) (hrk : s.ienv "row$e_rct" = k) (hak : s.ienv "row$e_ae" = k)
    (hr : rctAt s k 0 = r) (hc : rctAt s k 1 = c) (hty : rctAt s k 2 = 1)
    (hsr : s.ienv "status_row" = r) (hsc : s.ienv "status_col" = c) (hvr : s.ienv "vp_row" = vr) (hvc : s.ienv "vp_col" = vc) :
    ∃ s' : State F, exec fuel (enterNode rest) s = exec fuel rest s' ∧ s'.ctl = .run ∧ s'.ia = s.ia ∧ s'.shp = s.shp ∧
      s'.ext = s.ext ∧
      s'.fa = setS s.fa "status_node" (enterNodeF r c vr vc (aeAt s k 0) (aeAt s k 1) (aeAt s k 2) (aeAt s k 3)
          (s.fenv "vp_elev") (s.fenv "ew_res") (s.fenv "ns_res")) ∧
      (∀ v ∈ swLiveI, s'.ienv v = s.ienv v) ∧ s'.ienv "row$e_ae" = k ∧ (∀ v ∈ swLiveF, s'.fenv v = s.fenv v) := by
  obtain ⟨ie, fe, be, ia, fa, shp, ext, ctl⟩ := s
  simp only at hs shN hE shR lenR shA hrk hak hr hc hty hsr hsc hvr hvc; subst hs
  simp [rctAt] at hr hc hty
  have hpb1 := fun s => posBody_int (F := F) hH "_calc_event_pos36$" s fuel
  have hpb2 := fun s => posBody_int (F := F) hH "_calc_event_pos38$" s fuel
  have hpb3 := fun s => posBody_int (F := F) hH "_calc_event_pos41$" s fuel
  have hab1 := fun s => angBody_exec (F := F) "_calculate_angle39$" s fuel
  have hab2 := fun s => angBody_exec (F := F) "_calculate_angle42$" s fuel
  have hgb1 := fun s => gradBody_exec (F := F) "_calc_event_grad37$" s fuel
  have hgb2 := fun s => gradBody_exec (F := F) "_calc_event_grad43$" s fuel
  have hdb := fun s => distBody_exec (F := F) "_calc_dist_n_grad40$" s fuel
  have ik : inRange (k : Int) ne = true := inRange_of_lt k ne hk
  have o30 : off2 [ne, 3] (k : Int) (0 : Int) = k * 3 + 0 := off2_nat ne 3 k 0
  have o31 : off2 [ne, 3] (k : Int) (1 : Int) = k * 3 + 1 := off2_nat ne 3 k 1
  have o32 : off2 [ne, 3] (k : Int) (2 : Int) = k * 3 + 2 := off2_nat ne 3 k 2
  have o40 : off2 [ne, 4] (k : Int) (0 : Int) = k * 4 + 0 := off2_nat ne 4 k 0
  have o41 : off2 [ne, 4] (k : Int) (1 : Int) = k * 4 + 1 := off2_nat ne 4 k 1
  have o42 : off2 [ne, 4] (k : Int) (2 : Int) = k * 4 + 2 := off2_nat ne 4 k 2
  have o43 : off2 [ne, 4] (k : Int) (3 : Int) = k * 4 + 3 := off2_nat ne 4 k 3
  have hl2 : k * 3 + 2 < (ia "event_rcts").length := by omega
  simp [enterNode, posCallI, angCall, gradCall, distCall, rct, ae, exec, IE.ok, IE.eval, FE.ok, FE.eval, shN, shR, shA, hE, hrk, hak,
    setS_apply, setS_setS, ik, o30, o31, o32, o40, o41, o42, o43, inRange_lit, off1_lit7, hpb1, hpb2, hpb3, hab1, hab2, hgb1, hgb2, hdb, hl2, hr, hc,
    posEnv_apply, angEnv_apply, gradEnv_apply, distEnv_apply, posS', hsr, hsc, hvr, hvc]
  have hty' : (ia "event_rcts")[k * 3 + 2] = 1 := by
    have := hty
    rw [List.getElem?_eq_getElem hl2] at this
    simpa using this
  refine ⟨_, rfl, rfl, ?_, rfl, rfl, ?_, ?_, ?_, ?_⟩
  · dsimp only
    have : (ia "event_rcts").set (k * 3 + 2) 1 = ia "event_rcts" := by
      rw [← hty']; exact List.set_getElem_self hl2
    rw [this]; exact setS_self _ _
  · dsimp only
    rw [hty']
    simp [enterNodeF, keyF, gradEventF, gradCellF, ptDist2, aeAt]
  · apply swLiveI_all <;> simp [setS_apply]
  · simp [setS_apply, hak]
  · apply swLiveF_all <;> simp [gradEnv_apply, angEnv_apply, distEnv_apply, posEnv_apply, setS_apply]

/-- the bearing adjustments of an entering node across the east ray: an event in the upper half plane whose entering
    bearing exceeds the centre bearing gets `a0 - 2π`; in the lower half plane the centre and exiting bearings get `+ 2π` -/
def adjustEnter (ang k g0 g1 g2 a0 a1 a2 : F) : List F :=
  if Fl.lt ang piF = true then (if Fl.lt a1 a0 = true then [k, g0, g1, g2, Fl.sub a0 twoPi, a1, a2] else [k, g0, g1, g2, a0, a1, a2])
  else (if Fl.lt a1 a0 = true then [k, g0, g1, g2, a0, Fl.add a1 twoPi, Fl.add a2 twoPi] else [k, g0, g1, g2, a0, a1, a2])

theorem swLive_iP : (∀ v ∈ swLiveI, iP.isPrefixOf v = false) ∧ (∀ v ∈ swLiveF, iP.isPrefixOf v = false) := by
  decide +kernel

theorem adjustEnter_length (ang k g0 g1 g2 a0 a1 a2 : F) : (adjustEnter ang k g0 g1 g2 a0 a1 a2).length = 7 := by
  simp only [adjustEnter]; split <;> split <;> rfl

theorem enterAdj_exec (ins : St) (s : State F) (fuel ne k : Nat) (kk g0 g1 g2 a0 a1 a2 : F) (hs : s.ctl = .run)
    (shN : s.shp "status_node" = [7]) (hE : s.fa "status_node" = [kk, g0, g1, g2, a0, a1, a2]) (shA : s.shp "event_aes" = [ne, 4])
    (hk : k < ne) (hak : s.ienv "row$e_ae" = k) :
    exec fuel (enterTail ins) s = exec fuel (popCall "_pop44$" (insCall "_insert_into_tree45$" ins))
      { s with fa := setS s.fa "status_node" (adjustEnter (aeAt s k 0) kk g0 g1 g2 a0 a1 a2) } := by
  obtain ⟨ie, fe, be, ia, fa, shp, ext, ctl⟩ := s
  simp only at hs shN hE shA hak; subst hs
  have ik : inRange (k : Int) ne = true := inRange_of_lt k ne hk
  have o40 : off2 [ne, 4] (k : Int) (0 : Int) = k * 4 + 0 := off2_nat ne 4 k 0
  simp only [enterTail]
  generalize popCall "_pop44$" (insCall "_insert_into_tree45$" ins) = rest
  have hfa : setS fa "status_node" [kk, g0, g1, g2, a0, a1, a2] = fa := by rw [← hE]; exact setS_self _ _
  cases hc1 : Fl.lt ((fa "event_aes")[k * 4]?.getD Fl.nan) (Fl.mul (Fl.lit 4 1) (Fl.atan (Fl.lit 1 1))) <;>
  cases hc2 : Fl.lt a1 a0 <;>
  simp [il, ae, shN, shA, hE, hak, ik, o40, inRange_lit, off1_lit7, setS_setS, aeAt, adjustEnter, twoPi, piF, hc1, hc2, hfa]

/-- the node an ENTER event inserts: `enterNodeF` with the bearings adjusted across the east ray -/
def enterNodeAdj (r c vr vc : Int) (ang el0 el1 el2 ve ew ns : F) : List F :=
  adjustEnter ang (keyF r c vr vc ew ns)
    (gradEventF (halfF r (posOff 1 (r - vr) (c - vc)).1) (halfF c (posOff 1 (r - vr) (c - vc)).2) el0 vr vc ve ew ns)
    (gradCellF r c el1 vr vc ve ew ns)
    (gradEventF (halfF r (posOff (-1) (r - vr) (c - vc)).1) (halfF c (posOff (-1) (r - vr) (c - vc)).2) el2 vr vc ve ew ns)
    ang
    (angF (halfF c (posOff 0 (r - vr) (c - vc)).2) (halfF r (posOff 0 (r - vr) (c - vc)).1) (Fl.lit vc 1) (Fl.lit vr 1))
    (angF (halfF c (posOff (-1) (r - vr) (c - vc)).2) (halfF r (posOff (-1) (r - vr) (c - vc)).1) (Fl.lit vc 1) (Fl.lit vr 1))

/-- **one iteration of the event loop for an ENTER event** (the insertion a black box with contract `InsContract`): the node of
    the event's cell -- key, the gradients of the model's entering corner, centre, exiting corner, the stored entering
    bearing and the recomputed centre / exiting bearings, adjusted across the east ray -- is inserted into the status
    structure (the model's `leafInsert` up to rebalancing) in the row popped from the idle stack; the visibility grid
    and the event arrays are unchanged -/
theorem evBody_enter (hH : HalfOK F) (hi : InsContract F insLoop iP) (del qry : St) (s : State F) (fuel n ne : Nat) (sh : Sh)
    (k top nid : Nat) (inv : EvInv s ne k) (lenR : (s.ia "event_rcts").length = ne * 3) (hv : SVS s n)
    (hL : Linked (s.ia "status_struct") n (-1) sh) (hN : sh.idxs.Nodup) (hne : sh ≠ .nil) (hroot : s.ienv "root" = sh.ptr)
    (hS : vAt (s.fa "status_values") (n - 1) 7 = smallest) (hty : rctAt s k 2 = 1)
    (shI : s.shp "idle" = [n]) (lenI : (s.ia "idle").length = n) (htop : (s.ia "idle").getD 0 0 = top) (htn : top < n)
    (ht0 : 0 < top) (hnid : (s.ia "idle").getD top 0 = nid) (hnn : nid + 1 < n) (hfresh : nid ∉ sh.idxs)
    (hfuel : 2 * sh.height + sh.size + 4 ≤ fuel) :
    let node := enterNodeAdj (rctAt s k 0) (rctAt s k 1) (s.ienv "vp_row") (s.ienv "vp_col") (aeAt s k 0) (aeAt s k 1) (aeAt s k 2)
      (aeAt s k 3) (s.fenv "vp_elev") (s.fenv "ew_res") (s.fenv "ns_res")
    ∃ (s' : State F) (sh' : Sh), exec fuel (evBody insLoop del qry) s = s' ∧ s'.ctl = .run ∧ SVS s' n ∧
      Linked (s'.ia "status_struct") n (-1) sh' ∧ sh'.idxs.Nodup ∧ s'.ienv "root" = sh'.ptr ∧
      sh'.idxs.Perm (nid :: sh.idxs) ∧ vAt (s'.fa "status_values") (n - 1) 7 = smallest ∧
      Rebal smallest (leafInsert (nodeOfList node) (absT (s.fa "status_values") (s.ia "status_struct") sh))
        (absT (s'.fa "status_values") (s'.ia "status_struct") sh') ∧
      s'.ia "idle" = (s.ia "idle").set 0 ((top : Int) - 1) ∧
      s'.fa "visibility_grid" = s.fa "visibility_grid" ∧ s'.fa "event_aes" = s.fa "event_aes" ∧
      s'.ia "event_rcts" = s.ia "event_rcts" ∧ s'.shp = s.shp ∧
      (∀ v ∈ swLiveI, v ≠ "root" → s'.ienv v = s.ienv v) ∧ (∀ v ∈ swLiveF, s'.fenv v = s.fenv v) := by
  intro node
  obtain ⟨ie1, fe1, hex, p1, p2, p4, p5, p6, p7⟩ := evBody_branch insLoop del qry s fuel ne k inv
  rw [hex, hty, if_pos rfl, enterBranch]
  -- the node
  obtain ⟨s2, hex2, c_ctl, c_ia, c_shp, c_ext, c_fa, c_li, c_ae, c_lf⟩ := enterNode_exec hH (enterTail insLoop)
    ⟨ie1, fe1, s.benv, s.ia, setS s.fa "status_node"
      [keyF (rctAt s k 0) (rctAt s k 1) (s.ienv "vp_row") (s.ienv "vp_col") (s.fenv "ew_res") (s.fenv "ns_res"), Fl.nan,
       gradCellF (rctAt s k 0) (rctAt s k 1) (Fl.add (aeAt s k 2) (s.fenv "vp_target")) (s.ienv "vp_row") (s.ienv "vp_col")
         (s.fenv "vp_elev") (s.fenv "ew_res") (s.fenv "ns_res"), Fl.nan, Fl.nan, Fl.nan, Fl.nan], s.shp, s.ext, .run⟩
    fuel ne k (rctAt s k 0) (rctAt s k 1) (s.ienv "vp_row") (s.ienv "vp_col") _ _ _ _ _ _ _ rfl inv.shN (by rfl)
    inv.shR lenR inv.shA inv.hk p4 p5 rfl rfl hty p1 p2 (p6 _ (by simp [swLiveI])) (p6 _ (by simp [swLiveI]))
  have hae : ∀ (t : State F) c', t.fa "event_aes" = s.fa "event_aes" → aeAt t k c' = aeAt s k c' := fun t c' h => by
    simp [aeAt, h]
  simp only [setS_setS, p7 "vp_elev" (by simp [swLiveF]),
    p7 "ew_res" (by simp [swLiveF]), p7 "ns_res" (by simp [swLiveF])] at c_fa
  have b_fa : ∀ a, a ≠ "status_node" → s2.fa a = s.fa a := fun a h => by rw [c_fa, setS_apply, if_neg h]
  -- the adjustment, the insertion
  rw [hex2, enterAdj_exec insLoop s2 fuel ne k _ _ _ _ _ _ _ c_ctl (c_shp ▸ inv.shN) (by rw [c_fa]; rfl) (c_shp ▸ inv.shA) inv.hk
    c_ae, hae s2 _ (b_fa _ (by simp))]
  obtain ⟨s3, sh', e3, d1, d2, d3, d4, d5, d6, d7, d8, d9, d10, d11, d12, d13, d14⟩ := insNode_exec "_pop44$" "_insert_into_tree45$"
    insLoop hi swLive_iP (by simp) (by simp) s s2 fuel n sh top nid node (adjustEnter_length ..) c_ctl c_ia c_shp b_fa
    (fun v hv => (c_li v hv).trans (p6 v hv)) (fun v hv => (c_lf v hv).trans (p7 v hv)) hv hL hN hne hroot hS inv.shN shI htop htn
    hnid hnn hfresh hfuel
  exact ⟨s3, sh', e3, d1, d2, d3, d4, d5, d6, d7, d8, d9, d10 _ (by simp) (by simp), d10 _ (by simp) (by simp),
    d11 _ (by simp) (by simp), d12, d13, d14⟩
end XrsVerif.ILSw
