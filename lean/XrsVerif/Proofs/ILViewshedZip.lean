import XrsVerif.Proofs.ILViewshedSmall
import XrsVerif.Proofs.ViewshedFix
/-
  Positions in the status tree (zippers), for the routines that walk *up* the parent pointers
  (`_find_max_value_within_key`, `_tree_successor`, the loops of insertion and deletion).

  A position is a subtree together with its context `ctx : List Fr` (innermost frame first): `Fr.L i r` = "we
  are the left child of row `i`, whose right subtree is `r`", `Fr.R l i` = "the right child of `i`, left
  subtree `l`".  `plug sub ctx` is the whole tree.  `unplug`: on a well-linked tree without repeated rows every
  position is locally well-linked (`Linked` below, `CtxLinked` above) -- so the loop lemmas only need
  `plug sub ctx = sh`; `replug` is the converse.  `TFr` / `plugT` are the same zipper on model trees.

  Pure lemmas tie the zipper functions to the hand model's top-down recursions: `findZ` (the search with its path),
  `shortCtx` (phase 1 of the query, bottom-up), `predsCtx` (the in-order predecessors above a position).
-/
namespace XrsVerif.ILVs
open XrsVerif XrsVerif.IL XrsVerif.Viewshed
variable {F : Type} [Fl F]

inductive Fr where
  | L (i : Nat) (r : Sh) : Fr
  | R (l : Sh) (i : Nat) : Fr
  deriving Repr, DecidableEq

abbrev Ctx := List Fr

def Fr.idx : Fr → Nat
  | .L i _ => i
  | .R _ i => i

def Fr.dir : Fr → Dir
  | .L _ _ => .L
  | .R _ _ => .R

def plug : Sh → Ctx → Sh
  | t, [] => t
  | t, .L i r :: c => plug (.node t i r) c
  | t, .R l i :: c => plug (.node l i t) c

/-- the parent pointer a context prescribes -/
def ctxPar : Ctx → Int
  | [] => -1
  | .L i _ :: _ => (i : Int)
  | .R _ i :: _ => (i : Int)

/-- the link columns spell out the context above the pointer `c` -/
def CtxLinked (nodes : List Int) (n : Nat) : Int → Ctx → Prop
  | _, [] => True
  | c, .L i r :: rest =>
    i + 1 < n ∧ nAt nodes i 1 = c ∧ nAt nodes i 2 = r.ptr ∧ (0 ≤ c → r.ptr ≠ c) ∧ nAt nodes i 3 = ctxPar rest ∧
      Linked nodes n (i : Int) r ∧ CtxLinked nodes n (i : Int) rest
  | c, .R l i :: rest =>
    i + 1 < n ∧ nAt nodes i 1 = l.ptr ∧ nAt nodes i 2 = c ∧ (0 ≤ c → l.ptr ≠ c) ∧ nAt nodes i 3 = ctxPar rest ∧
      Linked nodes n (i : Int) l ∧ CtxLinked nodes n (i : Int) rest

theorem ctxPar_cons (fr : Fr) (rest : Ctx) : ctxPar (fr :: rest) = (fr.idx : Int) := by cases fr <;> rfl

theorem ctxPar_eq_neg_one (ctx : Ctx) : ctxPar ctx = -1 ↔ ctx = [] := by
  cases ctx with
  | nil => simp [ctxPar]
  | cons fr rest => rw [ctxPar_cons]; simp

theorem CtxLinked.step {nodes : List Int} {n : Nat} {c : Int} {fr : Fr} {rest : Ctx}
    (h : CtxLinked nodes n c (fr :: rest)) :
    fr.idx + 1 < n ∧ nAt nodes fr.idx 3 = ctxPar rest ∧ CtxLinked nodes n (fr.idx : Int) rest := by
  cases fr with
  | L p pr | R pr p => exact ⟨h.1, h.2.2.2.2.1, h.2.2.2.2.2.2⟩

theorem Sh.ptr_mem : ∀ (sh : Sh) (j : Nat), sh.ptr = (j : Int) → j ∈ sh.idxs := by
  intro sh j h
  cases sh with
  | nil => simp only [Sh.ptr] at h; omega
  | node l i r =>
    simp only [Sh.ptr] at h
    have : i = j := by omega
    simp [Sh.idxs, this]

theorem rowOf_ptr_cases (n : Nat) (sh : Sh) : rowOf n sh.ptr = n - 1 ∨ rowOf n sh.ptr ∈ sh.idxs := by
  cases sh with
  | nil => left; simp [Sh.ptr]
  | node l i r => right; simp [Sh.ptr, Sh.idxs]

theorem Sh.ptr_ne_of_nodup (l r : Sh) (i : Nat) (h : (Sh.node l i r).idxs.Nodup) :
    (0 ≤ l.ptr → r.ptr ≠ l.ptr) ∧ (0 ≤ r.ptr → l.ptr ≠ r.ptr) ∧ l.idxs.Nodup ∧ r.idxs.Nodup ∧
      i ∉ l.idxs ∧ i ∉ r.idxs := by
  simp only [Sh.idxs] at h
  rw [List.nodup_append] at h
  obtain ⟨h1, h2, h3⟩ := h
  rw [List.nodup_cons] at h2
  have hd : ∀ j, j ∈ l.idxs → j ∈ r.idxs → False := fun j a b => h3 j a j (List.mem_cons_of_mem _ b) rfl
  refine ⟨?_, ?_, h1, h2.2, fun hi => h3 i hi i List.mem_cons_self rfl, h2.1⟩
  · intro h0 he
    obtain ⟨j, hj⟩ := Int.eq_ofNat_of_zero_le h0
    exact hd j (Sh.ptr_mem l j hj) (Sh.ptr_mem r j (he.trans hj))
  · intro h0 he
    obtain ⟨j, hj⟩ := Int.eq_ofNat_of_zero_le h0
    exact hd j (Sh.ptr_mem l j (he.trans hj)) (Sh.ptr_mem r j hj)

theorem unplug {nodes : List Int} {n : Nat} : ∀ (ctx : Ctx) (sub : Sh),
    Linked nodes n (-1) (plug sub ctx) → (plug sub ctx).idxs.Nodup →
    Linked nodes n (ctxPar ctx) sub ∧ CtxLinked nodes n sub.ptr ctx ∧ sub.idxs.Nodup := by
  intro ctx
  induction ctx with
  | nil => intro sub h1 h2; exact ⟨h1, trivial, h2⟩
  | cons fr rest ih =>
    intro sub h1 h2
    cases fr with
    | L i r =>
      obtain ⟨hl, hc, hn⟩ := ih (.node sub i r) h1 h2
      obtain ⟨hi, hL, hR, hP, hlL, hlR⟩ := hl
      have hd := Sh.ptr_ne_of_nodup sub r i hn
      exact ⟨hlL, ⟨hi, hL, hR, hd.1, hP, hlR, hc⟩, hd.2.2.1⟩
    | R l i =>
      obtain ⟨hl, hc, hn⟩ := ih (.node l i sub) h1 h2
      obtain ⟨hi, hL, hR, hP, hlL, hlR⟩ := hl
      have hd := Sh.ptr_ne_of_nodup l sub i hn
      exact ⟨hlR, ⟨hi, hL, hR, hd.2.1, hP, hlL, hc⟩, hd.2.2.2.1⟩

def findZ (vals : List F) (K : Fv F) : Sh → Ctx → Option (Sh × Nat × Sh × Ctx)
  | .nil, _ => none
  | .node l i r, c =>
    if K < vAt vals i 0 then findZ vals K l (.L i r :: c)
    else if vAt vals i 0 < K then findZ vals K r (.R l i :: c)
    else some (l, i, r, c)

theorem findZ_none (vals : List F) (K : Fv F) : ∀ (sh : Sh) (c : Ctx), findZ vals K sh c = none → findPtr vals K sh = -1 := by
  intro sh
  induction sh with
  | nil => intro c _; rfl
  | node l i r ihl ihr =>
    intro c h
    simp only [findZ] at h
    simp only [findPtr]
    split
    · rename_i h1; simp only [h1, if_true] at h; exact ihl _ h
    · rename_i h1
      simp only [h1, if_false] at h
      split
      · rename_i h2; simp only [h2, if_true] at h; exact ihr _ h
      · rename_i h2; simp [h2] at h

theorem findZ_some (vals : List F) (K : Fv F) : ∀ (sh : Sh) (c : Ctx) (l : Sh) (i : Nat) (r : Sh) (c' : Ctx),
    findZ vals K sh c = some (l, i, r, c') →
    findPtr vals K sh = (i : Int) ∧ plug (.node l i r) c' = plug sh c ∧ ¬ K < vAt vals i 0 ∧ ¬ vAt vals i 0 < K := by
  intro sh
  induction sh with
  | nil => intro c l i r c' h; simp [findZ] at h
  | node sl j sr ihl ihr =>
    intro c l i r c' h
    simp only [findZ] at h
    simp only [findPtr]
    split
    · rename_i h1
      simp only [h1, if_true] at h
      have := ihl _ l i r c' h
      exact ⟨this.1, by rw [this.2.1]; rfl, this.2.2⟩
    · rename_i h1
      simp only [h1, if_false] at h
      split
      · rename_i h2
        simp only [h2, if_true] at h
        have := ihr _ l i r c' h
        exact ⟨this.1, by rw [this.2.1]; rfl, this.2.2⟩
      · rename_i h2
        simp only [h2, if_false, Option.some.injEq, Prod.mk.injEq] at h
        obtain ⟨rfl, rfl, rfl, rfl⟩ := h
        exact ⟨rfl, rfl, h1, h2⟩

/-- the stored maximum `tree_vals[p][TN_MAX_GRAD_ID]` behind a pointer (NIL = the last row) -/
def mxAt (vals : List F) (n : Nat) (p : Int) : Fv F := vAt vals (rowOf n p) 7

/-- the stored maximum behind the pointer of a shape is the model's `mxOf`, the NIL row holding the sentinel -/
theorem mxAt_absT (vals : List F) (nodes : List Int) (n : Nat) (sh : Sh) :
    mxAt vals n sh.ptr = mxOf (vAt vals (n - 1) 7) (absT vals nodes sh) := by
  cases sh with
  | nil | node l i r => simp [mxAt, Sh.ptr, absT, mxOf]

/-- the loop `while tree_nodes[cur][TN_PARENT_ID] != NIL_ID` of `_find_max_value_within_key`, frame by frame -/
def shortCtx (vals : List F) (n : Nat) : Fv F → Ctx → Fv F
  | acc, [] => acc
  | acc, .L _ _ :: rest => shortCtx vals n acc rest
  | acc, .R l i :: rest => shortCtx vals n (mx2 (minv (nodeAt vals i)) (mx2 (mxAt vals n l.ptr) acc)) rest

/-- ... computes the hand model's `short` -/
theorem shortCtx_findZ (vals : List F) (nodes : List Int) (n : Nat) (K : Fv F) (S : Fv F) (hS : vAt vals (n - 1) 7 = S) :
    ∀ (sh : Sh) (c : Ctx) (l : Sh) (i : Nat) (r : Sh) (c' : Ctx), findZ vals K sh c = some (l, i, r, c') →
    shortCtx vals n S c' = shortCtx vals n (short S (absT vals nodes sh) K) c := by
  intro sh
  induction sh with
  | nil => intro c l i r c' h; simp [findZ] at h
  | node sl j sr ihl ihr =>
    intro c l i r c' h
    simp only [findZ] at h
    simp only [absT, short, nodeAt]
    split
    · rename_i h1
      simp only [h1, if_true] at h
      rw [ihl _ l i r c' h]; rfl
    · rename_i h1
      simp only [h1, if_false] at h
      split
      · rename_i h2
        simp only [h2, if_true] at h
        rw [ihr _ l i r c' h]
        simp only [shortCtx, mxAt_absT vals nodes, hS, nodeAt]
      · rename_i h2
        simp only [h2, if_false, Option.some.injEq, Prod.mk.injEq] at h
        obtain ⟨rfl, rfl, rfl, rfl⟩ := h
        rfl

/-- the rows of a shape in reverse in-order -/
def Sh.rev : Sh → List Nat
  | .nil => []
  | .node l i r => r.rev ++ i :: l.rev

theorem Sh.rev_eq (sh : Sh) : sh.rev = sh.idxs.reverse := by
  induction sh with
  | nil => rfl
  | node l i r ihl ihr => simp [Sh.rev, Sh.idxs, ihl, ihr]

/-- the in-order predecessors that lie above a position, nearest first -/
def predsCtx : Ctx → List Nat
  | [] => []
  | .L _ _ :: rest => predsCtx rest
  | .R l i :: rest => i :: l.rev ++ predsCtx rest

theorem absT_toList (vals : List F) (nodes : List Int) (sh : Sh) :
    (absT vals nodes sh).toList = sh.idxs.map (nodeAt vals) := by
  induction sh with
  | nil => rfl
  | node l i r ihl ihr => simp [absT, Tree.toList, Sh.idxs, ihl, ihr]

/-- the in-order predecessors of the node `_search_for_node` finds, nearest first (top-down recursion) -/
def predsOf {α : Type} [LT α] [DecidableLT α] : Tree α → α → List (Node α)
  | .nil, _ => []
  | .node l n _ _ r, K =>
    if K < n.key then predsOf l K
    else if n.key < K then predsOf r K ++ n :: l.toList.reverse
    else l.toList.reverse

theorem preds_findZ (vals : List F) (nodes : List Int) (K : Fv F) :
    ∀ (sh : Sh) (c : Ctx) (l : Sh) (i : Nat) (r : Sh) (c' : Ctx), findZ vals K sh c = some (l, i, r, c') →
    (l.rev ++ predsCtx c').map (nodeAt vals) = predsOf (absT vals nodes sh) K ++ (predsCtx c).map (nodeAt vals) := by
  intro sh
  induction sh with
  | nil => intro c l i r c' h; simp [findZ] at h
  | node sl j sr ihl ihr =>
    intro c l i r c' h
    simp only [findZ] at h
    simp only [absT, predsOf, nodeAt]
    split
    · rename_i h1
      simp only [h1, if_true] at h
      rw [ihl _ l i r c' h]; rfl
    · rename_i h1
      simp only [h1, if_false] at h
      split
      · rename_i h2
        simp only [h2, if_true] at h
        rw [ihr _ l i r c' h]
        simp [predsCtx, absT_toList, Sh.rev_eq, nodeAt]
      · rename_i h2
        simp only [h2, if_false, Option.some.injEq, Prod.mk.injEq] at h
        obtain ⟨rfl, rfl, rfl, rfl⟩ := h
        simp [absT_toList, Sh.rev_eq]

/-- the in-order successors that lie above a position, nearest first -/
def succsCtx : Ctx → List Nat
  | [] => []
  | .L i r :: rest => i :: r.idxs ++ succsCtx rest
  | .R _ _ :: rest => succsCtx rest

theorem idxs_plug : ∀ (ctx : Ctx) (sub : Sh),
    (plug sub ctx).idxs = (predsCtx ctx).reverse ++ sub.idxs ++ succsCtx ctx := by
  intro ctx
  induction ctx with
  | nil => intro sub; simp [plug, predsCtx, succsCtx]
  | cons fr rest ih =>
    intro sub
    cases fr with
    | L i r => simp [plug, ih, predsCtx, succsCtx, Sh.idxs]
    | R l i => simp [plug, ih, predsCtx, succsCtx, Sh.idxs, Sh.rev_eq]

theorem mem_plug (j : Nat) (ctx : Ctx) (sub : Sh) (h : j ∈ sub.idxs) : j ∈ (plug sub ctx).idxs := by
  rw [idxs_plug]; simp [h]

theorem predsCtx_mem (j : Nat) : ∀ (ctx : Ctx) (sub : Sh), j ∈ predsCtx ctx → j ∈ (plug sub ctx).idxs := by
  intro ctx sub h
  rw [idxs_plug]; simp [h]

theorem preds_ne (l : Sh) (j : Nat) (r : Sh) (ctx : Ctx) (hn : (plug (.node l j r) ctx).idxs.Nodup) :
    ∀ i ∈ l.rev ++ predsCtx ctx, i ≠ j := by
  intro i hi e
  subst e
  rw [idxs_plug, Sh.idxs, List.append_assoc, List.append_assoc, ← List.append_assoc, ← List.reverse_reverse l.idxs,
    ← Sh.rev_eq, ← List.reverse_append] at hn
  exact (List.nodup_append.mp hn).2.2 i (List.mem_reverse.mpr hi) i (by simp) rfl

/-- descend to the rightmost node of the subtree `node l i r` -/
def rightmostZ : Sh → Nat → Sh → Ctx → Sh × Nat × Sh × Ctx
  | l, i, .nil, c => (l, i, .nil, c)
  | l, i, .node rl m rr, c => rightmostZ rl m rr (.R l i :: c)

/-- index of the rightmost node of the tree `node _ i r` -/
def maxIdx : Sh → Nat → Nat
  | .nil, i => i
  | .node _ m rr, _ => maxIdx rr m

def Sh.rheight : Sh → Nat
  | .nil => 0
  | .node _ _ r => r.rheight + 1

theorem rightmostZ_idx : ∀ (r l : Sh) (i : Nat) (c : Ctx), (rightmostZ l i r c).2.1 = maxIdx r i := by
  intro r
  induction r with
  | nil => intro l i c; rfl
  | node rl m rr _ ih => intro l i c; simp only [rightmostZ, maxIdx]; exact ih rl m _

theorem rightmostZ_spec : ∀ (r l : Sh) (i : Nat) (c : Ctx),
    let q := rightmostZ l i r c
    plug (.node q.1 q.2.1 q.2.2.1) q.2.2.2 = plug (.node l i r) c ∧
      q.2.1 :: q.1.rev ++ predsCtx q.2.2.2 = (Sh.node l i r).rev ++ predsCtx c := by
  intro r
  induction r with
  | nil => intro l i c; simp [rightmostZ, Sh.rev]
  | node rl m rr _ ih =>
    intro l i c
    have := ih rl m (.R l i :: c)
    simp only [rightmostZ]
    refine ⟨this.1, ?_⟩
    rw [this.2]
    simp [Sh.rev, predsCtx]

/-- climb while we come from a left child; stop at the first ancestor reached from its right child -/
def climbZ : Sh → Ctx → Option (Sh × Nat × Sh × Ctx)
  | _, [] => none
  | t, .L p pr :: rest => climbZ (.node t p pr) rest
  | t, .R lsib q :: rest => some (lsib, q, t, rest)

def climbPtr : Ctx → Int
  | [] => -1
  | .L _ _ :: rest => climbPtr rest
  | .R _ q :: _ => (q : Int)

theorem climbZ_ptr : ∀ (ctx : Ctx) (t : Sh),
    climbPtr ctx = match climbZ t ctx with | none => -1 | some (_, q, _, _) => (q : Int) := by
  intro ctx
  induction ctx with
  | nil => intro t; rfl
  | cons fr rest ih =>
    intro t
    cases fr with
    | L p pr => simp only [climbPtr, climbZ]; exact ih _
    | R lsib q => rfl

theorem climbZ_some : ∀ (ctx : Ctx) (t lsib : Sh) (q : Nat) (t' : Sh) (rest : Ctx),
    climbZ t ctx = some (lsib, q, t', rest) →
    plug (.node lsib q t') rest = plug t ctx ∧ q :: lsib.rev ++ predsCtx rest = predsCtx ctx := by
  intro ctx
  induction ctx with
  | nil => intro t lsib q t' rest h; simp [climbZ] at h
  | cons fr rest' ih =>
    intro t lsib q t' rest h
    cases fr with
    | L p pr =>
      simp only [climbZ] at h
      have := ih _ lsib q t' rest h
      exact ⟨this.1, this.2⟩
    | R ls q' =>
      simp only [climbZ, Option.some.injEq, Prod.mk.injEq] at h
      obtain ⟨rfl, rfl, rfl, rfl⟩ := h
      exact ⟨rfl, rfl⟩

theorem climbZ_none : ∀ (ctx : Ctx) (t : Sh), climbZ t ctx = none → predsCtx ctx = [] := by
  intro ctx
  induction ctx with
  | nil => intro t _; rfl
  | cons fr rest ih =>
    intro t h
    cases fr with
    | L p pr => simp only [climbZ] at h; exact ih _ h
    | R ls q => simp [climbZ] at h

/-- the position of the in-order predecessor -/
def predPos : Sh → Nat → Sh → Ctx → Option (Sh × Nat × Sh × Ctx)
  | .node ll m lr, j, r, ctx => some (rightmostZ ll m lr (.L j r :: ctx))
  | .nil, j, r, ctx => climbZ (.node .nil j r) ctx

def predPtr (l : Sh) (ctx : Ctx) : Int :=
  match l with
  | .node _ m lr => (maxIdx lr m : Int)
  | .nil => climbPtr ctx

theorem predPos_ptr (l : Sh) (j : Nat) (r : Sh) (ctx : Ctx) :
    predPtr l ctx = match predPos l j r ctx with | none => -1 | some (_, q, _, _) => (q : Int) := by
  cases l with
  | nil => simp only [predPtr, predPos]; exact climbZ_ptr ctx _
  | node ll m lr => simp only [predPtr, predPos, rightmostZ_idx]

theorem predPos_some (l : Sh) (j : Nat) (r : Sh) (ctx : Ctx) (l' : Sh) (j' : Nat) (r' : Sh) (c' : Ctx)
    (h : predPos l j r ctx = some (l', j', r', c')) :
    plug (.node l' j' r') c' = plug (.node l j r) ctx ∧ j' :: l'.rev ++ predsCtx c' = l.rev ++ predsCtx ctx := by
  cases l with
  | nil =>
    simp only [predPos] at h
    have := climbZ_some ctx _ l' j' r' c' h
    exact ⟨this.1, by simpa [Sh.rev] using this.2⟩
  | node ll m lr =>
    simp only [predPos, Option.some.injEq] at h
    have := rightmostZ_spec lr ll m (.L j r :: ctx)
    rw [h] at this
    exact ⟨this.1, by simpa [predsCtx] using this.2⟩

theorem predPos_none (l : Sh) (j : Nat) (r : Sh) (ctx : Ctx) (h : predPos l j r ctx = none) :
    l.rev ++ predsCtx ctx = [] := by
  cases l with
  | nil => simp only [predPos] at h; simp [Sh.rev, climbZ_none ctx _ h]
  | node ll m lr => simp [predPos] at h

/-- the walk of phase 2 with its exit flag: `(value, left through the early return)` -/
def walkE {α : Type} [LT α] [DecidableLT α] [LE α] [DecidableLE α] (ang g : α) (itp : Node α → α) :
    List (Node α) → α → α × Bool
  | [], acc => (acc, false)
  | n :: ns, acc =>
    if spans n ang then
      let acc' := mx2 (itp n) acc
      if g < acc' then (acc', true) else walkE ang g itp ns acc'
    else walkE ang g itp ns acc

theorem walkE_fst {α : Type} [LT α] [DecidableLT α] [LE α] [DecidableLE α] (ang g : α) (itp : Node α → α)
    (ns : List (Node α)) (acc : α) : (walkE ang g itp ns acc).1 = walk ang g itp ns acc := by
  induction ns generalizing acc with
  | nil => rfl
  | cons n ns ih =>
    simp only [walkE, walk]
    split
    · split
      · rfl
      · exact ih _
    · exact ih _

theorem plug_height : ∀ (ctx : Ctx) (sub : Sh), ctx.length + sub.height ≤ (plug sub ctx).height := by
  intro ctx
  induction ctx with
  | nil => intro sub; simp [plug]
  | cons fr rest ih =>
    intro sub
    cases fr with
    | L i r => have := ih (.node sub i r); simp only [plug, Sh.height, List.length_cons] at this ⊢; omega
    | R l i => have := ih (.node l i sub); simp only [plug, Sh.height, List.length_cons] at this ⊢; omega

theorem Sh.rheight_le (sh : Sh) : sh.rheight ≤ sh.height := by
  induction sh with
  | nil => simp [Sh.rheight, Sh.height]
  | node l i r _ ih => simp only [Sh.rheight, Sh.height]; omega

theorem Sh.lheight_le (sh : Sh) : sh.lheight ≤ sh.height := by
  induction sh with
  | nil => simp [Sh.lheight, Sh.height]
  | node l i r ih _ => simp only [Sh.lheight, Sh.height]; omega

theorem Sh.rev_length (sh : Sh) : sh.rev.length = sh.size := by
  induction sh with
  | nil => rfl
  | node l i r ihl ihr => simp only [Sh.rev, Sh.size, List.length_append, List.length_cons, ihl, ihr]; omega

theorem Sh.idxs_length (sh : Sh) : sh.idxs.length = sh.size := by
  rw [← Sh.rev_length, Sh.rev_eq, List.length_reverse]

theorem predsCtx_length (ctx : Ctx) (sub : Sh) : sub.size + (predsCtx ctx).length ≤ (plug sub ctx).size := by
  have := congrArg List.length (idxs_plug ctx sub)
  simp only [List.length_append, List.length_reverse, Sh.idxs_length] at this
  omega

theorem Sh.height_le_size (sh : Sh) : sh.height ≤ sh.size := by
  induction sh with
  | nil => simp [Sh.height, Sh.size]
  | node l i r ihl ihr => simp only [Sh.height, Sh.size]; omega

/-- the path from the root to a position (the model's `List Dir`) -/
def pathOf : Ctx → List Dir
  | [] => []
  | .L _ _ :: rest => pathOf rest ++ [.L]
  | .R _ _ :: rest => pathOf rest ++ [.R]

theorem pathOf_eq : ∀ (ctx : Ctx), pathOf ctx = (ctx.map Fr.dir).reverse := by
  intro ctx
  induction ctx with
  | nil => rfl
  | cons fr rest ih => cases fr <;> simp [pathOf, Fr.dir, ih]

theorem pathOf_ne_nil' {ctx : Ctx} (h : ctx ≠ []) : pathOf ctx ≠ [] := by
  cases ctx with
  | nil => exact absurd rfl h
  | cons fr rest => cases fr <;> simp [pathOf]

theorem map_dir_reverse (ctx : Ctx) : (ctx.map Fr.dir).reverse = pathOf ctx := (pathOf_eq ctx).symm

/-! ### the two sides at once

  The rotations, both colour fix-ups and the splice treat a left child and a right child by mirrored code; the model has
  one code for both, indexed by the side `d`.  The shapes are written the same way: `Sh.nodeD d a i b` is the row `i` with
  `a` on side `d`, `Fr.mkD d p sib` the frame above a `d`-side child of `p`. -/

/-- the choice between the code (or data) for the left side and its mirror image for the right side -/
def pickD {α : Type} (d : Dir) (a b : α) : α := match d with | .L => a | .R => b

def Sh.nodeD (d : Dir) (near : Sh) (i : Nat) (far : Sh) : Sh := .node (pickD d near far) i (pickD d far near)

/-- the link column of the child on side `d` (`TN_LEFT_ID = 1`, `TN_RIGHT_ID = 2`) -/
def _root_.XrsVerif.Viewshed.Dir.col : Dir → Nat
  | .L => 1
  | .R => 2

theorem _root_.XrsVerif.Viewshed.Dir.col_cases (d : Dir) : d.col = 1 ∧ d.flip.col = 2 ∨ d.col = 2 ∧ d.flip.col = 1 := by
  cases d
  · exact Or.inl ⟨rfl, rfl⟩
  · exact Or.inr ⟨rfl, rfl⟩

theorem Sh.ptr_nodeD (d : Dir) (a : Sh) (i : Nat) (b : Sh) : (Sh.nodeD d a i b).ptr = (i : Int) := by cases d <;> rfl

theorem Sh.mem_nodeD (d : Dir) (a : Sh) (i : Nat) (b : Sh) (j : Nat) :
    j ∈ (Sh.nodeD d a i b).idxs ↔ j = i ∨ j ∈ a.idxs ∨ j ∈ b.idxs := by
  cases d <;> simp only [Sh.nodeD, pickD, Sh.idxs, List.mem_append, List.mem_cons]
  · exact or_left_comm
  · exact or_rotate

theorem Sh.nodup_nodeD {d : Dir} {a : Sh} {i : Nat} {b : Sh} (h : (Sh.nodeD d a i b).idxs.Nodup) :
    a.idxs.Nodup ∧ b.idxs.Nodup ∧ i ∉ a.idxs ∧ i ∉ b.idxs ∧ ∀ j ∈ a.idxs, j ∉ b.idxs := by
  cases d with
  | L =>
    have hd := Sh.ptr_ne_of_nodup a b i h
    exact ⟨hd.2.2.1, hd.2.2.2.1, hd.2.2.2.2.1, hd.2.2.2.2.2,
      fun j ha hb => (List.nodup_append.mp h).2.2 j ha j (List.mem_cons_of_mem _ hb) rfl⟩
  | R =>
    have hd := Sh.ptr_ne_of_nodup b a i h
    exact ⟨hd.2.2.2.1, hd.2.2.1, hd.2.2.2.2.2, hd.2.2.2.2.1,
      fun j ha hb => (List.nodup_append.mp h).2.2 j hb j (List.mem_cons_of_mem _ ha) rfl⟩

theorem linked_nodeD {N : List Int} {n : Nat} {par : Int} {d : Dir} {a : Sh} {i : Nat} {b : Sh} :
    Linked N n par (Sh.nodeD d a i b) ↔
      i + 1 < n ∧ nAt N i d.col = a.ptr ∧ nAt N i d.flip.col = b.ptr ∧ nAt N i 3 = par ∧
        Linked N n (i : Int) a ∧ Linked N n (i : Int) b := by
  cases d with
  | L => exact Iff.rfl
  | R => exact ⟨fun ⟨h1, h2, h3, h4, h5, h6⟩ => ⟨h1, h3, h2, h4, h6, h5⟩, fun ⟨h1, h2, h3, h4, h5, h6⟩ => ⟨h1, h3, h2, h4, h6, h5⟩⟩

def Fr.mkD : Dir → Nat → Sh → Fr
  | .L, i, sib => .L i sib
  | .R, i, sib => .R sib i

theorem plug_mkD (d : Dir) (t : Sh) (i : Nat) (sib : Sh) (rest : Ctx) :
    plug t (Fr.mkD d i sib :: rest) = plug (.nodeD d t i sib) rest := by cases d <;> rfl

theorem pathOf_mkD (d : Dir) (i : Nat) (sib : Sh) (rest : Ctx) : pathOf (Fr.mkD d i sib :: rest) = pathOf rest ++ [d] := by
  cases d <;> rfl

theorem Sh.nodeD_flip (d : Dir) (a : Sh) (i : Nat) (b : Sh) : Sh.nodeD d.flip a i b = Sh.nodeD d b i a := by cases d <;> rfl

theorem Fr.idx_mkD (d : Dir) (i : Nat) (sib : Sh) : (Fr.mkD d i sib).idx = i := by cases d <;> rfl

theorem Fr.dir_mkD (d : Dir) (i : Nat) (sib : Sh) : (Fr.mkD d i sib).dir = d := by cases d <;> rfl

theorem Fr.mkD_cases (d : Dir) (fr : Fr) : (∃ i sib, fr = Fr.mkD d i sib) ∨ ∃ i sib, fr = Fr.mkD d.flip i sib := by
  cases d <;> cases fr
  · exact .inl ⟨_, _, rfl⟩
  · exact .inr ⟨_, _, rfl⟩
  · exact .inr ⟨_, _, rfl⟩
  · exact .inl ⟨_, _, rfl⟩

theorem plug_mkD_sib (d : Dir) (t : Sh) (p : Nat) (sib : Sh) (rest : Ctx) :
    plug t (Fr.mkD d p sib :: rest) = plug sib (Fr.mkD d.flip p t :: rest) := by cases d <;> rfl

theorem Sh.node_eq_nodeD (d : Dir) (l : Sh) (i : Nat) (r : Sh) : Sh.node l i r = Sh.nodeD d (pickD d l r) i (pickD d r l) := by
  cases d <;> rfl

theorem pickD_rel {α β : Type} {R : α → β → Prop} (d : Dir) {a a' : α} {b b' : β} (h : R a b) (h' : R a' b') :
    R (pickD d a a') (pickD d b b') := by
  cases d
  · exact h
  · exact h'

/-- the test `c == tree_nodes[parent][TN_LEFT_ID]` tells the side of the child `c` -/
theorem CtxLinked.kid_test {N : List Int} {n c : Nat} {fr : Fr} {rest : Ctx} (h : CtxLinked N n (c : Int) (fr :: rest)) :
    (if (c : Int) = nAt N fr.idx 1 then Dir.L else Dir.R) = fr.dir := by
  cases fr with
  | L p r0 => exact if_pos h.2.1.symm
  | R l0 p => exact if_neg (fun e => h.2.2.2.1 (by omega) (h.2.1.symm.trans e.symm))

/-- the rows of a context: the frame rows and the rows of the sibling subtrees -/
def ctxIdxs : Ctx → List Nat
  | [] => []
  | .L i r :: rest => i :: r.idxs ++ ctxIdxs rest
  | .R l i :: rest => i :: l.idxs ++ ctxIdxs rest

def Fr.sib : Fr → Sh
  | .L _ r => r
  | .R l _ => l

theorem ctxIdxs_cons (fr : Fr) (rest : Ctx) : ctxIdxs (fr :: rest) = fr.idx :: (fr.sib.idxs ++ ctxIdxs rest) := by
  cases fr <;> rfl

theorem ctxIdxs_append : ∀ (a b : Ctx), ctxIdxs (a ++ b) = ctxIdxs a ++ ctxIdxs b := by
  intro a
  induction a with
  | nil => intro b; rfl
  | cons fr rest ih => intro b; simp only [List.cons_append, ctxIdxs_cons, ih, List.append_assoc, List.cons_append]

def Fr.fill : Fr → Sh → Sh
  | .L i r, t => .node t i r
  | .R l i, t => .node l i t

theorem plug_cons (fr : Fr) (rest : Ctx) (t : Sh) : plug t (fr :: rest) = plug (fr.fill t) rest := by
  cases fr <;> rfl

theorem fill_ptr' (fr : Fr) (t : Sh) : (fr.fill t).ptr = (fr.idx : Int) := by cases fr <;> rfl

theorem plug_ptr_cons (fr : Fr) (rest : Ctx) (a b : Sh) : (plug a (fr :: rest)).ptr = (plug b (fr :: rest)).ptr := by
  induction rest generalizing fr a b with
  | nil => cases fr <;> rfl
  | cons f2 rest ih => cases fr <;> exact ih _ _ _

/-- what a rotation leaves in `root` -/
theorem root_after (ctx : Ctx) (t t' : Sh) : (if ctxPar ctx = -1 then t'.ptr else (plug t ctx).ptr) = (plug t' ctx).ptr := by
  cases ctx with
  | nil => simp [ctxPar, plug]
  | cons f rs =>
    have : ¬ (ctxPar (f :: rs) = -1) := by rw [ctxPar_cons]; omega
    rw [if_neg this]
    exact plug_ptr_cons f rs _ _

theorem plug_is_node : ∀ (ctx : Ctx) (a : Sh) (i : Nat) (b : Sh), ∃ l j r, plug (.node a i b) ctx = .node l j r := by
  intro ctx
  induction ctx with
  | nil => intro a i b; exact ⟨a, i, b, rfl⟩
  | cons fr rest ih =>
    intro a i b
    cases fr with
    | L p r | R r p => exact ih _ _ _

theorem plug_nodeD_is_node (d : Dir) (a : Sh) (i : Nat) (b : Sh) (rest : Ctx) :
    ∃ l j r, plug (Sh.nodeD d a i b) rest = .node l j r := plug_is_node rest _ i _

theorem plug_ptr_mem : ∀ (rest : Ctx) (fr : Fr) (sub : Sh), ∃ j ∈ ctxIdxs (fr :: rest), (plug sub (fr :: rest)).ptr = (j : Int) := by
  intro rest
  induction rest with
  | nil => intro fr sub; exact ⟨fr.idx, by simp [ctxIdxs_cons], by rw [plug_cons]; exact fill_ptr' fr sub⟩
  | cons f2 rest ih =>
    intro fr sub
    obtain ⟨j, hj, e⟩ := ih f2 (fr.fill sub)
    exact ⟨j, by rw [ctxIdxs_cons]; simp [hj], by rw [plug_cons]; exact e⟩

theorem idxs_fill_perm (fr : Fr) (rest : Ctx) (sub : Sh) :
    ((fr.fill sub).idxs ++ ctxIdxs rest).Perm (sub.idxs ++ ctxIdxs (fr :: rest)) := by
  cases fr with
  | L i r => simp [Fr.fill, Sh.idxs, ctxIdxs]
  | R l i =>
    simp only [Fr.fill, Sh.idxs, ctxIdxs, List.append_assoc, List.cons_append]
    have h1 : (l.idxs ++ i :: (sub.idxs ++ ctxIdxs rest)).Perm (i :: (l.idxs ++ (sub.idxs ++ ctxIdxs rest))) :=
      List.perm_middle
    have h2 : (sub.idxs ++ i :: (l.idxs ++ ctxIdxs rest)).Perm (i :: (sub.idxs ++ (l.idxs ++ ctxIdxs rest))) :=
      List.perm_middle
    refine h1.trans (List.Perm.trans ?_ h2.symm)
    refine List.Perm.cons i ?_
    rw [← List.append_assoc, ← List.append_assoc]
    exact List.Perm.append_right _ List.perm_append_comm

theorem idxs_plug_perm : ∀ (ctx : Ctx) (sub : Sh), (plug sub ctx).idxs.Perm (sub.idxs ++ ctxIdxs ctx) := by
  intro ctx
  induction ctx with
  | nil => intro sub; simp [plug, ctxIdxs]
  | cons fr rest ih =>
    intro sub
    rw [plug_cons]
    exact (ih (fr.fill sub)).trans (idxs_fill_perm fr rest sub)

theorem nodup_plug_iff (ctx : Ctx) (sub : Sh) :
    (plug sub ctx).idxs.Nodup ↔ (sub.idxs ++ ctxIdxs ctx).Nodup := (idxs_plug_perm ctx sub).nodup_iff

theorem mem_plug_iff (ctx : Ctx) (sub : Sh) (j : Nat) :
    j ∈ (plug sub ctx).idxs ↔ j ∈ sub.idxs ∨ j ∈ ctxIdxs ctx := by
  rw [(idxs_plug_perm ctx sub).mem_iff, List.mem_append]

theorem plug_ptr_ne (fr : Fr) (rest : Ctx) (sub : Sh) (i : Nat) (hi : i ∈ sub.idxs)
    (hN : (plug sub (fr :: rest)).idxs.Nodup) : (plug sub (fr :: rest)).ptr ≠ (i : Int) := by
  obtain ⟨j, hj, e⟩ := plug_ptr_mem rest fr sub
  have hnd := (nodup_plug_iff (fr :: rest) sub).mp hN
  intro h
  have : j = i := by rw [e] at h; omega
  exact (List.nodup_append.mp hnd).2.2 i hi j hj this.symm

theorem replug {N : List Int} {n : Nat} : ∀ (ctx : Ctx) (sub : Sh), Linked N n (ctxPar ctx) sub →
    CtxLinked N n sub.ptr ctx → Linked N n (-1) (plug sub ctx) := by
  intro ctx
  induction ctx with
  | nil => intro sub h _; exact h
  | cons fr rest ih =>
    intro sub h hc
    cases fr with
    | L i r =>
      obtain ⟨h1, h2, h3, h4, h5, h6, h7⟩ := hc
      exact ih (.node sub i r) ⟨h1, h2, h3, h5, h, h6⟩ h7
    | R l i =>
      obtain ⟨h1, h2, h3, h4, h5, h6, h7⟩ := hc
      exact ih (.node l i sub) ⟨h1, h2, h3, h5, h6, h⟩ h7

theorem frameRows_sublist : ∀ (ctx : Ctx), (ctx.map Fr.idx).Sublist (ctxIdxs ctx) := by
  intro ctx
  induction ctx with
  | nil => exact List.Sublist.slnil
  | cons fr rest ih =>
    rw [List.map_cons, ctxIdxs_cons]
    exact List.Sublist.cons_cons _ (ih.trans (List.sublist_append_right _ _))

theorem Sh.idxs_rot (d : Dir) (o : Sh) (t : Nat) (m : Sh) (c : Nat) (e : Sh) :
    (Sh.nodeD d (.nodeD d o t m) c e).idxs = (Sh.nodeD d o t (.nodeD d m c e)).idxs := by
  cases d <;> simp [Sh.nodeD, pickD, Sh.idxs]

theorem idxs_rotD (e : Dir) (a : Sh) (x : Nat) (b : Sh) (y : Nat) (c : Sh) (rest : Ctx) :
    (plug (Sh.nodeD e (Sh.nodeD e a x b) y c) rest).idxs = (plug (Sh.nodeD e a x (Sh.nodeD e b y c)) rest).idxs := by
  rw [idxs_plug, idxs_plug, Sh.idxs_rot]

/-- for a context `a ++ b` above the pointer `c`: the pointer of the child below the first frame of `b` -/
def lastPtr : Int → Ctx → Int
  | c, [] => c
  | _, fr :: rest => lastPtr (fr.idx : Int) rest

theorem CtxLinked.append {N : List Int} {n : Nat} : ∀ (a : Ctx) (c : Int) (b : Ctx), CtxLinked N n c (a ++ b) →
    CtxLinked N n (lastPtr c a) b := by
  intro a
  induction a with
  | nil => intro c b h; exact h
  | cons fr rest ih => intro c b h; exact ih _ _ h.step.2.2

theorem lastPtr_ok {N : List Int} {n : Nat} : ∀ (a : Ctx) (c : Int) (b : Ctx), CtxLinked N n c (a ++ b) → PtrOK n c →
    PtrOK n (lastPtr c a) := by
  intro a
  induction a with
  | nil => intro c b _ h; exact h
  | cons fr rest ih =>
    intro c b h _
    exact ih _ _ h.step.2.2 (by have := h.step.1; simp only [PtrOK]; omega)

theorem CtxLinked.kidsOK {N : List Int} {n : Nat} {c : Int} {fr : Fr} {rest : Ctx} (hc : CtxLinked N n c (fr :: rest))
    (hcp : PtrOK n c) (hn : 0 < n) : PtrOK n (nAt N fr.idx 1) ∧ PtrOK n (nAt N fr.idx 2) := by
  cases fr with
  | L p sib =>
    obtain ⟨_, h1, h2, _, _, hl, _⟩ := hc
    simp only [Fr.idx, h1, h2]
    exact ⟨hcp, hl.ptrOK hn⟩
  | R sib p =>
    obtain ⟨_, h1, h2, _, _, hl, _⟩ := hc
    simp only [Fr.idx, h1, h2]
    exact ⟨hl.ptrOK hn, hcp⟩

section tree
variable {α : Type}

inductive TFr (α : Type) where
  | L (n : Node α) (mx : α) (c : Bool) (r : Tree α) : TFr α
  | R (l : Tree α) (n : Node α) (mx : α) (c : Bool) : TFr α

def plugT : Tree α → List (TFr α) → Tree α
  | t, [] => t
  | t, .L n mx c r :: rest => plugT (.node t n mx c r) rest
  | t, .R l n mx c :: rest => plugT (.node l n mx c t) rest

def TFr.dir {α : Type} : TFr α → Dir
  | .L _ _ _ _ => .L
  | .R _ _ _ _ => .R

def TFr.mx : TFr α → α
  | .L _ mx _ _ => mx
  | .R _ _ mx _ => mx

def TFr.nd : TFr α → Node α
  | .L n _ _ _ => n
  | .R _ n _ _ => n

def TFr.col : TFr α → Bool
  | .L _ _ c _ => c
  | .R _ _ _ c => c

def TFr.sb : TFr α → Tree α
  | .L _ _ _ r => r
  | .R l _ _ _ => l

def TFr.setMx (m : α) : TFr α → TFr α
  | .L n _ c r => .L n m c r
  | .R l n _ c => .R l n m c

def TFr.setNd (nn : Node α) : TFr α → TFr α
  | .L _ mx c r => .L nn mx c r
  | .R l _ mx c => .R l nn mx c

/-- the stored maxima of the two children (left, right) of a frame's node, `cm` the one on the path side -/
def TFr.kids (S : α) (cm : α) : TFr α → α × α
  | .L _ _ _ r => (cm, mxOf S r)
  | .R l _ _ _ => (mxOf S l, cm)

def TFr.fill (t : Tree α) : TFr α → Tree α
  | .L n mx c r => .node t n mx c r
  | .R l n mx c => .node l n mx c t

theorem plugT_cons (t : Tree α) (fr : TFr α) (rest : List (TFr α)) :
    plugT t (fr :: rest) = plugT (fr.fill t) rest := by cases fr <;> rfl

theorem plugT_append (t : Tree α) : ∀ (a b : List (TFr α)), plugT t (a ++ b) = plugT (plugT t a) b := by
  intro a
  induction a generalizing t with
  | nil => intro b; rfl
  | cons fr rest ih => intro b; rw [List.cons_append, plugT_cons, plugT_cons, ih]

/-- the counterpart of `lastPtr` for the stored maxima (`mxAt_lastPtr`) -/
def lastMx : α → List (TFr α) → α
  | cm, [] => cm
  | _, fr :: rest => lastMx fr.mx rest

theorem mxOf_fill (S : α) (t : Tree α) (fr : TFr α) : mxOf S (fr.fill t) = fr.mx := by cases fr <;> rfl

theorem mxOf_plugT (S : α) : ∀ (fs : List (TFr α)) (t : Tree α), mxOf S (plugT t fs) = lastMx (mxOf S t) fs := by
  intro fs
  induction fs with
  | nil => intro t; rfl
  | cons fr rest ih => intro t; rw [plugT_cons, ih, mxOf_fill]; rfl

theorem atPath_append (f : Tree α → Tree α) : ∀ (p q : List Dir) (t : Tree α),
    atPath f (p ++ q) t = atPath (atPath f q) p t := by
  intro p
  induction p with
  | nil => intro q t; rfl
  | cons d p ih =>
    intro q t
    cases t with
    | nil => cases d <;> cases q <;> simp [atPath]
    | node l n mx c r => cases d <;> simp [atPath, ih]

theorem atPath_plugT {α : Type} [LT α] [DecidableLT α] [LE α] [DecidableLE α] :
    ∀ (tc : List (TFr α)) (f : Tree α → Tree α) (t : Tree α) (p : List Dir),
      p = (tc.map TFr.dir).reverse →
      atPath f p (plugT t tc) = plugT (f t) tc := by
  intro tc
  induction tc with
  | nil => intro f t p hp; subst hp; rfl
  | cons fr rest ih =>
    intro f t p hp
    subst hp
    cases fr with
    | L n mx c r =>
      simp only [List.map_cons, List.reverse_cons, plugT, TFr.dir]
      rw [atPath_append, ih (atPath f [Dir.L]) _ _ rfl]
      rfl
    | R l n mx c =>
      simp only [List.map_cons, List.reverse_cons, plugT, TFr.dir]
      rw [atPath_append, ih (atPath f [Dir.R]) _ _ rfl]
      rfl

theorem subAt_plugT {α : Type} [LT α] [DecidableLT α] [LE α] [DecidableLE α] : ∀ (tc : List (TFr α)) (t : Tree α),
    subAt ((tc.map TFr.dir).reverse) (plugT t tc) = t := by
  intro tc
  induction tc with
  | nil => intro t; rfl
  | cons fr rest ih =>
    intro t
    cases fr with
    | L n mx c r | R r n mx c =>
      simp only [List.map_cons, List.reverse_cons, plugT, TFr.dir]
      rw [subAt_append, ih]; rfl

end tree

end XrsVerif.ILVs
