import XrsVerif.Proofs.ILVsSweepDefs
/-
  The inlined `_calc_event_grad` / `_calc_dist_n_grad` of the generated sweep (templates
  `gradBody p`, `distBody p`): gradient `gradOf` of an elevation difference over a squared map distance, the key `keyF`.
-/
namespace XrsVerif.ILSw
open XrsVerif XrsVerif.IL
variable {F : Type} [Fl F]

/-- the gradient of a point at squared map distance `d2` with elevation difference `de`: `atan (de / sqrt d2)`, ±π/2 or 0
    at distance 0 -/
def gradOf (de d2 : F) : F :=
  if Fl.eq d2 (Fl.lit 0 1) = true then
    (if Fl.lt (Fl.lit 0 1) de = true then Fl.div piF (Fl.lit 2 1)
     else if Fl.lt de (Fl.lit 0 1) = true then Fl.div (Fl.neg piF) (Fl.lit 2 1) else Fl.lit 0 1)
  else Fl.atan (Fl.div de (Fl.sqrt d2))

def dist2F (dx dy : F) : F := Fl.add (Fl.mul dx dx) (Fl.mul dy dy)

/-- squared map distance of the event point `(row, col)` (numeric index coordinates) from the observer -/
def ptDist2 (row col : F) (vr vc : Int) (ew ns : F) : F :=
  dist2F (Fl.mul (Fl.sub col (Fl.lit vc 1)) ew) (Fl.mul (Fl.sub row (Fl.lit vr 1)) ns)

/-- `_calc_event_grad(row, col, elev, vr, vc, ve, ew, ns)` -/
def gradEventF (row col elev : F) (vr vc : Int) (ve ew ns : F) : F := gradOf (Fl.sub elev ve) (ptDist2 row col vr vc ew ns)

/-- the key of the cell `(r, c)`: `_calc_dist_n_grad`'s squared map distance -/
def keyF (r c vr vc : Int) (ew ns : F) : F :=
  dist2F (Fl.mul (Fl.lit (c - vc) 1) ew) (Fl.mul (Fl.lit (r - vr) 1) ns)

/-- the centre gradient of the cell `(r, c)` with elevation `elev` -/
def gradCellF (r c : Int) (elev : F) (vr vc : Int) (ve ew ns : F) : F := gradOf (Fl.sub elev ve) (keyF r c vr vc ew ns)

def gradEnv (p : String) (s : State F) : String → F :=
  let de := Fl.sub (s.fenv (p ++ "elev")) (s.fenv (p ++ "viewpoint_elev"))
  let dx := Fl.mul (Fl.sub (s.fenv (p ++ "col")) (Fl.lit (s.ienv (p ++ "viewpoint_col")) 1)) (s.fenv (p ++ "ew_res"))
  let dy := Fl.mul (Fl.sub (s.fenv (p ++ "row")) (Fl.lit (s.ienv (p ++ "viewpoint_row")) 1)) (s.fenv (p ++ "ns_res"))
  setS (setS (setS (setS (setS (setS s.fenv (p ++ "diff_elev") de) (p ++ "dx") dx) (p ++ "dy") dy)
    (p ++ "distance_to_viewpoint") (dist2F dx dy)) (p ++ "gradient") (gradOf de (dist2F dx dy))) (p ++ "ret0") (gradOf de (dist2F dx dy))

theorem gradEnv_apply (p : String) (s : State F) (v : String) :
    gradEnv p s v =
      let de := Fl.sub (s.fenv (p ++ "elev")) (s.fenv (p ++ "viewpoint_elev"))
      let dx := Fl.mul (Fl.sub (s.fenv (p ++ "col")) (Fl.lit (s.ienv (p ++ "viewpoint_col")) 1)) (s.fenv (p ++ "ew_res"))
      let dy := Fl.mul (Fl.sub (s.fenv (p ++ "row")) (Fl.lit (s.ienv (p ++ "viewpoint_row")) 1)) (s.fenv (p ++ "ns_res"))
      if v = p ++ "ret0" then gradOf de (dist2F dx dy)
      else if v = p ++ "gradient" then gradOf de (dist2F dx dy)
      else if v = p ++ "distance_to_viewpoint" then dist2F dx dy
      else if v = p ++ "dy" then dy else if v = p ++ "dx" then dx else if v = p ++ "diff_elev" then de else s.fenv v := by
  simp only [gradEnv, setS_apply]

theorem gradBody_exec (p : String) (s : State F) (fuel : Nat) (hs : s.ctl = .run) :
    exec fuel (gradBody p) s = { s with fenv := gradEnv p s, ctl := .ret } := by
  obtain ⟨ie, fe, be, ia, fa, shp, ext, ctl⟩ := s
  simp only at hs; subst hs
  simp only [gradEnv, dist2F]
  generalize hde : Fl.sub (fe (p ++ "elev")) (fe (p ++ "viewpoint_elev")) = de
  generalize hdx : Fl.mul (Fl.sub (fe (p ++ "col")) (Fl.lit (ie (p ++ "viewpoint_col")) 1)) (fe (p ++ "ew_res")) = dx
  generalize hdy : Fl.mul (Fl.sub (fe (p ++ "row")) (Fl.lit (ie (p ++ "viewpoint_row")) 1)) (fe (p ++ "ns_res")) = dy
  cases h1 : Fl.eq (Fl.add (Fl.mul dx dx) (Fl.mul dy dy)) (Fl.lit 0 1) <;> cases h2 : Fl.lt (Fl.lit 0 1) de <;> cases h3 : Fl.lt de (Fl.lit 0 1) <;>
  simp [il, gradBody, gradIte, dist2, gradOf, piF, hde, hdx, hdy, h1, h2, h3]

def distEnv (p : String) (s : State F) : String → F :=
  let de := Fl.sub (s.fenv (p ++ "elev")) (s.fenv (p ++ "viewpoint_elev"))
  let dx := Fl.mul (Fl.lit (s.ienv (p ++ "status_node_col") - s.ienv (p ++ "viewpoint_col")) 1) (s.fenv (p ++ "ew_res"))
  let dy := Fl.mul (Fl.lit (s.ienv (p ++ "status_node_row") - s.ienv (p ++ "viewpoint_row")) 1) (s.fenv (p ++ "ns_res"))
  setS (setS (setS (setS (setS (setS (setS s.fenv (p ++ "diff_elev") de) (p ++ "dx") dx) (p ++ "dy") dy)
    (p ++ "distance_to_viewpoint") (dist2F dx dy)) (p ++ "gradient") (gradOf de (dist2F dx dy)))
    (p ++ "ret0") (dist2F dx dy)) (p ++ "ret1") (gradOf de (dist2F dx dy))

theorem distEnv_apply (p : String) (s : State F) (v : String) :
    distEnv p s v =
      let de := Fl.sub (s.fenv (p ++ "elev")) (s.fenv (p ++ "viewpoint_elev"))
      let dx := Fl.mul (Fl.lit (s.ienv (p ++ "status_node_col") - s.ienv (p ++ "viewpoint_col")) 1) (s.fenv (p ++ "ew_res"))
      let dy := Fl.mul (Fl.lit (s.ienv (p ++ "status_node_row") - s.ienv (p ++ "viewpoint_row")) 1) (s.fenv (p ++ "ns_res"))
      if v = p ++ "ret1" then gradOf de (dist2F dx dy)
      else if v = p ++ "ret0" then dist2F dx dy
      else if v = p ++ "gradient" then gradOf de (dist2F dx dy)
      else if v = p ++ "distance_to_viewpoint" then dist2F dx dy
      else if v = p ++ "dy" then dy else if v = p ++ "dx" then dx else if v = p ++ "diff_elev" then de else s.fenv v := by
  simp only [distEnv, setS_apply]

theorem distBody_exec (p : String) (s : State F) (fuel : Nat) (hs : s.ctl = .run) :
    exec fuel (distBody p) s = { s with fenv := distEnv p s, ctl := .ret } := by
  obtain ⟨ie, fe, be, ia, fa, shp, ext, ctl⟩ := s
  simp only at hs; subst hs
  simp only [distEnv, dist2F]
  generalize hde : Fl.sub (fe (p ++ "elev")) (fe (p ++ "viewpoint_elev")) = de
  generalize hdx : Fl.mul (Fl.lit (ie (p ++ "status_node_col") - ie (p ++ "viewpoint_col")) 1) (fe (p ++ "ew_res")) = dx
  generalize hdy : Fl.mul (Fl.lit (ie (p ++ "status_node_row") - ie (p ++ "viewpoint_row")) 1) (fe (p ++ "ns_res")) = dy
  cases h1 : Fl.eq (Fl.add (Fl.mul dx dx) (Fl.mul dy dy)) (Fl.lit 0 1) <;> cases h2 : Fl.lt (Fl.lit 0 1) de <;> cases h3 : Fl.lt de (Fl.lit 0 1) <;>
  simp [il, distBody, gradIte, dist2, gradOf, piF, hde, hdx, hdy, h1, h2, h3]

end XrsVerif.ILSw
