import XrsVerif.Proofs.ILViewshedHeap
/-
  `Gen.IL.vsInsert` (`_insert_into_tree` with `_compare`, `_create_tree_nodes`, `_find_value_min_value`,
  `_rb_insert_fixup` and the rotations inlined) up to the colour fixup: the descent to the empty slot, the creation
  and linking of the new node, and the upward propagation of its minimum gradient compute the hand model's `leafInsert`
  (in the code-exact form `insCoreC`).  `vsInsert_body` ties the cut to the generated program by `rfl`; the fixup
  (`insFixup`: the recolouring loop with four inlined rotations) is in Proofs/ILViewshedFixIns.lean,
  Proofs/ILViewshedFixInsLoop.lean.

  The pure part comes first:
  * `insCoreC`     the hand model's `insCore` with the value that travels upwards being the child's *stored* maximum
                   (what the code compares with) instead of the fixed `minv` of the new node -- the same function on a
                   linear order (`insCoreC_eq`, Proofs/ILViewshedOrder.lean), the code's behaviour on any `Fl`;
  * the descent `insPathT` and the upward propagation `propT` on the zipper of the model tree, tied to `insCoreC` by
    `propT_insPathT`; the same on the arrays: `insZ` (the descent on shapes), and one step of the propagation
    (`SetMax`: one stored maximum is replaced).
-/
set_option linter.unusedSectionVars false
namespace XrsVerif.ILVs
open XrsVerif XrsVerif.IL XrsVerif.Viewshed
variable {F : Type} [Fl F]

section tree
variable {α : Type} [LT α] [DecidableLT α] [LE α] [DecidableLE α]

def leafT (nn : Node α) : Tree α := .node .nil nn (minv nn) true .nil

/-- `_insert_into_tree` up to the fixup, with the child's stored maximum travelling upwards: the new subtree and,
    while the propagation loop is still running, the stored maximum of its root -/
def insCoreC (nn : Node α) : Tree α → Tree α × Option α
  | .nil => (leafT nn, some (minv nn))
  | .node l n mx c r =>
    if nn.key < n.key then
      match insCoreC nn l with
      | (l', some cm) =>
        let mx' := if mx < cm then cm else mx
        (.node l' n mx' c r, if cm < mx' then none else some mx')
      | (l', none) => (.node l' n mx c r, none)
    else
      match insCoreC nn r with
      | (r', some cm) =>
        let mx' := if mx < cm then cm else mx
        (.node l n mx' c r', if cm < mx' then none else some mx')
      | (r', none) => (.node l n mx c r', none)

/-- the descent of the insertion: to the empty slot (equal keys go right) -/
def insPathT (K : α) : Tree α → List (TFr α) → List (TFr α)
  | .nil, c => c
  | .node l n mx col r, c =>
    if K < n.key then insPathT K l (.L n mx col r :: c) else insPathT K r (.R l n mx col :: c)

/-- the propagation loop, frame by frame: `some cm` = still running, `cm` the stored maximum of the subtree below -/
def propT : Option α → Tree α → List (TFr α) → Tree α
  | _, t, [] => t
  | none, t, fr :: rest => plugT t (fr :: rest)
  | some cm, t, .L n mx c r :: rest =>
    let mx' := if mx < cm then cm else mx
    propT (if cm < mx' then none else some mx') (.node t n mx' c r) rest
  | some cm, t, .R l n mx c :: rest =>
    let mx' := if mx < cm then cm else mx
    propT (if cm < mx' then none else some mx') (.node l n mx' c t) rest

theorem propT_none (t : Tree α) (c : List (TFr α)) : propT none t c = plugT t c := by
  cases c <;> rfl

theorem propT_insPathT (nn : Node α) : ∀ (t : Tree α) (c : List (TFr α)),
    propT (some (minv nn)) (leafT nn) (insPathT nn.key t c) = propT (insCoreC nn t).2 (insCoreC nn t).1 c := by
  intro t
  induction t with
  | nil => intro c; rfl
  | node l n mx col r ihl ihr =>
    intro c
    simp only [insPathT, insCoreC]
    split
    · rw [ihl]
      rcases h : insCoreC nn l with ⟨l', _ | cm⟩
      · simp [propT_none, propT, plugT]
      · simp [propT]
    · rw [ihr]
      rcases h : insCoreC nn r with ⟨r', _ | cm⟩
      · simp [propT_none, propT, plugT]
      · simp [propT]

end tree

section arrays
variable {F : Type} [Fl F]

def insZ (vals : List F) (K : Fv F) : Sh → Ctx → Ctx
  | .nil, c => c
  | .node l i r, c => if K < vAt vals i 0 then insZ vals K l (.L i r :: c) else insZ vals K r (.R l i :: c)

theorem insZ_plug (vals : List F) (K : Fv F) : ∀ (sh : Sh) (c : Ctx), plug .nil (insZ vals K sh c) = plug sh c := by
  intro sh
  induction sh with
  | nil => intro c; rfl
  | node l i r ihl ihr =>
    intro c
    simp only [insZ]
    split
    · rw [ihl]; rfl
    · rw [ihr]; rfl

theorem absCtx_insZ (V : List F) (N : List Int) (K : Fv F) : ∀ (sh : Sh) (c : Ctx),
    absCtx V N (insZ V K sh c) = insPathT K (absT V N sh) (absCtx V N c) := by
  intro sh
  induction sh with
  | nil => intro c; rfl
  | node l i r ihl ihr =>
    intro c
    simp only [insZ, absT, insPathT, nodeAt_key]
    by_cases h : K < vAt V i 0
    · simp only [h, if_true]; rw [ihl]; rfl
    · simp only [h, if_false]; rw [ihr]; rfl

theorem insZ_ne_nil (vals : List F) (K : Fv F) : ∀ (sh : Sh) (c : Ctx), (sh ≠ .nil ∨ c ≠ []) → insZ vals K sh c ≠ [] := by
  intro sh
  induction sh with
  | nil => intro c h; rcases h with h | h; exact absurd rfl h; simpa [insZ] using h
  | node l i r ihl ihr =>
    intro c _
    simp only [insZ]
    split
    · exact ihl _ (Or.inr (by simp))
    · exact ihr _ (Or.inr (by simp))

theorem insZ_last (V : List F) (K : Fv F) : ∀ (sh : Sh) (c : Ctx) (f : Fr) (rs : Ctx), insZ V K sh c = f :: rs → sh ≠ .nil →
    match f with
    | .L p _ => K < vAt V p 0
    | .R _ p => ¬ K < vAt V p 0 := by
  intro sh
  induction sh with
  | nil => intro c f rs _ h; exact absurd rfl h
  | node l0 i0 r0 ihl ihr =>
    intro c f rs h _
    simp only [insZ] at h
    by_cases hk : K < vAt V i0 0
    · simp only [hk, if_true] at h
      cases l0 with
      | nil => simp only [insZ, List.cons.injEq] at h; obtain ⟨rfl, _⟩ := h; exact hk
      | node a b c' => exact ihl _ f rs h (by simp)
    · simp only [hk, if_false] at h
      cases r0 with
      | nil => simp only [insZ, List.cons.injEq] at h; obtain ⟨rfl, _⟩ := h; exact hk
      | node a b c' => exact ihr _ f rs h (by simp)

/-- `V1` is `V` with the stored maximum of row `p` replaced by `m` -/
def SetMax (V V1 : List F) (p : Nat) (m : Fv F) : Prop :=
  (∀ i, i ≠ p → ∀ c, c < 8 → vAt V1 i c = vAt V i c) ∧ (∀ c, c < 7 → vAt V1 p c = vAt V p c) ∧ vAt V1 p 7 = m ∧
    V1.length = V.length

theorem SetMax.refl (V : List F) (p : Nat) : SetMax V V p (vAt V p 7) :=
  ⟨fun _ _ _ _ => rfl, fun _ _ => rfl, rfl, rfl⟩

theorem SetMax.set (V : List F) (p : Nat) (m : Fv F) (hp : p * 8 + 7 < V.length) : SetMax V (V.set (p * 8 + 7) m.v) p m := by
  refine ⟨fun i hi c hc => ?_, fun c hc => ?_, ?_, by simp⟩
  · rw [vAt_set _ _ _ _ _ _ (by decide) hc hp]; simp [hi]
  · rw [vAt_set _ _ _ _ _ _ (by decide) (by omega) hp]
    have : ¬ (c = 7) := by omega
    simp [this]
  · rw [vAt_set _ _ _ _ _ _ (by decide) (by decide) hp]; simp

theorem SetMax.nodeAt {V V1 : List F} {p : Nat} {m : Fv F} (h : SetMax V V1 p m) : nodeAt V1 p = nodeAt V p := by
  simp only [ILVs.nodeAt, h.2.1 0 (by decide), h.2.1 1 (by decide), h.2.1 2 (by decide), h.2.1 3 (by decide),
    h.2.1 4 (by decide), h.2.1 5 (by decide), h.2.1 6 (by decide)]

theorem SetMax.absT {V V1 : List F} {p : Nat} {m : Fv F} (h : SetMax V V1 p m) (N : List Int) (sub : Sh)
    (hp : p ∉ sub.idxs) : ILVs.absT V1 N sub = ILVs.absT V N sub :=
  absT_congr sub (fun i hi => ⟨fun c hc => h.1 i (fun e => hp (e ▸ hi)) c hc, rfl⟩)

theorem SetMax.absCtx {V V1 : List F} {p : Nat} {m : Fv F} (h : SetMax V V1 p m) (N : List Int) (ctx : Ctx)
    (hp : p ∉ ctxIdxs ctx) : ILVs.absCtx V1 N ctx = ILVs.absCtx V N ctx :=
  absCtx_congr ctx (fun i hi => ⟨fun c hc => h.1 i (fun e => hp (e ▸ hi)) c hc, rfl⟩)

theorem propT_frame {V V1 : List F} (N : List Int) (fr : Fr) (rest : Ctx) (sub : Sh) (cm : Fv F)
    (hn : (sub.idxs ++ ctxIdxs (fr :: rest)).Nodup)
    (h : SetMax V V1 fr.idx (if vAt V fr.idx 7 < cm then cm else vAt V fr.idx 7)) :
    propT (some cm) (absT V N sub) (absCtx V N (fr :: rest)) =
      propT (if cm < (if vAt V fr.idx 7 < cm then cm else vAt V fr.idx 7) then none
          else some (if vAt V fr.idx 7 < cm then cm else vAt V fr.idx 7))
        (absT V1 N (fr.fill sub)) (absCtx V1 N rest) := by
  have hnd := List.nodup_append.mp hn
  cases fr with
  | L p r =>
    have hnd2 := List.nodup_cons.mp (show (p :: (r.idxs ++ ctxIdxs rest)).Nodup from hnd.2.1)
    simp only [absCtx, List.map_cons, absFr, propT, Fr.fill, absT, Fr.idx] at h ⊢
    rw [h.nodeAt, h.absT N sub (fun hh => hnd.2.2 p hh p (by simp [ctxIdxs]) rfl), h.absT N r (fun hh => hnd2.1 (by simp [hh])),
      h.2.2.1, ← absCtx, ← absCtx, h.absCtx N rest (fun hh => hnd2.1 (by simp [hh]))]
    rfl
  | R l p =>
    have hnd2 := List.nodup_cons.mp (show (p :: (l.idxs ++ ctxIdxs rest)).Nodup from hnd.2.1)
    simp only [absCtx, List.map_cons, absFr, propT, Fr.fill, absT, Fr.idx] at h ⊢
    rw [h.nodeAt, h.absT N sub (fun hh => hnd.2.2 p hh p (by simp [ctxIdxs]) rfl), h.absT N l (fun hh => hnd2.1 (by simp [hh])),
      h.2.2.1, ← absCtx, ← absCtx, h.absCtx N rest (fun hh => hnd2.1 (by simp [hh]))]
    rfl

end arrays

def insDesc0Items : List St :=
  [(.setI "cur_node" (.var "root")),
   (.setF "_compare1$a" (.ld1 "value" (.lit 0))),
   (.setF "_compare1$b" (.ld2 "tree_vals" (.var "cur_node") (.lit 0))),
   (cmpScope "_compare1$a" "_compare1$b" "_compare1$ret0"),
   (.ite (.cmpI .eq (.var "_compare1$ret0") (.lit (-1))) (.setI "next_node" (.ld2 "tree_nodes" (.var "cur_node") (.lit 1))) (.setI "next_node" (.ld2 "tree_nodes" (.var "cur_node") (.lit 2))))]

def insDescBody : St :=
  (.seq (.setI "cur_node" (.var "next_node"))
  (.seq (.setF "_compare2$a" (.ld1 "value" (.lit 0)))
  (.seq (.setF "_compare2$b" (.ld2 "tree_vals" (.var "cur_node") (.lit 0)))
  (.seq (cmpScope "_compare2$a" "_compare2$b" "_compare2$ret0")
  (.ite (.cmpI .eq (.var "_compare2$ret0") (.lit (-1)))
    (.setI "next_node" (.ld2 "tree_nodes" (.var "cur_node") (.lit 1)))
    (.setI "next_node" (.ld2 "tree_nodes" (.var "cur_node") (.lit 2))))))))

def insDescLoop : St := .while (.cmpI .ne (.var "next_node") (.lit (-1))) insDescBody

def insCreateItems : List St :=
  [(.setI "_create_tree_nodes3$x" (.var "node_id")),
   (.setI "_create_tree_nodes3$color" (.lit 0)),
   (.scope (.seq (.stF2 "tree_vals" (.var "_create_tree_nodes3$x") (.lit 0) (.ld1 "value" (.lit 0))) (.seq (.stF2 "tree_vals" (.var "_create_tree_nodes3$x") (.lit 1) (.ld1 "value" (.lit 1))) (.seq (.stF2 "tree_vals" (.var "_create_tree_nodes3$x") (.lit 2) (.ld1 "value" (.lit 2))) (.seq (.stF2 "tree_vals" (.var "_create_tree_nodes3$x") (.lit 3) (.ld1 "value" (.lit 3))) (.seq (.stF2 "tree_vals" (.var "_create_tree_nodes3$x") (.lit 4) (.ld1 "value" (.lit 4))) (.seq (.stF2 "tree_vals" (.var "_create_tree_nodes3$x") (.lit 5) (.ld1 "value" (.lit 5))) (.seq (.stF2 "tree_vals" (.var "_create_tree_nodes3$x") (.lit 6) (.ld1 "value" (.lit 6))) (.seq (.stF2 "tree_vals" (.var "_create_tree_nodes3$x") (.lit 7) (.lit (-10000000000000000000000) 1)) (.seq (.stI2 "tree_nodes" (.var "_create_tree_nodes3$x") (.lit 0) (.var "_create_tree_nodes3$color")) (.seq (.stI2 "tree_nodes" (.var "_create_tree_nodes3$x") (.lit 1) (.lit (-1))) (.seq (.stI2 "tree_nodes" (.var "_create_tree_nodes3$x") (.lit 2) (.lit (-1))) (.seq (.stI2 "tree_nodes" (.var "_create_tree_nodes3$x") (.lit 3) (.lit (-1))) .ret)))))))))))))]

def insLinkItems : List St :=
  [(.setI "next_node" (.var "node_id")),
   (.stI2 "tree_nodes" (.var "next_node") (.lit 3) (.var "cur_node")),
   (.setF "_compare4$a" (.ld1 "value" (.lit 0))),
   (.setF "_compare4$b" (.ld2 "tree_vals" (.var "cur_node") (.lit 0))),
   (cmpScope "_compare4$a" "_compare4$b" "_compare4$ret0"),
   (.ite (.cmpI .eq (.var "_compare4$ret0") (.lit (-1))) (.stI2 "tree_nodes" (.var "cur_node") (.lit 1) (.var "next_node")) (.stI2 "tree_nodes" (.var "cur_node") (.lit 2) (.var "next_node"))),
   (.setI "inserted" (.var "next_node")),
   (.setI "_find_value_min_value5$node_id" (.var "next_node")),
   (minvScope "_find_value_min_value5$node_id" "_find_value_min_value5$ret0"),
   (.stF2 "tree_vals" (.var "next_node") (.lit 7) (.var "_find_value_min_value5$ret0"))]

def insPropBody : St :=
  (.seq (.setI "next_parent" (.ld2 "tree_nodes" (.var "next_node") (.lit 3)))
  (.seq (.ite (.cmpF .lt (.ld2 "tree_vals" (.var "next_parent") (.lit 7)) (.ld2 "tree_vals" (.var "next_node") (.lit 7)))
      (.stF2 "tree_vals" (.var "next_parent") (.lit 7) (.ld2 "tree_vals" (.var "next_node") (.lit 7)))
      .skip)
  (.seq (.ite (.cmpF .gt (.ld2 "tree_vals" (.var "next_parent") (.lit 7)) (.ld2 "tree_vals" (.var "next_node") (.lit 7)))
      .brk
      .skip)
  (.setI "next_node" (.var "next_parent")))))

def insPropLoop : St := .while (.cmpI .ne (.ld2 "tree_nodes" (.var "next_node") (.lit 3)) (.lit (-1))) insPropBody

def insFixup : St :=
  (.seq (.setI "_rb_insert_fixup6$root" (.var "root"))
  (.seq (.setI "_rb_insert_fixup6$z" (.var "inserted"))
  (.seq (.scope (.seq (.setI "_rb_insert_fixup6$z_parent" (.ld2 "tree_nodes" (.var "_rb_insert_fixup6$z") (.lit 3)))
      (.seq (.while (.cmpI .eq (.ld2 "tree_nodes" (.var "_rb_insert_fixup6$z_parent") (.lit 0)) (.lit 0))
          (.seq (.setI "_rb_insert_fixup6$z_parent_parent" (.ld2 "tree_nodes" (.var "_rb_insert_fixup6$z_parent") (.lit 3)))
          (.seq (.setI "_rb_insert_fixup6$n1" (.ld2 "tree_nodes" (.var "_rb_insert_fixup6$z") (.lit 3)))
          (.seq (.setI "_rb_insert_fixup6$n2" (.ld2 "tree_nodes" (.var "_rb_insert_fixup6$z_parent_parent") (.lit 1)))
          (.seq (.ite (.cmpI .eq (.var "_rb_insert_fixup6$n1") (.var "_rb_insert_fixup6$n2"))
              (.seq (.setI "_rb_insert_fixup6$y" (.ld2 "tree_nodes" (.var "_rb_insert_fixup6$z_parent_parent") (.lit 2)))
              (.ite (.cmpI .eq (.ld2 "tree_nodes" (.var "_rb_insert_fixup6$y") (.lit 0)) (.lit 0))
                (.seq (.stI2 "tree_nodes" (.var "_rb_insert_fixup6$z_parent") (.lit 0) (.lit 1))
                (.seq (.stI2 "tree_nodes" (.var "_rb_insert_fixup6$y") (.lit 0) (.lit 1))
                (.seq (.stI2 "tree_nodes" (.var "_rb_insert_fixup6$z_parent_parent") (.lit 0) (.lit 0))
                (.setI "_rb_insert_fixup6$z" (.var "_rb_insert_fixup6$z_parent_parent")))))
                (.seq (.ite (.cmpI .eq (.var "_rb_insert_fixup6$z") (.ld2 "tree_nodes" (.var "_rb_insert_fixup6$z_parent") (.lit 2)))
                    (.seq (.setI "_rb_insert_fixup6$z" (.var "_rb_insert_fixup6$z_parent"))
                    (.seq (.setI "_rb_insert_fixup6$_left_rotate7$root" (.var "_rb_insert_fixup6$root"))
                    (.seq (.setI "_rb_insert_fixup6$_left_rotate7$x" (.var "_rb_insert_fixup6$z"))
                    (.seq (.scope (.seq (.setI "_rb_insert_fixup6$_left_rotate7$y" (.ld2 "tree_nodes" (.var "_rb_insert_fixup6$_left_rotate7$x") (.lit 2)))
                        (.seq (.setI "_rb_insert_fixup6$_left_rotate7$x_left" (.ld2 "tree_nodes" (.var "_rb_insert_fixup6$_left_rotate7$x") (.lit 1)))
                        (.seq (.setI "_rb_insert_fixup6$_left_rotate7$y_left" (.ld2 "tree_nodes" (.var "_rb_insert_fixup6$_left_rotate7$y") (.lit 1)))
                        (.seq (selMax "_rb_insert_fixup6$_left_rotate7$tmp_max" (.ld2 "tree_vals" (.var "_rb_insert_fixup6$_left_rotate7$x_left") (.lit 7)) (.ld2 "tree_vals" (.var "_rb_insert_fixup6$_left_rotate7$y_left") (.lit 7)))
                        (.seq (.setI "_rb_insert_fixup6$_left_rotate7$_find_value_min_value8$node_id" (.var "_rb_insert_fixup6$_left_rotate7$x"))
                        (.seq (minvScope "_rb_insert_fixup6$_left_rotate7$_find_value_min_value8$node_id" "_rb_insert_fixup6$_left_rotate7$_find_value_min_value8$ret0")
                        (.seq (.setF "_rb_insert_fixup6$_left_rotate7$min_value" (.var "_rb_insert_fixup6$_left_rotate7$_find_value_min_value8$ret0"))
                        (.seq (stMax "tree_vals" (.var "_rb_insert_fixup6$_left_rotate7$x") (.lit 7) (.var "_rb_insert_fixup6$_left_rotate7$tmp_max") (.var "_rb_insert_fixup6$_left_rotate7$min_value"))
                        (.seq (.setI "_rb_insert_fixup6$_left_rotate7$y_right" (.ld2 "tree_nodes" (.var "_rb_insert_fixup6$_left_rotate7$y") (.lit 2)))
                        (.seq (selMax "_rb_insert_fixup6$_left_rotate7$tmp_max" (.ld2 "tree_vals" (.var "_rb_insert_fixup6$_left_rotate7$x") (.lit 7)) (.ld2 "tree_vals" (.var "_rb_insert_fixup6$_left_rotate7$y_right") (.lit 7)))
                        (.seq (.setI "_rb_insert_fixup6$_left_rotate7$_find_value_min_value9$node_id" (.var "_rb_insert_fixup6$_left_rotate7$y"))
                        (.seq (minvScope "_rb_insert_fixup6$_left_rotate7$_find_value_min_value9$node_id" "_rb_insert_fixup6$_left_rotate7$_find_value_min_value9$ret0")
                        (.seq (.setF "_rb_insert_fixup6$_left_rotate7$min_value" (.var "_rb_insert_fixup6$_left_rotate7$_find_value_min_value9$ret0"))
                        (.seq (stMax "tree_vals" (.var "_rb_insert_fixup6$_left_rotate7$y") (.lit 7) (.var "_rb_insert_fixup6$_left_rotate7$tmp_max") (.var "_rb_insert_fixup6$_left_rotate7$min_value"))
                        (.seq (.stI2 "tree_nodes" (.var "_rb_insert_fixup6$_left_rotate7$x") (.lit 2) (.ld2 "tree_nodes" (.var "_rb_insert_fixup6$_left_rotate7$y") (.lit 1)))
                        (.seq (.setI "_rb_insert_fixup6$_left_rotate7$y_left" (.ld2 "tree_nodes" (.var "_rb_insert_fixup6$_left_rotate7$y") (.lit 1)))
                        (.seq (.stI2 "tree_nodes" (.var "_rb_insert_fixup6$_left_rotate7$y_left") (.lit 3) (.var "_rb_insert_fixup6$_left_rotate7$x"))
                        (.seq (.stI2 "tree_nodes" (.var "_rb_insert_fixup6$_left_rotate7$y") (.lit 3) (.ld2 "tree_nodes" (.var "_rb_insert_fixup6$_left_rotate7$x") (.lit 3)))
                        (.seq (.ite (.cmpI .eq (.ld2 "tree_nodes" (.var "_rb_insert_fixup6$_left_rotate7$x") (.lit 3)) (.lit (-1)))
                            (.setI "_rb_insert_fixup6$_left_rotate7$root" (.var "_rb_insert_fixup6$_left_rotate7$y"))
                            (.seq (.setI "_rb_insert_fixup6$_left_rotate7$x_parent" (.ld2 "tree_nodes" (.var "_rb_insert_fixup6$_left_rotate7$x") (.lit 3)))
                            (.ite (.cmpI .eq (.var "_rb_insert_fixup6$_left_rotate7$x") (.ld2 "tree_nodes" (.var "_rb_insert_fixup6$_left_rotate7$x_parent") (.lit 1)))
                              (.stI2 "tree_nodes" (.var "_rb_insert_fixup6$_left_rotate7$x_parent") (.lit 1) (.var "_rb_insert_fixup6$_left_rotate7$y"))
                              (.stI2 "tree_nodes" (.var "_rb_insert_fixup6$_left_rotate7$x_parent") (.lit 2) (.var "_rb_insert_fixup6$_left_rotate7$y")))))
                        (.seq (.stI2 "tree_nodes" (.var "_rb_insert_fixup6$_left_rotate7$y") (.lit 1) (.var "_rb_insert_fixup6$_left_rotate7$x"))
                        (.seq (.stI2 "tree_nodes" (.var "_rb_insert_fixup6$_left_rotate7$x") (.lit 3) (.var "_rb_insert_fixup6$_left_rotate7$y"))
                        (.seq (.setI "_rb_insert_fixup6$_left_rotate7$ret0" (.var "_rb_insert_fixup6$_left_rotate7$root"))
                        .ret)))))))))))))))))))))))
                    (.setI "_rb_insert_fixup6$root" (.var "_rb_insert_fixup6$_left_rotate7$ret0"))))))
                    .skip)
                (.seq (.setI "_rb_insert_fixup6$z_parent" (.ld2 "tree_nodes" (.var "_rb_insert_fixup6$z") (.lit 3)))
                (.seq (.setI "_rb_insert_fixup6$z_parent_parent" (.ld2 "tree_nodes" (.var "_rb_insert_fixup6$z_parent") (.lit 3)))
                (.seq (.stI2 "tree_nodes" (.var "_rb_insert_fixup6$z_parent") (.lit 0) (.lit 1))
                (.seq (.stI2 "tree_nodes" (.var "_rb_insert_fixup6$z_parent_parent") (.lit 0) (.lit 0))
                (.seq (.setI "_rb_insert_fixup6$_right_rotate10$root" (.var "_rb_insert_fixup6$root"))
                (.seq (.setI "_rb_insert_fixup6$_right_rotate10$y" (.var "_rb_insert_fixup6$z_parent_parent"))
                (.seq (.scope (.seq (.setI "_rb_insert_fixup6$_right_rotate10$x" (.ld2 "tree_nodes" (.var "_rb_insert_fixup6$_right_rotate10$y") (.lit 1)))
                    (.seq (.setI "_rb_insert_fixup6$_right_rotate10$x_right" (.ld2 "tree_nodes" (.var "_rb_insert_fixup6$_right_rotate10$x") (.lit 2)))
                    (.seq (.setI "_rb_insert_fixup6$_right_rotate10$y_right" (.ld2 "tree_nodes" (.var "_rb_insert_fixup6$_right_rotate10$y") (.lit 2)))
                    (.seq (selMax "_rb_insert_fixup6$_right_rotate10$tmp_max" (.ld2 "tree_vals" (.var "_rb_insert_fixup6$_right_rotate10$x_right") (.lit 7)) (.ld2 "tree_vals" (.var "_rb_insert_fixup6$_right_rotate10$y_right") (.lit 7)))
                    (.seq (.setI "_rb_insert_fixup6$_right_rotate10$_find_value_min_value11$node_id" (.var "_rb_insert_fixup6$_right_rotate10$y"))
                    (.seq (minvScope "_rb_insert_fixup6$_right_rotate10$_find_value_min_value11$node_id" "_rb_insert_fixup6$_right_rotate10$_find_value_min_value11$ret0")
                    (.seq (.setF "_rb_insert_fixup6$_right_rotate10$min_value" (.var "_rb_insert_fixup6$_right_rotate10$_find_value_min_value11$ret0"))
                    (.seq (stMax "tree_vals" (.var "_rb_insert_fixup6$_right_rotate10$y") (.lit 7) (.var "_rb_insert_fixup6$_right_rotate10$tmp_max") (.var "_rb_insert_fixup6$_right_rotate10$min_value"))
                    (.seq (.setI "_rb_insert_fixup6$_right_rotate10$x_left" (.ld2 "tree_nodes" (.var "_rb_insert_fixup6$_right_rotate10$x") (.lit 1)))
                    (.seq (selMax "_rb_insert_fixup6$_right_rotate10$tmp_max" (.ld2 "tree_vals" (.var "_rb_insert_fixup6$_right_rotate10$x_left") (.lit 7)) (.ld2 "tree_vals" (.var "_rb_insert_fixup6$_right_rotate10$y") (.lit 7)))
                    (.seq (.setI "_rb_insert_fixup6$_right_rotate10$_find_value_min_value12$node_id" (.var "_rb_insert_fixup6$_right_rotate10$x"))
                    (.seq (minvScope "_rb_insert_fixup6$_right_rotate10$_find_value_min_value12$node_id" "_rb_insert_fixup6$_right_rotate10$_find_value_min_value12$ret0")
                    (.seq (.setF "_rb_insert_fixup6$_right_rotate10$min_value" (.var "_rb_insert_fixup6$_right_rotate10$_find_value_min_value12$ret0"))
                    (.seq (stMax "tree_vals" (.var "_rb_insert_fixup6$_right_rotate10$x") (.lit 7) (.var "_rb_insert_fixup6$_right_rotate10$tmp_max") (.var "_rb_insert_fixup6$_right_rotate10$min_value"))
                    (.seq (.stI2 "tree_nodes" (.var "_rb_insert_fixup6$_right_rotate10$y") (.lit 1) (.ld2 "tree_nodes" (.var "_rb_insert_fixup6$_right_rotate10$x") (.lit 2)))
                    (.seq (.setI "_rb_insert_fixup6$_right_rotate10$x_right" (.ld2 "tree_nodes" (.var "_rb_insert_fixup6$_right_rotate10$x") (.lit 2)))
                    (.seq (.stI2 "tree_nodes" (.var "_rb_insert_fixup6$_right_rotate10$x_right") (.lit 3) (.var "_rb_insert_fixup6$_right_rotate10$y"))
                    (.seq (.stI2 "tree_nodes" (.var "_rb_insert_fixup6$_right_rotate10$x") (.lit 3) (.ld2 "tree_nodes" (.var "_rb_insert_fixup6$_right_rotate10$y") (.lit 3)))
                    (.seq (.ite (.cmpI .eq (.ld2 "tree_nodes" (.var "_rb_insert_fixup6$_right_rotate10$y") (.lit 3)) (.lit (-1)))
                        (.setI "_rb_insert_fixup6$_right_rotate10$root" (.var "_rb_insert_fixup6$_right_rotate10$x"))
                        (.seq (.setI "_rb_insert_fixup6$_right_rotate10$y_parent" (.ld2 "tree_nodes" (.var "_rb_insert_fixup6$_right_rotate10$y") (.lit 3)))
                        (.ite (.cmpI .eq (.ld2 "tree_nodes" (.var "_rb_insert_fixup6$_right_rotate10$y_parent") (.lit 1)) (.var "_rb_insert_fixup6$_right_rotate10$y"))
                          (.stI2 "tree_nodes" (.var "_rb_insert_fixup6$_right_rotate10$y_parent") (.lit 1) (.var "_rb_insert_fixup6$_right_rotate10$x"))
                          (.stI2 "tree_nodes" (.var "_rb_insert_fixup6$_right_rotate10$y_parent") (.lit 2) (.var "_rb_insert_fixup6$_right_rotate10$x")))))
                    (.seq (.stI2 "tree_nodes" (.var "_rb_insert_fixup6$_right_rotate10$x") (.lit 2) (.var "_rb_insert_fixup6$_right_rotate10$y"))
                    (.seq (.stI2 "tree_nodes" (.var "_rb_insert_fixup6$_right_rotate10$y") (.lit 3) (.var "_rb_insert_fixup6$_right_rotate10$x"))
                    (.seq (.setI "_rb_insert_fixup6$_right_rotate10$ret0" (.var "_rb_insert_fixup6$_right_rotate10$root"))
                    .ret)))))))))))))))))))))))
                (.setI "_rb_insert_fixup6$root" (.var "_rb_insert_fixup6$_right_rotate10$ret0"))))))))))))
              (.seq (.setI "_rb_insert_fixup6$y" (.ld2 "tree_nodes" (.var "_rb_insert_fixup6$z_parent_parent") (.lit 1)))
              (.ite (.cmpI .eq (.ld2 "tree_nodes" (.var "_rb_insert_fixup6$y") (.lit 0)) (.lit 0))
                (.seq (.stI2 "tree_nodes" (.var "_rb_insert_fixup6$z_parent") (.lit 0) (.lit 1))
                (.seq (.stI2 "tree_nodes" (.var "_rb_insert_fixup6$y") (.lit 0) (.lit 1))
                (.seq (.stI2 "tree_nodes" (.var "_rb_insert_fixup6$z_parent_parent") (.lit 0) (.lit 0))
                (.setI "_rb_insert_fixup6$z" (.var "_rb_insert_fixup6$z_parent_parent")))))
                (.seq (.ite (.cmpI .eq (.var "_rb_insert_fixup6$z") (.ld2 "tree_nodes" (.var "_rb_insert_fixup6$z_parent") (.lit 1)))
                    (.seq (.setI "_rb_insert_fixup6$z" (.var "_rb_insert_fixup6$z_parent"))
                    (.seq (.setI "_rb_insert_fixup6$_right_rotate13$root" (.var "_rb_insert_fixup6$root"))
                    (.seq (.setI "_rb_insert_fixup6$_right_rotate13$y" (.var "_rb_insert_fixup6$z"))
                    (.seq (.scope (.seq (.setI "_rb_insert_fixup6$_right_rotate13$x" (.ld2 "tree_nodes" (.var "_rb_insert_fixup6$_right_rotate13$y") (.lit 1)))
                        (.seq (.setI "_rb_insert_fixup6$_right_rotate13$x_right" (.ld2 "tree_nodes" (.var "_rb_insert_fixup6$_right_rotate13$x") (.lit 2)))
                        (.seq (.setI "_rb_insert_fixup6$_right_rotate13$y_right" (.ld2 "tree_nodes" (.var "_rb_insert_fixup6$_right_rotate13$y") (.lit 2)))
                        (.seq (selMax "_rb_insert_fixup6$_right_rotate13$tmp_max" (.ld2 "tree_vals" (.var "_rb_insert_fixup6$_right_rotate13$x_right") (.lit 7)) (.ld2 "tree_vals" (.var "_rb_insert_fixup6$_right_rotate13$y_right") (.lit 7)))
                        (.seq (.setI "_rb_insert_fixup6$_right_rotate13$_find_value_min_value14$node_id" (.var "_rb_insert_fixup6$_right_rotate13$y"))
                        (.seq (minvScope "_rb_insert_fixup6$_right_rotate13$_find_value_min_value14$node_id" "_rb_insert_fixup6$_right_rotate13$_find_value_min_value14$ret0")
                        (.seq (.setF "_rb_insert_fixup6$_right_rotate13$min_value" (.var "_rb_insert_fixup6$_right_rotate13$_find_value_min_value14$ret0"))
                        (.seq (stMax "tree_vals" (.var "_rb_insert_fixup6$_right_rotate13$y") (.lit 7) (.var "_rb_insert_fixup6$_right_rotate13$tmp_max") (.var "_rb_insert_fixup6$_right_rotate13$min_value"))
                        (.seq (.setI "_rb_insert_fixup6$_right_rotate13$x_left" (.ld2 "tree_nodes" (.var "_rb_insert_fixup6$_right_rotate13$x") (.lit 1)))
                        (.seq (selMax "_rb_insert_fixup6$_right_rotate13$tmp_max" (.ld2 "tree_vals" (.var "_rb_insert_fixup6$_right_rotate13$x_left") (.lit 7)) (.ld2 "tree_vals" (.var "_rb_insert_fixup6$_right_rotate13$y") (.lit 7)))
                        (.seq (.setI "_rb_insert_fixup6$_right_rotate13$_find_value_min_value15$node_id" (.var "_rb_insert_fixup6$_right_rotate13$x"))
                        (.seq (minvScope "_rb_insert_fixup6$_right_rotate13$_find_value_min_value15$node_id" "_rb_insert_fixup6$_right_rotate13$_find_value_min_value15$ret0")
                        (.seq (.setF "_rb_insert_fixup6$_right_rotate13$min_value" (.var "_rb_insert_fixup6$_right_rotate13$_find_value_min_value15$ret0"))
                        (.seq (stMax "tree_vals" (.var "_rb_insert_fixup6$_right_rotate13$x") (.lit 7) (.var "_rb_insert_fixup6$_right_rotate13$tmp_max") (.var "_rb_insert_fixup6$_right_rotate13$min_value"))
                        (.seq (.stI2 "tree_nodes" (.var "_rb_insert_fixup6$_right_rotate13$y") (.lit 1) (.ld2 "tree_nodes" (.var "_rb_insert_fixup6$_right_rotate13$x") (.lit 2)))
                        (.seq (.setI "_rb_insert_fixup6$_right_rotate13$x_right" (.ld2 "tree_nodes" (.var "_rb_insert_fixup6$_right_rotate13$x") (.lit 2)))
                        (.seq (.stI2 "tree_nodes" (.var "_rb_insert_fixup6$_right_rotate13$x_right") (.lit 3) (.var "_rb_insert_fixup6$_right_rotate13$y"))
                        (.seq (.stI2 "tree_nodes" (.var "_rb_insert_fixup6$_right_rotate13$x") (.lit 3) (.ld2 "tree_nodes" (.var "_rb_insert_fixup6$_right_rotate13$y") (.lit 3)))
                        (.seq (.ite (.cmpI .eq (.ld2 "tree_nodes" (.var "_rb_insert_fixup6$_right_rotate13$y") (.lit 3)) (.lit (-1)))
                            (.setI "_rb_insert_fixup6$_right_rotate13$root" (.var "_rb_insert_fixup6$_right_rotate13$x"))
                            (.seq (.setI "_rb_insert_fixup6$_right_rotate13$y_parent" (.ld2 "tree_nodes" (.var "_rb_insert_fixup6$_right_rotate13$y") (.lit 3)))
                            (.ite (.cmpI .eq (.ld2 "tree_nodes" (.var "_rb_insert_fixup6$_right_rotate13$y_parent") (.lit 1)) (.var "_rb_insert_fixup6$_right_rotate13$y"))
                              (.stI2 "tree_nodes" (.var "_rb_insert_fixup6$_right_rotate13$y_parent") (.lit 1) (.var "_rb_insert_fixup6$_right_rotate13$x"))
                              (.stI2 "tree_nodes" (.var "_rb_insert_fixup6$_right_rotate13$y_parent") (.lit 2) (.var "_rb_insert_fixup6$_right_rotate13$x")))))
                        (.seq (.stI2 "tree_nodes" (.var "_rb_insert_fixup6$_right_rotate13$x") (.lit 2) (.var "_rb_insert_fixup6$_right_rotate13$y"))
                        (.seq (.stI2 "tree_nodes" (.var "_rb_insert_fixup6$_right_rotate13$y") (.lit 3) (.var "_rb_insert_fixup6$_right_rotate13$x"))
                        (.seq (.setI "_rb_insert_fixup6$_right_rotate13$ret0" (.var "_rb_insert_fixup6$_right_rotate13$root"))
                        .ret)))))))))))))))))))))))
                    (.setI "_rb_insert_fixup6$root" (.var "_rb_insert_fixup6$_right_rotate13$ret0"))))))
                    .skip)
                (.seq (.setI "_rb_insert_fixup6$z_parent" (.ld2 "tree_nodes" (.var "_rb_insert_fixup6$z") (.lit 3)))
                (.seq (.setI "_rb_insert_fixup6$z_parent_parent" (.ld2 "tree_nodes" (.var "_rb_insert_fixup6$z_parent") (.lit 3)))
                (.seq (.stI2 "tree_nodes" (.var "_rb_insert_fixup6$z_parent") (.lit 0) (.lit 1))
                (.seq (.stI2 "tree_nodes" (.var "_rb_insert_fixup6$z_parent_parent") (.lit 0) (.lit 0))
                (.seq (.setI "_rb_insert_fixup6$_left_rotate16$root" (.var "_rb_insert_fixup6$root"))
                (.seq (.setI "_rb_insert_fixup6$_left_rotate16$x" (.var "_rb_insert_fixup6$z_parent_parent"))
                (.seq (.scope (.seq (.setI "_rb_insert_fixup6$_left_rotate16$y" (.ld2 "tree_nodes" (.var "_rb_insert_fixup6$_left_rotate16$x") (.lit 2)))
                    (.seq (.setI "_rb_insert_fixup6$_left_rotate16$x_left" (.ld2 "tree_nodes" (.var "_rb_insert_fixup6$_left_rotate16$x") (.lit 1)))
                    (.seq (.setI "_rb_insert_fixup6$_left_rotate16$y_left" (.ld2 "tree_nodes" (.var "_rb_insert_fixup6$_left_rotate16$y") (.lit 1)))
                    (.seq (selMax "_rb_insert_fixup6$_left_rotate16$tmp_max" (.ld2 "tree_vals" (.var "_rb_insert_fixup6$_left_rotate16$x_left") (.lit 7)) (.ld2 "tree_vals" (.var "_rb_insert_fixup6$_left_rotate16$y_left") (.lit 7)))
                    (.seq (.setI "_rb_insert_fixup6$_left_rotate16$_find_value_min_value17$node_id" (.var "_rb_insert_fixup6$_left_rotate16$x"))
                    (.seq (minvScope "_rb_insert_fixup6$_left_rotate16$_find_value_min_value17$node_id" "_rb_insert_fixup6$_left_rotate16$_find_value_min_value17$ret0")
                    (.seq (.setF "_rb_insert_fixup6$_left_rotate16$min_value" (.var "_rb_insert_fixup6$_left_rotate16$_find_value_min_value17$ret0"))
                    (.seq (stMax "tree_vals" (.var "_rb_insert_fixup6$_left_rotate16$x") (.lit 7) (.var "_rb_insert_fixup6$_left_rotate16$tmp_max") (.var "_rb_insert_fixup6$_left_rotate16$min_value"))
                    (.seq (.setI "_rb_insert_fixup6$_left_rotate16$y_right" (.ld2 "tree_nodes" (.var "_rb_insert_fixup6$_left_rotate16$y") (.lit 2)))
                    (.seq (selMax "_rb_insert_fixup6$_left_rotate16$tmp_max" (.ld2 "tree_vals" (.var "_rb_insert_fixup6$_left_rotate16$x") (.lit 7)) (.ld2 "tree_vals" (.var "_rb_insert_fixup6$_left_rotate16$y_right") (.lit 7)))
                    (.seq (.setI "_rb_insert_fixup6$_left_rotate16$_find_value_min_value18$node_id" (.var "_rb_insert_fixup6$_left_rotate16$y"))
                    (.seq (minvScope "_rb_insert_fixup6$_left_rotate16$_find_value_min_value18$node_id" "_rb_insert_fixup6$_left_rotate16$_find_value_min_value18$ret0")
                    (.seq (.setF "_rb_insert_fixup6$_left_rotate16$min_value" (.var "_rb_insert_fixup6$_left_rotate16$_find_value_min_value18$ret0"))
                    (.seq (stMax "tree_vals" (.var "_rb_insert_fixup6$_left_rotate16$y") (.lit 7) (.var "_rb_insert_fixup6$_left_rotate16$tmp_max") (.var "_rb_insert_fixup6$_left_rotate16$min_value"))
                    (.seq (.stI2 "tree_nodes" (.var "_rb_insert_fixup6$_left_rotate16$x") (.lit 2) (.ld2 "tree_nodes" (.var "_rb_insert_fixup6$_left_rotate16$y") (.lit 1)))
                    (.seq (.setI "_rb_insert_fixup6$_left_rotate16$y_left" (.ld2 "tree_nodes" (.var "_rb_insert_fixup6$_left_rotate16$y") (.lit 1)))
                    (.seq (.stI2 "tree_nodes" (.var "_rb_insert_fixup6$_left_rotate16$y_left") (.lit 3) (.var "_rb_insert_fixup6$_left_rotate16$x"))
                    (.seq (.stI2 "tree_nodes" (.var "_rb_insert_fixup6$_left_rotate16$y") (.lit 3) (.ld2 "tree_nodes" (.var "_rb_insert_fixup6$_left_rotate16$x") (.lit 3)))
                    (.seq (.ite (.cmpI .eq (.ld2 "tree_nodes" (.var "_rb_insert_fixup6$_left_rotate16$x") (.lit 3)) (.lit (-1)))
                        (.setI "_rb_insert_fixup6$_left_rotate16$root" (.var "_rb_insert_fixup6$_left_rotate16$y"))
                        (.seq (.setI "_rb_insert_fixup6$_left_rotate16$x_parent" (.ld2 "tree_nodes" (.var "_rb_insert_fixup6$_left_rotate16$x") (.lit 3)))
                        (.ite (.cmpI .eq (.var "_rb_insert_fixup6$_left_rotate16$x") (.ld2 "tree_nodes" (.var "_rb_insert_fixup6$_left_rotate16$x_parent") (.lit 1)))
                          (.stI2 "tree_nodes" (.var "_rb_insert_fixup6$_left_rotate16$x_parent") (.lit 1) (.var "_rb_insert_fixup6$_left_rotate16$y"))
                          (.stI2 "tree_nodes" (.var "_rb_insert_fixup6$_left_rotate16$x_parent") (.lit 2) (.var "_rb_insert_fixup6$_left_rotate16$y")))))
                    (.seq (.stI2 "tree_nodes" (.var "_rb_insert_fixup6$_left_rotate16$y") (.lit 1) (.var "_rb_insert_fixup6$_left_rotate16$x"))
                    (.seq (.stI2 "tree_nodes" (.var "_rb_insert_fixup6$_left_rotate16$x") (.lit 3) (.var "_rb_insert_fixup6$_left_rotate16$y"))
                    (.seq (.setI "_rb_insert_fixup6$_left_rotate16$ret0" (.var "_rb_insert_fixup6$_left_rotate16$root"))
                    .ret)))))))))))))))))))))))
                (.setI "_rb_insert_fixup6$root" (.var "_rb_insert_fixup6$_left_rotate16$ret0")))))))))))))
          (.setI "_rb_insert_fixup6$z_parent" (.ld2 "tree_nodes" (.var "_rb_insert_fixup6$z") (.lit 3))))))))
      (.seq (.stI2 "tree_nodes" (.var "_rb_insert_fixup6$root") (.lit 0) (.lit 1))
      (.seq (.setI "_rb_insert_fixup6$ret0" (.var "_rb_insert_fixup6$root")) .ret)))))
  (.seq (.setI "root" (.var "_rb_insert_fixup6$ret0")) (.seq (.setI "ret0" (.var "root")) .ret)))))

theorem vsInsert_body : Gen.IL.vsInsert.body =
    seqK insDesc0Items (.seq insDescLoop (seqK insCreateItems (seqK insLinkItems (.seq insPropLoop insFixup)))) := rfl

/-- the parameter `value` (a 1-D array of at least the seven node fields) -/
structure VVal (s : State F) (m : Nat) : Prop where
  shp : s.shp "value" = [m]
  len : (s.fa "value").length = m
  big : 7 ≤ m

/-- `value[k]` -/
def valAt (s : State F) (k : Nat) : Fv F := ⟨(s.fa "value").getD k Fl.nan⟩

def valNode (s : State F) : Node (Fv F) :=
  ⟨valAt s 0, valAt s 1, valAt s 2, valAt s 3, valAt s 4, valAt s 5, valAt s 6⟩

theorem evalVal (s : State F) (m : Nat) (hs : s.shp "value" = [m]) (k : Int) (hk : 0 ≤ k) :
    FE.eval s (.ld1 "value" (.lit k)) = (valAt s k.toNat).v := by
  obtain ⟨j, rfl⟩ := Int.eq_ofNat_of_zero_le hk
  simp only [FE.eval, IE.eval, hs, valAt, Int.toNat_natCast, off1_nat]

theorem okVal (s : State F) (m : Nat) (hs : s.shp "value" = [m]) (k : Int) (hk : 0 ≤ k ∧ k < m) :
    FE.ok s (.ld1 "value" (.lit k)) = true := by
  obtain ⟨j, rfl⟩ := Int.eq_ofNat_of_zero_le hk.1
  simp [il, hs, inRange_of_lt j m (by omega)]

theorem cmp3_neg_one (a b : F) : cmp3 a b = -1 ↔ Fl.lt a b = true := by
  unfold cmp3
  by_cases h1 : Fl.lt a b = true
  · simp [h1]
  · by_cases h2 : Fl.lt b a = true <;> simp [h1, h2]

def insDiv : List String := ["cur_node", "next_node", "_compare1$ret0", "_compare2$ret0"]
def insDfv : List String := ["_compare1$a", "_compare1$b", "_compare2$a", "_compare2$b"]

/-- one step of the descent, for the variables of either copy: `cur_node = src`, `_compare(value[0], key of cur_node)`,
    `next_node` = the left child if below, else the right child -/
def descStep (src a b r : String) : St :=
  (.seq (.setI "cur_node" (.var src))
  (.seq (.setF a (.ld1 "value" (.lit 0)))
  (.seq (.setF b (.ld2 "tree_vals" (.var "cur_node") (.lit 0)))
  (.seq (cmpScope a b r)
  (.ite (.cmpI .eq (.var r) (.lit (-1)))
    (.setI "next_node" (.ld2 "tree_nodes" (.var "cur_node") (.lit 1)))
    (.setI "next_node" (.ld2 "tree_nodes" (.var "cur_node") (.lit 2))))))))

theorem insDescBody_eq : insDescBody = descStep "next_node" "_compare2$a" "_compare2$b" "_compare2$ret0" := rfl

theorem insDesc0_eq : seqL insDesc0Items = descStep "root" "_compare1$a" "_compare1$b" "_compare1$ret0" := rfl

theorem descStep_spec (src a b r : String) (hab : a ≠ b) (hr : r ≠ "cur_node") (n m fuel : Nat) (s : State F) (hv : VS s n)
    (hm : VVal s m) (hrun : s.ctl = .run) (i : Nat) (hi : i + 1 < n) (hsrc : s.ienv src = i) :
    let q := exec fuel (descStep src a b r) s
    q.ctl = .run ∧ Frame ["cur_node", "next_node", r] [a, b] [] s q ∧ q.ienv "cur_node" = i ∧
      q.ienv "next_node" = (if valAt s 0 < vAt (s.fa "tree_vals") i 0 then nAt (s.ia "tree_nodes") i 1
        else nAt (s.ia "tree_nodes") i 2) := by
  have eN := fun (s' : State F) => evalN s' n
  have oN := fun (s' : State F) => okN s' n
  have eV := fun (s' : State F) => evalV s' n
  have oV := fun (s' : State F) => okV s' n
  have eA := fun (s' : State F) => evalVal s' m
  have oA := fun (s' : State F) => okVal s' m
  have hin : inRange (i : Int) n = true := inRange_ptr n _ (by omega) hv.pos
  have hm0 : (0 : Int) < m ∧ 0 < m := by have := hm.big; omega
  have eA0 : ∀ (s' : State F), s'.fa = s.fa → valAt s' 0 = valAt s 0 := fun s' e => by simp only [valAt, e]
  intro q
  have hfr : ∀ (q' : State F), q'.ia = s.ia → q'.fa = s.fa → q'.shp = s.shp → q'.ext = s.ext → q'.benv = s.benv →
      (∀ v, v ∉ ["cur_node", "next_node", r] → q'.ienv v = s.ienv v) → (∀ v, v ∉ [a, b] → q'.fenv v = s.fenv v) →
      Frame ["cur_node", "next_node", r] [a, b] [] s q' :=
    fun q' h1 h2 h3 h4 h5 h6 h7 => ⟨h1, h2, h3, h4, h6, h7, fun _ _ => by rw [h5]⟩
  by_cases h1 : Fl.lt (valAt s 0).v (vAt (s.fa "tree_vals") i 0).v = true
  · have h1' : valAt s 0 < vAt (s.fa "tree_vals") i 0 := h1
    simp [q, descStep, exec, cmpScope_spec, eN, oN, eV, oV, eA, oA, eA0, hv.shpN, hv.shpV, hm.shp, hm0, hsrc, hin,
      IE.ok_var, IE.eval_var, IE.ok_lit, IE.eval_lit, BE.ok, BE.eval, cmpInt, setS, hrun,
      (cmp3_neg_one _ _).mpr h1, h1', hab, hr.symm]
    apply hfr <;> try rfl
    all_goals intro v hv'
    all_goals simp only [List.mem_cons, List.not_mem_nil, or_false, not_or] at hv'
    all_goals simp [setS, hv']
  · have h1' : ¬ valAt s 0 < vAt (s.fa "tree_vals") i 0 := h1
    have hc : ¬ (cmp3 (valAt s 0).v (vAt (s.fa "tree_vals") i 0).v = -1) := fun e => h1 ((cmp3_neg_one _ _).mp e)
    simp [q, descStep, exec, cmpScope_spec, eN, oN, eV, oV, eA, oA, eA0, hv.shpN, hv.shpV, hm.shp, hm0, hsrc, hin,
      IE.ok_var, IE.eval_var, IE.ok_lit, IE.eval_lit, BE.ok, BE.eval, cmpInt, setS, hrun, hc, h1',
      hab, hr.symm]
    apply hfr <;> try rfl
    all_goals intro v hv'
    all_goals simp only [List.mem_cons, List.not_mem_nil, or_false, not_or] at hv'
    all_goals simp [setS, hv']

/-- the loop of the descent, entered with `next_node` at the root of the subtree at a position: `cur_node` ends at the
    node below which the new key belongs -/
theorem insDescLoop_spec (n m : Nat) (sub : Sh) (ctx : Ctx) (fuel : Nat) (s : State F) (hv : VS s n) (hm : VVal s m)
    (hrun : s.ctl = .run) (hl : Linked (s.ia "tree_nodes") n (ctxPar ctx) sub) (hnext : s.ienv "next_node" = sub.ptr)
    (hcur : s.ienv "cur_node" = ctxPar ctx) (hf : sub.height < fuel) :
    let r := exec fuel insDescLoop s
    r.ctl = .run ∧ Frame insDiv insDfv [] s r ∧
      r.ienv "cur_node" = ctxPar (insZ (s.fa "tree_vals") (valAt s 0) sub ctx) := by
  refine while_rule (.cmpI .ne (.var "next_node") (.lit (-1))) insDescBody
    (fun k t => ∃ (sub' : Sh) (ctx' : Ctx), sub'.height = k ∧ t.ctl = .run ∧ Frame insDiv insDfv [] s t ∧
      Linked (s.ia "tree_nodes") n (ctxPar ctx') sub' ∧ t.ienv "next_node" = sub'.ptr ∧ t.ienv "cur_node" = ctxPar ctx' ∧
      insZ (s.fa "tree_vals") (valAt s 0) sub' ctx' = insZ (s.fa "tree_vals") (valAt s 0) sub ctx)
    (fun t => t.ctl = .run ∧ Frame insDiv insDfv [] s t ∧
      t.ienv "cur_node" = ctxPar (insZ (s.fa "tree_vals") (valAt s 0) sub ctx))
    ?_ sub.height fuel s ⟨sub, ctx, rfl, hrun, Frame.refl _ _ _ _, hl, hnext, hcur, rfl⟩ hf
  rintro fuel k t _ ⟨sub', ctx', rfl, trun, tfr, tl, tnext, tcur, tz⟩
  have hev : BE.eval t (.cmpI .ne (.var "next_node") (.lit (-1))) = decide (sub'.ptr ≠ -1) := by
    simp [BE.eval, IE.eval_var, IE.eval_lit, tnext, cmpInt]
  refine ⟨by simp [BE.ok, IE.ok_var, IE.ok_lit], fun hc => ?_, fun hc => Or.inl ?_⟩
  · -- the empty slot
    rw [hev] at hc
    cases sub' with
    | nil => exact ⟨trun, tfr, by rw [← tz]; exact tcur⟩
    | node a b c => simp [Sh.ptr] at hc
  · rw [hev] at hc
    cases sub' with
    | nil => simp [Sh.ptr] at hc
    | node l i rr =>
      obtain ⟨hi, hL, hR, _, hlL, hlR⟩ := tl
      obtain ⟨b1, b2, b3, b4⟩ := descStep_spec "next_node" "_compare2$a" "_compare2$b" "_compare2$ret0" (by decide) (by decide)
        n m fuel t (tfr.vs hv) ⟨by rw [tfr.shp]; exact hm.shp, by rw [tfr.fa]; exact hm.len, hm.big⟩ trun i hi tnext
      rw [← insDescBody_eq] at b1 b2 b3 b4
      rw [show valAt t 0 = valAt s 0 by simp only [valAt, tfr.fa], tfr.fa, tfr.ia] at b4
      have b2' : Frame insDiv insDfv [] s (exec fuel insDescBody t) :=
        tfr.trans (b2.mono (by simp [insDiv]) (by simp [insDfv]) (by simp))
      simp only [insZ] at tz
      by_cases h1 : valAt s 0 < vAt (s.fa "tree_vals") i 0
      · rw [if_pos h1] at b4 tz
        exact ⟨b1, _, by simp only [Sh.height]; omega, l, .L i rr :: ctx', rfl, b1, b2', hlL, by rw [b4, hL], b3, tz⟩
      · rw [if_neg h1] at b4 tz
        exact ⟨b1, _, by simp only [Sh.height]; omega, rr, .R l i :: ctx', rfl, b1, b2', hlR, by rw [b4, hR], b3, tz⟩

/-- the whole descent: the first step from the root, then the loop -/
theorem insDesc_spec (n m fuel : Nat) (s : State F) (hv : VS s n) (hm : VVal s m) (hrun : s.ctl = .run)
    (l : Sh) (i : Nat) (rr : Sh) (hl : Linked (s.ia "tree_nodes") n (-1) (.node l i rr)) (hroot : s.ienv "root" = i)
    (hf : (Sh.node l i rr).height < fuel) :
    let r := exec fuel (.seq (seqL insDesc0Items) insDescLoop) s
    r.ctl = .run ∧ Frame insDiv insDfv [] s r ∧
      r.ienv "cur_node" = ctxPar (insZ (s.fa "tree_vals") (valAt s 0) (.node l i rr) []) := by
  obtain ⟨hi, hL, hR, _, hlL, hlR⟩ := hl
  obtain ⟨b1, b2, b3, b4⟩ := descStep_spec "root" "_compare1$a" "_compare1$b" "_compare1$ret0" (by decide) (by decide)
    n m fuel s hv hm hrun i hi hroot
  rw [← insDesc0_eq] at b1 b2 b3 b4
  generalize hs1 : exec fuel (seqL insDesc0Items) s = s1 at b1 b2 b3 b4
  have b2' : Frame insDiv insDfv [] s s1 := b2.mono (by simp [insDiv]) (by simp [insDfv]) (by simp)
  simp only [Sh.height] at hf
  intro r
  rw [show r = exec fuel insDescLoop s1 from exec_seq_eq _ _ _ _ _ hs1 b1]
  have key : ∀ (sub : Sh) (fr : Fr), fr.idx = i → Linked (s.ia "tree_nodes") n (i : Int) sub → s1.ienv "next_node" = sub.ptr →
      sub.height < fuel → (exec fuel insDescLoop s1).ctl = .run ∧ Frame insDiv insDfv [] s (exec fuel insDescLoop s1) ∧
        (exec fuel insDescLoop s1).ienv "cur_node" = ctxPar (insZ (s.fa "tree_vals") (valAt s 0) sub [fr]) := by
    intro sub fr hfr hls hn hh
    obtain ⟨c1, c2, c3⟩ := insDescLoop_spec n m sub [fr] fuel s1 (b2'.vs hv)
      ⟨by rw [b2'.shp]; exact hm.shp, by rw [b2'.fa]; exact hm.len, hm.big⟩ b1 (by rw [b2'.ia, ctxPar_cons, hfr]; exact hls) hn
      (by rw [b3, ctxPar_cons, hfr]) hh
    rw [show valAt s1 0 = valAt s 0 by simp only [valAt, b2'.fa], b2'.fa] at c3
    exact ⟨c1, b2'.trans c2, c3⟩
  simp only [insZ]
  by_cases h1 : valAt s 0 < vAt (s.fa "tree_vals") i 0
  · rw [if_pos h1] at b4 ⊢
    exact key l (.L i rr) rfl hlL (by rw [b4, hL]) (by omega)
  · rw [if_neg h1] at b4 ⊢
    exact key rr (.R l i) rfl hlR (by rw [b4, hR]) (by omega)

/-- one step of the propagation from `j` to its parent `p`: the stored maximum of `p` is raised to that of `j` if it is
    smaller; a larger one stops the loop -/
theorem insPropBody_spec (n fuel : Nat) (s : State F) (hv : VS s n) (hrun : s.ctl = .run) (j p : Nat) (hj : j + 1 < n)
    (hp : p + 1 < n) (hjp : j ≠ p) (hpar : nAt (s.ia "tree_nodes") j 3 = (p : Int)) (hnext : s.ienv "next_node" = j) :
    let V := s.fa "tree_vals"
    let cm := vAt V j 7
    let mx' := if vAt V p 7 < cm then cm else vAt V p 7
    let r := exec fuel insPropBody s
    r.ia = s.ia ∧ r.shp = s.shp ∧ SetMax V (r.fa "tree_vals") p mx' ∧
      (∀ v, v ≠ "next_node" → v ≠ "next_parent" → r.ienv v = s.ienv v) ∧
      (cm < mx' → r.ctl = .brk) ∧ (¬ cm < mx' → r.ctl = .run ∧ r.ienv "next_node" = p) := by
  intro V cm mx' r
  have h1 := exec_ldN fuel n s hv.shpN "next_parent" "next_node" 3 (by decide) (by rw [hnext]; exact hv.inRange hj) p
    (by rw [hnext, rowOf_nat]; exact hpar)
  generalize hs1 : ({ s with ienv := setS s.ienv "next_parent" (p : Int) } : State F) = s1 at h1
  have e1 : s1.ienv "next_parent" = p := by rw [← hs1]; simp [setS]
  have e2 : s1.ienv "next_node" = j := by rw [← hs1]; simp [setS, hnext]
  have hrun1 : s1.ctl = .run := by rw [← hs1]; exact hrun
  have hfa1 : s1.fa = s.fa := by rw [← hs1]
  -- the reads of column 7 and their comparison, in a state with these scalars
  have rd : ∀ (t : State F), t.shp = s.shp → t.ienv "next_parent" = p → t.ienv "next_node" = j →
      (FE.ld2 "tree_vals" (.var "next_node") (.lit 7)).ok t = true ∧
      (FE.ld2 "tree_vals" (.var "next_node") (.lit 7)).eval t = (vAt (t.fa "tree_vals") j 7).v ∧
      ∀ op, (BE.cmpF op (.ld2 "tree_vals" (.var "next_parent") (.lit 7))
            (.ld2 "tree_vals" (.var "next_node") (.lit 7))).ok t = true ∧
        (BE.cmpF op (.ld2 "tree_vals" (.var "next_parent") (.lit 7)) (.ld2 "tree_vals" (.var "next_node") (.lit 7))).eval t =
          op.eval (vAt (t.fa "tree_vals") p 7).v (vAt (t.fa "tree_vals") j 7).v := by
    intro t ht hp' hj'
    have hsh : t.shp "tree_vals" = [n, 8] := by rw [ht]; exact hv.shpV
    have ok7 := fun x => okV t n hsh x 7 (by decide)
    have ev7 := fun x => evalV t n hsh x 7 (by decide)
    refine ⟨by rw [ok7, hj']; exact hv.inRange hj, by rw [ev7, hj', rowOf_nat]; rfl, fun op => ⟨?_, ?_⟩⟩
    · rw [BE.ok_cmpF, ok7, ok7, hp', hj', hv.inRange hp, hv.inRange hj]; rfl
    · rw [BE.eval_cmpF, ev7, ev7, hp', hj', rowOf_nat, rowOf_nat]; rfl
  -- a smaller stored maximum of the parent is raised
  obtain ⟨okn, evn, cmp1⟩ := rd s1 (by rw [← hs1]) e1 e2
  obtain ⟨ok1, ev1⟩ := cmp1 .lt
  rw [hfa1] at ev1 evn
  obtain ⟨s2, h2, hrun2, hi2, hia2, hshp2, hset⟩ : ∃ s2 : State F,
      exec fuel (.ite (.cmpF .lt (.ld2 "tree_vals" (.var "next_parent") (.lit 7)) (.ld2 "tree_vals" (.var "next_node") (.lit 7)))
        (.stF2 "tree_vals" (.var "next_parent") (.lit 7) (.ld2 "tree_vals" (.var "next_node") (.lit 7))) .skip) s1 = s2 ∧
      s2.ctl = .run ∧ s2.ienv = s1.ienv ∧ s2.ia = s.ia ∧ s2.shp = s.shp ∧ SetMax V (s2.fa "tree_vals") p mx' := by
    by_cases hlt : vAt V p 7 < cm
    · refine ⟨_, (exec_ite_true _ _ _ _ _ ok1 (ev1.trans hlt)).trans
        (exec_stV fuel s1 n (by rw [← hs1]; exact hv.shpV) _ 7 _ (by decide) (by rw [e1]; exact hv.inRange hp) okn), hrun1,
        rfl, by rw [← hs1], by rw [← hs1], ?_⟩
      show SetMax V (setS s1.fa "tree_vals" _ "tree_vals") p mx'
      rw [setS_same, e1, rowOf_nat, evn, hfa1, show mx' = cm from if_pos hlt]
      exact SetMax.set _ _ _ (by rw [hv.lenV]; omega)
    · exact ⟨s1, (exec_ite_false _ _ _ _ _ ok1 (ev1.trans (Bool.eq_false_iff.mpr hlt))).trans (exec_skip _ _), hrun1, rfl,
        by rw [← hs1], by rw [← hs1], by rw [hfa1, show mx' = vAt V p 7 from if_neg hlt]; exact SetMax.refl _ _⟩
  -- the second test compares the parent's new maximum `mx'` with the child's, still `cm`
  obtain ⟨_, _, cmp2⟩ := rd s2 hshp2 (by rw [hi2]; exact e1) (by rw [hi2]; exact e2)
  obtain ⟨ok2, ev2⟩ := cmp2 .gt
  rw [hset.2.2.1, hset.1 j hjp 7 (by decide)] at ev2
  have hr0 : r = exec fuel (.seq (.ite (.cmpF .gt (.ld2 "tree_vals" (.var "next_parent") (.lit 7))
      (.ld2 "tree_vals" (.var "next_node") (.lit 7))) .brk .skip) (.setI "next_node" (.var "next_parent"))) s2 := by
    simp only [r, insPropBody]
    rw [exec_seq_eq _ _ _ _ _ h1 hrun1, exec_seq_eq _ _ _ _ _ h2 hrun2]
  have hienv : ∀ v, v ≠ "next_parent" → s2.ienv v = s.ienv v := fun v h => by
    rw [hi2, ← hs1]; exact setS_other _ _ _ _ h
  by_cases hgt : cm < mx'
  · -- a larger one stops the propagation
    have hr : r = { s2 with ctl := .brk } := by
      have hb := (exec_ite_true fuel _ .brk .skip s2 ok2 (ev2.trans hgt)).trans (exec_brk _ _)
      rw [hr0, exec_seq_stop _ _ _ _ (by rw [hb]; simp), hb]
    rw [hr]
    exact ⟨hia2, hshp2, hset, fun v _ h => hienv v h, fun _ => rfl, fun h => absurd hgt h⟩
  · have hr : r = { s2 with ienv := setS s2.ienv "next_node" (p : Int) } := by
      have hb := (exec_ite_false fuel _ .brk .skip s2 ok2 (ev2.trans (Bool.eq_false_iff.mpr hgt))).trans (exec_skip _ _)
      rw [hr0, exec_seq_eq _ _ _ _ _ hb hrun2, exec_setI _ _ _ _ (IE.ok_var _ _), IE.eval_var, hi2, e1]
    rw [hr]
    exact ⟨hia2, hshp2, hset, fun v h h' => (setS_other _ _ _ _ h).trans (hienv v h'), fun h => absurd h hgt,
      fun _ => ⟨hrun2, setS_same s2.ienv "next_node" (p : Int)⟩⟩

/-- **the propagation loop**, started at the root `j` of the subtree at a position of the tree the state holds: the state
    still holds that shape, the model tree is the propagation `propT` of the stored maximum of `j` up the context -/
theorem insPropLoop_spec (n fuel : Nat) (s : State F) (sub : Sh) (j : Nat) (ctx : Ctx) (hj : sub.ptr = (j : Int))
    (h : TreeAt "root" s n (plug sub ctx)) (hnext : s.ienv "next_node" = j) (hf : ctx.length < fuel) :
    let r := exec fuel insPropLoop s
    TreeAt "root" r n (plug sub ctx) ∧
      absT (r.fa "tree_vals") (r.ia "tree_nodes") (plug sub ctx) =
        propT (some (vAt (s.fa "tree_vals") j 7)) (absT (s.fa "tree_vals") (s.ia "tree_nodes") sub)
          (absCtx (s.fa "tree_vals") (s.ia "tree_nodes") ctx) ∧
      r.ia = s.ia ∧ vAt (r.fa "tree_vals") (n - 1) 7 = vAt (s.fa "tree_vals") (n - 1) 7 ∧
      (∀ v, v ≠ "next_node" → v ≠ "next_parent" → r.ienv v = s.ienv v) := by
  intro r
  let Keeps : State F → Prop := fun t => VS t n ∧ t.ctl = .run ∧ t.ia = s.ia ∧
    vAt (t.fa "tree_vals") (n - 1) 7 = vAt (s.fa "tree_vals") (n - 1) 7 ∧
    (∀ v, v ≠ "next_node" → v ≠ "next_parent" → t.ienv v = s.ienv v)
  suffices main : Keeps r ∧ absT (r.fa "tree_vals") (r.ia "tree_nodes") (plug sub ctx) =
      propT (some (vAt (s.fa "tree_vals") j 7)) (absT (s.fa "tree_vals") (s.ia "tree_nodes") sub)
        (absCtx (s.fa "tree_vals") (s.ia "tree_nodes") ctx) by
    obtain ⟨⟨k1, k2, k3, k4, k5⟩, k6⟩ := main
    exact ⟨⟨k1, k2, by rw [k3]; exact h.linked, h.nodup, by rw [k5 _ (by simp) (by simp)]; exact h.root⟩, k6, k3, k4, k5⟩
  refine while_rule (.cmpI .ne (.ld2 "tree_nodes" (.var "next_node") (.lit 3)) (.lit (-1))) insPropBody
    (fun k t => ∃ (sub' : Sh) (j' : Nat) (ctx' : Ctx), ctx'.length = k ∧ plug sub' ctx' = plug sub ctx ∧ sub'.ptr = (j' : Int) ∧
      t.ienv "next_node" = j' ∧ Keeps t ∧
      propT (some (vAt (t.fa "tree_vals") j' 7)) (absT (t.fa "tree_vals") (t.ia "tree_nodes") sub')
          (absCtx (t.fa "tree_vals") (t.ia "tree_nodes") ctx') =
        propT (some (vAt (s.fa "tree_vals") j 7)) (absT (s.fa "tree_vals") (s.ia "tree_nodes") sub)
          (absCtx (s.fa "tree_vals") (s.ia "tree_nodes") ctx))
    (fun t => Keeps t ∧ absT (t.fa "tree_vals") (t.ia "tree_nodes") (plug sub ctx) =
      propT (some (vAt (s.fa "tree_vals") j 7)) (absT (s.fa "tree_vals") (s.ia "tree_nodes") sub)
        (absCtx (s.fa "tree_vals") (s.ia "tree_nodes") ctx))
    ?_ ctx.length fuel s ⟨sub, j, ctx, rfl, rfl, hj, hnext, ⟨h.vs, h.run, rfl, rfl, fun _ _ _ => rfl⟩, rfl⟩ hf
  rintro fuel k t _ ⟨sub', j', ctx', rfl, hpl, hj', hnext', ⟨hv, hrun, hia, hnil, hsc⟩, hpr⟩
  have hpos : Pos (s.ia "tree_nodes") n sub' ctx' := ⟨hpl ▸ h.linked, hpl ▸ h.nodup⟩
  obtain ⟨sl, sr, rfl⟩ : ∃ sl sr, sub' = .node sl j' sr := by
    cases sub' with
    | nil => simp [Sh.ptr] at hj'
    | node a b c => simp only [Sh.ptr] at hj'; exact ⟨a, c, by rw [show b = j' by omega]⟩
  have hjn : j' + 1 < n := hpos.sub.1
  have hpar : nAt (t.ia "tree_nodes") j' 3 = ctxPar ctx' := by rw [hia]; exact hpos.sub.2.2.2.1
  have hin : inRange (t.ienv "next_node") n = true := by rw [hnext']; exact hv.inRange hjn
  have hev : BE.eval t (.cmpI .ne (.ld2 "tree_nodes" (.var "next_node") (.lit 3)) (.lit (-1))) = decide (ctxPar ctx' ≠ -1) := by
    rw [BE.eval_cmpI, evalN t n hv.shpN _ 3 (by decide), hnext', rowOf_nat, IE.eval_lit]
    simp [cmpInt, hpar]
  refine ⟨by rw [BE.ok_cmpI, okN t n hv.shpN _ 3 (by decide), hin, IE.ok_lit]; rfl, fun hc => ?_, fun hc => ?_⟩
  · -- the root: nothing is left to do
    rw [hev] at hc
    obtain rfl : ctx' = [] := (ctxPar_eq_neg_one ctx').mp (by simpa using hc)
    exact ⟨⟨hv, hrun, hia, hnil, hsc⟩, by rw [← hpl]; exact hpr⟩
  · rw [hev] at hc
    obtain ⟨fr, rest', rfl⟩ := List.exists_cons_of_ne_nil (l := ctx') fun e => by simp [e, ctxPar] at hc
    rw [ctxPar_cons] at hpar
    have hfr : fr.idx ∈ ctxIdxs (fr :: rest') := Pos.frame_mem List.mem_cons_self
    have hpn : fr.idx + 1 < n := hpos.ctx_lt hfr
    obtain ⟨b1, b2, hset, b5, b6, b7⟩ := insPropBody_spec n fuel t hv hrun j' fr.idx hjn hpn
      (fun e => hpos.disj (by simp [Sh.idxs]) (e ▸ hfr)) hpar hnext'
    generalize exec fuel insPropBody t = t1 at b1 b2 hset b5 b6 b7
    have hk : Keeps { t1 with ctl := .run } := ⟨⟨by rw [b2]; exact hv.shpV, by rw [b2]; exact hv.shpN,
      by rw [hset.2.2.2]; exact hv.lenV, by rw [b1]; exact hv.lenN, hv.pos⟩, rfl, b1.trans hia,
      by rw [← hnil]; exact hset.1 _ (by omega) 7 (by decide), fun v h1 h2 => (b5 v h1 h2).trans (hsc v h1 h2)⟩
    rw [propT_frame _ fr rest' _ _ hpos.rows hset, ← b1] at hpr
    by_cases hgt : vAt (t.fa "tree_vals") j' 7 <
        (if vAt (t.fa "tree_vals") fr.idx 7 < vAt (t.fa "tree_vals") j' 7 then vAt (t.fa "tree_vals") j' 7
          else vAt (t.fa "tree_vals") fr.idx 7)
    · -- a larger stored maximum stops the propagation
      rw [if_pos hgt, propT_none, ← absT_plug, ← plug_cons, hpl] at hpr
      exact Or.inr (Or.inr (Or.inl ⟨b6 hgt, hk, hpr⟩))
    · obtain ⟨c1, c2⟩ := b7 hgt
      rw [if_neg hgt, ← hset.2.2.1] at hpr
      refine Or.inl ⟨c1, _, Nat.lt_succ_self _, fr.fill (.node sl j' sr), fr.idx, rest', rfl, by rw [← plug_cons, hpl],
        fill_ptr' fr _, c2, ?_, hpr⟩
      obtain ⟨k1, _, k3, k4, k5⟩ := hk
      exact ⟨k1.of_eq rfl rfl rfl, c1, k3, k4, k5⟩

/-- the row of a new leaf below `p` -/
def leafRow (nn : Node (Fv F)) (p : Nat) : Row F := ⟨0, -1, -1, p, nn, minv nn⟩

/-- `_create_tree_nodes` and the linking: the new leaf is row `nid`, and its parent `p` gets it as the child on the side
    the comparison of the keys says -/
theorem insCreateLink_spec (n m fuel : Nat) (s : State F) (hv : VS s n) (hm : VVal s m) (hrun : s.ctl = .run)
    (p nid : Nat) (hp : p + 1 < n) (hnid : nid + 1 < n) (hne : nid ≠ p) (hcur : s.ienv "cur_node" = p)
    (hid : s.ienv "node_id" = nid) :
    let r := exec fuel (.seq (seqL insCreateItems) (seqL insLinkItems)) s
    r.ctl = .run ∧ VS r n ∧
      heap r = Function.update
        (Function.update (heap s) p ((heap s p).setKid (if valAt s 0 < (heap s p).nd.key then .L else .R) nid))
        nid (leafRow (valNode s) p) ∧
      r.ienv "next_node" = nid ∧ r.ienv "inserted" = nid ∧ r.ienv "root" = s.ienv "root" := by
  have sV := fun (s' : State F) => exec_stV fuel s' n
  have sN := fun (s' : State F) => exec_stN fuel s' n
  have sK := fun (s' : State F) => exec_stKid fuel s' n
  have eN := fun (s' : State F) => evalN s' n
  have oN := fun (s' : State F) => okN s' n
  have eV := fun (s' : State F) => evalV s' n
  have oV := fun (s' : State F) => okV s' n
  have eA := fun (s' : State F) => evalVal s' m
  have oA := fun (s' : State F) (hs : s'.shp "value" = [m]) (k : Int) (hk : 0 ≤ k ∧ k < 7) =>
    okVal s' m hs k ⟨hk.1, by have := hm.big; omega⟩
  have mS := fun (a b : String) (s' : State F) => minvScope_spec a b fuel n s'
  have hin : inRange (nid : Int) n = true := inRange_ptr n _ (by omega) hv.pos
  have hinp : inRange (p : Int) n = true := inRange_ptr n _ (by omega) hv.pos
  intro r
  simp [r, insCreateItems, insLinkItems, seqL, exec, sV, sN, sK, eV, oV, eA, oA, mS, cmpScope_spec,
    hv.shpN, hv.shpV, hm.shp, hid, hcur, hin, hinp, IE.ok_var, IE.eval_var, IE.ok_lit, IE.eval_lit, FE.ok_lit, FE.eval_lit,
    FE.ok_var, FE.eval_var, BE.ok, BE.eval, cmpInt, setS, hrun, valAt]
  refine ⟨⟨hv.shpV, hv.shpN, by simp [setS, hv.lenV], by simp [setS, hv.lenN], hv.pos⟩, ?_⟩
  -- every store is an update of one row; `_find_value_min_value` reads the cells of the new row back
  have hN := fun (V : List F) (N : List Int) => heapOf_setN V N n
  have hV := fun (V : List F) (N : List Int) => heapOf_setV V N n
  have hK := fun (V : List F) (N : List Int) => heapOf_setKid V N n
  have hN0 := fun (V : List F) (N : List Int) => heapOf_setN0 V N n
  have hV0 := fun (V : List F) (N : List Int) => heapOf_setV0 V N n
  have rV := fun (V : List F) => vAt_set_lt V n
  have rV0 : ∀ (V : List F) (a : Nat) (v : F) (i c : Nat), V.length = n * 8 → a < n → c < 8 →
      vAt (V.set (a * 8) v) i c = if i = a ∧ c = 0 then ⟨v⟩ else vAt V i c :=
    fun V a v i c h1 h2 h3 => vAt_set_lt V n a 0 v i c h1 h2 (by decide) h3
  have hnn : nid < n := by omega
  have hpn : p < n := by omega
  have hcmp : (cmp3 ((s.fa "value")[0]?.getD Fl.nan) (vAt (s.fa "tree_vals") p 0).v = -1) ↔
      (⟨(s.fa "value")[0]?.getD Fl.nan⟩ : Fv F) < (heapOf (s.fa "tree_vals") (s.ia "tree_nodes") p).nd.key :=
    cmp3_neg_one _ _
  simp [heap, hN, hV, hK, hN0, hV0, hv.lenN, hv.lenV, hnn, hpn, rV, rV0, nodeAt, hne, hne.symm, hcmp]
  -- the cells of the leaf are written before the child cell of `p`, its stored maximum after
  rw [Function.update_comm hne, Function.update_idem]
  rfl

/-- the shape after the insertion of row `nid` (before the fixup): the new leaf plugged into the empty slot -/
def insShape (V : List F) (K : Fv F) (sh : Sh) (nid : Nat) : Sh := plug (.node .nil nid .nil) (insZ V K sh [])

/-- **Refinement of `_insert_into_tree` up to `_rb_insert_fixup`** (the fixup `insFixup` -- the recolouring loop with its
    four inlined rotations -- is `insFixup_spec`, Proofs/ILViewshedFixInsLoop.lean, and the whole routine
    `vsInsert_refines` there): on a state whose arrays hold a well-linked non-empty tree, with
    `node_id` a fresh row and `value` the new node, the program reaches the fixup in a state whose arrays hold the
    hand model's `leafInsert` of the abstracted tree (code-exact form `insCoreC`), well linked and without repeated
    rows, the new node in row `node_id`. -/
theorem vsInsert_prefix_refines (s : State F) (fuel n m : Nat) (hv : VS s n) (hm : VVal s m) (hrun : s.ctl = .run)
    (l : Sh) (i : Nat) (rr : Sh) (hL : Linked (s.ia "tree_nodes") n (-1) (.node l i rr))
    (hN : (Sh.node l i rr).idxs.Nodup) (hroot : s.ienv "root" = i) (nid : Nat) (hnid : nid + 1 < n)
    (hfresh : nid ∉ (Sh.node l i rr).idxs) (hid : s.ienv "node_id" = nid)
    (hfuel : (Sh.node l i rr).height + 1 < fuel) :
    let V := s.fa "tree_vals"
    let N := s.ia "tree_nodes"
    let sh' := insShape V (valAt s 0) (.node l i rr) nid
    ∃ sP : State F, Gen.IL.vsInsert.run s fuel = exec fuel insFixup sP ∧ sP.ctl = .run ∧ VS sP n ∧
      Linked (sP.ia "tree_nodes") n (-1) sh' ∧ sh'.idxs.Nodup ∧
      absT (sP.fa "tree_vals") (sP.ia "tree_nodes") sh' = (insCoreC (valNode s) (absT V N (.node l i rr))).1 ∧
      sP.ienv "inserted" = nid ∧ sP.ienv "root" = i ∧ vAt (sP.fa "tree_vals") (n - 1) 7 = vAt V (n - 1) 7 ∧
      nAt (sP.ia "tree_nodes") (n - 1) 0 = nAt N (n - 1) 0 := by
  intro V N
  simp only [insShape]
  -- the position of the empty slot
  generalize hctx : insZ V (valAt s 0) (.node l i rr) [] = ctx
  have hplug : plug .nil ctx = .node l i rr := by rw [← hctx]; exact insZ_plug V (valAt s 0) _ []
  obtain ⟨fr, rest, rfl⟩ := List.exists_cons_of_ne_nil (hctx ▸ insZ_ne_nil V (valAt s 0) (.node l i rr) [] (Or.inl (by simp)))
  have h0 : TreeAt "root" s n (plug .nil (fr :: rest)) := ⟨hv, hrun, hplug ▸ hL, hplug ▸ hN, by rw [hplug]; exact hroot⟩
  have hnid_ctx : nid ∉ ctxIdxs (fr :: rest) := fun h => hfresh (by rw [← hplug, mem_plug_iff]; exact Or.inr h)
  have hp_mem : fr.idx ∈ ctxIdxs (fr :: rest) := Pos.frame_mem List.mem_cons_self
  have hpn : fr.idx + 1 < n := h0.pos.ctx_lt hp_mem
  have hne : nid ≠ fr.idx := fun e => hnid_ctx (e ▸ hp_mem)
  have h1 := insDesc_spec n m fuel s hv hm hrun l i rr hL hroot (by omega)
  rw [hctx, ctxPar_cons] at h1
  obtain ⟨a1, a2, a3⟩ := h1
  generalize hs1 : exec fuel (.seq (seqL insDesc0Items) insDescLoop) s = s1 at a1 a2 a3
  -- creation and linking: the leaf in row `nid`, the child cell of the slot's parent redirected to it
  obtain ⟨b1, hv2, bH, b16, b17, b18⟩ := insCreateLink_spec n m fuel s1 (a2.vs hv)
    ⟨by rw [a2.shp]; exact hm.shp, by rw [a2.fa]; exact hm.len, hm.big⟩ a1 fr.idx nid hpn hnid hne a3
    (by rw [a2.ienv _ (by simp [insDiv])]; exact hid)
  generalize hs2 : exec fuel (.seq (seqL insCreateItems) (seqL insLinkItems)) s1 = s2 at b1 hv2 bH b16 b17 b18
  have hside : (if valAt s 0 < (heap s fr.idx).nd.key then Dir.L else Dir.R) = fr.dir := by
    have := insZ_last V (valAt s 0) (.node l i rr) [] fr rest hctx (by simp)
    cases fr with
    | L p r0 => exact if_pos this
    | R l0 p => exact if_neg this
  rw [show heap s1 = heap s by simp only [heap, a2.fa, a2.ia], show valAt s1 0 = valAt s 0 by simp only [valAt, a2.fa],
    show valNode s1 = valNode s by simp only [valNode, valAt, a2.fa], hside] at bH
  have hleaf : heap s2 nid = leafRow (valNode s) fr.idx := by rw [bH, Function.update_self]
  have hrow : ∀ j, j ≠ nid → heap s2 j = redirect (fr :: rest) (nid : Int) (heap s) j := fun j hj => by
    rw [bH, Function.update_of_ne hj]; rfl
  have hnil : heap s2 (n - 1) = heap s (n - 1) := (hrow _ (by omega)).trans (Function.update_of_ne (by omega) _ _)
  obtain ⟨c1, c2⟩ := plug_replace (V := V) (V' := s2.fa "tree_vals") (new := .node .nil nid .nil) h0.pos
    ⟨hnid, congrArg Row.left hleaf, congrArg Row.right hleaf, by rw [ctxPar_cons]; exact congrArg Row.par hleaf, trivial, trivial⟩
    (by simp [Sh.idxs])
    (fun j hj hm => by simp only [Sh.idxs, List.nil_append, List.mem_singleton] at hj; exact hnid_ctx (hj ▸ hm))
    (fun j hj => hrow j (fun e => hnid_ctx (e ▸ hj)))
  have t2 : TreeAt "root" s2 n (plug (.node .nil nid .nil) (fr :: rest)) :=
    ⟨hv2, b1, c1.linked, c1.nodup, by rw [b18, a2.ienv _ (by simp [insDiv]), h0.root]; exact plug_ptr_cons fr rest _ _⟩
  obtain ⟨d1, d2, d3, d4, d5⟩ := insPropLoop_spec n fuel s2 (.node .nil nid .nil) nid (fr :: rest) rfl t2 b16 (by
    have := plug_height (fr :: rest) .nil
    rw [hplug] at this
    simp only [Sh.height] at this hfuel ⊢
    omega)
  generalize hs3 : exec fuel insPropLoop s2 = s3 at d1 d2 d3 d4 d5
  refine ⟨s3, ?_, d1.run, d1.vs, d1.linked, d1.nodup, ?_, by rw [d5 _ (by decide) (by decide)]; exact b17,
    by rw [d1.root, plug_ptr_cons fr rest _ .nil, hplug]; rfl, by rw [d4]; exact congrArg Row.mx hnil,
    by rw [d3]; exact congrArg Row.col hnil⟩
  · -- the program is the prefix followed by the fixup
    simp only [Prog.run, vsInsert_body, insDesc0Items]
    rw [exec_seqK, exec_seq_assoc, exec_seq_run _ _ _ _ (by rw [← insDesc0Items, hs1]; exact a1), ← insDesc0Items, hs1]
    simp only [insCreateItems]
    rw [exec_seqK]
    rw [exec_seq_seqK _ _ insLinkItems _ _ (List.cons_ne_nil _ _), ← insCreateItems, exec_seq_run _ _ _ _ (by rw [hs2]; exact b1), hs2,
      exec_seq_run _ _ _ _ (by rw [hs3]; exact d1.run), hs3]
  · -- the abstraction: the leaf, the unchanged context, the model's propagation
    have hleafT : absT (s2.fa "tree_vals") (s2.ia "tree_nodes") (.node .nil nid .nil) = leafT (valNode s) := by
      show Tree.node .nil (heap s2 nid).nd (heap s2 nid).mx (decide ((heap s2 nid).col = 0)) .nil = _
      rw [hleaf]; rfl
    rw [d2, hleafT, show vAt (s2.fa "tree_vals") nid 7 = minv (valNode s) from congrArg Row.mx hleaf, c2, ← hctx, absCtx_insZ]
    exact propT_insPathT (valNode s) (absT V N (.node l i rr)) []

end XrsVerif.ILVs
