import XrsVerif.Proofs.ILRegions
import XrsVerif.Proofs.NV
import Mathlib.Tactic.Positivity
import Mathlib.Tactic.NormNum
/-
  Proofs/ILRegionsProps.lean -- what Props/C16.lean needs to restate the component theorems for the generated
  program `Gen.IL.areaConnectivity`.
-/
namespace XrsVerif.IL.Rg
open XrsVerif XrsVerif.IL XrsVerif.Regions
set_option linter.unusedSectionVars false

section generic
variable {F : Type} [Fl F]

theorem gridCells_getD_pos (rows cols : Nat) (c : Cell) (h1 : c.1 < rows) (h2 : c.2 < cols) :
    (gridCells rows cols)[pos cols c]? = some c :=
  getElem?_flatMap_range (fun y x => (y, x)) rows cols c.1 c.2 h1 h2

theorem at_map_cells (rows cols : Nat) (g : Cell → F) (c : Cell) (h1 : c.1 < rows) (h2 : c.2 < cols) :
    at_ cols ((gridCells rows cols).map g) c = g c := by
  unfold at_
  simp only [List.getD_eq_getElem?_getD, List.getElem?_map, gridCells_getD_pos rows cols c h1 h2,
    Option.map_some, Option.getD_some]

theorem at_modelOut (rows cols n : Nat) (D : List F) (c : Cell) (h1 : c.1 < rows) (h2 : c.2 < cols) :
    at_ cols (modelOut rows cols n D) c = cellOut rows cols n D c := by
  unfold modelOut
  rw [at_map_cells rows cols _ c h1 h2]

theorem cellOut_some (rows cols n : Nat) (D : List F) (c : Cell) (k : Nat)
    (h : regions rows cols (decide (n = 8)) closeF (dataOf cols D) c = some k) : cellOut rows cols n D c = lab k := by
  simp only [cellOut, h]

theorem cellOut_none (rows cols n : Nat) (D : List F) (c : Cell)
    (h : regions rows cols (decide (n = 8)) closeF (dataOf cols D) c = none) :
    cellOut rows cols n D c = at_ cols D c := by
  simp only [cellOut, h]

theorem regions_some_of (rows cols : Nat) (n8 : Bool) (D : List F) (c : Cell)
    (hc : Fl.isnan (at_ cols D c) = false) :
    ∃ k, regions rows cols n8 closeF (dataOf cols D) c = some k := by
  simp only [regions, result, dataOf_some cols D c hc]; exact ⟨_, rfl⟩

theorem out_eq_iff (laws : LabelLaws F) (rows cols n : Nat) (D : List F) (p q : Cell)
    (hp1 : p.1 < rows) (hp2 : p.2 < cols) (hq1 : q.1 < rows) (hq2 : q.2 < cols)
    (hp : Fl.isnan (at_ cols D p) = false) (hq : Fl.isnan (at_ cols D q) = false) :
    at_ cols (modelOut rows cols n D) p = at_ cols (modelOut rows cols n D) q ↔
      regions rows cols (decide (n = 8)) closeF (dataOf cols D) p =
        regions rows cols (decide (n = 8)) closeF (dataOf cols D) q := by
  obtain ⟨k1, e1⟩ := regions_some_of rows cols (decide (n = 8)) D p hp
  obtain ⟨k2, e2⟩ := regions_some_of rows cols (decide (n = 8)) D q hq
  rw [at_modelOut rows cols n D p hp1 hp2, at_modelOut rows cols n D q hq1 hq2, cellOut_some _ _ _ _ _ _ e1,
    cellOut_some _ _ _ _ _ _ e2, e1, e2]
  simp only [Option.some.injEq]
  exact ⟨lab_inj laws k1 k2, fun h => by rw [h]⟩

end generic

/-! ### the model depends on the match relation only through the values of the raster -/

section congr
variable {V : Type}

theorem regions_congr (rows cols : Nat) (n8 : Bool) (m m' : V → V → Bool) (data : Cell → Option V)
    (h : ∀ p q v w, p ∈ gridCells rows cols → q ∈ gridCells rows cols → data p = some v → data q = some w →
      m v w = m' v w) (c : Cell) :
    regions rows cols n8 m data c = regions rows cols n8 m' data c := by
  have hmo : ∀ p v, p ∈ gridCells rows cols → data p = some v →
      matchesOf (gridNbrs rows cols n8) m data v p = matchesOf (gridNbrs rows cols n8) m' data v p := by
    intro p v hp hv
    unfold matchesOf
    apply List.filter_congr
    intro q hq
    unfold matched
    cases hq' : data q with
    | none => rfl
    | some w => exact h p q v w hp (gridNbrs_closed rows cols n8 p hp q hq) hv hq'
  have h1 : ∀ st, ∀ p ∈ gridCells rows cols,
      step1 (gridNbrs rows cols n8) m data st p = step1 (gridNbrs rows cols n8) m' data st p := by
    intro st p hp
    unfold step1
    cases hv : data p with
    | none => rfl
    | some v => simp only [hmo p v hp hv]
  have h2 : ∀ st, ∀ p ∈ gridCells rows cols,
      step2 (gridNbrs rows cols n8) m data st p = step2 (gridNbrs rows cols n8) m' data st p := by
    intro st p hp
    unfold step2
    cases hv : data p with
    | none => rfl
    | some v => simp only [hmo p v hp hv]
  have hp1 : pass1 (gridCells rows cols) (gridNbrs rows cols n8) m data =
      pass1 (gridCells rows cols) (gridNbrs rows cols n8) m' data := by
    unfold pass1; exact List.foldl_ext _ _ _ h1
  have hlab : label (gridCells rows cols) (gridNbrs rows cols n8) m data =
      label (gridCells rows cols) (gridNbrs rows cols n8) m' data := by
    unfold label pass2 pass2St
    rw [hp1, List.foldl_ext _ _ _ h2]
  unfold regions result
  rw [hlab]

end congr

/-! ### exact arithmetic with NaN satisfies the laws -/

section nv
variable {K : Type} [Field K] [LinearOrder K] [IsStrictOrderedRing K] [Trig K]

theorem lab_NV (a : Nat) : (lab a : NV K) = some (a : K) := by
  simp [lab]

theorem labelLaws_NV : LabelLaws (NV K) :=
  { lt_lab := by intro a b; simp [lab_NV]
    eq_lab := by intro a b; simp [lab_NV]
    eq_nan := by
      intro x a hx
      cases x with
      | none => simp
      | some v => simp at hx
    close_nan := by
      intro v x hx
      cases x with
      | none => simp [closeF, closeT]
      | some w => simp at hx }

/-- over `NV K` the closeness test with tolerances `atol`, `rtol ≥ 0` is equality on integers `a`, `b` as soon as
    `atol + rtol * |a| < 1`: two different integers are at least `1` apart -/
theorem closeT_int {atol rtol : K} (h0 : 0 ≤ atol) (h1 : 0 ≤ rtol) (a b : Int) (hs : atol + rtol * |(a : K)| < 1) :
    closeT (some atol : NV K) (some rtol) (some (a : K)) (some (b : K)) = decide (a = b) := by
  by_cases hab : a = b
  · subst hab
    simpa [closeT] using add_nonneg h0 (mul_nonneg h1 (abs_nonneg (a : K)))
  · have hd : (1 : K) ≤ |(b : K) - (a : K)| := by
      have : (1 : Int) ≤ |b - a| := Int.one_le_abs (sub_ne_zero.mpr (Ne.symm hab))
      have : ((1 : Int) : K) ≤ ((|b - a| : Int) : K) := Int.cast_le.mpr this
      simpa [Int.cast_abs] using this
    simp only [closeT, fl_sub, fl_abs, fl_mul, fl_add, fl_le, hab, decide_false, decide_eq_false_iff_not, not_le]
    exact lt_of_lt_of_le hs hd

/-- on integer values of magnitude below 5·10⁴ the source's closeness test (`atol = 1e-08`, `rtol = 1e-05`) is
    equality -/
theorem closeF_int (a b : Int) (ha : |a| < 50000) :
    closeF (some (a : K) : NV K) (some (b : K)) = decide (a = b) := by
  have hK : |(a : K)| < 50000 := by
    have : ((|a| : Int) : K) < ((50000 : Int) : K) := Int.cast_lt.mpr ha
    simpa [Int.cast_abs] using this
  have hr : (0 : K) ≤ ((1 : Int) : K) / ((100000 : Nat) : K) := by positivity
  refine closeT_int (by positivity) hr a b ?_
  have h2 : ((1 : Int) : K) / ((100000 : Nat) : K) * |(a : K)| ≤ ((1 : Int) : K) / ((100000 : Nat) : K) * 50000 :=
    mul_le_mul_of_nonneg_left hK.le hr
  have e : ((1 : Int) : K) / ((100000000 : Nat) : K) + ((1 : Int) : K) / ((100000 : Nat) : K) * 50000 < 1 := by norm_num
  exact lt_of_le_of_lt (add_le_add_right h2 _) e

end nv

end XrsVerif.IL.Rg
