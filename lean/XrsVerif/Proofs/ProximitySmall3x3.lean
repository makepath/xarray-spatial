import XrsVerif.Proofs.ProximitySmall
/-! The small-grid table, slices 16 and 17: the 3×3 grid, unbounded. -/
namespace XrsVerif.Prox

theorem slice_16 : sliceChecked 16 = true := by decide +kernel
theorem slice_17 : sliceChecked 17 = true := by decide +kernel

end XrsVerif.Prox
