import XrsVerif.Proofs.ILang
import Mathlib.Data.List.Nodup
/-
  Renaming commutes with `exec`, proved once for every program, so that the refinement theorem of a stand-alone
  program (`Gen.IL.vsLeftRotate`) serves its inlined copies: an inlined callee is the stand-alone program's body with
  its scalars prefixed / renumbered (`renS ρ`) and its array parameters replaced by the caller's arrays (`renAS σ`; in
  the generated sweep `tree_vals ↦ status_values`, `tree_nodes ↦ status_struct`, `value ↦ status_node`) -- and that a
  copy *is* `renS ρ body` is checked by `rfl` / `decide` against the regenerated program.  `exec_ren` (scalars) and
  `exec_renA` (arrays) are the instances `σ = id` / `ρ = id` of one induction, `exec_renSA`.
-/
set_option linter.unusedSectionVars false
namespace XrsVerif.ILVs
open XrsVerif XrsVerif.IL
variable {F : Type} [Fl F]

def renI (ρ : String → String) : IE → IE
  | .lit n => .lit n
  | .var v => .var (ρ v)
  | .bin op a b => .bin op (renI ρ a) (renI ρ b)
  | .neg a => .neg (renI ρ a)
  | .dim a k => .dim a k
  | .ld1 a i => .ld1 a (renI ρ i)
  | .ld2 a i j => .ld2 a (renI ρ i) (renI ρ j)
  | .sum a => .sum a

def renF (ρ : String → String) : FE → FE
  | .lit n d => .lit n d
  | .nan => .nan
  | .inf => .inf
  | .pi => .pi
  | .var v => .var (ρ v)
  | .ofInt e => .ofInt (renI ρ e)
  | .ld1 a i => .ld1 a (renI ρ i)
  | .ld2 a i j => .ld2 a (renI ρ i) (renI ρ j)
  | .un op a => .un op (renF ρ a)
  | .bin op a b => .bin op (renF ρ a) (renF ρ b)
  | .ext fn a b c d k => .ext fn (renF ρ a) (renF ρ b) (renF ρ c) (renF ρ d) (renI ρ k)
  | .red op a => .red op a

def renB (ρ : String → String) : BE → BE
  | .tt => .tt
  | .ff => .ff
  | .var v => .var (ρ v)
  | .cmpI op a b => .cmpI op (renI ρ a) (renI ρ b)
  | .cmpF op a b => .cmpF op (renF ρ a) (renF ρ b)
  | .isnan a => .isnan (renF ρ a)
  | .isfinite a => .isfinite (renF ρ a)
  | .and a b => .and (renB ρ a) (renB ρ b)
  | .or a b => .or (renB ρ a) (renB ρ b)
  | .not a => .not (renB ρ a)

def renS (ρ : String → String) : St → St
  | .skip => .skip
  | .seq a b => .seq (renS ρ a) (renS ρ b)
  | .setI v e => .setI (ρ v) (renI ρ e)
  | .setF v e => .setF (ρ v) (renF ρ e)
  | .setB v c => .setB (ρ v) (renB ρ c)
  | .stF1 a i e => .stF1 a (renI ρ i) (renF ρ e)
  | .stF2 a i j e => .stF2 a (renI ρ i) (renI ρ j) (renF ρ e)
  | .stI1 a i e => .stI1 a (renI ρ i) (renI ρ e)
  | .stI2 a i j e => .stI2 a (renI ρ i) (renI ρ j) (renI ρ e)
  | .allocF a dims fill => .allocF a (dims.map (renI ρ)) (renF ρ fill)
  | .allocI a dims fill => .allocI a (dims.map (renI ρ)) (renI ρ fill)
  | .ite c t f => .ite (renB ρ c) (renS ρ t) (renS ρ f)
  | .while c b => .while (renB ρ c) (renS ρ b)
  | .forRange v lo hi step b => .forRange (ρ v) (renI ρ lo) (renI ρ hi) (renI ρ step) (renS ρ b)
  | .forIn v a b => .forIn (ρ v) a (renS ρ b)
  | .brk => .brk
  | .cont => .cont
  | .ret => .ret
  | .scope b => .scope (renS ρ b)
  | .fail m => .fail m

def pull (ρ : String → String) (s : State F) : State F :=
  { s with ienv := fun v => s.ienv (ρ v), fenv := fun v => s.fenv (ρ v), benv := fun v => s.benv (ρ v) }

@[simp] theorem pull_ctl (ρ : String → String) (s : State F) : (pull ρ s).ctl = s.ctl := rfl
@[simp] theorem pull_ia (ρ : String → String) (s : State F) : (pull ρ s).ia = s.ia := rfl
@[simp] theorem pull_fa (ρ : String → String) (s : State F) : (pull ρ s).fa = s.fa := rfl
@[simp] theorem pull_shp (ρ : String → String) (s : State F) : (pull ρ s).shp = s.shp := rfl
@[simp] theorem pull_ext (ρ : String → String) (s : State F) : (pull ρ s).ext = s.ext := rfl
@[simp] theorem pull_ienv (ρ : String → String) (s : State F) (v : String) : (pull ρ s).ienv v = s.ienv (ρ v) := rfl
@[simp] theorem pull_fenv (ρ : String → String) (s : State F) (v : String) : (pull ρ s).fenv v = s.fenv (ρ v) := rfl
@[simp] theorem pull_benv (ρ : String → String) (s : State F) (v : String) : (pull ρ s).benv v = s.benv (ρ v) := rfl

def renAI (σ : String → String) : IE → IE
  | .lit n => .lit n
  | .var v => .var v
  | .bin op a b => .bin op (renAI σ a) (renAI σ b)
  | .neg a => .neg (renAI σ a)
  | .dim a k => .dim (σ a) k
  | .ld1 a i => .ld1 (σ a) (renAI σ i)
  | .ld2 a i j => .ld2 (σ a) (renAI σ i) (renAI σ j)
  | .sum a => .sum (σ a)

def renAF (σ : String → String) : FE → FE
  | .lit n d => .lit n d
  | .nan => .nan
  | .inf => .inf
  | .pi => .pi
  | .var v => .var v
  | .ofInt e => .ofInt (renAI σ e)
  | .ld1 a i => .ld1 (σ a) (renAI σ i)
  | .ld2 a i j => .ld2 (σ a) (renAI σ i) (renAI σ j)
  | .un op a => .un op (renAF σ a)
  | .bin op a b => .bin op (renAF σ a) (renAF σ b)
  | .ext fn a b c d k => .ext fn (renAF σ a) (renAF σ b) (renAF σ c) (renAF σ d) (renAI σ k)
  | .red op a => .red op (σ a)

def renAB (σ : String → String) : BE → BE
  | .tt => .tt
  | .ff => .ff
  | .var v => .var v
  | .cmpI op a b => .cmpI op (renAI σ a) (renAI σ b)
  | .cmpF op a b => .cmpF op (renAF σ a) (renAF σ b)
  | .isnan a => .isnan (renAF σ a)
  | .isfinite a => .isfinite (renAF σ a)
  | .and a b => .and (renAB σ a) (renAB σ b)
  | .or a b => .or (renAB σ a) (renAB σ b)
  | .not a => .not (renAB σ a)

def renAS (σ : String → String) : St → St
  | .skip => .skip
  | .seq a b => .seq (renAS σ a) (renAS σ b)
  | .setI v e => .setI v (renAI σ e)
  | .setF v e => .setF v (renAF σ e)
  | .setB v c => .setB v (renAB σ c)
  | .stF1 a i e => .stF1 (σ a) (renAI σ i) (renAF σ e)
  | .stF2 a i j e => .stF2 (σ a) (renAI σ i) (renAI σ j) (renAF σ e)
  | .stI1 a i e => .stI1 (σ a) (renAI σ i) (renAI σ e)
  | .stI2 a i j e => .stI2 (σ a) (renAI σ i) (renAI σ j) (renAI σ e)
  | .allocF a dims fill => .allocF (σ a) (dims.map (renAI σ)) (renAF σ fill)
  | .allocI a dims fill => .allocI (σ a) (dims.map (renAI σ)) (renAI σ fill)
  | .ite c t f => .ite (renAB σ c) (renAS σ t) (renAS σ f)
  | .while c b => .while (renAB σ c) (renAS σ b)
  | .forRange v lo hi step b => .forRange v (renAI σ lo) (renAI σ hi) (renAI σ step) (renAS σ b)
  | .forIn v a b => .forIn v (σ a) (renAS σ b)
  | .brk => .brk
  | .cont => .cont
  | .ret => .ret
  | .scope b => .scope (renAS σ b)
  | .fail m => .fail m

def pullA (σ : String → String) (s : State F) : State F :=
  { s with ia := fun a => s.ia (σ a), fa := fun a => s.fa (σ a), shp := fun a => s.shp (σ a) }

@[simp] theorem pullA_ctl (σ : String → String) (s : State F) : (pullA σ s).ctl = s.ctl := rfl
@[simp] theorem pullA_ia (σ : String → String) (s : State F) (a : String) : (pullA σ s).ia a = s.ia (σ a) := rfl
@[simp] theorem pullA_fa (σ : String → String) (s : State F) (a : String) : (pullA σ s).fa a = s.fa (σ a) := rfl
@[simp] theorem pullA_shp (σ : String → String) (s : State F) (a : String) : (pullA σ s).shp a = s.shp (σ a) := rfl
@[simp] theorem pullA_ext (σ : String → String) (s : State F) : (pullA σ s).ext = s.ext := rfl
@[simp] theorem pullA_ienv (σ : String → String) (s : State F) : (pullA σ s).ienv = s.ienv := rfl
@[simp] theorem pullA_fenv (σ : String → String) (s : State F) : (pullA σ s).fenv = s.fenv := rfl
@[simp] theorem pullA_benv (σ : String → String) (s : State F) : (pullA σ s).benv = s.benv := rfl

theorem pull_setS {α} (ρ : String → String) (hρ : Inj ρ) (env : String → α) (v : String) (x : α) :
    (fun w => setS env (ρ v) x (ρ w)) = setS (fun w => env (ρ w)) v x := by
  funext w
  simp only [setS]
  by_cases h : w = v
  · simp [h]
  · have : ρ w ≠ ρ v := fun e => h (hρ _ _ e)
    simp [h, this]

def pullSA (ρ σ : String → String) (s : State F) : State F :=
  { s with ienv := fun v => s.ienv (ρ v), fenv := fun v => s.fenv (ρ v), benv := fun v => s.benv (ρ v),
           ia := fun a => s.ia (σ a), fa := fun a => s.fa (σ a), shp := fun a => s.shp (σ a) }

theorem pullSA_ctl (ρ σ : String → String) (s : State F) : (pullSA ρ σ s).ctl = s.ctl := rfl
theorem pullSA_ia (ρ σ : String → String) (s : State F) (a : String) : (pullSA ρ σ s).ia a = s.ia (σ a) := rfl
theorem pullSA_fa (ρ σ : String → String) (s : State F) (a : String) : (pullSA ρ σ s).fa a = s.fa (σ a) := rfl
theorem pullSA_shp (ρ σ : String → String) (s : State F) (a : String) : (pullSA ρ σ s).shp a = s.shp (σ a) := rfl
theorem pullSA_ext (ρ σ : String → String) (s : State F) : (pullSA ρ σ s).ext = s.ext := rfl

variable (ρ σ : String → String)

theorem renIA_eval (s : State F) : ∀ e : IE, (renI ρ (renAI σ e)).eval s = e.eval (pullSA ρ σ s) := by
  intro e
  induction e with
  | lit n | var v | dim a k | sum a => rfl
  | bin op a b iha ihb => simp only [renAI, renI, IE.eval, iha, ihb]
  | neg a iha => simp only [renAI, renI, IE.eval, iha]
  | ld1 a i ihi => simp only [renAI, renI, IE.eval, ihi, pullSA_shp, pullSA_ia]
  | ld2 a i j ihi ihj => simp only [renAI, renI, IE.eval, ihi, ihj, pullSA_shp, pullSA_ia]

theorem renIA_ok (s : State F) : ∀ e : IE, (renI ρ (renAI σ e)).ok s = e.ok (pullSA ρ σ s) := by
  intro e
  induction e with
  | lit n | var v | dim a k | sum a => rfl
  | bin op a b iha ihb => simp only [renAI, renI, IE.ok, iha, ihb, renIA_eval]
  | neg a iha => simp only [renAI, renI, IE.ok, iha]
  | ld1 a i ihi => simp only [renAI, renI, IE.ok, ihi, renIA_eval, pullSA_shp]; rfl
  | ld2 a i j ihi ihj => simp only [renAI, renI, IE.ok, ihi, ihj, renIA_eval, pullSA_shp]; rfl

theorem renFA_eval (s : State F) : ∀ e : FE, (renF ρ (renAF σ e)).eval s = e.eval (pullSA ρ σ s) := by
  intro e
  induction e with
  | lit n d | nan | inf | pi | var v | red op a => rfl
  | ofInt e => simp only [renAF, renF, FE.eval, renIA_eval]
  | ld1 a i | ld2 a i j => simp only [renAF, renF, FE.eval, renIA_eval, pullSA_shp, pullSA_fa]
  | un op a iha => simp only [renAF, renF, FE.eval, iha]
  | bin op a b iha ihb => simp only [renAF, renF, FE.eval, iha, ihb]
  | ext fn a b c d k iha ihb ihc ihd => simp only [renAF, renF, FE.eval, iha, ihb, ihc, ihd, renIA_eval, pullSA_ext]

theorem renFA_ok (s : State F) : ∀ e : FE, (renF ρ (renAF σ e)).ok s = e.ok (pullSA ρ σ s) := by
  intro e
  induction e with
  | lit n d | nan | inf | pi | var v | red op a => rfl
  | ofInt e => simp only [renAF, renF, FE.ok, renIA_ok]
  | ld1 a i | ld2 a i j => simp only [renAF, renF, FE.ok, renIA_ok, renIA_eval, pullSA_shp]; rfl
  | un op a iha => simp only [renAF, renF, FE.ok, iha]
  | bin op a b iha ihb => simp only [renAF, renF, FE.ok, iha, ihb]
  | ext fn a b c d k iha ihb ihc ihd => simp only [renAF, renF, FE.ok, iha, ihb, ihc, ihd, renIA_ok]

theorem renBA_eval (s : State F) : ∀ e : BE, (renB ρ (renAB σ e)).eval s = e.eval (pullSA ρ σ s) := by
  intro e
  induction e with
  | tt | ff | var v => rfl
  | cmpI op a b => simp only [renAB, renB, BE.eval, renIA_eval]
  | cmpF op a b | isnan a | isfinite a => simp only [renAB, renB, BE.eval, renFA_eval]
  | and a b iha ihb | or a b iha ihb => simp only [renAB, renB, BE.eval, iha, ihb]
  | not a iha => simp only [renAB, renB, BE.eval, iha]

theorem renBA_ok (s : State F) : ∀ e : BE, (renB ρ (renAB σ e)).ok s = e.ok (pullSA ρ σ s) := by
  intro e
  induction e with
  | tt | ff | var v => rfl
  | cmpI op a b => simp only [renAB, renB, BE.ok, renIA_ok]
  | cmpF op a b | isnan a | isfinite a => simp only [renAB, renB, BE.ok, renFA_ok]
  | and a b iha ihb | or a b iha ihb => simp only [renAB, renB, BE.ok, iha, ihb, renBA_eval]
  | not a iha => simp only [renAB, renB, BE.ok, iha]

theorem pullSA_afterBody (s : State F) : pullSA ρ σ (afterBody s) = afterBody (pullSA ρ σ s) := by
  unfold afterBody; simp only [pullSA_ctl]; split <;> rfl

theorem pullSA_afterLoop (s : State F) : pullSA ρ σ (afterLoop s) = afterLoop (pullSA ρ σ s) := by
  unfold afterLoop; simp only [pullSA_ctl]; split <;> rfl

theorem pullSA_loopOver {α} (f g : State F → α → State F) (xs : List α)
    (h : ∀ st x, pullSA ρ σ (f st x) = g (pullSA ρ σ st) x) (s : State F) :
    pullSA ρ σ (loopOver f xs s) = loopOver g xs (pullSA ρ σ s) := by
  unfold loopOver
  rw [pullSA_afterLoop]
  congr 1
  induction xs generalizing s with
  | nil => rfl
  | cons x xs ih =>
    simp only [List.foldl_cons]
    rw [ih]
    congr 1
    by_cases hs : s.ctl = .run
    · simp only [hs, pullSA_ctl, if_true, pullSA_afterBody, h]
    · simp only [hs, pullSA_ctl, if_false]

theorem all_renIA_ok (s : State F) (dims : List IE) :
    ((dims.map (renAI σ)).map (renI ρ)).all (·.ok s) = dims.all (·.ok (pullSA ρ σ s)) := by
  simp only [List.all_map, Function.comp_def, renIA_ok]

theorem all_renIA_nonneg (s : State F) (dims : List IE) :
    ((dims.map (renAI σ)).map (renI ρ)).all (fun d => decide (0 ≤ d.eval s)) =
      dims.all (fun d => decide (0 ≤ d.eval (pullSA ρ σ s))) := by
  simp only [List.all_map, Function.comp_def, renIA_eval]

theorem map_renIA_eval (s : State F) (dims : List IE) :
    ((dims.map (renAI σ)).map (renI ρ)).map (fun d => (d.eval s).toNat) =
      dims.map (fun d => (d.eval (pullSA ρ σ s)).toNat) := by
  simp only [List.map_map, Function.comp_def, renIA_eval]

theorem exec_renSA (hρ : Inj ρ) (hσ : Inj σ) : ∀ (fuel : Nat) (st : St) (s : State F),
    pullSA ρ σ (exec fuel (renS ρ (renAS σ st)) s) = exec fuel st (pullSA ρ σ s) := by
  intro fuel
  induction fuel using Nat.strongRecOn with
  | _ fuel ihf =>
    intro st
    induction st with
    | skip => intro s; simp only [renAS, renS, exec]
    | seq a b iha ihb =>
      intro s
      simp only [renAS, renS, exec]
      have h1 := iha s
      have hc : (exec fuel (renS ρ (renAS σ a)) s).ctl = (exec fuel a (pullSA ρ σ s)).ctl := by rw [← h1]; rfl
      rw [← hc]
      split
      · rw [ihb, h1]
      · exact h1
    | setI v e =>
      intro s
      simp only [renAS, renS, exec, renIA_ok, renIA_eval]
      split
      · simp only [pullSA, pull_setS ρ hρ]
      · rfl
    | setF v e =>
      intro s
      simp only [renAS, renS, exec, renFA_ok, renFA_eval]
      split
      · simp only [pullSA, pull_setS ρ hρ]
      · rfl
    | setB v e =>
      intro s
      simp only [renAS, renS, exec, renBA_ok, renBA_eval]
      split
      · simp only [pullSA, pull_setS ρ hρ]
      · rfl
    | stF1 a i e | stF2 a i j e =>
      intro s
      simp only [renAS, renS, exec, renIA_ok, renIA_eval, renFA_ok, renFA_eval, ← pullSA_shp ρ σ s a, ← pullSA_fa ρ σ s a]
      rw [apply_ite (pullSA ρ σ)]
      congr 1
      simp only [pullSA, pull_setS σ hσ]
    | stI1 a i e | stI2 a i j e =>
      intro s
      simp only [renAS, renS, exec, renIA_ok, renIA_eval, ← pullSA_shp ρ σ s a, ← pullSA_ia ρ σ s a]
      rw [apply_ite (pullSA ρ σ)]
      congr 1
      simp only [pullSA, pull_setS σ hσ]
    | allocF a dims fill =>
      intro s
      simp only [renAS, renS, exec, all_renIA_ok, all_renIA_nonneg, map_renIA_eval, renFA_ok, renFA_eval]
      rw [apply_ite (pullSA ρ σ)]
      congr 1
      simp only [pullSA, pull_setS σ hσ]
    | allocI a dims fill =>
      intro s
      simp only [renAS, renS, exec, all_renIA_ok, all_renIA_nonneg, map_renIA_eval, renIA_ok, renIA_eval]
      rw [apply_ite (pullSA ρ σ)]
      congr 1
      simp only [pullSA, pull_setS σ hσ]
    | ite c t f iht ihf' =>
      intro s
      simp only [renAS, renS, exec, renBA_ok, renBA_eval]
      split
      · split
        · exact iht s
        · exact ihf' s
      · rfl
    | «while» c b ihb =>
      intro s
      cases fuel with
      | zero => simp only [renAS, renS, exec]; rfl
      | succ f =>
        simp only [renAS, renS, exec, renBA_ok, renBA_eval]
        split
        · split
          · have h1 := ihf f (Nat.lt_succ_self f) b s
            have hw := ihf f (Nat.lt_succ_self f) (.while c b)
            simp only [renAS, renS] at hw
            rw [← h1]
            generalize exec f (renS ρ (renAS σ b)) s = s1
            cases hctl : s1.ctl with
            | run => simp only [pullSA_ctl, hctl]; exact hw s1
            | cont => simp only [pullSA_ctl, hctl]; exact hw _
            | brk => simp only [pullSA_ctl, hctl]; rfl
            | ret | err m => simp only [pullSA_ctl, hctl]
          · rfl
        · rfl
    | forRange v lo hi step b ihb =>
      intro s
      simp only [renAS, renS, exec, renIA_ok, renIA_eval]
      split
      · apply pullSA_loopOver
        intro st x
        rw [ihb]
        congr 1
        simp only [pullSA, pull_setS ρ hρ]
      · rfl
    | forIn v a b ihb =>
      intro s
      simp only [renAS, renS, exec]
      by_cases hc : (s.shp (σ a)).length = 1
      · rw [if_pos hc, if_pos (show ((pullSA ρ σ s).shp a).length = 1 from hc)]
        apply pullSA_loopOver
        intro st x
        rw [ihb]
        congr 1
        simp only [pullSA, pull_setS ρ hρ]
      · rw [if_neg hc, if_neg (show ¬ ((pullSA ρ σ s).shp a).length = 1 from hc)]; rfl
    | brk | cont | ret | fail m => intro s; simp only [renAS, renS, exec]; rfl
    | scope b ihb =>
      intro s
      simp only [renAS, renS, exec]
      have h1 := ihb s
      have hc : (exec fuel (renS ρ (renAS σ b)) s).ctl = (exec fuel b (pullSA ρ σ s)).ctl := by rw [← h1]; rfl
      rw [← hc, ← h1]
      split <;> rfl

theorem renI_id : ∀ e : IE, renI id e = e := by
  intro e; induction e <;> simp only [renI, id, *]

theorem renF_id : ∀ e : FE, renF id e = e := by
  intro e; induction e <;> simp only [renF, renI_id, id, *]

theorem renB_id : ∀ e : BE, renB id e = e := by
  intro e; induction e <;> simp only [renB, renI_id, renF_id, id, *]

theorem renS_id : ∀ st : St, renS id st = st := by
  intro st; induction st <;> simp only [renS, renI_id, renF_id, renB_id, id, List.map_id'' renI_id, *]

theorem renAI_id : ∀ e : IE, renAI id e = e := by
  intro e; induction e <;> simp only [renAI, id, *]

theorem renAF_id : ∀ e : FE, renAF id e = e := by
  intro e; induction e <;> simp only [renAF, renAI_id, id, *]

theorem renAB_id : ∀ e : BE, renAB id e = e := by
  intro e; induction e <;> simp only [renAB, renAI_id, renAF_id, *]

theorem renAS_id : ∀ st : St, renAS id st = st := by
  intro st; induction st <;> simp only [renAS, renAI_id, renAF_id, renAB_id, id, List.map_id'' renAI_id, *]

theorem exec_ren (ρ : String → String) (hρ : Inj ρ) :
    ∀ (fuel : Nat) (st : St) (s : State F), pull ρ (exec fuel (renS ρ st) s) = exec fuel st (pull ρ s) := by
  intro fuel st s
  have := exec_renSA ρ id hρ inj_id fuel st s
  rwa [renAS_id] at this

theorem exec_renA (σ : String → String) (hσ : Inj σ) :
    ∀ (fuel : Nat) (st : St) (s : State F), pullA σ (exec fuel (renAS σ st) s) = exec fuel st (pullA σ s) := by
  intro fuel st s
  have := exec_renSA id σ inj_id hσ fuel st s
  rwa [renS_id] at this

def swapS (a b : String) (v : String) : String := if v = a then b else if v = b then a else v

theorem swapS_invol (a b v : String) : swapS a b (swapS a b v) = v := by
  unfold swapS
  by_cases h1 : v = a
  · by_cases h2 : b = a <;> simp [h1, h2]
  · by_cases h2 : v = b
    · simp [h2]
    · simp [h1, h2]

theorem inj_swapS (a b : String) : Inj (swapS a b) := fun x y h => by
  have := congrArg (swapS a b) h
  rwa [swapS_invol, swapS_invol] at this

theorem Inj.comp {f g : String → String} (hf : Inj f) (hg : Inj g) : Inj (fun v => f (g v)) :=
  fun _ _ h => hg _ _ (hf _ _ h)

def swapL : List (String × String) → String → String
  | [], v => v
  | (a, b) :: rest, v => swapS a b (swapL rest v)

theorem inj_swapL : ∀ l : List (String × String), Inj (swapL l)
  | [] => inj_id
  | (a, b) :: rest => fun _ _ h => inj_swapL rest _ _ (inj_swapS a b _ _ h)

/-- a table of disjoint transpositions (`TblOK`), evaluated by first match -/
def swapT (tbl : List (String × String)) (v : String) : String :=
  match tbl.find? (fun p => p.1 == v) with
  | some p => p.2
  | none =>
    match tbl.find? (fun p => p.2 == v) with
    | some p => p.1
    | none => v

def TblOK (tbl : List (String × String)) : Prop := (tbl.map Prod.fst ++ tbl.map Prod.snd).Nodup

instance (tbl : List (String × String)) : Decidable (TblOK tbl) := by unfold TblOK; infer_instance

theorem swapT_invol (tbl : List (String × String)) (h : TblOK tbl) (v : String) : swapT tbl (swapT tbl v) = v := by
  obtain ⟨h1, h2, h3⟩ := List.nodup_append.mp h
  have inj1 := List.inj_on_of_nodup_map h1
  have inj2 := List.inj_on_of_nodup_map h2
  cases hf : tbl.find? (fun p => p.1 == v) with
  | some p =>
    have hp := List.find?_some hf
    have hm := List.mem_of_find?_eq_some hf
    simp only [beq_iff_eq] at hp
    have e1 : swapT tbl v = p.2 := by simp only [swapT, hf]
    rw [e1]
    have hn : tbl.find? (fun q => q.1 == p.2) = none := by
      rw [List.find?_eq_none]
      intro q hq hqe
      simp only [beq_iff_eq] at hqe
      exact h3 q.1 (List.mem_map_of_mem hq) p.2 (List.mem_map_of_mem hm) hqe
    cases hg : tbl.find? (fun q => q.2 == p.2) with
    | some q =>
      have hq := List.find?_some hg
      have hqm := List.mem_of_find?_eq_some hg
      simp only [beq_iff_eq] at hq
      have : q = p := inj2 hqm hm hq
      simp only [swapT, hn, hg, this, hp]
    | none =>
      rw [List.find?_eq_none] at hg
      exact absurd (by simp) (hg p hm)
  | none =>
    cases hg : tbl.find? (fun q => q.2 == v) with
    | some p =>
      have hp := List.find?_some hg
      have hm := List.mem_of_find?_eq_some hg
      simp only [beq_iff_eq] at hp
      have e1 : swapT tbl v = p.1 := by simp only [swapT, hf, hg]
      rw [e1]
      cases hh : tbl.find? (fun q => q.1 == p.1) with
      | some q =>
        have hq := List.find?_some hh
        have hqm := List.mem_of_find?_eq_some hh
        simp only [beq_iff_eq] at hq
        have : q = p := inj1 hqm hm hq
        simp only [swapT, hh, this, hp]
      | none =>
        rw [List.find?_eq_none] at hh
        exact absurd (by simp) (hh p hm)
    | none =>
      have e1 : swapT tbl v = v := by simp only [swapT, hf, hg]
      rw [e1, e1]

theorem inj_swapT (tbl : List (String × String)) (h : TblOK tbl) : Inj (swapT tbl) := fun x y e => by
  have := congrArg (swapT tbl) e
  rwa [swapT_invol tbl h, swapT_invol tbl h] at this

end XrsVerif.ILVs
