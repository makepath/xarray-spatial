import XrsVerif.Proofs.ILang
/-
  Generic ILang lemmas for the refinement proofs of viewshed's status tree (Proofs/ILViewshed*.lean): one rewriting
  rule for `ok` and one for `eval` per expression form that the status tree uses (`FE.bin`, `var`, `lit`, `ofInt`;
  `IE.var`, `lit`; `BE.cmpI`, `cmpF`, `and`, `not`, `var`, `tt`, `ff`), so that a proof never unfolds an expression
  through an array read; the other forms have no such rule.
-/
namespace XrsVerif.ILVs
open XrsVerif XrsVerif.IL
variable {F : Type} [Fl F]
set_option linter.unusedSectionVars false

theorem exec_setB (fuel : Nat) (v : String) (c : BE) (s : State F) (h : c.ok s = true) :
    exec fuel (.setB v c) s = { s with benv := setS s.benv v (c.eval s) } :=
  IL.exec_setB fuel v c s h

theorem exec_ite (fuel : Nat) (c : BE) (t f : St) (s : State F) (hok : c.ok s = true) :
    exec fuel (.ite c t f) s = if c.eval s = true then exec fuel t s else exec fuel f s :=
  IL.exec_ite fuel c t f s hok

theorem exec_brk (fuel : Nat) (s : State F) : exec fuel .brk s = { s with ctl := .brk } := IL.exec_brk fuel s

theorem FE.ok_bin (s : State F) (op : BinOp) (a b : FE) : (FE.bin op a b).ok s = (a.ok s && b.ok s) := by
  simp only [FE.ok]
theorem FE.ok_var (s : State F) (v : String) : (FE.var v).ok s = true := by simp only [FE.ok]
theorem FE.ok_lit (s : State F) (n : Int) (d : Nat) : (FE.lit n d).ok s = true := by simp only [FE.ok]
theorem FE.eval_bin (s : State F) (op : BinOp) (a b : FE) : (FE.bin op a b).eval s = op.eval (a.eval s) (b.eval s) := by
  simp only [FE.eval]
theorem FE.eval_var (s : State F) (v : String) : (FE.var v).eval s = s.fenv v := by simp only [FE.eval]
theorem FE.eval_lit (s : State F) (n : Int) (d : Nat) : (FE.lit n d).eval s = Fl.lit n d := by simp only [FE.eval]
theorem FE.ok_ofInt (s : State F) (e : IE) : (FE.ofInt e).ok s = e.ok s := by simp only [FE.ok]
theorem FE.eval_ofInt (s : State F) (e : IE) : (FE.ofInt e).eval s = Fl.lit (e.eval s) 1 := by simp only [FE.eval]
theorem IE.ok_var (s : State F) (v : String) : (IE.var v).ok s = true := by simp only [IE.ok]
theorem IE.ok_lit (s : State F) (n : Int) : (IE.lit n).ok s = true := by simp only [IE.ok]
theorem IE.eval_var (s : State F) (v : String) : (IE.var v).eval s = s.ienv v := by simp only [IE.eval]
theorem IE.eval_lit (s : State F) (n : Int) : (IE.lit n).eval s = n := by simp only [IE.eval]
theorem BE.ok_cmpI (s : State F) (op : CmpOp) (a b : IE) : (BE.cmpI op a b).ok s = (a.ok s && b.ok s) := by
  simp only [BE.ok]
theorem BE.ok_cmpF (s : State F) (op : CmpOp) (a b : FE) : (BE.cmpF op a b).ok s = (a.ok s && b.ok s) := by
  simp only [BE.ok]
theorem BE.eval_cmpI (s : State F) (op : CmpOp) (a b : IE) : (BE.cmpI op a b).eval s = cmpInt op (a.eval s) (b.eval s) := by
  simp only [BE.eval]
theorem BE.eval_cmpF (s : State F) (op : CmpOp) (a b : FE) : (BE.cmpF op a b).eval s = op.eval (a.eval s) (b.eval s) := by
  simp only [BE.eval]
theorem BE.ok_and (s : State F) (a b : BE) : (BE.and a b).ok s = (a.ok s && (!(a.eval s) || b.ok s)) := by
  simp only [BE.ok]
theorem BE.eval_and (s : State F) (a b : BE) : (BE.and a b).eval s = (a.eval s && b.eval s) := by
  simp only [BE.eval]
theorem BE.ok_not (s : State F) (a : BE) : (BE.not a).ok s = a.ok s := by simp only [BE.ok]
theorem BE.eval_not (s : State F) (a : BE) : (BE.not a).eval s = !(a.eval s) := by simp only [BE.eval]
theorem BE.ok_var (s : State F) (v : String) : (BE.var v).ok s = true := by simp only [BE.ok]
theorem BE.eval_var (s : State F) (v : String) : (BE.var v).eval s = s.benv v := by simp only [BE.eval]
theorem BE.ok_tt (s : State F) : BE.tt.ok s = true := by simp only [BE.ok]
theorem BE.eval_tt (s : State F) : BE.tt.eval s = true := by simp only [BE.eval]
theorem BE.ok_ff (s : State F) : BE.ff.ok s = true := by simp only [BE.ok]
theorem BE.eval_ff (s : State F) : BE.ff.eval s = false := by simp only [BE.eval]

end XrsVerif.ILVs
