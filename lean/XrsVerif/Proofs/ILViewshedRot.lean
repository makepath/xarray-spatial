import XrsVerif.Proofs.ILViewshedHeap
import XrsVerif.Model.ViewshedFix
/-
  Refinement of the two generated rotations `Gen.IL.vsLeftRotate`, `vsRightRotate`
  (`_left_rotate` / `_right_rotate` of xrspatial/viewshed.py with `_find_value_min_value` inlined) to the hand
  model's `rotL` / `rotR` (Model/Viewshed.lean), stored maxima included, for every `[Fl F]`.

  Each program is cut into the augmentation repair (`lrotItems`: two recomputed maxima written to `tree_vals`)
  and the pointer surgery (`lrotB`: six link cells of `tree_nodes`, among them the parent cell of the NIL row when
  the middle subtree is empty); `vsLeftRotate_body` ties the cut to the generated program by `rfl`.

  The two source functions are not textual mirrors (different variable names, swapped operands of the parent test), so
  each side has its own cut and its own short lemmas "the block writes this" (`lrotA_spec`, `rrotA_spec`: `rotVals`;
  `lrotB_spec`, `rrotB_spec`: `rotWrites`).  Everything after that is stated once for a rotation towards `d : Dir` at
  `nodeD d o t (nodeD d m c e)`: `rotCells` (what the writes leave in each cell) and `rot_refines` (cells and values
  give the linked rotated shape whose abstraction is `rotD`).
-/
namespace XrsVerif.ILVs
open XrsVerif XrsVerif.IL XrsVerif.Viewshed
variable {F : Type} [Fl F]

def lrotItems : List St :=
  [(.setI "y" (.ld2 "tree_nodes" (.var "x") (.lit 2))),
   (.setI "x_left" (.ld2 "tree_nodes" (.var "x") (.lit 1))),
   (.setI "y_left" (.ld2 "tree_nodes" (.var "y") (.lit 1))),
   (selMax "tmp_max" (.ld2 "tree_vals" (.var "x_left") (.lit 7)) (.ld2 "tree_vals" (.var "y_left") (.lit 7))),
   (.setI "_find_value_min_value1$node_id" (.var "x")),
   (minvScope "_find_value_min_value1$node_id" "_find_value_min_value1$ret0"),
   (.setF "min_value" (.var "_find_value_min_value1$ret0")),
   (stMax "tree_vals" (.var "x") (.lit 7) (.var "tmp_max") (.var "min_value")),
   (.setI "y_right" (.ld2 "tree_nodes" (.var "y") (.lit 2))),
   (selMax "tmp_max" (.ld2 "tree_vals" (.var "x") (.lit 7)) (.ld2 "tree_vals" (.var "y_right") (.lit 7))),
   (.setI "_find_value_min_value2$node_id" (.var "y")),
   (minvScope "_find_value_min_value2$node_id" "_find_value_min_value2$ret0"),
   (.setF "min_value" (.var "_find_value_min_value2$ret0")),
   (stMax "tree_vals" (.var "y") (.lit 7) (.var "tmp_max") (.var "min_value"))]

def lrotB : St :=
  (.seq (.stI2 "tree_nodes" (.var "x") (.lit 2) (.ld2 "tree_nodes" (.var "y") (.lit 1)))
  (.seq (.setI "y_left" (.ld2 "tree_nodes" (.var "y") (.lit 1)))
  (.seq (.stI2 "tree_nodes" (.var "y_left") (.lit 3) (.var "x"))
  (.seq (.stI2 "tree_nodes" (.var "y") (.lit 3) (.ld2 "tree_nodes" (.var "x") (.lit 3)))
  (.seq (.ite (.cmpI .eq (.ld2 "tree_nodes" (.var "x") (.lit 3)) (.lit (-1)))
      (.setI "root" (.var "y"))
      (.seq (.setI "x_parent" (.ld2 "tree_nodes" (.var "x") (.lit 3)))
      (.ite (.cmpI .eq (.var "x") (.ld2 "tree_nodes" (.var "x_parent") (.lit 1)))
        (.stI2 "tree_nodes" (.var "x_parent") (.lit 1) (.var "y"))
        (.stI2 "tree_nodes" (.var "x_parent") (.lit 2) (.var "y")))))
  (.seq (.stI2 "tree_nodes" (.var "y") (.lit 1) (.var "x"))
  (.seq (.stI2 "tree_nodes" (.var "x") (.lit 3) (.var "y")) (.seq (.setI "ret0" (.var "root")) .ret))))))))

theorem vsLeftRotate_body : Gen.IL.vsLeftRotate.body = seqK lrotItems lrotB := rfl

theorem Linked.inRange {N : List Int} {n : Nat} {par : Int} {sh : Sh} (h : Linked N n par sh) (hn : 0 < n) :
    inRange sh.ptr n = true := inRange_ptr n _ (h.ptrOK hn) hn

theorem rowOf_ptr_lt {N : List Int} {n : Nat} {par : Int} {sh : Sh} (h : Linked N n par sh) (hn : 0 < n) :
    rowOf n sh.ptr < n := rowOf_lt n _ (h.ptrOK hn) hn

/-!
  A rotation towards `d` (`L` = `_left_rotate`) at the node `t` turns `nodeD d o t (nodeD d m c e)` into
  `nodeD d (nodeD d o t m) c e`: the child `c` comes on top, the middle subtree `m` changes sides. -/

/-- the new stored maximum of the old top node `t` (children `o`, `m`; the code takes the left child's maximum first) -/
def rotTm (V : List F) (n : Nat) : Dir → Sh → Nat → Sh → Fv F
  | .L, o, t, m => mx2 (mx2 (mxAt V n o.ptr) (mxAt V n m.ptr)) (minv (nodeAt V t))
  | .R, o, t, m => mx2 (mx2 (mxAt V n m.ptr) (mxAt V n o.ptr)) (minv (nodeAt V t))

/-- the new stored maximum of the new top node `c`, computed after that of `t` (`tm`) -/
def rotCm (V : List F) (n : Nat) : Dir → Fv F → Nat → Sh → Fv F
  | .L, tm, c, e => mx2 (mx2 tm (mxAt V n e.ptr)) (minv (nodeAt V c))
  | .R, tm, c, e => mx2 (mx2 (mxAt V n e.ptr) tm) (minv (nodeAt V c))

def rotVals (V : List F) (n : Nat) (d : Dir) (o : Sh) (t : Nat) (m : Sh) (c : Nat) (e : Sh) : List F :=
  (V.set (t * 8 + 7) (rotTm V n d o t m).v).set (c * 8 + 7) (rotCm V n d (rotTm V n d o t m) c e).v

theorem lrotA_spec (fuel n : Nat) (s : State F) (hv : VS s n) (hrun : s.ctl = .run) (xl : Sh) (x : Nat) (yl : Sh) (y : Nat)
    (yr : Sh) (par : Int) (hl : Linked (s.ia "tree_nodes") n par (.node xl x (.node yl y yr)))
    (hn : (Sh.node xl x (.node yl y yr)).idxs.Nodup) (hx : s.ienv "x" = x) :
    let q := exec fuel (seqL lrotItems) s
    q.ctl = .run ∧ q.fa = setS s.fa "tree_vals" (rotVals (s.fa "tree_vals") n .L xl x yl y yr) ∧
      q.ia = s.ia ∧ q.shp = s.shp ∧ q.ienv "x" = x ∧ q.ienv "y" = y ∧ q.ienv "root" = s.ienv "root" := by
  obtain ⟨hxn, hxL, hxR, hxP, hlxl, hly⟩ := hl
  obtain ⟨hyn, hyL, hyR, hyP, hlyl, hlyr⟩ := hly
  simp only [Sh.ptr] at hxR
  have hinx : inRange (x : Int) n = true := inRange_ptr n _ (by omega) hv.pos
  have hiny : inRange (y : Int) n = true := inRange_ptr n _ (by omega) hv.pos
  have hinxl := hlxl.inRange hv.pos
  have hinyl := hlyl.inRange hv.pos
  have hinyr := hlyr.inRange hv.pos
  have eN := fun (s' : State F) => evalN s' n
  have oN := fun (s' : State F) => okN s' n
  have eV := fun (s' : State F) => evalV s' n
  have oV := fun (s' : State F) => okV s' n
  have mS := fun (a b : String) (s' : State F) => minvScope_spec a b fuel n s'
  have sM := fun (s' : State F) => stMax_spec fuel s' n
  have hlen : x * 8 + 7 < (s.fa "tree_vals").length := by rw [hv.lenV]; omega
  -- the second repair reads rows other than `x` except for the new maximum of `x`
  have hd := Sh.ptr_ne_of_nodup xl (.node yl y yr) x hn
  have hxy : x ≠ y := fun e => hd.2.2.2.2.2 (by simp [Sh.idxs, e])
  have hyrx : rowOf n yr.ptr ≠ x := by
    cases yr with
    | nil => simp only [Sh.ptr, rowOf_neg_one]; omega
    | node a b c =>
      simp only [Sh.ptr, rowOf_nat]
      intro e
      exact hd.2.2.2.2.2 (by simp [Sh.idxs, e])
  intro q
  simp [q, lrotItems, seqL, exec, selMax_spec, mS, sM, eN, oN, eV, oV, hv.shpN, hv.shpV, hx, hinx, hiny, hinxl, hinyl, hinyr,
    hxL, hxR, hyL, hyR, IE.ok_var, IE.eval_var, FE.ok_var, FE.eval_var, setS, hrun, vAt_set, hlen, hyrx,
    nodeAt_set7, setS_setS, rotVals, rotTm, rotCm, mxAt]

/-- `tree_nodes` after the writes `ws` (row, column, value), in order -/
def setsN (N : List Int) (ws : List (Nat × Nat × Int)) : List Int :=
  ws.foldl (fun l w => l.set (w.1 * 4 + w.2.1) w.2.2) N

theorem setsN_length (ws : List (Nat × Nat × Int)) (N : List Int) : (setsN N ws).length = N.length :=
  foldl_set_length ws (fun w => w.1 * 4 + w.2.1) (fun w => w.2.2) N

theorem nAt_setsN_other : ∀ (ws : List (Nat × Nat × Int)) (N : List Int) (i k : Nat), k < 4 →
    (∀ w ∈ ws, w.2.1 < 4 ∧ ¬ (w.1 = i ∧ w.2.1 = k)) → nAt (setsN N ws) i k = nAt N i k := by
  intro ws N i k hk h
  unfold nAt setsN
  rw [List.getD_eq_getElem?_getD, List.getD_eq_getElem?_getD, foldl_set_miss ws (fun w => w.1 * 4 + w.2.1) (fun w => w.2.2) N _
    fun w hw e => (h w hw).2 (by have := (h w hw).1; omega)]

theorem nAt_setsN_mem : ∀ (ws : List (Nat × Nat × Int)) (N : List Int),
    (∀ w ∈ ws, w.2.1 < 4 ∧ w.1 * 4 + w.2.1 < N.length) → (ws.map fun w => (w.1, w.2.1)).Nodup →
    ∀ w ∈ ws, nAt (setsN N ws) w.1 w.2.1 = w.2.2 := by
  intro ws
  induction ws with
  | nil => intro N _ _ w hw; cases hw
  | cons v ws ih =>
    intro N hb hnd w hw
    obtain ⟨hv4, hvlen⟩ := hb v (by simp)
    rw [List.map_cons, List.nodup_cons] at hnd
    have hb' : ∀ u ∈ ws, u.2.1 < 4 ∧ u.1 * 4 + u.2.1 < (N.set (v.1 * 4 + v.2.1) v.2.2).length :=
      fun u hu => by rw [List.length_set]; exact hb u (by simp [hu])
    rcases List.mem_cons.mp hw with rfl | hw'
    · show nAt (setsN (N.set _ _) ws) w.1 w.2.1 = _
      rw [nAt_setsN_other ws _ _ _ hv4 (fun u hu => ⟨(hb u (by simp [hu])).1,
        fun e => hnd.1 (List.mem_map.mpr ⟨u, hu, by rw [e.1, e.2]⟩)⟩),
        nAt_set _ _ _ _ _ _ hv4 hv4 hvlen]
      simp
    · exact ih _ hb' hnd.2 w hw'

/-- the writes of the pointer surgery of a rotation at `t` with child `c` in column `a` (`b` the other link column),
    middle pointer `m`, parent pointer `par` -/
def rotWrites (N : List Int) (n a b t c : Nat) (m par : Int) : List (Nat × Nat × Int) :=
  [(t, a, m), (rowOf n m, 3, (t : Int)), (c, 3, par)] ++
    (if par = -1 then [] else [(par.toNat, if nAt N par.toNat 1 = (t : Int) then 1 else 2, (c : Int))]) ++
    [(c, b, (t : Int)), (t, 3, (c : Int))]

/-- what the pointer surgery is run on: `c` is the child of `t` in column `a`, `m` the child of `c` in column `b`;
    the rows of `t`, `c`, `m` and of the parent are distinct -/
structure RotPre (N : List Int) (n a b t c : Nat) (o m e par : Int) : Prop where
  len : N.length = n * 4
  ab : a = 1 ∧ b = 2 ∨ a = 2 ∧ b = 1
  tn : t + 1 < n
  cn : c + 1 < n
  tc : t ≠ c
  mr : -1 ≤ m ∧ m < n
  mt : rowOf n m ≠ t
  mc : rowOf n m ≠ c
  ta : nAt N t a = c
  tb : nAt N t b = o
  t3 : nAt N t 3 = par
  ca : nAt N c a = e
  cb : nAt N c b = m
  par : par = -1 ∨ ∃ p : Nat, par = (p : Int) ∧ p + 1 < n ∧ p ≠ t ∧ p ≠ c ∧ p ≠ rowOf n m

structure RotCells (N N' : List Int) (n a b t c : Nat) (o m e par : Int) : Prop where
  len : N'.length = N.length
  cb : nAt N' c b = t
  ca : nAt N' c a = e
  c3 : nAt N' c 3 = par
  tb : nAt N' t b = o
  ta : nAt N' t a = m
  t3 : nAt N' t 3 = c
  m3 : nAt N' (rowOf n m) 3 = t
  col0 : ∀ i, nAt N' i 0 = nAt N i 0
  other12 : ∀ i, i ≠ t → i ≠ c → (par < 0 ∨ (i : Int) ≠ par) → nAt N' i 1 = nAt N i 1 ∧ nAt N' i 2 = nAt N i 2
  other3 : ∀ i, i ≠ t → i ≠ c → i ≠ rowOf n m → nAt N' i 3 = nAt N i 3
  parent : ∀ p : Nat, par = (p : Int) →
    (nAt N p 1 = t → nAt N' p 1 = c ∧ nAt N' p 2 = nAt N p 2) ∧
    (nAt N p 1 ≠ t → nAt N' p 2 = c ∧ nAt N' p 1 = nAt N p 1)

theorem cell_ne {i k r cl : Nat} (h : i ≠ r ∨ k ≠ cl) : ¬ (r = i ∧ cl = k) :=
  fun e => h.elim (fun g => g e.1.symm) (fun g => g e.2.symm)

theorem linkCols {a b : Nat} (h : a = 1 ∧ b = 2 ∨ a = 2 ∧ b = 1) :
    a ≠ 3 ∧ b ≠ 3 ∧ a ≠ b ∧ a ≠ 0 ∧ b ≠ 0 ∧ a < 4 ∧ b < 4 := by omega

/-- the writes go to distinct cells of the rows `t`, `c`, `m` and of the parent, so every read is determined -/
theorem rotCells {N : List Int} {n a b t c : Nat} {o m e par : Int} (h : RotPre N n a b t c o m e par) :
    RotCells N (setsN N (rotWrites N n a b t c m par)) n a b t c o m e par := by
  obtain ⟨hlen, hab, htn, hcn, htc, hmr, hmt, hmc, hta, htb, ht3, hca, hcb, hpar⟩ := h
  have hmn := rowOf_lt n m hmr (by omega)
  obtain ⟨ha3, hb3, hab', ha0, hb0, ha4, hb4⟩ : a ≠ 3 ∧ b ≠ 3 ∧ a ≠ b ∧ a ≠ 0 ∧ b ≠ 0 ∧ a < 4 ∧ b < 4 := by
    exact linkCols hab
  have l1 : t * 4 + a < N.length := by clear hpar; omega
  have l2 : rowOf n m * 4 + 3 < N.length := by clear hpar; omega
  have l3 : c * 4 + 3 < N.length := by clear hpar; omega
  have l4 : c * 4 + b < N.length := by clear hpar; omega
  have l5 : t * 4 + 3 < N.length := by clear hpar; omega
  have h34 : (3 : Nat) < 4 := by decide
  have h03 : (0 : Nat) ≠ 3 := by decide
  have h13 : (1 : Nat) ≠ 3 := by decide
  have h23 : (2 : Nat) ≠ 3 := by decide
  rcases hpar with rfl | ⟨p, rfl, hp, hpt, hpc, hpm⟩
  · obtain ⟨ws, hws, hl⟩ : ∃ ws, rotWrites N n a b t c m (-1) = ws ∧
        ws = [(t, a, m), (rowOf n m, 3, (t : Int)), (c, 3, -1), (c, b, (t : Int)), (t, 3, (c : Int))] :=
      ⟨_, rfl, by simp [rotWrites]⟩
    rw [hws]
    have hmem := nAt_setsN_mem ws N (by simp [hl, ha4, hb4, l1, l2, l3, l4, l5])
      (by simp [hl, htc, htc.symm, hmt, hmc, hmt.symm, ha3, hb3, hab', hb3.symm])
    -- a cell is kept unless it is one of the two written in row `t`, the two in row `c`, or column 3 of row `m`
    have hfree : ∀ i k, k < 4 → (i ≠ t ∨ k ≠ a ∧ k ≠ 3) → (i ≠ c ∨ k ≠ b ∧ k ≠ 3) → (i ≠ rowOf n m ∨ k ≠ 3) →
        nAt (setsN N ws) i k = nAt N i k := by
      intro i k hk h1 h2 h3
      refine nAt_setsN_other ws N i k hk fun w hw => ?_
      rw [hl] at hw
      simp only [List.mem_cons, List.not_mem_nil, or_false] at hw
      rcases hw with rfl | rfl | rfl | rfl | rfl
      · exact ⟨ha4, cell_ne (h1.imp_right And.left)⟩
      · exact ⟨h34, cell_ne h3⟩
      · exact ⟨h34, cell_ne (h2.imp_right And.right)⟩
      · exact ⟨hb4, cell_ne (h2.imp_right And.left)⟩
      · exact ⟨h34, cell_ne (h1.imp_right And.right)⟩
    exact ⟨setsN_length _ N, hmem (c, b, (t : Int)) (by simp [hl]),
      (hfree c a ha4 (.inl htc.symm) (.inr ⟨hab', ha3⟩) (.inl hmc.symm)).trans hca, hmem (c, 3, -1) (by simp [hl]),
      (hfree t b hb4 (.inr ⟨hab'.symm, hb3⟩) (.inl htc) (.inl hmt.symm)).trans htb, hmem (t, a, m) (by simp [hl]),
      hmem (t, 3, (c : Int)) (by simp [hl]), hmem (rowOf n m, 3, (t : Int)) (by simp [hl]),
      fun i => hfree i 0 (by decide) (.inr ⟨ha0.symm, h03⟩) (.inr ⟨hb0.symm, h03⟩) (.inr h03),
      fun i h1 h2 _ => ⟨hfree i 1 (by decide) (.inl h1) (.inl h2) (.inr h13),
        hfree i 2 (by decide) (.inl h1) (.inl h2) (.inr h23)⟩,
      fun i h1 h2 h3 => hfree i 3 (by decide) (.inl h1) (.inl h2) (.inl h3), fun p hp => by omega⟩
  · have hne : ¬ ((p : Int) = -1) := by omega
    -- the one write to the parent's row goes to column `k`: 1 or 2
    obtain ⟨k, hk, hk12⟩ : ∃ k, (if nAt N p 1 = (t : Int) then 1 else 2) = k ∧ (k = 1 ∨ k = 2) := by
      split <;> exact ⟨_, rfl, by simp⟩
    obtain ⟨hk0, hk3, hk4⟩ : k ≠ 0 ∧ k ≠ 3 ∧ k < 4 := by rcases hk12 with h | h <;> rw [h] <;> decide
    have l6 : p * 4 + k < N.length := by omega
    obtain ⟨ws, hws, hl⟩ : ∃ ws, rotWrites N n a b t c m p = ws ∧ ws =
        [(t, a, m), (rowOf n m, 3, (t : Int)), (c, 3, (p : Int)), (p, k, (c : Int)), (c, b, (t : Int)), (t, 3, (c : Int))] :=
      ⟨_, rfl, by simp [rotWrites, hne, hk]⟩
    rw [hws]
    have hmem := nAt_setsN_mem ws N (by simp [hl, ha4, hb4, hk4, l1, l2, l3, l4, l5, l6])
      (by simp [hl, htc, htc.symm, hmt, hmc, hmt.symm, ha3, hb3, hab', hb3.symm, hk3, hk3.symm, hpt, hpc, hpt.symm, hpc.symm, hpm.symm])
    -- as above, and the parent's row keeps all but column `k`
    have hfree : ∀ i j, j < 4 → (i ≠ t ∨ j ≠ a ∧ j ≠ 3) → (i ≠ c ∨ j ≠ b ∧ j ≠ 3) → (i ≠ rowOf n m ∨ j ≠ 3) →
        (i ≠ p ∨ j ≠ k) → nAt (setsN N ws) i j = nAt N i j := by
      intro i j hj h1 h2 h3 h4
      refine nAt_setsN_other ws N i j hj fun w hw => ?_
      rw [hl] at hw
      simp only [List.mem_cons, List.not_mem_nil, or_false] at hw
      rcases hw with rfl | rfl | rfl | rfl | rfl | rfl
      · exact ⟨ha4, cell_ne (h1.imp_right And.left)⟩
      · exact ⟨h34, cell_ne h3⟩
      · exact ⟨h34, cell_ne (h2.imp_right And.right)⟩
      · exact ⟨hk4, cell_ne h4⟩
      · exact ⟨hb4, cell_ne (h2.imp_right And.left)⟩
      · exact ⟨h34, cell_ne (h1.imp_right And.right)⟩
    refine ⟨setsN_length _ N, hmem (c, b, (t : Int)) (by simp [hl]),
      (hfree c a ha4 (.inl htc.symm) (.inr ⟨hab', ha3⟩) (.inl hmc.symm) (.inl hpc.symm)).trans hca,
      hmem (c, 3, (p : Int)) (by simp [hl]),
      (hfree t b hb4 (.inr ⟨hab'.symm, hb3⟩) (.inl htc) (.inl hmt.symm) (.inl hpt.symm)).trans htb,
      hmem (t, a, m) (by simp [hl]), hmem (t, 3, (c : Int)) (by simp [hl]), hmem (rowOf n m, 3, (t : Int)) (by simp [hl]),
      fun i => hfree i 0 (by decide) (.inr ⟨ha0.symm, h03⟩) (.inr ⟨hb0.symm, h03⟩) (.inr h03) (.inr hk0.symm),
      fun i h1 h2 h3 => ?_, fun i h1 h2 h3 => hfree i 3 (by decide) (.inl h1) (.inl h2) (.inl h3) (.inr hk3.symm), ?_⟩
    · have h3' : i ≠ p := by omega
      exact ⟨hfree i 1 (by decide) (.inl h1) (.inl h2) (.inr h13) (.inl h3'),
        hfree i 2 (by decide) (.inl h1) (.inl h2) (.inr h23) (.inl h3')⟩
    · intro p' hp'
      obtain rfl : p' = p := by omega
      constructor
      · intro hc
        obtain rfl : k = 1 := by rw [← hk, if_pos hc]
        exact ⟨hmem (p', 1, (c : Int)) (by simp [hl]),
          hfree p' 2 (by decide) (.inl hpt) (.inl hpc) (.inl hpm) (.inr (by decide))⟩
      · intro hc
        obtain rfl : k = 2 := by rw [← hk, if_neg hc]
        exact ⟨hmem (p', 2, (c : Int)) (by simp [hl]),
          hfree p' 1 (by decide) (.inl hpt) (.inl hpc) (.inl hpm) (.inr (by decide))⟩

theorem RotPre.of_linked {N : List Int} {n : Nat} (d : Dir) (o : Sh) (t : Nat) (m : Sh) (c : Nat) (e : Sh) (par : Int)
    (hlen : N.length = n * 4) (hl : Linked N n par (.nodeD d o t (.nodeD d m c e)))
    (hn : (Sh.nodeD d o t (.nodeD d m c e)).idxs.Nodup)
    (hpar : par = -1 ∨ ∃ p : Nat, par = (p : Int) ∧ p + 1 < n ∧ p ∉ (Sh.nodeD d o t (.nodeD d m c e)).idxs) :
    RotPre N n d.flip.col d.col t c o.ptr m.ptr e.ptr par := by
  obtain ⟨htn, hto, htc, htp, hlo, hlc⟩ := linked_nodeD.mp hl
  obtain ⟨hcn, hcm, hce, hcp, hlm, hle⟩ := linked_nodeD.mp hlc
  obtain ⟨_, hnc, _, htc', _⟩ := Sh.nodup_nodeD hn
  obtain ⟨_, _, hcm', _, _⟩ := Sh.nodup_nodeD hnc
  rw [Sh.ptr_nodeD] at htc
  have hmrow := rowOf_ptr_cases n m
  have hin : ∀ j, j ∈ m.idxs → j ∈ (Sh.nodeD d m c e).idxs := fun j hj => (Sh.mem_nodeD ..).mpr (Or.inr (Or.inl hj))
  have hcin : c ∈ (Sh.nodeD d m c e).idxs := (Sh.mem_nodeD ..).mpr (Or.inl rfl)
  refine ⟨hlen, by rcases d.col_cases with h | h <;> omega, htn, hcn, fun h => htc' (h ▸ hcin), hlm.ptrOK (by omega),
    ?_, ?_, htc, hto, htp, hce, hcm, ?_⟩
  · rcases hmrow with h | h
    · omega
    · exact fun h' => htc' (hin _ (h' ▸ h))
  · rcases hmrow with h | h
    · omega
    · exact fun h' => hcm' (h' ▸ h)
  · rcases hpar with h | ⟨p, h, hp, hpi⟩
    · exact Or.inl h
    · refine Or.inr ⟨p, h, hp, fun h' => hpi ((Sh.mem_nodeD ..).mpr (Or.inl h')),
        fun h' => hpi ((Sh.mem_nodeD ..).mpr (Or.inr (Or.inr (h' ▸ hcin)))), ?_⟩
      rcases hmrow with h1 | h1
      · omega
      · exact fun h' => hpi ((Sh.mem_nodeD ..).mpr (Or.inr (Or.inr (hin _ (h' ▸ h1)))))

/-- what the pointer surgery of `_left_rotate` establishes, cell by cell -/
structure LRotCells (N N' : List Int) (n : Nat) (xl : Sh) (x : Nat) (yl : Sh) (y : Nat) (yr : Sh) (par : Int) : Prop where
  len : N'.length = N.length
  y1 : nAt N' y 1 = x
  y2 : nAt N' y 2 = yr.ptr
  y3 : nAt N' y 3 = par
  x1 : nAt N' x 1 = xl.ptr
  x2 : nAt N' x 2 = yl.ptr
  x3 : nAt N' x 3 = y
  yl3 : nAt N' (rowOf n yl.ptr) 3 = x
  col0 : ∀ i, nAt N' i 0 = nAt N i 0
  other12 : ∀ i, i ≠ x → i ≠ y → (par < 0 ∨ (i : Int) ≠ par) → nAt N' i 1 = nAt N i 1 ∧ nAt N' i 2 = nAt N i 2
  other3 : ∀ i, i ≠ x → i ≠ y → i ≠ rowOf n yl.ptr → nAt N' i 3 = nAt N i 3
  parent : ∀ p : Nat, par = (p : Int) →
    (nAt N p 1 = x → nAt N' p 1 = y ∧ nAt N' p 2 = nAt N p 2) ∧
    (nAt N p 1 ≠ x → nAt N' p 2 = y ∧ nAt N' p 1 = nAt N p 1)

theorem RotCells.left {N N' : List Int} {n : Nat} {xl : Sh} {x : Nat} {yl : Sh} {y : Nat} {yr : Sh} {par : Int}
    (h : RotCells N N' n 2 1 x y xl.ptr yl.ptr yr.ptr par) : LRotCells N N' n xl x yl y yr par :=
  ⟨h.len, h.cb, h.ca, h.c3, h.tb, h.ta, h.t3, h.m3, h.col0, h.other12, h.other3, h.parent⟩

theorem LRotCells.gen {N N' : List Int} {n : Nat} {xl : Sh} {x : Nat} {yl : Sh} {y : Nat} {yr : Sh} {par : Int}
    (h : LRotCells N N' n xl x yl y yr par) : RotCells N N' n 2 1 x y xl.ptr yl.ptr yr.ptr par :=
  ⟨h.len, h.y1, h.y2, h.y3, h.x1, h.x2, h.x3, h.yl3, h.col0, h.other12, h.other3, h.parent⟩

theorem lrotB_spec (fuel n : Nat) (s : State F) (hv : VS s n) (hrun : s.ctl = .run) (x y : Nat) (o m e par : Int)
    (h : RotPre (s.ia "tree_nodes") n 2 1 x y o m e par) (hx : s.ienv "x" = x) (hy : s.ienv "y" = y) :
    let q := exec fuel lrotB s
    q.ctl = .ret ∧ q.fa = s.fa ∧ q.shp = s.shp ∧
      q.ienv "ret0" = (if par = -1 then (y : Int) else s.ienv "root") ∧
      q.ia "tree_nodes" = setsN (s.ia "tree_nodes") (rotWrites (s.ia "tree_nodes") n 2 1 x y m par) := by
  obtain ⟨hL, _, hxn, hyn, hxy, hmr, hmx, hmy, _, _, hx3, _, hy1, hpar⟩ := h
  have hinx : inRange (x : Int) n = true := inRange_ptr n _ (by omega) hv.pos
  have hiny : inRange (y : Int) n = true := inRange_ptr n _ (by omega) hv.pos
  have hinm : inRange m n = true := inRange_ptr n _ hmr hv.pos
  have hmn := rowOf_lt n m hmr hv.pos
  have eN := fun (s' : State F) => evalN s' n
  have oN := fun (s' : State F) => okN s' n
  have sN := fun (s' : State F) => exec_stN fuel s' n
  have l1 : x * 4 + 2 < (s.ia "tree_nodes").length := by omega
  have l2 : rowOf n m * 4 + 3 < (s.ia "tree_nodes").length := by omega
  have l3 : y * 4 + 3 < (s.ia "tree_nodes").length := by omega
  intro q
  -- the run leaves the list of writes; a read that follows a write is decided by `nAt_set` (`x ≠ y`, the row of `m` is not `x`)
  rcases hpar with hp | ⟨p, hp, hpn, _⟩
  · subst hp
    have hne : ¬ ((x : Int) = -1) := by omega
    simp [q, lrotB, exec, sN, eN, oN, hv.shpN, hx, hy, hinx, hiny, hinm, hy1, hx3, IE.ok_var, IE.eval_var,
      IE.ok_lit, IE.eval_lit, BE.ok, BE.eval, cmpInt, setS, hrun, nAt_set, l1, l2, l3, hxy, hxy.symm, hmx.symm,
      setsN, rotWrites]
  · subst hp
    have hne : ¬ ((p : Int) = -1) := by omega
    have hinp : inRange (p : Int) n = true := inRange_ptr n _ (by omega) hv.pos
    by_cases hc : nAt (s.ia "tree_nodes") p 1 = (x : Int)
    · simp [q, lrotB, exec, sN, eN, oN, hv.shpN, hx, hy, hinx, hiny, hinm, hinp, hy1, hx3, IE.ok_var,
        IE.eval_var, IE.ok_lit, IE.eval_lit, BE.ok, BE.eval, cmpInt, setS, hrun, nAt_set, l1, l2, l3, hxy,
        hxy.symm, hmx.symm, hne, hc, setsN, rotWrites]
    · simp [q, lrotB, exec, sN, eN, oN, hv.shpN, hx, hy, hinx, hiny, hinm, hinp, hy1, hx3, IE.ok_var,
        IE.eval_var, IE.ok_lit, IE.eval_lit, BE.ok, BE.eval, cmpInt, setS, hrun, nAt_set, l1, l2, l3, hxy,
        hxy.symm, hmx.symm, hne, hc, Ne.symm hc, setsN, rotWrites]

/-- **a rotation on the arrays is the model's rotation**: when the repaired maxima (`rotVals`) and the cells of the
    pointer surgery (`RotCells`) are in place, the links spell out the rotated shape under the same parent and its
    abstraction is `rotD` of the old one; the NIL row keeps its maximum, no other row of `tree_vals` changes -/
theorem rot_refines (d : Dir) {V : List F} {N N' : List Int} {n : Nat} (o : Sh) (t : Nat) (m : Sh) (c : Nat) (e : Sh)
    (par : Int) (hlenV : V.length = n * 8)
    (hl : Linked N n par (.nodeD d o t (.nodeD d m c e))) (hn : (Sh.nodeD d o t (.nodeD d m c e)).idxs.Nodup)
    (hpar : par = -1 ∨ ∃ p : Nat, par = (p : Int) ∧ p + 1 < n ∧ p ∉ (Sh.nodeD d o t (.nodeD d m c e)).idxs)
    (hc : RotCells N N' n d.flip.col d.col t c o.ptr m.ptr e.ptr par) :
    Linked N' n par (.nodeD d (.nodeD d o t m) c e) ∧
      absT (rotVals V n d o t m c e) N' (.nodeD d (.nodeD d o t m) c e) =
        rotD (vAt V (n - 1) 7) d (absT V N (.nodeD d o t (.nodeD d m c e))) ∧
      vAt (rotVals V n d o t m c e) (n - 1) 7 = vAt V (n - 1) 7 ∧
      (∀ i, i ≠ t → i ≠ c → ∀ k, k < 8 → vAt (rotVals V n d o t m c e) i k = vAt V i k) := by
  obtain ⟨htn, _, _, _, hlo, hlc⟩ := linked_nodeD.mp hl
  obtain ⟨hcn, _, _, _, hlm, hle⟩ := linked_nodeD.mp hlc
  obtain ⟨_, hnc, hto, htc, hoc⟩ := Sh.nodup_nodeD hn
  obtain ⟨hnm, _, hcm, hce, hme⟩ := Sh.nodup_nodeD hnc
  have hcin : c ∈ (Sh.nodeD d m c e).idxs := (Sh.mem_nodeD ..).mpr (Or.inl rfl)
  have hmin : ∀ j, j ∈ m.idxs → j ∈ (Sh.nodeD d m c e).idxs := fun j hj => (Sh.mem_nodeD ..).mpr (Or.inr (Or.inl hj))
  have hein : ∀ j, j ∈ e.idxs → j ∈ (Sh.nodeD d m c e).idxs := fun j hj => (Sh.mem_nodeD ..).mpr (Or.inr (Or.inr hj))
  have hxy : t ≠ c := fun h => htc (h ▸ hcin)
  have hlt : t * 8 + 7 < V.length := by omega
  have hlc' : c * 8 + 7 < (V.set (t * 8 + 7) (rotTm V n d o t m).v).length := by simp; omega
  have hVother : ∀ i, i ≠ t → i ≠ c → ∀ k, k < 8 → vAt (rotVals V n d o t m c e) i k = vAt V i k := by
    intro i h1 h2 k hk
    rw [rotVals, vAt_set _ _ _ _ _ _ (by decide) hk hlc', vAt_set _ _ _ _ _ _ (by decide) hk hlt]
    simp [h1, h2]
  have hVt : vAt (rotVals V n d o t m c e) t 7 = rotTm V n d o t m := by
    rw [rotVals, vAt_set _ _ _ _ _ _ (by decide) (by decide) hlc', vAt_set _ _ _ _ _ _ (by decide) (by decide) hlt]
    simp [hxy]
  have hVc : vAt (rotVals V n d o t m c e) c 7 = rotCm V n d (rotTm V n d o t m) c e := by
    rw [rotVals, vAt_set _ _ _ _ _ _ (by decide) (by decide) hlc']
    simp
  have hndt : nodeAt (rotVals V n d o t m c e) t = nodeAt V t := by rw [rotVals, nodeAt_set7, nodeAt_set7]
  have hndc : nodeAt (rotVals V n d o t m c e) c = nodeAt V c := by rw [rotVals, nodeAt_set7, nodeAt_set7]
  have hrow : ∀ (sub : Sh) (pp : Int), Linked N n pp sub → (∀ i ∈ sub.idxs, i ≠ t ∧ i ≠ c) →
      (∀ i ∈ sub.idxs, i ∈ (Sh.nodeD d o t (.nodeD d m c e)).idxs) →
      ∀ i ∈ sub.idxs, i ≠ t ∧ i ≠ c ∧ (par < 0 ∨ (i : Int) ≠ par) ∧ i + 1 < n := by
    intro sub pp hls hxy' hmem i hi
    refine ⟨(hxy' i hi).1, (hxy' i hi).2, ?_, hls.idx_lt i hi⟩
    rcases hpar with hp | ⟨p, hp, _, hpi⟩
    · left; omega
    · right; intro h; rw [hp] at h
      have : i = p := by omega
      exact hpi (this ▸ hmem i hi)
  have ho := hrow o _ hlo (fun i hi => ⟨fun h => hto (h ▸ hi), fun h => hoc i hi (h ▸ hcin)⟩)
    (fun i hi => (Sh.mem_nodeD ..).mpr (Or.inr (Or.inl hi)))
  have hm := hrow m _ hlm (fun i hi => ⟨fun h => htc (h ▸ hmin i hi), fun h => hcm (h ▸ hi)⟩)
    (fun i hi => (Sh.mem_nodeD ..).mpr (Or.inr (Or.inr (hmin i hi))))
  have he := hrow e _ hle (fun i hi => ⟨fun h => htc (h ▸ hein i hi), fun h => hce (h ▸ hi)⟩)
    (fun i hi => (Sh.mem_nodeD ..).mpr (Or.inr (Or.inr (hein i hi))))
  have hne_m : ∀ (sub : Sh), (∀ i ∈ sub.idxs, i + 1 < n) → (∀ i ∈ sub.idxs, i ∉ m.idxs) →
      ∀ i ∈ sub.idxs, i ≠ rowOf n m.ptr := by
    intro sub h1 h2 i hi h'
    rcases rowOf_ptr_cases n m with h | h
    · have := h1 i hi; omega
    · exact h2 i hi (h' ▸ h)
  have hcg : ∀ (sub : Sh), (∀ i ∈ sub.idxs, i ≠ t ∧ i ≠ c ∧ (par < 0 ∨ (i : Int) ≠ par) ∧ i + 1 < n) →
      absT (rotVals V n d o t m c e) N' sub = absT V N sub :=
    fun sub h => absT_congr sub (fun i hi => ⟨fun k hk => hVother i (h i hi).1 (h i hi).2.1 k hk, hc.col0 i⟩)
  refine ⟨?_, ?_, hVother (n - 1) (by omega) (by omega) 7 (by decide), hVother⟩
  · -- the links
    refine linked_nodeD.mpr ⟨hcn, by rw [Sh.ptr_nodeD]; exact hc.cb, hc.ca, hc.c3,
      linked_nodeD.mpr ⟨htn, hc.tb, hc.ta, hc.t3, ?_, ?_⟩, ?_⟩
    · refine hlo.congr (fun i hi => ?_)
      obtain ⟨h1, h2, h3, h4⟩ := ho i hi
      obtain ⟨c1, c2⟩ := hc.other12 i h1 h2 h3
      exact ⟨c1, c2, hc.other3 i h1 h2 (hne_m o (fun j hj => (ho j hj).2.2.2) (fun j hj => fun h => hoc j hj (hmin j h)) i hi)⟩
    · refine hlm.reparent hnm (fun i hi => ?_) (fun i hi hne => ?_) (fun i hi => ?_)
      · obtain ⟨h1, h2, h3, h4⟩ := hm i hi
        exact hc.other12 i h1 h2 h3
      · obtain ⟨h1, h2, h3, h4⟩ := hm i hi
        refine hc.other3 i h1 h2 (fun h => hne ?_)
        cases m with
        | nil => simp [Sh.idxs] at hi
        | node a b c' => simp only [Sh.ptr, rowOf_nat] at h ⊢; omega
      · have := hc.m3; rw [hi, rowOf_nat] at this; exact this
    · refine hle.congr (fun i hi => ?_)
      obtain ⟨h1, h2, h3, h4⟩ := he i hi
      obtain ⟨c1, c2⟩ := hc.other12 i h1 h2 h3
      exact ⟨c1, c2, hc.other3 i h1 h2 (hne_m e (fun j hj => (he j hj).2.2.2) (fun j hj => fun h => hme j h hj) i hi)⟩
  · -- the abstraction
    cases d with
    | L =>
      simp only [Sh.nodeD, pickD, absT, rotD, rotL, hcg o ho, hcg m hm, hcg e he, hndt, hndc, hVt, hVc, hc.col0, recomp, recompM,
        rotTm, rotCm, mxAt_absT _ N]
    | R =>
      simp only [Sh.nodeD, pickD, absT, rotD, rotR, hcg o ho, hcg m hm, hcg e he, hndt, hndc, hVt, hVc, hc.col0, recomp, recompM,
        rotTm, rotCm, mxAt_absT _ N]

/-- **Refinement of `_left_rotate`** at the node `x` whose right child is `y`: the links afterwards spell out the
    rotated shape under the same parent, the abstraction of the new shape is the hand model's `rotL` (both recomputed
    maxima included) of the abstraction of the old one, the returned root is `y` exactly when `x` was the root, and
    nothing else is touched but the child cell of `x`'s parent and the parent cell of the NIL row (`LRotCells`). -/
theorem vsLeftRotate_refines (s : State F) (fuel n : Nat) (hv : VS s n) (hrun : s.ctl = .run) (xl : Sh) (x : Nat)
    (yl : Sh) (y : Nat) (yr : Sh) (par : Int)
    (hl : Linked (s.ia "tree_nodes") n par (.node xl x (.node yl y yr)))
    (hn : (Sh.node xl x (.node yl y yr)).idxs.Nodup) (hx : s.ienv "x" = x)
    (hpar : par = -1 ∨ ∃ p : Nat, par = (p : Int) ∧ p + 1 < n ∧ p ∉ (Sh.node xl x (.node yl y yr)).idxs) :
    let q := Gen.IL.vsLeftRotate.run s fuel
    let S : Fv F := vAt (s.fa "tree_vals") (n - 1) 7
    q.ctl = .ret ∧ VS q n ∧
      q.ienv "ret0" = (if par = -1 then (y : Int) else s.ienv "root") ∧
      Linked (q.ia "tree_nodes") n par (.node (.node xl x yl) y yr) ∧
      absT (q.fa "tree_vals") (q.ia "tree_nodes") (.node (.node xl x yl) y yr) =
        rotL S (absT (s.fa "tree_vals") (s.ia "tree_nodes") (.node xl x (.node yl y yr))) ∧
      vAt (q.fa "tree_vals") (n - 1) 7 = S ∧
      (∀ i, i ≠ x → i ≠ y → ∀ c, c < 8 → vAt (q.fa "tree_vals") i c = vAt (s.fa "tree_vals") i c) ∧
      LRotCells (s.ia "tree_nodes") (q.ia "tree_nodes") n xl x yl y yr par := by
  intro q S
  obtain ⟨a1, a2, a3, a4, a5, a6, a7⟩ := lrotA_spec fuel n s hv hrun xl x yl y yr par hl hn hx
  generalize hsA : exec fuel (seqL lrotItems) s = sA at a1 a2 a3 a4 a5 a6 a7
  have hvA : VS sA n := by
    refine ⟨by rw [a4]; exact hv.shpV, by rw [a4]; exact hv.shpN, ?_, by rw [a3]; exact hv.lenN, hv.pos⟩
    rw [a2]; simp [setS, rotVals, hv.lenV]
  have hpre : RotPre (s.ia "tree_nodes") n 2 1 x y xl.ptr yl.ptr yr.ptr par :=
    RotPre.of_linked .L xl x yl y yr par hv.lenN hl hn hpar
  obtain ⟨b1, b2, b3, b4, b6⟩ := lrotB_spec fuel n sA hvA a1 x y _ _ _ par (by rw [a3]; exact hpre) a5 a6
  have hq : q = exec fuel lrotB sA := by
    simp only [q, Prog.run, vsLeftRotate_body, lrotItems]
    rw [exec_seqK, ← hsA, exec_seq_run _ _ _ _ (by rw [← lrotItems, hsA]; exact a1)]
    rfl
  rw [← hq, a3] at b6
  rw [← hq] at b1 b2 b3 b4
  have hcells : RotCells (s.ia "tree_nodes") (q.ia "tree_nodes") n 2 1 x y xl.ptr yl.ptr yr.ptr par := by
    rw [b6]; exact rotCells hpre
  obtain ⟨r1, r2, r3, r4⟩ := rot_refines .L (V := s.fa "tree_vals") xl x yl y yr par hv.lenV hl hn hpar hcells
  have hqV : q.fa "tree_vals" = rotVals (s.fa "tree_vals") n .L xl x yl y yr := by rw [b2, a2]; simp [setS]
  rw [← hqV] at r2 r3 r4
  exact ⟨b1, ⟨by rw [b3, a4]; exact hv.shpV, by rw [b3, a4]; exact hv.shpN, by rw [hqV]; simp [rotVals, hv.lenV],
    by rw [hcells.len]; exact hv.lenN, hv.pos⟩, by rw [b4, a7], r1, r2, r3, r4, hcells.left⟩

def rrotItems : List St :=
  [(.setI "x" (.ld2 "tree_nodes" (.var "y") (.lit 1))),
   (.setI "x_right" (.ld2 "tree_nodes" (.var "x") (.lit 2))),
   (.setI "y_right" (.ld2 "tree_nodes" (.var "y") (.lit 2))),
   (selMax "tmp_max" (.ld2 "tree_vals" (.var "x_right") (.lit 7)) (.ld2 "tree_vals" (.var "y_right") (.lit 7))),
   (.setI "_find_value_min_value1$node_id" (.var "y")),
   (minvScope "_find_value_min_value1$node_id" "_find_value_min_value1$ret0"),
   (.setF "min_value" (.var "_find_value_min_value1$ret0")),
   (stMax "tree_vals" (.var "y") (.lit 7) (.var "tmp_max") (.var "min_value")),
   (.setI "x_left" (.ld2 "tree_nodes" (.var "x") (.lit 1))),
   (selMax "tmp_max" (.ld2 "tree_vals" (.var "x_left") (.lit 7)) (.ld2 "tree_vals" (.var "y") (.lit 7))),
   (.setI "_find_value_min_value2$node_id" (.var "x")),
   (minvScope "_find_value_min_value2$node_id" "_find_value_min_value2$ret0"),
   (.setF "min_value" (.var "_find_value_min_value2$ret0")),
   (stMax "tree_vals" (.var "x") (.lit 7) (.var "tmp_max") (.var "min_value"))]

def rrotB : St :=
  (.seq (.stI2 "tree_nodes" (.var "y") (.lit 1) (.ld2 "tree_nodes" (.var "x") (.lit 2)))
  (.seq (.setI "x_right" (.ld2 "tree_nodes" (.var "x") (.lit 2)))
  (.seq (.stI2 "tree_nodes" (.var "x_right") (.lit 3) (.var "y"))
  (.seq (.stI2 "tree_nodes" (.var "x") (.lit 3) (.ld2 "tree_nodes" (.var "y") (.lit 3)))
  (.seq (.ite (.cmpI .eq (.ld2 "tree_nodes" (.var "y") (.lit 3)) (.lit (-1)))
      (.setI "root" (.var "x"))
      (.seq (.setI "y_parent" (.ld2 "tree_nodes" (.var "y") (.lit 3)))
      (.ite (.cmpI .eq (.ld2 "tree_nodes" (.var "y_parent") (.lit 1)) (.var "y"))
        (.stI2 "tree_nodes" (.var "y_parent") (.lit 1) (.var "x"))
        (.stI2 "tree_nodes" (.var "y_parent") (.lit 2) (.var "x")))))
  (.seq (.stI2 "tree_nodes" (.var "x") (.lit 2) (.var "y"))
  (.seq (.stI2 "tree_nodes" (.var "y") (.lit 3) (.var "x")) (.seq (.setI "ret0" (.var "root")) .ret))))))))

theorem vsRightRotate_body : Gen.IL.vsRightRotate.body = seqK rrotItems rrotB := rfl

theorem rrotA_spec (fuel n : Nat) (s : State F) (hv : VS s n) (hrun : s.ctl = .run) (xl : Sh) (x : Nat) (xr : Sh) (y : Nat)
    (yr : Sh) (par : Int) (hl : Linked (s.ia "tree_nodes") n par (.node (.node xl x xr) y yr))
    (hn : (Sh.node (.node xl x xr) y yr).idxs.Nodup) (hy : s.ienv "y" = y) :
    let q := exec fuel (seqL rrotItems) s
    q.ctl = .run ∧ q.fa = setS s.fa "tree_vals" (rotVals (s.fa "tree_vals") n .R yr y xr x xl) ∧
      q.ia = s.ia ∧ q.shp = s.shp ∧ q.ienv "x" = x ∧ q.ienv "y" = y ∧ q.ienv "root" = s.ienv "root" := by
  obtain ⟨hyn, hyL, hyR, hyP, hlx, hlyr⟩ := hl
  obtain ⟨hxn, hxL, hxR, hxP, hlxl, hlxr⟩ := hlx
  simp only [Sh.ptr] at hyL
  have hinx : inRange (x : Int) n = true := inRange_ptr n _ (by omega) hv.pos
  have hiny : inRange (y : Int) n = true := inRange_ptr n _ (by omega) hv.pos
  have hinxl := hlxl.inRange hv.pos
  have hinxr := hlxr.inRange hv.pos
  have hinyr := hlyr.inRange hv.pos
  have eN := fun (s' : State F) => evalN s' n
  have oN := fun (s' : State F) => okN s' n
  have eV := fun (s' : State F) => evalV s' n
  have oV := fun (s' : State F) => okV s' n
  have mS := fun (a b : String) (s' : State F) => minvScope_spec a b fuel n s'
  have sM := fun (s' : State F) => stMax_spec fuel s' n
  have hlen : y * 8 + 7 < (s.fa "tree_vals").length := by rw [hv.lenV]; omega
  have hd := Sh.ptr_ne_of_nodup (.node xl x xr) yr y hn
  have hxy : x ≠ y := fun e => hd.2.2.2.2.1 (by simp [Sh.idxs, e])
  have hxly : rowOf n xl.ptr ≠ y := by
    cases xl with
    | nil => simp only [Sh.ptr, rowOf_neg_one]; omega
    | node a b c =>
      simp only [Sh.ptr, rowOf_nat]
      intro e
      exact hd.2.2.2.2.1 (by simp [Sh.idxs, e])
  intro q
  simp [q, rrotItems, seqL, exec, selMax_spec, mS, sM, eN, oN, eV, oV, hv.shpN, hv.shpV, hy, hinx, hiny, hinxl, hinxr, hinyr,
    hxL, hxR, hyL, hyR, IE.ok_var, IE.eval_var, FE.ok_var, FE.eval_var, setS, hrun, vAt_set, hlen, hxly,
    nodeAt_set7, setS_setS, rotVals, rotTm, rotCm, mxAt]

/-- what the pointer surgery of `_right_rotate` establishes, cell by cell -/
structure RRotCells (N N' : List Int) (n : Nat) (xl : Sh) (x : Nat) (xr : Sh) (y : Nat) (yr : Sh) (par : Int) : Prop where
  len : N'.length = N.length
  x2 : nAt N' x 2 = y
  x1 : nAt N' x 1 = xl.ptr
  x3 : nAt N' x 3 = par
  y2 : nAt N' y 2 = yr.ptr
  y1 : nAt N' y 1 = xr.ptr
  y3 : nAt N' y 3 = x
  xr3 : nAt N' (rowOf n xr.ptr) 3 = y
  col0 : ∀ i, nAt N' i 0 = nAt N i 0
  other12 : ∀ i, i ≠ x → i ≠ y → (par < 0 ∨ (i : Int) ≠ par) → nAt N' i 1 = nAt N i 1 ∧ nAt N' i 2 = nAt N i 2
  other3 : ∀ i, i ≠ x → i ≠ y → i ≠ rowOf n xr.ptr → nAt N' i 3 = nAt N i 3
  parent : ∀ p : Nat, par = (p : Int) →
    (nAt N p 1 = y → nAt N' p 1 = x ∧ nAt N' p 2 = nAt N p 2) ∧
    (nAt N p 1 ≠ y → nAt N' p 2 = x ∧ nAt N' p 1 = nAt N p 1)

theorem RotCells.right {N N' : List Int} {n : Nat} {xl : Sh} {x : Nat} {xr : Sh} {y : Nat} {yr : Sh} {par : Int}
    (h : RotCells N N' n 1 2 y x yr.ptr xr.ptr xl.ptr par) : RRotCells N N' n xl x xr y yr par :=
  ⟨h.len, h.cb, h.ca, h.c3, h.tb, h.ta, h.t3, h.m3, h.col0, fun i h1 h2 => h.other12 i h2 h1,
    fun i h1 h2 => h.other3 i h2 h1, h.parent⟩

theorem RRotCells.gen {N N' : List Int} {n : Nat} {xl : Sh} {x : Nat} {xr : Sh} {y : Nat} {yr : Sh} {par : Int}
    (h : RRotCells N N' n xl x xr y yr par) : RotCells N N' n 1 2 y x yr.ptr xr.ptr xl.ptr par :=
  ⟨h.len, h.x2, h.x1, h.x3, h.y2, h.y1, h.y3, h.xr3, h.col0, fun i h1 h2 => h.other12 i h2 h1,
    fun i h1 h2 => h.other3 i h2 h1, h.parent⟩

theorem rrotB_spec (fuel n : Nat) (s : State F) (hv : VS s n) (hrun : s.ctl = .run) (x y : Nat) (o m e par : Int)
    (h : RotPre (s.ia "tree_nodes") n 1 2 y x o m e par) (hx : s.ienv "x" = x) (hy : s.ienv "y" = y) :
    let q := exec fuel rrotB s
    q.ctl = .ret ∧ q.fa = s.fa ∧ q.shp = s.shp ∧
      q.ienv "ret0" = (if par = -1 then (x : Int) else s.ienv "root") ∧
      q.ia "tree_nodes" = setsN (s.ia "tree_nodes") (rotWrites (s.ia "tree_nodes") n 1 2 y x m par) := by
  obtain ⟨hL, _, hyn, hxn, hyx, hmr, hmy, hmx, _, _, hy3, _, hx2, hpar⟩ := h
  have hinx : inRange (x : Int) n = true := inRange_ptr n _ (by omega) hv.pos
  have hiny : inRange (y : Int) n = true := inRange_ptr n _ (by omega) hv.pos
  have hinm : inRange m n = true := inRange_ptr n _ hmr hv.pos
  have hmn := rowOf_lt n m hmr hv.pos
  have eN := fun (s' : State F) => evalN s' n
  have oN := fun (s' : State F) => okN s' n
  have sN := fun (s' : State F) => exec_stN fuel s' n
  have l1 : y * 4 + 1 < (s.ia "tree_nodes").length := by omega
  have l2 : rowOf n m * 4 + 3 < (s.ia "tree_nodes").length := by omega
  have l3 : x * 4 + 3 < (s.ia "tree_nodes").length := by omega
  intro q
  rcases hpar with hp | ⟨p, hp, hpn, hpy, _⟩
  · subst hp
    have hne : ¬ ((y : Int) = -1) := by omega
    simp [q, rrotB, exec, sN, eN, oN, hv.shpN, hx, hy, hinx, hiny, hinm, hx2, hy3, IE.ok_var, IE.eval_var,
      IE.ok_lit, IE.eval_lit, BE.ok, BE.eval, cmpInt, setS, hrun, nAt_set, l1, l2, l3, hyx, hyx.symm, hmy.symm,
      setsN, rotWrites]
  · subst hp
    have hne : ¬ ((p : Int) = -1) := by omega
    have hinp : inRange (p : Int) n = true := inRange_ptr n _ (by omega) hv.pos
    by_cases hc : nAt (s.ia "tree_nodes") p 1 = (y : Int) <;>
      simp [q, rrotB, exec, sN, eN, oN, hv.shpN, hx, hy, hinx, hiny, hinm, hinp, hx2, hy3, IE.ok_var,
        IE.eval_var, IE.ok_lit, IE.eval_lit, BE.ok, BE.eval, cmpInt, setS, hrun, nAt_set, l1, l2, l3, hyx,
        hyx.symm, hmy.symm, hne, hpy, hc, setsN, rotWrites]

/-- **Refinement of `_right_rotate`** at the node `y` whose left child is `x` (mirror of `vsLeftRotate_refines`) -/
theorem vsRightRotate_refines (s : State F) (fuel n : Nat) (hv : VS s n) (hrun : s.ctl = .run) (xl : Sh) (x : Nat)
    (xr : Sh) (y : Nat) (yr : Sh) (par : Int)
    (hl : Linked (s.ia "tree_nodes") n par (.node (.node xl x xr) y yr))
    (hn : (Sh.node (.node xl x xr) y yr).idxs.Nodup) (hy : s.ienv "y" = y)
    (hpar : par = -1 ∨ ∃ p : Nat, par = (p : Int) ∧ p + 1 < n ∧ p ∉ (Sh.node (.node xl x xr) y yr).idxs) :
    let q := Gen.IL.vsRightRotate.run s fuel
    let S : Fv F := vAt (s.fa "tree_vals") (n - 1) 7
    q.ctl = .ret ∧ VS q n ∧
      q.ienv "ret0" = (if par = -1 then (x : Int) else s.ienv "root") ∧
      Linked (q.ia "tree_nodes") n par (.node xl x (.node xr y yr)) ∧
      absT (q.fa "tree_vals") (q.ia "tree_nodes") (.node xl x (.node xr y yr)) =
        rotR S (absT (s.fa "tree_vals") (s.ia "tree_nodes") (.node (.node xl x xr) y yr)) ∧
      vAt (q.fa "tree_vals") (n - 1) 7 = S ∧
      (∀ i, i ≠ x → i ≠ y → ∀ c, c < 8 → vAt (q.fa "tree_vals") i c = vAt (s.fa "tree_vals") i c) ∧
      RRotCells (s.ia "tree_nodes") (q.ia "tree_nodes") n xl x xr y yr par := by
  intro q S
  obtain ⟨a1, a2, a3, a4, a5, a6, a7⟩ := rrotA_spec fuel n s hv hrun xl x xr y yr par hl hn hy
  generalize hsA : exec fuel (seqL rrotItems) s = sA at a1 a2 a3 a4 a5 a6 a7
  have hvA : VS sA n := by
    refine ⟨by rw [a4]; exact hv.shpV, by rw [a4]; exact hv.shpN, ?_, by rw [a3]; exact hv.lenN, hv.pos⟩
    rw [a2]; simp [setS, rotVals, hv.lenV]
  have hpre : RotPre (s.ia "tree_nodes") n 1 2 y x yr.ptr xr.ptr xl.ptr par :=
    RotPre.of_linked .R yr y xr x xl par hv.lenN hl hn hpar
  obtain ⟨b1, b2, b3, b4, b6⟩ := rrotB_spec fuel n sA hvA a1 x y _ _ _ par (by rw [a3]; exact hpre) a5 a6
  have hq : q = exec fuel rrotB sA := by
    simp only [q, Prog.run, vsRightRotate_body, rrotItems]
    rw [exec_seqK, ← hsA, exec_seq_run _ _ _ _ (by rw [← rrotItems, hsA]; exact a1)]
    rfl
  rw [← hq, a3] at b6
  rw [← hq] at b1 b2 b3 b4
  have hcells : RotCells (s.ia "tree_nodes") (q.ia "tree_nodes") n 1 2 y x yr.ptr xr.ptr xl.ptr par := by
    rw [b6]; exact rotCells hpre
  obtain ⟨r1, r2, r3, r4⟩ := rot_refines .R (V := s.fa "tree_vals") yr y xr x xl par hv.lenV hl hn hpar hcells
  have hqV : q.fa "tree_vals" = rotVals (s.fa "tree_vals") n .R yr y xr x xl := by rw [b2, a2]; simp [setS]
  rw [← hqV] at r2 r3 r4
  exact ⟨b1, ⟨by rw [b3, a4]; exact hv.shpV, by rw [b3, a4]; exact hv.shpN, by rw [hqV]; simp [rotVals, hv.lenV],
    by rw [hcells.len]; exact hv.lenN, hv.pos⟩, by rw [b4, a7], r1, r2, r3, fun i h1 h2 => r4 i h2 h1, hcells.right⟩

end XrsVerif.ILVs
