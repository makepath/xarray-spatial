import XrsVerif.Proofs.ILRegionsPass1
import XrsVerif.Proofs.ILRegionsPass2
/-
  Proofs/ILRegions.lean -- refinement: the program `Gen.IL.areaConnectivity`, translated statement by statement from
  `zonal._area_connectivity(data, n)` (layer T3), computes the hand model `Regions.regions` of Model/Regions.lean
  (the model the component theorems of Props/C16.lean are about), for every raster size (0 included), every data,
  `n = 4` and `n = 8`, every number type `F` that satisfies `LabelLaws`:

      out = [ data[c]                    if data[c] is NaN
              lab (label of c)           otherwise           for c in raster order ]

  with `regions rows cols (n = 8) closeF (dataOf cols data) c = some (label of c)`.  No array access is out of range
  (`Ctl.err` is never reached: the run ends with `ret`).

  The steps, one module each (Proofs/ILRegions….lean), in the order of the imports:
  `Defs` the program cut into blocks; `Gather` step 1, the window-gathering block; `Match` step 2, the closeness mask and
  `np.where`; `Rel` the abstraction (`lab`, `LabelLaws`, `Geo`, `OutRel`, `window_model`); `Cell` the front part of a
  cell step, common to both passes; `Pass1` step 3 (search loop, assignment, `cell1_step`, `pass1_refines`) and, beside it,
  `Relabel` (`out[out == a] = b`) and `Pass2` step 4 (merge loop, `cell2_step`, `pass2_refines`); here the prologue and
  the whole program; `Props` what Props/C16.lean needs of the result.
-/
namespace XrsVerif.IL.Rg
open XrsVerif XrsVerif.IL XrsVerif.Regions
open XrsVerif.ILVs (seqL exec_seqL_cons)
variable {F : Type} [Fl F]

theorem gridCells_map_pos (rows cols : Nat) : (gridCells rows cols).map (pos cols) = List.range (rows * cols) := by
  induction rows with
  | zero => simp [gridCells]
  | succ r ih =>
    rw [gridCells_succ, List.map_append, ih, Nat.add_mul, Nat.one_mul, List.range_add]
    congr 1
    simp [pos, List.map_map, Function.comp_def]

theorem flat_eq_map (rows cols : Nat) (out : List F) (h : out.length = rows * cols) :
    out = (gridCells rows cols).map (at_ cols out) := by
  conv => lhs; rw [eq_map_getD out Fl.nan, h, ← gridCells_map_pos, List.map_map]
  rfl

def afterInit (s : State F) (rows cols n : Nat) : State F :=
  { s with
    ienv := setS (setS (setS s.ienv "rows" (rows : Int)) "cols" (cols : Int)) "uid" 1,
    shp := setS (setS (setS s.shp "out" [rows, cols]) "src_window" [n]) "area_window" [n],
    fa := setS (setS (setS s.fa "out" (List.replicate (rows * cols) (Fl.lit 0 1)))
            "src_window" (List.replicate n (Fl.lit 0 1))) "area_window" (List.replicate n (Fl.lit 0 1)) }

theorem exec_init (fuel rows cols n : Nat) (rest : List St) (s : State F) (hs : s.ctl = .run)
    (hshp : s.shp "data" = [rows, cols]) (hnv : s.ienv "n" = (n : Int)) :
    exec fuel (seqL (init ++ rest)) s = exec fuel (seqL rest) (afterInit s rows cols n) := by
  simp [init, exec_seqL_cons, il, afterInit, hs, hshp, hnv]

theorem afterInit_geo (s : State F) (rows cols n : Nat) (hs : s.ctl = .run) (hshp : s.shp "data" = [rows, cols])
    (hnv : s.ienv "n" = (n : Int)) : Geo rows cols n (s.fa "data") (afterInit s rows cols n) :=
  { run := hs
    rv := by simp [afterInit, setS]
    cv := by simp [afterInit, setS]
    nv := by simp [afterInit, setS, hnv]
    dshp := by simp [afterInit, setS, hshp]
    oshp := by simp [afterInit, setS]
    sshp := by simp [afterInit, setS]
    ashp := by simp [afterInit, setS]
    dat := by simp [afterInit, setS]
    olen := by simp [afterInit, setS]
    slen := by simp [afterInit, setS]
    alen := by simp [afterInit, setS] }

/-- what the generated program returns at cell `c`, in terms of the hand model: the input value at a NaN cell,
    else the number of the model's label -/
def cellOut (rows cols n : Nat) (D : List F) (c : Cell) : F :=
  match regions rows cols (decide (n = 8)) closeF (dataOf cols D) c with
  | none => at_ cols D c
  | some k => lab k

def modelOut (rows cols n : Nat) (D : List F) : List F := (gridCells rows cols).map (cellOut rows cols n D)

/-- **the refinement theorem**: `Gen.IL.areaConnectivity` computes `Regions.regions` -/
theorem areaConnectivity_refines (laws : LabelLaws F) (s : State F) (fuel rows cols n : Nat) (hs : s.ctl = .run)
    (hshp : s.shp "data" = [rows, cols]) (hnv : s.ienv "n" = (n : Int)) (hn : n = 4 ∨ n = 8) :
    let r := Gen.IL.areaConnectivity.run s fuel
    r.ctl = .ret ∧ r.shp "out" = [rows, cols] ∧ r.fa "data" = s.fa "data" ∧
      r.fa "out" = modelOut rows cols n (s.fa "data") := by
  intro r
  let D := s.fa "data"
  let nbF := gridNbrs rows cols (decide (n = 8))
  have hr : r = exec fuel (seqL [pass cell1, pass cell2, .ret]) (afterInit s rows cols n) := by
    show Prog.run _ _ _ = _
    unfold Prog.run
    rw [body_eq]
    exact exec_init fuel rows cols n _ s hs hshp hnv
  have hg0 := afterInit_geo s rows cols n hs hshp hnv
  have hP0 : P1 rows cols n D 0 (afterInit s rows cols n) (fun _ => 0, 1) := by
    refine ⟨hg0, by simp [afterInit, setS], hg0.olen, ?_, ?_⟩
    · intro c h1 h2 _
      have : pos cols c < rows * cols := rowMajor_lt h1 h2
      simp only [afterInit]
      have ho : (setS (setS (setS s.fa "out" (List.replicate (rows * cols) (Fl.lit 0 1 : F))) "src_window"
          (List.replicate n (Fl.lit 0 1))) "area_window" (List.replicate n (Fl.lit 0 1))) "out"
          = List.replicate (rows * cols) (Fl.lit 0 1) := by simp [setS]
      rw [ho]
      simp only [at_, List.getD_eq_getElem?_getD]
      rw [List.getElem?_replicate]
      simp [this]; rfl
    · intro c _ _ hp; omega
  obtain ⟨hc1, hg1, _, ho1⟩ := pass1_refines laws fuel rows cols n hn D (afterInit s rows cols n) hP0
  let t1 := exec fuel (pass cell1) (afterInit s rows cols n)
  let L1 := ((gridCells rows cols).foldl (step1 nbF closeF (dataOf cols D)) (fun _ => 0, 1)).1
  obtain ⟨hc2, hg2, ho2⟩ := pass2_refines laws fuel rows cols n hn D L1 t1 ⟨hg1, ho1⟩
  let t2 := exec fuel (pass cell2) t1
  have hr2 : r = { t2 with ctl := .ret } := by
    rw [hr, exec_seqL_cons, if_pos hc1, exec_seqL_cons, if_pos hc2]
    simp only [seqL, exec_ret]
    rfl
  rw [hr2]
  refine ⟨rfl, hg2.oshp, hg2.dat, ?_⟩
  show t2.fa "out" = _
  rw [flat_eq_map rows cols (t2.fa "out") hg2.olen]
  unfold modelOut
  apply List.map_congr_left
  intro c hc
  unfold cellOut
  obtain ⟨h1, h2⟩ := mem_gridCells.mp hc
  cases hnan : Fl.isnan (at_ cols D c) with
  | true =>
    have : regions rows cols (decide (n = 8)) closeF (dataOf cols D) c = none := by
      simp only [regions, result, dataOf_none cols D c hnan]
    rw [this]
    exact ho2.nan c h1 h2 (rowMajor_lt h1 h2) hnan
  | false =>
    have : regions rows cols (decide (n = 8)) closeF (dataOf cols D) c =
        some (((gridCells rows cols).foldl (step2 nbF closeF (dataOf cols D)) (L1, none)).1 c) := by
      simp only [regions, result, dataOf_some cols D c hnan]
      rfl
    rw [this]
    exact ho2.rel c h1 h2 hnan

end XrsVerif.IL.Rg
