import XrsVerif.Proofs.ILProxPixel
/-
  Step 3: the sweep loop of the generated `_process_proximity_line`
  (`for pixel in range(start, end, step)`, forward and backward) is the model's `Prox.sweepN`, and the whole
  function (prologue; loop; return) refines it -- for the template `lineBody N` and hence, by
  `proximityLine_is_template`, for `Gen.IL.proximityLine`.
-/
namespace XrsVerif.IL.Px
open XrsVerif XrsVerif.Prox
variable {F : Type} [Fl F]
set_option linter.unusedSectionVars false
attribute [-simp] List.getD_eq_getElem?_getD

theorem afterBody_proj (r : State F) :
    (afterBody r).ia = r.ia ∧ (afterBody r).fa = r.fa ∧ (afterBody r).shp = r.shp ∧ (afterBody r).ext = r.ext ∧
    (afterBody r).ienv = r.ienv ∧ (afterBody r).fenv = r.fenv ∧ (afterBody r).benv = r.benv := by
  unfold afterBody; split <;> simp

theorem FrameS.afterBody {S : LV → Bool} {N : Names} {s r : State F} (h : FrameS S N s r) : FrameS S N s (afterBody r) := by
  obtain ⟨h1, h2, h3, h4, h5, h6, h7⟩ := afterBody_proj r
  exact ⟨h3 ▸ h.shp, h4 ▸ h.ext, h5 ▸ h.ienv, h6 ▸ h.fenv, h7 ▸ h.benv, h1 ▸ h.ia, h2 ▸ h.fa⟩

/-- the positions `range(start, end, step)` runs through -/
def sweepList (W : Nat) (fwd : Bool) : List Int :=
  if fwd then (List.range W).map (fun (k : Nat) => (k : Int)) else (List.range W).reverse.map (fun (k : Nat) => (k : Int))

theorem sweepList_length (W : Nat) (fwd : Bool) : (sweepList W fwd).length = W := by
  unfold sweepList; split <;> simp

theorem sweepList_get (W : Nat) (fwd : Bool) (k : Nat) (h : k < (sweepList W fwd).length) :
    (sweepList W fwd)[k] = ((posOf W fwd k : Nat) : Int) := by
  have hk : k < W := by simpa [sweepList_length] using h
  unfold sweepList posOf at *
  cases fwd <;> simp <;> omega

/-- `IL.exec_seq_assoc` with the sides exchanged; inside `IL.Px` the short name `exec_seq_assoc` is this one -/
theorem exec_seq_assoc (fuel : Nat) (a b d : St) (s : State F) :
    exec fuel (.seq (.seq a b) d) s = exec fuel (.seq a (.seq b d)) s :=
  (IL.exec_seq_assoc fuel a b d s).symm

variable {N : Names} (hN : N.WF) {c : Cfg} {emb : Nat → F} {tg : Nat → Nat → Bool} {row : Nat} {fwd : Bool}
include hN

/-- step 3: the sweep loop is `Prox.sweepN … c.W` -/
theorem sweepLoop_refines (fuel : Nat) (s : State F) (m0 : LineSt) (hs : s.ctl = .run)
    (env : SweepEnv N c emb tg row fwd s) (rel : LineRel c emb s m0) :
    (exec fuel (sweepLoop N) s).ctl = .run ∧ FrameS LV.sweepScratch N s (exec fuel (sweepLoop N) s) ∧
    LineRel c emb (exec fuel (sweepLoop N) s) (sweepN c tg row fwd m0 c.W) := by
  have hrange : rangeList (IE.eval s (.var (N.nm .start))) (IE.eval s (.var (N.nm .end_))) (IE.eval s (.var (N.nm .step))) =
      sweepList c.W fwd := by
    simp only [IE.eval, env.start, env.end_, env.step, sweepList]
    cases fwd
    · simpa using rangeList_down c.W
    · simpa using rangeList_up c.W
  have hstep0 : IE.eval s (.var (N.nm .step)) ≠ 0 := by
    simp only [IE.eval, env.step]; cases fwd <;> simp
  have := forRange_list (N.nm .pixel) (.var (N.nm .start)) (.var (N.nm .end_)) (.var (N.nm .step)) (pixelBody N) s fuel
    (sweepList c.W fwd) hs rfl rfl rfl hstep0 hrange
    (fun k st => FrameS LV.sweepScratch N s st ∧ LineRel c emb st (sweepN c tg row fwd m0 k))
    ⟨FrameS.refl _ N s, rel⟩
    (by
      intro k hk st hst ⟨fr, rl⟩
      have hkW : k < c.W := by simpa [sweepList_length] using hk
      rw [sweepList_get c.W fwd k hk]
      generalize hst1 : ({ st with ienv := setS st.ienv (N.nm .pixel) ((posOf c.W fwd k : Nat) : Int) } : State F) = st1
      have f1 : FrameS LV.sweepScratch N st st1 := hst1 ▸ FrameS.setI st .pixel rfl _
      have e1 : st1.ia = st.ia ∧ st1.fa = st.fa ∧ st1.ctl = .run ∧
          st1.ienv (N.nm .pixel) = ((posOf c.W fwd k : Nat) : Int) := by
        subst hst1; exact ⟨rfl, rfl, hst, by simp⟩
      obtain ⟨e1i, e1f, c1, hpix⟩ := e1
      have env1 := env.of_frame hN (fr.trans f1)
      obtain ⟨hc, hf, hr⟩ := pixel_refines hN fuel st1 (sweepN c tg row fwd m0 k) k hkW c1 env1 (rl.congr e1i e1f) hpix
      obtain ⟨h1, h2, _⟩ := afterBody_proj (exec fuel (pixelBody N) st1)
      refine ⟨(afterBody_ctl_run _).2 hc, ?_, ?_⟩
      · exact (fr.trans (f1.trans (hf.mono (fun a ha => by simp [LV.sweepScratch, ha])))).afterBody
      · exact hr.congr h1 h2)
  rw [sweepList_length] at this
  exact this

/-- the inputs of one call of `_process_proximity_line` on line `row`, and the hypotheses that tie them to the
    model (`SweepEnv` without the four locals the prologue sets) -/
structure LineEnv (N : Names) (c : Cfg) (emb : Nat → F) (tg : Nat → Nat → Bool) (row : Nat) (fwd : Bool)
    (s : State F) : Prop where
  shp : LineShp N c.H c.W s
  vshp : s.shp N.vals = [(s.fa N.vals).length]
  row_lt : row < c.H
  row_eq : s.ienv (N.nm .lineId) = (row : Int)
  fwd_eq : s.benv (N.nm .isForward) = fwd
  width : s.ienv (N.nm .width) = (c.W : Int)
  arith : Arith c emb (s.fenv (N.nm .maxDistance))
  dist : ∀ tr tc r p, tr < c.H → tc < c.W → r < c.H → p < c.W →
    cellDist2 N c.W s tr tc r p = emb (dist2 c tr tc r p)
  tgt : ∀ p, p < c.W → targetTest ((s.fa N.src).getD p Fl.nan) (s.fa N.vals) = tg row p

omit hN in
def prologueEnv (N : Names) (W : Nat) (fwd : Bool) (s : State F) : String → Int :=
  setS (setS (setS (setS s.ienv (N.nm .start) (if fwd then 0 else (W : Int) - 1))
    (N.nm .end_) (if fwd then (W : Int) else -1)) (N.nm .step) (if fwd then 1 else -1))
    (N.nm .nValues) ((s.fa N.vals).length : Int)

theorem prologue_exec (fuel : Nat) (s : State F) (hs : s.ctl = .run)
    (env : LineEnv N c emb tg row fwd s) (tail : St) :
    ∃ s1 : State F, exec fuel (prologueThen N tail) s = exec fuel tail s1 ∧
      s1.ctl = .run ∧ FrameS LV.lineScratch N s s1 ∧ s1.ia = s.ia ∧ s1.fa = s.fa ∧ SweepEnv N c emb tg row fwd s1 := by
  have hne := hN.nm_eq
  refine ⟨{ s with ienv := prologueEnv N c.W fwd s }, ?_, hs,
    ⟨rfl, rfl, ?_, fun _ _ => rfl, fun _ _ => rfl, fun _ _ _ _ _ => rfl, fun _ _ => rfl⟩, rfl, rfl, ?_⟩
  · have hf := env.fwd_eq
    have hw := env.width
    have hv := env.vshp
    generalize hX : (exec fuel tail : State F → State F) = X
    cases fwd <;>
      simp [il, prologueThen, prologueEnv, exec_seq, hs, hne, hf, hw, hv, hX, List.getD_cons_zero]
    congr 2
    funext w
    simp only [setS]
    by_cases h1 : w = N.nm .nValues <;> by_cases h2 : w = N.nm .step <;> by_cases h3 : w = N.nm .end_ <;>
      by_cases h4 : w = N.nm .start <;> simp_all
  · intro v hv
    simp [prologueEnv, setS, hv .start rfl, hv .end_ rfl, hv .step rfl, hv .nValues rfl]
  · exact ⟨env.shp.of_shp rfl, env.vshp, by simp [prologueEnv, setS], env.row_lt,
      by simpa [prologueEnv, setS, hne] using env.row_eq,
      by simp [prologueEnv, setS, hne], by simp [prologueEnv, setS, hne], by simp [prologueEnv, setS, hne], env.arith,
      fun tr tc r p h1 h2 h3 h4 => by
        have := env.dist tr tc r p h1 h2 h3 h4
        simpa [cellDist2, cellDist, prologueEnv, setS, hne] using this,
      env.tgt⟩

/-- `proximityLine_refines` for the template `lineBody N` -/
theorem lineBody_refines (fuel : Nat) (s : State F) (m0 : LineSt) (hs : s.ctl = .run)
    (env : LineEnv N c emb tg row fwd s) (rel : LineRel c emb s m0) :
    (exec fuel (lineBody N) s).ctl = .ret ∧ FrameS LV.lineScratch N s (exec fuel (lineBody N) s) ∧
    LineRel c emb (exec fuel (lineBody N) s) (sweepN c tg row fwd m0 c.W) := by
  obtain ⟨s1, hsplit, c1, f1, i1, a1, env1⟩ := prologue_exec hN fuel s hs env (.seq (sweepLoop N) .ret)
  rw [lineBody, hsplit]
  obtain ⟨c2, f2, r2⟩ := sweepLoop_refines hN fuel s1 m0 c1 env1 (rel.congr i1 a1)
  rw [exec_seq_run _ _ _ _ c2]
  generalize exec fuel (sweepLoop N) s1 = s2 at c2 f2 r2
  rw [exec_ret]
  refine ⟨rfl, ?_, r2.congr rfl rfl⟩
  have f12 := f1.trans (f2.mono (fun a ha => by simp [LV.lineScratch, ha]))
  exact ⟨f12.shp, f12.ext, f12.ienv, f12.fenv, f12.benv, f12.ia, f12.fa⟩

omit hN in
/-- the generated `_process_proximity_line` refines `Prox.sweepN`: for every state `s` holding well-formed
    inputs (`LineEnv`: shapes, `line_id = row < H`, `width = W`, `is_forward = fwd`, the hypotheses `Arith` on the
    number domain and `dist` on `_distance`, the target test = `tg row`) whose five work arrays are related to a
    model line state `m0`, the program returns and its work arrays are related to `sweepN c tg row fwd m0 W` --
    all `W` pixels, forward or backward; nothing else but its own locals changes. -/
theorem proximityLine_refines (fuel : Nat) (s : State F) (m0 : LineSt) (hs : s.ctl = .run)
    (env : LineEnv N0 c emb tg row fwd s) (rel : LineRel c emb s m0) :
    let r := Gen.IL.proximityLine.run s fuel
    r.ctl = .ret ∧ LineRel c emb r (sweepN c tg row fwd m0 c.W) ∧ FrameS LV.lineScratch N0 s r := by
  simp only [Prog.run, proximityLine_is_template]
  obtain ⟨h1, h2, h3⟩ := lineBody_refines N0_wf fuel s m0 hs env rel
  exact ⟨h1, h3, h2⟩

end XrsVerif.IL.Px
