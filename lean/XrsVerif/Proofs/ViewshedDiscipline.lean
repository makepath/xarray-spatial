import XrsVerif.Proofs.ViewshedOrder
import Mathlib.Data.List.Nodup
/-
  C05 -- the active-set discipline of the sweep's operation list (Model/ViewshedEvents.lean: `sweepOps`, `replay`):
  the global replay over the set of active cells decomposes into one two-state automaton per cell, and for every cell
  the operations are  insert, query, delete  (on the east ray: initial insert, query, delete, insert).
-/
namespace XrsVerif.ViewshedEvents

/-- the kinds of the operations that concern cell `(r, c)`, in order -/
def kinds (ops : List COp) (r c : Int) : List Int :=
  (ops.filter fun o => decide (o.row = r) && decide (o.col = c)).map COp.kind

theorem kinds_cons (op : COp) (ops : List COp) (r c : Int) :
    kinds (op :: ops) r c = if op.row = r ∧ op.col = c then op.kind :: kinds ops r c else kinds ops r c := by
  unfold kinds
  by_cases h : op.row = r ∧ op.col = c
  · rw [if_pos h, List.filter_cons_of_pos (by simp [h.1, h.2])]; rfl
  · rw [if_neg h, List.filter_cons_of_neg]
    simp only [Bool.and_eq_true, decide_eq_true_eq]; exact h

theorem kinds_append (a b : List COp) (r c : Int) : kinds (a ++ b) r c = kinds a r c ++ kinds b r c := by
  simp [kinds, List.filter_append]

theorem contains_cons_ne (act : List (Int × Int)) (p q : Int × Int) (h : q ≠ p) :
    (p :: act).contains q = act.contains q := by
  simp [h]

theorem contains_filter_ne (act : List (Int × Int)) (p q : Int × Int) (h : q ≠ p) :
    (act.filter fun x => !(x == p)).contains q = act.contains q := by
  rw [Bool.eq_iff_iff, List.contains_iff_mem, List.contains_iff_mem, List.mem_filter]
  simp [h]

theorem forall_cell_iff {P Q : Int → Int → Prop} {A : Prop} (r0 c0 : Int) (h0 : Q r0 c0 ↔ A ∧ P r0 c0)
    (hne : ∀ r c, ¬(r0 = r ∧ c0 = c) → (Q r c ↔ P r c)) : (A ∧ ∀ r c, P r c) ↔ ∀ r c, Q r c := by
  constructor
  · rintro ⟨ha, hp⟩ r c
    by_cases h : r0 = r ∧ c0 = c
    · obtain ⟨rfl, rfl⟩ := h; exact h0.mpr ⟨ha, hp _ _⟩
    · exact (hne r c h).mpr (hp r c)
  · intro hq
    refine ⟨(h0.mp (hq r0 c0)).1, fun r c => ?_⟩
    by_cases h : r0 = r ∧ c0 = c
    · obtain ⟨rfl, rfl⟩ := h; exact (h0.mp (hq _ _)).2
    · exact (hne r c h).mp (hq r c)

/-- **the replay over the active set is the conjunction of the per-cell automata**: an operation is a step of its own
    cell's automaton and leaves every other cell's state and operation list alone -/
theorem replay_iff (ops : List COp) : ∀ act : List (Int × Int),
    replay act ops = true ↔ ∀ r c, replay1 (act.contains (r, c)) (kinds ops r c) = true := by
  induction ops with
  | nil => intro act; simp [replay, kinds, replay1]
  | cons op ops ih =>
    intro act
    have ne : ∀ {r0 c0 r c : Int}, ¬(r0 = r ∧ c0 = c) → (r, c) ≠ (r0, c0) := fun h e =>
      h (by cases e; exact ⟨rfl, rfl⟩)
    cases op with
    | ins r0 c0 b =>
      rw [replay, Bool.and_eq_true, ih]
      refine forall_cell_iff r0 c0 ?_ fun r c h => ?_
      · rw [kinds_cons, if_pos ⟨rfl, rfl⟩]; simp [replay1, COp.kind]
      · simp only [kinds_cons, COp.row, COp.col, h, if_false, contains_cons_ne _ _ _ (ne h)]
    | del r0 c0 =>
      rw [replay, Bool.and_eq_true, ih]
      refine forall_cell_iff r0 c0 ?_ fun r c h => ?_
      · rw [kinds_cons, if_pos ⟨rfl, rfl⟩]; simp [replay1, COp.kind]
      · simp only [kinds_cons, COp.row, COp.col, h, if_false, contains_filter_ne _ _ _ (ne h)]
    | qry r0 c0 =>
      rw [replay, Bool.and_eq_true, ih]
      refine forall_cell_iff r0 c0 ?_ fun r c h => ?_
      · rw [kinds_cons, if_pos ⟨rfl, rfl⟩]; simp [replay1, COp.kind]
      · simp only [kinds_cons, COp.row, COp.col, h, if_false]

theorem kinds_cons_ins (r0 c0 : Int) (b : Bool) (ops : List COp) (r c : Int) :
    kinds (COp.ins r0 c0 b :: ops) r c = if r0 = r ∧ c0 = c then 1 :: kinds ops r c else kinds ops r c :=
  kinds_cons _ _ _ _

theorem kinds_initial (vr : Int) : ∀ l : List Int, l.Nodup → ∀ r c : Int,
    kinds (l.map fun j => COp.ins vr j true) r c = if r = vr ∧ c ∈ l then [1] else [] := by
  intro l
  induction l with
  | nil => intro _ r c; simp [kinds]
  | cons j l ih =>
    intro hnd r c
    rw [List.nodup_cons] at hnd
    rw [List.map_cons, kinds_cons_ins, ih hnd.2]
    by_cases h1 : vr = r ∧ j = c
    · obtain ⟨rfl, rfl⟩ := h1
      simp [hnd.1]
    · rw [if_neg h1]
      by_cases h2 : r = vr
      · subst h2
        have : ¬ c = j := fun h => h1 ⟨rfl, h.symm⟩
        simp [this]
      · simp [h2]

theorem initialCols_nodup (w : Nat) (vc : Int) : (initialCols w vc).Nodup := by
  unfold initialCols
  refine List.Nodup.sublist List.filter_sublist ?_
  rw [List.nodup_map_iff_inj_on List.nodup_range]
  intro a _ b _ h
  exact_mod_cast h

theorem mem_initialCols' (w : Nat) (vc j : Int) : j ∈ initialCols w vc ↔ vc < j ∧ 0 ≤ j ∧ j < w := by
  simp only [initialCols, List.mem_filter, List.mem_map, List.mem_range, decide_eq_true_eq]
  constructor
  · rintro ⟨⟨k, hk, rfl⟩, hv⟩; omega
  · rintro ⟨hv, h0, hw⟩; exact ⟨⟨j.toNat, by omega, by omega⟩, hv⟩

theorem sortedEvents_filter_cell_int (T : Int → Int → Rat) (h w : Nat) (vr vc r c : Int) :
    (sortedEvents T h w vr vc).filter (ofCell r c) =
      if 0 ≤ r ∧ r < h ∧ 0 ≤ c ∧ c < w ∧ ¬(r = vr ∧ c = vc) then
        (if r = vr ∧ vc < c
         then [mkEvent T h w vr vc r c 0, mkEvent T h w vr vc r c (-1), mkEvent T h w vr vc r c 1]
         else [mkEvent T h w vr vc r c 1, mkEvent T h w vr vc r c 0, mkEvent T h w vr vc r c (-1)])
      else [] := by
  have hperm := (sortedEvents_perm T h w vr vc).filter (ofCell r c)
  by_cases hnn : 0 ≤ r ∧ 0 ≤ c
  · obtain ⟨n, rfl⟩ := Int.eq_ofNat_of_zero_le hnn.1
    obtain ⟨m, rfl⟩ := Int.eq_ofNat_of_zero_le hnn.2
    rw [eventList_filter_cell] at hperm
    by_cases hin : n < h ∧ m < w ∧ ¬((n : Int) = vr ∧ (m : Int) = vc)
    · rw [if_pos hin] at hperm
      rw [if_pos (by omega)]
      exact sorted_cellEvents T h w vr vc n m (by omega) ((sortedEvents_pairwise T h w vr vc).filter _) hperm
    · rw [if_neg hin] at hperm
      rw [if_neg (by omega), hperm.eq_nil]
  · -- no event has a negative coordinate
    rw [if_neg (by omega)]
    refine (hperm.trans (.of_eq (filter_flatMap_range_none h _ _ fun i x hx => ?_))).eq_nil
    obtain ⟨j, _, hx⟩ := List.mem_flatMap.mp hx
    split at hx
    · simp at hx
    · rw [cellEvents_ofCell T h w vr vc i j r c x hx]
      have : ¬ ((i : Int) = r ∧ (j : Int) = c) := by omega
      simpa using this

theorem kind_opOfEvent_mkEvent (T : Int → Int → Rat) (h w vr vc r c : Int) :
    (opOfEvent (mkEvent T h w vr vc r c 1)).kind = 1 ∧ (opOfEvent (mkEvent T h w vr vc r c 0)).kind = 0 ∧
    (opOfEvent (mkEvent T h w vr vc r c (-1))).kind = -1 := by
  simp [opOfEvent, mkEvent, COp.kind]

theorem kinds_map_opOfEvent (l : List Event) (r c : Int) :
    kinds (l.map opOfEvent) r c = ((l.filter (ofCell r c)).map opOfEvent).map COp.kind := by
  unfold kinds
  rw [List.filter_map]
  congr 2
  apply List.filter_congr
  intro e _
  simp only [Function.comp, ofCell, opOfEvent]
  split <;> [skip; split] <;> rfl

/-- **the operations of one cell**: insert, query, delete -- and on
    the east ray: initial insert, query (first events of the sweep, bearing 0), delete, and a second insert at the very end
    of the sweep (bearing just below 2π), never deleted -/
theorem kinds_sweepOps (T : Int → Int → Rat) (h w : Nat) (vr vc : Int) (hobs : 0 ≤ vr ∧ vr < h) (r c : Int) :
    kinds (sweepOps T h w vr vc) r c =
      if 0 ≤ r ∧ r < h ∧ 0 ≤ c ∧ c < w ∧ ¬(r = vr ∧ c = vc) then
        (if r = vr ∧ vc < c then [1, 0, -1, 1] else [1, 0, -1])
      else [] := by
  unfold sweepOps
  rw [kinds_append, kinds_initial vr _ (initialCols_nodup w vc), kinds_map_opOfEvent, sortedEvents_filter_cell_int]
  simp only [mem_initialCols']
  obtain ⟨k1, k0, km⟩ := kind_opOfEvent_mkEvent T h w vr vc r c
  by_cases hin : 0 ≤ r ∧ r < h ∧ 0 ≤ c ∧ c < w ∧ ¬(r = vr ∧ c = vc)
  · rw [if_pos hin, if_pos hin]
    by_cases he : r = vr ∧ vc < c
    · rw [if_pos he, if_pos he, if_pos ⟨he.1, he.2, hin.2.2.1, hin.2.2.2.1⟩]
      simp only [List.map_cons, List.map_nil, k1, k0, km, List.cons_append, List.nil_append]
    · rw [if_neg he, if_neg he, if_neg (by intro h'; exact he ⟨h'.1, h'.2.1⟩)]
      simp only [List.map_cons, List.map_nil, k1, k0, km, List.nil_append]
  · rw [if_neg hin, if_neg hin]
    have : ¬(r = vr ∧ vc < c ∧ 0 ≤ c ∧ c < w) := by
      intro h'
      exact hin ⟨by omega, by omega, h'.2.2.1, h'.2.2.2, by omega⟩
    rw [if_neg this]; rfl

end XrsVerif.ViewshedEvents
