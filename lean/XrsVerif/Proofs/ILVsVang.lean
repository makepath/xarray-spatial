import XrsVerif.Proofs.ILangVssweep
import XrsVerif.Proofs.ViewshedOutput
/-
  The generated `_get_vertical_ang` (template `vangBody p`, layer T3) computes `vangF`, which is
  the value of the KLang translation of the same function (`Gen.viewshed_vertical_ang`, layer T1) -- the model
  `Viewshed.vertAng` the output theorems of Props/C05.lean (`vertical_angle_range`) are about.
-/
namespace XrsVerif.ILSw
open XrsVerif XrsVerif.IL
variable {F : Type} [Fl F]

/-- **`_get_vertical_ang(viewpoint_elev, distance_to_viewpoint, elev)` on numbers** (once its assertion has passed) -/
def vangF (ve d e : F) : F :=
  if Fl.eq (Fl.sub ve e) (Fl.lit 0 1) = true then Fl.lit 90 1
  else if Fl.lt (Fl.lit 0 1) (Fl.sub ve e) = true then
    Fl.div (Fl.mul (Fl.atan (Fl.div (Fl.sqrt d) (Fl.sub ve e))) (Fl.lit 180 1)) piF
  else Fl.add (Fl.div (Fl.mul (Fl.atan (Fl.div (Fl.abs (Fl.sub ve e)) (Fl.sqrt d))) (Fl.lit 180 1)) piF) (Fl.lit 90 1)

def vangEnv (p : String) (s : State F) : String → F :=
  setS (setS s.fenv (p ++ "diff_elev") (Fl.sub (s.fenv (p ++ "viewpoint_elev")) (s.fenv (p ++ "elev"))))
    (p ++ "ret0") (vangF (s.fenv (p ++ "viewpoint_elev")) (s.fenv (p ++ "distance_to_viewpoint")) (s.fenv (p ++ "elev")))

theorem vangBody_exec (p : String) (s : State F) (fuel : Nat) (hs : s.ctl = .run) :
    (Fl.lt (Fl.lit 0 1) (Fl.abs (s.fenv (p ++ "distance_to_viewpoint"))) = true →
      exec fuel (vangBody p) s = { s with fenv := vangEnv p s, ctl := .ret }) ∧
    (Fl.lt (Fl.lit 0 1) (Fl.abs (s.fenv (p ++ "distance_to_viewpoint"))) = false →
      (exec fuel (vangBody p) s).ctl = .err "AssertionError") := by
  obtain ⟨ie, fe, be, ia, fa, shp, ext, ctl⟩ := s
  simp only at hs; subst hs
  constructor
  · intro hd
    simp only at hd
    cases h1 : Fl.eq (Fl.sub (fe (p ++ "viewpoint_elev")) (fe (p ++ "elev"))) (Fl.lit 0 1) <;>
    cases h2 : Fl.lt (Fl.lit 0 1) (Fl.sub (fe (p ++ "viewpoint_elev")) (fe (p ++ "elev"))) <;>
    simp [il, vangBody, piF, vangEnv, vangF, hd, h1, h2]
  · intro hd
    simp only at hd
    simp [il, vangBody, hd]

/-- **the generated `_get_vertical_ang` computes `vangF`** -/
theorem vsVerticalAng_refines (s : State F) (fuel : Nat) (hs : s.ctl = .run) :
    let r := Gen.IL.vsVerticalAng.run s fuel
    (Fl.lt (Fl.lit 0 1) (Fl.abs (s.fenv "distance_to_viewpoint")) = true →
      r.ctl = .ret ∧ r.fenv "ret0" = vangF (s.fenv "viewpoint_elev") (s.fenv "distance_to_viewpoint") (s.fenv "elev") ∧
        r.fa = s.fa ∧ r.ia = s.ia ∧ r.ienv = s.ienv) ∧
    (Fl.lt (Fl.lit 0 1) (Fl.abs (s.fenv "distance_to_viewpoint")) = false → r.ctl = .err "AssertionError") := by
  simp only [Prog.run, vsVerticalAng_is_template]
  obtain ⟨h1, h2⟩ := vangBody_exec "" s fuel hs
  refine ⟨fun hd => ?_, fun hd => h2 (by simpa using hd)⟩
  rw [h1 (by simpa using hd)]
  simp [vangEnv]

/-- the two translations of `_get_vertical_ang` agree: `vangF` (ILang, T3) is the cell value of the KLang kernel (T1) -/
theorem vangF_eq_kernel (ve d e : F) (hd : Fl.lt (Fl.lit 0 1) (Fl.abs d) = true) :
    vangF ve d e = Gen.viewshed_vertical_ang.cell
      (envOf [("viewpoint_elev", ve), ("distance_to_viewpoint", d), ("elev", e)]) (rd0 []) (fun _ => []) := by
  unfold vangF
  cases h1 : Fl.eq (Fl.sub ve e) (Fl.lit 0 1) <;> cases h2 : Fl.lt (Fl.lit 0 1) (Fl.sub ve e) <;>
  simp [kl, Gen.viewshed_vertical_ang, hd, h1, h2, piF]

section NV
variable {K : Type} [Field K] [LinearOrder K] [IsStrictOrderedRing K] [Trig K]

/-- at the proof-side number domain: **the generated program's value is the model's `vertAng`** -/
theorem vangF_eq_vertAng (ve d2 e : K) (hd : 0 < d2) :
    vangF (some ve : NV K) (some d2) (some e) = Viewshed.vertAng ve d2 e := by
  rw [vangF_eq_kernel]
  · rfl
  · simp [abs_pos.mpr (ne_of_gt hd)]

end NV

end XrsVerif.ILSw
