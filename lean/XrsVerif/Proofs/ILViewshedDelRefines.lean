import XrsVerif.Proofs.ILViewshedDelLoops
import XrsVerif.Proofs.ILViewshedFixDelLoop
/-
  **`Gen.IL.vsDelete` (`_delete_from_tree`) complete**: the descent (`vsDelete_descent_refines`), the position of the
  spliced-out node (`splicePos`), then everything after the choice of the node `y` to splice out (`delRest`): the splice,
  the four recomputation passes and the colour fix-up, composed (`delRest_spec`).  `vsDelete_refines_tree` is the same as
  a statement about `rbDeleteP`, `_delete_from_tree` as a function on model trees: positions on the arrays (`findZ`,
  `leftmostZ`, `splicePos`) abstract to positions on the tree (`findTZ`, `leftmostTZ`, `splicePosT`).
-/
namespace XrsVerif.ILVs
open XrsVerif XrsVerif.IL XrsVerif.Viewshed
variable {F : Type} [Fl F]

theorem delRest_exec (fuel : Nat) (s : State F) (y : Nat) (hy : s.ienv "y" = y) (hrun : s.ctl = .run)
    (h1 : (exec fuel (.seq (.seq (seqL delSpliceItems) delL1) (seqL (recompFixItems "10"))) s).ctl = .run) :
    exec fuel delRest s = exec fuel (.seq delCopy (.seq delFixCall delEnd))
      (exec fuel (.seq (.seq (seqL delSpliceItems) delL1) (seqL (recompFixItems "10"))) s) := by
  have hne : ¬ ((y : Int) = -1) := by omega
  have hg : exec fuel delGuard s = s := by
    simp only [delGuard]
    rw [exec_ite_false _ _ _ _ _ (by simp [BE.ok, IE.ok_var, IE.ok_lit]) (by simp [BE.eval, IE.eval_var, IE.eval_lit, cmpInt, hy, hne]),
      exec_skip]
  rw [delRest_eq]
  simp only [delRest']
  rw [exec_seq_run _ _ _ _ (by rw [hg]; exact hrun), hg]
  rw [exec_seqK_ne _ _ _ _ (by intro h; cases h)]
  rw [exec_seq_congr _ _ _ _ _ (fun s' => exec_seq_congr _ _ _ _ s' (fun s'' => exec_seqK_ne fuel _ _ s'' (by intro h; cases h)))]
  exact exec_seq3K _ _ _ _ _ _ h1

theorem delEnd_spec (fuel : Nat) (s : State F) (hrun : s.ctl = .run) :
    exec fuel delEnd s =
      { s with ienv := setS (setS s.ienv "ret0" (s.ienv "root")) "ret1" (s.ienv "deleted"), ctl := .ret } := by
  simp only [delEnd]
  rw [exec_seq_run _ _ _ _ (by rw [exec_setI _ _ _ _ (IE.ok_var _ _)]; exact hrun), exec_setI _ _ _ _ (IE.ok_var _ _),
    IE.eval_var, exec_seq_run _ _ _ _ (by rw [exec_setI _ _ _ _ (IE.ok_var _ _)]; exact hrun),
    exec_setI _ _ _ _ (IE.ok_var _ _), IE.eval_var, exec_ret]
  simp [setS]

/-- the pass-form model on the abstraction of a position: `x`'s subtree and the ancestors of `y` after the passes,
    plugged together -/
def delPassArr (V : List F) (N : List Int) (n : Nat) (xsh : Sh) (y : Nat) (cy : Ctx) (jz : Option Nat) : Tree (Fv F) :=
  plugT (delPassT feq (vAt V (n - 1) 7) (absT V N xsh) (nodeAt V y) (absCtx V N cy) jz).1
    (delPassT feq (vAt V (n - 1) 7) (absT V N xsh) (nodeAt V y) (absCtx V N cy) jz).2

theorem delPassArr_view (s : State F) (n : Nat) (xsh : Sh) (y : Nat) (cy : Ctx) :
    delPassArr (s.fa "tree_vals") (s.ia "tree_nodes") n xsh y cy none =
      ((zview s n xsh cy).l1f1 (nodeAt (s.fa "tree_vals") y)).tree := rfl

theorem delPassArr_view_succ (s : State F) (n : Nat) (xsh : Sh) (y : Nat) (cy : Ctx) (j : Nat) (hcy : cy ≠ []) :
    delPassArr (s.fa "tree_vals") (s.ia "tree_nodes") n xsh y cy (some j) =
      (((zview s n xsh cy).l1f1 (nodeAt (s.fa "tree_vals") y)).cl2 (nodeAt (s.fa "tree_vals") y) j).tree := by
  have hcne : absCtx (s.fa "tree_vals") (s.ia "tree_nodes") cy ≠ [] := fun h => hcy (by
    have := congrArg List.length h; rw [absCtx_length] at this; exact List.length_eq_zero_iff.mp this)
  simp only [delPassArr, delPassT, zview, ZView.l1f1, ZView.cl2, ZView.tree, l1f1T_fst feq _ _ _ _ hcne]

/-- **`_delete_from_tree` after the choice of `y`** -/
theorem delRest_spec (fuel n : Nat) (s : State F) (cy : Ctx) (yl : Sh) (y : Nat) (yr : Sh) (xsh : Sh)
    (hxsh : xsh = spliceSub yl yr) (h : TreeAt "root" s n (plug (.node yl y yr) cy)) (hy : s.ienv "y" = y)
    (hne : cy = [] → xsh ≠ .nil) (hnil : nAt (s.ia "tree_nodes") (n - 1) 0 = 1)
    (hcol : ∀ j ∈ (plug (.node yl y yr) cy).idxs, ColV (nAt (s.ia "tree_nodes") j 0)) (jz : Option Nat)
    (hz : (jz = none ∧ s.ienv "z" = y) ∨
      (∃ below zf above, jz = some below.length ∧ cy = below ++ zf :: above ∧ s.ienv "z" = (zf.idx : Int) ∧ y ≠ zf.idx))
    (hf : cy.length + 2 ≤ fuel) :
    (exec fuel delRest s).ctl = .ret ∧ VS (exec fuel delRest s) n ∧
    ∃ sh' : Sh, Linked ((exec fuel delRest s).ia "tree_nodes") n (-1) sh' ∧ sh'.idxs = (plug xsh cy).idxs ∧
      absT ((exec fuel delRest s).fa "tree_vals") ((exec fuel delRest s).ia "tree_nodes") sh' =
        (if nAt (s.ia "tree_nodes") y 0 = 1 ∧ xsh.ptr ≠ -1
          then rbDelFix (vAt (s.fa "tree_vals") (n - 1) 7) (cy.map Fr.dir)
            (delPassArr (s.fa "tree_vals") (s.ia "tree_nodes") n xsh y cy jz)
          else delPassArr (s.fa "tree_vals") (s.ia "tree_nodes") n xsh y cy jz) ∧
      (exec fuel delRest s).ienv "ret0" = sh'.ptr ∧ (exec fuel delRest s).ienv "ret1" = y ∧
      vAt ((exec fuel delRest s).fa "tree_vals") (n - 1) 7 = vAt (s.fa "tree_vals") (n - 1) 7 ∧
      nAt ((exec fuel delRest s).ia "tree_nodes") (n - 1) 0 = 1 ∧
      (∀ j ∈ sh'.idxs, ColV (nAt ((exec fuel delRest s).ia "tree_nodes") j 0)) := by
  obtain ⟨a1, a2, a3, a4, a5, ax, ay, adel, az⟩ := delL1F1_spec fuel n s cy yl y yr h hy xsh hxsh hne (by omega)
  rw [delRest_exec fuel s y hy h.run a1.run]
  generalize exec fuel (.seq (.seq (seqL delSpliceItems) delL1) (seqL (recompFixItems "10"))) s = s1
    at a1 a2 a3 a4 a5 ax ay adel az
  have hyn : y + 1 < n := h.pos.sub.1
  obtain ⟨s2, k1, k2, k3, kx, ky, kdel, k5, k6⟩ : ∃ s2 : State F, exec fuel delCopy s1 = s2 ∧
      TreeAt "root" s2 n (plug xsh cy) ∧ s2.ia = s1.ia ∧ s2.ienv "x" = xsh.ptr ∧ s2.ienv "y" = y ∧ s2.ienv "deleted" = y ∧
      (zview s2 n xsh cy).S = vAt (s.fa "tree_vals") (n - 1) 7 ∧
      (zview s2 n xsh cy).tree = delPassArr (s.fa "tree_vals") (s.ia "tree_nodes") n xsh y cy jz := by
    rcases hz with ⟨hjz, hzy⟩ | ⟨below, zf, above, hjz, hcy, hzv, hyz⟩
    · subst hjz
      exact ⟨s1, delCopyA_spec fuel s1 y ay (az.trans hzy), a1, rfl, ax, ay, adel, by rw [a2]; rfl,
        by rw [a2, delPassArr_view]⟩
    · have hfr := exec_frame fuel delCopy s1
      subst hcy
      obtain ⟨b1, b2⟩ := delCopyB_spec fuel n s1 xsh y below zf above a1 hyz hyn ay (az.trans hzv) ax a5
        (by simp at hf; omega)
      exact ⟨_, rfl, b1, hfr.ia_eq, (hfr.ienv_of delCopy_wI "x" (by simp)).trans ax,
        (hfr.ienv_of delCopy_wI "y" (by simp)).trans ay, (hfr.ienv_of delCopy_wI "deleted" (by simp)).trans adel,
        by rw [b2, a2]; rfl, by rw [b2, a2, a3, hjz, delPassArr_view_succ _ _ _ _ _ _ (by simp)]⟩
  rw [exec_seq_run _ _ _ _ (by rw [k1]; exact k2.run), k1]
  rw [zview_tree] at k6
  have k5' : vAt (s2.fa "tree_vals") (n - 1) 7 = vAt (s.fa "tree_vals") (n - 1) 7 := k5
  have hcol0 : ∀ j, nAt (s2.ia "tree_nodes") j 0 = nAt (s.ia "tree_nodes") j 0 := fun j => by rw [k3]; exact a4 j
  -- the colour fix-up
  have hiny : inRange (y : Int) n = true := k2.vs.inRange hyn
  have tok : BE.ok s2 (.and (.cmpI .eq (.ld2 "tree_nodes" (.var "y") (.lit 0)) (.lit 1)) (.cmpI .ne (.var "x") (.lit (-1)))) = true := by
    simp [BE.ok, okN s2 n k2.vs.shpN, ky, hiny, IE.ok_var, IE.ok_lit]
  have tev : BE.eval s2 (.and (.cmpI .eq (.ld2 "tree_nodes" (.var "y") (.lit 0)) (.lit 1)) (.cmpI .ne (.var "x") (.lit (-1)))) =
      (decide (nAt (s.ia "tree_nodes") y 0 = 1) && decide (xsh.ptr ≠ -1)) := by
    simp only [BE.eval_and, BE.eval_cmpI, evalN s2 n k2.vs.shpN _ 0 (by decide : (0 : Int) ≤ 0), ky, rowOf_nat, IE.eval_var,
      IE.eval_lit, kx, cmpInt, (by decide : (0 : Int).toNat = 0), hcol0]
  have hnil2 : nAt (s2.ia "tree_nodes") (n - 1) 0 = 1 := (hcol0 _).trans hnil
  have hcol2 : ∀ j ∈ (plug xsh cy).idxs, ColV (nAt (s2.ia "tree_nodes") j 0) := fun j hj => by
    rw [hcol0]
    refine hcol j ?_
    rw [mem_plug_iff] at hj ⊢
    exact hj.imp (fun hj => (spliceSub_sublist yl y yr).subset (hxsh ▸ hj)) id
  by_cases hc : nAt (s.ia "tree_nodes") y 0 = 1 ∧ xsh.ptr ≠ -1
  · rw [if_pos hc]
    obtain ⟨xl, x, xr, hx⟩ : ∃ xl x xr, xsh = .node xl x xr := by
      cases xsh with
      | nil => exact absurd rfl hc.2
      | node a b c => exact ⟨a, b, c, rfl⟩
    rw [hx] at k2 kx k6 hcol2 ⊢
    have hfr := exec_frame fuel delFixThen s2
    obtain ⟨sh', mf⟩ := delFixThen_spec fuel n s2 xl x xr cy k2 kx hnil2 hcol2 hf
    rw [delFixCall_eq, exec_seq_run _ _ _ _ (by
      rw [exec_ite_true _ _ _ _ _ tok (by rw [tev]; simp [hc.1, hc.2])]; exact mf.holds.run),
      exec_ite_true _ _ _ _ _ tok (by rw [tev]; simp [hc.1, hc.2])]
    generalize exec fuel delFixThen s2 = s3 at mf hfr
    rw [delEnd_spec fuel s3 mf.holds.run]
    exact ⟨rfl, mf.holds.vs.of_eq rfl rfl rfl, sh', mf.holds.linked, mf.idxs,
      by show absT (s3.fa "tree_vals") (s3.ia "tree_nodes") sh' = _; rw [mf.abs, k6, k5'],
      by simp [setS, mf.holds.root], by simp [setS]; rw [hfr.ienv "deleted" (by decide)]; exact kdel, mf.nilMax.trans k5',
      mf.nilCol.trans hnil2, fun j hj => mf.col j (hcol2 j (by rw [← mf.idxs]; exact hj))⟩
  · rw [if_neg hc]
    rw [delFixCall_eq, exec_seq_run _ _ _ _ (by
      rw [exec_ite_false _ _ _ _ _ tok (by rw [tev]; simpa using hc), exec_skip]; exact k2.run),
      exec_ite_false _ _ _ _ _ tok (by rw [tev]; simpa using hc), exec_skip, delEnd_spec fuel s2 k2.run]
    exact ⟨rfl, k2.vs.of_eq rfl rfl rfl, _, k2.linked, rfl, k6, by simp [setS, k2.root], by simp [setS, kdel], k5', hnil2,
      hcol2⟩

/-- the leftmost node of `.node rl m rr` below the context `acc`: its row, its right subtree, its ancestors -/
def leftmostZ : Sh → Nat → Sh → Ctx → Nat × Sh × Ctx
  | .nil, m, rr, acc => (m, rr, acc)
  | .node a b c, m, rr, acc => leftmostZ a b c (.L m rr :: acc)

theorem leftmostZ_spec : ∀ (rl : Sh) (m : Nat) (rr : Sh) (acc : Ctx),
    (leftmostZ rl m rr acc).1 = minIdx rl m ∧
    plug (.node .nil (leftmostZ rl m rr acc).1 (leftmostZ rl m rr acc).2.1) (leftmostZ rl m rr acc).2.2 =
      plug (.node rl m rr) acc ∧
    ∃ below, (leftmostZ rl m rr acc).2.2 = below ++ acc := by
  intro rl
  induction rl with
  | nil => intro m rr acc; exact ⟨rfl, rfl, [], rfl⟩
  | node a b c iha _ =>
    intro m rr acc
    obtain ⟨h1, h2, below, h3⟩ := iha b c (.L m rr :: acc)
    refine ⟨h1, h2, below ++ [.L m rr], ?_⟩
    show (leftmostZ a b c (.L m rr :: acc)).2.2 = _
    rw [h3]; simp

/-- the position at which `_delete_from_tree` works, the key found at `(l, z, r, ctx)`: (`x`'s subtree, `y`, the
    ancestors of `y`, the number of frames between `y` and `z`) -/
def splicePos (l : Sh) (z : Nat) (r : Sh) (ctx : Ctx) : Sh × Nat × Ctx × Option Nat :=
  match l, r with
  | .nil, r => (r, z, ctx, none)
  | .node a b c, .nil => (.node a b c, z, ctx, none)
  | .node a b c, .node rl m rr =>
    ((leftmostZ rl m rr (.R (.node a b c) z :: ctx)).2.1, (leftmostZ rl m rr (.R (.node a b c) z :: ctx)).1,
     (leftmostZ rl m rr (.R (.node a b c) z :: ctx)).2.2,
     some ((leftmostZ rl m rr (.R (.node a b c) z :: ctx)).2.2.length - (ctx.length + 1)))

/-- what `splicePos` is: `y` (with one NIL child, the other `x`'s subtree) at `cy` in the same tree, `y = spliceIdx`,
    and `z` is `y` or the frame `j` levels above -/
theorem splicePos_spec (l : Sh) (z : Nat) (r : Sh) (ctx : Ctx) :
    ∃ yl yr : Sh, (yl = .nil ∨ yr = .nil) ∧ (splicePos l z r ctx).1 = spliceSub yl yr ∧
      plug (.node yl (splicePos l z r ctx).2.1 yr) (splicePos l z r ctx).2.2.1 = plug (.node l z r) ctx ∧
      (splicePos l z r ctx).2.1 = spliceIdx l z r ∧
      (((splicePos l z r ctx).2.2.2 = none ∧ (splicePos l z r ctx).2.1 = z ∧ (splicePos l z r ctx).2.2.1 = ctx ∧
          yl = l ∧ yr = r) ∨
        (∃ below zf, (splicePos l z r ctx).2.2.2 = some below.length ∧
          (splicePos l z r ctx).2.2.1 = below ++ zf :: ctx ∧ zf.idx = z)) := by
  cases l with
  | nil => exact ⟨.nil, r, Or.inl rfl, rfl, rfl, rfl, Or.inl ⟨rfl, rfl, rfl, rfl, rfl⟩⟩
  | node a b c =>
    cases r with
    | nil => exact ⟨.node a b c, .nil, Or.inr rfl, rfl, rfl, rfl, Or.inl ⟨rfl, rfl, rfl, rfl, rfl⟩⟩
    | node rl m rr =>
      obtain ⟨h1, h2, below, h3⟩ := leftmostZ_spec rl m rr (.R (.node a b c) z :: ctx)
      refine ⟨.nil, (leftmostZ rl m rr (.R (.node a b c) z :: ctx)).2.1, Or.inl rfl, rfl, h2, h1,
        Or.inr ⟨below, .R (.node a b c) z, ?_, h3, rfl⟩⟩
      show some ((leftmostZ rl m rr (.R (.node a b c) z :: ctx)).2.2.length - (ctx.length + 1)) = _
      rw [h3]; simp

theorem vsDelete_wIA : ∀ a ∈ wIA Gen.IL.vsDelete.body, a = "tree_nodes" := by decide
theorem vsDelete_wFA : ∀ a ∈ wFA Gen.IL.vsDelete.body, a = "tree_vals" := by decide
theorem vsDelete_wSh : wSh Gen.IL.vsDelete.body = [] := by decide

/-- **`_delete_from_tree` refines the pass-form model**.  The key is in the tree, found at `(l, z, r, ctx)`; the tree is
    not the single node `z` (the status structure always holds its dummy root); the NIL row is black and every colour
    cell of the tree is `RB_RED` or `RB_BLACK`.  `ret0` = the new root, `ret1` = `y`, the freed row (`return root, deleted`;
    the sweep pushes it back on `idle`). -/
theorem vsDelete_refines (s : State F) (fuel n : Nat) (hv : VS s n) (hrun : s.ctl = .run) (sh : Sh)
    (hL : Linked (s.ia "tree_nodes") n (-1) sh) (hN : sh.idxs.Nodup) (hroot : s.ienv "root" = sh.ptr)
    (l : Sh) (z : Nat) (r : Sh) (ctx : Ctx)
    (hfind : findZ (s.fa "tree_vals") ⟨s.fenv "key"⟩ sh [] = some (l, z, r, ctx))
    (hbig : ¬ (l = .nil ∧ r = .nil ∧ ctx = []))
    (hnil : nAt (s.ia "tree_nodes") (n - 1) 0 = 1) (hcol : ∀ j ∈ sh.idxs, ColV (nAt (s.ia "tree_nodes") j 0))
    (hf : sh.height + 2 ≤ fuel) :
    let q := Gen.IL.vsDelete.run s fuel
    let P := splicePos l z r ctx
    let S : Fv F := vAt (s.fa "tree_vals") (n - 1) 7
    let t1 := delPassArr (s.fa "tree_vals") (s.ia "tree_nodes") n P.1 P.2.1 P.2.2.1 P.2.2.2
    q.ctl = .ret ∧ VS q n ∧ ∃ sh' : Sh, Linked (q.ia "tree_nodes") n (-1) sh' ∧ sh'.idxs.Nodup ∧
      (P.2.1 :: sh'.idxs).Perm sh.idxs ∧
      absT (q.fa "tree_vals") (q.ia "tree_nodes") sh' =
        (if nAt (s.ia "tree_nodes") P.2.1 0 = 1 ∧ P.1.ptr ≠ -1 then rbDelFix S (P.2.2.1.map Fr.dir) t1 else t1) ∧
      q.ienv "ret0" = sh'.ptr ∧ q.ienv "ret1" = P.2.1 ∧ vAt (q.fa "tree_vals") (n - 1) 7 = S ∧
      nAt (q.ia "tree_nodes") (n - 1) 0 = 1 ∧ (∀ j ∈ sh'.idxs, ColV (nAt (q.ia "tree_nodes") j 0)) ∧
      (∀ a, a ≠ "tree_nodes" → q.ia a = s.ia a) ∧ (∀ a, a ≠ "tree_vals" → q.fa a = s.fa a) ∧ q.shp = s.shp := by
  intro q P S t1
  obtain ⟨hp, hplug, _, _⟩ := findZ_some _ _ sh [] l z r ctx hfind
  simp only [plug] at hplug
  obtain ⟨sD, d1, hD0, d3, d4, d6, d7⟩ := vsDelete_descent_refines s fuel n sh ⟨hv, hrun, hL, hN, hroot⟩ l z r ctx hfind
    (by omega)
  obtain ⟨yl, yr, hone, p1, p2, p3, p4⟩ := splicePos_spec l z r ctx
  have hfr := exec_frame fuel Gen.IL.vsDelete.body s
  generalize hxsh : P.1 = xsh at p1
  generalize hyv : P.2.1 = y at p2 p3 p4
  generalize hcyv : P.2.2.1 = cy at p2 p4
  generalize hjzv : P.2.2.2 = jz at p4
  have hpl : plug (.node yl y yr) cy = sh := by rw [p2, hplug]
  have hD : TreeAt "root" sD n (plug (.node yl y yr) cy) := hpl ▸ hD0
  have hlen : cy.length + 1 ≤ sh.height := by
    have := plug_height cy (.node yl y yr)
    rw [hpl] at this; simp only [Sh.height] at this; omega
  have hspec := delRest_spec fuel n sD cy yl y yr xsh p1 hD (by rw [d7, p3]) (by
      intro hc
      rcases p4 with ⟨_, _, e3, e4, e5⟩ | ⟨below, zf, _, e2, _⟩
      · rw [p1, e4, e5]
        intro hx
        apply hbig
        rw [hc] at e3
        cases l with
        | nil => exact ⟨rfl, hx, e3.symm⟩
        | node a b c => simp [spliceSub] at hx
      · rw [hc] at e2; simp at e2)
    (by rw [d3]; exact hnil) (by rw [d3, hpl]; exact hcol) jz (by
      rcases p4 with ⟨e1, e2, _, _, _⟩ | ⟨below, zf, e1, e2, e3⟩
      · exact Or.inl ⟨e1, by rw [d6, e2]⟩
      · refine Or.inr ⟨below, zf, ctx, e1, e2, by rw [d6, e3], fun e => ?_⟩
        -- `y` is no ancestor of itself
        refine hD.pos.disj (i := y) (by simp [Sh.idxs]) ?_
        rw [e2, ctxIdxs_append, ctxIdxs_cons, ← e]
        simp) (by omega)
  rw [← d1] at hspec
  rw [d3, d4] at hspec
  obtain ⟨c1, c2, sh', c3, c4, c5, c6, c7, c8, c9, c10⟩ := hspec
  have hperm : (y :: sh'.idxs).Perm sh.idxs := by rw [c4, ← hpl, p1]; exact splice_perm cy yl y yr hone
  subst hxsh hyv hcyv hjzv
  exact ⟨c1, c2, sh', c3, (List.nodup_cons.mp (hperm.nodup_iff.mpr hN)).2, hperm, c5, c6, c7, c8, c9, c10,
    fun a ha => hfr.ia a (fun hmem => ha (vsDelete_wIA a hmem)),
    fun a ha => hfr.fa a (fun hmem => ha (vsDelete_wFA a hmem)), by
      funext a
      exact hfr.shp a (by rw [vsDelete_wSh]; simp)⟩

theorem findZ_abs (V : List F) (N : List Int) (K : Fv F) : ∀ (sh : Sh) (c : Ctx) (l : Sh) (z : Nat) (r : Sh) (c' : Ctx),
    findZ V K sh c = some (l, z, r, c') →
    findTZ K (absT V N sh) (absCtx V N c) =
      some (absT V N l, nodeAt V z, vAt V z 7, decide (nAt N z 0 = 0), absT V N r, absCtx V N c') := by
  intro sh
  induction sh with
  | nil => intro c l z r c' h; simp [findZ] at h
  | node sl j sr ihl ihr =>
    intro c l z r c' h
    simp only [findZ] at h
    simp only [absT, findTZ]
    by_cases h1 : K < vAt V j 0
    · rw [if_pos h1] at h
      rw [if_pos (show K < (nodeAt V j).key from h1)]
      exact ihl _ _ _ _ _ h
    · rw [if_neg h1] at h
      rw [if_neg (show ¬ K < (nodeAt V j).key from h1)]
      by_cases h2 : vAt V j 0 < K
      · rw [if_pos h2] at h
        rw [if_pos (show (nodeAt V j).key < K from h2)]
        exact ihr _ _ _ _ _ h
      · rw [if_neg h2] at h
        rw [if_neg (show ¬ (nodeAt V j).key < K from h2)]
        simp only [Option.some.injEq, Prod.mk.injEq] at h
        obtain ⟨rfl, rfl, rfl, rfl⟩ := h
        rfl

theorem leftmostZ_abs (V : List F) (N : List Int) : ∀ (rl : Sh) (m : Nat) (rr : Sh) (acc : Ctx),
    leftmostTZ (absT V N rl) (nodeAt V m) (vAt V m 7) (decide (nAt N m 0 = 0)) (absT V N rr) (absCtx V N acc) =
      (nodeAt V (leftmostZ rl m rr acc).1, decide (nAt N (leftmostZ rl m rr acc).1 0 = 0),
        absT V N (leftmostZ rl m rr acc).2.1, absCtx V N (leftmostZ rl m rr acc).2.2) := by
  intro rl
  induction rl with
  | nil => intro m rr acc; rfl
  | node a b c iha _ =>
    intro m rr acc
    exact iha b c (.L m rr :: acc)

theorem splicePos_abs (V : List F) (N : List Int) (l : Sh) (z : Nat) (r : Sh) (ctx : Ctx) :
    splicePosT (absT V N l) (nodeAt V z) (vAt V z 7) (decide (nAt N z 0 = 0)) (absT V N r) (absCtx V N ctx) =
      (absT V N (splicePos l z r ctx).1, nodeAt V (splicePos l z r ctx).2.1,
        decide (nAt N (splicePos l z r ctx).2.1 0 = 0), absCtx V N (splicePos l z r ctx).2.2.1,
        (splicePos l z r ctx).2.2.2) := by
  cases l with
  | nil => rfl
  | node a b c =>
    cases r with
    | nil => rfl
    | node rl m rr =>
      simp only [splicePos, splicePosT, absT]
      have h' : leftmostTZ (absT V N rl) (nodeAt V m) (vAt V m 7) (decide (nAt N m 0 = 0)) (absT V N rr)
          (TFr.R (Tree.node (absT V N a) (nodeAt V b) (vAt V b 7) (decide (nAt N b 0 = 0)) (absT V N c)) (nodeAt V z)
            (vAt V z 7) (decide (nAt N z 0 = 0)) :: absCtx V N ctx) = _ := leftmostZ_abs V N rl m rr (.R (.node a b c) z :: ctx)
      rw [h']
      simp only [absCtx_length]
      rfl

theorem isNilT_absT (V : List F) (N : List Int) (sh : Sh) : isNil (absT V N sh) = decide (sh.ptr = -1) := by
  cases sh with
  | nil => rfl
  | node a b c =>
    simp only [absT, isNil, Sh.ptr]
    exact (decide_eq_false (by omega)).symm

/-- **`_delete_from_tree` refines `rbDeleteP`**: the arrays afterwards hold the value of the code-form deletion of the
    key from the tree the arrays held -/
theorem vsDelete_refines_tree (s : State F) (fuel n : Nat) (hv : VS s n) (hrun : s.ctl = .run) (sh : Sh)
    (hL : Linked (s.ia "tree_nodes") n (-1) sh) (hN : sh.idxs.Nodup) (hroot : s.ienv "root" = sh.ptr)
    (l : Sh) (z : Nat) (r : Sh) (ctx : Ctx)
    (hfind : findZ (s.fa "tree_vals") ⟨s.fenv "key"⟩ sh [] = some (l, z, r, ctx))
    (hbig : ¬ (l = .nil ∧ r = .nil ∧ ctx = []))
    (hnil : nAt (s.ia "tree_nodes") (n - 1) 0 = 1) (hcol : ∀ j ∈ sh.idxs, ColV (nAt (s.ia "tree_nodes") j 0))
    (hf : sh.height + 2 ≤ fuel) :
    let q := Gen.IL.vsDelete.run s fuel
    let S : Fv F := vAt (s.fa "tree_vals") (n - 1) 7
    q.ctl = .ret ∧ VS q n ∧ ∃ sh' : Sh, Linked (q.ia "tree_nodes") n (-1) sh' ∧ sh'.idxs.Nodup ∧
      ((splicePos l z r ctx).2.1 :: sh'.idxs).Perm sh.idxs ∧
      rbDeleteP feq S ⟨s.fenv "key"⟩ (absT (s.fa "tree_vals") (s.ia "tree_nodes") sh) =
        some (absT (q.fa "tree_vals") (q.ia "tree_nodes") sh') ∧
      q.ienv "ret0" = sh'.ptr ∧ q.ienv "ret1" = (splicePos l z r ctx).2.1 ∧ vAt (q.fa "tree_vals") (n - 1) 7 = S ∧
      nAt (q.ia "tree_nodes") (n - 1) 0 = 1 ∧ (∀ j ∈ sh'.idxs, ColV (nAt (q.ia "tree_nodes") j 0)) ∧
      (∀ a, a ≠ "tree_nodes" → q.ia a = s.ia a) ∧ (∀ a, a ≠ "tree_vals" → q.fa a = s.fa a) ∧ q.shp = s.shp := by
  intro q S
  obtain ⟨c1, c2, sh', c3, c4, c5, c6, c7, c8, c9, c10, c11, c12, c13, c14⟩ :=
    vsDelete_refines s fuel n hv hrun sh hL hN hroot l z r ctx hfind hbig hnil hcol hf
  refine ⟨c1, c2, sh', c3, c4, c5, ?_, c7, c8, c9, c10, c11, c12, c13, c14⟩
  have hft := findZ_abs (s.fa "tree_vals") (s.ia "tree_nodes") ⟨s.fenv "key"⟩ sh [] l z r ctx hfind
  have hctx0 : absCtx (s.fa "tree_vals") (s.ia "tree_nodes") [] = [] := rfl
  rw [hctx0] at hft
  -- `y` is a row of the tree: its colour cell is sane
  obtain ⟨yl, yr, _, _, p2, _, _⟩ := splicePos_spec l z r ctx
  obtain ⟨_, hplug, _, _⟩ := findZ_some _ _ sh [] l z r ctx hfind
  simp only [plug] at hplug
  have hymem : (splicePos l z r ctx).2.1 ∈ sh.idxs := by
    rw [← hplug, ← p2]; exact mem_plug _ _ _ (by simp [Sh.idxs])
  have hyc := hcol _ hymem
  rw [c6]
  unfold rbDeleteP
  rw [hft]
  simp only [Option.map_some, splicePos_abs, rbDeleteAt, map_dir_absCtx, isNilT_absT, delPassArr]
  congr 1
  by_cases hc : nAt (s.ia "tree_nodes") (splicePos l z r ctx).2.1 0 = 1 ∧ (splicePos l z r ctx).1.ptr ≠ -1
  · have h0 : ¬ nAt (s.ia "tree_nodes") (splicePos l z r ctx).2.1 0 = 0 := by rw [hc.1]; decide
    rw [if_pos hc, if_pos (by simp [h0, hc.2])]
  · rw [if_neg hc, if_neg]
    intro hh
    simp only [Bool.and_eq_true, Bool.not_eq_true', decide_eq_false_iff_not] at hh
    exact hc ⟨(colV_black hyc).mpr hh.1, hh.2⟩

end XrsVerif.ILVs
