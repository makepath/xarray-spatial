import XrsVerif.Proofs.ILang
import XrsVerif.Model.Regions
import XrsVerif.Gen.IL
/-
  Proofs/ILRegionsDefs.lean -- the generated program `Gen.IL.areaConnectivity` (`zonal._area_connectivity`, layer T3)
  cut into named blocks; `body_eq` (by `rfl`, i.e. syntactically) says the generated body *is* this composition, so
  every lemma about a block is a lemma about the generated program and any source edit breaks `body_eq`.

  The window-gathering block is not copied: it is *computed* from the model's window lists
  (`Regions.window8 / window4`, `Regions.D`): `gatherW w` stores, for the k-th offset pair `(dy, dx)` of `w`,
  `data[cy dy, cx dx]` into `src_window[k]` and then `out[cy dy, cx dx]` into `area_window[k]` where
  `cy .m = max(y - 1, 0)`, `cy .z = y`, `cy .p = min(y + 1, rows - 1)` (same for x / cols).
-/
namespace XrsVerif.IL.Rg
open XrsVerif XrsVerif.IL XrsVerif.Regions
open XrsVerif.ILVs (seqL)

/-- `max(v - 1, 0)` -/
def cm (v : String) : IE := .bin .max (.bin .sub (.var v) (.lit 1)) (.lit 0)
/-- `min(v + 1, lim - 1)` -/
def cp (v lim : String) : IE := .bin .min (.bin .add (.var v) (.lit 1)) (.bin .sub (.var lim) (.lit 1))

def cidx (v lim : String) : D → IE
  | .m => cm v
  | .z => .var v
  | .p => cp v lim

/-- `dst[k + i] = src[cy dy_i, cx dx_i]` for the offsets of `w` -/
def stores (dst src : String) : List (D × D) → Nat → List St
  | [], _ => []
  | d :: w, k => .stF1 dst (.lit k) (.ld2 src (cidx "y" "rows" d.1) (cidx "x" "cols" d.2)) :: stores dst src w (k + 1)

def gatherW (w : List (D × D)) : St :=
  seqL (stores "src_window" "data" w 0 ++ stores "area_window" "out" w 0)

def gather : St := .ite (.cmpI .eq (.var "n") (.lit 8)) (gatherW window8) (gatherW window4)

/-- `|a - val| <= atol + rtol * |val|` with `a = src_window[k]` -/
def closeBE (k : String) : BE :=
  .cmpF .le (.un .abs (.bin .sub (.ld1 "src_window" (.var k)) (.var "val")))
    (.bin .add (.var "atol") (.bin .mul (.var "rtol") (.un .abs (.var "val"))))

def closeBody (ek : String) : St :=
  .ite (closeBE ek) (.stI1 "is_close" (.var ek) (.lit 1)) (.stI1 "is_close" (.var ek) (.lit 0))

def closeLoop (ek : String) : St :=
  .forRange ek (.lit 0) (.dim "src_window" 0) (.lit 1) (closeBody ek)

/-- `neighbor_matches = np.where(is_close)[0]` as the translator expands it (after the allocation) -/
def whereBody (wn wk : String) : St :=
  .ite (.cmpI .ne (.ld1 "is_close" (.var wk)) (.lit 0))
    (.seq (.stI1 "neighbor_matches" (.var wn) (.var wk))
    (.setI wn (.bin .add (.var wn) (.lit 1))))
    .skip

def whereLoop (wn wk : String) : St :=
  .forRange wk (.lit 0) (.dim "is_close" 0) (.lit 1) (whereBody wn wk)

/-- tolerances, closeness mask, `np.where`; then `rest` -/
def matchThen (ek wn wk : String) (rest : St) : St :=
  .seq (.setF "rtol" (.lit 1 100000))
  (.seq (.setF "atol" (.lit 1 100000000))
  (.seq (.allocI "is_close" [(.dim "src_window" 0)] (.lit 0))
  (.seq (closeLoop ek)
  (.seq (.allocI "neighbor_matches" [(.sum "is_close")] (.lit 0))
  (.seq (.setI wn (.lit 0))
  (.seq (whereLoop wn wk)
  rest))))))

def freshUid : St :=
  .seq (.stF2 "out" (.var "y") (.var "x") (.ofInt (.var "uid")))
  (.setI "uid" (.bin .add (.var "uid") (.lit 1)))

/-- the search for the first matching window cell that already has a label (`area_val > 0`) -/
def findBody : St :=
  .seq (.setF "area_val" (.ld1 "area_window" (.ld1 "neighbor_matches" (.var "j"))))
  (.ite (.cmpF .gt (.var "area_val") (.ofInt (.lit 0)))
    (.seq (.setF "assigned_value" (.var "area_val"))
    (.seq (.setB "assigned_value$some" .tt)
    .brk))
    .skip)

def findLoop : St :=
  .forRange "j" (.lit 0) (.dim "neighbor_matches" 0) (.lit 1) findBody

def assign1 : St :=
  .ite (.cmpI .gt (.dim "neighbor_matches" 0) (.lit 0))
    (.seq (.setB "assigned_value$some" .ff)
    (.seq findLoop
    (.ite (.var "assigned_value$some")
      (.stF2 "out" (.var "y") (.var "x") (.var "assigned_value"))
      freshUid)))
    freshUid

def cell1 : St :=
  .seq (.setF "val" (.ld2 "data" (.var "y") (.var "x")))
  (.seq (.ite (.isnan (.var "val"))
    (.seq (.stF2 "out" (.var "y") (.var "x") (.var "val")) .cont)
    .skip)
  (.seq gather
  (matchThen "elem1$k" "where2$n" "where2$k" assign1)))

/-- `out[out == a] = b` as written in the source: two nested loops over the raster -/
def relabelBody (a b : String) : St :=
  .ite (.cmpF .eq (.ld2 "out" (.var "y1") (.var "x1")) (.var a))
    (.stF2 "out" (.var "y1") (.var "x1") (.var b))
    .skip

def relabelRow (a b : String) : St :=
  .forRange "x1" (.lit 0) (.var "cols") (.lit 1) (relabelBody a b)

def relabel (a b : String) : St :=
  .forRange "y1" (.lit 0) (.var "rows") (.lit 1) (relabelRow a b)

def setMin : St :=
  .seq (.setF "assigned_values_min" (.var "area_val"))
  (.setB "assigned_values_min$some" .tt)

def mergeBody : St :=
  .seq (.setF "area_val" (.ld1 "area_window" (.ld1 "neighbor_matches" (.var "j"))))
  (.seq (.setB "nn" (.var "assigned_values_min$some"))
  (.ite (.and (.var "nn") (.cmpF .ne (.var "assigned_values_min") (.var "area_val")))
    (.ite (.cmpF .gt (.var "assigned_values_min") (.var "area_val"))
      (.seq (relabel "assigned_values_min" "area_val") setMin)
      (relabel "area_val" "assigned_values_min"))
    (.ite (.not (.var "assigned_values_min$some")) setMin .skip)))

def merge : St :=
  .seq (.setB "assigned_values_min$some" .ff)
  (.forRange "j" (.lit 0) (.dim "neighbor_matches" 0) (.lit 1) mergeBody)

def cell2 : St :=
  .seq gather
  (.seq (.setF "val" (.ld2 "data" (.var "y") (.var "x")))
  (.seq (.ite (.isnan (.var "val")) .cont .skip)
  (matchThen "elem3$k" "where4$n" "where4$k" merge)))

def passRow (cell : St) : St := .forRange "x" (.lit 0) (.var "cols") (.lit 1) cell

def pass (cell : St) : St := .forRange "y" (.lit 0) (.var "rows") (.lit 1) (passRow cell)

def init : List St :=
  [.allocF "out" [(.dim "data" 0), (.dim "data" 1)] (.lit 0 1),
   .setI "rows" (.dim "data" 0),
   .setI "cols" (.dim "data" 1),
   .setI "uid" (.lit 1),
   .allocF "src_window" [(.var "n")] (.lit 0 1),
   .allocF "area_window" [(.var "n")] (.lit 0 1)]

theorem body_eq : Gen.IL.areaConnectivity.body = seqL (init ++ [pass cell1, pass cell2, .ret]) := by
  rfl

end XrsVerif.IL.Rg
