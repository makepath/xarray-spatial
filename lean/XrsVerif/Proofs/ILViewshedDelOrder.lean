import XrsVerif.Proofs.ILViewshedDelRefines
import XrsVerif.Proofs.ILViewshedDelModel
import XrsVerif.Proofs.ILViewshedOrder
/-
  The code-form deletion `rbDeleteP` commutes with the embedding of a tree over a linearly ordered field `K` into the
  ILang value domain `NV K` (`rbDeleteP_emb`); hence the generated `_delete_from_tree`, run at `NV K` on arrays holding
  the image of a tree `t0`, leaves the image of the hand model's `rbDelete S k t0` -- `delCore` followed by the colour
  fix-up -- (`vsDelete_model`).
-/
set_option linter.unusedSectionVars false
namespace XrsVerif.ILVs
open XrsVerif XrsVerif.IL XrsVerif.Viewshed

section field
variable {K : Type} [Field K] [LinearOrder K] [IsStrictOrderedRing K] [Trig K]

def mapFr : TFr K → TFr (Fv (NV K))
  | .L n mx c r => .L (mapN emb n) (emb mx) c (mapT emb r)
  | .R l n mx c => .R (mapT emb l) (mapN emb n) (emb mx) c

theorem feq_emb (a b : K) : feq (emb a) (emb b) = eqv a b := by
  show Fl.eq (some a : NV K) (some b) = _
  by_cases h : a = b
  · subst h; simp [eqv]
  · have : eqv a b = false := by
      rw [Bool.eq_false_iff]; exact fun h' => h ((eqv_iff _ _).mp h')
    rw [this]; simp [h]

theorem mapFr_mx (f : TFr K) : (mapFr f).mx = emb f.mx := by cases f <;> rfl
theorem mapFr_nd (f : TFr K) : (mapFr f).nd = mapN emb f.nd := by cases f <;> rfl
theorem mapFr_setMx (f : TFr K) (a : K) : (mapFr f).setMx (emb a) = mapFr (f.setMx a) := by cases f <;> rfl
theorem mapFr_setNd (f : TFr K) (n : Viewshed.Node K) : (mapFr f).setNd (mapN emb n) = mapFr (f.setNd n) := by cases f <;> rfl
theorem mapFr_kids (S cm : K) (f : TFr K) :
    (mapFr f).kids (emb S) (emb cm) = (emb (f.kids S cm).1, emb (f.kids S cm).2) := by
  cases f <;> simp only [mapFr, TFr.kids, mxOf_emb]
theorem mapFr_recompL (S cm : K) (f : TFr K) : (mapFr f).recompL (emb S) (emb cm) = emb (f.recompL S cm) := by
  simp only [TFr.recompL, mapFr_kids, mapFr_nd, minv_emb, mx2_emb]
theorem mapFr_recompF (S cm : K) (f : TFr K) : (mapFr f).recompF (emb S) (emb cm) = emb (f.recompF S cm) := by
  simp only [TFr.recompF, mapFr_kids, mapFr_nd, minv_emb, mx2_emb]

theorem map_dir_mapFr (fs : List (TFr K)) : (fs.map mapFr).map TFr.dir = fs.map TFr.dir := by
  rw [List.map_map]; exact List.map_congr_left (fun f _ => by cases f <;> rfl)

theorem plugT_emb : ∀ (fs : List (TFr K)) (t : Viewshed.Tree K), plugT (mapT emb t) (fs.map mapFr) = mapT emb (plugT t fs) := by
  intro fs
  induction fs with
  | nil => intro t; rfl
  | cons f rest ih =>
    intro t
    cases f with
    | L n mx c r => exact ih (.node t n mx c r)
    | R l n mx c => exact ih (.node l n mx c t)

theorem isNilT_emb (t : Viewshed.Tree K) : isNil (mapT emb t) = isNil t := by cases t <;> rfl

theorem scanT_emb (step' : Fv (NV K) → TFr (Fv (NV K)) → Option (Fv (NV K))) (step : K → TFr K → Option K)
    (h : ∀ cm fr, step' (emb cm) (mapFr fr) = (step cm fr).map emb) : ∀ (fs : List (TFr K)) (cm : K),
    scanT step' (emb cm) (fs.map mapFr) = (scanT step cm fs).map mapFr := by
  intro fs
  induction fs with
  | nil => intro cm; rfl
  | cons f rest ih =>
    intro cm
    simp only [List.map_cons, scanT, h]
    cases hs : step cm f with
    | none => rfl
    | some m => simp only [Option.map_some, List.map_cons, mapFr_setMx, ih]

theorem l1Step_emb (S yv cm : K) (fr : TFr K) :
    l1Step feq (emb S) (emb yv) (emb cm) (mapFr fr) = (l1Step eqv S yv cm fr).map emb := by
  simp only [l1Step, mapFr_mx, feq_emb, mapFr_recompL]
  split <;> rfl

theorem l2Step_emb (S zg xpr cm : K) (fr : TFr K) :
    l2Step feq (emb S) (emb zg) (emb xpr) (emb cm) (mapFr fr) = (l2Step eqv S zg xpr cm fr).map emb := by
  simp only [l2Step, mapFr_mx, mapFr_nd, minv_emb, mapFr_kids, feq_emb, mapFr_recompL, emb_lt, Option.map_some]
  congr 1
  split
  · split <;> rfl
  · split <;> rfl

theorem cl2T_emb (S : K) (yn : Viewshed.Node K) (xpr : K) : ∀ (j : Nat) (cm : K) (fs : List (TFr K)),
    cl2T feq (emb S) (mapN emb yn) (emb xpr) j (emb cm) (fs.map mapFr) = (cl2T eqv S yn xpr j cm fs).map mapFr := by
  intro j
  induction j with
  | zero =>
    intro cm fs
    cases fs with
    | nil => rfl
    | cons zf above =>
      simp only [List.map_cons, cl2T, mapFr_setNd, mapFr_recompF, mapFr_setMx, mapFr_nd, minv_emb]
      rw [scanT_emb _ _ (fun cm fr => l2Step_emb S (minv zf.nd) xpr cm fr)]
  | succ j ih =>
    intro cm fs
    cases fs with
    | nil => rfl
    | cons fr rest => simp only [List.map_cons, cl2T, mapFr_mx, ih]

theorem xprOf_emb (S : K) (xT : Viewshed.Tree K) (fs : List (TFr K)) :
    xprOf (emb S) (mapT emb xT) (fs.map mapFr) = emb (xprOf S xT fs) := by
  cases fs with
  | nil => rfl
  | cons f rest => cases f <;> simp only [List.map_cons, mapFr, xprOf, mxOf_emb]

theorem refresh_emb (S : K) (t : Viewshed.Tree K) : refresh (emb S) (mapT emb t) = mapT emb (refresh S t) := by
  cases t with
  | nil => rfl
  | node l n mx c r => simp only [mapT, refresh, recomp, mxOf_emb, minv_emb, mx2_emb]

theorem l1f1T_emb (S : K) (xT : Viewshed.Tree K) (yn : Viewshed.Node K) (fs : List (TFr K)) :
    l1f1T feq (emb S) (mapT emb xT) (mapN emb yn) (fs.map mapFr) =
      (mapT emb (l1f1T eqv S xT yn fs).1, (l1f1T eqv S xT yn fs).2.map mapFr) := by
  simp only [l1f1T, minv_emb, mxOf_emb]
  rw [scanT_emb _ _ (fun cm fr => l1Step_emb S (minv yn) cm fr)]
  cases scanT (l1Step eqv S (minv yn)) (mxOf S xT) fs with
  | nil => simp only [List.map_nil, refresh_emb]
  | cons f rest => simp only [List.map_cons, mapFr_recompF, mapFr_setMx]

theorem delPassT_emb (S : K) (xT : Viewshed.Tree K) (yn : Viewshed.Node K) (fs : List (TFr K)) (jz : Option Nat) :
    delPassT feq (emb S) (mapT emb xT) (mapN emb yn) (fs.map mapFr) jz =
      (mapT emb (delPassT eqv S xT yn fs jz).1, (delPassT eqv S xT yn fs jz).2.map mapFr) := by
  cases jz with
  | none => exact l1f1T_emb S xT yn fs
  | some j =>
    simp only [delPassT, l1f1T_emb, xprOf_emb, mxOf_emb, cl2T_emb]

theorem dfB_emb (S : K) (dx : Dir) (c1 : Bool) (rq1 : List Dir)
    (k' : Viewshed.Tree (Fv (NV K)) → Viewshed.Tree (Fv (NV K)) × List Dir) (k : Viewshed.Tree K → Viewshed.Tree K × List Dir)
    (hk : ∀ u, k' (mapT emb u) = (mapT emb (k u).1, (k u).2)) (t1 : Viewshed.Tree K) :
    dfB (emb S) dx c1 rq1 k' (mapT emb t1) = (mapT emb (dfB S dx c1 rq1 k t1).1, (dfB S dx c1 rq1 k t1).2) := by
  have hc := fun (c : Bool) (p : List Dir) (u : Viewshed.Tree K) => atPath_emb _ _ (setCol_emb c) p u
  have hr := fun (d : Dir) (p : List Dir) (u : Viewshed.Tree K) => atPath_emb _ _ (rotD_emb S d) p u
  simp only [dfB, subAt_emb]
  cases hw : subAt (rq1.reverse ++ [dx.flip]) t1 with
  | nil =>
    simp only [mapT]
    cases c1 <;> simp [hk]
  | node wl wn wm wc wr =>
    simp only [mapT]
    cases dx <;> simp only [isRed_emb] <;> split
    · cases c1 <;> simp [hk, hc]
    · split <;> simp only [hc, hr, subAt_emb, isRed_emb]
    · cases c1 <;> simp [hk, hc]
    · split <;> simp only [hc, hr, subAt_emb, isRed_emb]

theorem delFixP_emb (S : K) : ∀ (rp : List Dir) (t : Viewshed.Tree K),
    delFixP (emb S) rp (mapT emb t) = (mapT emb (delFixP S rp t).1, (delFixP S rp t).2) := by
  intro rp
  induction rp with
  | nil => intro t; simp [delFixP]
  | cons dx rq ih =>
    intro t
    have hc := fun (c : Bool) (p : List Dir) (u : Viewshed.Tree K) => atPath_emb _ _ (setCol_emb c) p u
    have hr := fun (d : Dir) (p : List Dir) (u : Viewshed.Tree K) => atPath_emb _ _ (rotD_emb S d) p u
    simp only [delFixP, subAt_emb, isRed_emb]
    split
    · rfl
    · split
      · rw [hc, hc, hr]
        exact dfB_emb S dx true (dx :: rq) _ _ ih _
      · exact dfB_emb S dx false rq _ _ ih _

theorem rbDelFix_emb (S : K) (rp : List Dir) (t : Viewshed.Tree K) :
    rbDelFix (emb S) rp (mapT emb t) = mapT emb (rbDelFix S rp t) := by
  unfold rbDelFix
  rw [delFixP_emb]
  exact atPath_emb _ _ (setCol_emb false) _ _

theorem findTZ_emb (k : K) : ∀ (t : Viewshed.Tree K) (acc : List (TFr K)),
    findTZ (emb k) (mapT emb t) (acc.map mapFr) =
      (findTZ k t acc).map fun p =>
        (mapT emb p.1, mapN emb p.2.1, emb p.2.2.1, p.2.2.2.1, mapT emb p.2.2.2.2.1, p.2.2.2.2.2.map mapFr) := by
  intro t
  induction t with
  | nil => intro acc; rfl
  | node l n mx c r ihl ihr =>
    intro acc
    have hk1 : (emb k < (mapN emb n).key) ↔ k < n.key := by simp only [mapN, emb_lt]
    have hk2 : ((mapN emb n).key < emb k) ↔ n.key < k := by simp only [mapN, emb_lt]
    simp only [mapT, findTZ, hk1, hk2]
    split
    · exact ihl (.L n mx c r :: acc)
    · split
      · exact ihr (.R l n mx c :: acc)
      · rfl

theorem leftmostTZ_emb : ∀ (rl : Viewshed.Tree K) (m : Viewshed.Node K) (mm : K) (mc : Bool) (rr : Viewshed.Tree K)
    (acc : List (TFr K)),
    leftmostTZ (mapT emb rl) (mapN emb m) (emb mm) mc (mapT emb rr) (acc.map mapFr) =
      (mapN emb (leftmostTZ rl m mm mc rr acc).1, (leftmostTZ rl m mm mc rr acc).2.1,
        mapT emb (leftmostTZ rl m mm mc rr acc).2.2.1, (leftmostTZ rl m mm mc rr acc).2.2.2.map mapFr) := by
  intro rl
  induction rl with
  | nil => intro m mm mc rr acc; rfl
  | node a b bm bc cc iha _ =>
    intro m mm mc rr acc
    exact iha b bm bc cc (.L m mm mc rr :: acc)

theorem splicePosT_emb (l : Viewshed.Tree K) (n : Viewshed.Node K) (mx : K) (c : Bool) (r : Viewshed.Tree K)
    (acc : List (TFr K)) :
    splicePosT (mapT emb l) (mapN emb n) (emb mx) c (mapT emb r) (acc.map mapFr) =
      (mapT emb (splicePosT l n mx c r acc).1, mapN emb (splicePosT l n mx c r acc).2.1,
        (splicePosT l n mx c r acc).2.2.1, (splicePosT l n mx c r acc).2.2.2.1.map mapFr,
        (splicePosT l n mx c r acc).2.2.2.2) := by
  cases l with
  | nil => rfl
  | node a b bm bc cc =>
    cases r with
    | nil => rfl
    | node rl m mm mc rr =>
      simp only [mapT, splicePosT]
      have h' : leftmostTZ (mapT emb rl) (mapN emb m) (emb mm) mc (mapT emb rr)
          (TFr.R (Viewshed.Tree.node (mapT emb a) (mapN emb b) (emb bm) bc (mapT emb cc)) (mapN emb n) (emb mx) c ::
            acc.map mapFr) = _ := leftmostTZ_emb rl m mm mc rr (.R (.node a b bm bc cc) n mx c :: acc)
      rw [h']
      simp only [List.length_map]

/-- **the code-form deletion commutes with the embedding** -/
theorem rbDeleteP_emb (S k : K) (t : Viewshed.Tree K) :
    rbDeleteP feq (emb S) (emb k) (mapT emb t) = (rbDeleteP eqv S k t).map (mapT emb) := by
  unfold rbDeleteP
  have hf := findTZ_emb k t []
  rw [List.map_nil] at hf
  rw [hf]
  cases findTZ k t [] with
  | none => rfl
  | some p =>
    simp only [Option.map_some, splicePosT_emb, rbDeleteAt, delPassT_emb, plugT_emb, isNilT_emb, map_dir_mapFr,
      rbDelFix_emb]
    congr 1
    split <;> rfl

/-- **the generated `_delete_from_tree` computes the hand model's complete deletion** -/
theorem vsDelete_model (s : State (NV K)) (fuel n : Nat) (hv : VS s n) (hrun : s.ctl = .run) (sh : Sh)
    (hL : Linked (s.ia "tree_nodes") n (-1) sh) (hN : sh.idxs.Nodup) (hroot : s.ienv "root" = sh.ptr)
    (l : Sh) (z : Nat) (r : Sh) (ctx : Ctx)
    (hfind : findZ (s.fa "tree_vals") ⟨s.fenv "key"⟩ sh [] = some (l, z, r, ctx))
    (hbig : ¬ (l = .nil ∧ r = .nil ∧ ctx = []))
    (hnil : nAt (s.ia "tree_nodes") (n - 1) 0 = 1) (hcol : ∀ j ∈ sh.idxs, ColV (nAt (s.ia "tree_nodes") j 0))
    (hf : sh.height + 2 ≤ fuel) (S : K) (hS : vAt (s.fa "tree_vals") (n - 1) 7 = emb S)
    (t0 : Viewshed.Tree K) (k : K) (habs : absT (s.fa "tree_vals") (s.ia "tree_nodes") sh = mapT emb t0)
    (hkey : s.fenv "key" = some k) :
    let q := Gen.IL.vsDelete.run s fuel
    q.ctl = .ret ∧ VS q n ∧ ∃ (sh' : Sh) (t1 : Viewshed.Tree K), rbDelete S k t0 = some t1 ∧
      Linked (q.ia "tree_nodes") n (-1) sh' ∧ sh'.idxs.Nodup ∧
      ((splicePos l z r ctx).2.1 :: sh'.idxs).Perm sh.idxs ∧
      absT (q.fa "tree_vals") (q.ia "tree_nodes") sh' = mapT emb t1 ∧
      q.ienv "ret0" = sh'.ptr ∧ q.ienv "ret1" = (splicePos l z r ctx).2.1 ∧ vAt (q.fa "tree_vals") (n - 1) 7 = emb S ∧
      nAt (q.ia "tree_nodes") (n - 1) 0 = 1 ∧ (∀ j ∈ sh'.idxs, ColV (nAt (q.ia "tree_nodes") j 0)) := by
  intro q
  obtain ⟨c1, c2, sh', c3, c4, c5, c6, c7, c8, c9, c10, c11, _⟩ :=
    vsDelete_refines_tree s fuel n hv hrun sh hL hN hroot l z r ctx hfind hbig hnil hcol hf
  have hK : (⟨s.fenv "key"⟩ : Fv (NV K)) = emb k := by rw [hkey]; rfl
  rw [habs, hS, hK, rbDeleteP_emb, rbDeleteP_eq_rbDelete] at c6
  cases hd : rbDelete S k t0 with
  | none => rw [hd] at c6; simp at c6
  | some t1 =>
    rw [hd] at c6
    simp only [Option.map_some, Option.some.injEq] at c6
    exact ⟨c1, c2, sh', t1, rfl, c3, c4, c5, c6.symm, c7, c8, by rw [c9, hS], c10, c11⟩

end field
end XrsVerif.ILVs
