import XrsVerif.Proofs.ILVsInit
import XrsVerif.Proofs.ILVsVang
import XrsVerif.Proofs.NV
/-
  The refinement theorems of the generated event functions at the proof-side number domain
  `NV K` (`none` = NaN): the two laws `LitOK`, `HalfOK` hold there; on NaN-free terrains over ℚ the generated corner
  elevation is `Model/ViewshedEvents.cornerElev` and an event record is the model's `mkEvent`.
-/
namespace XrsVerif.ILSw
open XrsVerif XrsVerif.IL XrsVerif.ViewshedEvents

section NV
variable {K : Type} [Field K] [LinearOrder K] [IsStrictOrderedRing K] [Trig K]

theorem litOK_NV : LitOK (NV K) := by
  intro ty hty
  rcases hty with rfl | rfl | rfl <;> simp
  intro h; have : (-1 : K) < 1 := by linarith [zero_lt_one (α := K)]
  rw [h] at this; exact lt_irrefl _ this

theorem halfF_NV (i o : Int) (ho : o = 1 ∨ o = 0 ∨ o = -1) : (halfF i o : NV K) = some ((2 * (i : K) + (o : K)) / 2) := by
  rcases ho with rfl | rfl | rfl <;> simp [halfF] <;> ring

theorem halfOK_NV : HalfOK (NV K) := by
  intro i o ho
  rw [halfF_NV i o ho]
  rcases ho with rfl | rfl | rfl <;> simp <;> rw [abs_lt] <;> constructor <;> linarith

end NV

section Rat
variable [Trig ℚ]

def embT (T : Int → Int → ℚ) : Int → Int → NV ℚ := fun r c => some (T r c)

theorem cornerElevF_model (T : Int → Int → ℚ) (h w : Nat) (vr vc ty row col : Int) :
    cornerElevF (embT T) h w vr vc ty row col = some (cornerElev T h w vr vc ty row col) := by
  unfold cornerElevF cornerElev
  by_cases hin : 0 ≤ row + (nbOff ty (row - vr) (col - vc)).1 ∧ row + (nbOff ty (row - vr) (col - vc)).1 < (h : Int) ∧
      0 ≤ col + (nbOff ty (row - vr) (col - vc)).2 ∧ col + (nbOff ty (row - vr) (col - vc)).2 < (w : Int)
  · simp only [hin, and_self, if_true]
    simp [cornerVal, embT]
  · simp only [hin, if_false]
    simp [embT]

/-- **the record the generated `_init_event_list` writes for an event is the model's event** `mkEvent`: row, column, type, the
    three elevations; its bearing field is `_calculate_angle` of the model's event point `(x2 / 2, y2 / 2)` -/
theorem evRowF_model (T : Int → Int → ℚ) (h w : Nat) (vr vc i j ty : Int) :
    let e := mkEvent T h w vr vc i j ty
    evRowF (embT T) h w vr vc i j ty =
      [some (e.row : ℚ), some (e.col : ℚ), some (e.ty : ℚ),
        angF (some ((e.x2 : ℚ) / 2)) (some ((e.y2 : ℚ) / 2)) (some (vc : ℚ)) (some (vr : ℚ)),
        some e.e0, some e.e1, some e.e2] := by
  have hm : ((posOff ty (i - vr) (j - vc)).1 = 1 ∨ (posOff ty (i - vr) (j - vc)).1 = 0 ∨ (posOff ty (i - vr) (j - vc)).1 = -1) ∧
      ((posOff ty (i - vr) (j - vc)).2 = 1 ∨ (posOff ty (i - vr) (j - vc)).2 = 0 ∨ (posOff ty (i - vr) (j - vc)).2 = -1) := by
    by_cases h0 : ty = 0
    · subst h0; simp [posOff_centre]
    · rw [posOff_eq_offOf _ _ _ h0]; exact offOf_mem _ _ _
  simp only [evRowF, mkEvent, bearingF, cornerElevF_model, halfF_NV _ _ hm.1, halfF_NV _ _ hm.2]
  simp [embT]
end Rat
end XrsVerif.ILSw
