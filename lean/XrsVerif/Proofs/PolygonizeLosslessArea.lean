import XrsVerif.Proofs.PolygonizeLosslessRing
import Mathlib.Tactic.Ring
/-
  C15, losslessness: discrete Green.  Sums over the pixels of the raster (`sumN`, `gsum`), and `sum_ucross`: round a
  closed list inside the raster the shoelace terms of the unit edges add up to twice the sum of the winding numbers
  of all pixels; with `area2_cycRing` this is `green`.
-/
namespace XrsVerif.Polygonize

def sumN : Nat → (Nat → Int) → Int
  | 0, _ => 0
  | n + 1, g => sumN n g + g n

theorem sumN_congr {n : Nat} {f g : Nat → Int} (h : ∀ i, i < n → f i = g i) : sumN n f = sumN n g := by
  induction n with
  | zero => rfl
  | succ n ih => simp only [sumN]; rw [ih (fun i hi => h i (by omega)), h n (by omega)]

theorem sumN_add (n : Nat) (f g : Nat → Int) : sumN n (fun i => f i + g i) = sumN n f + sumN n g := by
  induction n with
  | zero => rfl
  | succ n ih => simp only [sumN, ih]; omega

theorem sumN_sub (n : Nat) (f g : Nat → Int) : sumN n (fun i => f i - g i) = sumN n f - sumN n g := by
  induction n with
  | zero => rfl
  | succ n ih => simp only [sumN, ih]; omega

theorem sumN_zero (n : Nat) : sumN n (fun _ => 0) = 0 := by
  induction n with
  | zero => rfl
  | succ n ih => simp only [sumN, ih]; rfl

theorem sumN_single (n a : Nat) (v : Int) (ha : a < n) : sumN n (fun i => if i = a then v else 0) = v := by
  induction n with
  | zero => omega
  | succ n ih =>
    simp only [sumN]
    by_cases h : a = n
    · subst h
      rw [sumN_congr (g := fun _ => 0) (fun i hi => by rw [if_neg (by omega)]), sumN_zero]; simp
    · rw [ih (by omega), if_neg (by omega)]; omega

theorem sumN_ge (n a : Nat) (ha : a ≤ n) : sumN n (fun i => if a ≤ i then 1 else 0) = (n : Int) - a := by
  induction n with
  | zero => have : a = 0 := by omega
            subst this; rfl
  | succ n ih =>
    simp only [sumN]
    by_cases h : a = n + 1
    · subst h
      rw [sumN_congr (g := fun _ => 0) (fun i hi => by rw [if_neg (by omega)]), sumN_zero, if_neg (by omega)]
      omega
    · rw [ih (by omega), if_pos (by omega)]; omega

theorem sumN_gt (n a : Nat) (ha : a < n) : sumN n (fun i => if a < i then 1 else 0) = (n : Int) - 1 - a := by
  have := sumN_ge n (a + 1) (by omega)
  rw [sumN_congr (g := fun i => if a + 1 ≤ i then 1 else 0) (fun i _ => by simp only [Nat.succ_le_iff]), this]
  omega

def gsum (nx ny : Nat) (F : Int → Int → Int) : Int :=
  sumN ny (fun y => sumN nx (fun x => F (x : Int) (y : Int)))

theorem gsum_add (nx ny : Nat) (F G : Int → Int → Int) :
    gsum nx ny (fun x y => F x y + G x y) = gsum nx ny F + gsum nx ny G := by
  unfold gsum
  rw [← sumN_add]
  apply sumN_congr
  intro y _
  rw [← sumN_add]

theorem gsum_congr {nx ny : Nat} {F G : Int → Int → Int}
    (h : ∀ X Y : Nat, X < nx → Y < ny → F (X : Int) (Y : Int) = G (X : Int) (Y : Int)) :
    gsum nx ny F = gsum nx ny G := by
  unfold gsum
  apply sumN_congr
  intro y hy
  apply sumN_congr
  intro x hx
  exact h x y hx hy

theorem sumN_and_single (n a : Nat) (P : Nat → Prop) [DecidablePred P] (v : Int) (ha : a < n) :
    sumN n (fun i => if a = i ∧ P i then v else 0) = if P a then v else 0 := by
  by_cases hP : P a
  · rw [if_pos hP, sumN_congr (g := fun i => if i = a then v else 0), sumN_single n a v ha]
    intro i _
    by_cases h : a = i
    · subst h; rw [if_pos ⟨rfl, hP⟩, if_pos rfl]
    · rw [if_neg (fun hh => h hh.1), if_neg (fun hh => h hh.symm)]
  · rw [if_neg hP, sumN_congr (g := fun _ => 0), sumN_zero]
    intro i _; rw [if_neg (fun ⟨e, hi⟩ => hP (e ▸ hi))]

theorem sumN_neg (n : Nat) (f : Nat → Int) : sumN n (fun i => -f i) = -sumN n f := by
  induction n with
  | zero => rfl
  | succ n ih => simp only [sumN, ih]; omega

/-- what a state contributes to `Σ_pixels wcol` -/
def tcol (ny : Nat) (s : FSt) : Int :=
  match s.d with
  | .E => (ny : Int) - s.y
  | .W => -((ny : Int) - 1 - s.y)
  | _ => 0

theorem gsum_wcol_single (nx ny : Nat) (s : FSt) (h : 0 ≤ s.x ∧ s.x < nx ∧ 0 ≤ s.y ∧ s.y < ny) :
    gsum nx ny (wcol [s]) = tcol ny s := by
  obtain ⟨x, y, d⟩ := s
  obtain ⟨h0, h1, h2, h3⟩ := h
  simp only at h0 h1 h2 h3
  obtain ⟨X0, rfl⟩ := Int.eq_ofNat_of_zero_le h0
  obtain ⟨Y0, rfl⟩ := Int.eq_ofNat_of_zero_le h2
  have hX : X0 < nx := by omega
  have hY : Y0 < ny := by omega
  unfold gsum
  cases d
  · -- E
    have e : ∀ x y : Nat, wcol [⟨X0, Y0, .E⟩] x y = if X0 = x ∧ Y0 ≤ y then 1 else 0 := by
      intro x y; simp [wcol, cE, cW, List.countP_cons]
    simp only [e, tcol]
    rw [sumN_congr (g := fun y => if Y0 ≤ y then 1 else 0) (fun y _ => sumN_and_single nx X0 _ 1 hX),
      sumN_ge ny Y0 (by omega)]
  · -- N
    have e : ∀ x y : Nat, wcol [⟨X0, Y0, .N⟩] x y = 0 := by
      intro x y; simp [wcol, cE, cW]
    simp only [e, tcol, sumN_zero]
  · -- W
    have e : ∀ x y : Nat, wcol [⟨X0, Y0, .W⟩] x y = -(if X0 = x ∧ Y0 < y then 1 else 0) := by
      intro x y; simp [wcol, cE, cW, List.countP_cons]
    simp only [e, tcol, sumN_neg]
    rw [sumN_congr (g := fun y => if Y0 < y then 1 else 0) (fun y _ => sumN_and_single nx X0 _ 1 hX),
      sumN_gt ny Y0 hY]
  · -- S
    have e : ∀ x y : Nat, wcol [⟨X0, Y0, .S⟩] x y = 0 := by
      intro x y; simp [wcol, cE, cW]
    simp only [e, tcol, sumN_zero]

theorem gsum_wcol_list (nx ny : Nat) (L : List FSt)
    (h : ∀ s ∈ L, 0 ≤ s.x ∧ s.x < nx ∧ 0 ≤ s.y ∧ s.y < ny) :
    gsum nx ny (wcol L) = (L.map (tcol ny)).sum := by
  induction L with
  | nil => simp only [gsum, wcol_nil, sumN_zero, List.map_nil, List.sum_nil]
  | cons s L ih =>
    have e : gsum nx ny (wcol (s :: L)) = gsum nx ny (fun x y => wcol [s] x y + wcol L x y) :=
      gsum_congr (fun X Y _ _ => wcol_append [s] L X Y)
    rw [e, gsum_add, gsum_wcol_single nx ny s (h s List.mem_cons_self),
      ih (fun t ht => h t (List.mem_cons_of_mem _ ht)), List.map_cons, List.sum_cons]

/-- round a closed list the products `x·y` of the corners telescope, so `Σ x·dy = −Σ y·dx` -/
theorem sum_dxy {R : Int → Int → Bool} {L : List FSt} (hL : Closed R L) :
    (L.map (fun s => s.corner.1 * s.d.dy + s.corner.2 * s.d.dx)).sum = 0 := by
  have h1 := perm_sum ((hL.perm.map (fun s => s.corner.1 * s.corner.2)))
  rw [List.map_map] at h1
  have h2 : (L.map ((fun s => s.corner.1 * s.corner.2) ∘ step R)) =
      L.map (fun s => s.corner.1 * s.corner.2 + (s.corner.1 * s.d.dy + s.corner.2 * s.d.dx)) := by
    apply List.map_congr_left; intro s _
    simp only [Function.comp, corner_step]
    cases s.d <;> simp only [Dir.dx, Dir.dy] <;> ring
  rw [h2, sum_map_add] at h1
  omega

/-- the shoelace term `x·dy − y·dx` of a unit edge: twice `−y·dx`, which is what the edge contributes to
    `Σ_pixels wcol` up to `ny·dx`, plus a term that cancels round a closed list -/
theorem ucross_split (ny : Nat) (s : FSt) : ucross s =
    2 * tcol ny s + (-2 * (ny : Int)) * s.d.dx + (s.corner.1 * s.d.dy + s.corner.2 * s.d.dx) := by
  obtain ⟨x, y, d⟩ := s
  cases d <;> simp only [ucross, cross, tcol, FSt.corner, Dir.dx, Dir.dy] <;> ring

theorem sum_map_mul (L : List FSt) (c : Int) (f : FSt → Int) :
    (L.map (fun s => c * f s)).sum = c * (L.map f).sum := by
  induction L with
  | nil => simp
  | cons s L ih => simp only [List.map_cons, List.sum_cons, ih]; ring

theorem sum_ucross {R : Int → Int → Bool} {nx ny : Nat} {L : List FSt} (hL : Closed R L)
    (hR : InRaster R nx ny) : (L.map ucross).sum = 2 * gsum nx ny (wcol L) := by
  have e1 : L.map ucross = L.map (fun s => (2 * tcol ny s + (-2 * (ny : Int)) * s.d.dx) +
      (s.corner.1 * s.d.dy + s.corner.2 * s.d.dx)) := by
    apply List.map_congr_left; intro s _; exact ucross_split ny s
  rw [e1, sum_map_add, sum_map_add, sum_map_mul, sum_map_mul, sum_dx hL, sum_dxy hL,
    gsum_wcol_list nx ny L fun s hs => hL.bounds hR hs]
  ring

/-- **discrete Green for a followed ring**: shoelace area of the ring = 2 · Σ_pixels winding number -/
theorem green {R : Int → Int → Bool} {nx ny : Nat} (hR : InRaster R nx ny) {c : List FSt}
    (hc : IsCyc R c) : area2 (cycRing c) = 2 * gsum nx ny (wcol c) := by
  obtain ⟨hcl, k, start, e, hit⟩ := hc
  rw [← sum_ucross hcl hR, e]
  exact area2_cycRing R k start hit

theorem sumN_split (a b : Nat) (g : Nat → Int) : sumN (a + b) g = sumN a g + sumN b (fun i => g (a + i)) := by
  induction b with
  | zero => simp [sumN]
  | succ b ih => rw [← Nat.add_assoc]; simp only [sumN, ih]; omega

theorem sumN_flat (nx ny : Nat) (g : Nat → Int) :
    sumN (nx * ny) g = sumN ny (fun y => sumN nx (fun x => g (x + y * nx))) := by
  induction ny with
  | zero => simp [sumN]
  | succ ny ih =>
    rw [Nat.mul_succ, sumN_split, ih]
    simp only [sumN]
    congr 1
    apply sumN_congr
    intro x _
    rw [Nat.add_comm, Nat.mul_comm]

theorem countP_range (n : Nat) (p : Nat → Bool) :
    (((List.range n).countP p : Nat) : Int) = sumN n (fun i => if p i = true then 1 else 0) := by
  induction n with
  | zero => simp [sumN]
  | succ n ih =>
    rw [List.range_succ, List.countP_append]
    simp only [sumN, List.countP_cons, List.countP_nil]
    rw [← ih]
    split <;> simp

theorem sumN_nonneg {n : Nat} {g : Nat → Int} (h : ∀ i, i < n → 0 ≤ g i) : 0 ≤ sumN n g := by
  induction n with
  | zero => simp [sumN]
  | succ n ih =>
    simp only [sumN]
    have := ih (fun i hi => h i (by omega))
    have := h n (by omega)
    omega

theorem sumN_pos {n : Nat} {g : Nat → Int} (h : ∀ i, i < n → 0 ≤ g i) {a : Nat} (ha : a < n) (hpos : 0 < g a) :
    0 < sumN n g := by
  induction n with
  | zero => omega
  | succ n ih =>
    simp only [sumN]
    by_cases han : a = n
    · subst han
      have := sumN_nonneg (fun i hi => h i (by omega) : ∀ i, i < a → 0 ≤ g i)
      omega
    · have := ih (fun i hi => h i (by omega)) (by omega)
      have := h n (by omega)
      omega

theorem gsum_pos {nx ny : Nat} {F : Int → Int → Int}
    (h : ∀ X Y : Nat, X < nx → Y < ny → 0 ≤ F (X : Int) (Y : Int)) {X Y : Nat} (hX : X < nx) (hY : Y < ny)
    (hpos : 0 < F (X : Int) (Y : Int)) : 0 < gsum nx ny F := by
  unfold gsum
  apply sumN_pos (a := Y) _ hY
  · exact sumN_pos (fun x hx => h x Y hx hY) hX hpos
  · intro y hy; exact sumN_nonneg (fun x hx => h x y hx hy)

theorem gsum_neg' (nx ny : Nat) (F : Int → Int → Int) : gsum nx ny (fun x y => -F x y) = -gsum nx ny F := by
  unfold gsum
  rw [← sumN_neg]
  apply sumN_congr; intro y _; rw [sumN_neg]

end XrsVerif.Polygonize
