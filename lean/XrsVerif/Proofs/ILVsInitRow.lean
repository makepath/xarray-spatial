import XrsVerif.Proofs.ILVsInitCell
/-
  The per-cell loop `for j in range(n_cols)` of the generated `_init_event_list`: invariant
  `PosInv` (all cells at linear positions below `pos` processed: their three records in the event list in row-major order,
  the observer-row buffer `data`, the observer's 180 in the visibility grid, `count_event`), `cellLoop_exec`.
-/
namespace XrsVerif.ILSw
open XrsVerif XrsVerif.IL XrsVerif.ViewshedEvents
variable {F : Type} [Fl F]

/-- number of non-observer cells before the linear position `pos` (`obs` = the observer's) -/
def cntBefore (obs pos : Nat) : Nat := pos - (if obs < pos then 1 else 0)

/-- the event codes in the order `_init_event_list` appends them -/
def tyOf (t : Nat) : Int := if t = 0 then 1 else if t = 1 then 0 else -1

/-- the event list holds the three records of every non-observer cell at a linear position below `pos` -/
def ELDone (el : List F) (T : Int → Int → F) (h w vr vc pos : Nat) : Prop :=
  ∀ p, p < pos → p ≠ vr * w + vc → ∀ t, t < 3 → ∀ k, k < 7 →
    el.getD ((3 * cntBefore (vr * w + vc) p + t) * 7 + k) Fl.nan =
      (evRowF T h w vr vc ((p / w : Nat) : Int) ((p % w : Nat) : Int) (tyOf t)).getD k Fl.nan

/-- the three elevations (entering corner, centre, exiting corner) `data` holds for column `col` of the observer's row -/
def dataTriple (T : Int → Int → F) (h w vr vc col : Nat) : F × F × F :=
  if col = vc then (T vr vc, T vr vc, T vr vc)
  else (cornerElevF T h w vr vc 1 vr col, T vr col, cornerElevF T h w vr vc (-1) vr col)

def DataDone (d : List F) (T : Int → Int → F) (h w vr vc pos : Nat) : Prop :=
  ∀ col, col < w → vr * w + col < pos →
    d.getD col Fl.nan = (dataTriple T h w vr vc col).1 ∧ d.getD (w + col) Fl.nan = (dataTriple T h w vr vc col).2.1 ∧
    d.getD (2 * w + col) Fl.nan = (dataTriple T h w vr vc col).2.2

/-- the state of `_init_event_list` when all cells below the linear position `pos` have been processed; what the ring buffer
    `inrast` holds is said beside it: `PreRing` at the head of a row (`RowInv`), `Ring` and `i` inside the per-cell loop -/
structure PosInv (s0 s : State F) (T : Int → Int → F) (h w n vr vc pos : Nat) : Prop where
  lay : InitLayout s h w n vr vc
  cnt : s.ienv "count_event" = ((3 * cntBefore (vr * w + vc) pos : Nat) : Int)
  rast : s.fa "raster" = s0.fa "raster"
  el : ELDone (s.fa "event_list") T h w vr vc pos
  data : DataDone (s.fa "data") T h w vr vc pos
  vis : s.fa "visibility_grid" = if vr * w + vc < pos then (s0.fa "visibility_grid").set (vr * w + vc) (Fl.lit 180 1)
    else s0.fa "visibility_grid"

theorem PosInv.frame {s0 s s' : State F} {T : Int → Int → F} {h w n vr vc pos : Nat} (inv : PosInv s0 s T h w n vr vc pos)
    (hc : s'.ctl = .run) (hshp : s'.shp = s.shp) (hfa : ∀ a, a ≠ "inrast" → s'.fa a = s.fa a)
    (hi : ∀ v ∈ ["n_rows", "n_cols", "vp_row", "vp_col", "count_event"], s'.ienv v = s.ienv v) :
    PosInv s0 s' T h w n vr vc pos :=
  ⟨inv.lay.frame hc hshp (fun a ha => by rw [hfa a (by rintro rfl; simp at ha)]) (fun v hv => hi v (List.mem_append_left _ hv)),
   (hi _ (by simp)).trans inv.cnt, (hfa _ (by simp)).trans inv.rast, hfa "event_list" (by simp) ▸ inv.el,
   hfa "data" (by simp) ▸ inv.data, (hfa _ (by simp)).trans inv.vis⟩

theorem getD_setRow3 (el : List F) (c : Nat) (f0 f1 f2 : Nat → F) (idx : Nat) (hlen : (c + 3) * 7 ≤ el.length) :
    (setRow (setRow (setRow el 7 c f0) 7 (c + 1) f1) 7 (c + 2) f2).getD idx Fl.nan =
      if idx < c * 7 ∨ (c + 3) * 7 ≤ idx then el.getD idx Fl.nan
      else if idx < (c + 1) * 7 then f0 (idx - c * 7)
      else if idx < (c + 2) * 7 then f1 (idx - (c + 1) * 7) else f2 (idx - (c + 2) * 7) := by
  simp only [getD_setRow, length_setRow]
  by_cases h1 : idx < c * 7 ∨ (c + 3) * 7 ≤ idx
  · have a1 : ¬ ((c + 2) * 7 ≤ idx ∧ idx < (c + 2) * 7 + 7 ∧ idx < el.length) := by omega
    have a2 : ¬ ((c + 1) * 7 ≤ idx ∧ idx < (c + 1) * 7 + 7 ∧ idx < el.length) := by omega
    have a3 : ¬ (c * 7 ≤ idx ∧ idx < c * 7 + 7 ∧ idx < el.length) := by omega
    rw [if_neg a1, if_neg a2, if_neg a3, if_pos h1]
  · rw [if_neg h1]
    by_cases h2 : idx < (c + 1) * 7
    · have a1 : ¬ ((c + 2) * 7 ≤ idx ∧ idx < (c + 2) * 7 + 7 ∧ idx < el.length) := by omega
      have a2 : ¬ ((c + 1) * 7 ≤ idx ∧ idx < (c + 1) * 7 + 7 ∧ idx < el.length) := by omega
      have a3 : (c * 7 ≤ idx ∧ idx < c * 7 + 7 ∧ idx < el.length) := by omega
      rw [if_neg a1, if_neg a2, if_pos a3, if_pos h2]
    · by_cases h3 : idx < (c + 2) * 7
      · have a1 : ¬ ((c + 2) * 7 ≤ idx ∧ idx < (c + 2) * 7 + 7 ∧ idx < el.length) := by omega
        have a2 : ((c + 1) * 7 ≤ idx ∧ idx < (c + 1) * 7 + 7 ∧ idx < el.length) := by omega
        rw [if_neg a1, if_pos a2, if_neg h2, if_pos h3]
      · have a1 : ((c + 2) * 7 ≤ idx ∧ idx < (c + 2) * 7 + 7 ∧ idx < el.length) := by omega
        rw [if_pos a1, if_neg h2, if_neg h3]

theorem getD_dataSet (d : List F) (w j : Nat) (a b c : F) (idx : Nat) (hj : j < w) (hlen : d.length = 3 * w) :
    (dataSet d w j a b c).getD idx Fl.nan =
      if idx = 2 * w + j then c else if idx = w + j then b else if idx = j then a else d.getD idx Fl.nan := by
  unfold dataSet
  rw [getD_set, getD_set, getD_set]
  simp only [List.length_set, hlen]
  by_cases h1 : idx = 2 * w + j
  · subst h1
    have : 2 * w + j = 2 * w + j ∧ 2 * w + j < 3 * w := ⟨rfl, by omega⟩
    rw [if_pos this, if_pos rfl]
  · have n1 : ¬ (2 * w + j = idx ∧ idx < 3 * w) := fun e => h1 e.1.symm
    rw [if_neg n1, if_neg h1]
    by_cases h2 : idx = w + j
    · subst h2
      have : w + j = w + j ∧ w + j < 3 * w := ⟨rfl, by omega⟩
      rw [if_pos this, if_pos rfl]
    · have n2 : ¬ (w + j = idx ∧ idx < 3 * w) := fun e => h2 e.1.symm
      rw [if_neg n2, if_neg h2]
      by_cases h3 : idx = j
      · subst h3
        have : idx = idx ∧ idx < 3 * w := ⟨rfl, by omega⟩
        rw [if_pos this, if_pos rfl]
      · have n3 : ¬ (j = idx ∧ idx < 3 * w) := fun e => h3 e.1.symm
        rw [if_neg n3, if_neg h3]

theorem DataDone.step {d : List F} {T : Int → Int → F} {h w vr vc k : Nat} (hd : DataDone d T h w vr vc (vr * w + k))
    (hk : k < w) (hl : d.length = 3 * w) (a b c : F) (ht : dataTriple T h w vr vc k = (a, b, c)) :
    DataDone (dataSet d w k a b c) T h w vr vc (vr * w + (k + 1)) := by
  intro col hcol hlt
  rw [getD_dataSet _ _ _ _ _ _ _ hk hl, getD_dataSet _ _ _ _ _ _ _ hk hl, getD_dataSet _ _ _ _ _ _ _ hk hl]
  by_cases hce : col = k
  · subst hce
    have hw0 : ¬ w = 0 := by omega
    have hw2 : ¬ (w = 2 * w) := by omega
    simp [ht, hw0, hw2]
  · have hlt' : vr * w + col < vr * w + k := by omega
    have e1 : ¬ (col = 2 * w + k) := by omega
    have e2 : ¬ (col = w + k) := by omega
    have e3 : ¬ (w + col = 2 * w + k) := by omega
    have e4 : ¬ (w + col = w + k) := by omega
    have e5 : ¬ (w + col = k) := by omega
    have e6 : ¬ (2 * w + col = 2 * w + k) := by omega
    have e7 : ¬ (2 * w + col = w + k) := by omega
    have e8 : ¬ (2 * w + col = k) := by omega
    simp only [e1, e2, e3, e4, e5, e6, e7, e8, hce, if_false]
    exact hd col hcol hlt'

theorem posInv_other (hL : LitOK F) (hH : HalfOK F) (s0 st : State F) (fuel : Nat) (T : Int → Int → F) (h w n vr vc i k : Nat)
    (hn : n = 3 * (h * w - 1)) (hih : i < h) (hkw : k < w) (hvr : vr < h) (hvc : vc < w) (hne : ¬ (i = vr ∧ k = vc))
    (inv : PosInv s0 st T h w n vr vc (i * w + k)) (ring : Ring (st.fa "inrast") T h w i) (vi : st.ienv "i" = i) :
    let r := exec fuel cellBody { st with ienv := setS st.ienv "j" (k : Int) }
    r.ctl = .run ∧ PosInv s0 r T h w n vr vc (i * w + (k + 1)) ∧ r.fa "inrast" = st.fa "inrast" ∧ r.ienv "i" = i := by
  have hobs : i * w + k ≠ vr * w + vc := fun e => hne (idx_inj i k vr vc w hkw hvc e)
  have hpos : i * w + k < h * w := rowMajor_lt hih hkw
  have hobsl : vr * w + vc < h * w := rowMajor_lt hvr hvc
  have hcn : 3 * cntBefore (vr * w + vc) (i * w + k) + 3 ≤ n := by
    unfold cntBefore; split <;> omega
  have hc := cellBody_other hL hH { st with ienv := setS st.ienv "j" (k : Int) } fuel T h w n vr vc i k
    (3 * cntBefore (vr * w + vc) (i * w + k)) (inv.lay.setJ k) ring (by simp [setS_apply, vi]) (by simp) hkw hih
    (by simp [setS_apply, inv.cnt]) hcn hne
  unfold Post CellPost at hc
  obtain ⟨c1, ci, c2, c3, c4, c5, c6, c7⟩ := hc
  simp only at c2 c3 c4 c6 c7
  intro r
  have hcnt : cntBefore (vr * w + vc) (i * w + (k + 1)) = cntBefore (vr * w + vc) (i * w + k) + 1 := by
    unfold cntBefore; split <;> split <;> omega
  refine ⟨c1.ctl, ⟨c1, ?_, c2.trans inv.rast, ?_, ?_, ?_⟩, c3, ci⟩
  · rw [c5, hcnt]; push_cast; ring
  · -- the event list
    intro p hp hpo t ht kk hkk
    rw [c6]
    have hlen := inv.lay.lenEL
    have hl3 : (3 * cntBefore (vr * w + vc) (i * w + k) + 3) * 7 ≤ (st.fa "event_list").length := by rw [hlen]; omega
    rw [getD_setRow3 _ _ _ _ _ _ hl3]
    by_cases hpp : p = i * w + k
    · subst hpp
      obtain ⟨d1, d2⟩ := rowMajor_div_mod i hkw
      rw [d1, d2]
      have g1 : ¬ ((3 * cntBefore (vr * w + vc) (i * w + k) + t) * 7 + kk < 3 * cntBefore (vr * w + vc) (i * w + k) * 7 ∨
          (3 * cntBefore (vr * w + vc) (i * w + k) + 3) * 7 ≤ (3 * cntBefore (vr * w + vc) (i * w + k) + t) * 7 + kk) := by omega
      rw [if_neg g1]
      generalize 3 * cntBefore (vr * w + vc) (i * w + k) = c
      have ht' : t = 0 ∨ t = 1 ∨ t = 2 := by omega
      rcases ht' with rfl | rfl | rfl
      · have g2 : (c + 0) * 7 + kk < (c + 1) * 7 := by omega
        rw [if_pos g2]
        have : (c + 0) * 7 + kk - c * 7 = kk := by omega
        rw [this]; rfl
      · have g2 : ¬ (c + 1) * 7 + kk < (c + 1) * 7 := by omega
        have g3 : (c + 1) * 7 + kk < (c + 2) * 7 := by omega
        rw [if_neg g2, if_pos g3]
        have : (c + 1) * 7 + kk - (c + 1) * 7 = kk := by omega
        rw [this]; rfl
      · have g2 : ¬ (c + 2) * 7 + kk < (c + 1) * 7 := by omega
        have g3 : ¬ (c + 2) * 7 + kk < (c + 2) * 7 := by omega
        rw [if_neg g2, if_neg g3]
        have : (c + 2) * 7 + kk - (c + 2) * 7 = kk := by omega
        rw [this]; rfl
    · have hp' : p < i * w + k := by omega
      have hlt : cntBefore (vr * w + vc) p < cntBefore (vr * w + vc) (i * w + k) := by
        unfold cntBefore; split <;> split <;> omega
      have g1 : (3 * cntBefore (vr * w + vc) p + t) * 7 + kk < 3 * cntBefore (vr * w + vc) (i * w + k) * 7 := by omega
      rw [if_pos (Or.inl g1)]
      exact inv.el p hp' hpo t ht kk hkk
  · -- the observer-row buffer
    rw [c7]
    by_cases hiv : i = vr
    · subst hiv
      rw [if_pos rfl]
      have hkv : k ≠ vc := fun e => hne ⟨rfl, e⟩
      exact inv.data.step hkw inv.lay.lenD _ _ _ (by simp [dataTriple, hkv])
    · rw [if_neg hiv]
      intro col hcol hlt
      refine inv.data col hcol ?_
      by_cases hvi : vr < i
      · have := rowMajor_lt hvi hcol; omega
      · have := rowMajor_lt (show i < vr by omega) hkw; omega
  · -- the visibility grid
    rw [c4, inv.vis]
    have : (vr * w + vc < i * w + (k + 1)) = (vr * w + vc < i * w + k) := by apply propext; omega
    simp only [this]

theorem posInv_obs (s0 st : State F) (fuel : Nat) (T : Int → Int → F) (h w n vr vc : Nat)
    (hvr : vr < h) (hvc : vc < w) (inv : PosInv s0 st T h w n vr vc (vr * w + vc)) (ring : Ring (st.fa "inrast") T h w vr)
    (vi : st.ienv "i" = vr) :
    let r := afterBody (exec fuel cellBody { st with ienv := setS st.ienv "j" (vc : Int) })
    r.ctl = .run ∧ PosInv s0 r T h w n vr vc (vr * w + (vc + 1)) ∧ r.fa "inrast" = st.fa "inrast" ∧ r.ienv "i" = vr := by
  have hc := cellBody_obs { st with ienv := setS st.ienv "j" (vc : Int) } fuel T h w n vr vc
    (3 * cntBefore (vr * w + vc) (vr * w + vc)) (inv.lay.setJ vc) ring (by simp [setS_apply, vi]) (by simp) hvc hvr
    (by simp [setS_apply, inv.cnt])
  unfold Post ObsPost at hc
  obtain ⟨c0, c1, ci, c2, c3, c4, c5, c6, c7⟩ := hc
  simp only at c2 c3 c4 c6 c7
  intro r
  have hr : r = { exec fuel cellBody { st with ienv := setS st.ienv "j" (vc : Int) } with ctl := .run } := by
    simp only [r, afterBody, c0]
  have hcnt : cntBefore (vr * w + vc) (vr * w + (vc + 1)) = cntBefore (vr * w + vc) (vr * w + vc) := by
    unfold cntBefore; split <;> split <;> omega
  rw [hr]
  refine ⟨rfl, ⟨c1, ?_, c2.trans inv.rast, ?_, ?_, ?_⟩, c3, ci⟩
  · simp only []; rw [c5, hcnt]
  · intro p hp hpo t ht kk hkk
    simp only []; rw [c4]
    exact inv.el p (by omega) hpo t ht kk hkk
  · simp only []; rw [c7]
    exact inv.data.step hvc inv.lay.lenD _ _ _ (by simp [dataTriple])
  · simp only []; rw [c6, inv.vis]
    have a1 : ¬ (vr * w + vc < vr * w + vc) := by omega
    have a2 : vr * w + vc < vr * w + (vc + 1) := by omega
    simp only [a1, a2, if_true, if_false]

theorem cellLoop_exec (hL : LitOK F) (hH : HalfOK F) (s0 s : State F) (fuel : Nat) (T : Int → Int → F) (h w n vr vc i : Nat)
    (hn : n = 3 * (h * w - 1)) (hih : i < h) (hvr : vr < h) (hvc : vc < w)
    (inv : PosInv s0 s T h w n vr vc (i * w)) (ring : Ring (s.fa "inrast") T h w i) (vi : s.ienv "i" = i) :
    let r := exec fuel cellLoop s
    r.ctl = .run ∧ PosInv s0 r T h w n vr vc (i * w + w) ∧ r.fa "inrast" = s.fa "inrast" := by
  have h := forRange_up "j" (.var "n_cols") cellBody s fuel w inv.lay.ctl (by simp [IE.ok]) (by simp [IE.eval, inv.lay.nc])
    (fun k st => PosInv s0 st T h w n vr vc (i * w + k) ∧ st.fa "inrast" = s.fa "inrast" ∧ st.ienv "i" = i)
    ⟨inv, rfl, vi⟩
    (fun k hk st hrun hP => by
      obtain ⟨p, e, vi'⟩ := hP
      by_cases hobs : i = vr ∧ k = vc
      · obtain ⟨rfl, rfl⟩ := hobs
        obtain ⟨a, b, c, d⟩ := posInv_obs s0 st fuel T h w n i k hvr hvc p (e ▸ ring) vi'
        exact ⟨a, b, c.trans e, d⟩
      · obtain ⟨a, b, c, d⟩ := posInv_other hL hH s0 st fuel T h w n vr vc i k hn hih hk hvr hvc hobs p (e ▸ ring) vi'
        rw [afterBody_run _ a]
        exact ⟨a, b, c.trans e, d⟩)
  exact ⟨h.1, h.2.1, h.2.2.1⟩
end XrsVerif.ILSw
