import XrsVerif.Proofs.ILVsSweepGrad
/-
  The common prefix of one event of the generated sweep (`evPrefix_exec`): the node buffer is
  reset and receives the key (squared map distance) of the event's cell and the gradient of its centre, target height added;
  then the branch of the event's type is run (`evBody_branch`).  Also what the three branches and the initial fill share of
  the status structure: its two arrays in a state of the sweep (`SVS`) and what an inlined tree routine leaves alone
  (`TreeFrame`).
-/
namespace XrsVerif.ILSw
open XrsVerif XrsVerif.IL
variable {F : Type} [Fl F]

/-- the scalars of the sweep that are live across an event: integers … -/
def swLiveI : List String := ["vp_row", "vp_col", "root", "i", "n_rows", "n_cols", "num_nodes", "nevents"]
/-- … and numbers -/
def swLiveF : List String := ["vp_elev", "vp_target", "ew_res", "ns_res"]

structure EvInv (s : State F) (ne k : Nat) : Prop where
  ctl : s.ctl = .run
  shN : s.shp "status_node" = [7]
  lenN : (s.fa "status_node").length = 7
  shR : s.shp "event_rcts" = [ne, 3]
  shA : s.shp "event_aes" = [ne, 4]
  vi : s.ienv "i" = k
  hk : k < ne

/-- the two arrays of the status structure in a state of the sweep (`VS` of Proofs/ILViewshedBase.lean under the sweep's
    array names) -/
structure SVS (s : State F) (n : Nat) : Prop where
  shpV : s.shp "status_values" = [n, 8]
  shpN : s.shp "status_struct" = [n, 4]
  lenV : (s.fa "status_values").length = n * 8
  lenN : (s.ia "status_struct").length = n * 4
  pos : 0 < n

/-- arrays and scalars an inlined status-tree routine (locals prefixed `P`) must leave alone -/
structure TreeFrame (P : String) (s s' : State F) : Prop where
  ctl : s'.ctl = .run
  shp : s'.shp = s.shp
  ext : s'.ext = s.ext
  fa : ∀ a, a ≠ "status_values" → s'.fa a = s.fa a
  ia : ∀ a, a ≠ "status_struct" → s'.ia a = s.ia a
  ienv : ∀ v, P.isPrefixOf v = false → s'.ienv v = s.ienv v
  fenv : ∀ v, P.isPrefixOf v = false → s'.fenv v = s.fenv v

/-- `event_rcts[k][c]`, `event_aes[k][c]` -/
def rctAt (s : State F) (k c : Nat) : Int := (s.ia "event_rcts").getD (k * 3 + c) 0
def aeAt (s : State F) (k c : Nat) : F := (s.fa "event_aes").getD (k * 4 + c) Fl.nan

theorem swLiveI_all {p : String → Prop} (h1 : p "vp_row") (h2 : p "vp_col") (h3 : p "root") (h4 : p "i") (h5 : p "n_rows")
    (h6 : p "n_cols") (h7 : p "num_nodes") (h8 : p "nevents") : ∀ v ∈ swLiveI, p v := by
  intro v hv
  simp [swLiveI] at hv
  rcases hv with rfl | rfl | rfl | rfl | rfl | rfl | rfl | rfl <;> assumption

theorem swLiveF_all {p : String → Prop} (h1 : p "vp_elev") (h2 : p "vp_target") (h3 : p "ew_res") (h4 : p "ns_res") :
    ∀ v ∈ swLiveF, p v := by
  intro v hv
  simp [swLiveF] at hv
  rcases hv with rfl | rfl | rfl | rfl <;> assumption

theorem swLive_head : ∀ v ∈ swLiveI, v.toList.head? ≠ some '_' := by
  apply swLiveI_all <;> simp

/-- the constant indices of the generated sweep are in range: the seven entries of the node buffer `status_node`, the three
    columns of `event_rcts`, the four of `event_aes` … -/
theorem inRange_lit :
    (inRange (0 : Int) 7 = true ∧ inRange (1 : Int) 7 = true ∧ inRange (2 : Int) 7 = true ∧ inRange (3 : Int) 7 = true ∧
      inRange (4 : Int) 7 = true ∧ inRange (5 : Int) 7 = true ∧ inRange (6 : Int) 7 = true) ∧
    (inRange (0 : Int) 3 = true ∧ inRange (1 : Int) 3 = true ∧ inRange (2 : Int) 3 = true) ∧
    (inRange (0 : Int) 4 = true ∧ inRange (1 : Int) 4 = true ∧ inRange (2 : Int) 4 = true ∧ inRange (3 : Int) 4 = true) := by
  decide

/-- … and the node buffer is flat -/
theorem off1_lit7 :
    off1 [7] (0 : Int) = 0 ∧ off1 [7] (1 : Int) = 1 ∧ off1 [7] (2 : Int) = 2 ∧ off1 [7] (3 : Int) = 3 ∧
    off1 [7] (4 : Int) = 4 ∧ off1 [7] (5 : Int) = 5 ∧ off1 [7] (6 : Int) = 6 := by
  decide

/-- **the common prefix of an event**: the node buffer is reset, then holds the key of the event's cell and the gradient of
    its centre raised by the target height -/
theorem evPrefix_exec (rest : St) (s : State F) (fuel ne k : Nat) (inv : EvInv s ne k) :
    ∃ ie' fe', exec fuel (evPrefix rest) s =
      exec fuel rest ⟨ie', fe', s.benv, s.ia, setS s.fa "status_node"
          [keyF (rctAt s k 0) (rctAt s k 1) (s.ienv "vp_row") (s.ienv "vp_col") (s.fenv "ew_res") (s.fenv "ns_res"), Fl.nan,
           gradCellF (rctAt s k 0) (rctAt s k 1) (Fl.add (aeAt s k 2) (s.fenv "vp_target")) (s.ienv "vp_row") (s.ienv "vp_col")
             (s.fenv "vp_elev") (s.fenv "ew_res") (s.fenv "ns_res"), Fl.nan, Fl.nan, Fl.nan, Fl.nan], s.shp, s.ext, .run⟩ ∧
      ie' "status_row" = rctAt s k 0 ∧ ie' "status_col" = rctAt s k 1 ∧ ie' "etype" = rctAt s k 2 ∧
      ie' "row$e_rct" = k ∧ ie' "row$e_ae" = k ∧ (∀ v ∈ swLiveI, ie' v = s.ienv v) ∧ (∀ v ∈ swLiveF, fe' v = s.fenv v) := by
  obtain ⟨hctl, shN, lenN, shR, shA, vi, hk⟩ := inv
  obtain ⟨ie, fe, be, ia, fa, shp, ext, ctl⟩ := s
  simp only at hctl shN lenN shR shA vi; subst hctl
  obtain ⟨e0, e1, e2, e3, e4, e5, e6, hE⟩ := list7 _ lenN
  have hdb := fun s => distBody_exec (F := F) "_calc_dist_n_grad35$" s fuel
  have ik : inRange (k : Int) ne = true := inRange_of_lt k ne hk
  have o30 : off2 [ne, 3] (k : Int) (0 : Int) = k * 3 + 0 := off2_nat ne 3 k 0
  have o31 : off2 [ne, 3] (k : Int) (1 : Int) = k * 3 + 1 := off2_nat ne 3 k 1
  have o32 : off2 [ne, 3] (k : Int) (2 : Int) = k * 3 + 2 := off2_nat ne 3 k 2
  have o42 : off2 [ne, 4] (k : Int) (2 : Int) = k * 4 + 2 := off2_nat ne 4 k 2
  simp [evPrefix, initNode, distCall, rct, ae, exec, IE.ok, IE.eval, FE.ok, FE.eval, BinOp.eval, shN, shR, shA, vi, hE, setS_apply,
    ik, o30, o31, o32, o42, inRange_lit, off1_lit7, setS_setS, hdb]
  simp [distEnv_apply, setS_apply]
  refine ⟨_, _, rfl, ?_, ?_, ?_, ?_, ?_, ?_, ?_⟩
  · simp [setS_apply, rctAt]
  · simp [setS_apply, rctAt]
  · simp [rctAt]
  · simp [setS_apply]
  · simp [setS_apply]
  · apply swLiveI_all <;> simp [setS_apply]
  · apply swLiveF_all <;> simp [setS_apply, distEnv_apply]

/-- **an event up to its branch**: after the common prefix the loop body runs the branch of the event's type -/
theorem evBody_branch (ins del qry : St) (s : State F) (fuel ne k : Nat) (inv : EvInv s ne k) :
    ∃ ie' fe', exec fuel (evBody ins del qry) s =
      exec fuel (if rctAt s k 2 = 1 then enterBranch ins else if rctAt s k 2 = -1 then exitBranch del
          else if rctAt s k 2 = 0 then centerBranch qry else .skip)
        ⟨ie', fe', s.benv, s.ia, setS s.fa "status_node"
          [keyF (rctAt s k 0) (rctAt s k 1) (s.ienv "vp_row") (s.ienv "vp_col") (s.fenv "ew_res") (s.fenv "ns_res"), Fl.nan,
           gradCellF (rctAt s k 0) (rctAt s k 1) (Fl.add (aeAt s k 2) (s.fenv "vp_target")) (s.ienv "vp_row") (s.ienv "vp_col")
             (s.fenv "vp_elev") (s.fenv "ew_res") (s.fenv "ns_res"), Fl.nan, Fl.nan, Fl.nan, Fl.nan], s.shp, s.ext, .run⟩ ∧
      ie' "status_row" = rctAt s k 0 ∧ ie' "status_col" = rctAt s k 1 ∧
      ie' "row$e_rct" = k ∧ ie' "row$e_ae" = k ∧ (∀ v ∈ swLiveI, ie' v = s.ienv v) ∧ (∀ v ∈ swLiveF, fe' v = s.fenv v) := by
  obtain ⟨ie1, fe1, hex, p1, p2, p3, p4, p5, p6, p7⟩ := evPrefix_exec
    (.ite (.cmpI .eq (.var "etype") (.lit 1)) (enterBranch ins)
    (.ite (.cmpI .eq (.var "etype") (.lit (-1))) (exitBranch del)
    (.ite (.cmpI .eq (.var "etype") (.lit 0)) (centerBranch qry) .skip))) s fuel ne k inv
  refine ⟨ie1, fe1, ?_, p1, p2, p4, p5, p6, p7⟩
  rw [evBody, hex]
  by_cases h1 : rctAt s k 2 = 1
  · rw [if_pos h1, exec_ite_true _ _ _ _ _ rfl (by simp [il, p3, h1])]
  rw [if_neg h1, exec_ite_false _ _ _ _ _ rfl (by simp [il, p3, h1])]
  by_cases h2 : rctAt s k 2 = -1
  · rw [if_pos h2, exec_ite_true _ _ _ _ _ rfl (by simp [il, p3, h2])]
  rw [if_neg h2, exec_ite_false _ _ _ _ _ rfl (by simp [il, p3, h2])]
  by_cases h3 : rctAt s k 2 = 0
  · rw [if_pos h3, exec_ite_true _ _ _ _ _ rfl (by simp [il, p3, h3])]
  rw [if_neg h3, exec_ite_false _ _ _ _ _ rfl (by simp [il, p3, h3])]
end XrsVerif.ILSw
