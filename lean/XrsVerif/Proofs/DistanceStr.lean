import XrsVerif.Model.DistanceStr
import Mathlib.Tactic.Positivity
/-! Helper lemmas for the distance-string model of C19 (Model/DistanceStr.lean): the scanner splits a
    string into pieces whose concatenation is the string, number pieces are decimal literals, the unit
    factors are positive; soundness (`getDistance_sound`, `getDistance_fin_sound`) and completeness
    (`getDistance_ulit`) of the parser. -/
namespace XrsVerif.DistStr

theorem takeWhile_append_dropWhile' (s : List Char) : s.takeWhile isDig ++ s.dropWhile isDig = s :=
  List.takeWhile_append_dropWhile

theorem mem_takeWhile_isDig {c : Char} {l : List Char} (h : c ∈ l.takeWhile isDig) : isDig c = true :=
  List.all_eq_true.mp List.all_takeWhile c h

theorem fracDigits_ne_nil {s : List Char} (h : fracDigits s ≠ []) :
    s = '.' :: fracDigits s ++ s.tail.dropWhile isDig := by
  cases s with
  | nil => simp [fracDigits] at h
  | cons c t =>
    by_cases hc : c = '.'
    · subst hc
      simp [fracDigits, List.takeWhile_append_dropWhile]
    · simp [fracDigits, hc] at h

theorem mem_fracDigits_isDig {c : Char} {l : List Char} (h : c ∈ fracDigits l) : isDig c = true := by
  cases l with
  | nil => simp [fracDigits] at h
  | cons a t =>
    by_cases ha : a = '.'
    · simp only [fracDigits, ha, if_true] at h; exact mem_takeWhile_isDig h
    · simp [fracDigits, ha] at h

def IsLit (m : List Char) : Prop :=
  ∃ sign d1 d2 : List Char, (sign = [] ∨ sign = ['-']) ∧ (∀ c ∈ d1, isDig c = true) ∧
    (∀ c ∈ d2, isDig c = true) ∧ (d1 ≠ [] ∨ d2 ≠ []) ∧
    m = sign ++ d1 ++ (if d2 = [] then [] else '.' :: d2)

theorem IsLit.digit {m : List Char} (h : IsLit m) : m ≠ [] ∧ ∃ c ∈ m, isDig c = true := by
  obtain ⟨sign, d1, d2, _, h1, h2, hne, rfl⟩ := h
  have hd : ∃ c, (c ∈ d1 ∨ c ∈ d2) ∧ isDig c = true := by
    rcases hne with hne | hne
    · obtain ⟨c, t, rfl⟩ := List.exists_cons_of_ne_nil hne
      exact ⟨c, Or.inl List.mem_cons_self, h1 c List.mem_cons_self⟩
    · obtain ⟨c, t, rfl⟩ := List.exists_cons_of_ne_nil hne
      exact ⟨c, Or.inr List.mem_cons_self, h2 c List.mem_cons_self⟩
  obtain ⟨c, hc, hdc⟩ := hd
  have hm : c ∈ sign ++ d1 ++ (if d2 = [] then [] else '.' :: d2) := by
    rcases hc with hc | hc
    · simp [hc]
    · have : d2 ≠ [] := List.ne_nil_of_mem hc
      simp [this, hc]
  exact ⟨List.ne_nil_of_mem hm, c, hm, hdc⟩

theorem matchBody_some {s m rest : List Char} (h : matchBody s = some (m, rest)) :
    m ++ rest = s ∧ ∃ d1 d2 : List Char, (∀ c ∈ d1, isDig c = true) ∧ (∀ c ∈ d2, isDig c = true) ∧
      (d1 ≠ [] ∨ d2 ≠ []) ∧ m = d1 ++ (if d2 = [] then [] else '.' :: d2) := by
  unfold matchBody at h
  simp only at h
  split at h
  · rename_i hd2
    simp only [Option.some.injEq, Prod.mk.injEq] at h
    obtain ⟨rfl, rfl⟩ := h
    refine ⟨?_, s.takeWhile isDig, fracDigits (s.dropWhile isDig), fun c hc => mem_takeWhile_isDig hc,
      fun c hc => mem_fracDigits_isDig hc, Or.inr hd2, by rw [if_neg hd2]⟩
    have := fracDigits_ne_nil hd2
    calc (s.takeWhile isDig ++ '.' :: fracDigits (s.dropWhile isDig)) ++ (s.dropWhile isDig).tail.dropWhile isDig
        = s.takeWhile isDig ++ ('.' :: fracDigits (s.dropWhile isDig) ++ (s.dropWhile isDig).tail.dropWhile isDig) := by simp
      _ = s.takeWhile isDig ++ s.dropWhile isDig := by rw [← this]
      _ = s := List.takeWhile_append_dropWhile
  · split at h
    · rename_i hd1
      simp only [Option.some.injEq, Prod.mk.injEq] at h
      obtain ⟨rfl, rfl⟩ := h
      exact ⟨List.takeWhile_append_dropWhile, s.takeWhile isDig, [], fun c hc => mem_takeWhile_isDig hc, by simp,
        Or.inl hd1, by simp⟩
    · simp at h

theorem matchNum_some {s m rest : List Char} (h : matchNum s = some (m, rest)) : m ++ rest = s ∧ IsLit m := by
  cases s with
  | nil => simp [matchNum] at h
  | cons c t =>
    simp only [matchNum] at h
    by_cases hc : c = '-'
    · rw [if_pos hc] at h
      cases hb : matchBody t with
      | none => simp [hb] at h
      | some mr =>
        obtain ⟨m', r'⟩ := mr
        simp only [hb, Option.map_some, Option.some.injEq, Prod.mk.injEq] at h
        obtain ⟨rfl, rfl⟩ := h
        obtain ⟨e, d1, d2, h1, h2, h3, h4⟩ := matchBody_some hb
        exact ⟨by simp [hc, e], ['-'], d1, d2, Or.inr rfl, h1, h2, h3, by rw [h4]; simp⟩
    · rw [if_neg hc] at h
      obtain ⟨e, d1, d2, h1, h2, h3, h4⟩ := matchBody_some h
      exact ⟨e, [], d1, d2, Or.inl rfl, h1, h2, h3, by simp [h4]⟩

theorem matchNum_spec {s m rest : List Char} (h : matchNum s = some (m, rest)) :
    m ++ rest = s ∧ m ≠ [] ∧ ∃ c ∈ m, isDig c = true :=
  ⟨(matchNum_some h).1, (matchNum_some h).2.digit⟩

theorem matchNum_rest_length {s m rest : List Char} (h : matchNum s = some (m, rest)) :
    rest.length < s.length := by
  obtain ⟨e, hne, _⟩ := matchNum_spec h
  rw [← e, List.length_append]
  have : 0 < m.length := List.length_pos_of_ne_nil hne
  omega

theorem scan_flatten (n : ℕ) (s acc : List Char) (hn : s.length < n) :
    ((scan n s acc).map Tok.chars).flatten = acc.reverse ++ s := by
  induction n generalizing s acc with
  | zero => omega
  | succ n ih =>
    cases s with
    | nil => simp [scan, Tok.chars]
    | cons c t =>
      simp only [scan]
      cases hm : matchNum (c :: t) with
      | none =>
        simp only
        rw [ih t (c :: acc) (by simp at hn; omega)]
        simp
      | some mr =>
        obtain ⟨m, rest⟩ := mr
        simp only [List.map_cons, List.flatten_cons, Tok.chars]
        have hl := matchNum_rest_length hm
        rw [ih rest [] (by simp at hn hl ⊢; omega)]
        obtain ⟨e, _, _⟩ := matchNum_spec hm
        simp [e]

theorem reSplit_flatten (s : List Char) : ((reSplit s).map Tok.chars).flatten = s := by
  unfold reSplit
  rw [scan_flatten _ _ _ (by omega)]; simp

theorem splits_flatten (s : List Char) : ((splits s).map Tok.chars).flatten = s := by
  have h : (splits s).map Tok.chars = ((reSplit s).map Tok.chars).filter (fun l => !l.isEmpty) :=
    (List.filter_map (f := Tok.chars) (p := fun l => !l.isEmpty)).symm
  rw [h, List.flatten_filter_not_isEmpty, reSplit_flatten]

theorem ratOf_pos {n : Int} {d : Nat} (hn : 0 < n) (hd : 0 < d) : 0 < ratOf n d := by
  unfold ratOf
  exact div_pos (by exact_mod_cast hn) (by exact_mod_cast hd)

theorem units_pos : ∀ e ∈ Gen.units, 0 < ratOf e.2.1 e.2.2 := by
  have h : ∀ e ∈ Gen.units, 0 < e.2.1 ∧ 0 < e.2.2 := by decide
  intro e he
  exact ratOf_pos (h e he).1 (h e he).2

theorem lookupUnit_pos {u : List Char} {f : Rat} (h : lookupUnit u = some f) : 0 < f := by
  unfold lookupUnit at h
  cases hf : Gen.units.find? (fun e => e.1.toList == u) with
  | none => simp [hf] at h
  | some e =>
    simp only [hf, Option.map_some, Option.some.injEq] at h
    subst h
    exact units_pos e (List.mem_of_find?_eq_some hf)

theorem reject_is_le_zero : Gen.distance_reject = (.le, 0, 1) := by decide

theorem rejected_fin (q : Rat) : rejected (.fin q) = decide (q ≤ 0) := by
  simp [rejected, reject_is_le_zero, cmpPF, ratOf]

theorem mulFactor_fin {rnd : Rat → Rat} {v : PyFloat} {f m : Rat} (hf : 0 < f) (h : mulFactor rnd v f = .fin m) :
    ∃ q, v = .fin q ∧ m = rnd (q * rnd f) := by
  cases v with
  | nan => simp [mulFactor] at h
  | pinf => simp [mulFactor, hf] at h
  | ninf => simp [mulFactor, hf] at h
  | fin q => simp only [mulFactor, PyFloat.fin.injEq] at h; exact ⟨q, rfl, h.symm⟩

/-- `_get_distance` once the pieces are known: the number piece through `float` and the positivity test, the unit text
    through the table -/
def convert (rnd : Rat → Rat) (numTok : Tok) (unit : List Char) : Dist :=
  match pyFloatTok rnd numTok with
  | none => .err "numeric"
  | some v =>
    if rejected v then .err "positive" else
    match lookupUnit (normUnit unit) with
    | none => .err "unit"
    | some f => .val (mulFactor rnd v f)

/-- one piece: the default unit; two pieces: the second is the unit text (the generated indices and guard) -/
theorem getDistance_of_splits (rnd : Rat → Rat) (s : List Char) :
    (∀ t, splits s = [t] → getDistance rnd s = convert rnd t Gen.default_unit.toList) ∧
    (∀ t u, splits s = [t, u] → getDistance rnd s = convert rnd t u.chars) := by
  have g : Gen.distance_allowed_lens = [1, 2] ∧ Gen.distance_unit_guard = 2 ∧ Gen.distance_unit_index = 1 ∧
      Gen.distance_number_index = 0 := by decide
  constructor
  · intro t h
    simp only [getDistance, g, h, List.length_singleton, List.contains_cons, List.contains_nil, BEq.rfl, Bool.true_or,
      Bool.not_true, Bool.false_eq_true, if_false, List.getD_cons_zero, show (1 : ℕ) ≠ 2 by omega]
    rfl
  · intro t u h
    simp only [getDistance, g, h, List.length_cons, List.length_nil, List.contains_cons, List.contains_nil, BEq.rfl,
      Bool.true_or, Bool.or_true, Bool.not_true, Bool.false_eq_true, if_false, if_true, List.getD_cons_zero,
      List.getD_cons_succ]
    rfl

theorem convert_val {rnd : Rat → Rat} {t : Tok} {unit : List Char} {v : PyFloat} (h : convert rnd t unit = .val v) :
    ∃ x f, pyFloatTok rnd t = some x ∧ rejected x = false ∧ lookupUnit (normUnit unit) = some f ∧
      v = mulFactor rnd x f := by
  unfold convert at h
  split at h
  · simp at h
  · rename_i x hx
    split at h
    · simp at h
    · rename_i hrej
      split at h
      · simp at h
      · rename_i f hf
        simp only [Dist.val.injEq] at h
        exact ⟨x, f, hx, by simpa using hrej, hf, h.symm⟩

theorem splits_cases (s : List Char) (h : Gen.distance_allowed_lens.contains (splits s).length = true) :
    (∃ t, splits s = [t] ∧ s = t.chars ∧ t.chars ≠ []) ∨
    (∃ t u, splits s = [t, u] ∧ s = t.chars ++ u.chars ∧ t.chars ≠ [] ∧ u.chars ≠ []) := by
  have hf := splits_flatten s
  have hne : ∀ t ∈ splits s, t.chars ≠ [] := by
    intro t ht
    unfold splits at ht
    have := (List.mem_filter.mp ht).2
    intro h0; simp [h0] at this
  have hl : (splits s).length = 1 ∨ (splits s).length = 2 := by
    have : Gen.distance_allowed_lens = [1, 2] := by decide
    rw [this] at h
    simp at h
    omega
  rcases hl with hl | hl
  · left
    match hsp : splits s, hl with
    | [t], _ =>
      refine ⟨t, rfl, ?_, hne t (by simp [hsp])⟩
      rw [hsp] at hf; simpa using hf.symm
  · right
    match hsp : splits s, hl with
    | [t, u], _ =>
      refine ⟨t, u, rfl, ?_, hne t (by simp [hsp]), hne u (by simp [hsp])⟩
      rw [hsp] at hf; simpa using hf.symm

theorem normUnit_default : normUnit Gen.default_unit.toList = Gen.default_unit.toList := by decide

/-- **soundness of the parser**: an accepted string is a number piece followed by the unit text
    (empty = the default unit); the piece passed `float` and the positivity test, the normalised unit
    is in the table, and the result is the product -/
theorem getDistance_sound {rnd : Rat → Rat} {s : List Char} {v : PyFloat} (h : getDistance rnd s = .val v) :
    ∃ (numTok : Tok) (unit : List Char) (x : PyFloat) (f : Rat),
      s = numTok.chars ++ unit ∧ numTok.chars ≠ [] ∧ numTok ∈ splits s ∧
      pyFloatTok rnd numTok = some x ∧ rejected x = false ∧
      lookupUnit (normUnit (if unit = [] then Gen.default_unit.toList else unit)) = some f ∧
      v = mulFactor rnd x f := by
  have hlen : Gen.distance_allowed_lens.contains (splits s).length = true := by
    cases hc : Gen.distance_allowed_lens.contains (splits s).length with
    | true => rfl
    | false => simp only [getDistance, hc, Bool.not_false, if_true] at h; cases h
  rcases splits_cases s hlen with ⟨t, hsp, hs, hne⟩ | ⟨t, u, hsp, hs, hne, hneu⟩
  · rw [(getDistance_of_splits rnd s).1 t hsp] at h
    obtain ⟨x, f, hx, hrej, hf, hv⟩ := convert_val h
    exact ⟨t, [], x, f, by simpa using hs, hne, by simp [hsp], hx, hrej, by simpa using hf, hv⟩
  · rw [(getDistance_of_splits rnd s).2 t u hsp] at h
    obtain ⟨x, f, hx, hrej, hf, hv⟩ := convert_val h
    exact ⟨t, u.chars, x, f, hs, hne, by simp [hsp], hx, hrej, by simpa [hneu] using hf, hv⟩

/-- `-?D*(.D+)?` with at least one digit -/
theorem scan_num_isLit (n : ℕ) (s acc : List Char) :
    ∀ m, Tok.num m ∈ scan n s acc → IsLit m := by
  induction n generalizing s acc with
  | zero => intro m hm; simp [scan] at hm
  | succ n ih =>
    intro m hm
    cases s with
    | nil => simp [scan] at hm
    | cons c t =>
      simp only [scan] at hm
      cases hmn : matchNum (c :: t) with
      | none => rw [hmn] at hm; exact ih _ _ m hm
      | some mr =>
        obtain ⟨m', rest⟩ := mr
        rw [hmn] at hm
        simp only [List.mem_cons, reduceCtorEq, Tok.num.injEq, false_or] at hm
        rcases hm with rfl | hm
        · exact (matchNum_some hmn).2
        · exact ih _ _ m hm

theorem splits_num_isLit {s m : List Char} (h : Tok.num m ∈ splits s) : IsLit m := by
  unfold splits at h
  exact scan_num_isLit _ _ _ m (List.mem_filter.mp h).1

theorem specialFloat_not_fin (t : List Char) (q : Rat) : specialFloat t ≠ some (.fin q) := by
  intro h
  unfold specialFloat at h
  simp only at h
  split_ifs at h <;> simp at h

/-- an accepted *finite* distance comes from a decimal literal with a positive value followed by a
    unit of the table (or nothing), and is their product -/
theorem getDistance_fin_sound {rnd : Rat → Rat} {s : List Char} {m : Rat}
    (h : getDistance rnd s = .val (.fin m)) :
    ∃ (lit unit : List Char) (f : Rat), s = lit ++ unit ∧ IsLit lit ∧ 0 < rnd (decVal lit) ∧
      lookupUnit (normUnit (if unit = [] then Gen.default_unit.toList else unit)) = some f ∧
      m = rnd (rnd (decVal lit) * rnd f) := by
  obtain ⟨tk, unit, x, f, hs, hne, hmem, hx, hrej, hf, hv⟩ := getDistance_sound h
  obtain ⟨q, rfl, rfl⟩ := mulFactor_fin (lookupUnit_pos hf) hv.symm
  cases tk with
  | txt t => exact absurd hx (specialFloat_not_fin t q)
  | num lit =>
    simp only [pyFloatTok, Option.some.injEq, PyFloat.fin.injEq] at hx
    subst hx
    rw [rejected_fin] at hrej
    exact ⟨lit, unit, f, hs, splits_num_isLit hmem, by simpa using hrej, hf, rfl⟩

theorem takeWhile_nodigit {u : List Char} (hu : ∀ c ∈ u, isDig c = false) : u.takeWhile isDig = [] := by
  cases u with
  | nil => rfl
  | cons c t => simp [hu c (by simp)]

theorem dropWhile_nodigit {u : List Char} (hu : ∀ c ∈ u, isDig c = false) : u.dropWhile isDig = u := by
  cases u with
  | nil => rfl
  | cons c t => simp [hu c (by simp)]

theorem fracDigits_nodigit {u : List Char} (hu : ∀ c ∈ u, isDig c = false) : fracDigits u = [] := by
  cases u with
  | nil => rfl
  | cons c t =>
    by_cases hc : c = '.'
    · simp only [fracDigits, hc, if_true]
      exact takeWhile_nodigit (fun x hx => hu x (by simp [hx]))
    · simp [fracDigits, hc]

/-- the unsigned literal `d1` / `d1.d2` / `.d2` -/
def ulit (d1 d2 : List Char) : List Char := d1 ++ (if d2 = [] then [] else '.' :: d2)

theorem matchBody_ulit (d1 d2 u : List Char) (h1 : ∀ c ∈ d1, isDig c = true) (h2 : ∀ c ∈ d2, isDig c = true)
    (hne : d1 ≠ [] ∨ d2 ≠ []) (hu : ∀ c ∈ u, isDig c = false) :
    matchBody (ulit d1 d2 ++ u) = some (ulit d1 d2, u) := by
  unfold matchBody ulit
  by_cases hd2 : d2 = []
  · subst hd2
    have hd1 : d1 ≠ [] := by simpa using hne
    simp only [if_true, List.append_nil]
    rw [List.takeWhile_append_of_pos h1, List.dropWhile_append_of_pos h1, takeWhile_nodigit hu,
      dropWhile_nodigit hu, fracDigits_nodigit hu]
    simp [hd1]
  · simp only [hd2, if_false]
    have hdot : isDig '.' = false := by decide
    have e1 : (d1 ++ '.' :: d2 ++ u).takeWhile isDig = d1 := by
      rw [List.append_assoc, List.takeWhile_append_of_pos h1]; simp [hdot]
    have e2 : (d1 ++ '.' :: d2 ++ u).dropWhile isDig = '.' :: (d2 ++ u) := by
      rw [List.append_assoc, List.dropWhile_append_of_pos h1]; simp [hdot]
    have e3 : fracDigits ('.' :: (d2 ++ u)) = d2 := by
      simp only [fracDigits, if_true]
      rw [List.takeWhile_append_of_pos h2, takeWhile_nodigit hu]; simp
    rw [e1, e2, e3]
    simp only [hd2, ne_eq, not_false_eq_true, if_true, List.tail_cons]
    rw [List.dropWhile_append_of_pos h2, dropWhile_nodigit hu]

theorem ulit_ne_nil {d1 d2 : List Char} (hne : d1 ≠ [] ∨ d2 ≠ []) : ulit d1 d2 ≠ [] := by
  unfold ulit
  rcases hne with h | h
  · simp [h]
  · simp [h]

theorem ulit_head_ne_minus {d1 d2 : List Char} (h1 : ∀ c ∈ d1, isDig c = true) {c : Char} {t : List Char}
    (h : ulit d1 d2 = c :: t) : c ≠ '-' := by
  unfold ulit at h
  intro hc
  subst hc
  cases d1 with
  | nil =>
    by_cases hd2 : d2 = []
    · simp [hd2] at h
    · simp only [hd2, if_false, List.nil_append, List.cons.injEq] at h
      exact absurd h.1 (by decide)
  | cons a l =>
    simp only [List.cons_append, List.cons.injEq] at h
    have := h1 a (by simp)
    rw [h.1] at this
    exact absurd this (by decide)

theorem matchNum_ulit (d1 d2 u : List Char) (h1 : ∀ c ∈ d1, isDig c = true) (h2 : ∀ c ∈ d2, isDig c = true)
    (hne : d1 ≠ [] ∨ d2 ≠ []) (hu : ∀ c ∈ u, isDig c = false) :
    matchNum (ulit d1 d2 ++ u) = some (ulit d1 d2, u) := by
  obtain ⟨c, t, hct⟩ := List.exists_cons_of_ne_nil (ulit_ne_nil hne)
  have hm := matchBody_ulit d1 d2 u h1 h2 hne hu
  rw [hct] at hm ⊢
  simp only [List.cons_append, matchNum]
  rw [if_neg (ulit_head_ne_minus h1 hct)]
  exact hm

theorem matchNum_nodigit {u : List Char} (hu : ∀ c ∈ u, isDig c = false) : matchNum u = none := by
  cases h : matchNum u with
  | none => rfl
  | some mr =>
    obtain ⟨m, r⟩ := mr
    obtain ⟨e, _, c, hc, hd⟩ := matchNum_spec h
    have : c ∈ u := by rw [← e]; simp [hc]
    rw [hu c this] at hd
    exact absurd hd (by simp)

theorem scan_nodigit (n : ℕ) (u acc : List Char) (hu : ∀ c ∈ u, isDig c = false) (hn : u.length < n) :
    scan n u acc = [.txt (acc.reverse ++ u)] := by
  induction n generalizing u acc with
  | zero => omega
  | succ n ih =>
    cases u with
    | nil => simp [scan]
    | cons c t =>
      simp only [scan]
      rw [matchNum_nodigit hu]
      simp only
      rw [ih t (c :: acc) (fun x hx => hu x (by simp [hx])) (by simp at hn; omega)]
      simp

theorem splits_ulit (d1 d2 u : List Char) (h1 : ∀ c ∈ d1, isDig c = true) (h2 : ∀ c ∈ d2, isDig c = true)
    (hne : d1 ≠ [] ∨ d2 ≠ []) (hu : ∀ c ∈ u, isDig c = false) :
    splits (ulit d1 d2 ++ u) = if u = [] then [.num (ulit d1 d2)] else [.num (ulit d1 d2), .txt u] := by
  unfold splits reSplit
  obtain ⟨c, t, hct⟩ := List.exists_cons_of_ne_nil (ulit_ne_nil hne)
  have hm := matchNum_ulit d1 d2 u h1 h2 hne hu
  rw [hct] at hm
  simp only [List.cons_append] at hm
  rw [hct]
  simp only [List.cons_append, List.length_cons, scan, hm]
  rw [scan_nodigit _ u [] hu (by simp; omega)]
  by_cases hu0 : u = []
  · subst hu0
    simp [Tok.chars]
  · obtain ⟨b, k, hbk⟩ := List.exists_cons_of_ne_nil hu0
    simp [Tok.chars, hbk]

/-- **reading of a well-formed string** (`parse_units`): a decimal literal followed by text without digits
    is rejected when the value is not positive or the normalised text is not a unit of the table, and
    otherwise converted with the table's factor (no text = the default unit) -/
theorem getDistance_ulit (rnd : Rat → Rat) (d1 d2 u : List Char) (h1 : ∀ c ∈ d1, isDig c = true) (h2 : ∀ c ∈ d2, isDig c = true)
    (hne : d1 ≠ [] ∨ d2 ≠ []) (hu : ∀ c ∈ u, isDig c = false) :
    getDistance rnd (ulit d1 d2 ++ u) =
      if rnd (decVal (ulit d1 d2)) ≤ 0 then .err "positive"
      else match lookupUnit (normUnit (if u = [] then Gen.default_unit.toList else u)) with
        | none => .err "unit"
        | some f => .val (.fin (rnd (rnd (decVal (ulit d1 d2)) * rnd f))) := by
  have hsp := splits_ulit d1 d2 u h1 h2 hne hu
  have hc : ∀ unit, convert rnd (.num (ulit d1 d2)) unit =
      if rnd (decVal (ulit d1 d2)) ≤ 0 then .err "positive"
      else match lookupUnit (normUnit unit) with
        | none => .err "unit"
        | some f => .val (.fin (rnd (rnd (decVal (ulit d1 d2)) * rnd f))) := by
    intro unit
    simp only [convert, pyFloatTok, rejected_fin, decide_eq_true_eq, mulFactor]
  by_cases hu0 : u = []
  · rw [if_pos hu0] at hsp ⊢
    rw [(getDistance_of_splits rnd _).1 _ hsp, hc]
  · rw [if_neg hu0] at hsp ⊢
    rw [(getDistance_of_splits rnd _).2 _ _ hsp, hc]; rfl
end XrsVerif.DistStr
