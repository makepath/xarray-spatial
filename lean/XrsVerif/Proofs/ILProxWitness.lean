import XrsVerif.Proofs.ILProxNumpy
import XrsVerif.Proofs.TerrainReal
import Mathlib.Analysis.Real.Sqrt
import Mathlib.Tactic.NormNum
/-
  The hypotheses of the refinement theorems for the generated proximity programs are
  satisfiable: `ValReading` over `NV ℚ`, and `PNInput` (hence `Arith`, the `_distance` hypothesis, the target
  hypothesis) for a 1 × 2 raster over `NV ℝ` with `sqrt = Real.sqrt`, Euclidean `_distance`, `max_distance = 2`.
-/
namespace XrsVerif.IL.Px.Witness
open XrsVerif XrsVerif.Prox XrsVerif.IL XrsVerif.IL.Px

/-- any interpretation of the transcendental functions over ℚ (they play no role in the target test) -/
@[instance_reducible] def trigQ : Trig Rat := ⟨fun x => x, fun x => x, fun x _ => x, fun x => x, fun x => x, fun x => x, fun x => x⟩

attribute [local instance] trigQ

def toValQ : NV Rat → Val
  | none => .nan
  | some q => .fin q

theorem ratReading : ValReading toValQ := by
  refine ⟨?_, ?_, ?_⟩
  · intro x y
    cases x <;> cases y <;> simp [toValQ, Val.ieq]
    rename_i a b
    by_cases h : a = b <;> simp [h]
  · simp [toValQ]
  · intro x; cases x <;> simp [toValQ]

/-- one line, two columns, unit cells, Euclidean, `max_distance = 2` (`⌈2·max²⌉ = 8`) -/
def wc : Cfg := { H := 1, W := 2, sx := 1, sy := 1, metric := .euclid, max2x2 := some 8 }

theorem wc_refl : wc.Refl := by
  intro r p; simp [dist2, wc, adiff]

noncomputable def wemb (d : Nat) : NV ℝ := some (d : ℝ)

/-- the left cell is a target -/
def wtg (_ p : Nat) : Bool := p == 0

/-- Euclidean `_distance` -/
noncomputable def wext (_ : String) (x1 x2 y1 y2 : NV ℝ) (_ : Int) : NV ℝ :=
  Fl.sqrt (Fl.add (Fl.mul (Fl.sub x1 x2) (Fl.sub x1 x2)) (Fl.mul (Fl.sub y1 y2) (Fl.sub y1 y2)))

/-- `img = [[1, 0]]`, `x = [0, 1]`, `y = [0]`, default target rule, `max_distance = 2` -/
noncomputable def ws0 : State (NV ℝ) :=
  { (State.empty : State (NV ℝ)) with
    fa := fun a => if a = "img" then [some 1, some 0] else if a = "x_coords" then [some 0, some 1]
      else if a = "y_coords" then [some 0, some 0] else []
    shp := fun a => if a = "img" then [1, 2] else if a = "x_coords" then [1, 2] else if a = "y_coords" then [1, 2]
      else if a = "target_values" then [0] else []
    fenv := fun v => if v = "max_distance" then some 2 else none
    ext := wext }

theorem sqrt_def (x : ℝ) : (Trig.sqrt x : ℝ) = Real.sqrt x := rfl

theorem wArith : Arith wc wemb (some (2 : ℝ)) := by
  refine ⟨?_, ?_, ?_, ?_, ?_, ?_, ?_, ?_, ?_⟩
  · intro a b; simp [wemb]
  · intro d
    have : ((2 : ℝ) * 2 * (((2 : ℤ) : ℝ) / ((1 : ℕ) : ℝ))) = ((8 : ℕ) : ℝ) := by norm_num
    simp only [wemb, fl_mul, fl_lit, fl_lt, this, ltOpt, wc, Nat.cast_lt]
  · intro d
    have h4 : ((2 : ℝ) * 2) = ((4 : ℕ) : ℝ) := by norm_num
    simp only [wemb, fl_mul, fl_le, h4, withinMax, wc, Nat.cast_le]
    congr 1
    apply propext; constructor <;> intro h <;> omega
  · intro d; simp [wemb, sqrt_def, Real.mul_self_sqrt]
  · intro d; simp [wemb, sqrt_def, Real.sqrt_nonneg]
  · intro d; simp [wemb, sqrt_def, Real.sqrt_nonneg]
  · simp [wemb]
  · simp
  · simp

theorem wInput : PNInput wc wemb wtg ws0 := by
  refine ⟨rfl, by simp [ws0, wc], by simp [ws0, wc], by simp [ws0, wc], by simp [ws0], ?_, ?_, ?_, ?_⟩
  · simpa [ws0] using wArith
  · simp
  · intro tr tc r p h1 h2 h3 h4
    have e1 : tr = 0 := by simp [wc] at h1; omega
    have e3 : r = 0 := by simp [wc] at h3; omega
    subst e1; subst e3
    have h2' : tc < 2 := h2
    have h4' : p < 2 := h4
    have ht : tc = 0 ∨ tc = 1 := by omega
    have hp : p = 0 ∨ p = 1 := by omega
    rcases ht with rfl | rfl <;> rcases hp with rfl | rfl <;>
      simp [pnDist2, ws0, wext, wc, wemb, dist2, adiff, sqrt_def]
  · intro r p h1 h2
    have e1 : r = 0 := by simp [wc] at h1; omega
    subst e1
    have h2' : p < 2 := h2
    have hp : p = 0 ∨ p = 1 := by omega
    rcases hp with rfl | rfl <;> simp [targetTest, ws0, wc, wtg]

end XrsVerif.IL.Px.Witness
