import XrsVerif.Model.Regions
import XrsVerif.Proofs.ListFold
/-
  Lemmas about the two-pass labelling model (Model/Regions.lean).  Core Lean only.

  * the pass-2 inner loop (`inner`, stale captured labels) in closed form, `foldl_inner_closed`: every
    cell whose label was captured takes the least captured label, no other label changes; hence
    `pass2_cell_unifies` (DESIGN.md A.5);
  * generic results `complete_g`, `sound_g`, `positive_g` over any window graph;
  * the raster instance: the clamped windows are exactly "self or a 4- or 8-adjacent cell inside the raster".
-/
set_option linter.unusedSectionVars false
namespace XrsVerif.Regions

section generic
variable {α V : Type} [DecidableEq α]

theorem replace_self (lab : α → Nat) (a : Nat) : replace lab a a = lab := by
  funext x; unfold replace; by_cases h : lab x = a <;> simp [h]

theorem inner_some (lab : α → Nat) (mv a : Nat) :
    inner (lab, some mv) a = (replace lab (max mv a) (min mv a), some (min mv a)) := by
  simp only [inner]
  split
  · rename_i h; subst h; rw [Nat.max_self, Nat.min_self, replace_self]
  · split
    · rw [Nat.max_eq_left (by omega), Nat.min_eq_right (by omega)]
    · rw [Nat.max_eq_right (by omega), Nat.min_eq_left (by omega)]

/-- invariant of the inner loop: the current labelling is `ρ ∘ lab0`; every captured value seen so
    far is renamed to the current minimum `m`, which is the least seen value and fixed by ρ;
    unseen values are untouched -/
structure Inv (lab0 lab : α → Nat) (seen : List Nat) (m : Option Nat) : Prop where
  ex : ∃ ρ : Nat → Nat, (∀ x, lab x = ρ (lab0 x)) ∧
        (∀ mv, m = some mv → mv ∈ seen ∧ ρ mv = mv ∧ (∀ v ∈ seen, ρ v = mv ∧ mv ≤ v)) ∧
        (∀ v, v ∉ seen → ρ v = v) ∧ (m = none → seen = [])

theorem inner_inv (lab0 lab : α → Nat) (seen : List Nat) (m : Option Nat) (a : Nat)
    (h : Inv lab0 lab seen m) :
    Inv lab0 (inner (lab, m) a).1 (seen ++ [a]) (inner (lab, m) a).2 := by
  obtain ⟨ρ, hlab, hm, hun, hnone⟩ := h.ex
  cases m with
  | none =>
    have hs := hnone rfl; subst hs
    refine ⟨ρ, ?_, ?_, ?_, ?_⟩
    · simpa [inner] using hlab
    · intro mv hmv; simp [inner] at hmv; subst hmv
      have := hun a (by simp)
      simp [this]
    · intro v hv; exact hun v (by simp)
    · intro h; simp [inner] at h
  | some mv =>
    obtain ⟨hmem, hfix, hall⟩ := hm mv rfl
    rw [inner_some]
    refine ⟨fun v => if ρ v = max mv a then min mv a else ρ v, fun x => by simp only [replace, hlab],
      ?_, ?_, fun h => nomatch h⟩
    · intro mv' hmv'; cases hmv'
      rcases Nat.le_total mv a with hle | hle
      · -- `a` is renamed to `mv`
        rw [Nat.min_eq_left hle, Nat.max_eq_right hle]
        refine ⟨by simp [hmem], by simp [hfix], fun v hv => ?_⟩
        rcases List.mem_append.mp hv with hv | hv
        · simp [(hall v hv).1, (hall v hv).2]
        · cases List.mem_singleton.mp hv
          by_cases hin : a ∈ seen
          · simp [(hall a hin).1, hle]
          · simp [hun a hin, hle]
      · -- `mv` is renamed to `a`, which is new unless it equals `mv`
        have hρa : ρ a = a := by
          by_cases hin : a ∈ seen
          · rw [(hall a hin).1]; exact Nat.le_antisymm (hall a hin).2 hle
          · exact hun a hin
        rw [Nat.min_eq_right hle, Nat.max_eq_left hle]
        refine ⟨by simp, by simp [hρa], fun v hv => ?_⟩
        rcases List.mem_append.mp hv with hv | hv
        · simp [(hall v hv).1]; exact Nat.le_trans hle (hall v hv).2
        · cases List.mem_singleton.mp hv; simp [hρa]
    · intro v hv
      have hv' : v ∉ seen := fun hh => hv (by simp [hh])
      have hva : v ≠ a := fun hh => hv (by simp [hh])
      have hvm : v ≠ mv := fun hh => hv' (hh ▸ hmem)
      dsimp only
      rw [hun v hv', if_neg]
      rw [Nat.max_def]; split <;> assumption

/-- the captured values go stale while the loop relabels, and the result does not depend on it -/
theorem foldl_inner_closed (lab0 : α → Nat) (aw : List Nat) :
    ∃ mv, (∀ v ∈ aw, mv ∈ aw ∧ mv ≤ v) ∧
      ∀ x, (aw.foldl inner (lab0, none)).1 x = if lab0 x ∈ aw then mv else lab0 x := by
  have h0 : Inv lab0 lab0 [] none := ⟨⟨id, by simp, by simp, by simp, by simp⟩⟩
  obtain ⟨ρ, hlab, hm, hun, hnone⟩ := (foldl_snoc_inv inner (fun seen st => Inv lab0 st.1 seen st.2) aw
    (fun seen a st _ h => inner_inv lab0 st.1 seen st.2 a h) (s := (lab0, none)) h0).ex
  cases hmm : (aw.foldl inner (lab0, none)).2 with
  | none => rw [hnone hmm]; exact ⟨0, by simp, by simp⟩
  | some mv =>
    obtain ⟨hmem, _, hall⟩ := hm mv hmm
    refine ⟨mv, fun v hv => ⟨hmem, (hall v hv).2⟩, fun x => ?_⟩
    rw [hlab x]
    split
    · exact (hall _ ‹_›).1
    · exact hun _ ‹_›

/-- after the loop every captured label has been unified (DESIGN.md A.5) -/
theorem pass2_cell_unifies (lab0 : α → Nat) (aw : List Nat) (x y : α)
    (hx : lab0 x ∈ aw) (hy : lab0 y ∈ aw) :
    (aw.foldl inner (lab0, none)).1 x = (aw.foldl inner (lab0, none)).1 y := by
  obtain ⟨mv, _, h⟩ := foldl_inner_closed lab0 aw
  rw [h x, h y, if_pos hx, if_pos hy]

/-- equivalence closure of "centre `p` (a cell of `cells`) sees the matching window cell `q`" -/
inductive Conn (cells : List α) (nbrs : α → List α) (m : V → V → Bool) (data : α → Option V) :
    α → α → Prop
  | link (p q : α) (v : V) : p ∈ cells → data p = some v → q ∈ nbrs p → matched m data v q = true →
      Conn cells nbrs m data p q
  | refl (p : α) : Conn cells nbrs m data p p
  | symm {p q : α} : Conn cells nbrs m data p q → Conn cells nbrs m data q p
  | trans {p q r : α} : Conn cells nbrs m data p q → Conn cells nbrs m data q r →
      Conn cells nbrs m data p r

theorem matched_some {m : V → V → Bool} {data : α → Option V} {v : V} {q : α}
    (h : matched m data v q = true) : ∃ w, data q = some w ∧ m v w = true := by
  unfold matched at h
  split at h
  · simp at h
  · exact ⟨_, by assumption, h⟩

theorem matched_of {m : V → V → Bool} {data : α → Option V} {v w : V} {q : α}
    (hq : data q = some w) (h : m v w = true) : matched m data v q = true := by
  simp [matched, hq, h]

theorem mem_matchesOf {nbrs : α → List α} {m : V → V → Bool} {data : α → Option V} {v : V} {p q : α} :
    q ∈ matchesOf nbrs m data v p ↔ q ∈ nbrs p ∧ matched m data v q = true := by
  simp [matchesOf, List.mem_filter]

def Good (nbrs : α → List α) (m : V → V → Bool) (data : α → Option V) (lab : α → Nat) (p : α) : Prop :=
  ∃ v, data p = some v ∧ ∃ q0, q0 ∈ nbrs p ∧ matched m data v q0 = true ∧ lab q0 = lab p

structure P1Inv (cells : List α) (nbrs : α → List α) (m : V → V → Bool) (data : α → Option V)
    (done : List α) (lab : α → Nat) (uid : Nat) : Prop where
  upos : 0 < uid
  lt : ∀ p, lab p < uid
  pos : ∀ p, 0 < lab p ↔ (p ∈ done ∧ data p ≠ none)
  K : ∀ p q, lab p = lab q → 0 < lab p → Conn cells nbrs m data p q
  good : ∀ p q v w, p ∈ done → q ∈ done → data p = some v → data q = some w → q ∈ nbrs p →
    p ∈ nbrs q → m v w = true → m w v = true → Good nbrs m data lab p ∨ Good nbrs m data lab q

theorem setL_same (lab : α → Nat) (p : α) (v : Nat) : setL lab p v p = v := if_pos rfl

theorem setL_ne {q p : α} (h : q ≠ p) (lab : α → Nat) (v : Nat) : setL lab p v q = lab q := if_neg h

theorem good_stable {nbrs : α → List α} {m : V → V → Bool} {data : α → Option V} {lab : α → Nat}
    {c : α} {x : Nat} (hc : lab c = 0) {p : α} (hp : 0 < lab p) (h : Good nbrs m data lab p) :
    Good nbrs m data (setL lab c x) p := by
  obtain ⟨v, hv, q0, hq0, hm, hl⟩ := h
  refine ⟨v, hv, q0, hq0, hm, ?_⟩
  have h1 : p ≠ c := by intro hh; subst hh; omega
  have h2 : q0 ≠ c := by intro hh; subst hh; omega
  rw [setL_ne h1, setL_ne h2, hl]

theorem mem_of_mem_snoc {p c : α} {done : List α} (hp : p ∈ done ++ [c]) (hpc : p ≠ c) : p ∈ done :=
  (List.mem_append.mp hp).resolve_right fun h => hpc (List.mem_singleton.mp h)

theorem P1Inv.assign {cells : List α} {nbrs : α → List α} {m : V → V → Bool} {data : α → Option V}
    {done : List α} {lab : α → Nat} {uid : Nat} (h : P1Inv cells nbrs m data done lab uid)
    {c : α} (hc : c ∉ done) {v : V} (hd : data c = some v) {x uid' : Nat} (hx : 0 < x)
    (hlt : x < uid') (huid : uid ≤ uid') (hK : ∀ q, lab q = x → Conn cells nbrs m data c q)
    (hg : ∀ q, q ∈ nbrs c → matched m data v q = true → 0 < setL lab c x q →
      Good nbrs m data (setL lab c x) c) :
    P1Inv cells nbrs m data (done ++ [c]) (setL lab c x) uid' := by
  have hc0 : lab c = 0 := Nat.eq_zero_of_not_pos fun hh => hc ((h.pos c).mp hh).1
  have hpos : ∀ p, 0 < setL lab c x p ↔ (p ∈ done ++ [c] ∧ data p ≠ none) := by
    intro p
    by_cases hpc : p = c
    · subst hpc; simp [setL_same, hx, hd]
    · rw [setL_ne hpc, h.pos p]; simp [hpc]
  refine ⟨Nat.lt_of_lt_of_le h.upos huid, ?_, hpos, ?_, ?_⟩
  · intro p
    by_cases hpc : p = c
    · rw [hpc, setL_same]; exact hlt
    · rw [setL_ne hpc]; exact Nat.lt_of_lt_of_le (h.lt p) huid
  · intro p q hpq hp
    by_cases h1 : p = c <;> by_cases h2 : q = c
    · rw [h1, h2]; exact Conn.refl _
    · rw [h1, setL_same, setL_ne h2] at hpq; rw [h1]; exact hK q hpq.symm
    · rw [h2, setL_same, setL_ne h1] at hpq; rw [h2]; exact Conn.symm (hK p hpq)
    · rw [setL_ne h1] at hpq hp; rw [setL_ne h2] at hpq; exact h.K p q hpq hp
  · intro p q v' w hp hq hvp hwq hqn hpn hm1 hm2
    have hpp := (hpos p).mpr ⟨hp, by simp [hvp]⟩
    have hqp := (hpos q).mpr ⟨hq, by simp [hwq]⟩
    by_cases h1 : p = c
    · subst h1; rw [hd] at hvp; cases hvp
      exact Or.inl (hg q hqn (matched_of hwq hm1) hqp)
    · by_cases h2 : q = c
      · subst h2; rw [hd] at hwq; cases hwq
        exact Or.inr (hg p hpn (matched_of hvp hm2) hpp)
      · rw [setL_ne h1] at hpp; rw [setL_ne h2] at hqp
        exact (h.good p q v' w (mem_of_mem_snoc hp h1) (mem_of_mem_snoc hq h2) hvp hwq hqn hpn hm1 hm2).imp
          (good_stable hc0 hpp) (good_stable hc0 hqp)

theorem step1_P1Inv {cells : List α} {nbrs : α → List α} {m : V → V → Bool} {data : α → Option V}
    {done : List α} {lab : α → Nat} {uid : Nat} (h : P1Inv cells nbrs m data done lab uid)
    {c : α} (hc : c ∉ done) (hcc : c ∈ cells) :
    P1Inv cells nbrs m data (done ++ [c]) (step1 nbrs m data (lab, uid) c).1
      (step1 nbrs m data (lab, uid) c).2 := by
  unfold step1
  cases hd : data c with
  | none =>
    have old : ∀ {p : α} {w : V}, p ∈ done ++ [c] → data p = some w → p ∈ done := fun hp hw =>
      mem_of_mem_snoc hp (by rintro rfl; rw [hd] at hw; cases hw)
    refine ⟨h.upos, h.lt, fun p => ?_, h.K, fun p q v w hp hq hvp hwq =>
      h.good p q v w (old hp hvp) (old hq hwq) hvp hwq⟩
    rw [h.pos p]
    exact ⟨fun hh => ⟨List.mem_append_left _ hh.1, hh.2⟩,
      fun hh => ⟨mem_of_mem_snoc hh.1 (by rintro rfl; exact hh.2 hd), hh.2⟩⟩
  | some v =>
    simp only
    cases hf : (matchesOf nbrs m data v c).find? (fun q => 0 < lab q) with
    | some q0 =>
      -- `c` takes the label of `q0`, a labelled matching window cell
      obtain ⟨hq0n, hq0m⟩ := mem_matchesOf.mp (List.mem_of_find?_eq_some hf)
      have hq0p : 0 < lab q0 := by simpa using List.find?_some hf
      have hq0c : q0 ≠ c := fun hh => hc (hh ▸ ((h.pos q0).mp hq0p).1)
      refine h.assign hc hd hq0p (h.lt q0) (Nat.le_refl _) ?_ ?_
      · intro q hq
        exact Conn.trans (Conn.link c q0 v hcc hd hq0n hq0m) (h.K q0 q hq.symm hq0p)
      · intro _ _ _ _
        exact ⟨v, hd, q0, hq0n, hq0m, by rw [setL_same, setL_ne hq0c]⟩
    | none =>
      -- fresh uid: no matching window cell is labelled, so only `c` itself can make `c` good
      refine h.assign hc hd h.upos (Nat.lt_succ_self _) (Nat.le_succ _) ?_ ?_
      · intro q hq; exact absurd hq (Nat.ne_of_lt (h.lt q))
      · intro q hqn hqm hq
        have hq0 : lab q = 0 := by
          simpa using List.find?_eq_none.mp hf q (mem_matchesOf.mpr ⟨hqn, hqm⟩)
        have hqc : q = c := by
          apply Classical.byContradiction; intro hne; rw [setL_ne hne, hq0] at hq; exact Nat.lt_irrefl _ hq
        exact ⟨v, hd, q, hqn, hqm, by rw [hqc]⟩

theorem pass1_P1Inv {cells : List α} {nbrs : α → List α} {m : V → V → Bool}
    {data : α → Option V} (hnd : cells.Nodup) :
    P1Inv cells nbrs m data cells (pass1 cells nbrs m data).1 (pass1 cells nbrs m data).2 := by
  have h0 : P1Inv cells nbrs m data [] (fun _ => 0) 1 :=
    ⟨by omega, by intro p; omega, by intro p; simp, by intro p q _ h; omega,
     by intro p q v w hp; simp at hp⟩
  refine foldl_snoc_inv (step1 nbrs m data) (fun done st => P1Inv cells nbrs m data done st.1 st.2) cells ?_ h0
  rintro done c st ⟨rest, hl⟩ h
  rw [hl] at hnd
  exact step1_P1Inv h (fun hin => (List.nodup_append.mp hnd).2.2 c hin c List.mem_cons_self rfl)
    (by simp [hl])

structure P2Inv (cells : List α) (nbrs : α → List α) (m : V → V → Bool) (data : α → Option V)
    (lab1 : α → Nat) (done : List α) (lab : α → Nat) : Prop where
  eqp : ∀ p q, lab1 p = lab1 q → lab p = lab q
  K : ∀ p q, lab p = lab q → 0 < lab p → Conn cells nbrs m data p q
  pos : ∀ p, p ∈ cells → data p ≠ none → 0 < lab p
  uni : ∀ p v, p ∈ done → data p = some v → ∀ q q', q ∈ matchesOf nbrs m data v p →
    q' ∈ matchesOf nbrs m data v p → lab q = lab q'

theorem step2_P2Inv {cells : List α} {nbrs : α → List α} {m : V → V → Bool} {data : α → Option V}
    (hclosed : ∀ p, p ∈ cells → ∀ q, q ∈ nbrs p → q ∈ cells)
    {lab1 : α → Nat} {done : List α} {st : (α → Nat) × Option Nat}
    (h : P2Inv cells nbrs m data lab1 done st.1)
    {c : α} (hcc : c ∈ cells) :
    P2Inv cells nbrs m data lab1 (done ++ [c]) (step2 nbrs m data st c).1 := by
  obtain ⟨lab, mn0⟩ := st
  simp only at h
  unfold step2
  cases hd : data c with
  | none =>
    refine ⟨h.eqp, h.K, h.pos, ?_⟩
    intro p v hp hv
    rcases List.mem_append.mp hp with h1 | h1
    · exact h.uni p v h1 hv
    · simp at h1; subst h1; rw [hd] at hv; cases hv
  | some v =>
    simp only
    obtain ⟨mv, hmv, hcl⟩ := foldl_inner_closed lab ((matchesOf nbrs m data v c).map lab)
    have hpos : ∀ a ∈ (matchesOf nbrs m data v c).map lab, 0 < a := by
      intro a ha
      obtain ⟨q, hq, rfl⟩ := List.mem_map.mp ha
      obtain ⟨w, hw, _⟩ := matched_some (mem_matchesOf.mp hq).2
      exact h.pos q (hclosed c hcc q (mem_matchesOf.mp hq).1) (by simp [hw])
    have hcap : ∀ p, lab p ∈ (matchesOf nbrs m data v c).map lab → Conn cells nbrs m data p c := by
      intro p hp
      obtain ⟨q, hq, hqp⟩ := List.mem_map.mp hp
      obtain ⟨hqn, hqm⟩ := mem_matchesOf.mp hq
      exact Conn.trans (h.K p q hqp.symm (hpos _ hp)) (Conn.symm (Conn.link c q v hcc hd hqn hqm))
    refine ⟨fun p q hpq => by rw [hcl p, hcl q, h.eqp p q hpq], ?_, ?_, ?_⟩
    · intro p q hpq hp
      rw [hcl p, hcl q] at hpq
      rw [hcl p] at hp
      -- a label not captured differs from `mv`, which is captured as soon as any label is
      by_cases h1 : lab p ∈ (matchesOf nbrs m data v c).map lab <;>
        by_cases h2 : lab q ∈ (matchesOf nbrs m data v c).map lab <;>
        simp only [h1, h2, if_true, if_false] at hpq hp
      · exact Conn.trans (hcap p h1) (Conn.symm (hcap q h2))
      · exact absurd (hpq ▸ (hmv _ h1).1) h2
      · exact absurd (hpq ▸ (hmv _ h2).1) h1
      · exact h.K p q hpq hp
    · intro p hp hdp
      rw [hcl p]
      split
      · exact hpos mv (hmv _ ‹_›).1
      · exact h.pos p hp hdp
    · intro p v' hp hv' q q' hq hq'
      rcases List.mem_append.mp hp with h1 | h1
      · rw [hcl q, hcl q', h.uni p v' h1 hv' q q' hq hq']
      · simp at h1; subst h1
        rw [hd] at hv'; cases hv'
        rw [hcl q, hcl q', if_pos (List.mem_map.mpr ⟨q, hq, rfl⟩), if_pos (List.mem_map.mpr ⟨q', hq', rfl⟩)]

theorem label_P2Inv {cells : List α} {nbrs : α → List α} {m : V → V → Bool}
    {data : α → Option V} (hnd : cells.Nodup)
    (hclosed : ∀ p, p ∈ cells → ∀ q, q ∈ nbrs p → q ∈ cells) :
    P2Inv cells nbrs m data (pass1 cells nbrs m data).1 cells (label cells nbrs m data) := by
  have h1 := pass1_P1Inv (nbrs := nbrs) (m := m) (data := data) hnd
  have h0 : P2Inv cells nbrs m data (pass1 cells nbrs m data).1 [] (pass1 cells nbrs m data).1 :=
    ⟨fun _ _ h => h, h1.K, fun p hp hdp => (h1.pos p).mpr ⟨hp, hdp⟩,
     by intro p v hp; simp at hp⟩
  exact foldl_snoc_inv (step2 nbrs m data)
    (fun done st => P2Inv cells nbrs m data (pass1 cells nbrs m data).1 done st.1) cells
    (fun done c st ⟨_, hl⟩ h => step2_P2Inv hclosed h (by simp [hl])) h0

/-- two cells that see each other and match both ways end with the same label -/
theorem complete_g {cells : List α} {nbrs : α → List α} {m : V → V → Bool} {data : α → Option V}
    (hnd : cells.Nodup) (hclosed : ∀ p, p ∈ cells → ∀ q, q ∈ nbrs p → q ∈ cells)
    {p q : α} {v w : V} (hp : p ∈ cells) (hq : q ∈ cells) (hv : data p = some v)
    (hw : data q = some w) (hqn : q ∈ nbrs p) (hpn : p ∈ nbrs q) (h1 : m v w = true)
    (h2 : m w v = true) :
    label cells nbrs m data p = label cells nbrs m data q := by
  have P1 := pass1_P1Inv (nbrs := nbrs) (m := m) (data := data) hnd
  have P2 := label_P2Inv (m := m) (data := data) hnd hclosed
  rcases P1.good p q v w hp hq hv hw hqn hpn h1 h2 with hg | hg
  · obtain ⟨v', hv', q0, hq0n, hq0m, hl⟩ := hg
    rw [hv] at hv'; cases hv'
    have e1 := P2.eqp q0 p hl
    have e2 := P2.uni p v hp hv q0 q (mem_matchesOf.mpr ⟨hq0n, hq0m⟩)
      (mem_matchesOf.mpr ⟨hqn, matched_of hw h1⟩)
    rw [← e1, e2]
  · obtain ⟨w', hw', p0, hp0n, hp0m, hl⟩ := hg
    rw [hw] at hw'; cases hw'
    have e1 := P2.eqp p0 q hl
    have e2 := P2.uni q w hq hw p0 p (mem_matchesOf.mpr ⟨hp0n, hp0m⟩)
      (mem_matchesOf.mpr ⟨hpn, matched_of hv h2⟩)
    rw [← e1, e2]

/-- equal labels of non-NaN cells are witnessed by a chain of matching window steps -/
theorem sound_g {cells : List α} {nbrs : α → List α} {m : V → V → Bool} {data : α → Option V}
    (hnd : cells.Nodup) (hclosed : ∀ p, p ∈ cells → ∀ q, q ∈ nbrs p → q ∈ cells)
    {p q : α} (hp : p ∈ cells) (hdp : data p ≠ none)
    (h : label cells nbrs m data p = label cells nbrs m data q) :
    Conn cells nbrs m data p q := by
  have P2 := label_P2Inv (m := m) (data := data) hnd hclosed
  exact P2.K p q h (P2.pos p hp hdp)

theorem positive_g {cells : List α} {nbrs : α → List α} {m : V → V → Bool} {data : α → Option V}
    (hnd : cells.Nodup) (hclosed : ∀ p, p ∈ cells → ∀ q, q ∈ nbrs p → q ∈ cells)
    {p : α} (hp : p ∈ cells) (hdp : data p ≠ none) : 0 < label cells nbrs m data p :=
  (label_P2Inv (m := m) (data := data) hnd hclosed).pos p hp hdp

end generic

theorem mem_gridCells {rows cols : Nat} {c : Cell} :
    c ∈ gridCells rows cols ↔ c.1 < rows ∧ c.2 < cols := by
  obtain ⟨y, x⟩ := c
  simp [gridCells, List.mem_flatMap, List.mem_map, List.mem_range]

theorem gridCells_succ (rows cols : Nat) :
    gridCells (rows + 1) cols = gridCells rows cols ++ (List.range cols).map fun x => (rows, x) := by
  simp [gridCells, List.range_succ, List.flatMap_append]

theorem gridCells_nodup (rows cols : Nat) : (gridCells rows cols).Nodup := by
  induction rows with
  | zero => simp [gridCells]
  | succ r ih =>
    rw [gridCells_succ, List.nodup_append]
    refine ⟨ih, ?_, ?_⟩
    · unfold List.Nodup
      rw [List.pairwise_map]
      exact (List.nodup_range (n := cols)).imp (by intro a b h; simpa using h)
    · intro a ha b hb hab
      subst hab
      have h1 := mem_gridCells.mp ha
      obtain ⟨x, _, rfl⟩ := List.mem_map.mp hb
      simp at h1

/-- standard adjacency of two raster cells: 4-neighbourhood (share an edge) or 8-neighbourhood
    (share an edge or a corner) -/
def Adj (n8 : Bool) (p q : Cell) : Prop :=
  if n8 then p ≠ q ∧ p.1 ≤ q.1 + 1 ∧ q.1 ≤ p.1 + 1 ∧ p.2 ≤ q.2 + 1 ∧ q.2 ≤ p.2 + 1
  else (p.1 = q.1 ∧ (p.2 + 1 = q.2 ∨ q.2 + 1 = p.2)) ∨ (p.2 = q.2 ∧ (p.1 + 1 = q.1 ∨ q.1 + 1 = p.1))

instance (n8 : Bool) (p q : Cell) : Decidable (Adj n8 p q) := by unfold Adj; infer_instance

theorem Adj.symm {n8 : Bool} {p q : Cell} (h : Adj n8 p q) : Adj n8 q p := by
  obtain ⟨y, x⟩ := p
  obtain ⟨y', x'⟩ := q
  unfold Adj at *
  cases n8 <;> simp at * <;> omega

theorem clampAdd_lt {n k : Nat} (d : D) (hk : k < n) : clampAdd n d k < n := by
  cases d <;> simp only [clampAdd] <;> omega

theorem clampAdd_near {n k : Nat} (d : D) (hk : k < n) :
    k ≤ clampAdd n d k + 1 ∧ clampAdd n d k ≤ k + 1 := by
  cases d <;> simp only [clampAdd] <;> omega

theorem exists_clampAdd {n k k' : Nat} (hk' : k' < n) (h : k ≤ k' + 1 ∧ k' ≤ k + 1) :
    ∃ d, clampAdd n d k = k' ∧ (d = .z ↔ k' = k) := by
  rcases Nat.lt_trichotomy k' k with hlt | heq | hgt
  · exact ⟨.m, by simp only [clampAdd]; omega, by simp; omega⟩
  · exact ⟨.z, heq.symm, by simp [heq]⟩
  · exact ⟨.p, by simp only [clampAdd]; omega, by simp; omega⟩

theorem mem_window {n8 : Bool} {d : D × D} :
    d ∈ window n8 ↔ if n8 then ¬(d.1 = .z ∧ d.2 = .z) else (d.1 = .z ↔ ¬d.2 = .z) := by
  rcases d with ⟨_ | _ | _, _ | _ | _⟩ <;> cases n8 <;> simp [window, window8, window4]

theorem mem_gridNbrs {rows cols : Nat} {n8 : Bool} {p q : Cell} :
    q ∈ gridNbrs rows cols n8 p ↔
      ∃ d ∈ window n8, (clampAdd rows d.1 p.1, clampAdd cols d.2 p.2) = q := List.mem_map

theorem adj_iff {n8 : Bool} {p q : Cell} :
    Adj n8 p q ↔ (p.1 ≤ q.1 + 1 ∧ q.1 ≤ p.1 + 1) ∧ (p.2 ≤ q.2 + 1 ∧ q.2 ≤ p.2 + 1) ∧
      if n8 then ¬(q.1 = p.1 ∧ q.2 = p.2) else (q.1 = p.1 ↔ ¬q.2 = p.2) := by
  obtain ⟨y, x⟩ := p
  obtain ⟨y', x'⟩ := q
  cases n8 <;> simp only [Adj, ne_eq, Prod.mk.injEq, Bool.false_eq_true, if_false, if_true] <;> omega

theorem gridNbrs_closed (rows cols : Nat) (n8 : Bool) (p : Cell) (hp : p ∈ gridCells rows cols)
    (q : Cell) (hq : q ∈ gridNbrs rows cols n8 p) : q ∈ gridCells rows cols := by
  rw [mem_gridCells] at *
  obtain ⟨d, -, rfl⟩ := mem_gridNbrs.mp hq
  exact ⟨clampAdd_lt d.1 hp.1, clampAdd_lt d.2 hp.2⟩

theorem mem_gridNbrs_of_adj {rows cols : Nat} {n8 : Bool} {p q : Cell}
    (hq : q ∈ gridCells rows cols) (h : Adj n8 p q) :
    q ∈ gridNbrs rows cols n8 p := by
  rw [mem_gridCells] at hq
  obtain ⟨hy, hx, hc⟩ := adj_iff.mp h
  obtain ⟨dy, hdy, hzy⟩ := exists_clampAdd hq.1 hy
  obtain ⟨dx, hdx, hzx⟩ := exists_clampAdd hq.2 hx
  refine mem_gridNbrs.mpr ⟨(dy, dx), mem_window.mpr ?_, Prod.ext hdy hdx⟩
  show if n8 then ¬(dy = .z ∧ dx = .z) else (dy = .z ↔ ¬dx = .z)
  rw [hzy, hzx]
  exact hc

theorem adj_of_mem_gridNbrs {rows cols : Nat} {n8 : Bool} {p q : Cell}
    (hp : p ∈ gridCells rows cols) (hq : q ∈ gridNbrs rows cols n8 p) :
    q = p ∨ Adj n8 p q := by
  rw [mem_gridCells] at hp
  obtain ⟨d, hd, rfl⟩ := mem_gridNbrs.mp hq
  rw [mem_window] at hd
  by_cases hqp : (clampAdd rows d.1 p.1, clampAdd cols d.2 p.2) = p
  · exact Or.inl hqp
  refine Or.inr (adj_iff.mpr ⟨clampAdd_near d.1 hp.1, clampAdd_near d.2 hp.2, ?_⟩)
  rw [Prod.ext_iff] at hqp
  -- a clamped offset may stay in place, but `z` always does
  cases n8
  · by_cases hz : d.1 = .z
    · have h2 : clampAdd rows d.1 p.1 = p.1 := by rw [hz]; rfl
      exact ⟨fun _ h => hqp ⟨h2, h⟩, fun _ => h2⟩
    · have h2 : clampAdd cols d.2 p.2 = p.2 := by
        rw [show d.2 = .z from Decidable.not_not.mp fun h => hz (hd.mpr h)]; rfl
      exact ⟨fun h1 _ => hqp ⟨h1, h2⟩, fun h => absurd h2 h⟩
  · exact hqp

theorem regionsList_eq {V : Type} (rows cols : Nat) (n8 : Bool) (m : V → V → Bool)
    (data : Cell → Option V) :
    regionsList rows cols n8 m data = (gridCells rows cols).map (regions rows cols n8 m data) := rfl

section spec
variable {V : Type}

/-- one step of a path: `p`, `q` cells of the raster, 4- (8-) adjacent, both non-NaN, and the value
    of `q` is close to the value of `p` (`m` = the code's `isclose` with `p` as reference) -/
def Step (rows cols : Nat) (n8 : Bool) (m : V → V → Bool) (data : Cell → Option V) (p q : Cell) : Prop :=
  p ∈ gridCells rows cols ∧ q ∈ gridCells rows cols ∧ Adj n8 p q ∧
    ∃ v w, data p = some v ∧ data q = some w ∧ m v w = true

inductive Connected (rows cols : Nat) (n8 : Bool) (m : V → V → Bool) (data : Cell → Option V) :
    Cell → Cell → Prop
  | step {p q : Cell} : Step rows cols n8 m data p q → Connected rows cols n8 m data p q
  | refl (p : Cell) : p ∈ gridCells rows cols → Connected rows cols n8 m data p p
  | symm {p q : Cell} : Connected rows cols n8 m data p q → Connected rows cols n8 m data q p
  | trans {p q r : Cell} : Connected rows cols n8 m data p q → Connected rows cols n8 m data q r →
      Connected rows cols n8 m data p r

theorem Connected.mem {rows cols : Nat} {n8 : Bool} {m : V → V → Bool} {data : Cell → Option V}
    {p q : Cell} (h : Connected rows cols n8 m data p q) :
    p ∈ gridCells rows cols ∧ q ∈ gridCells rows cols := by
  induction h with
  | step h => exact ⟨h.1, h.2.1⟩
  | refl p hp => exact ⟨hp, hp⟩
  | symm _ ih => exact ⟨ih.2, ih.1⟩
  | trans _ _ ih1 ih2 => exact ⟨ih1.1, ih2.2⟩

theorem Conn.mem_iff {α : Type} {cells : List α} {nbrs : α → List α} {m : V → V → Bool}
    {data : α → Option V} (hclosed : ∀ p, p ∈ cells → ∀ q, q ∈ nbrs p → q ∈ cells) {p q : α}
    (h : Conn cells nbrs m data p q) : p ∈ cells ↔ q ∈ cells := by
  induction h with
  | link p q v hp hv hq hm => exact ⟨fun _ => hclosed p hp q hq, fun _ => hp⟩
  | refl p => exact Iff.rfl
  | symm _ ih => exact ih.symm
  | trans _ _ ih1 ih2 => exact ih1.trans ih2

theorem connected_of_conn {rows cols : Nat} {n8 : Bool} {m : V → V → Bool} {data : Cell → Option V}
    {p q : Cell} (h : Conn (gridCells rows cols) (gridNbrs rows cols n8) m data p q) :
    p ∈ gridCells rows cols → Connected rows cols n8 m data p q := by
  have hclosed := gridNbrs_closed rows cols n8
  induction h with
  | link p q v hp hv hq hm =>
    intro _
    rcases adj_of_mem_gridNbrs hp hq with h1 | h1
    · subst h1; exact Connected.refl _ hp
    · obtain ⟨w, hw, hmw⟩ := matched_some hm
      exact Connected.step ⟨hp, hclosed p hp q hq, h1, v, w, hv, hw, hmw⟩
  | refl p => intro hp; exact Connected.refl p hp
  | symm h ih => intro hq; exact Connected.symm (ih ((Conn.mem_iff hclosed h).mpr hq))
  | trans h1 h2 ih1 ih2 =>
    intro hp; exact Connected.trans (ih1 hp) (ih2 ((Conn.mem_iff hclosed h1).mp hp))

inductive ValuePath (rows cols : Nat) (n8 : Bool) (data : Cell → Option V) (v : V) : Cell → Cell → Prop
  | single (p : Cell) : data p = some v → ValuePath rows cols n8 data v p p
  | cons (p q r : Cell) : data p = some v → q ∈ gridCells rows cols → Adj n8 p q →
      ValuePath rows cols n8 data v q r → ValuePath rows cols n8 data v p r

theorem ValuePath.ends {rows cols : Nat} {n8 : Bool} {data : Cell → Option V} {v : V} {p q : Cell}
    (h : ValuePath rows cols n8 data v p q) : data p = some v ∧ data q = some v := by
  induction h with
  | single p hp => exact ⟨hp, hp⟩
  | cons p q r hp _ _ _ ih => exact ⟨hp, ih.2⟩

theorem ValuePath.trans {rows cols : Nat} {n8 : Bool} {data : Cell → Option V} {v : V} {p q r : Cell}
    (h1 : ValuePath rows cols n8 data v p q) (h2 : ValuePath rows cols n8 data v q r) :
    ValuePath rows cols n8 data v p r := by
  induction h1 with
  | single p hp => exact h2
  | cons p q' r' hp hq hadj _ ih => exact ValuePath.cons p q' r hp hq hadj (ih h2)

theorem ValuePath.symm {rows cols : Nat} {n8 : Bool} {data : Cell → Option V} {v : V} {p q : Cell}
    (h : ValuePath rows cols n8 data v p q) (hp : p ∈ gridCells rows cols) :
    ValuePath rows cols n8 data v q p := by
  induction h with
  | single p hp' => exact ValuePath.single p hp'
  | cons p q' r hdp hq hadj _ ih =>
    exact (ih hq).trans (ValuePath.cons q' p p (ValuePath.ends ‹_›).1 hp hadj.symm (ValuePath.single p hdp))

/-- for exact-equality matching, a chain of steps is a path of cells all holding one value -/
theorem valuePath_of_connected [DecidableEq V] {rows cols : Nat} {n8 : Bool} {data : Cell → Option V}
    {p q : Cell} (h : Connected rows cols n8 (fun a b => decide (a = b)) data p q) :
    ∀ v, (data p = some v ∨ data q = some v) →
      ValuePath rows cols n8 data v p q ∧ ValuePath rows cols n8 data v q p := by
  induction h with
  | step h =>
    intro v hv
    obtain ⟨hp, hq, hadj, v', w, hv', hw, hm⟩ := h
    have : v' = w := by simpa using hm
    subst this
    have : v' = v := by
      rcases hv with hv | hv
      · rw [hv'] at hv; cases hv; rfl
      · rw [hw] at hv; cases hv; rfl
    subst this
    exact ⟨ValuePath.cons _ _ _ hv' hq hadj (ValuePath.single _ hw),
           ValuePath.cons _ _ _ hw hp hadj.symm (ValuePath.single _ hv')⟩
  | refl p hp =>
    intro v hv
    have : data p = some v := by rcases hv with hv | hv <;> exact hv
    exact ⟨ValuePath.single p this, ValuePath.single p this⟩
  | symm _ ih => intro v hv; exact (ih v hv.symm).symm
  | trans _ _ ih1 ih2 =>
    intro v hv
    rcases hv with hv | hv
    · have a := ih1 v (Or.inl hv)
      have b := ih2 v (Or.inl a.1.ends.2)
      exact ⟨a.1.trans b.1, b.2.trans a.2⟩
    · have b := ih2 v (Or.inr hv)
      have a := ih1 v (Or.inr b.1.ends.1)
      exact ⟨a.1.trans b.1, b.2.trans a.2⟩

theorem connected_of_valuePath [DecidableEq V] {rows cols : Nat} {n8 : Bool} {data : Cell → Option V}
    {v : V} {p q : Cell} (h : ValuePath rows cols n8 data v p q) (hp : p ∈ gridCells rows cols) :
    Connected rows cols n8 (fun a b => decide (a = b)) data p q := by
  induction h with
  | single p _ => exact Connected.refl p hp
  | cons p q' r hdp hq hadj hrest ih =>
    exact Connected.trans (Connected.step ⟨hp, hq, hadj, v, v, hdp, hrest.ends.1, by simp⟩) (ih hq)

theorem regions_none {rows cols : Nat} {n8 : Bool} {m : V → V → Bool} {data : Cell → Option V} {p : Cell}
    (h : data p = none) : regions rows cols n8 m data p = none := by
  simp [regions, result, h]

theorem regions_some {rows cols : Nat} {n8 : Bool} {m : V → V → Bool} {data : Cell → Option V} {p : Cell} {v : V}
    (h : data p = some v) :
    regions rows cols n8 m data p = some (label (gridCells rows cols) (gridNbrs rows cols n8) m data p) := by
  simp [regions, result, h]

/-- cells joined by a chain of adjacent matching cells end with the same label (`m` symmetric) -/
theorem regions_complete {rows cols : Nat} {n8 : Bool} {m : V → V → Bool} {data : Cell → Option V}
    (hsym : ∀ a b, m a b = m b a) {p q : Cell} (h : Connected rows cols n8 m data p q) :
    regions rows cols n8 m data p = regions rows cols n8 m data q := by
  induction h with
  | step hs =>
    obtain ⟨hp', hq', hadj, v, w, hv, hw, hm⟩ := hs
    rw [regions_some hv, regions_some hw, complete_g (m := m) (data := data) (gridCells_nodup rows cols)
      (gridNbrs_closed rows cols n8) hp' hq' hv hw (mem_gridNbrs_of_adj hq' hadj)
      (mem_gridNbrs_of_adj hp' hadj.symm) hm (by rw [hsym]; exact hm)]
  | refl p _ => rfl
  | symm _ ih => exact ih.symm
  | trans _ _ ih1 ih2 => exact ih1.trans ih2

/-- two non-NaN cells with the same label are joined by a chain of adjacent matching cells -/
theorem regions_sound {rows cols : Nat} {n8 : Bool} {m : V → V → Bool} {data : Cell → Option V}
    {p q : Cell} (hp : p ∈ gridCells rows cols) (hdp : data p ≠ none)
    (h : regions rows cols n8 m data p = regions rows cols n8 m data q) :
    Connected rows cols n8 m data p q := by
  cases hdp' : data p with
  | none => exact absurd hdp' hdp
  | some v =>
    rw [regions_some hdp'] at h
    cases hdq : data q with
    | none => rw [regions_none hdq] at h; cases h
    | some w =>
      rw [regions_some hdq] at h
      exact connected_of_conn
        (sound_g (gridCells_nodup rows cols) (gridNbrs_closed rows cols n8) hp hdp (Option.some.inj h)) hp

theorem regions_iff_connected {rows cols : Nat} {n8 : Bool} {m : V → V → Bool} {data : Cell → Option V}
    (hsym : ∀ a b, m a b = m b a) {p q : Cell} (hp : p ∈ gridCells rows cols) (hdp : data p ≠ none) :
    regions rows cols n8 m data p = regions rows cols n8 m data q ↔ Connected rows cols n8 m data p q :=
  ⟨regions_sound hp hdp, regions_complete hsym⟩

end spec

end XrsVerif.Regions
