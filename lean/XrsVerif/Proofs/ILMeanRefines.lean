import XrsVerif.Proofs.ILMean
/-
  Proofs/ILMeanRefines.lean -- refinement (layer T3), part 2 for `Gen.IL.meanNumpy`: the clipped 3×3 window, the
  per-cell body, the raster loop and the whole program (`meanNumpy_refines`: the output is `meanOut`, flat and
  row-major).  The bridge to the nested-rows model `meanPass` / `meanIter` is in Proofs/ILMeanIter.lean.
-/
namespace XrsVerif.Focal
open XrsVerif XrsVerif.IL XrsVerif.ILVs XrsVerif.IL.Fc XrsVerif.Gen.Focal
set_option linter.unusedSectionVars false
variable {F : Type} [Fl F]

theorem red_eval_nanmean' (xs : List F) : RedOp.eval .nanmean xs = nanmean xs := red_eval_nanmean xs

theorem slice_copy (data excl : List F) (rows cols ne h w : Nat) (B L : Int) (fuel : Nat) (s : State F)
    (hs : s.ctl = .run) (hI : MInv data excl rows cols ne s) (shs : s.shp "slice1$a" = [h, w])
    (hlen : (s.fa "slice1$a").length = h * w) (vr0 : s.ienv "slice1$r0" = B) (vc0 : s.ienv "slice1$c0" = L)
    (hB0 : 0 ≤ B) (hB1 : B + h ≤ rows) (hL0 : 0 ≤ L) (hL1 : L + w ≤ cols) :
    let r := exec fuel stCopy s
    r.ctl = .run ∧ r.fa "slice1$a" = (pairs h w).map fun x => listArr data cols (B + (x.1 : Int)) (L + (x.2 : Int)) :=
  exec_for2_map fuel "slice1$i" "slice1$j" (.dim "slice1$a" 0) (.dim "slice1$a" 1) _ "slice1$a" h w
    (fun i j => listArr data cols (B + (i : Int)) (L + (j : Int))) s hs (by simp) (by simp [wI]) hlen
    (by simp [IE.ok, IE.eval, shs])
    (fun st hM => by simp [IE.ok, IE.eval, (hM.shp_eq ▸ shs : st.shp "slice1$a" = [h, w])])
    (fun st i j hi hj hc hM vi vj => by
      have hM : Mods ["slice1$i", "slice1$j"] [] [] [] ["slice1$a"] [] s st := hM
      have hI' := hI.of_mods hM (by decide)
      have r1 : inRange (i : Int) h = true := inRange_of_lt _ _ hi
      have r2 : inRange (j : Int) w = true := inRange_of_lt _ _ hj
      have r3 : inRange (B + (i : Int)) rows = true := inRange_of_nonneg_lt _ _ (by omega) (by omega)
      have r4 : inRange (L + (j : Int)) cols = true := inRange_of_nonneg_lt _ _ (by omega) (by omega)
      have o1 : off2 [h, w] (i : Int) (j : Int) = i * w + j := off2_nat _ _ _ _
      have o2 : off2 [rows, cols] (B + (i : Int)) (L + (j : Int)) = (B + (i : Int)).toNat * cols + (L + (j : Int)).toNat :=
        off2_nonneg _ _ _ _ (by omega) (by omega)
      simp [exec, IE.ok, IE.eval, iop_add, FE.ok, FE.eval, (hM.shp_eq ▸ shs : st.shp "slice1$a" = [h, w]), hI'.shd,
        hI'.fad, (hM.ienv "slice1$r0" (by simp)).trans vr0, (hM.ienv "slice1$c0" (by simp)).trans vc0, vi, vj, r1, r2, r3,
        r4, o1, o2, listArr, hc])

theorem pairs_slice (D : Arr F) (B T L R : Int) :
    (pairs (T - B).toNat (R - L).toNat).map (fun x => D (B + (x.1 : Int)) (L + (x.2 : Int))) = sliceCells D B T L R := by
  unfold pairs sliceCells intRange
  rw [List.map_flatMap, List.flatMap_map]
  apply List.flatMap_congr
  intro i _
  rw [List.map_map, List.map_map]
  rfl

theorem clip3 {p n : Nat} (hp : p < n) {lo hi : Int} (hlo : lo = max ((p : Int) - 1) 0) (hhi : hi = min ((p : Int) + 2) n) :
    0 ≤ lo ∧ lo + ((hi - lo).toNat : Int) ≤ n := by omega

def windowStart (s : State F) (B T L R : Int) : State F :=
  { s with
    ienv := setS (setS (setS (setS (setS (setS s.ienv "left" L) "right" R) "bottom" B) "top" T) "slice1$r0" B) "slice1$c0" L
    shp := setS s.shp "slice1$a" [(T - B).toNat, (R - L).toNat]
    fa := setS s.fa "slice1$a" (List.replicate ((T - B).toNat * (R - L).toNat) Fl.nan) }

theorem window_prefix (fuel : Nat) (s : State F) (p q rows cols : Nat) (hs : s.ctl = .run)
    (vy : s.ienv "y" = p) (vx : s.ienv "x" = q) (vrows : s.ienv "rows" = rows) (vcols : s.ienv "cols" = cols)
    (rest : St) :
    exec fuel
      (.seq (.setI "left" (.bin .max (.bin .sub (.var "x") (.lit 1)) (.lit 0)))
      (.seq (.setI "right" (.bin .min (.bin .add (.var "x") (.lit 2)) (.var "cols")))
      (.seq (.setI "bottom" (.bin .max (.bin .sub (.var "y") (.lit 1)) (.lit 0)))
      (.seq (.setI "top" (.bin .min (.bin .add (.var "y") (.lit 2)) (.var "rows")))
      (.seq (.setI "slice1$r0" (.var "bottom"))
      (.seq (.setI "slice1$c0" (.var "left"))
      (.seq (.allocF "slice1$a" [(.bin .max (.bin .sub (.var "top") (.var "slice1$r0")) (.lit 0)), (.bin .max (.bin .sub (.var "right") (.var "slice1$c0")) (.lit 0))] .nan)
      rest))))))) s =
    exec fuel rest (windowStart s (max ((p : Int) - 1) 0) (min ((p : Int) + 2) rows) (max ((q : Int) - 1) 0)
      (min ((q : Int) + 2) cols)) := by
  have hm : ∀ x : Int, (max x 0).toNat = x.toNat := fun x => by omega
  simp [exec_seq, exec_setI_def, exec_allocF_def, IE.ok, IE.eval, iop_max, iop_min, iop_sub, iop_add, FE.ok, FE.eval,
    setS_apply, hs, vy, vx, vrows, vcols, hm, windowStart]

theorem mean_window (data excl : List F) (rows cols ne : Nat) (fuel : Nat) (s : State F) (p q : Nat) (hs : s.ctl = .run)
    (hI : MInv data excl rows cols ne s) (vy : s.ienv "y" = p) (vx : s.ienv "x" = q) (hp : p < rows) (hq : q < cols) :
    let r := exec fuel stWindow s
    r.ctl = .run ∧
    r.fa "out" = (s.fa "out").set (p * cols + q)
      (nanmean (sliceCells (listArr data cols) (max ((p : Int) - 1) 0) (min ((p : Int) + 2) rows)
        (max ((q : Int) - 1) 0) (min ((q : Int) + 2) cols))) := by
  intro r
  simp only [r, stWindow]
  rw [window_prefix fuel s p q rows cols hs vy vx hI.vrows hI.vcols]
  obtain ⟨B, hB⟩ : ∃ B : Int, B = max ((p : Int) - 1) 0 := ⟨_, rfl⟩
  obtain ⟨T, hT⟩ : ∃ T : Int, T = min ((p : Int) + 2) rows := ⟨_, rfl⟩
  obtain ⟨L, hL⟩ : ∃ L : Int, L = max ((q : Int) - 1) 0 := ⟨_, rfl⟩
  obtain ⟨R, hR⟩ : ∃ R : Int, R = min ((q : Int) + 2) cols := ⟨_, rfl⟩
  rw [← hB, ← hT, ← hL, ← hR]
  have hI1 : MInv data excl rows cols ne (windowStart s B T L R) :=
    ⟨by simp [windowStart, setS, hI.shd], by simp [windowStart, setS, hI.she], by simp [windowStart, setS, hI.sho],
      by simp [windowStart, setS, hI.fad], by simp [windowStart, setS, hI.fae], by simp [windowStart, setS, hI.vrows],
      by simp [windowStart, setS, hI.vcols]⟩
  obtain ⟨hc8, hsl⟩ := slice_copy data excl rows cols ne (T - B).toNat (R - L).toNat B L fuel (windowStart s B T L R) hs hI1
    (by simp [windowStart]) (by simp [windowStart]) (by simp [windowStart, setS]) (by simp [windowStart])
    (clip3 hp hB hT).1 (clip3 hp hB hT).2 (clip3 hq hL hR).1 (clip3 hq hL hR).2
  rw [pairs_slice (listArr data cols) B T L R] at hsl
  have hM : Mods ["slice1$i", "slice1$j"] [] [] [] ["slice1$a"] [] (windowStart s B T L R) _ :=
    exec_frame fuel stCopy (windowStart s B T L R)
  rw [exec_seq_eq fuel _ _ _ _ rfl hc8]
  generalize exec fuel stCopy (_ : State F) = s8 at *
  have r1 : inRange (p : Int) rows = true := inRange_of_lt _ _ hp
  have r2 : inRange (q : Int) cols = true := inRange_of_lt _ _ hq
  have o1 : off2 [rows, cols] (p : Int) (q : Int) = p * cols + q := off2_nat _ _ _ _
  have v1 : s8.ienv "y" = p := (hM.ienv "y" (by simp)).trans (by simp [windowStart, setS, vy])
  have v2 : s8.ienv "x" = q := (hM.ienv "x" (by simp)).trans (by simp [windowStart, setS, vx])
  have v3 : s8.fa "out" = s.fa "out" := (hM.fa "out" (by simp)).trans (by simp [windowStart, setS])
  simp [il, (hI1.of_mods hM (by decide)).sho, v1, v2, v3, r1, r2, o1, red_eval_nanmean, hsl, hc8]

theorem mean_cell (data excl : List F) (rows cols ne : Nat) (fuel : Nat) (s : State F) (p q : Nat) (hs : s.ctl = .run)
    (hI : MInv data excl rows cols ne s) (vy : s.ienv "y" = p) (vx : s.ienv "x" = q) (hp : p < rows) (hq : q < cols) :
    let r := exec fuel stCellM s
    r.ctl = .run ∧
    r.fa "out" = (s.fa "out").set (p * cols + q) (meanCell (listArr data cols) rows cols excl (p : Int) (q : Int)) := by
  intro r
  have h1 : exec fuel (.setB "exclude" .ff) s = { s with benv := setS s.benv "exclude" false } := by
    simp [il]
  have hI1 : MInv data excl rows cols ne { s with benv := setS s.benv "exclude" false } :=
    ⟨hI.shd, hI.she, hI.sho, hI.fad, hI.fae, hI.vrows, hI.vcols⟩
  obtain ⟨c2, ex2⟩ := ex_loop data excl rows cols ne fuel { s with benv := setS s.benv "exclude" false } p q hs hI1
    vy vx hp hq (by simp)
  have hM := exec_frame fuel stExLoop { s with benv := setS s.benv "exclude" false }
  have hr : r = exec fuel (.ite (.not (.var "exclude")) stWindow stPass)
      (exec fuel stExLoop { s with benv := setS s.benv "exclude" false }) := by
    simp only [r, stCellM]
    rw [exec_seq_eq fuel _ _ _ _ h1 hs, exec_seq_eq fuel _ _ _ _ rfl c2]
  rw [hr]
  generalize exec fuel stExLoop (_ : State F) = s2 at *
  have hI2 : MInv data excl rows cols ne s2 := hI1.of_mods hM (by decide)
  have vy2 : s2.ienv "y" = p := by rw [hM.ienv_eq]; exact vy
  have vx2 : s2.ienv "x" = q := by rw [hM.ienv_eq]; exact vx
  have hout2 : s2.fa "out" = s.fa "out" := by rw [hM.fa_eq]
  have hmc : meanCell (listArr data cols) rows cols excl (p : Int) (q : Int) =
      if isExcluded excl (listArr data cols p q) = true then listArr data cols p q
      else nanmean (sliceCells (listArr data cols) (max ((p : Int) - 1) 0) (min ((p : Int) + 2) rows)
        (max ((q : Int) - 1) 0) (min ((q : Int) + 2) cols)) := by
    simp only [meanCell, mean_excluded_pass_through, if_true, mean_reducer, npReducer, mean_row_lo, mean_row_hi,
      mean_col_lo, mean_col_hi]
  rw [hmc]
  by_cases hex : isExcluded excl (listArr data cols p q) = true
  · rw [exec_ite_false fuel _ _ _ _ rfl (by simp [BE.eval, ex2, hex]), if_pos hex]
    have r1 : inRange (p : Int) rows = true := inRange_of_lt _ _ hp
    have r2 : inRange (q : Int) cols = true := inRange_of_lt _ _ hq
    have o1 : off2 [rows, cols] (p : Int) (q : Int) = p * cols + q := off2_nat _ _ _ _
    simp [il, stPass, hI2.sho, hI2.shd, hI2.fad, vy2, vx2, r1, r2, o1, listArr, hout2, c2]
  · rw [exec_ite_true fuel _ _ _ _ rfl (by simp [BE.eval, ex2, hex]), if_neg hex, ← hout2]
    exact mean_window data excl rows cols ne fuel s2 p q c2 hI2 vy2 vx2 hp hq

structure MeanInput (data excl : List F) (rows cols ne : Nat) (s : State F) : Prop where
  ctl : s.ctl = .run
  shd : s.shp "data" = [rows, cols]
  she : s.shp "excludes" = [ne]
  fad : s.fa "data" = data
  fae : s.fa "excludes" = excl

def meanOut (data excl : List F) (rows cols : Nat) : List F :=
  (allCells rows cols).map fun c => meanCell (listArr data cols) rows cols excl c.1 c.2

def meanStart (s : State F) (rows cols : Nat) : State F :=
  { s with
    ienv := setS (setS s.ienv "rows" (rows : Int)) "cols" (cols : Int)
    shp := setS s.shp "out" [rows, cols]
    fa := setS s.fa "out" (List.replicate (rows * cols) (Fl.lit 0 1)) }

theorem mean_prefix (fuel : Nat) (s : State F) (rows cols : Nat) (hs : s.ctl = .run) (hd : s.shp "data" = [rows, cols])
    (rest : St) :
    exec fuel
      (.seq (.allocF "out" [(.dim "data" 0), (.dim "data" 1)] (.lit 0 1))
      (.seq (.setI "rows" (.dim "data" 0))
      (.seq (.setI "cols" (.dim "data" 1)) rest))) s = exec fuel rest (meanStart s rows cols) := by
  simp [il, hs, hd, meanStart]

/-- **refinement.** the program generated from `_mean_numpy`, run on any raster (also empty, one row, one column) and
    any excludes list: ends with `return`, no out-of-range access, inputs unchanged, and `out` (raster shape) holds the
    hand model's `meanCell` at every cell: an excluded cell passed through, any other cell the one-pass NaN-ignoring mean
    of the 3×3 window clipped at the raster edge -/
theorem meanNumpy_refines (data excl : List F) (rows cols ne : Nat) (s : State F) (fuel : Nat)
    (hin : MeanInput data excl rows cols ne s) :
    let r := Gen.IL.meanNumpy.run s fuel
    r.ctl = .ret ∧ r.shp "out" = [rows, cols] ∧ r.fa "data" = data ∧ r.fa "excludes" = excl ∧
    r.fa "out" = meanOut data excl rows cols := by
  simp only [Prog.run, meanNumpy_body, meanBody, stRasterM]
  rw [mean_prefix fuel s rows cols hin.ctl hin.shd]
  have hI : MInv data excl rows cols ne (meanStart s rows cols) :=
    ⟨by simp [meanStart, setS, hin.shd], by simp [meanStart, setS, hin.she], by simp [meanStart],
      by simp [meanStart, setS, hin.fad], by simp [meanStart, setS, hin.fae], by simp [meanStart, setS],
      by simp [meanStart]⟩
  have hIn : ∀ st : State F, For2Mods "y" "x" stCellM (meanStart s rows cols) st → MInv data excl rows cols ne st :=
    fun st hM => hI.of_mods hM (by decide)
  obtain ⟨hc, hout⟩ := exec_for2_map fuel "y" "x" (.var "rows") (.var "cols") stCellM "out" rows cols
    (fun p q => meanCell (listArr data cols) rows cols excl (p : Int) (q : Int)) (meanStart s rows cols) hin.ctl
    (by decide) (by decide) (by simp [meanStart]) ⟨rfl, hI.vrows⟩ (fun st hM => ⟨rfl, (hIn st hM).vcols⟩)
    (fun st p q hp hq hc hM vy vx => mean_cell data excl rows cols ne fuel st p q hc (hIn st hM) vy vx hp hq)
  have hI' := hIn _ (exec_frame fuel stRasterM _)
  rw [exec_seq_eq fuel _ _ _ _ rfl hc, exec_ret]
  refine ⟨rfl, hI'.sho, hI'.fad, hI'.fae, hout.trans ?_⟩
  unfold meanOut
  rw [allCells_eq_pairs, List.map_map]
  rfl

def meanState (data excl : List F) (rows cols : Nat) : State F :=
  { (State.empty : State F) with
    fa := fun x => if x = "data" then data else if x = "excludes" then excl else []
    shp := fun x => if x = "data" then [rows, cols] else if x = "excludes" then [excl.length] else [] }

theorem meanState_input (data excl : List F) (rows cols : Nat) :
    MeanInput data excl rows cols excl.length (meanState data excl rows cols) :=
  ⟨rfl, by simp [meanState], by simp [meanState], by simp [meanState], by simp [meanState]⟩

end XrsVerif.Focal
