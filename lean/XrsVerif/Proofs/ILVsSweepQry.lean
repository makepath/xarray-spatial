import XrsVerif.Proofs.ILVsSweepCenter
import XrsVerif.Proofs.ILVsSweepRen
/-
  **The contract of the inlined `_max_grad_in_status_struct` discharged** (`qryContract`):
  the copy inside the generated sweep (`qryLoop`, cut out of `Gen.IL.vsSweep`) is the stand-alone program's body
  `Gen.IL.vsQuery.body` with its scalars renamed by the table `qryTbl` (prefix `_max_grad_in_status_struct101$`, inline
  counters shifted by 101) and its array parameters replaced by the sweep's arrays (`arrTbl`) -- `qryLoop_is_renaming`,
  checked by evaluation against the regenerated program -- so `exec_ren` / `exec_renA` carry `vsQuery_refines` over, and
  `exec_frame` gives the frame (the copy stores to no array and assigns only scalars with its own prefix).
-/
namespace XrsVerif.ILSw
open XrsVerif XrsVerif.IL XrsVerif.ILVs XrsVerif.Viewshed
variable {F : Type} [Fl F]

theorem qryContract : QryContract F qryLoop qP := by
  intro s fuel n sh hrun hv hL hN hroot hS hnf hfuel
  obtain ⟨n1, n2, n3, n4, n5, n6, n7⟩ := qry_names
  obtain ⟨w1, w2, w3, w4, w5⟩ := qryLoop_writes
  have hA := exec_renA (F := F) (swapT arrTbl) (inj_swapT _ arrTbl_ok) fuel (renS (swapT qryTbl) Gen.IL.vsQuery.body) s
  have hB := exec_ren (F := F) (swapT qryTbl) (inj_swapT _ qryTbl_ok) fuel Gen.IL.vsQuery.body (pullA (swapT arrTbl) s)
  rw [qryLoop_is_renaming] at hA
  rw [← hA] at hB
  generalize hs0 : pull (swapT qryTbl) (pullA (swapT arrTbl) s) = s0 at hB
  have e1 : s0.fa "tree_vals" = s.fa "status_values" := by rw [← hs0]; simp only [pull_fa, pullA_fa, n1]
  have e2 : s0.ia "tree_nodes" = s.ia "status_struct" := by rw [← hs0]; simp only [pull_ia, pullA_ia, n2]
  have e3 : s0.shp "tree_vals" = s.shp "status_values" := by rw [← hs0]; simp only [pull_shp, pullA_shp, n1]
  have e4 : s0.shp "tree_nodes" = s.shp "status_struct" := by rw [← hs0]; simp only [pull_shp, pullA_shp, n2]
  have e5 : s0.ienv "root" = s.ienv (qP ++ "root") := by rw [← hs0]; simp only [pull_ienv, pullA_ienv, n3]
  have e6 : s0.fenv "distance" = s.fenv (qP ++ "distance") := by rw [← hs0]; simp only [pull_fenv, pullA_fenv, n4]
  have e7 : s0.fenv "angle" = s.fenv (qP ++ "angle") := by rw [← hs0]; simp only [pull_fenv, pullA_fenv, n5]
  have e8 : s0.fenv "gradient" = s.fenv (qP ++ "gradient") := by rw [← hs0]; simp only [pull_fenv, pullA_fenv, n6]
  have hv0 : VS s0 n := ⟨by rw [e3]; exact hv.shpV, by rw [e4]; exact hv.shpN, by rw [e1]; exact hv.lenV,
    by rw [e2]; exact hv.lenN, hv.pos⟩
  have href := vsQuery_refines s0 fuel n hv0 (by rw [← hs0]; exact hrun) sh (by rw [e2]; exact hL) hN (by rw [e5]; exact hroot)
    (by rw [e1]; exact hS) (by rw [e1, e2, e6]; exact hnf) hfuel
  simp only [Prog.run] at href
  rw [← hB] at href
  obtain ⟨r1, r2, _, _⟩ := href
  rw [e1, e2, e6, e7, e8] at r2
  have hfr := exec_frame fuel qryLoop s
  generalize hs' : exec fuel qryLoop s = s' at hfr r1 r2
  have c1 : s'.ctl = .ret := r1
  have c2 := r2
  simp only [pull_fenv, pullA_fenv, n7] at c2
  have a1 : s'.ia = s.ia := by funext a; exact hfr.ia a (by rw [w1]; simp)
  have a2 : s'.fa = s.fa := by funext a; exact hfr.fa a (by rw [w2]; simp)
  have a3 : s'.shp = s.shp := by funext a; exact hfr.shp a (by rw [w3]; simp)
  refine ⟨s'.ienv, s'.fenv, s'.benv, ?_, c2, ?_, ?_⟩
  · rw [exec_scope, hs', if_pos c1]
    obtain ⟨ie, fe, be, ia, fa, shp, ext, ctl⟩ := s'
    obtain ⟨ie0, fe0, be0, ia0, fa0, shp0, ext0, ctl0⟩ := s
    simp only at a1 a2 a3 hrun
    have := hfr.ext
    simp only at this
    subst a1 a2 a3 hrun this
    rfl
  · intro v hp
    refine hfr.ienv v (fun hm => ?_)
    have := List.all_eq_true.mp w4 v hm
    rw [hp] at this; exact absurd this (by simp)
  · intro v hp
    refine hfr.fenv v (fun hm => ?_)
    have := List.all_eq_true.mp w5 v hm
    rw [hp] at this; exact absurd this (by simp)

end XrsVerif.ILSw
