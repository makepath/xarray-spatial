import XrsVerif.Proofs.ILVsSweepEv
import XrsVerif.Proofs.ILVsVang
import XrsVerif.Proofs.ILViewshedQuery
/-
  One CENTER event of the generated sweep: the inlined `_max_grad_in_status_struct` as a
  black box with the contract `QryContract` (= what `vsQuery_refines` proves of the stand-alone `Gen.IL.vsQuery`), the test
  `max <= status_node[TN_GRAD_1]`, and the visibility write (`visWrite_exec`: `_get_vertical_ang` + `_set_visibility`).
-/
namespace XrsVerif.ILSw
open XrsVerif XrsVerif.IL XrsVerif.ILVs XrsVerif.Viewshed
variable {F : Type} [Fl F]

/-- **contract of an inlined `_max_grad_in_status_struct`** (locals prefixed `P`): what `vsQuery_refines` proves of the
    stand-alone program `Gen.IL.vsQuery`, stated for the copy inside the sweep (arrays `status_values` / `status_struct`):
    on arrays holding a well-linked tree it returns the model's two-phase query of the abstracted tree, writes no array
    and no scalar outside its own prefix -/
def QryContract (F : Type) [Fl F] (qry : St) (P : String) : Prop :=
  ∀ (s : State F) (fuel n : Nat) (sh : Sh), s.ctl = .run → SVS s n →
    Linked (s.ia "status_struct") n (-1) sh → sh.idxs.Nodup → s.ienv (P ++ "root") = sh.ptr →
    vAt (s.fa "status_values") (n - 1) 7 = smallest →
    (∀ nd ∈ predsOf (absT (s.fa "status_values") (s.ia "status_struct") sh) ⟨s.fenv (P ++ "distance")⟩,
      ¬ (⟨s.fenv (P ++ "distance")⟩ : Fv F) < nd.key) →
    sh.size + sh.height + 2 ≤ fuel →
    ∃ ie' fe' be', exec fuel (.scope qry) s = { s with ienv := ie', fenv := fe', benv := be' } ∧
      fe' (P ++ "ret0") = (queryP smallest (absT (s.fa "status_values") (s.ia "status_struct") sh)
        ⟨s.fenv (P ++ "distance")⟩ ⟨s.fenv (P ++ "angle")⟩ ⟨s.fenv (P ++ "gradient")⟩).v ∧
      (∀ v, P.isPrefixOf v = false → ie' v = s.ienv v) ∧ (∀ v, P.isPrefixOf v = false → fe' v = s.fenv v)

/-- **the visibility write**: with a positive key the inlined `_get_vertical_ang` + `_set_visibility` store the vertical angle
    `vangF vp_elev key (elev + target)` into `visibility_grid[status_row, status_col]`, provided the closing assertion
    `vert_ang >= 0` holds for that value; nothing else in the grid changes -/
theorem visWrite_exec (s : State F) (fuel h w ne : Nat) (r c k : Nat) (e0 e1 e2 e3 e4 e5 e6 : F) {vg : List F} {a2 ve vt : F}
    (hs : s.ctl = .run) (shV : s.shp "visibility_grid" = [h, w]) (shN : s.shp "status_node" = [7])
    (hE : s.fa "status_node" = [e0, e1, e2, e3, e4, e5, e6]) (shA : s.shp "event_aes" = [ne, 4]) (hk : k < ne)
    (hrow : s.ienv "status_row" = r) (hcol : s.ienv "status_col" = c) (hr : r < h) (hc : c < w) (hae : s.ienv "row$e_ae" = k)
    (hvg : s.fa "visibility_grid" = vg) (ha2 : aeAt s k 2 = a2) (hve : s.fenv "vp_elev" = ve) (hvt : s.fenv "vp_target" = vt)
    (hpos : Fl.lt (Fl.lit 0 1) (Fl.abs e0) = true) (hge : Fl.le (Fl.lit 0 1) (vangF ve e0 (Fl.add a2 vt)) = true) :
    ∃ ie' fe', exec fuel visWrite s = ⟨ie', fe', s.benv, s.ia,
      setS s.fa "visibility_grid" (vg.set (r * w + c) (vangF ve e0 (Fl.add a2 vt))), s.shp, s.ext, .run⟩ ∧
      (∀ v ∈ swLiveI, ie' v = s.ienv v) ∧ (∀ v ∈ swLiveF, fe' v = s.fenv v) := by
  subst hvg ha2 hve hvt
  obtain ⟨ie, fe, be, ia, fa, shp, ext, ctl⟩ := s
  simp only at hs shV shN hE shA hrow hcol hae hpos hge; subst hs
  have hvb := fun s h1 h2 => (vangBody_exec (F := F) "_get_vertical_ang108$" s fuel h1).1 h2
  have ik : inRange (k : Int) ne = true := inRange_of_lt k ne hk
  have o42 : off2 [ne, 4] (k : Int) (2 : Int) = k * 4 + 2 := off2_nat ne 4 k 2
  have ir : inRange (r : Int) h = true := inRange_of_lt r h hr
  have ic : inRange (c : Int) w = true := inRange_of_lt c w hc
  have orc : off2 [h, w] (r : Int) (c : Int) = r * w + c := off2_nat h w r c
  simp [aeAt] at hge
  simp [visWrite, ae, exec, IE.ok, IE.eval, FE.ok, FE.eval, BE.ok, BE.eval, CmpOp.eval, BinOp.eval, shV, shN, shA, hE, hrow, hcol, hae,
    setS_apply, ik, o42, inRange_of_nonneg_lt, off1_nonneg, ir, ic, orc, hvb, hpos, vangEnv, hge, aeAt]
  refine ⟨?_, ?_⟩
  · apply swLiveI_all <;> simp
  · apply swLiveF_all <;> simp

theorem swLive_qP : (∀ v ∈ swLiveI, qP.isPrefixOf v = false) ∧ (∀ v ∈ swLiveF, qP.isPrefixOf v = false) ∧
    ∀ v ∈ ["status_row", "status_col", "row$e_ae"], qP.isPrefixOf v = false := by
  decide +kernel

/-- **one CENTER event, after the common prefix** (the query a black box with contract `QryContract`): the status structure is
    queried with the cell's key, the event's bearing and the cell's centre gradient; `mx` is the model's two-phase query of
    the abstracted tree.  If `mx <= gradient` the cell is visible and its vertical angle is written into
    `visibility_grid[status_row, status_col]`; otherwise the grid is untouched.  No other array changes. -/
theorem centerBranch_exec (hq : QryContract F qryLoop qP) (s : State F) (fuel n h w ne : Nat) (sh : Sh) (r c k : Nat)
    (key g1 e1 e3 e4 e5 e6 : F) {T : Viewshed.Tree (Fv F)} {vg : List F} {a0 a2 ve vt : F} (hs : s.ctl = .run) (hv : SVS s n)
    (hL : Linked (s.ia "status_struct") n (-1) sh) (hN : sh.idxs.Nodup) (hroot : s.ienv "root" = sh.ptr)
    (hS : vAt (s.fa "status_values") (n - 1) 7 = smallest)
    (hT : absT (s.fa "status_values") (s.ia "status_struct") sh = T)
    (hnf : ∀ nd ∈ predsOf T ⟨key⟩, ¬ (⟨key⟩ : Fv F) < nd.key)
    (hfuel : sh.size + sh.height + 2 ≤ fuel)
    (shV : s.shp "visibility_grid" = [h, w]) (shN : s.shp "status_node" = [7])
    (hE : s.fa "status_node" = [key, e1, g1, e3, e4, e5, e6]) (shA : s.shp "event_aes" = [ne, 4]) (hk : k < ne)
    (hrow : s.ienv "status_row" = r) (hcol : s.ienv "status_col" = c) (hr : r < h) (hc : c < w) (hae : s.ienv "row$e_ae" = k)
    (hvg : s.fa "visibility_grid" = vg) (ha0 : aeAt s k 0 = a0) (ha2 : aeAt s k 2 = a2)
    (hve : s.fenv "vp_elev" = ve) (hvt : s.fenv "vp_target" = vt)
    (hpos : Fl.lt (Fl.lit 0 1) (Fl.abs key) = true)
    (hge : Fl.le (Fl.lit 0 1) (vangF ve key (Fl.add a2 vt)) = true) :
    let mx := (queryP smallest T ⟨key⟩ ⟨a0⟩ ⟨g1⟩).v
    ∃ ie' fe' be', exec fuel (centerBranch qryLoop) s = ⟨ie', fe', be', s.ia,
      setS s.fa "visibility_grid" (if Fl.le mx g1 = true then vg.set (r * w + c) (vangF ve key (Fl.add a2 vt)) else vg),
      s.shp, s.ext, .run⟩ ∧
      (∀ v ∈ swLiveI, ie' v = s.ienv v) ∧ (∀ v ∈ swLiveF, fe' v = s.fenv v) := by
  subst hT hvg ha0 ha2 hve hvt
  intro mx
  obtain ⟨ie, fe, be, ia, fa, shp, ext, ctl⟩ := s
  simp only at hs hv hL hN hroot hS hnf shV shN hE shA hrow hcol hae hge; subst hs
  have ik : inRange (k : Int) ne = true := inRange_of_lt k ne hk
  have o40 : off2 [ne, 4] (k : Int) (0 : Int) = k * 4 + 0 := off2_nat ne 4 k 0
  -- the state handed to the query
  let s1 : State F := ⟨setS ie "_max_grad_in_status_struct101$root" (ie "root"),
    setS (setS (setS fe "_max_grad_in_status_struct101$distance" key) "_max_grad_in_status_struct101$angle"
      ((fa "event_aes").getD (k * 4 + 0) Fl.nan)) "_max_grad_in_status_struct101$gradient" g1, be, ia, fa, shp, ext, .run⟩
  obtain ⟨ie2, fe2, be2, hex, hret, hfi, hff⟩ := hq s1 fuel n sh rfl ⟨hv.shpV, hv.shpN, hv.lenV, hv.lenN, hv.pos⟩ hL hN
    (by simp [s1, qP, hroot]) hS (by simpa [s1, qP, setS_apply] using hnf) hfuel
  simp [s1, qP, setS_apply] at hex hret
  have li : ∀ v ∈ swLiveI, ie2 v = ie v := fun v hv => by
    rw [hfi v (swLive_qP.1 v hv)]
    revert v
    apply swLiveI_all <;> simp [s1, setS_apply]
  have lf : ∀ v ∈ swLiveF, fe2 v = fe v := fun v hv => by
    rw [hff v (swLive_qP.2.1 v hv)]
    revert v
    apply swLiveF_all <;> simp [s1, setS_apply]
  have lm : ∀ v ∈ swLiveF, setS fe2 "max" (fe2 "_max_grad_in_status_struct101$ret0") v = fe v := fun v hv => by
    rw [← lf v hv]
    revert v
    apply swLiveF_all <;> simp [setS_apply]
  simp only [centerBranch]
  generalize hQ : St.scope qryLoop = Q at hex ⊢
  by_cases hvis : Fl.le mx g1 = true
  · have hvis' : Fl.le (fe2 "_max_grad_in_status_struct101$ret0") g1 = true := by rw [hret]; exact hvis
    simp [exec, IE.ok, IE.eval, FE.ok, FE.eval, BE.ok, BE.eval, CmpOp.eval, shN, shA, hE, hae, setS_apply, ae, ik, o40, inRange_of_nonneg_lt, off1_nonneg,
      hex, hvis', hvis]
    have e_row : ie2 "status_row" = r := by rw [hfi _ (swLive_qP.2.2 _ (by simp))]; simpa [s1, setS_apply] using hrow
    have e_col : ie2 "status_col" = c := by rw [hfi _ (swLive_qP.2.2 _ (by simp))]; simpa [s1, setS_apply] using hcol
    have e_ae : ie2 "row$e_ae" = k := by rw [hfi _ (swLive_qP.2.2 _ (by simp))]; simpa [s1, setS_apply] using hae
    obtain ⟨ie3, fe3, h3, l1, l2⟩ := visWrite_exec
      ⟨ie2, setS fe2 "max" (fe2 "_max_grad_in_status_struct101$ret0"), be2, ia, fa, shp, ext, .run⟩ fuel h w ne r c k key e1 g1 e3 e4 e5 e6
      rfl shV shN hE shA hk e_row e_col hr hc e_ae rfl rfl (lm "vp_elev" (by simp [swLiveF])) (lm "vp_target" (by simp [swLiveF])) hpos hge
    refine ⟨ie3, fe3, ⟨be2, h3⟩, ?_, ?_⟩
    · intro v hv
      rw [l1 v hv]
      exact li v hv
    · exact fun v hv => (l2 v hv).trans (lm v hv)
  · have hvis' : ¬ Fl.le (fe2 "_max_grad_in_status_struct101$ret0") g1 = true := by rw [hret]; exact hvis
    simp [exec, IE.ok, IE.eval, FE.ok, FE.eval, BE.ok, BE.eval, CmpOp.eval, shN, shA, hE, hae, setS_apply, ae, ik, o40, inRange_of_nonneg_lt, off1_nonneg,
      hex, hvis', hvis, setS_self]
    refine ⟨?_, ?_⟩
    · exact li
    · exact lm

/-- **one iteration of the event loop for a CENTER event** (in terms of the inlined query as a black box): the node buffer
    gets the cell's key and centre gradient; the status structure is queried at the event's bearing; if the answer `mx`
    (the model's two-phase query of the tree held by the arrays) is `<=` the gradient, the vertical angle of the cell is
    written into the visibility grid, otherwise the grid is untouched.  The status structure, the idle stack, the event
    arrays are unchanged. -/
theorem evBody_center (hq : QryContract F qryLoop qP) (ins del : St) (s : State F) (fuel n h w ne : Nat) (sh : Sh) (r c k : Nat)
    (inv : EvInv s ne k) (hv : SVS s n)
    (hL : Linked (s.ia "status_struct") n (-1) sh) (hN : sh.idxs.Nodup) (hroot : s.ienv "root" = sh.ptr)
    (hS : vAt (s.fa "status_values") (n - 1) 7 = smallest) (shV : s.shp "visibility_grid" = [h, w])
    (hr0 : rctAt s k 0 = r) (hc0 : rctAt s k 1 = c) (hty : rctAt s k 2 = 0) (hr : r < h) (hc : c < w)
    (hfuel : sh.size + sh.height + 2 ≤ fuel) :
    let key := keyF (r : Int) (c : Int) (s.ienv "vp_row") (s.ienv "vp_col") (s.fenv "ew_res") (s.fenv "ns_res")
    let g1 := gradCellF (r : Int) (c : Int) (Fl.add (aeAt s k 2) (s.fenv "vp_target")) (s.ienv "vp_row") (s.ienv "vp_col")
      (s.fenv "vp_elev") (s.fenv "ew_res") (s.fenv "ns_res")
    let mx := (queryP smallest (absT (s.fa "status_values") (s.ia "status_struct") sh) ⟨key⟩ ⟨aeAt s k 0⟩ ⟨g1⟩).v
    (∀ nd ∈ predsOf (absT (s.fa "status_values") (s.ia "status_struct") sh) ⟨key⟩, ¬ (⟨key⟩ : Fv F) < nd.key) →
    Fl.lt (Fl.lit 0 1) (Fl.abs key) = true →
    Fl.le (Fl.lit 0 1) (vangF (s.fenv "vp_elev") key (Fl.add (aeAt s k 2) (s.fenv "vp_target"))) = true →
    ∃ ie' fe' be', exec fuel (evBody ins del qryLoop) s = ⟨ie', fe', be', s.ia,
      setS (setS s.fa "status_node" [key, Fl.nan, g1, Fl.nan, Fl.nan, Fl.nan, Fl.nan]) "visibility_grid"
        (if Fl.le mx g1 = true then (s.fa "visibility_grid").set (r * w + c)
          (vangF (s.fenv "vp_elev") key (Fl.add (aeAt s k 2) (s.fenv "vp_target"))) else s.fa "visibility_grid"),
      s.shp, s.ext, .run⟩ ∧
      (∀ v ∈ swLiveI, ie' v = s.ienv v) ∧ (∀ v ∈ swLiveF, fe' v = s.fenv v) := by
  intro key g1 mx hnf hpos hge
  obtain ⟨ie1, fe1, hex, p1, p2, _, p5, p6, p7⟩ := evBody_branch ins del qryLoop s fuel ne k inv
  rw [hty, if_neg (by decide), if_neg (by decide), if_pos rfl, hr0, hc0] at hex
  rw [hr0] at p1
  rw [hc0] at p2
  have q_rt : ie1 "root" = s.ienv "root" := p6 _ (by simp [swLiveI])
  have q_ve : fe1 "vp_elev" = s.fenv "vp_elev" := p7 _ (by simp [swLiveF])
  have q_vt : fe1 "vp_target" = s.fenv "vp_target" := p7 _ (by simp [swLiveF])
  have hfa : ∀ a, a ≠ "status_node" →
      setS s.fa "status_node" [key, Fl.nan, g1, Fl.nan, Fl.nan, Fl.nan, Fl.nan] a = s.fa a := fun a h => setS_other _ _ _ _ h
  have hsv := hfa "status_values" (by simp)
  have hea := hfa "event_aes" (by simp)
  obtain ⟨ie2, fe2, be2, h2, l1, l2⟩ := centerBranch_exec hq
    ⟨ie1, fe1, s.benv, s.ia, setS s.fa "status_node" [key, Fl.nan, g1, Fl.nan, Fl.nan, Fl.nan, Fl.nan], s.shp, s.ext, .run⟩
    fuel n h w ne sh r c k key g1 Fl.nan Fl.nan Fl.nan Fl.nan Fl.nan rfl
    ⟨hv.shpV, hv.shpN, (congrArg List.length hsv).trans hv.lenV, hv.lenN, hv.pos⟩ hL hN (q_rt.trans hroot)
    ((congrArg (vAt · (n - 1) 7) hsv).trans hS) (congrArg (absT · (s.ia "status_struct") sh) hsv) hnf hfuel shV inv.shN
    (setS_same s.fa "status_node" _) inv.shA inv.hk p1 p2 hr hc p5 (hfa "visibility_grid" (by simp))
    (congrArg (·.getD (k * 4 + 0) Fl.nan) hea) (congrArg (·.getD (k * 4 + 2) Fl.nan) hea) q_ve q_vt hpos hge
  exact ⟨ie2, fe2, be2, hex.trans h2, fun v hv => (l1 v hv).trans (p6 v hv), fun v hv => (l2 v hv).trans (p7 v hv)⟩
end XrsVerif.ILSw
