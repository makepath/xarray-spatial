import XrsVerif.Proofs.ILVsSweepEv
import XrsVerif.Proofs.ILViewshedBase
/-
  One EXIT event of the generated sweep: the inlined `_delete_from_tree` as a black box with
  the contract `DelContract` (the hand model's `delCore` up to rebalancing), then `_push(idle, deleted)`.
-/
namespace XrsVerif.ILSw
open XrsVerif XrsVerif.IL XrsVerif.ILVs XrsVerif.Viewshed
variable {F : Type} [Fl F]

/-- **contract of an inlined `_delete_from_tree`** (locals prefixed `P`; what the hand model's `delCore` followed by the
    colour fixup does, `Rebal`): the key being in the tree, the arrays afterwards hold a well-linked tree whose abstraction is
    the model's deletion up to rebalancing, one row -- returned as `ret1` -- is no longer used, `ret0` is the new root -/
def DelContract (F : Type) [Fl F] (del : St) (P : String) : Prop :=
  ∀ (s : State F) (fuel n : Nat) (sh : Sh), s.ctl = .run → SVS s n →
    Linked (s.ia "status_struct") n (-1) sh → sh.idxs.Nodup → s.ienv (P ++ "root") = sh.ptr →
    vAt (s.fa "status_values") (n - 1) 7 = smallest →
    (absT (s.fa "status_values") (s.ia "status_struct") sh).contains ⟨s.fenv (P ++ "key")⟩ = true →
    2 * sh.height + sh.size + 4 ≤ fuel →
    ∃ (s' : State F) (sh' : Sh) (d : Nat), exec fuel (.scope del) s = s' ∧ TreeFrame P s s' ∧ SVS s' n ∧
      Linked (s'.ia "status_struct") n (-1) sh' ∧ sh'.idxs.Nodup ∧ s'.ienv (P ++ "ret0") = sh'.ptr ∧
      s'.ienv (P ++ "ret1") = d ∧ d ∈ sh.idxs ∧ sh'.idxs.Perm (sh.idxs.erase d) ∧
      vAt (s'.fa "status_values") (n - 1) 7 = smallest ∧
      ∃ c, delCore smallest ⟨s.fenv (P ++ "key")⟩ (absT (s.fa "status_values") (s.ia "status_struct") sh) = some c ∧
        Rebal smallest c (absT (s'.fa "status_values") (s'.ia "status_struct") sh')

theorem swLive_dP : (∀ v ∈ swLiveI, dP.isPrefixOf v = false) ∧ (∀ v ∈ swLiveF, dP.isPrefixOf v = false) := by
  decide +kernel

/-- **one EXIT event, after the common prefix** (the deletion a black box with contract `DelContract`): the node with the
    cell's key is deleted -- the arrays then hold the model's `delCore` of the tree up to rebalancing -- `root` is updated
    and the freed row is pushed onto the idle stack -/
theorem exitBranch_exec (hd : DelContract F delLoop dP) (s : State F) (fuel n : Nat) (sh : Sh)
    (key e1 e2 e3 e4 e5 e6 : F) (top : Nat) (hs : s.ctl = .run) (hv : SVS s n)
    (hL : Linked (s.ia "status_struct") n (-1) sh) (hN : sh.idxs.Nodup) (hroot : s.ienv "root" = sh.ptr)
    (hS : vAt (s.fa "status_values") (n - 1) 7 = smallest)
    (hin : (absT (s.fa "status_values") (s.ia "status_struct") sh).contains ⟨key⟩ = true)
    (hfuel : 2 * sh.height + sh.size + 4 ≤ fuel) (shN : s.shp "status_node" = [7])
    (hE : s.fa "status_node" = [key, e1, e2, e3, e4, e5, e6]) (shI : s.shp "idle" = [n]) (lenI : (s.ia "idle").length = n)
    (htop : (s.ia "idle").getD 0 0 = top) (htn : top + 1 < n) :
    ∃ (s' : State F) (sh' : Sh) (d : Nat), exec fuel (exitBranch delLoop) s = s' ∧ s'.ctl = .run ∧ SVS s' n ∧
      Linked (s'.ia "status_struct") n (-1) sh' ∧ sh'.idxs.Nodup ∧ s'.ienv "root" = sh'.ptr ∧
      d ∈ sh.idxs ∧ sh'.idxs.Perm (sh.idxs.erase d) ∧ vAt (s'.fa "status_values") (n - 1) 7 = smallest ∧
      (∃ c, delCore smallest ⟨key⟩ (absT (s.fa "status_values") (s.ia "status_struct") sh) = some c ∧
        Rebal smallest c (absT (s'.fa "status_values") (s'.ia "status_struct") sh')) ∧
      s'.ia "idle" = ((s.ia "idle").set 0 ((top : Int) + 1)).set (top + 1) (d : Int) ∧
      (∀ a, a ≠ "status_values" → s'.fa a = s.fa a) ∧ (∀ a, a ≠ "status_struct" → a ≠ "idle" → s'.ia a = s.ia a) ∧
      s'.shp = s.shp ∧ (∀ v ∈ swLiveI, v ≠ "root" → s'.ienv v = s.ienv v) ∧ (∀ v ∈ swLiveF, s'.fenv v = s.fenv v) := by
  obtain ⟨ie, fe, be, ia, fa, shp, ext, ctl⟩ := s
  simp only at hs hv hL hN hroot hS hin shN hE shI lenI htop; subst hs
  let s1 : State F := ⟨setS ie "_delete_from_tree64$root" (ie "root"), setS fe "_delete_from_tree64$key" key, be, ia, fa, shp, ext, .run⟩
  obtain ⟨s2, sh', d, hex, fr, hv2, hL2, hN2, hr0, hr1, hd1, hperm, hS2, hmodel⟩ := hd s1 fuel n sh rfl
    ⟨hv.shpV, hv.shpN, hv.lenV, hv.lenN, hv.pos⟩ hL hN (by simp [s1, dP, hroot]) hS
    (by simpa [s1, dP, setS_apply] using hin) hfuel
  simp only [exitBranch]
  have h12 : exec fuel (.seq (.setI "_delete_from_tree64$root" (.var "root")) (.setF "_delete_from_tree64$key" (.ld1 "status_node" (.lit 0))))
      (⟨ie, fe, be, ia, fa, shp, ext, .run⟩ : State F) = s1 := by
    simp [exec, IE.ok, IE.eval, FE.ok, FE.eval, shN, hE, inRange_lit, off1_lit7, s1]
  rw [exec_seq_assoc, exec_seq_eq _ _ _ _ _ h12 rfl, exec_seq_eq _ _ _ _ _ hex fr.ctl]
  obtain ⟨hc2, hsh2, hext2, hfa2, hia2, hie2, hfe2⟩ := fr
  obtain ⟨ie2, fe2, be2, ia2, fa2, shp2, ext2, ctl2⟩ := s2
  simp only at hc2 hsh2 hext2 hfa2 hia2 hie2 hfe2 hv2 hL2 hN2 hr0 hr1 hS2 hmodel; subst hc2 hsh2 hext2
  have hidle : ia2 "idle" = ia "idle" := by rw [hia2 _ (by simp)]
  have i0 : inRange (0 : Int) n = true := inRange_of_lt 0 n (by omega)
  have o0 : off1 [n] (0 : Int) = 0 := off1_nat n 0
  have htop' : (ia "idle")[0]?.getD 0 = (top : Int) := by simpa using htop
  have it : inRange ((top : Int) + 1) n = true := by
    have := inRange_of_lt (top + 1) n htn; simpa using this
  have ot : off1 [n] ((top : Int) + 1) = top + 1 := by
    have := off1_nat n (top + 1); simpa using this
  have hset : ((ia "idle").set 0 ((top : Int) + 1))[0]?.getD 0 = (top : Int) + 1 := by
    have : 0 < (ia "idle").length := by omega
    simp [this]
  simp [exec, IE.ok, IE.eval, IOp.eval, shI, hidle, i0, o0, htop', it, ot, setS_apply, dP, hset, setS_setS] at hr0 hr1 ⊢
  refine ⟨⟨hv2.shpV, hv2.shpN, hv2.lenV, by simpa [setS_apply] using hv2.lenN, hv2.pos⟩, sh', hL2, hN2, hr0, d, hd1, hperm, hS2,
    ?_, ?_, hfa2, ?_, ?_, ?_⟩
  · obtain ⟨c, hc1, hc2⟩ := hmodel
    exact ⟨c, by simpa [s1, dP, setS_apply] using hc1, hc2⟩
  · rw [hr1]
  · intro a h1 h2; simp [h2]; exact hia2 a h1
  · have h : ∀ v ∈ swLiveI, ie v = ie2 v := fun v hv => by
      rw [hie2 v (swLive_dP.1 v hv)]
      revert v
      apply swLiveI_all <;> simp [s1, setS_apply]
    intro v hv hne
    rw [h v hv]
    revert v
    apply swLiveI_all <;> simp
  · intro v hv
    rw [hfe2 v (swLive_dP.2 v hv)]
    revert v
    apply swLiveF_all <;> simp [s1, setS_apply]

/-- **one iteration of the event loop for an EXIT event** (the deletion a black box with contract `DelContract`): the node
    with the key of the event's cell is deleted from the status structure -- the model's `delCore` up to rebalancing -- and
    its row is pushed onto the idle stack; the visibility grid and the event arrays are unchanged -/
theorem evBody_exit (hd : DelContract F delLoop dP) (ins qry : St) (s : State F) (fuel n ne : Nat) (sh : Sh) (k top : Nat)
    (inv : EvInv s ne k) (hv : SVS s n)
    (hL : Linked (s.ia "status_struct") n (-1) sh) (hN : sh.idxs.Nodup) (hroot : s.ienv "root" = sh.ptr)
    (hS : vAt (s.fa "status_values") (n - 1) 7 = smallest) (hty : rctAt s k 2 = -1)
    (shI : s.shp "idle" = [n]) (lenI : (s.ia "idle").length = n) (htop : (s.ia "idle").getD 0 0 = top) (htn : top + 1 < n)
    (hfuel : 2 * sh.height + sh.size + 4 ≤ fuel) :
    let key := keyF (rctAt s k 0) (rctAt s k 1) (s.ienv "vp_row") (s.ienv "vp_col") (s.fenv "ew_res") (s.fenv "ns_res")
    (absT (s.fa "status_values") (s.ia "status_struct") sh).contains ⟨key⟩ = true →
    ∃ (s' : State F) (sh' : Sh) (d : Nat), exec fuel (evBody ins delLoop qry) s = s' ∧ s'.ctl = .run ∧ SVS s' n ∧
      Linked (s'.ia "status_struct") n (-1) sh' ∧ sh'.idxs.Nodup ∧ s'.ienv "root" = sh'.ptr ∧
      d ∈ sh.idxs ∧ sh'.idxs.Perm (sh.idxs.erase d) ∧ vAt (s'.fa "status_values") (n - 1) 7 = smallest ∧
      (∃ c, delCore smallest ⟨key⟩ (absT (s.fa "status_values") (s.ia "status_struct") sh) = some c ∧
        Rebal smallest c (absT (s'.fa "status_values") (s'.ia "status_struct") sh')) ∧
      s'.ia "idle" = ((s.ia "idle").set 0 ((top : Int) + 1)).set (top + 1) (d : Int) ∧
      s'.fa "visibility_grid" = s.fa "visibility_grid" ∧ s'.fa "event_aes" = s.fa "event_aes" ∧
      s'.ia "event_rcts" = s.ia "event_rcts" ∧ s'.shp = s.shp ∧
      (∀ v ∈ swLiveI, v ≠ "root" → s'.ienv v = s.ienv v) ∧ (∀ v ∈ swLiveF, s'.fenv v = s.fenv v) := by
  intro key hin
  obtain ⟨ie1, fe1, hex, _, _, _, _, p6, p7⟩ := evBody_branch ins delLoop qry s fuel ne k inv
  rw [hex, hty, if_neg (by decide), if_pos rfl]
  have q_rt : ie1 "root" = s.ienv "root" := p6 _ (by simp [swLiveI])
  obtain ⟨s', sh', d, e1, c1, c2, c3, c4, c5, c6, c7, c8, c9, c10, c11, c12, c13, c14, c15⟩ := exitBranch_exec hd
    ⟨ie1, fe1, s.benv, s.ia, setS s.fa "status_node" [key, Fl.nan,
      gradCellF (rctAt s k 0) (rctAt s k 1) (Fl.add (aeAt s k 2) (s.fenv "vp_target")) (s.ienv "vp_row") (s.ienv "vp_col")
        (s.fenv "vp_elev") (s.fenv "ew_res") (s.fenv "ns_res"), Fl.nan, Fl.nan, Fl.nan, Fl.nan], s.shp, s.ext, .run⟩
    fuel n sh key Fl.nan (gradCellF (rctAt s k 0) (rctAt s k 1) (Fl.add (aeAt s k 2) (s.fenv "vp_target")) (s.ienv "vp_row") (s.ienv "vp_col")
        (s.fenv "vp_elev") (s.fenv "ew_res") (s.fenv "ns_res")) Fl.nan Fl.nan Fl.nan Fl.nan top rfl ⟨hv.shpV, hv.shpN, by simpa [setS_apply] using hv.lenV, hv.lenN, hv.pos⟩ hL hN
    (q_rt.trans hroot) (by simpa [setS_apply] using hS) (by simpa [setS_apply] using hin) hfuel inv.shN (by simp)
    shI lenI htop htn
  simp only [setS_apply] at c9 c11 c12 c13 c14 c15
  refine ⟨s', sh', d, e1, c1, c2, c3, c4, c5, c6, c7, c8, ?_, c10, ?_, ?_, c12 _ (by simp) (by simp), c13, ?_, ?_⟩
  · simpa [setS_apply] using c9
  · rw [c11 _ (by simp)]; simp
  · rw [c11 _ (by simp)]; simp
  · intro v hv hne; exact (c14 v hv hne).trans (p6 v hv)
  · intro v hv; exact (c15 v hv).trans (p7 v hv)
end XrsVerif.ILSw
