import XrsVerif.Proofs.ILViewshedHeap
import XrsVerif.Model.ViewshedFix
/-
  `_delete_from_tree` up to the colour fix-up, *in the form the code has it*: after
  the splice, four passes over the ancestors of the spliced-out node `y` (innermost first):

    L1   while the ancestor's stored maximum equals `minv y`: recompute it from its children, else stop;
    F1   recompute `y`'s parent (or `x`, `y`'s only child, when `y` was the root);
    C    (successor case) `z` gets `y`'s content, its maximum is recomputed;
    L2   (successor case) every ancestor of `z`: the tie test, or raised to the child's maximum.

  * model level: the passes over a tree zipper (`List (TFr α)`), with the code's operand orders and the code's `==`
    as a parameter `eqf` -- `delPassT`; generic in the number type (NaN, ±0, ties included).  That this is the hand
    model's one-pass recursion `del` / `ancestor` (Model/Viewshed.lean) over a linear order is
    `delPassT_eq_delCore` (Proofs/ILViewshedDelModel.lean).  With the search for the key, the choice of the spliced-out
    node and the colour fix-up in front and behind: `rbDeleteP`, `_delete_from_tree` as a function on model trees;
  * array level: `scanArr` = a pass that walks up a context and overwrites the stored maximum of each frame row with a
    value computed from the current arrays; `absCtx_scanArr_above`: its abstraction is the model-level pass `scanT`, the
    frames below its start untouched.
-/
set_option linter.unusedSectionVars false
namespace XrsVerif.ILVs
open XrsVerif XrsVerif.IL XrsVerif.Viewshed Function

section model
variable {α : Type} [LT α] [DecidableLT α] [LE α] [DecidableLE α]

/-- the recomputation of the loops L1 / L2: `if left > right: m = left else: m = right; if minv > m: m = minv` -/
def TFr.recompL (S : α) (cm : α) (fr : TFr α) : α :=
  mx2 (minv fr.nd) (mx2 (fr.kids S cm).1 (fr.kids S cm).2)

/-- the recomputation of F1 / C: `tmp = max(left, right); if tmp > minv: m = tmp else: m = minv` -/
def TFr.recompF (S : α) (cm : α) (fr : TFr α) : α :=
  mx2 (mx2 (fr.kids S cm).1 (fr.kids S cm).2) (minv fr.nd)

/-- a pass up the zipper: `step cm fr` = the new maximum of the frame's node (`cm` the current maximum of the
    child below), `none` = the pass stops (`break`) -/
def scanT (step : α → TFr α → Option α) : α → List (TFr α) → List (TFr α)
  | _, [] => []
  | cm, fr :: rest =>
    match step cm fr with
    | none => fr :: rest
    | some m => fr.setMx m :: scanT step m rest

def l1Step (eqf : α → α → Bool) (S : α) (yv : α) (cm : α) (fr : TFr α) : Option α :=
  if eqf fr.mx yv then some (fr.recompL S cm) else none

def l2Step (eqf : α → α → Bool) (S : α) (zg xpr : α) (cm : α) (fr : TFr α) : Option α :=
  some (if eqf fr.mx zg then
      (if !(eqf (minv fr.nd) zg) && !(eqf (fr.kids S cm).1 zg && eqf xpr zg) then fr.recompL S cm else fr.mx)
    else (if fr.mx < cm then cm else fr.mx))

/-- passes C and L2: `j` frames up sits `z`; it gets `y`'s content `yn` and a recomputed maximum, then L2 runs
    over its ancestors (`cm` = the current maximum of the child below) -/
def cl2T (eqf : α → α → Bool) (S : α) (yn : Node α) (xpr : α) : Nat → α → List (TFr α) → List (TFr α)
  | _, _, [] => []
  | 0, cm, zf :: above =>
    let m := (zf.setNd yn).recompF S cm
    (zf.setNd yn).setMx m :: scanT (l2Step eqf S (minv zf.nd) xpr) m above
  | j + 1, _, fr :: rest => fr :: cl2T eqf S yn xpr j fr.mx rest

/-- the maximum stored at the right child of `x`'s parent after the splice (`x_parent_right` of loop L2) -/
def xprOf (S : α) (xT : Tree α) : List (TFr α) → α
  | [] => S
  | .L _ _ _ r :: _ => mxOf S r
  | .R _ _ _ _ :: _ => mxOf S xT

/-- loop L1 and the recomputation F1: `x`'s subtree and the ancestors of `y` afterwards -/
def l1f1T (eqf : α → α → Bool) (S : α) (xT : Tree α) (yn : Node α) (frames : List (TFr α)) : Tree α × List (TFr α) :=
  match scanT (l1Step eqf S (minv yn)) (mxOf S xT) frames with
  | [] => (refresh S xT, [])
  | f :: rest => (xT, f.setMx (f.recompF S (mxOf S xT)) :: rest)

/-- **`_delete_from_tree` after the splice, up to the colour fix-up**: `xT` = the subtree of `x` (the only child of
    the spliced-out node `y`), `yn` = `y`'s content, `frames` = the ancestors of `y` (innermost first),
    `jz = some j` when `z ≠ y` sits `j` frames up.  Returns `x`'s subtree and the ancestors afterwards. -/
def delPassT (eqf : α → α → Bool) (S : α) (xT : Tree α) (yn : Node α) (frames : List (TFr α)) (jz : Option Nat) :
    Tree α × List (TFr α) :=
  match jz with
  | none => l1f1T eqf S xT yn frames
  | some j =>
    ((l1f1T eqf S xT yn frames).1,
      cl2T eqf S yn (xprOf S xT (l1f1T eqf S xT yn frames).2) j (mxOf S xT) (l1f1T eqf S xT yn frames).2)

theorem cl2T_append (eqf : α → α → Bool) (S : α) (yn : Node α) (xpr : α) : ∀ (below : List (TFr α)) (cm : α)
    (zf : TFr α) (above : List (TFr α)),
    cl2T eqf S yn xpr below.length cm (below ++ zf :: above) =
      below ++ ((zf.setNd yn).setMx ((zf.setNd yn).recompF S (lastMx cm below))) ::
        scanT (l2Step eqf S (minv zf.nd) xpr) ((zf.setNd yn).recompF S (lastMx cm below)) above := by
  intro below
  induction below with
  | nil => intro cm zf above; rfl
  | cons fr rest ih =>
    intro cm zf above
    simp only [List.length_cons, List.cons_append, cl2T, lastMx, ih]

theorem scanT_length (step : α → TFr α → Option α) : ∀ (frs : List (TFr α)) (cm : α),
    (scanT step cm frs).length = frs.length := by
  intro frs
  induction frs with
  | nil => intro cm; rfl
  | cons fr rest ih =>
    intro cm
    simp only [scanT]
    split
    · rfl
    · simp [ih]

theorem l1f1T_scan_cons (eqf : α → α → Bool) (S : α) (xT : Tree α) (yn : Node α) (f0 : TFr α) (fs : List (TFr α)) :
    ∃ f rs, scanT (l1Step eqf S (minv yn)) (mxOf S xT) (f0 :: fs) = f :: rs ∧
      l1f1T eqf S xT yn (f0 :: fs) = (xT, f.setMx (f.recompF S (mxOf S xT)) :: rs) := by
  unfold l1f1T
  simp only [scanT]
  split
  · exact ⟨_, _, rfl, rfl⟩
  · exact ⟨_, _, rfl, rfl⟩

theorem l1f1T_fst (eqf : α → α → Bool) (S : α) (xT : Tree α) (yn : Node α) (frames : List (TFr α)) (hne : frames ≠ []) :
    (l1f1T eqf S xT yn frames).1 = xT := by
  obtain ⟨f0, fs, rfl⟩ := List.exists_cons_of_ne_nil hne
  obtain ⟨f, rs, _, h⟩ := l1f1T_scan_cons eqf S xT yn f0 fs
  rw [h]

/-- the search for the key on a model tree: the node found and its ancestors (innermost first) -/
def findTZ (K : α) : Tree α → List (TFr α) → Option (Tree α × Node α × α × Bool × Tree α × List (TFr α))
  | .nil, _ => none
  | .node l n mx c r, acc =>
    if K < n.key then findTZ K l (.L n mx c r :: acc)
    else if n.key < K then findTZ K r (.R l n mx c :: acc)
    else some (l, n, mx, c, r, acc)

/-- the leftmost node of `.node l n mx c r` below `acc`: content, colour, right subtree, ancestors -/
def leftmostTZ : Tree α → Node α → α → Bool → Tree α → List (TFr α) → Node α × Bool × Tree α × List (TFr α)
  | .nil, n, _, c, r, acc => (n, c, r, acc)
  | .node a b bm bc cc, n, mx, c, r, acc => leftmostTZ a b bm bc cc (.L n mx c r :: acc)

/-- the position at which the deletion works: (`x`'s subtree, `y`'s content, `y` red, the ancestors of `y`, the
    number of frames between `y` and `z`) -/
def splicePosT (l : Tree α) (n : Node α) (mx : α) (c : Bool) (r : Tree α) (acc : List (TFr α)) :
    Tree α × Node α × Bool × List (TFr α) × Option Nat :=
  match l, r with
  | .nil, r => (r, n, c, acc, none)
  | .node a b bm bc cc, .nil => (.node a b bm bc cc, n, c, acc, none)
  | .node a b bm bc cc, .node rl m mm mc rr =>
    ((leftmostTZ rl m mm mc rr (.R (.node a b bm bc cc) n mx c :: acc)).2.2.1,
     (leftmostTZ rl m mm mc rr (.R (.node a b bm bc cc) n mx c :: acc)).1,
     (leftmostTZ rl m mm mc rr (.R (.node a b bm bc cc) n mx c :: acc)).2.1,
     (leftmostTZ rl m mm mc rr (.R (.node a b bm bc cc) n mx c :: acc)).2.2.2,
     some ((leftmostTZ rl m mm mc rr (.R (.node a b bm bc cc) n mx c :: acc)).2.2.2.length - (acc.length + 1)))

/-- the deletion at a found position: the four passes, then the fix-up when `y` was black and `x` is a node -/
def rbDeleteAt (eqf : α → α → Bool) (S : α) (P : Tree α × Node α × Bool × List (TFr α) × Option Nat) : Tree α :=
  if !P.2.2.1 && !(isNil P.1) then
    rbDelFix S (P.2.2.2.1.map TFr.dir)
      (plugT (delPassT eqf S P.1 P.2.1 P.2.2.2.1 P.2.2.2.2).1 (delPassT eqf S P.1 P.2.1 P.2.2.2.1 P.2.2.2.2).2)
  else plugT (delPassT eqf S P.1 P.2.1 P.2.2.2.1 P.2.2.2.2).1 (delPassT eqf S P.1 P.2.1 P.2.2.2.1 P.2.2.2.2).2

/-- **`_delete_from_tree` on a model tree, as the code has it**; `none` = the key is absent (the code raises) -/
def rbDeleteP (eqf : α → α → Bool) (S K : α) (t : Tree α) : Option (Tree α) :=
  (findTZ K t []).map fun p => rbDeleteAt eqf S (splicePosT p.1 p.2.1 p.2.2.1 p.2.2.2.1 p.2.2.2.2.1 p.2.2.2.2.2)

end model

section arrays
variable {F : Type} [Fl F]

/-- the code's `==` on stored numbers -/
def feq (a b : Fv F) : Bool := Fl.eq a.v b.v

/-- a pass up a context: the stored maximum of each frame row is overwritten with `step` of the current maximum
    of the child below (pointer `c`) and the frame read off the current arrays -/
def scanArr (step : Fv F → TFr (Fv F) → Option (Fv F)) (n : Nat) (N : List Int) : List F → Int → Ctx → List F
  | V, _, [] => V
  | V, c, fr :: rest =>
    match step (mxAt V n c) (absFr V N fr) with
    | none => V
    | some m => scanArr step n N (V.set (fr.idx * 8 + 7) m.v) (fr.idx : Int) rest

theorem scanArr_length (step : Fv F → TFr (Fv F) → Option (Fv F)) (n : Nat) (N : List Int) : ∀ (ctx : Ctx) (V : List F) (c : Int),
    (scanArr step n N V c ctx).length = V.length := by
  intro ctx
  induction ctx with
  | nil => intro V c; rfl
  | cons fr rest ih =>
    intro V c
    simp only [scanArr]
    split
    · rfl
    · rw [ih]; simp

theorem heapOf_scanArr (step : Fv F → TFr (Fv F) → Option (Fv F)) (n : Nat) (N : List Int) : ∀ (ctx : Ctx) (V : List F) (c : Int),
    V.length = n * 8 → (∀ fr ∈ ctx, fr.idx + 1 < n) → ∀ i,
    nodeAt (scanArr step n N V c ctx) i = nodeAt V i ∧
      (i ∉ ctx.map Fr.idx → heapOf (scanArr step n N V c ctx) N i = heapOf V N i) := by
  intro ctx
  induction ctx with
  | nil => intro V c _ _ i; exact ⟨rfl, fun _ => rfl⟩
  | cons fr rest ih =>
    intro V c hlen hlt i
    simp only [scanArr]
    split
    · exact ⟨rfl, fun _ => rfl⟩
    · rename_i m _
      have e := heapOf_setMx V N n fr.idx m hlen (by have := hlt fr List.mem_cons_self; omega)
      obtain ⟨h1, h2⟩ := ih (V.set (fr.idx * 8 + 7) m.v) (fr.idx : Int) (by simp [hlen])
        (fun f hf => hlt f (List.mem_cons_of_mem _ hf)) i
      have hrow := congrFun e i
      refine ⟨h1.trans ?_, fun hi => ?_⟩
      · by_cases hif : i = fr.idx
        · rw [hif, update_self] at hrow; exact hif ▸ congrArg Row.nd hrow
        · rw [update_of_ne hif] at hrow; exact congrArg Row.nd hrow
      · simp only [List.map_cons, List.mem_cons, not_or] at hi
        rw [h2 hi.2, hrow, update_of_ne hi.1]

theorem absT_scanArr (step : Fv F → TFr (Fv F) → Option (Fv F)) (n : Nat) (N : List Int) (ctx : Ctx) (V : List F) (c : Int)
    (sub : Sh) (hlen : V.length = n * 8) (hlt : ∀ fr ∈ ctx, fr.idx + 1 < n) (hd : ∀ i ∈ sub.idxs, i ∉ ctx.map Fr.idx) :
    absT (scanArr step n N V c ctx) N sub = absT V N sub :=
  absT_frame sub fun i hi => congrArg Row.dat ((heapOf_scanArr step n N ctx V c hlen hlt i).2 (hd i hi))

/-- **a pass on the arrays is the pass on the zipper**; the frames below the start of the pass keep their abstraction -/
theorem absCtx_scanArr_above (step : Fv F → TFr (Fv F) → Option (Fv F)) (n : Nat) (N : List Int) : ∀ (above pre : Ctx)
    (V : List F) (c : Int), (ctxIdxs (pre ++ above)).Nodup → V.length = n * 8 → (∀ i ∈ ctxIdxs above, i + 1 < n) →
    absCtx (scanArr step n N V c above) N (pre ++ above) =
      absCtx V N pre ++ scanT step (mxAt V n c) (absCtx V N above) := by
  intro above
  induction above with
  | nil => intro pre V c _ _ _; simp [scanArr, scanT, absCtx]
  | cons fr rest ih =>
    intro pre V c hnd hlen hlt
    rw [absCtx_cons]
    simp only [scanArr, scanT]
    cases hstep : step (mxAt V n c) (absFr V N fr) with
    | none => simp only []; rw [absCtx_append, absCtx_cons]
    | some m =>
      simp only []
      have e := heapOf_setMx V N n fr.idx m hlen (by have := hlt fr.idx (by rw [ctxIdxs_cons]; simp); omega)
      have hmx : mxAt (V.set (fr.idx * 8 + 7) m.v) n (fr.idx : Int) = m := by
        have := congrArg Row.mx (congrFun e fr.idx)
        rw [update_self] at this
        simp only [mxAt, rowOf_nat]; exact this
      have ih' := ih (pre ++ [fr]) (V.set (fr.idx * 8 + 7) m.v) (fr.idx : Int)
        (by rw [List.append_assoc, List.singleton_append]; exact hnd) (by simp [hlen])
        (fun i hi => hlt i (by rw [ctxIdxs_cons]; simp [hi]))
      rw [ctxIdxs_append, ctxIdxs_cons] at hnd
      obtain ⟨_, hnd2, hdis⟩ := List.nodup_append.mp hnd
      have hfr := (List.nodup_cons.mp hnd2).1
      -- the write leaves the frames below and above alone
      rw [List.append_assoc, List.singleton_append, hmx, absCtx_append _ N pre [fr], absCtx_update e pre (fun h => hdis _ h _ (by simp) rfl),
        absCtx_update e rest (fun h => hfr (by simp [h])), absCtx_cons,
        absFr_update_mx fr e (fun h => hfr (by simp [h])), List.append_assoc] at ih'
      exact ih'

theorem absCtx_scanArr (step : Fv F → TFr (Fv F) → Option (Fv F)) (n : Nat) (N : List Int) (ctx : Ctx) (V : List F) (c : Int)
    (hnd : (ctxIdxs ctx).Nodup) (hlen : V.length = n * 8) (hlt : ∀ i ∈ ctxIdxs ctx, i + 1 < n) :
    absCtx (scanArr step n N V c ctx) N ctx = scanT step (mxAt V n c) (absCtx V N ctx) :=
  absCtx_scanArr_above step n N ctx [] V c hnd hlen hlt

end arrays
end XrsVerif.ILVs
