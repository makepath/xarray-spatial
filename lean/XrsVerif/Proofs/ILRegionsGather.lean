import XrsVerif.Proofs.ILRegionsDefs
import XrsVerif.Proofs.Regions
/-
  Proofs/ILRegionsGather.lean -- step 1 of the refinement of `Gen.IL.areaConnectivity`: the window-gathering block.

  `exec_gather`: in a state at cell `(y, x)` of a `rows × cols` raster, with `n = 8` (resp. `n = 4`), the block
  `if n == 8: src_window[0] = data[max(y-1,0), max(x-1,0)] … else: …` leaves everything alone except that afterwards
  `src_window = (gridNbrs rows cols n8 (y, x)).map (data at ·)` and `area_window = (gridNbrs …).map (out at ·)`:
  the k-th entry is the value at the k-th clamped neighbour of the model's neighbour list.  No read is out of range.
-/
namespace XrsVerif.IL.Rg
open XrsVerif XrsVerif.IL XrsVerif.Regions
open XrsVerif.ILVs (seqL exec_seqL_cons)
variable {F : Type} [Fl F]
set_option linter.unusedSectionVars false

theorem cidx_ok (v lim : String) (d : D) (s : State F) : (cidx v lim d).ok s = true := by
  cases d <;> simp [cidx, cm, cp, IE.ok]

theorem cidx_eval (v lim : String) (d : D) (s : State F) (k n : Nat) (hv : s.ienv v = (k : Int))
    (hl : s.ienv lim = (n : Int)) (h : k < n) : (cidx v lim d).eval s = ((clampAdd n d k : Nat) : Int) := by
  cases d <;> simp only [cidx, cm, cp, IE.eval, IOp.eval, hv, hl, clampAdd] <;> split <;> omega

section put
variable {α : Type}

/-- `l[k + i] := vals[i]` -/
def putFrom (l : List α) : Nat → List α → List α
  | _, [] => l
  | k, v :: vs => putFrom (l.set k v) (k + 1) vs

theorem putFrom_snoc (l : List α) (k : Nat) (vs : List α) (v : α) :
    putFrom l k (vs ++ [v]) = (putFrom l k vs).set (k + vs.length) v := by
  induction vs generalizing l k with
  | nil => rfl
  | cons a vs ih => simp only [List.cons_append, putFrom, ih, List.length_cons]; congr 1; omega

theorem putFrom_append (pre l vs : List α) (h : vs.length = l.length) :
    putFrom (pre ++ l) pre.length vs = pre ++ vs := by
  induction vs generalizing pre l with
  | nil => rw [List.eq_nil_of_length_eq_zero h.symm]; rfl
  | cons v vs ih =>
    cases l with
    | nil => simp at h
    | cons a l =>
      have := ih (pre ++ [v]) l (by simpa using h)
      simp only [List.length_append, List.length_cons, List.length_nil, List.append_assoc, List.cons_append,
        List.nil_append] at this
      rw [putFrom, List.set_append_right _ _ (Nat.le_refl _), Nat.sub_self, List.set_cons_zero]
      exact this

theorem putFrom_all (l vs : List α) (h : vs.length = l.length) : putFrom l 0 vs = vs :=
  putFrom_append [] l vs h

end put

def pos (cols : Nat) (c : Cell) : Nat := c.1 * cols + c.2

def at_ (cols : Nat) (A : List F) (c : Cell) : F := A.getD (pos cols c) Fl.nan

theorem exec_stores (fuel : Nat) (dst src : String) (hne : src ≠ dst) (rows cols n y x : Nat) (hy : y < rows) (hx : x < cols)
    (w : List (D × D)) (more : List St) (k0 : Nat) (s : State F)
    (hrun : s.ctl = .run) (hyv : s.ienv "y" = (y : Int)) (hxv : s.ienv "x" = (x : Int))
    (hrv : s.ienv "rows" = (rows : Int)) (hcv : s.ienv "cols" = (cols : Int))
    (hsrc : s.shp src = [rows, cols]) (hdst : s.shp dst = [n]) (hk : k0 + w.length ≤ n) :
    exec fuel (seqL (stores dst src w k0 ++ more)) s =
      exec fuel (seqL more)
        { s with
          fa := setS s.fa dst
                  (putFrom (s.fa dst) k0
                    (w.map fun d => at_ cols (s.fa src) (clampAdd rows d.1 y, clampAdd cols d.2 x))) } := by
  induction w generalizing k0 s with
  | nil =>
    simp only [stores, List.nil_append, List.map_nil, putFrom, setS_self]
  | cons d w ih =>
    simp only [List.length_cons] at hk
    have hey := cidx_eval "y" "rows" d.1 s y rows hyv hrv hy
    have hex := cidx_eval "x" "cols" d.2 s x cols hxv hcv hx
    have h1 := clampAdd_lt d.1 hy
    have h2 := clampAdd_lt d.2 hx
    have hst : exec fuel (.stF1 dst (.lit (k0 : Int)) (.ld2 src (cidx "y" "rows" d.1) (cidx "x" "cols" d.2))) s =
        { s with
          fa := setS s.fa dst ((s.fa dst).set k0
                  (at_ cols (s.fa src) (clampAdd rows d.1 y, clampAdd cols d.2 x))) } := by
      rw [exec_stF1_def]
      simp only [IE.ok, FE.ok, FE.eval, IE.eval, cidx_ok, hey, hex, hsrc, hdst, List.length_cons,
        List.length_nil, List.getD_cons_zero, List.getD_cons_succ, decide_true, Bool.and_true,
        inRange_of_lt _ _ h1, inRange_of_lt _ _ h2, inRange_of_lt k0 n (by omega), off2_nat, off1_nat, if_true,
        at_, pos]
    simp only [stores, List.cons_append]
    rw [exec_seqL_cons, hst, if_pos (by exact hrun)]
    refine (ih (k0 + 1) _ (by exact hrun) (by exact hyv) (by exact hxv) (by exact hrv) (by exact hcv)
      (by exact hsrc) (by exact hdst) (by omega)).trans ?_
    have hs : setS s.fa dst ((s.fa dst).set k0 (at_ cols (s.fa src) (clampAdd rows d.1 y, clampAdd cols d.2 x))) src
        = s.fa src := setS_other _ _ _ _ hne
    simp only [hs, setS_same, setS_setS, List.map_cons, putFrom]

theorem gridNbrs_eq (rows cols : Nat) (n8 : Bool) (c : Cell) :
    gridNbrs rows cols n8 c = (window n8).map fun d => (clampAdd rows d.1 c.1, clampAdd cols d.2 c.2) := rfl

theorem exec_gatherW (fuel : Nat) (rows cols n y x : Nat) (hy : y < rows) (hx : x < cols)
    (w : List (D × D)) (hw : w.length = n) (s : State F)
    (hrun : s.ctl = .run) (hyv : s.ienv "y" = (y : Int)) (hxv : s.ienv "x" = (x : Int))
    (hrv : s.ienv "rows" = (rows : Int)) (hcv : s.ienv "cols" = (cols : Int))
    (hd : s.shp "data" = [rows, cols]) (ho : s.shp "out" = [rows, cols])
    (hsw : s.shp "src_window" = [n]) (haw : s.shp "area_window" = [n])
    (hsl : (s.fa "src_window").length = n) (hal : (s.fa "area_window").length = n) :
    exec fuel (gatherW w) s =
      { s with
        fa := setS (setS s.fa "src_window"
                (w.map fun d => at_ cols (s.fa "data") (clampAdd rows d.1 y, clampAdd cols d.2 x))) "area_window"
                (w.map fun d => at_ cols (s.fa "out") (clampAdd rows d.1 y, clampAdd cols d.2 x)) } := by
  unfold gatherW
  rw [exec_stores fuel "src_window" "data" (by simp) rows cols n y x hy hx w _ 0 s hrun hyv hxv hrv hcv hd hsw
    (by omega)]
  have := exec_stores fuel "area_window" "out" (by simp) rows cols n y x hy hx w [] 0
    { s with
      fa := setS s.fa "src_window"
              (putFrom (s.fa "src_window") 0
                (w.map fun d => at_ cols (s.fa "data") (clampAdd rows d.1 y, clampAdd cols d.2 x))) }
    hrun hyv hxv hrv hcv ho haw (by omega)
  simp only [List.append_nil] at this
  rw [this]
  simp only [seqL, exec_skip]
  rw [putFrom_all _ _ (by simp [hw, hsl])]
  have h1 : setS s.fa "src_window" (w.map fun d => at_ cols (s.fa "data") (clampAdd rows d.1 y, clampAdd cols d.2 x))
      "area_window" = s.fa "area_window" := setS_other _ _ _ _ (by simp)
  have h2 : setS s.fa "src_window" (w.map fun d => at_ cols (s.fa "data") (clampAdd rows d.1 y, clampAdd cols d.2 x))
      "out" = s.fa "out" := setS_other _ _ _ _ (by simp)
  rw [h1, h2, putFrom_all _ _ (by simp [hw, hal])]

theorem exec_gather (fuel : Nat) (rows cols n y x : Nat) (hn : n = 4 ∨ n = 8) (hy : y < rows) (hx : x < cols)
    (s : State F) (hrun : s.ctl = .run) (hyv : s.ienv "y" = (y : Int)) (hxv : s.ienv "x" = (x : Int))
    (hrv : s.ienv "rows" = (rows : Int)) (hcv : s.ienv "cols" = (cols : Int)) (hnv : s.ienv "n" = (n : Int))
    (hd : s.shp "data" = [rows, cols]) (ho : s.shp "out" = [rows, cols])
    (hsw : s.shp "src_window" = [n]) (haw : s.shp "area_window" = [n])
    (hsl : (s.fa "src_window").length = n) (hal : (s.fa "area_window").length = n) :
    exec fuel gather s =
      { s with
        fa := setS (setS s.fa "src_window"
                ((gridNbrs rows cols (decide (n = 8)) (y, x)).map (at_ cols (s.fa "data")))) "area_window"
                ((gridNbrs rows cols (decide (n = 8)) (y, x)).map (at_ cols (s.fa "out"))) } := by
  unfold gather
  rw [exec_ite_def]
  rcases hn with hn | hn
  · subst hn
    have : exec fuel (gatherW window4) s = _ :=
      exec_gatherW fuel rows cols 4 y x hy hx window4 rfl s hrun hyv hxv hrv hcv hd ho hsw haw hsl hal
    simp only [BE.ok, IE.ok, BE.eval, IE.eval, cmpInt, hnv, Bool.and_self, if_true]
    simp only [show ((4 : Nat) : Int) = 8 ↔ False by decide, decide_false, Bool.false_eq_true, if_false, this,
      gridNbrs_eq, window, List.map_map, show (4 : Nat) = 8 ↔ False by decide]
    rfl
  · subst hn
    have : exec fuel (gatherW window8) s = _ :=
      exec_gatherW fuel rows cols 8 y x hy hx window8 rfl s hrun hyv hxv hrv hcv hd ho hsw haw hsl hal
    simp only [BE.ok, IE.ok, BE.eval, IE.eval, cmpInt, hnv, Bool.and_self, if_true]
    simp only [show ((8 : Nat) : Int) = 8 ↔ True by decide, decide_true, if_true, this,
      gridNbrs_eq, window, List.map_map]
    rfl

end XrsVerif.IL.Rg
