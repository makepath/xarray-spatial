import XrsVerif.Proofs.ILangRename
import XrsVerif.Proofs.ILangFrame
import XrsVerif.Proofs.ILViewshedRot
import XrsVerif.Proofs.ILViewshedHeap
/-
  A rotation and a colour write at an arbitrary position of the whole tree are steps of the hand model at the path of
  the position (`atPath (rotD S d)`, `atPath (setCol c)`: the steps of `Rebal`), for the stand-alone rotations and for
  the copies inlined in `_rb_insert_fixup` / `_rb_delete_fixup` (name-generic).

  * `rot_at_path d`: a routine that replaces the subtree at a position by the rotated one (`plug_replace`,
    Proofs/ILViewshedHeap.lean) and maps its abstraction by `rotD` leaves a tree whose abstraction is
    `atPath (rotD S d) (pathOf ctx)` of the old one (`absT_replace`); the generated rotations are such routines;
  * `rotCall body ρ …`: `root = _rotate(tree_vals, tree_nodes, root, arg)` inlined.  That the inlined copies of the
    generated programs *are* `rotCall Gen.IL.vsLeftRotate.body …` is checked by `decide` (`insFixup_eq`,
    Proofs/ILViewshedFixIns.lean; `delRest_eq`, Proofs/ILViewshedDel.lean);
  * `rotCall_move d`: by the renaming theorem (`exec_ren`) the refinement theorem of the stand-alone rotations
    (`vsRotate_at_path d`) holds for every inlined copy: a rotation towards `d`, in `Sh.nodeD` form, is a `Move`
    (Proofs/ILViewshedHeap.lean) by the model's `rotD`.
-/
set_option linter.unusedSectionVars false
namespace XrsVerif.ILVs
open XrsVerif XrsVerif.IL XrsVerif.Viewshed Function
variable {F : Type} [Fl F]

theorem rot_at_path (d : Dir) {V V' : List F} {N N' : List Int} {n : Nat} (ctx : Ctx) (o : Sh) (t : Nat) (m : Sh) (c : Nat)
    (e : Sh) (S : Fv F) (hp : Pos N n (.nodeD d o t (.nodeD d m c e)) ctx)
    (h4 : Linked N' n (ctxPar ctx) (.nodeD d (.nodeD d o t m) c e))
    (h5 : absT V' N' (.nodeD d (.nodeD d o t m) c e) = rotD S d (absT V N (.nodeD d o t (.nodeD d m c e))))
    (h7 : ∀ i, i ≠ t → i ≠ c → ∀ k, k < 8 → vAt V' i k = vAt V i k)
    (h8 : RotCells N N' n d.flip.col d.col t c o.ptr m.ptr e.ptr (ctxPar ctx)) :
    Pos N' n (.nodeD d (.nodeD d o t m) c e) ctx ∧
      absT V' N' (plug (.nodeD d (.nodeD d o t m) c e) ctx) =
        atPath (rotD S d) (pathOf ctx) (absT V N (plug (.nodeD d o t (.nodeD d m c e)) ctx)) := by
  have hmin : ∀ j, j ∈ (Sh.nodeD d m c e).idxs → j ∈ (Sh.nodeD d o t (.nodeD d m c e)).idxs :=
    fun j hj => (Sh.mem_nodeD ..).mpr (Or.inr (Or.inr hj))
  have htin : t ∈ (Sh.nodeD d o t (.nodeD d m c e)).idxs := (Sh.mem_nodeD ..).mpr (Or.inl rfl)
  have hcin : c ∈ (Sh.nodeD d o t (.nodeD d m c e)).idxs := hmin c ((Sh.mem_nodeD ..).mpr (Or.inl rfl))
  have hmrow := rowOf_ptr_cases n m
  have hout : ∀ j ∈ ctxIdxs ctx, j ≠ t ∧ j ≠ c ∧ j ≠ rowOf n m.ptr := fun j hj =>
    ⟨fun h => hp.disj (h ▸ htin) hj, fun h => hp.disj (h ▸ hcin) hj, fun h => by
      rcases hmrow with h' | h'
      · have := hp.ctx_lt hj; omega
      · exact hp.disj (hmin j ((Sh.mem_nodeD ..).mpr (Or.inr (Or.inl (h ▸ h'))))) hj⟩
  obtain ⟨hp', hc⟩ := plug_replace (V := V) (V' := V') hp h4 (Sh.idxs_rot d o t m c e ▸ hp.sub_nodup)
    (fun j hj hm => hp.disj (Sh.idxs_rot d o t m c e ▸ hj) hm) (fun j hj => by
      obtain ⟨ht, hc, hm⟩ := hout j hj
      refine redirect_of_cells (h7 j ht hc) ⟨h8.col0 j, h8.other3 j ht hc hm⟩ (fun hne => h8.other12 j ht hc ?_)
        (fun fr rest ectx ej => ?_)
      · cases ctx with
        | nil => exact Or.inl (by decide)
        | cons fr rest => exact Or.inr (by rw [ctxPar_cons]; exact fun h => hne fr rest rfl (by omega))
      · subst ectx ej
        have hco := hp.ctx
        have hpp := h8.parent fr.idx (ctxPar_cons fr rest)
        rw [Sh.ptr_nodeD] at hco ⊢
        cases fr with
        | L p r0 => exact hpp.1 hco.2.1
        | R l0 p => exact hpp.2 (by show nAt N p 1 ≠ _; rw [hco.2.1]; exact hco.2.2.2.1 (by omega)))
  exact ⟨hp', absT_replace ctx _ _ _ hc h5⟩

/-- **a generated rotation towards `d` (`_left_rotate` for `L`) at a position of the whole tree is the model's
    `atPath (rotD S d)`**: at the node `t` its far child `c` comes on top, the middle subtree `m` changes sides; the colour
    column is untouched -/
theorem vsRotate_at_path (d : Dir) (s : State F) (fuel n : Nat) (hv : VS s n) (hrun : s.ctl = .run) (ctx : Ctx)
    (o : Sh) (t : Nat) (m : Sh) (c : Nat) (e : Sh)
    (hp : Pos (s.ia "tree_nodes") n (.nodeD d o t (.nodeD d m c e)) ctx) (ht : s.ienv (pickD d "x" "y") = t) :
    let q := exec fuel (pickD d Gen.IL.vsLeftRotate.body Gen.IL.vsRightRotate.body) s
    let S : Fv F := vAt (s.fa "tree_vals") (n - 1) 7
    q.ctl = .ret ∧ VS q n ∧ Pos (q.ia "tree_nodes") n (.nodeD d (.nodeD d o t m) c e) ctx ∧
      absT (q.fa "tree_vals") (q.ia "tree_nodes") (plug (.nodeD d (.nodeD d o t m) c e) ctx) =
        atPath (rotD S d) (pathOf ctx)
          (absT (s.fa "tree_vals") (s.ia "tree_nodes") (plug (.nodeD d o t (.nodeD d m c e)) ctx)) ∧
      q.ienv "ret0" = (if ctxPar ctx = -1 then (c : Int) else s.ienv "root") ∧
      vAt (q.fa "tree_vals") (n - 1) 7 = S ∧
      (∀ i, nAt (q.ia "tree_nodes") i 0 = nAt (s.ia "tree_nodes") i 0) := by
  intro q S
  cases d with
  | L =>
    obtain ⟨r1, r2, r3, r4, r5, r6, r7, r8⟩ :=
      vsLeftRotate_refines s fuel n hv hrun o t m c e (ctxPar ctx) hp.sub hp.sub_nodup ht hp.par_cases
    obtain ⟨l1, l2⟩ := rot_at_path .L ctx o t m c e S hp r4 r5 r7 r8.gen
    exact ⟨r1, r2, l1, l2, r3, r6, r8.col0⟩
  | R =>
    -- `nodeD R o t (nodeD R m c e)` is `node (node e c m) t o`: the right rotation at `t` lifts its left child `c`
    obtain ⟨r1, r2, r3, r4, r5, r6, r7, r8⟩ :=
      vsRightRotate_refines s fuel n hv hrun e c m t o (ctxPar ctx) hp.sub hp.sub_nodup ht hp.par_cases
    obtain ⟨l1, l2⟩ := rot_at_path .R ctx o t m c e S hp r4 r5 (fun i h1 h2 => r7 i h2 h1) r8.gen
    exact ⟨r1, r2, l1, l2, r3, r6, r8.col0⟩

theorem vsLeftRotate_at_path (s : State F) (fuel n : Nat) (hv : VS s n) (hrun : s.ctl = .run) (ctx : Ctx)
    (a : Sh) (x : Nat) (b : Sh) (y : Nat) (c : Sh)
    (hL : Linked (s.ia "tree_nodes") n (-1) (plug (.node a x (.node b y c)) ctx))
    (hN : (plug (.node a x (.node b y c)) ctx).idxs.Nodup) (hx : s.ienv "x" = x) :
    let q := Gen.IL.vsLeftRotate.run s fuel
    let S : Fv F := vAt (s.fa "tree_vals") (n - 1) 7
    q.ctl = .ret ∧ VS q n ∧ Linked (q.ia "tree_nodes") n (-1) (plug (.node (.node a x b) y c) ctx) ∧
      (plug (.node (.node a x b) y c) ctx).idxs.Nodup ∧
      absT (q.fa "tree_vals") (q.ia "tree_nodes") (plug (.node (.node a x b) y c) ctx) =
        atPath (rotL S) (pathOf ctx) (absT (s.fa "tree_vals") (s.ia "tree_nodes") (plug (.node a x (.node b y c)) ctx)) ∧
      q.ienv "ret0" = (if ctxPar ctx = -1 then (y : Int) else s.ienv "root") ∧
      vAt (q.fa "tree_vals") (n - 1) 7 = S := by
  intro q S
  obtain ⟨p1, p2, p3, p4, p5, p6, _⟩ := vsRotate_at_path .L s fuel n hv hrun ctx a x b y c ⟨hL, hN⟩ hx
  exact ⟨p1, p2, p3.linked, p3.nodup, p4, p5, p6⟩

theorem vsRightRotate_at_path (s : State F) (fuel n : Nat) (hv : VS s n) (hrun : s.ctl = .run) (ctx : Ctx)
    (a : Sh) (x : Nat) (b : Sh) (y : Nat) (c : Sh)
    (hL : Linked (s.ia "tree_nodes") n (-1) (plug (.node (.node a x b) y c) ctx))
    (hN : (plug (.node (.node a x b) y c) ctx).idxs.Nodup) (hy : s.ienv "y" = y) :
    let q := Gen.IL.vsRightRotate.run s fuel
    let S : Fv F := vAt (s.fa "tree_vals") (n - 1) 7
    q.ctl = .ret ∧ VS q n ∧ Linked (q.ia "tree_nodes") n (-1) (plug (.node a x (.node b y c)) ctx) ∧
      (plug (.node a x (.node b y c)) ctx).idxs.Nodup ∧
      absT (q.fa "tree_vals") (q.ia "tree_nodes") (plug (.node a x (.node b y c)) ctx) =
        atPath (rotR S) (pathOf ctx) (absT (s.fa "tree_vals") (s.ia "tree_nodes") (plug (.node (.node a x b) y c) ctx)) ∧
      q.ienv "ret0" = (if ctxPar ctx = -1 then (x : Int) else s.ienv "root") ∧
      vAt (q.fa "tree_vals") (n - 1) 7 = S := by
  intro q S
  obtain ⟨p1, p2, p3, p4, p5, p6, _⟩ := vsRotate_at_path .R s fuel n hv hrun ctx c y b x a ⟨hL, hN⟩ hy
  exact ⟨p1, p2, p3.linked, p3.nodup, p4, p5, p6⟩

/-- the renaming of the locals of a rotation inlined under the prefix `pre`, whose two inlined
    `_find_value_min_value` calls carry the counters `k1`, `k2` (1 and 2 in the stand-alone program) -/
def rotRen (pre k1 k2 : String) (v : String) : String :=
  pre ++ swapS "_find_value_min_value1$node_id" ("_find_value_min_value" ++ k1 ++ "$node_id")
    (swapS "_find_value_min_value1$ret0" ("_find_value_min_value" ++ k1 ++ "$ret0")
    (swapS "_find_value_min_value2$node_id" ("_find_value_min_value" ++ k2 ++ "$node_id")
    (swapS "_find_value_min_value2$ret0" ("_find_value_min_value" ++ k2 ++ "$ret0") v)))

theorem rotRen_inj (pre k1 k2 : String) : Inj (rotRen pre k1 k2) := by
  intro a b h
  unfold rotRen at h
  exact inj_swapS _ _ _ _ (inj_swapS _ _ _ _ (inj_swapS _ _ _ _ (inj_swapS _ _ _ _ (inj_pre pre _ _ h))))

/-- `root = _left_rotate(tree_vals, tree_nodes, root, arg)` (or `_right_rotate`) inlined: `body` is the callee's
    body, `param` the name of its last parameter (`x` / `y`) -/
def rotCall (body : St) (ρ : String → String) (param root arg : String) : St :=
  (.seq (.setI (ρ "root") (.var root))
  (.seq (.setI (ρ param) (.var arg))
  (.seq (.scope (renS ρ body))
  (.setI root (.var (ρ "ret0"))))))

/-- the state in which the callee starts, seen through the renaming -/
def callIn (ρ : String → String) (param root arg : String) (s : State F) : State F :=
  pull ρ { s with ienv := setS (setS s.ienv (ρ "root") (s.ienv root)) (ρ param) (s.ienv arg) }

theorem callIn_param (ρ : String → String) (param root arg : String) (s : State F) :
    (callIn ρ param root arg s).ienv param = s.ienv arg := by simp [callIn, setS]

theorem callIn_root (ρ : String → String) (hρ : Inj ρ) (param root arg : String) (hp : param ≠ "root") (s : State F) :
    (callIn ρ param root arg s).ienv "root" = s.ienv root := by
  have : ρ "root" ≠ ρ param := fun e => hp (hρ _ _ e).symm
  simp [callIn, setS, this]

theorem rotCall_exec (body : St) (ρ : String → String) (hρ : Inj ρ) (param root arg : String) (harg : arg ≠ ρ "root")
    (fuel : Nat) (s : State F) (hrun : s.ctl = .run)
    (hret : (exec fuel body (callIn ρ param root arg s)).ctl = .ret) :
    let q := exec fuel body (callIn ρ param root arg s)
    let r := exec fuel (rotCall body ρ param root arg) s
    r.ctl = .run ∧ r.ia = q.ia ∧ r.fa = q.fa ∧ r.shp = q.shp ∧ r.ienv root = q.ienv "ret0" := by
  intro q r
  have h1 : exec fuel (.setI (ρ "root") (.var root)) s = { s with ienv := setS s.ienv (ρ "root") (s.ienv root) } := by
    rw [exec_setI _ _ _ _ (IE.ok_var _ _), IE.eval_var]
  have h2 : exec fuel (.setI (ρ param) (.var arg)) { s with ienv := setS s.ienv (ρ "root") (s.ienv root) } =
      { s with ienv := setS (setS s.ienv (ρ "root") (s.ienv root)) (ρ param) (s.ienv arg) } := by
    rw [exec_setI _ _ _ _ (IE.ok_var _ _), IE.eval_var]
    simp [setS, harg]
  generalize hs2 : ({ s with ienv := setS (setS s.ienv (ρ "root") (s.ienv root)) (ρ param) (s.ienv arg) } : State F) = s2 at h2
  have hs2run : s2.ctl = .run := by rw [← hs2]; exact hrun
  have hpull : pull ρ (exec fuel (renS ρ body) s2) = q := by
    rw [exec_ren ρ hρ, ← hs2]; rfl
  generalize hr1 : exec fuel (renS ρ body) s2 = r1 at hpull
  have hc1 : r1.ctl = .ret := by
    have : (pull ρ r1).ctl = q.ctl := by rw [hpull]
    rw [pull_ctl] at this; rw [this]; exact hret
  have hr : r = { r1 with ctl := .run, ienv := setS r1.ienv root (r1.ienv (ρ "ret0")) } := by
    simp only [r, rotCall]
    rw [exec_seq_run _ _ _ _ (by rw [h1]; exact hrun), h1, exec_seq_run _ _ _ _ (by rw [h2]; exact hs2run), h2,
      exec_seq_run _ _ _ _ (by rw [exec_scope, hr1]; simp [hc1]), exec_scope, hr1]
    simp only [hc1, if_true]
    rw [exec_setI _ _ _ _ (IE.ok_var _ _), IE.eval_var]
  rw [hr]
  refine ⟨rfl, ?_, ?_, ?_, ?_⟩
  · show r1.ia = q.ia; rw [← hpull]; rfl
  · show r1.fa = q.fa; rw [← hpull]; rfl
  · show r1.shp = q.shp; rw [← hpull]; rfl
  · show setS r1.ienv root (r1.ienv (ρ "ret0")) root = q.ienv "ret0"
    rw [setS_same, ← hpull]; rfl

/-- `root = _left_rotate(…, arg)` for `L`, `root = _right_rotate(…, arg)` for `R`, inlined -/
def rotCallD (d : Dir) (ρ : String → String) (root arg : String) : St :=
  rotCall (pickD d Gen.IL.vsLeftRotate.body Gen.IL.vsRightRotate.body) ρ (pickD d "x" "y") root arg

section move
variable {rv : String}

/-- **`tree_nodes[xv][TN_COLOR_ID] = e`**, `xv` the row `i` at the position `ctx` (path `path`), `e` a sane colour `c`:
    the model's `setCol` there -/
theorem stColE_move (fuel n : Nat) (s : State F) (xv : String) (e : IE) (c : Int) (b : Bool) (he : e.ok s = true)
    (hev : e.eval s = c) (hb : decide (c = 0) = b) (hc : ColV c) {sh : Sh} (h : TreeAt rv s n sh)
    (ctx : Ctx) (l : Sh) (i : Nat) (r : Sh) {path : List Dir} (hsh : sh = plug (.node l i r) ctx) (hp : pathOf ctx = path)
    (hx : s.ienv xv = i) :
    let q := exec fuel (.stI2 "tree_nodes" (.var xv) (.lit 0) e) s
    Move rv n (atPath (setCol b) path) s q sh sh ∧ q.ienv = s.ienv ∧
      (∀ j, j ≠ i → nAt (q.ia "tree_nodes") j 0 = nAt (s.ia "tree_nodes") j 0) ∧ nAt (q.ia "tree_nodes") i 0 = c := by
  subst hsh hp hb hev
  have hp := h.pos
  have hi : i + 1 < n := hp.sub.1
  have hd := Sh.ptr_ne_of_nodup l r i hp.sub_nodup
  intro q
  have hq : q = { s with ia := setS s.ia "tree_nodes" ((s.ia "tree_nodes").set (i * 4) (e.eval s)) } := by
    simp only [q]
    rw [exec_stN fuel s n h.vs.shpN xv 0 e (by decide) (by rw [hx]; exact h.vs.inRange hi) he, hx, rowOf_nat]
    rfl
  have hfa : q.fa = s.fa := by rw [hq]
  have hH : heapOf (s.fa "tree_vals") (q.ia "tree_nodes") = update (heap s) i ((heap s i).setN 0 (e.eval s)) := by
    rw [hq]; exact heapOf_setN0 _ _ n i _ h.vs.lenN (by omega)
  have hoth : ∀ j, j ≠ i → heapOf (s.fa "tree_vals") (q.ia "tree_nodes") j = heap s j := fun j hj => by
    rw [hH, update_of_ne hj]
  have hlnk : ∀ j, (heapOf (s.fa "tree_vals") (q.ia "tree_nodes") j).lnk = (heap s j).lnk := fun j => by
    by_cases e : j = i
    · rw [e, hH, update_self]; rfl
    · rw [hoth j e]
  have hc0 : ∀ j, j ≠ i → nAt (q.ia "tree_nodes") j 0 = nAt (s.ia "tree_nodes") j 0 := fun j hj =>
    congrArg Row.col (hoth j hj)
  have hci : nAt (q.ia "tree_nodes") i 0 = e.eval s := by
    have := congrArg Row.col (congrFun hH i); rwa [update_self] at this
  refine ⟨⟨⟨⟨by rw [hq]; exact h.vs.shpV, by rw [hq]; exact h.vs.shpN, by rw [hfa]; exact h.vs.lenV,
      by rw [hq]; simp [setS, h.vs.lenN], h.vs.pos⟩, by rw [hq]; exact h.run, h.linked.frame fun j _ => hlnk j, h.nodup,
      by rw [hq]; exact h.root⟩, rfl, ?_, by rw [hfa], hc0 _ (by omega), colV_of_store hc hc0 hci⟩, by rw [hq], hc0, hci⟩
  rw [hfa]
  refine absT_replace ctx _ _ _ (absCtx_frame ctx fun j hj =>
    congrArg Row.dat (hoth j fun e => hp.disj (e ▸ by simp [Sh.idxs]) hj)) ?_
  simp only [absT, setCol, hci, absT_frame l fun j hj => congrArg Row.dat (hoth j fun e => hd.2.2.2.2.1 (e ▸ hj)),
    absT_frame r fun j hj => congrArg Row.dat (hoth j fun e => hd.2.2.2.2.2 (e ▸ hj))]

/-- **an inlined rotation towards `d`** at the row `t` at the position `ctx`, its result assigned to `rv`: the model's
    `rotD` at the path of `ctx`; no colour cell changes, and only the locals the call writes -/
theorem rotCall_move (d : Dir) (ρ : String → String) (hρ : Inj ρ) (arg : String) (harg : arg ≠ ρ "root")
    (fuel n : Nat) (s : State F) (S : Fv F) (hS : vAt (s.fa "tree_vals") (n - 1) 7 = S) {sh sh' : Sh} (h : TreeAt rv s n sh)
    (ctx : Ctx) (o : Sh) (t : Nat) (m : Sh) (c : Nat) (e : Sh) {path : List Dir}
    (hsh : sh = plug (Sh.nodeD d o t (Sh.nodeD d m c e)) ctx) (hsh' : sh' = plug (Sh.nodeD d (Sh.nodeD d o t m) c e) ctx)
    (hp : pathOf ctx = path) (ht : s.ienv arg = t) :
    let prog := rotCall (pickD d Gen.IL.vsLeftRotate.body Gen.IL.vsRightRotate.body) ρ (pickD d "x" "y") rv arg
    let r := exec fuel prog s
    Move rv n (atPath (rotD S d) path) s r sh sh' ∧ (∀ v, v ∉ wI prog → r.ienv v = s.ienv v) ∧
      (∀ i, nAt (r.ia "tree_nodes") i 0 = nAt (s.ia "tree_nodes") i 0) := by
  subst hsh hsh' hp hS
  -- by the renaming theorem the inlined copy acts on the arrays as the stand-alone routine does
  obtain ⟨p1, p2, p3, p4, p5, p6, p7⟩ := vsRotate_at_path d (callIn ρ (pickD d "x" "y") rv arg s) fuel n
    (h.vs.of_eq rfl rfl rfl) h.run ctx o t m c e h.pos (by rw [callIn_param]; exact ht)
  obtain ⟨c1, c2, c3, c4, c5⟩ := rotCall_exec _ ρ hρ (pickD d "x" "y") rv arg harg fuel s h.run p1
  rw [callIn_root ρ hρ _ rv arg (by cases d <;> decide), h.root, ← Sh.ptr_nodeD d (Sh.nodeD d o t m) c e, root_after] at p5
  have hc : ∀ i, nAt ((exec fuel (rotCallD d ρ rv arg) s).ia "tree_nodes") i 0 = nAt (s.ia "tree_nodes") i 0 := by
    rw [rotCallD, c2]; exact p7
  exact ⟨⟨⟨⟨by rw [c4]; exact p2.shpV, by rw [c4]; exact p2.shpN, by rw [c3]; exact p2.lenV, by rw [c2]; exact p2.lenN,
        h.vs.pos⟩, c1, by rw [c2]; exact p3.linked, p3.nodup, c5.trans p5⟩,
      idxs_rotD d _ _ _ _ _ ctx, by rw [c2, c3]; exact p4, by rw [c3]; exact p6, hc _, colV_of_eq hc⟩,
    (exec_frame fuel _ s).ienv, hc⟩

end move

end XrsVerif.ILVs
