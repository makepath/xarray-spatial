import XrsVerif.Proofs.ILang
/-
  A statement changes only what it syntactically writes (`exec_frame`), proved once for
  every program: the scalars it assigns (`wI`, `wF`, `wB`), the arrays it stores to or allocates (`wIA`, `wFA`);
  shapes change only by allocation (`wSh`).  `Mods iv fv bv ias fas shs s r` says that `r` differs from `s` at most
  there (and in control).  With an empty write set `Mods` is an equation (`Mods.ienv_eq` …); `forRange_up_mods` is the
  `for v in range(n)` rule that hands the loop's frame to the proof of every iteration.
-/
set_option linter.unusedSectionVars false
namespace XrsVerif.ILVs
open XrsVerif XrsVerif.IL
variable {F : Type} [Fl F]

def wI : St → List String
  | .setI v _ => [v]
  | .seq a b => wI a ++ wI b
  | .ite _ t f => wI t ++ wI f
  | .while _ b => wI b
  | .forRange v _ _ _ b => v :: wI b
  | .forIn _ _ b => wI b
  | .scope b => wI b
  | _ => []

def wF : St → List String
  | .setF v _ => [v]
  | .seq a b => wF a ++ wF b
  | .ite _ t f => wF t ++ wF f
  | .while _ b => wF b
  | .forRange _ _ _ _ b => wF b
  | .forIn v _ b => v :: wF b
  | .scope b => wF b
  | _ => []

def wB : St → List String
  | .setB v _ => [v]
  | .seq a b => wB a ++ wB b
  | .ite _ t f => wB t ++ wB f
  | .while _ b => wB b
  | .forRange _ _ _ _ b => wB b
  | .forIn _ _ b => wB b
  | .scope b => wB b
  | _ => []

def wIA : St → List String
  | .stI1 a _ _ => [a]
  | .stI2 a _ _ _ => [a]
  | .allocI a _ _ => [a]
  | .seq a b => wIA a ++ wIA b
  | .ite _ t f => wIA t ++ wIA f
  | .while _ b => wIA b
  | .forRange _ _ _ _ b => wIA b
  | .forIn _ _ b => wIA b
  | .scope b => wIA b
  | _ => []

def wFA : St → List String
  | .stF1 a _ _ => [a]
  | .stF2 a _ _ _ => [a]
  | .allocF a _ _ => [a]
  | .seq a b => wFA a ++ wFA b
  | .ite _ t f => wFA t ++ wFA f
  | .while _ b => wFA b
  | .forRange _ _ _ _ b => wFA b
  | .forIn _ _ b => wFA b
  | .scope b => wFA b
  | _ => []

def wSh : St → List String
  | .allocI a _ _ => [a]
  | .allocF a _ _ => [a]
  | .seq a b => wSh a ++ wSh b
  | .ite _ t f => wSh t ++ wSh f
  | .while _ b => wSh b
  | .forRange _ _ _ _ b => wSh b
  | .forIn _ _ b => wSh b
  | .scope b => wSh b
  | _ => []

structure Mods (iv fv bv ias fas shs : List String) (s r : State F) : Prop where
  ienv : ∀ v, v ∉ iv → r.ienv v = s.ienv v
  fenv : ∀ v, v ∉ fv → r.fenv v = s.fenv v
  benv : ∀ v, v ∉ bv → r.benv v = s.benv v
  ia : ∀ a, a ∉ ias → r.ia a = s.ia a
  fa : ∀ a, a ∉ fas → r.fa a = s.fa a
  shp : ∀ a, a ∉ shs → r.shp a = s.shp a
  ext : r.ext = s.ext

theorem Mods.refl (iv fv bv ias fas shs : List String) (s : State F) : Mods iv fv bv ias fas shs s s :=
  ⟨fun _ _ => rfl, fun _ _ => rfl, fun _ _ => rfl, fun _ _ => rfl, fun _ _ => rfl, fun _ _ => rfl, rfl⟩

theorem Mods.trans {iv fv bv ias fas shs : List String} {a b c : State F} (h1 : Mods iv fv bv ias fas shs a b)
    (h2 : Mods iv fv bv ias fas shs b c) : Mods iv fv bv ias fas shs a c :=
  ⟨fun v hv => (h2.ienv v hv).trans (h1.ienv v hv), fun v hv => (h2.fenv v hv).trans (h1.fenv v hv),
   fun v hv => (h2.benv v hv).trans (h1.benv v hv), fun v hv => (h2.ia v hv).trans (h1.ia v hv),
   fun v hv => (h2.fa v hv).trans (h1.fa v hv), fun v hv => (h2.shp v hv).trans (h1.shp v hv), h2.ext.trans h1.ext⟩

theorem Mods.mono {iv fv bv ias fas shs iv' fv' bv' ias' fas' shs' : List String} {a b : State F}
    (h : Mods iv fv bv ias fas shs a b) (h1 : iv ⊆ iv') (h2 : fv ⊆ fv') (h3 : bv ⊆ bv') (h4 : ias ⊆ ias') (h5 : fas ⊆ fas')
    (h6 : shs ⊆ shs') : Mods iv' fv' bv' ias' fas' shs' a b :=
  ⟨fun v hv => h.ienv v (fun hh => hv (h1 hh)), fun v hv => h.fenv v (fun hh => hv (h2 hh)),
   fun v hv => h.benv v (fun hh => hv (h3 hh)), fun v hv => h.ia v (fun hh => hv (h4 hh)),
   fun v hv => h.fa v (fun hh => hv (h5 hh)), fun v hv => h.shp v (fun hh => hv (h6 hh)), h.ext⟩

theorem Mods.ctl {iv fv bv ias fas shs : List String} {a b : State F} (h : Mods iv fv bv ias fas shs a b) (k : Ctl) :
    Mods iv fv bv ias fas shs a { b with ctl := k } :=
  ⟨h.ienv, h.fenv, h.benv, h.ia, h.fa, h.shp, h.ext⟩

theorem Mods.afterBody {iv fv bv ias fas shs : List String} {a b : State F} (h : Mods iv fv bv ias fas shs a b) :
    Mods iv fv bv ias fas shs a (afterBody b) := by
  unfold IL.afterBody; split
  · exact h.ctl _
  · exact h

theorem Mods.afterLoop {iv fv bv ias fas shs : List String} {a b : State F} (h : Mods iv fv bv ias fas shs a b) :
    Mods iv fv bv ias fas shs a (afterLoop b) := by
  unfold IL.afterLoop; split
  · exact h.ctl _
  · exact h

theorem mods_setI (iv fv bv ias fas shs : List String) (s : State F) (v : String) (x : Int) (hv : v ∈ iv) :
    Mods iv fv bv ias fas shs s { s with ienv := setS s.ienv v x } :=
  ⟨fun _ hw => setS_other _ _ _ _ (fun e => hw (e ▸ hv)), fun _ _ => rfl, fun _ _ => rfl, fun _ _ => rfl,
   fun _ _ => rfl, fun _ _ => rfl, rfl⟩

theorem mods_setF (iv fv bv ias fas shs : List String) (s : State F) (v : String) (x : F) (hv : v ∈ fv) :
    Mods iv fv bv ias fas shs s { s with fenv := setS s.fenv v x } :=
  ⟨fun _ _ => rfl, fun _ hw => setS_other _ _ _ _ (fun e => hw (e ▸ hv)), fun _ _ => rfl, fun _ _ => rfl,
   fun _ _ => rfl, fun _ _ => rfl, rfl⟩

theorem mods_setFa (iv fv bv ias fas shs : List String) (s : State F) (a : String) (l : List F) (ha : a ∈ fas) :
    Mods iv fv bv ias fas shs s { s with fa := setS s.fa a l } :=
  ⟨fun _ _ => rfl, fun _ _ => rfl, fun _ _ => rfl, fun _ _ => rfl, fun _ hw => setS_other _ _ _ _ (fun e => hw (e ▸ ha)),
   fun _ _ => rfl, rfl⟩

theorem mods_loopOver {α} {iv fv bv ias fas shs : List String} (f : State F → α → State F) (xs : List α)
    (h : ∀ st x, Mods iv fv bv ias fas shs st (f st x)) (s : State F) :
    Mods iv fv bv ias fas shs s (loopOver f xs s) := by
  unfold loopOver
  apply Mods.afterLoop
  induction xs generalizing s with
  | nil => exact Mods.refl _ _ _ _ _ _ s
  | cons x xs ih =>
    simp only [List.foldl_cons]
    refine Mods.trans ?_ (ih _)
    split
    · exact (h s x).afterBody
    · exact Mods.refl _ _ _ _ _ _ s

theorem exec_frame : ∀ (fuel : Nat) (st : St) (s : State F),
    Mods (wI st) (wF st) (wB st) (wIA st) (wFA st) (wSh st) s (exec fuel st s) := by
  intro fuel
  induction fuel using Nat.strongRecOn with
  | _ fuel ihf =>
    intro st
    induction st with
    | skip => intro s; simp only [exec]; exact Mods.refl _ _ _ _ _ _ s
    | seq a b iha ihb =>
      intro s
      simp only [exec]
      have h1 := (iha s).mono (iv' := wI (.seq a b)) (fv' := wF (.seq a b)) (bv' := wB (.seq a b)) (ias' := wIA (.seq a b))
        (fas' := wFA (.seq a b)) (shs' := wSh (.seq a b))
        (by simp [wI]) (by simp [wF]) (by simp [wB]) (by simp [wIA]) (by simp [wFA]) (by simp [wSh])
      split
      · refine h1.trans ((ihb _).mono ?_ ?_ ?_ ?_ ?_ ?_) <;> simp [wI, wF, wB, wIA, wFA, wSh]
      · exact h1
    | setI v e =>
      intro s
      simp only [exec]
      split
      · exact mods_setI _ _ _ _ _ _ s v _ (by simp [wI])
      · exact (Mods.refl _ _ _ _ _ _ s).ctl _
    | setF v e =>
      intro s
      simp only [exec]
      split
      · exact mods_setF _ _ _ _ _ _ s v _ (by simp [wF])
      · exact (Mods.refl _ _ _ _ _ _ s).ctl _
    | setB v e =>
      intro s
      simp only [exec]
      split
      · exact ⟨fun _ _ => rfl, fun _ _ => rfl, fun w hw => setS_other _ _ _ _ (by simpa [wB] using hw), fun _ _ => rfl,
          fun _ _ => rfl, fun _ _ => rfl, rfl⟩
      · exact (Mods.refl _ _ _ _ _ _ s).ctl _
    | stF1 a i e | stF2 a i j e =>
      intro s
      simp only [exec]
      split
      · exact mods_setFa _ _ _ _ _ _ s a _ (by simp [wFA])
      · exact (Mods.refl _ _ _ _ _ _ s).ctl _
    | stI1 a i e | stI2 a i j e =>
      intro s
      simp only [exec]
      split
      · exact ⟨fun _ _ => rfl, fun _ _ => rfl, fun _ _ => rfl, fun w hw => setS_other _ _ _ _ (by simpa [wIA] using hw),
          fun _ _ => rfl, fun _ _ => rfl, rfl⟩
      · exact (Mods.refl _ _ _ _ _ _ s).ctl _
    | allocF a dims fill =>
      intro s
      simp only [exec]
      split
      · exact ⟨fun _ _ => rfl, fun _ _ => rfl, fun _ _ => rfl, fun _ _ => rfl,
          fun w hw => setS_other _ _ _ _ (by simpa [wFA] using hw), fun w hw => setS_other _ _ _ _ (by simpa [wSh] using hw), rfl⟩
      · exact (Mods.refl _ _ _ _ _ _ s).ctl _
    | allocI a dims fill =>
      intro s
      simp only [exec]
      split
      · exact ⟨fun _ _ => rfl, fun _ _ => rfl, fun _ _ => rfl, fun w hw => setS_other _ _ _ _ (by simpa [wIA] using hw),
          fun _ _ => rfl, fun w hw => setS_other _ _ _ _ (by simpa [wSh] using hw), rfl⟩
      · exact (Mods.refl _ _ _ _ _ _ s).ctl _
    | ite c t f iht ihf' =>
      intro s
      simp only [exec]
      split
      · split
        · exact (iht s).mono (by simp [wI]) (by simp [wF]) (by simp [wB]) (by simp [wIA]) (by simp [wFA]) (by simp [wSh])
        · exact (ihf' s).mono (by simp [wI]) (by simp [wF]) (by simp [wB]) (by simp [wIA]) (by simp [wFA]) (by simp [wSh])
      · exact (Mods.refl _ _ _ _ _ _ s).ctl _
    | «while» c b ihb =>
      intro s
      cases fuel with
      | zero => simp only [exec]; exact (Mods.refl _ _ _ _ _ _ s).ctl _
      | succ f =>
        simp only [exec]
        split
        · split
          · have h1 : Mods (wI (.while c b)) (wF (.while c b)) (wB (.while c b)) (wIA (.while c b)) (wFA (.while c b))
                (wSh (.while c b)) s (exec f b s) := ihf f (Nat.lt_succ_self f) b s
            have hw := ihf f (Nat.lt_succ_self f) (.while c b)
            generalize exec f b s = s1 at h1
            cases hctl : s1.ctl with
            | run => simp only; exact h1.trans (hw s1)
            | cont => simp only; exact (h1.ctl _).trans (hw _)
            | brk => simp only; exact h1.ctl _
            | ret | err m => simp only; exact h1
          · exact Mods.refl _ _ _ _ _ _ s
        · exact (Mods.refl _ _ _ _ _ _ s).ctl _
    | forRange v lo hi step b ihb =>
      intro s
      simp only [exec]
      split
      · apply mods_loopOver
        intro st x
        have h1 := (ihb { st with ienv := setS st.ienv v x }).mono (iv' := wI (.forRange v lo hi step b))
          (fv' := wF (.forRange v lo hi step b)) (bv' := wB (.forRange v lo hi step b)) (ias' := wIA (.forRange v lo hi step b))
          (fas' := wFA (.forRange v lo hi step b)) (shs' := wSh (.forRange v lo hi step b))
          (by simp [wI]) (by simp [wF]) (by simp [wB]) (by simp [wIA]) (by simp [wFA]) (by simp [wSh])
        refine Mods.trans ?_ h1
        exact mods_setI _ _ _ _ _ _ st v x (by simp [wI])
      · exact (Mods.refl _ _ _ _ _ _ s).ctl _
    | forIn v a b ihb =>
      intro s
      simp only [exec]
      split
      · apply mods_loopOver
        intro st x
        have h1 := (ihb { st with fenv := setS st.fenv v x }).mono (iv' := wI (.forIn v a b))
          (fv' := wF (.forIn v a b)) (bv' := wB (.forIn v a b)) (ias' := wIA (.forIn v a b))
          (fas' := wFA (.forIn v a b)) (shs' := wSh (.forIn v a b))
          (by simp [wI]) (by simp [wF]) (by simp [wB]) (by simp [wIA]) (by simp [wFA]) (by simp [wSh])
        refine Mods.trans ?_ h1
        exact mods_setF _ _ _ _ _ _ st v x (by simp [wF])
      · exact (Mods.refl _ _ _ _ _ _ s).ctl _
    | brk | cont | ret | fail m => intro s; simp only [exec]; exact (Mods.refl _ _ _ _ _ _ s).ctl _
    | scope b ihb =>
      intro s
      simp only [exec]
      have h1 : Mods (wI (.scope b)) (wF (.scope b)) (wB (.scope b)) (wIA (.scope b)) (wFA (.scope b)) (wSh (.scope b)) s
          (exec fuel b s) := ihb s
      split
      · exact h1.ctl _
      · exact h1

theorem Mods.ienv_eq {fv bv ias fas shs : List String} {s r : State F}
    (h : Mods [] fv bv ias fas shs s r) : r.ienv = s.ienv := funext fun v => h.ienv v List.not_mem_nil

theorem Mods.fenv_eq {iv bv ias fas shs : List String} {s r : State F}
    (h : Mods iv [] bv ias fas shs s r) : r.fenv = s.fenv := funext fun v => h.fenv v List.not_mem_nil

theorem Mods.benv_eq {iv fv ias fas shs : List String} {s r : State F}
    (h : Mods iv fv [] ias fas shs s r) : r.benv = s.benv := funext fun v => h.benv v List.not_mem_nil

theorem Mods.fa_eq {iv fv bv ias shs : List String} {s r : State F}
    (h : Mods iv fv bv ias [] shs s r) : r.fa = s.fa := funext fun a => h.fa a List.not_mem_nil

theorem Mods.ia_eq {iv fv bv fas shs : List String} {s r : State F}
    (h : Mods iv fv bv [] fas shs s r) : r.ia = s.ia := funext fun a => h.ia a List.not_mem_nil

theorem Mods.shp_eq {iv fv bv ias fas : List String} {s r : State F}
    (h : Mods iv fv bv ias fas [] s r) : r.shp = s.shp := funext fun a => h.shp a List.not_mem_nil

theorem Mods.ienv_of {iv fv bv ias fas shs ws : List String} {s r : State F}
    (h : Mods iv fv bv ias fas shs s r) (hw : ∀ v ∈ iv, v ∈ ws) (v : String) (hv : v ∉ ws) : r.ienv v = s.ienv v :=
  h.ienv v fun hm => hv (hw v hm)

theorem Mods.fenv_of {iv fv bv ias fas shs ws : List String} {s r : State F}
    (h : Mods iv fv bv ias fas shs s r) (hw : ∀ v ∈ fv, v ∈ ws) (v : String) (hv : v ∉ ws) : r.fenv v = s.fenv v :=
  h.fenv v fun hm => hv (hw v hm)

theorem _root_.XrsVerif.IL.forRange_up_mods (v : String) (hi : IE) (body : St) (s : State F) (fuel n : Nat)
    (hs : s.ctl = .run) (hok : hi.ok s = true) (hhi : hi.eval s = (n : Int))
    (P : Nat → State F → Prop) (h0 : P 0 s)
    (hstep : ∀ (k : Nat), k < n → ∀ st : State F, st.ctl = .run →
      Mods (v :: wI body) (wF body) (wB body) (wIA body) (wFA body) (wSh body) s st → P k st →
      (afterBody (exec fuel body { st with ienv := setS st.ienv v (k : Int) })).ctl = .run ∧
      P (k + 1) (afterBody (exec fuel body { st with ienv := setS st.ienv v (k : Int) }))) :
    (exec fuel (.forRange v (.lit 0) hi (.lit 1) body) s).ctl = .run ∧
    Mods (v :: wI body) (wF body) (wB body) (wIA body) (wFA body) (wSh body) s
      (exec fuel (.forRange v (.lit 0) hi (.lit 1) body) s) ∧
    P n (exec fuel (.forRange v (.lit 0) hi (.lit 1) body) s) := by
  exact forRange_up v hi body s fuel n hs hok hhi
    (fun k st => Mods (v :: wI body) (wF body) (wB body) (wIA body) (wFA body) (wSh body) s st ∧ P k st)
    ⟨Mods.refl _ _ _ _ _ _ s, h0⟩
    (fun k hk st hc hMP => by
      obtain ⟨h1, h2⟩ := hstep k hk st hc hMP.1 hMP.2
      exact ⟨h1, hMP.1.trans ((mods_setI _ _ _ _ _ _ st v k List.mem_cons_self).trans ((exec_frame fuel body _).mono
        (List.subset_cons_self _ _) (fun _ h => h) (fun _ h => h) (fun _ h => h) (fun _ h => h) (fun _ h => h)).afterBody), h2⟩)

end XrsVerif.ILVs
