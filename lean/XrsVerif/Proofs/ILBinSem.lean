import XrsVerif.Proofs.ILBinEmpty
import XrsVerif.Proofs.NV
/-
  Proofs/ILBinSem.lean -- from the number type `[Fl F]` the generated program `Gen.IL.cpuBin` runs on to the value
  domain `Ext K` (NaN, -inf, finite `K`, +inf over a linear order) the C12 theorems are stated in.

  `ExtSem e`: `e : F → Ext K` reads the numbers of `F` as extended values and the three primitives the program
  uses (`Fl.lt`, `Fl.le`, `Fl.isfinite`; `Fl.nan`) are the IEEE ones of `Ext K`.  Under such a reading the generic
  cell model `Bin.cellG` is the `Ext` model `Bin.cell` (`cellG_sem`).

  Two instances (non-vacuity): `NV K` (`none` = NaN, no ±inf; the domain of the kernel theorems) with `nvRead`, and
  `cmpFl K` -- `Ext K` itself as a *comparison-only* number type (arithmetic not interpreted: every operation
  returns NaN; `_cpu_bin` uses none) with `e = id`, which has ±inf.
-/
set_option linter.unusedSectionVars false
namespace XrsVerif.ILBin
open XrsVerif XrsVerif.IL XrsVerif.Bin

section wf
variable {F : Type} [Fl F]

/-- the inputs of `_cpu_bin` in an ILang state: a `rows x cols` raster, `nb` bins, `nv` new values (flat arrays
    whose lengths are the products of their shapes), control `run` -/
structure WellFormed (s : State F) (rows cols nb nv : Nat) : Prop where
  run : s.ctl = .run
  dshp : s.shp "data" = [rows, cols]
  dlen : (s.fa "data").length = rows * cols
  bshp : s.shp "bins" = [nb]
  blen : (s.fa "bins").length = nb
  nshp : s.shp "new_values" = [nv]
  nlen : (s.fa "new_values").length = nv

def mkState (rows cols : Nat) (data bins newv : List F) : State F :=
  { (State.empty : State F) with
    fa := setS (setS (setS (fun _ => []) "data" data) "bins" bins) "new_values" newv
    shp := setS (setS (setS (fun _ => []) "data" [rows, cols]) "bins" [bins.length]) "new_values" [newv.length] }

theorem mkState_wf (rows cols : Nat) (data bins newv : List F) (h : data.length = rows * cols) :
    WellFormed (mkState rows cols data bins newv) rows cols bins.length newv.length := by
  refine ⟨rfl, ?_, ?_, ?_, ?_, ?_, ?_⟩ <;> simp [mkState, setS, h]

@[simp] theorem mkState_data (rows cols : Nat) (data bins newv : List F) :
    (mkState rows cols data bins newv).fa "data" = data := by simp [mkState, setS]
@[simp] theorem mkState_bins (rows cols : Nat) (data bins newv : List F) :
    (mkState rows cols data bins newv).fa "bins" = bins := by simp [mkState, setS]
@[simp] theorem mkState_newv (rows cols : Nat) (data bins newv : List F) :
    (mkState rows cols data bins newv).fa "new_values" = newv := by simp [mkState, setS]

end wf

section sem
variable {F : Type} [Fl F] {K : Type} [LinearOrder K]

structure ExtSem (e : F → Ext K) : Prop where
  lt : ∀ a b : F, Fl.lt a b = Ext.lt (e a) (e b)
  le : ∀ a b : F, Fl.le a b = Ext.le (e a) (e b)
  fin : ∀ a : F, Fl.isfinite a = (e a).isFinite
  nan : e (Fl.nan : F) = .nan

theorem getD_map' {α β : Type} (f : α → β) (d : α) (l : List α) (n : Nat) :
    (l.map f).getD n (f d) = f (l.getD n d) := by
  simp only [List.getD_eq_getElem?_getD, List.getElem?_map]
  cases l[n]? <;> rfl

theorem getW_map {α β : Type} (f : α → β) (d : α) (l : List α) (i : Int) :
    getW (f d) (l.map f) i = f (getW d l i) := by
  unfold getW
  simp only [List.length_map, getD_map']
  split <;> split <;> rfl

theorem search_sem (e : F → Ext K) (he : ExtSem e) (B : List F) (v : F) :
    search Fl.lt Fl.le Fl.nan B v = search Ext.lt Ext.le .nan (B.map e) (e v) := by
  unfold search
  rw [List.length_map]
  congr 1
  · funext i; rw [he.lt, ← he.nan, getW_map]
  · funext i; rw [he.le, ← he.nan, getW_map]

theorem cellG_sem (e : F → Ext K) (he : ExtSem e) (B NV : List F) (v : F) :
    e (cellG Fl.lt Fl.le Fl.isfinite Fl.nan B NV v) = cell (B.map e) (NV.map e) (e v) := by
  unfold cellG cell
  rw [he.fin, search_sem e he]
  split
  · simp only []
    split
    · rw [← he.nan, getW_map]
    · exact he.nan
  · exact he.nan

theorem sem_total (e : F → Ext K) (he : ExtSem e) (B : List F) (hasc : ExtAscending (B.map e)) (v : F)
    (hv : Fl.isfinite v = true) : ∀ b ∈ B, Fl.lt b v = !Fl.le v b := by
  intro b hb
  rw [he.lt, he.le]
  rw [he.fin] at hv
  cases hev : e v with
  | fin x => exact Ext.lt_eq_not_le _ x (hasc.1 _ (List.mem_map_of_mem hb))
  | nan | ninf | pinf => rw [hev] at hv; cases hv

theorem sem_mono (e : F → Ext K) (he : ExtSem e) (B : List F) (hasc : ExtAscending (B.map e)) (v : F)
    (hv : Fl.isfinite v = true) : B.Pairwise (fun a b => Fl.le v a = true → Fl.le v b = true) := by
  rw [he.fin] at hv
  cases hev : e v with
  | fin x =>
    simp only [he.le, hev]
    exact List.pairwise_map.mp (hasc.le_mono x)
  | nan | ninf | pinf => rw [hev] at hv; cases hv

end sem

section nv
variable {K : Type} [Field K] [LinearOrder K] [IsStrictOrderedRing K] [Trig K]

/-- `NV K` read as extended values (`none` = NaN; there is no ±inf in `NV`) -/
def nvRead : NV K → Ext K
  | none => .nan
  | some x => .fin x

theorem nvRead_sem : ExtSem (nvRead : NV K → Ext K) where
  lt := by intro a b; cases a <;> cases b <;> rfl
  le := by intro a b; cases a <;> cases b <;> rfl
  fin := by intro a; cases a <;> rfl
  nan := rfl

end nv

section cmp
variable (K : Type) [LinearOrder K]

/-- `Ext K` as a comparison-only number type: IEEE `<`, `<=`, `==`, `isnan`, `isfinite`; arithmetic is not
    interpreted (NaN).  Enough for programs that only compare, like `_cpu_bin`. -/
@[instance_reducible] def cmpFl : Fl (Ext K) where
  lit _ _ := .nan
  nan := .nan
  add _ _ := .nan
  sub _ _ := .nan
  mul _ _ := .nan
  div _ _ := .nan
  neg _ := .nan
  abs _ := .nan
  lt := Ext.lt
  le := Ext.le
  eq a b := Ext.le a b && Ext.le b a
  isnan := Ext.isNaN
  isfinite := Ext.isFinite
  sqrt _ := .nan
  atan _ := .nan
  atan2 _ _ := .nan
  exp _ := .nan
  sin _ := .nan
  cos _ := .nan
  asin _ := .nan

theorem cmpFl_sem : @ExtSem (Ext K) (cmpFl K) K _ id :=
  @ExtSem.mk (Ext K) (cmpFl K) K _ id (fun _ _ => rfl) (fun _ _ => rfl) (fun _ => rfl) rfl

end cmp

end XrsVerif.ILBin
