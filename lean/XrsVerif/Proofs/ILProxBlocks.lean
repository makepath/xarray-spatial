import XrsVerif.Proofs.ILProxTarget
/-
  Symbolic execution of the blocks of one pixel of the generated
  `_process_proximity_line` (template `pixelBody N` of Proofs/ILangProx.lean): each block, run in a state with
  in-range indices, ends in an *explicitly given* state.  No model here; Proofs/ILProxPixel.lean relates the
  explicit states to `Prox.pixel`.
-/
namespace XrsVerif.IL.Px
open XrsVerif
variable {F : Type} [Fl F]
set_option linter.unusedSectionVars false

structure LineShp (N : Names) (H W : Nat) (s : State F) : Prop where
  px : s.shp "pan_near_x" = [W]
  py : s.shp "pan_near_y" = [W]
  nx : s.shp "nearest_xs" = [W]
  ny : s.shp "nearest_ys" = [W]
  lp : s.shp "line_proximity" = [W]
  src : s.shp N.src = [W]
  xs : s.shp N.xs = [H, W]
  ys : s.shp N.ys = [H, W]

theorem LineShp.of_shp {N : Names} {H W : Nat} {s r : State F} (h : LineShp N H W s) (e : r.shp = s.shp) :
    LineShp N H W r :=
  ⟨e ▸ h.px, e ▸ h.py, e ▸ h.nx, e ▸ h.ny, e ▸ h.lp, e ▸ h.src, e ▸ h.xs, e ▸ h.ys⟩

/-- `_distance` between the cell `(tr, tc)` and the cell `(r, p)` of the coordinate grids -/
def cellDist (N : Names) (W : Nat) (s : State F) (tr tc r p : Nat) : F :=
  s.ext "_distance" ((s.fa N.xs).getD (tr * W + tc) Fl.nan) ((s.fa N.xs).getD (r * W + p) Fl.nan)
    ((s.fa N.ys).getD (tr * W + tc) Fl.nan) ((s.fa N.ys).getD (r * W + p) Fl.nan) (s.ienv (N.nm .distanceMetric))

/-- `dist ** 2` -/
def cellDist2 (N : Names) (W : Nat) (s : State F) (tr tc r p : Nat) : F :=
  Fl.mul (cellDist N W s tr tc r p) (cellDist N W s tr tc r p)

/-- the state after the six assignments `x1 = ...; ...; dist_sqr = dist ** 2` -/
def afterDist (N : Names) (W : Nat) (s : State F) (tr tc r p : Nat) : State F :=
  let e1 := setS s.fenv (N.nm .x1) ((s.fa N.xs).getD (tr * W + tc) Fl.nan)
  let e2 := setS e1 (N.nm .y1) ((s.fa N.ys).getD (tr * W + tc) Fl.nan)
  let e3 := setS e2 (N.nm .x2) ((s.fa N.xs).getD (r * W + p) Fl.nan)
  let e4 := setS e3 (N.nm .y2) ((s.fa N.ys).getD (r * W + p) Fl.nan)
  let e5 := setS e4 (N.nm .dist) (cellDist N W s tr tc r p)
  { s with fenv := setS e5 (N.nm .distSqr) (cellDist2 N W s tr tc r p) }

/-- `pan_near_x[p] = x; pan_near_y[p] = y` -/
def setPan (s : State F) (p : Nat) (x y : Int) : State F :=
  { s with ia := setS (setS s.ia "pan_near_x" ((s.ia "pan_near_x").set p x)) "pan_near_y" ((s.ia "pan_near_y").set p y) }

/-- `near_distance_square = d2` -/
def setNds (N : Names) (s : State F) (d2 : F) : State F :=
  { s with fenv := setS s.fenv (N.nm .nds) d2 }

section blocks
variable (N : Names) (hN : N.WF) (s : State F) (fuel : Nat) (hs : s.ctl = .run)
variable (H W r p : Nat) (hsh : LineShp N H W s) (hr : r < H) (hp : p < W)
variable (hrow : s.ienv (N.nm .lineId) = r) (hpix : s.ienv (N.nm .pixel) = p)
include hN hs hsh hr hp hrow hpix

theorem dist_exec (q : LV) (tail : St) (qn tr tc : Nat) (hq : qn < W) (htr : tr < H) (htc : tc < W)
    (hqv : s.ienv (N.nm q) = qn)
    (hx : (s.ia "pan_near_x").getD qn 0 = tc) (hy : (s.ia "pan_near_y").getD qn 0 = tr) :
    exec fuel (bDist N q tail) s = exec fuel tail (afterDist N W s tr tc r p) := by
  have hne := hN.nm_eq
  simp only [List.getD_eq_getElem?_getD] at hx hy
  simp only [bDist, exec_seq]
  simp [exec, hs, IE.ok, IE.eval, FE.ok, FE.eval, setS, hne, hsh.px, hsh.py, hsh.xs, hsh.ys, hrow, hpix, hqv, hx, hy,
    inRange_of_lt _ _ hr, inRange_of_lt _ _ hp, inRange_of_lt _ _ hq, inRange_of_lt _ _ htr, inRange_of_lt _ _ htc,
    off1_nat, off2_nat, afterDist, cellDist, cellDist2, BinOp.eval]

omit hN hs hsh hr hp hrow hpix in
/-- `near_distance_square = max_distance ** 2 * 2.0` -/
theorem nds_exec :
    exec fuel (bNds N) s = setNds N s
      (Fl.mul (Fl.mul (s.fenv (N.nm .maxDistance)) (s.fenv (N.nm .maxDistance))) (Fl.lit 2 1)) := by
  simp [il, bNds, setNds]

omit hN hs hr hrow in
theorem above_none (hx : (s.ia "pan_near_x").getD p 0 = -1) : exec fuel (bAbove N) s = s := by
  simp only [List.getD_eq_getElem?_getD] at hx
  simp [il, bAbove, hsh.px, hpix, inRange_of_lt _ _ hp, off1_nat, hx]

/-- above phase, the target `(tr, tc)` remembered at `p`: keep it if nearer than the bound, else forget it -/
theorem above_some (tr tc : Nat) (htr : tr < H) (htc : tc < W)
    (hx : (s.ia "pan_near_x").getD p 0 = tc) (hy : (s.ia "pan_near_y").getD p 0 = tr) :
    exec fuel (bAbove N) s =
      if Fl.lt (cellDist2 N W s tr tc r p) (s.fenv (N.nm .nds)) then
        setNds N (afterDist N W s tr tc r p) (cellDist2 N W s tr tc r p)
      else setPan (afterDist N W s tr tc r p) p (-1) (-1) := by
  have hne := hN.nm_eq
  have hx' := hx
  simp only [List.getD_eq_getElem?_getD] at hx'
  have hg : ¬ ((tc : Int) = -1) := by omega
  have hok : (BE.cmpI CmpOp.ne (IE.ld1 "pan_near_x" (IE.var (N.nm .pixel))) (IE.lit (-1))).ok s = true := by
    simp [il, hsh.px, hpix, inRange_of_lt _ _ hp]
  rw [bAbove, exec_ite _ _ _ _ _ hok]
  simp only [BE.eval, IE.eval, cmpInt, hsh.px, hpix, off1_nat, List.getD_eq_getElem?_getD, hx', ne_eq, hg,
    not_false_eq_true, decide_true, if_true]
  rw [dist_exec N hN s fuel hs H W r p hsh hr hp hrow hpix .pixel _ p tr tc hp htr htc hpix hx hy]
  cases hc : Fl.lt (cellDist2 N W s tr tc r p) (s.fenv (N.nm .nds)) <;>
    simp [il, exec_seq, afterDist, hs, setS, hne, hc, hsh.px, hsh.py, hpix, inRange_of_lt _ _ hp, off1_nat, setNds, setPan]

omit hN hs hsh hr hp hrow hpix in
/-- the guard `pixel != start` / `tr != end` fails: first / last pixel of the sweep, no such neighbour -/
theorem nb_skip (g q lim : LV) (hg : s.ienv (N.nm g) = s.ienv (N.nm lim)) : exec fuel (bNb N g q lim) s = s := by
  simp [il, bNb, hg]

omit hN hs hr hp hrow hpix in
theorem nb_none (g q lim : LV) (qn : Nat) (hq : qn < W) (hqv : s.ienv (N.nm q) = qn)
    (hx : (s.ia "pan_near_x").getD qn 0 = -1) : exec fuel (bNb N g q lim) s = s := by
  simp only [List.getD_eq_getElem?_getD] at hx
  by_cases hg : s.ienv (N.nm g) = s.ienv (N.nm lim) <;>
    simp [il, bNb, hg, hsh.px, hqv, inRange_of_lt _ _ hq, off1_nat, hx]

/-- a neighbour phase, the target `(tr, tc)` remembered at the neighbour `qn`: adopt it if strictly nearer -/
theorem nb_some (g q lim : LV) (hg : s.ienv (N.nm g) ≠ s.ienv (N.nm lim)) (qn tr tc : Nat) (hq : qn < W)
    (htr : tr < H) (htc : tc < W) (hqv : s.ienv (N.nm q) = qn)
    (hx : (s.ia "pan_near_x").getD qn 0 = tc) (hy : (s.ia "pan_near_y").getD qn 0 = tr) :
    exec fuel (bNb N g q lim) s =
      if Fl.lt (cellDist2 N W s tr tc r p) (s.fenv (N.nm .nds)) then
        setPan (setNds N (afterDist N W s tr tc r p) (cellDist2 N W s tr tc r p)) p tc tr
      else afterDist N W s tr tc r p := by
  have hne := hN.nm_eq
  have hx' := hx
  have hy' := hy
  simp only [List.getD_eq_getElem?_getD] at hx' hy'
  have hg1 : ¬ ((tc : Int) = -1) := by omega
  have hok : (BE.and (BE.cmpI CmpOp.ne (IE.var (N.nm g)) (IE.var (N.nm lim)))
      (BE.cmpI CmpOp.ne (IE.ld1 "pan_near_x" (IE.var (N.nm q))) (IE.lit (-1)))).ok s = true := by
    simp [il, hsh.px, hqv, inRange_of_lt _ _ hq]
  rw [bNb, exec_ite _ _ _ _ _ hok]
  simp only [BE.eval, IE.eval, cmpInt, hsh.px, hqv, off1_nat, List.getD_eq_getElem?_getD, hx', ne_eq, hg, hg1,
    not_false_eq_true, decide_true, if_true, Bool.and_self]
  rw [dist_exec N hN s fuel hs H W r p hsh hr hp hrow hpix q _ qn tr tc hq htr htc hqv hx hy]
  cases hc : Fl.lt (cellDist2 N W s tr tc r p) (s.fenv (N.nm .nds)) <;>
    simp [il, exec_seq, afterDist, hs, setS, hne, hc, hsh.px, hsh.py, hpix, hqv, inRange_of_lt _ _ hp, inRange_of_lt _ _ hq,
      off1_nat, setNds, setPan, hx', hy']

omit hN hr hrow in
theorem tgt_true (ht : s.benv (N.nm .isTarget) = true) :
    exec fuel (bTgt N) s =
      { s with
        fa := setS s.fa "line_proximity" ((s.fa "line_proximity").set p (Fl.lit 0 1))
        ia := setS (setS (setS (setS s.ia "nearest_xs" ((s.ia "nearest_xs").set p p))
          "nearest_ys" ((s.ia "nearest_ys").set p (s.ienv (N.nm .lineId))))
          "pan_near_x" ((s.ia "pan_near_x").set p p)) "pan_near_y" ((s.ia "pan_near_y").set p (s.ienv (N.nm .lineId)))
        ctl := .cont } := by
  simp [il, bTgt, exec_seq, hs, ht, setS, hsh.px, hsh.py, hsh.nx, hsh.ny, hsh.lp, hpix, inRange_of_lt _ _ hp, off1_nat]

omit hN hsh hr hp hrow hpix hs in
theorem tgt_false (ht : s.benv (N.nm .isTarget) = false) : exec fuel (bTgt N) s = s := by
  simp [il, bTgt, ht]

/-- the condition of "Update our proximity value." -/
def updCond (N : Names) (s : State F) (p : Nat) : Bool :=
  decide ((s.ia "pan_near_x").getD p 0 ≠ -1) &&
  (Fl.le (s.fenv (N.nm .nds)) (Fl.mul (s.fenv (N.nm .maxDistance)) (s.fenv (N.nm .maxDistance))) &&
   (Fl.lt ((s.fa "line_proximity").getD p Fl.nan) (Fl.lit 0 1) ||
    Fl.lt (s.fenv (N.nm .nds))
      (Fl.mul ((s.fa "line_proximity").getD p Fl.nan) ((s.fa "line_proximity").getD p Fl.nan))))

omit hN hr hrow in
theorem upd_exec :
    exec fuel (bUpd N) s =
      if updCond N s p then
        { s with
          fa := setS s.fa "line_proximity" ((s.fa "line_proximity").set p (Fl.sqrt (s.fenv (N.nm .nds))))
          ia := setS (setS s.ia "nearest_xs" ((s.ia "nearest_xs").set p ((s.ia "pan_near_x").getD p 0)))
            "nearest_ys" ((s.ia "nearest_ys").set p ((s.ia "pan_near_y").getD p 0)) }
      else s := by
  have hok : (BE.and (BE.cmpI CmpOp.ne (IE.ld1 "pan_near_x" (IE.var (N.nm .pixel))) (IE.lit (-1)))
        (BE.and (BE.cmpF CmpOp.ge (FE.bin BinOp.mul (FE.var (N.nm .maxDistance)) (FE.var (N.nm .maxDistance))) (FE.var (N.nm .nds)))
          (BE.or (BE.cmpF CmpOp.lt (FE.ld1 "line_proximity" (IE.var (N.nm .pixel))) (FE.ofInt (IE.lit 0)))
            (BE.cmpF CmpOp.lt (FE.var (N.nm .nds))
              (FE.bin BinOp.mul (FE.ld1 "line_proximity" (IE.var (N.nm .pixel))) (FE.ld1 "line_proximity" (IE.var (N.nm .pixel)))))))).ok s = true := by
    simp [BE.ok, IE.ok, IE.eval, FE.ok, hsh.px, hsh.lp, hpix, inRange_of_lt _ _ hp]
  rw [bUpd, exec_ite _ _ _ _ _ hok]
  have hcond : BE.eval s (BE.and (BE.cmpI CmpOp.ne (IE.ld1 "pan_near_x" (IE.var (N.nm .pixel))) (IE.lit (-1)))
        (BE.and (BE.cmpF CmpOp.ge (FE.bin BinOp.mul (FE.var (N.nm .maxDistance)) (FE.var (N.nm .maxDistance))) (FE.var (N.nm .nds)))
          (BE.or (BE.cmpF CmpOp.lt (FE.ld1 "line_proximity" (IE.var (N.nm .pixel))) (FE.ofInt (IE.lit 0)))
            (BE.cmpF CmpOp.lt (FE.var (N.nm .nds))
              (FE.bin BinOp.mul (FE.ld1 "line_proximity" (IE.var (N.nm .pixel))) (FE.ld1 "line_proximity" (IE.var (N.nm .pixel)))))))) = updCond N s p := by
    simp [BE.eval, IE.eval, FE.eval, cmpInt, CmpOp.eval, BinOp.eval, updCond, hsh.px, hsh.lp, hpix, off1_nat]
  rw [hcond]
  cases updCond N s p
  · simp [exec]
  · simp [exec, exec_seq, hs, IE.ok, IE.eval, FE.ok, FE.eval, UnOp.eval, setS, hsh.px, hsh.py, hsh.nx, hsh.ny, hsh.lp, hpix,
      inRange_of_lt _ _ hp, off1_nat]

end blocks

end XrsVerif.IL.Px
