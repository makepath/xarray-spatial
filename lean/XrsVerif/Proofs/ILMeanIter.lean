import XrsVerif.Proofs.ILMeanRefines
/-
  Proofs/ILMeanIter.lean -- from the flat row-major arrays of the generated `_mean_numpy` to the nested-rows model
  `meanPass` / `meanIter` of Model/Focal.lean (the model `focal.mean` iterates): one run of the generated program on the
  flattened raster is one `meanPass`; `p` runs fed back into each other are `meanIter … p`.
-/
namespace XrsVerif.Focal
open XrsVerif XrsVerif.IL XrsVerif.IL.Fc XrsVerif.Gen.Focal
set_option linter.unusedSectionVars false
variable {F : Type} [Fl F]

def RowsWF (rows cols : Nat) (g : Rows F) : Prop := g.length = rows ∧ ∀ r ∈ g, r.length = cols

theorem flatten_getElem? {α : Type} (g : List (List α)) (c : Nat) (h : ∀ r ∈ g, r.length = c) (i j : Nat)
    (hi : i < g.length) (hj : j < c) : g.flatten[i * c + j]? = (g[i]?.getD [])[j]? := by
  induction g generalizing i with
  | nil => simp at hi
  | cons r g ih =>
    have hr : r.length = c := h r (by simp)
    cases i with
    | zero =>
      simp only [List.flatten_cons, Nat.zero_mul, Nat.zero_add, List.getElem?_cons_zero, Option.getD_some]
      rw [List.getElem?_append_left (by omega)]
    | succ i =>
      simp only [List.flatten_cons, List.getElem?_cons_succ]
      rw [List.getElem?_append_right (by rw [hr, Nat.succ_mul]; omega)]
      have e : (i + 1) * c + j - r.length = i * c + j := by rw [hr, Nat.succ_mul]; omega
      rw [e]
      exact ih (fun r' hr' => h r' (by simp [hr'])) i (by simpa using hi)

theorem RowsWF.flatten_length {rows cols : Nat} {g : Rows F} (h : RowsWF rows cols g) :
    g.flatten.length = rows * cols := by
  obtain ⟨h1, h2⟩ := h
  subst h1
  induction g with
  | nil => simp
  | cons r g ih =>
    simp only [List.flatten_cons, List.length_append, List.length_cons]
    rw [ih (fun r' hr' => h2 r' (by simp [hr'])), h2 r (by simp), Nat.succ_mul]; omega

theorem listArr_flatten {rows cols : Nat} {g : Rows F} (h : RowsWF rows cols g) (i j : Int)
    (hi0 : 0 ≤ i) (hi1 : i < rows) (hj0 : 0 ≤ j) (hj1 : j < cols) :
    listArr g.flatten cols i j = g.get i j := by
  unfold listArr Rows.get
  rw [if_pos ⟨hi0, hj0⟩, List.getD_eq_getElem?_getD,
    flatten_getElem? g cols h.2 i.toNat j.toNat (by rw [h.1]; omega) (by omega)]

theorem meanCell_congr (D1 D2 : Arr F) (rows cols : Nat) (excl : List F) (y x : Int)
    (hD : ∀ i j : Int, 0 ≤ i → i < rows → 0 ≤ j → j < cols → D1 i j = D2 i j)
    (hy0 : 0 ≤ y) (hy1 : y < rows) (hx0 : 0 ≤ x) (hx1 : x < cols) :
    meanCell D1 rows cols excl y x = meanCell D2 rows cols excl y x := by
  simp only [meanCell, mean_excluded_pass_through, if_true, mean_reducer, npReducer, mean_row_lo, mean_row_hi,
    mean_col_lo, mean_col_hi]
  rw [hD y x hy0 hy1 hx0 hx1]
  have hs : sliceCells D1 (max (y - 1) 0) (min (y + 2) rows) (max (x - 1) 0) (min (x + 2) cols) =
      sliceCells D2 (max (y - 1) 0) (min (y + 2) rows) (max (x - 1) 0) (min (x + 2) cols) := by
    unfold sliceCells
    apply List.flatMap_congr
    intro i hi
    apply List.map_congr_left
    intro j hj
    have hi' := (mem_intRange _ _ _).mp hi
    have hj' := (mem_intRange _ _ _).mp hj
    exact hD i j ((Int.le_max_right _ _).trans hi'.1) (Int.lt_of_lt_of_le hi'.2 (Int.min_le_right _ _))
      ((Int.le_max_right _ _).trans hj'.1) (Int.lt_of_lt_of_le hj'.2 (Int.min_le_right _ _))
  rw [hs]

theorem meanOut_eq_meanPass {rows cols : Nat} (excl : List F) {g : Rows F} (h : RowsWF rows cols g) :
    meanOut g.flatten excl rows cols = (meanPass rows cols excl g).flatten := by
  unfold meanOut meanPass allCells
  rw [List.map_flatMap, ← List.flatMap_def]
  apply List.flatMap_congr
  intro y hy
  rw [List.map_map]
  apply List.map_congr_left
  intro x hx
  have hy' := List.mem_range.mp hy
  have hx' := List.mem_range.mp hx
  exact meanCell_congr _ _ rows cols excl y x
    (fun i j a b c d => listArr_flatten h i j a b c d) (by omega) (by omega) (by omega) (by omega)

theorem meanPass_wf (rows cols : Nat) (excl : List F) (g : Rows F) : RowsWF rows cols (meanPass rows cols excl g) := by
  refine ⟨by simp [meanPass], ?_⟩
  intro r hr
  simp only [meanPass, List.mem_map] at hr
  obtain ⟨y, _, rfl⟩ := hr
  simp

theorem meanIter_wf (rows cols : Nat) (excl : List F) (p : Nat) (g : Rows F) (h : RowsWF rows cols g) :
    RowsWF rows cols (meanIter rows cols excl p g) := by
  cases p with
  | zero => exact h
  | succ p => exact meanPass_wf rows cols excl _

def ilMeanPass (excl : List F) (rows cols fuel : Nat) (data : List F) : List F :=
  ((Gen.IL.meanNumpy.run (meanState data excl rows cols) fuel).fa "out")

theorem ilMeanPass_eq {rows cols : Nat} (excl : List F) (fuel : Nat) {g : Rows F} (h : RowsWF rows cols g) :
    ilMeanPass excl rows cols fuel g.flatten = (meanPass rows cols excl g).flatten := by
  unfold ilMeanPass
  rw [(meanNumpy_refines g.flatten excl rows cols excl.length _ fuel (meanState_input _ _ _ _)).2.2.2.2]
  exact meanOut_eq_meanPass excl h

/-- `p` runs of the generated program, each fed the output of the previous one, are `p` passes of the model -/
theorem ilMeanPass_iterate {rows cols : Nat} (excl : List F) (fuel : Nat) (p : Nat) {g : Rows F} (h : RowsWF rows cols g) :
    (ilMeanPass excl rows cols fuel)^[p] g.flatten = (meanIter rows cols excl p g).flatten := by
  induction p with
  | zero => rfl
  | succ p ih =>
    rw [Function.iterate_succ_apply', ih]
    exact ilMeanPass_eq excl fuel (meanIter_wf rows cols excl p g h)

end XrsVerif.Focal
