import XrsVerif.Proofs.ILangProx
import XrsVerif.Model.Proximity
/-
  Step 1 of the refinement of the generated `_process_proximity_line`:
  the target-test block (`is_target = False; if n_values == 0: ... else: for i in range(n_values): ...`)
  computes `targetTest` (the test on numbers), and `targetTest` is the model's `Prox.isTargetVal` under any
  reading `toVal : F → Prox.Val` of the numbers that respects `==`, `!= 0` and `isfinite`.
-/
namespace XrsVerif.IL.Px
open XrsVerif
variable {F : Type} [Fl F]

/-- the target test of `_process_proximity_line` on numbers: default = non-zero and finite,
    explicit `values` = `==` with one of them -/
def targetTest (x : F) (vals : List F) : Bool :=
  if vals.length = 0 then (!(Fl.eq x (Fl.lit 0 1)) && Fl.isfinite x) else vals.any (fun v => Fl.eq x v)

theorem init_exec (N : Names) (s : State F) (fuel : Nat) :
    exec fuel (bInit N) s = { s with benv := setS s.benv (N.nm .isTarget) false } := by
  simp [il, bInit]

theorem test_exec (N : Names) (hN : N.WF) (s : State F) (fuel : Nat) (hs : s.ctl = .run)
    (p W nv : Nat) (hp : p < W) (hpix : s.ienv (N.nm .pixel) = p) (hshp : s.shp N.src = [W])
    (hvshp : s.shp N.vals = [nv]) (hnv : s.ienv (N.nm .nValues) = nv) (hvlen : (s.fa N.vals).length = nv)
    (hf : s.benv (N.nm .isTarget) = false) :
    let r := exec fuel (bTest N) s
    r.ctl = .run ∧ r.benv (N.nm .isTarget) = targetTest ((s.fa N.src).getD p Fl.nan) (s.fa N.vals) ∧
    ScalOnly s r ∧ r.fenv = s.fenv ∧ (∀ v, v ≠ N.nm .i → r.ienv v = s.ienv v) ∧
    (∀ v, v ≠ N.nm .isTarget → r.benv v = s.benv v) := by
  intro r
  have fr := ILVs.exec_frame fuel (bTest N) s
  refine (fun (h : r.ctl = .run ∧ _) => ⟨h.1, h.2, ⟨fr.fa_eq, fr.ia_eq, fr.shp_eq, fr.ext⟩, fr.fenv_eq,
    fun v hv => fr.ienv v (by simpa [ILVs.wI, bTest] using hv), fun v hv => fr.benv v (by simpa [ILVs.wB, bTest] using hv)⟩) ?_
  clear fr
  have hne := hN.nm_eq
  generalize hx : (s.fa N.src).getD p Fl.nan = x
  simp only [List.getD_eq_getElem?_getD] at hx
  by_cases h0 : nv = 0
  · subst h0
    have hl : (s.fa N.vals) = [] := by simpa using hvlen
    have hr : exec fuel (bTest N) s =
        if (!(Fl.eq x (Fl.lit 0 1)) && Fl.isfinite x) then { s with benv := setS s.benv (N.nm .isTarget) true } else s := by
      cases h1 : Fl.eq x (Fl.lit 0 1) <;> cases h2 : Fl.isfinite x <;>
        simp [il, bTest, hs, hpix, hshp, hnv, inRange_of_lt _ _ hp, off1_nat, hx, h1, h2]
    simp only [r, hr, targetTest, hl, List.length_nil, if_true]
    cases (!(Fl.eq x (Fl.lit 0 1)) && Fl.isfinite x)
    · exact ⟨hs, hf⟩
    · exact ⟨hs, by simp⟩
  · have hnv0 : ¬ ((nv : Int) = 0) := by omega
    have hvl0 : ¬ ((s.fa N.vals).length = 0) := by omega
    have hok : (BE.cmpI CmpOp.eq (IE.var (N.nm .nValues)) (IE.lit 0)).ok s = true := rfl
    simp only [r]
    rw [bTest, exec_ite _ _ _ _ _ hok]
    simp only [BE.eval, IE.eval, cmpInt, hnv, hnv0, decide_false, Bool.false_eq_true, if_false]
    have := forRange_up_mods (N.nm .i) (.var (N.nm .nValues))
      (.ite (.cmpF .eq (.ld1 N.src (.var (N.nm .pixel))) (.ld1 N.vals (.var (N.nm .i)))) (.setB (N.nm .isTarget) .tt) .skip)
      s fuel nv hs rfl (by simp [IE.eval, hnv])
      (fun k st => st.benv (N.nm .isTarget) = ((s.fa N.vals).take k).any (fun v => Fl.eq x v))
      (by simp [hf])
      (by
        intro k hk st hst fr ht
        have hpx : st.ienv (N.nm .pixel) = p := (fr.ienv _ (by simp [ILVs.wI, hne])).trans hpix
        have hsh := fr.shp_eq
        have hfa := fr.fa_eq
        have hkl : k < (s.fa N.vals).length := by omega
        cases hc : Fl.eq x ((s.fa N.vals)[k]) <;>
          simp [il, hst, setS, hne, hpx, hsh, hfa, hshp, hvshp, inRange_of_lt _ _ hp, inRange_of_lt _ _ hk, off1_nat, hkl, hc,
            afterBody, any_take_succ _ _ _ hkl, ht, hx])
    simp only [targetTest, hvl0, if_false]
    refine ⟨this.1, ?_⟩
    rw [this.2.2, ← hvlen, List.take_length]

/-- a reading of the numbers as the model's raster values that respects the three tests the code uses -/
structure ValReading (toVal : F → Prox.Val) : Prop where
  eq : ∀ x y : F, Fl.eq x y = Prox.Val.ieq (toVal x) (toVal y)
  zero : toVal (Fl.lit 0 1 : F) = .fin 0
  finite : ∀ x : F, Fl.isfinite x = (match toVal x with | .fin _ => true | _ => false)

/-- step 1: the test block computes the model's `isTargetVal` -/
theorem targetTest_model (toVal : F → Prox.Val) (h : ValReading toVal) (x : F) (vals : List F) :
    targetTest x vals = Prox.isTargetVal (vals.map toVal) (toVal x) := by
  unfold targetTest Prox.isTargetVal
  by_cases hv : vals = []
  · subst hv
    simp only [List.length_nil, if_true, List.map_nil, List.isEmpty_nil]
    rw [h.eq, h.zero, h.finite]
    cases hx : toVal x <;> simp [Prox.Val.ieq, bne]
  · have h1 : ¬ vals.length = 0 := by simpa using hv
    have h2 : (vals.map toVal).isEmpty = false := by cases vals <;> simp_all
    simp only [h1, if_false, h2, Bool.false_eq_true, List.any_map]
    congr 1; funext v; simp [h.eq]

end XrsVerif.IL.Px
