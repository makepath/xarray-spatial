import XrsVerif.Proofs.ViewshedQuery
import XrsVerif.Proofs.ViewshedOps
/-!
  The sweep run with the tree equals the sweep run with the list (C05).
-/
set_option linter.unusedSectionVars false
namespace XrsVerif.Viewshed

variable {α : Type} [Field α] [LinearOrder α] [IsStrictOrderedRing α]

theorem visL_iff (st : List (Node α)) (k ang g : α) :
    visL st k ang g = true ↔ ∀ n ∈ st, n.key < k → spans n ang = true → itp n ang ≤ g := by
  simp only [visL, List.all_eq_true, Bool.or_eq_true, Bool.not_eq_eq_eq_not, Bool.not_true,
    Bool.and_eq_false_imp, decide_eq_true_eq]
  constructor
  · intro h n hn hk hs
    rcases h n hn with h | h
    · exact absurd hs (by simpa using h hk)
    · exact h
  · intro h n hn
    by_cases hk : n.key < k
    · by_cases hs : spans n ang = true
      · exact Or.inr (h n hn hk hs)
      · exact Or.inl (fun _ => by simpa using hs)
    · exact Or.inl (fun hk' => absurd hk' hk)

theorem visT_eq_visL {S : α} {d : Node α} {t : Tree α} {st : List (Node α)} {k ang g : α}
    (hr : Rel S d t st) (hq : QOK S d st k ang g) : visT S t k ang g = visL st k ang g := by
  obtain ⟨hb, ha, hm⟩ := hr
  obtain ⟨hS, ⟨kn, hkn, hkk⟩, hsp, hdm, hdi⟩ := hq
  have hdec := query_decides' (S := S) (t := t) k ang g hS hb ha
    ⟨kn, (hm kn).mpr (Or.inr hkn), hkk⟩
    (fun n hn hk => by
      rcases (hm n).mp hn with rfl | hn
      · exact Or.inr hdm
      · exact Or.inl (hsp n hn hk))
  rw [Bool.eq_iff_iff, visL_iff]
  unfold visT
  rw [decide_eq_true_eq, hdec]
  constructor
  · intro h n hn; exact h n ((hm n).mpr (Or.inr hn))
  · intro h n hn hk hs
    rcases (hm n).mp hn with rfl | hn
    · exact hdi hs
    · exact h n hn hk hs

/-- **refinement along a run.**  If every state of the tree run is related to the state of the list
    run (BST, no overestimate below the root, same nodes) and the queries are the sweep's, both runs report the same
    visible cells. -/
theorem sweep_refines_along {S : α} {d : Node α} (O : TreeOps α) :
    ∀ (ops : List (Op α)) (t : Tree α) (st : List (Node α)),
      InvAlong S d O t st ops → OpsOK S d st ops → runT S O t ops = runL st ops := by
  intro ops
  induction ops with
  | nil => intros; rfl
  | cons op ops ih =>
    intro t st hi ho
    obtain ⟨hr, hi'⟩ := hi
    obtain ⟨hok, ho'⟩ := ho
    cases op with
    | ins n => simpa [runT, runL, stepT, stepL] using ih _ _ hi' ho'
    | del k => simpa [runT, runL, stepT, stepL] using ih _ _ hi' ho'
    | qry k ang g =>
      have := ih _ _ hi' ho'
      simp only [stepT, stepL] at this
      simp only [runT, runL, stepT, stepL, visT_eq_visL hr hok, this]

theorem invAlong_of_preserves {S : α} {d : Node α} (O : TreeOps α) (hp : Preserves S d O) :
    ∀ (ops : List (Op α)) (t : Tree α) (st : List (Node α)),
      Rel S d t st → OpsOK S d st ops → InvAlong S d O t st ops := by
  intro ops
  induction ops with
  | nil => intro t st hr _; exact hr
  | cons op ops ih =>
    intro t st hr ho
    obtain ⟨hok, ho'⟩ := ho
    refine ⟨hr, ?_⟩
    cases op with
    | ins n => exact ih _ _ (hp.1 t st n hr hok.1 hok.2) ho'
    | del k => exact ih _ _ (hp.2 t st k hr) ho'
    | qry k ang g => exact ih _ _ hr ho'

/-- a property kept by every rearranging operation is kept by the fixups -/
theorem Rebal.preserves {S : α} {P : Tree α → Prop} (hP : ∀ f, Respects S f → ∀ t, P t → P (f t))
    {t u : Tree α} (h : Rebal S t u) (ht : P t) : P u := by
  induction h with
  | refl t => exact ht
  | rotL p _ ih => exact ih (hP _ ((respects_rotL S).atPath p) _ ht)
  | rotR p _ ih => exact ih (hP _ ((respects_rotR S).atPath p) _ ht)
  | colour f _ ih => exact ih (hP _ (respects_recolour S f []) _ ht)

theorem Rebal.toList {S : α} {t u : Tree α} (h : Rebal S t u) : u.toList = t.toList :=
  h.preserves (P := fun v => v.toList = t.toList) (fun _ hf v e => (hf.toList v).trans e) rfl

theorem Rebal.bst {S : α} {t u : Tree α} (h : Rebal S t u) (hb : BST t) : BST u := hb.of_toList_eq h.toList

theorem Rebal.augLeQ {S : α} {t u : Tree α} (h : Rebal S t u) (ha : AugLeQ S t) : AugLeQ S u :=
  h.preserves (fun _ hf _ => hf.augLeQ) ha

theorem Rebal.exact {S : α} {t u : Tree α} (h : Rebal S t u) (ha : Exact S t) : Exact S u :=
  h.preserves (fun _ hf _ => hf.exact) ha

theorem Rebal.augLe {S : α} {t u : Tree α} (h : Rebal S t u) (ha : AugLe S t) : AugLe S u :=
  h.preserves (fun _ hf _ => hf.augLe) ha

end XrsVerif.Viewshed
