import XrsVerif.Proofs.ILangVssweep
/-
  The generated `_init_event_list` (`Gen.IL.vsInitEventList`, 600 lines) cut into named
  pieces: the row copies of the three-row ring buffer `inrast` (the translator turns `inrast[a] = b[c]` into a loop over
  the row and the *view* `tmprast = inrast[0]` into the row index `row$tmprast`), the two inlined `_calc_event_elev`
  (with `_calculate_event_row_col` inside), the three inlined `_calc_event_pos` + `_calculate_angle` + append-to-list.
-/
namespace XrsVerif.ILSw
open XrsVerif XrsVerif.IL

/-- `dst[<q>r] = src[sv]` (two 2-D arrays): `for <q>k in range(dst.shape[1]): dst[<q>r, <q>k] = src[sv, <q>k]` -/
def rowcp (q dst src sv : String) : St :=
  .forRange (q ++ "k") (.lit 0) (.dim dst 1) (.lit 1)
    (.stF2 dst (.var (q ++ "r")) (.var (q ++ "k")) (.ld2 src (.var sv) (.var (q ++ "k"))))

/-- `event_list[<q>r] = e` -/
def rowcpE (q : String) : St :=
  .forRange (q ++ "k") (.lit 0) (.dim "event_list" 1) (.lit 1)
    (.stF2 "event_list" (.var (q ++ "r")) (.var (q ++ "k")) (.ld1 "e" (.var (q ++ "k"))))

/-- the body of `_calc_event_elev` (locals prefixed `p`, the inlined `_calculate_event_row_col` prefixed `q`) -/
def elevBody (p q : String) : St :=
  (.seq (.setF (q ++ "event_type") (.var (p ++ "event_type")))
  (.seq (.setI (q ++ "event_row") (.var (p ++ "event_row")))
  (.seq (.setI (q ++ "event_col") (.var (p ++ "event_col")))
  (.seq (.setI (q ++ "viewpoint_row") (.var (p ++ "viewpoint_row")))
  (.seq (.setI (q ++ "viewpoint_col") (.var (p ++ "viewpoint_col")))
  (.seq (.scope (rcBody .num q))
  (.seq (.setI (p ++ "row1") (.var (q ++ "ret0")))
  (.seq (.setI (p ++ "col1") (.var (q ++ "ret1")))
  (.seq (.setF (p ++ "event_elev") (.ld2 "inrast" (.lit 1) (.var (p ++ "event_col"))))
  (.seq (.ite (.and (.and (.cmpI .le (.lit 0) (.var (p ++ "row1"))) (.cmpI .lt (.var (p ++ "row1")) (.var (p ++ "n_rows"))))
                    (.and (.cmpI .le (.lit 0) (.var (p ++ "col1"))) (.cmpI .lt (.var (p ++ "col1")) (.var (p ++ "n_cols")))))
    (.seq (.setF (p ++ "elev1") (.ld2 "inrast" (.bin .add (.bin .sub (.var (p ++ "row1")) (.var (p ++ "event_row"))) (.lit 1)) (.var (p ++ "col1"))))
    (.seq (.setF (p ++ "elev2") (.ld2 "inrast" (.bin .add (.bin .sub (.var (p ++ "row1")) (.var (p ++ "event_row"))) (.lit 1)) (.var (p ++ "event_col"))))
    (.seq (.setF (p ++ "elev3") (.ld2 "inrast" (.lit 1) (.var (p ++ "col1"))))
    (.seq (.setF (p ++ "elev4") (.ld2 "inrast" (.lit 1) (.var (p ++ "event_col"))))
    (.ite (.or (.isnan (.var (p ++ "elev1"))) (.or (.isnan (.var (p ++ "elev2"))) (.or (.isnan (.var (p ++ "elev3"))) (.isnan (.var (p ++ "elev4"))))))
      (.setF (p ++ "event_elev") (.ld2 "inrast" (.lit 1) (.var (p ++ "event_col"))))
      (.setF (p ++ "event_elev") (.bin .div (.bin .add (.bin .add (.bin .add (.var (p ++ "elev1")) (.var (p ++ "elev2"))) (.var (p ++ "elev3"))) (.var (p ++ "elev4"))) (.lit 4 1))))))))
    .skip)
  (.seq (.setF (p ++ "ret0") (.var (p ++ "event_elev")))
  .ret)))))))))))

/-- `e[E_TYPE_ID] = ty; e[idx] = _calc_event_elev(e[E_TYPE_ID], e_row, e_col, n_rows, n_cols, vp_row, vp_col, inrast)` -/
def elevCall (p q : String) (ty idx : Int) (rest : St) : St :=
  (.seq (.stF1 "e" (.lit 2) (.ofInt (.lit ty)))
  (.seq (.setF (p ++ "event_type") (.ld1 "e" (.lit 2)))
  (.seq (.setI (p ++ "event_row") (.var "e_row"))
  (.seq (.setI (p ++ "event_col") (.var "e_col"))
  (.seq (.setI (p ++ "n_rows") (.var "n_rows"))
  (.seq (.setI (p ++ "n_cols") (.var "n_cols"))
  (.seq (.setI (p ++ "viewpoint_row") (.var "vp_row"))
  (.seq (.setI (p ++ "viewpoint_col") (.var "vp_col"))
  (.seq (.scope (elevBody p q))
  (.seq (.stF1 "e" (.lit idx) (.var (p ++ "ret0")))
  rest))))))))))

/-- `e[E_TYPE_ID] = ty; ay, ax = _calc_event_pos(…); e[E_ANG_ID] = _calculate_angle(ax, ay, vp_col, vp_row)` -/
def posAng (p a : String) (ty : Int) (rest : St) : St :=
  (.seq (.stF1 "e" (.lit 2) (.ofInt (.lit ty)))
  (.seq (.setF (p ++ "event_type") (.ld1 "e" (.lit 2)))
  (.seq (.setI (p ++ "event_row") (.var "e_row"))
  (.seq (.setI (p ++ "event_col") (.var "e_col"))
  (.seq (.setI (p ++ "viewpoint_row") (.var "vp_row"))
  (.seq (.setI (p ++ "viewpoint_col") (.var "vp_col"))
  (.seq (.scope (posBody .num p))
  (.seq (.setF "ay" (.var (p ++ "ret0")))
  (.seq (.setF "ax" (.var (p ++ "ret1")))
  (.seq (.setF (a ++ "event_x") (.var "ax"))
  (.seq (.setF (a ++ "event_y") (.var "ay"))
  (.seq (.setI (a ++ "viewpoint_x") (.var "vp_col"))
  (.seq (.setI (a ++ "viewpoint_y") (.var "vp_row"))
  (.seq (.scope (angBody a))
  (.seq (.stF1 "e" (.lit 3) (.var (a ++ "ret0")))
  rest)))))))))))))))

/-- `event_list[count_event] = e` -/
def appendE (cp : String) (rest : St) : St :=
  (.seq (.setI (cp ++ "r") (.var "count_event"))
  (.seq (rowcpE cp)
  rest))

def countUp : St := .setI "count_event" (.bin .add (.var "count_event") (.lit 1))

/-- the three `data[k][j] = e[f k]` of the observer's row -/
def dataWrite (f0 f1 f2 : Int) : St :=
  .ite (.cmpI .eq (.var "i") (.var "vp_row"))
    (.seq (.stF2 "data" (.lit 0) (.var "j") (.ld1 "e" (.lit f0)))
    (.seq (.stF2 "data" (.lit 1) (.var "j") (.ld1 "e" (.lit f1)))
    (.stF2 "data" (.lit 2) (.var "j") (.ld1 "e" (.lit f2)))))
    .skip

/-- `if i == vp_row and j == vp_col: _set_visibility(visibility_grid, i, j, 180); continue` -/
def obsSkip : St :=
  .ite (.and (.cmpI .eq (.var "i") (.var "vp_row")) (.cmpI .eq (.var "j") (.var "vp_col")))
    (.seq (.setI "_set_visibility1$i" (.var "i"))
    (.seq (.setI "_set_visibility1$j" (.var "j"))
    (.seq (.setI "_set_visibility1$value" (.lit 180))
    (.seq (.scope (.seq (.stF2 "visibility_grid" (.var "_set_visibility1$i") (.var "_set_visibility1$j") (.ofInt (.var "_set_visibility1$value")))
    .ret))
    .cont))))
    .skip

/-- what follows the `continue`, from the back: the three events … -/
def ev9 : St := posAng "_calc_event_pos10$" "_calculate_angle11$" (-1) (appendE "rowcp8$" countUp)
def ev8 : St := .seq countUp ev9
def ev7 : St := posAng "_calc_event_pos8$" "_calculate_angle9$" 0 (appendE "rowcp7$" ev8)
def ev6 : St := .seq countUp ev7
def ev5 : St := posAng "_calc_event_pos6$" "_calculate_angle7$" 1 (appendE "rowcp6$" ev6)
/-- … the observer-row buffer … -/
def ev4 : St := .seq (dataWrite 4 5 6) ev5
/-- … the two corner elevations -/
def ev3 : St := elevCall "_calc_event_elev4$" "_calc_event_elev4$_calculate_event_row_col5$" (-1) 6 ev4
def cellEvents3 : St := elevCall "_calc_event_elev2$" "_calc_event_elev2$_calculate_event_row_col3$" 1 4 ev3

/-- the body of `for j in range(n_cols)` -/
def cellBody : St :=
  (.seq (.setI "e_row" (.var "i"))
  (.seq (.setI "e_col" (.var "j"))
  (.seq (.stF1 "e" (.lit 0) (.ofInt (.var "i")))
  (.seq (.stF1 "e" (.lit 1) (.ofInt (.var "j")))
  (.seq (.stF1 "e" (.lit 5) (.ld2 "inrast" (.lit 1) (.var "j")))
  (.seq (dataWrite 5 5 5)
  (.seq obsSkip
  cellEvents3)))))))

/-- the rotation of the ring buffer at the head of `for i in range(n_rows)` and the read of the next raster row -/
def ringStep : List St :=
  [.setI "row$tmprast" (.lit 0),
   .setI "rowcp2$r" (.lit 0), .setI "rowcp2$s" (.lit 1), rowcp "rowcp2$" "inrast" "inrast" "rowcp2$s",
   .setI "rowcp3$r" (.lit 1), .setI "rowcp3$s" (.lit 2), rowcp "rowcp3$" "inrast" "inrast" "rowcp3$s",
   .setI "rowcp4$r" (.lit 2), rowcp "rowcp4$" "inrast" "inrast" "row$tmprast",
   .ite (.cmpI .lt (.var "i") (.bin .sub (.var "n_rows") (.lit 1)))
     (.seq (.setI "rowcp5$r" (.lit 2))
     (.seq (.setI "rowcp5$s" (.bin .add (.var "i") (.lit 1)))
     (rowcp "rowcp5$" "inrast" "raster" "rowcp5$s")))
     (.forRange "j" (.lit 0) (.var "n_cols") (.lit 1) (.stF2 "inrast" (.lit 2) (.var "j") .nan))]

def cellLoop : St := .forRange "j" (.lit 0) (.var "n_cols") (.lit 1) cellBody

def rowBody : St := ILVs.seqK ringStep cellLoop

def initPrologue : List St :=
  [.setI "n_rows" (.dim "raster" 0), .setI "n_cols" (.dim "raster" 1),
   .allocF "inrast" [(.lit 3), (.var "n_cols")] (.lit 0 1),
   .allocF "inrast" [(.dim "inrast" 0), (.dim "inrast" 1)] .nan,
   .setI "rowcp1$r" (.lit 2), .setI "rowcp1$s" (.lit 0), rowcp "rowcp1$" "inrast" "raster" "rowcp1$s",
   .allocF "e" [(.lit 7)] (.lit 0 1),
   .setI "count_event" (.lit 0)]

def rowLoop : St := .forRange "i" (.lit 0) (.var "n_rows") (.lit 1) rowBody

def initBody : St := ILVs.seqK initPrologue (.seq rowLoop .ret)

/-- **the generated `_init_event_list` is this template** (every inlined callee an instance of its own template) -/
theorem vsInitEventList_is_template : Gen.IL.vsInitEventList.body = initBody := by rfl

end XrsVerif.ILSw
