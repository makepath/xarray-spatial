import XrsVerif.Proofs.ILVsInitDefs
import XrsVerif.Proofs.ILVsGeom
/-
  The two inlined `_calc_event_elev` of the generated `_init_event_list`: each stores the
  model's corner elevation (`cornerElevF`: mean of the 2 x 2 block at the corner read from the three-row ring buffer,
  the cell's own elevation at the border or next to a NaN) into the event record `e`.
-/
namespace XrsVerif.ILSw
open XrsVerif XrsVerif.IL XrsVerif.ViewshedEvents
variable {F : Type} [Fl F]
set_option linter.unusedVariables false

def rdI (l : List F) (w : Nat) (r c : Int) : F := l.getD (r.toNat * w + c.toNat) Fl.nan

theorem ld2_rd (s : State F) (a : String) (R C : Nat) (iE jE : IE) (hshp : s.shp a = [R, C])
    (hoki : iE.ok s = true) (hokj : jE.ok s = true) (hr : 0 ≤ iE.eval s ∧ iE.eval s < R)
    (hc : 0 ≤ jE.eval s ∧ jE.eval s < C) :
    (FE.ld2 a iE jE).ok s = true ∧ (FE.ld2 a iE jE).eval s = rdI (s.fa a) C (iE.eval s) (jE.eval s) := by
  have n1 : ¬ iE.eval s < 0 := by omega
  have n2 : ¬ jE.eval s < 0 := by omega
  simp [FE.ok, FE.eval, hshp, hoki, hokj, inRange, normIdx, off2, rdI, n1, n2, hr.1, hr.2, hc.1, hc.2]

def cornerVal (A B C D : F) : F :=
  if (Fl.isnan A || (Fl.isnan B || (Fl.isnan C || Fl.isnan D))) = true then D
  else Fl.div (Fl.add (Fl.add (Fl.add A B) C) D) (Fl.lit 4 1)

/-- `_calc_event_elev` on a terrain `T` over any number type (`Model/ViewshedEvents.cornerElev` with the code's NaN
    fallback and the code's order of additions) -/
def cornerElevF (T : Int → Int → F) (h w : Nat) (vr vc ty row col : Int) : F :=
  let o := nbOff ty (row - vr) (col - vc)
  if 0 ≤ row + o.1 ∧ row + o.1 < h ∧ 0 ≤ col + o.2 ∧ col + o.2 < w then
    cornerVal (T (row + o.1) (col + o.2)) (T (row + o.1) col) (T row (col + o.2)) (T row col)
  else T row col

/-- the three-row buffer `inrast` while row `i` is processed: row `d` holds raster row `i + d - 1` (if there is one) -/
def Ring (inr : List F) (T : Int → Int → F) (h w : Nat) (i : Int) : Prop :=
  ∀ d c : Int, 0 ≤ d → d ≤ 2 → 0 ≤ i + d - 1 → i + d - 1 < h → 0 ≤ c → c < w → rdI inr w d c = T (i + d - 1) c

/-- the integer variables of `_init_event_list` that are live across the inlined calls -/
def liveVars : List String := ["i", "j", "e_row", "e_col", "n_rows", "n_cols", "vp_row", "vp_col", "count_event"]

def LiveI (ie ie' : String → Int) : Prop := ∀ v ∈ liveVars, ie' v = ie v

/-- a block of the per-cell code: control stays `run`, only scalars and numeric arrays change, the live variables keep
    their values -/
structure EvStep (s s' : State F) : Prop where
  ctl : s'.ctl = .run
  ia : s'.ia = s.ia
  shp : s'.shp = s.shp
  ext : s'.ext = s.ext
  live : LiveI s.ienv s'.ienv

def ElevCallSpec (F : Type) [Fl F] (p q : String) (ty idx : Int) (k : Nat) : Prop :=
  ∀ (hL : LitOK F) (rest : St) (s : State F) (fuel : Nat) (hs : s.ctl = .run)
    (T : Int → Int → F) (h w : Nat) (i j vr vc : Int)
    (hshp : s.shp "inrast" = [3, w]) (hshe : s.shp "e" = [7]) (hlen : (s.fa "e").length = 7)
    (hring : Ring (s.fa "inrast") T h w i) (hi : 0 ≤ i ∧ i < h) (hj : 0 ≤ j ∧ j < w)
    (h2 : s.ienv "e_row" = i) (h3 : s.ienv "e_col" = j) (h4 : s.ienv "n_rows" = h) (h5 : s.ienv "n_cols" = w)
    (h6 : s.ienv "vp_row" = vr) (h7 : s.ienv "vp_col" = vc),
    ∃ s' : State F, exec fuel (elevCall p q ty idx rest) s = exec fuel rest s' ∧ EvStep s s' ∧
      s'.fa = setS s.fa "e" (((s.fa "e").set 2 (Fl.lit ty 1)).set k (cornerElevF T h w vr vc ty i j))

/-- names that do not start with `_` are no locals of an inlined routine (those start with `_`) -/
theorem ne_pfx (vs : List String) (p : String) (hvs : ∀ v ∈ vs, v.toList.head? ≠ some '_') (hp : p.toList.head? = some '_')
    (x : String) : ∀ v ∈ vs, (v = p ++ x) = False ∧ (p ++ x = v) = False := by
  intro v hv
  have : v ≠ p ++ x := ne_inlined v p x (hvs v hv) hp
  exact ⟨eq_false this, eq_false (Ne.symm this)⟩

theorem liveVars_head : ∀ v ∈ liveVars, v.toList.head? ≠ some '_' := by simp [liveVars]

/-- the locals of `_calc_event_elev` (without the prefix) -/
def elevLocals : List String :=
  ["event_type", "event_row", "event_col", "n_rows", "n_cols", "viewpoint_row", "viewpoint_col", "row1", "col1", "event_elev",
   "elev1", "elev2", "elev3", "elev4", "ret0"]

/-- an inlined `_calc_event_elev` with locals prefixed `p` (its `_calculate_event_row_col` prefixed `p ++ r`), called for
    an ENTER or EXIT event (`ty = ±1`), the result stored in field `k` of the record: the names enter only through
    "`p` and `r` start with `_`, no variable of the caller or of `_calc_event_elev` does" -/
theorem elevCall_spec (p r q : String) (ty idx : Int) (k : Nat) (hp : p.toList.head? = some '_')
    (hr : r.toList.head? = some '_') (hq : q = p ++ r) (hty : ty = 1 ∨ ty = -1) (hk : idx = k) (hk7 : k < 7) :
    ElevCallSpec F p q ty idx k := by
  subst hq hk
  have k1 : ¬ (k : Int) < 0 := by omega
  have k2 : (k : Int) < 7 := by omega
  have nL := ne_pfx liveVars p liveVars_head hp
  have nP := nL
  have nR := ne_pfx elevLocals r (by simp [elevLocals]) hr
  simp only [liveVars, List.forall_mem_cons, List.not_mem_nil, IsEmpty.forall_iff, implies_true, and_true] at nP
  simp only [elevLocals, List.forall_mem_cons, List.not_mem_nil, IsEmpty.forall_iff, implies_true, and_true] at nR
  intro hL rest s fuel hs T h w i j vr vc hshp hshe hlen hring hi hj h2 h3 h4 h5 h6 h7
  obtain ⟨ie, fe, be, ia, fa, shp, ext, ctl⟩ := s
  simp only at hs hshp hshe hlen hring h2 h3 h4 h5 h6 h7; subst hs
  obtain ⟨e0, e1, e2, e3, e4, e5, e6, hE⟩ := list7 _ hlen
  have hl := hL ty (by omega)
  have hrc := fun s hs h1 => (rcBody_exec (F := F) .num (p ++ r) s fuel hs ty ⟨h1, hl.1, hl.2⟩).2 (by omega)
  rw [cornerElevF, nbOff_eq_offOf]
  have hm := offOf_mem ty (i - vr) (j - vc)
  generalize ho : offOf ty (i - vr) (j - vc) = o at *
  obtain ⟨o1, o2⟩ := o
  simp only at hm ⊢
  have hj1 : ¬ j < 0 := by omega
  have r11 := hring 1 j (by omega) (by omega) (by omega) (by omega) hj.1 hj.2
  simp [rdI] at r11
  by_cases hin : 0 ≤ i + o1 ∧ i + o1 < h ∧ 0 ≤ j + o2 ∧ j + o2 < w
  · have n2 : ¬ j + o2 < 0 := by omega
    have r12 := hring 1 (j + o2) (by omega) (by omega) (by omega) (by omega) hin.2.2.1 hin.2.2.2
    have r21 := hring (o1 + 1) j (by omega) (by omega) (by omega) (by omega) hj.1 hj.2
    have r22 := hring (o1 + 1) (j + o2) (by omega) (by omega) (by omega) (by omega) hin.2.2.1 hin.2.2.2
    rw [show i + (o1 + 1) - 1 = i + o1 by omega] at r21 r22
    rw [show i + 1 - 1 = i by omega] at r12
    have m1 : ¬ o1 + 1 < 0 := by omega
    have m2 : 0 ≤ o1 + 1 := by omega
    have m3 : o1 + 1 < 3 := by omega
    simp [rdI] at r12 r21 r22
    by_cases hnan : (Fl.isnan (T (i + o1) (j + o2)) || (Fl.isnan (T (i + o1) j) || (Fl.isnan (T i (j + o2)) || Fl.isnan (T i j)))) = true <;>
    simp at hnan <;>
    simp [elevCall, elevBody, exec, IE.ok, IE.eval, FE.ok, FE.eval, hshe, inRange, normIdx, off1, off2, hE, setS_apply, h2, h3, h4, h5, h6, h7,
          hrc, rcEnv, offS, ho, BE.ok, BE.eval, cmpInt, hin, hshp, hj.1, hj.2, hj1, n2, IOp.eval, r11, r12, r21, r22, hnan, cornerVal,
          BinOp.eval, m1, m2, m3, String.append_assoc, nP, nR, k1, k2] <;>
    refine ⟨_, rfl, ⟨rfl, rfl, rfl, rfl, ?_⟩, ?_⟩
    · intro v hv
      simp [setS_apply, fun x => nL x v hv]
    · simp [setS_setS]
    · intro v hv
      simp [setS_apply, fun x => nL x v hv]
    · simp [setS_setS]
  · have hin' : ¬ ((0 ≤ i + o1 ∧ i + o1 < h) ∧ 0 ≤ j + o2 ∧ j + o2 < w) := fun hc => hin ⟨hc.1.1, hc.1.2, hc.2.1, hc.2.2⟩
    simp [elevCall, elevBody, exec, IE.ok, IE.eval, FE.ok, FE.eval, hshe, inRange, normIdx, off1, off2, hE, setS_apply, h2, h3, h4, h5, h6, h7,
          hrc, rcEnv, offS, ho, BE.ok, BE.eval, cmpInt, hin, hin', hshp, hj.1, hj.2, hj1, r11, String.append_assoc, nP, nR, k1, k2]
    refine ⟨_, rfl, ⟨rfl, rfl, rfl, rfl, ?_⟩, ?_⟩
    · intro v hv
      simp [setS_apply, fun x => nL x v hv]
    · simp [setS_setS]

end XrsVerif.ILSw
