import XrsVerif.Proofs.Proximity
/-!
  The small-grid check on classes of target layouts: `checkG`, sound for `checkAll`.

  `checkAll c` runs the whole model on each of the 2^(H·W) layouts, but many layouts lead to the same state.  A line
  sweep hands on only the column memory `pan` and the squared proximities `lp` of its line (the recorded targets
  `nr` / `al` never flow back into either), and it reads the target predicate in its own line only.  So layouts are
  kept in classes, a value together with the bit mask of the layouts that share it (a `Nat`, bit `m` for
  `layoutOf c m`); the model's own `sweep` is run once per class and row pattern, and classes whose states come out
  equal are united.  On the 3×3 unit grid that is 927 sweeps (`checkAll`: 512 · 12 = 6144).  Splitting a class is
  `&&&` with a mask, uniting two is `|||`: the kernel does both on binary numbers in one step.  The exact answer is
  folded over the cells in the same representation (`exG`), and `checkG` asks that every class of final lines lie,
  column by column, inside the exact class of the value it holds there.

  Only one direction is ever claimed of a class list: the state the model reaches on layout `m` is the value of SOME
  class that contains `m` (`Grp.Has`), the exact answer the value of EVERY class that contains `m` (`Grp.Only`).
  That classes are disjoint, non-empty or as few as possible matters to the cost, not to soundness.
-/
namespace XrsVerif.Prox

/-- classes of target layouts: the value the layouts of a class share, and their bit mask -/
abbrev Grp (α : Type) := List (α × Nat)

namespace Grp
variable {α β : Type} {G : Grp α} {m : Nat} {x : α}

def Has (G : Grp α) (m : Nat) (x : α) : Prop := ∃ e ∈ G, e.2.testBit m = true ∧ e.1 = x

def Only (G : Grp α) (m : Nat) (x : α) : Prop := ∀ y, G.Has m y → y = x

def map (g : α → β) (G : Grp α) : Grp β := List.map (fun e => (g e.1, e.2)) G

/-- the classes cut down to the layouts in `M` -/
def restrict (M : Nat) (G : Grp α) : Grp α :=
  G.filterMap fun e => bif Nat.beq (e.2 &&& M) 0 then none else some (e.1, e.2 &&& M)

/-- the pairs of classes that share a layout -/
def join (G : Grp α) (G' : Grp β) : Grp (α × β) :=
  G.flatMap fun e => G'.filterMap fun e' =>
    bif Nat.beq (e.2 &&& e'.2) 0 then none else some ((e.1, e'.1), e.2 &&& e'.2)

/-- `e` united with the class of `G` that holds the same value, if there is one -/
def add (eq : α → α → Bool) (e : α × Nat) : Grp α → Grp α
  | [] => [e]
  | e' :: G => bif eq e.1 e'.1 then (e'.1, e'.2 ||| e.2) :: G else e' :: add eq e G

def norm (eq : α → α → Bool) (G : Grp α) : Grp α := G.foldr (add eq) []

theorem has_cons {e : α × Nat} : Has (e :: G) m x ↔ (e.2.testBit m = true ∧ e.1 = x) ∨ G.Has m x := by
  simp [Has]

theorem has_map {g : α → β} {y : β} : (map g G).Has m y ↔ ∃ x, G.Has m x ∧ g x = y := by
  simp only [Has, map, List.mem_map]
  constructor
  · rintro ⟨_, ⟨e, he, rfl⟩, hb, rfl⟩; exact ⟨e.1, ⟨e, he, hb, rfl⟩, rfl⟩
  · rintro ⟨_, ⟨e, he, hb, rfl⟩, rfl⟩; exact ⟨_, ⟨e, he, rfl⟩, hb, rfl⟩

theorem Has.map (h : G.Has m x) (g : α → β) : (map g G).Has m (g x) := has_map.mpr ⟨x, h, rfl⟩

theorem Only.map (h : G.Only m x) (g : α → β) : (map g G).Only m (g x) := by
  intro y hy
  obtain ⟨x', hx', rfl⟩ := has_map.mp hy
  rw [h x' hx']

theorem land_ne_zero {a b : Nat} (ha : a.testBit m = true) (hb : b.testBit m = true) :
    (a &&& b).testBit m = true ∧ Nat.beq (a &&& b) 0 = false := by
  have h : (a &&& b).testBit m = true := by rw [Nat.testBit_and, ha, hb]; rfl
  refine ⟨h, Bool.eq_false_iff.mpr fun h0 => ?_⟩
  rw [Nat.eq_of_beq_eq_true h0, Nat.zero_testBit] at h
  cases h

theorem Has.restrict (h : G.Has m x) {M : Nat} (hM : M.testBit m = true) : (restrict M G).Has m x := by
  obtain ⟨e, he, hb, rfl⟩ := h
  have hl := land_ne_zero hb hM
  exact ⟨(e.1, e.2 &&& M), List.mem_filterMap.mpr ⟨e, he, by rw [hl.2]; rfl⟩, hl.1, rfl⟩

theorem Has.join {G' : Grp β} {y : β} (h : G.Has m x) (h' : G'.Has m y) : (join G G').Has m (x, y) := by
  obtain ⟨e, he, hb, rfl⟩ := h
  obtain ⟨e', he', hb', rfl⟩ := h'
  have hl := land_ne_zero hb hb'
  exact ⟨((e.1, e'.1), e.2 &&& e'.2),
    List.mem_flatMap.mpr ⟨e, he, List.mem_filterMap.mpr ⟨e', he', by rw [hl.2]; rfl⟩⟩, hl.1, rfl⟩

theorem Has.flatMap {γ : Type} {Rs : List γ} {g : γ → Grp α} {R : γ} (hR : R ∈ Rs) (h : (g R).Has m x) :
    Has (Rs.flatMap g) m x := by
  obtain ⟨e, he, h2⟩ := h
  exact ⟨e, List.mem_flatMap.mpr ⟨R, hR, he⟩, h2⟩

theorem has_add {eq : α → α → Bool} (heq : ∀ a b, eq a b = true → a = b) (e : α × Nat) :
    ∀ G : Grp α, (add eq e G).Has m x ↔ Has (e :: G) m x
  | [] => Iff.rfl
  | e' :: G => by
    unfold add
    cases hq : eq e.1 e'.1 with
    | false => simp only [cond_false, has_cons, has_add heq e G]; exact or_left_comm
    | true =>
      simp only [cond_true, has_cons, Nat.testBit_or, Bool.or_eq_true, heq _ _ hq]
      rw [or_and_right, or_assoc]
      exact or_left_comm

theorem has_norm {eq : α → α → Bool} (heq : ∀ a b, eq a b = true → a = b) :
    ∀ G : Grp α, (norm eq G).Has m x ↔ G.Has m x
  | [] => Iff.rfl
  | e :: G => by
    rw [norm, List.foldr_cons, has_add heq, has_cons, has_cons, ← norm, has_norm heq G]

end Grp

/-- all layouts of a grid of `N` cells -/
def full (N : Nat) : Nat := 2 ^ 2 ^ N - 1

/-- the layouts `m < 2^N` with bit `t` set, by doubling: `N` steps, not `2^N` -/
def cellMask : Nat → Nat → Nat
  | 0, _ => 0
  | N + 1, t => if t = N then full N <<< 2 ^ N else cellMask N t ||| cellMask N t <<< 2 ^ N

theorem testBit_full (N m : Nat) : (full N).testBit m = decide (m < 2 ^ N) := Nat.testBit_two_pow_sub_one _ _

theorem testBit_cellMask : ∀ (N t m : Nat), t < N → (cellMask N t).testBit m = (decide (m < 2 ^ N) && m.testBit t)
  | N + 1, t, m, ht => by
    have hp : 2 ^ (N + 1) = 2 ^ N + 2 ^ N := by rw [Nat.pow_succ]; omega
    unfold cellMask
    by_cases hm : m < 2 ^ N
    · -- lower half: the shifted copy does not reach `m`, and bit `N` of `m` is clear
      have hsh : ∀ A, (A <<< 2 ^ N).testBit m = false := fun A => by
        rw [Nat.testBit_shiftLeft, decide_eq_false (by omega)]; rfl
      split
      · next h => rw [hsh, h, Nat.testBit_lt_two_pow hm, Bool.and_false]
      · next h => rw [Nat.testBit_or, hsh, Bool.or_false, testBit_cellMask N t m (by omega), decide_eq_true hm,
          decide_eq_true (by omega)]
    · -- upper half and beyond: `m = 2^N + m'`, the unshifted copy does not reach `m`
      obtain ⟨m', rfl⟩ : ∃ m', m = 2 ^ N + m' := ⟨m - 2 ^ N, by omega⟩
      have hsh : ∀ A, (A <<< 2 ^ N).testBit (2 ^ N + m') = A.testBit m' := fun A => by
        rw [Nat.testBit_shiftLeft, decide_eq_true (by omega), Nat.add_sub_cancel_left]; rfl
      have hd : decide (2 ^ N + m' < 2 ^ (N + 1)) = decide (m' < 2 ^ N) :=
        decide_eq_decide.mpr (by rw [hp]; exact Nat.add_lt_add_iff_left)
      split
      · next h =>
        rw [hsh, h, testBit_full, hd, Nat.testBit_two_pow_add_eq]
        by_cases h' : m' < 2 ^ N
        · rw [Nat.testBit_lt_two_pow h', Bool.not_false, Bool.and_true]
        · rw [decide_eq_false h']; rfl
      · next h => rw [Nat.testBit_or, hsh, testBit_cellMask N t _ (by omega), testBit_cellMask N t m' (by omega),
          decide_eq_false hm, Bool.false_and, Bool.false_or, hd, Nat.testBit_two_pow_add_gt (by omega)]

theorem full_has {N m : Nat} (hm : m < 2 ^ N) {α : Type} (x : α) : Grp.Has [(x, full N)] m x :=
  ⟨_, List.mem_singleton.mpr rfl, by rw [testBit_full, decide_eq_true hm], rfl⟩

def cellG (N t : Nat) : Grp Bool := [(true, cellMask N t), (false, full N ^^^ cellMask N t)]

theorem cellG_has {N t m : Nat} (ht : t < N) (hm : m < 2 ^ N) : (cellG N t).Has m (m.testBit t) := by
  have hC : (cellMask N t).testBit m = m.testBit t := by
    rw [testBit_cellMask N t m ht, decide_eq_true hm, Bool.true_and]
  cases hb : m.testBit t with
  | true => exact Grp.has_cons.mpr (Or.inl ⟨hC.trans hb, rfl⟩)
  | false =>
    refine Grp.has_cons.mpr (Or.inr (Grp.has_cons.mpr (Or.inl ⟨?_, rfl⟩)))
    rw [Nat.testBit_xor, testBit_full, decide_eq_true hm, hC, hb]; rfl

/-- the layouts by what they hold in the cells `ts` -/
def patG (N : Nat) (ts : List Nat) : Grp (List Bool) :=
  ts.foldr (fun t G => Grp.map (fun x => x.1 :: x.2) (Grp.join (cellG N t) G)) [([], full N)]

theorem patG_has {N m : Nat} (hm : m < 2 ^ N) :
    ∀ ts : List Nat, (∀ t ∈ ts, t < N) → (patG N ts).Has m (ts.map m.testBit)
  | [], _ => full_has hm []
  | t :: ts, h => ((cellG_has (h t List.mem_cons_self) hm).join
      (patG_has hm ts fun t' ht' => h t' (List.mem_cons_of_mem _ ht'))).map fun x => x.1 :: x.2

def tgOf (bs : List Bool) : Nat → Nat → Bool := fun _ p => bs.getD p false

theorem tgOf_layout (c : Cfg) (m : Nat) {row : Nat} (hr : row < c.H) (p : Nat) (hp : p < c.W) :
    tgOf (((List.range c.W).map (row * c.W + ·)).map m.testBit) row p = layoutOf c m row p := by
  simp [tgOf, layoutOf_eq c m hr hp, hp]

/-- what a line sweep hands on: the column memory and the squared proximities of the line -/
abbrev Line := List Tgt × List (Option Nat)

def sweepL (c : Cfg) (tg : Nat → Nat → Bool) (row : Nat) (fwd : Bool) (x : Line) : Line :=
  let s := sweep c tg row fwd x.1 x.2
  (s.pan, s.lp)

theorem sweepL_congr (c : Cfg) (tg tg' : Nat → Nat → Bool) (row : Nat) (h : ∀ p, p < c.W → tg row p = tg' row p)
    (fwd : Bool) (x : Line) : sweepL c tg row fwd x = sweepL c tg' row fwd x := by
  unfold sweepL; rw [sweep_congr c tg tg' row h]

theorem rowStep_sweepL (c : Cfg) (tg : Nat → Nat → Bool) (f : Bool) (row : Nat) (pan : List Tgt) (o : RowOut) :
    ((rowStep c tg f row pan o).1, (rowStep c tg f row pan o).2.lp) =
      sweepL c tg row (!f) (sweepL c tg row f (pan, o.lp)) := rfl

/-! Equality of states, written out so that the kernel compares two numbers in one step (`Nat.beq` on literals;
    `==` on `Nat` goes through `Nat.decEq`). -/

def eqT : Tgt → Tgt → Bool
  | none, none => true
  | some a, some b => Nat.beq a.1 b.1 && Nat.beq a.2 b.2
  | _, _ => false

def eqD : Option Nat → Option Nat → Bool
  | none, none => true
  | some a, some b => Nat.beq a b
  | _, _ => false

def eqL {α : Type} (f : α → α → Bool) : List α → List α → Bool
  | [], [] => true
  | a :: l, b :: l' => f a b && eqL f l l'
  | _, _ => false

def eqLine (x y : Line) : Bool := eqL eqD x.2 y.2 && eqL eqT x.1 y.1

theorem eqT_eq : ∀ a b, eqT a b = true → a = b
  | none, none, _ => rfl
  | some (a1, a2), some (b1, b2), h => by
    simp only [eqT, Bool.and_eq_true] at h
    rw [Nat.eq_of_beq_eq_true h.1, Nat.eq_of_beq_eq_true h.2]

theorem eqD_eq : ∀ a b, eqD a b = true → a = b
  | none, none, _ => rfl
  | some _, some _, h => congrArg some (Nat.eq_of_beq_eq_true h)

theorem eqL_eq {α : Type} {f : α → α → Bool} (hf : ∀ a b, f a b = true → a = b) :
    ∀ l l', eqL f l l' = true → l = l'
  | [], [], _ => rfl
  | a :: l, b :: l', h => by
    simp only [eqL, Bool.and_eq_true] at h
    rw [hf a b h.1, eqL_eq hf l l' h.2]

theorem eqLine_eq (x y : Line) (h : eqLine x y = true) : x = y := by
  simp only [eqLine, Bool.and_eq_true] at h
  exact Prod.ext (eqL_eq eqT_eq _ _ h.2) (eqL_eq eqD_eq _ _ h.1)

/-- one raster line in one pass on the layouts `b.2`, whose cells in this line hold `b.1`: the classes of (column
    memory `P`, line as the previous pass left it `L`) that meet them are swept once each, united where the first
    sweep has made them equal (on the 3×3 grids it leaves a third of them), and swept back -/
def sweepsG (c : Cfg) (fwdFirst : Bool) (row : Nat) (P : Grp (List Tgt)) (L : Grp (List (Option Nat)))
    (b : List Bool × Nat) : Grp Line :=
  Grp.map (sweepL c (tgOf b.1) row (!fwdFirst))
    (Grp.norm eqLine (Grp.map (sweepL c (tgOf b.1) row fwdFirst) (Grp.join P (Grp.restrict b.2 L))))

/-- `rowStep` on classes, row pattern by row pattern.  What goes on to the next line and what is kept of this one
    are united apart; states under different patterns differ (a target cell holds itself and 0), so they are never
    compared. -/
def rowG (c : Cfg) (fwdFirst : Bool) (row : Nat) (P : Grp (List Tgt)) (L : Grp (List (Option Nat))) :
    Grp (List Tgt) × Grp (List (Option Nat)) :=
  let Rs := List.map (sweepsG c fwdFirst row P L) (patG (c.H * c.W) ((List.range c.W).map (row * c.W + ·)))
  (Rs.flatMap fun R => Grp.norm (eqL eqT) (Grp.map Prod.fst R),
   Rs.flatMap fun R => Grp.norm (eqL eqD) (Grp.map Prod.snd R))

theorem rowG_has (c : Cfg) {m : Nat} (hm : m < 2 ^ (c.H * c.W)) (f : Bool) {row : Nat} (hrow : row < c.H)
    {P : Grp (List Tgt)} {L : Grp (List (Option Nat))} {pan : List Tgt} {o : RowOut}
    (hP : P.Has m pan) (hL : L.Has m o.lp) :
    (rowG c f row P L).1.Has m (rowStep c (layoutOf c m) f row pan o).1 ∧
    (rowG c f row P L).2.Has m (rowStep c (layoutOf c m) f row pan o).2.lp := by
  obtain ⟨b, hb, hbm, hbs⟩ := patG_has hm ((List.range c.W).map (row * c.W + ·)) (by
    intro t ht
    obtain ⟨p, hp, rfl⟩ := List.mem_map.mp ht
    exact rowMajor_lt hrow (List.mem_range.mp hp))
  have hsw := sweepL_congr c (tgOf b.1) (layoutOf c m) row (by rw [hbs]; exact tgOf_layout c m hrow)
  have hR := ((Grp.has_norm eqLine_eq _).mpr ((hP.join (hL.restrict hbm)).map (sweepL c (tgOf b.1) row f))).map
    (sweepL c (tgOf b.1) row (!f))
  rw [hsw, hsw, ← rowStep_sweepL] at hR
  have hmem := List.mem_map_of_mem (f := sweepsG c f row P L) hb
  exact ⟨Grp.Has.flatMap hmem ((Grp.has_norm (eqL_eq eqT_eq) _).mpr (hR.map Prod.fst)),
    Grp.Has.flatMap hmem ((Grp.has_norm (eqL_eq eqD_eq) _).mpr (hR.map Prod.snd))⟩

def blankG {α : Type} (c : Cfg) : Grp (List (Option α)) := [(List.replicate c.W none, full (c.H * c.W))]

/-- a pass on classes: the column memory after `n` steps, and what each step so far has kept of its line -/
def passG (step : Nat → Grp (List Tgt) → Grp (List Tgt) × Grp (List (Option Nat))) (P0 : Grp (List Tgt)) :
    Nat → Grp (List Tgt) × (Nat → Grp (List (Option Nat)))
  | 0 => (P0, fun _ => [])
  | n + 1 =>
      let R := step n (passG step P0 n).1
      (R.1, fun j => if j = n then R.2 else (passG step P0 n).2 j)

theorem passG_line (step : Nat → Grp (List Tgt) → Grp (List Tgt) × Grp (List (Option Nat))) (P0 : Grp (List Tgt))
    (n : Nat) : ∀ k, n < k → (passG step P0 k).2 n = (step n (passG step P0 n).1).2
  | k + 1, h => by
    show (if n = k then _ else (passG step P0 k).2 n) = _
    split
    · next hn => rw [hn]
    · next hn => exact passG_line step P0 n k (by omega)

/-- `tdN` on classes (step `n` does line `n`) -/
def tdG (c : Cfg) := passG (fun n P => rowG c true n P (blankG c)) (blankG c)

/-- `buN` on classes (step `n` does line `H - 1 - n`) -/
def buG (c : Cfg) := passG (fun n P => rowG c false (c.H - 1 - n) P ((tdG c c.H).2 (c.H - 1 - n))) (blankG c)

/-- the simulation: line `r` of the result on layout `m` is the value of a class of line `r` that contains `m` -/
theorem runG_has (c : Cfg) {m : Nat} (hm : m < 2 ^ (c.H * c.W)) {r : Nat} (hr : r < c.H) :
    ((buG c c.H).2 (c.H - 1 - r)).Has m (rowAt (run c (layoutOf c m)) r).lp := by
  have hblank : ∀ {α : Type}, (blankG (α := α) c).Has m (List.replicate c.W none) := full_has hm _
  refine run_rows c (layoutOf c m) (fun n pan => (tdG c n).1.Has m pan) (fun n o => ((tdG c c.H).2 n).Has m o.lp)
    (fun n pan => (buG c n).1.Has m pan) (fun r o => ((buG c c.H).2 (c.H - 1 - r)).Has m o.lp)
    hblank ?_ hblank ?_ r hr
  · intro n pan hn hP
    rw [tdG, passG_line _ _ n c.H hn]
    exact rowG_has c hm true hn hP (o := blankRow c) hblank
  · intro n pan o hn hP hQ
    rw [show c.H - 1 - (c.H - 1 - n) = n by omega, buG, passG_line _ _ n c.H hn]
    exact rowG_has c hm false (by omega) hP hQ

/-- a nearest distance that a further target at distance `d` leaves as it is -/
def keeps (d : Nat) : Option Nat → Bool
  | some v => v ≤ d
  | none => false

theorem minOpt_keeps {d : Nat} : ∀ {x : Option Nat}, minOpt x d = if keeps d x then x else some d
  | none => rfl
  | some v => by
    simp only [minOpt, keeps, decide_eq_true_eq]
    split
    · next h => rw [Nat.min_eq_left h]
    · next h => rw [Nat.min_eq_right (by omega)]

/-- one step of the fold in `exact` on classes: a target in cell `t`, at distance `d`, changes the value of the
    classes that `d` undercuts, for those of their layouts that have it; all of these now hold `some d` -/
def exStepG (c : Cfg) (r p : Nat) (G : Grp (Option Nat)) (t : Nat × Nat) : Grp (Option Nat) :=
  let d := dist2 c t.1 t.2 r p
  let C := cellMask (c.H * c.W) (t.1 * c.W + t.2)
  Grp.add eqD (some d, G.foldl (fun U e => bif keeps d e.1 then U else U ||| e.2 &&& C) 0)
    (List.map (fun e => bif keeps d e.1 then e else (e.1, e.2 &&& (full (c.H * c.W) ^^^ C))) G)

theorem testBit_foldl_lor {α : Type} (q : α × Nat → Bool) (C m : Nat) : ∀ (G : Grp α) (U : Nat),
    (G.foldl (fun U e => bif q e then U else U ||| e.2 &&& C) U).testBit m = true →
    U.testBit m = true ∨ ∃ e ∈ G, q e = false ∧ e.2.testBit m = true ∧ C.testBit m = true
  | [], U, h => Or.inl h
  | e :: G, U, h => by
    rcases testBit_foldl_lor q C m G (bif q e then U else U ||| e.2 &&& C) h with h | ⟨e', he', h'⟩
    · cases hq : q e with
      | true => rw [hq] at h; exact Or.inl h
      | false =>
        rw [hq, cond_false, Nat.testBit_or, Nat.testBit_and, Bool.or_eq_true, Bool.and_eq_true] at h
        exact h.imp id fun h => ⟨e, List.mem_cons_self, hq, h⟩
    · exact Or.inr ⟨e', List.mem_cons_of_mem _ he', h'⟩

theorem exStepG_only (c : Cfg) (r p : Nat) {m : Nat} (hm : m < 2 ^ (c.H * c.W)) {t : Nat × Nat} (ht : t ∈ cells c)
    {G : Grp (Option Nat)} {x : Option Nat} (h : G.Only m x) :
    (exStepG c r p G t).Only m (exStep c (layoutOf c m) r p x t) := by
  have ht' := (mem_cells c t).mp ht
  have hC : (cellMask (c.H * c.W) (t.1 * c.W + t.2)).testBit m = layoutOf c m t.1 t.2 := by
    rw [testBit_cellMask _ _ m (rowMajor_lt ht'.1 ht'.2), decide_eq_true hm, layoutOf_eq c m ht'.1 ht'.2]; rfl
  intro y hy
  unfold exStep
  rw [minOpt_keeps]
  rcases Grp.has_cons.mp ((Grp.has_add eqD_eq _ _).mp hy) with ⟨hU, rfl⟩ | hy
  · -- the new class: `m` has the target and lies in a class that `d` undercuts
    rcases testBit_foldl_lor _ _ m G 0 hU with h0 | ⟨e, he, hq, hb, hc⟩
    · rw [Nat.zero_testBit] at h0; cases h0
    · rw [← hC, hc, ← h e.1 ⟨e, he, hb, rfl⟩, hq]; rfl
  · -- an old class: it keeps its value, or has lost the layouts with the target
    obtain ⟨e', he', hb, rfl⟩ := hy
    obtain ⟨e, he, rfl⟩ := List.mem_map.mp he'
    cases hq : keeps (dist2 c t.1 t.2 r p) e.1 with
    | true => rw [hq] at hb; rw [← h e.1 ⟨e, he, hb, rfl⟩, hq]; simp
    | false =>
      rw [hq, cond_false, Nat.testBit_and, Nat.testBit_xor, testBit_full, decide_eq_true hm, hC] at hb
      simp only [Bool.and_eq_true, Bool.true_xor, Bool.not_eq_true'] at hb
      rw [cond_false, hb.2, ← h e.1 ⟨e, he, hb.1, rfl⟩]
      rfl

/-- the layouts by the value of `exactCut` at `(r, p)` -/
def exG (c : Cfg) (r p : Nat) : Grp (Option Nat) :=
  Grp.norm eqD (Grp.map (fun e => match e with
      | some d => if withinMax c d then some d else none
      | none => none)
    ((cells c).foldl (exStepG c r p) [(none, full (c.H * c.W))]))

theorem exG_only (c : Cfg) (r p : Nat) {m : Nat} (hm : m < 2 ^ (c.H * c.W)) :
    (exG c r p).Only m (exactCut c (layoutOf c m) r p) := by
  intro y hy
  rw [exG, Grp.has_norm eqD_eq] at hy
  refine (List.foldl_rel (r := fun G x => Grp.Only G m x) ?_
    fun t ht G x h => exStepG_only c r p hm ht h).map _ y hy
  intro y hy
  obtain ⟨e, he, _, rfl⟩ := hy
  rw [List.mem_singleton.mp he]

/-- every class of every line of the result lies, column by column, inside the class of the layouts whose exact
    answer is the value the class holds there -/
def checkG (c : Cfg) : Bool :=
  (List.range c.H).all fun r => (List.range c.W).all fun p =>
    ((buG c c.H).2 (c.H - 1 - r)).all fun e => (exG c r p).any fun e' =>
      eqD e'.1 (e.1.getD p none) && Nat.beq (e.2 ||| e'.2) e'.2

theorem checkG_sound (c : Cfg) (h : checkG c = true) : checkAll c = true := by
  simp only [checkAll, checkLayout, checkG, List.all_eq_true, List.mem_range, List.any_eq_true,
    Bool.and_eq_true] at h ⊢
  intro m hm r hr p hp
  obtain ⟨e, he, hb, hlp⟩ := runG_has c hm hr
  obtain ⟨e', he', hv, hsub⟩ := h r hr p hp e he
  have hb' : e'.2.testBit m = true := by
    rw [← Nat.eq_of_beq_eq_true hsub, Nat.testBit_or, hb]; rfl
  rw [beq_iff_eq, ← exG_only c r p hm e'.1 ⟨e', he', hb', rfl⟩, eqD_eq _ _ hv, hlp]
  rfl

end XrsVerif.Prox
