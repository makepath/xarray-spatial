import XrsVerif.Proofs.ILRegionsRel
/-
  Proofs/ILRegionsCell.lean -- the common front part of a cell step of both passes of `Gen.IL.areaConnectivity`:
  `val = data[y, x]`, the NaN guard, the window gathering and the match block, composed.
-/
namespace XrsVerif.IL.Rg
open XrsVerif XrsVerif.IL XrsVerif.Regions
variable {F : Type} [Fl F]
set_option linter.unusedSectionVars false

/-- the state after `val = …`, gathering and the match block -/
def afterMatch (s : State F) (ie' : String → Int) (v : F) (SW AW : List F) : State F :=
  { s with
    ienv := ie',
    fenv := setS (setS (setS s.fenv "val" v) "rtol" (Fl.lit 1 100000)) "atol" (Fl.lit 1 100000000),
    shp := setS (setS s.shp "is_close" [SW.length]) "neighbor_matches" [(matchIdx (closeF v) SW).length],
    ia := setS (setS s.ia "is_close" (SW.map fun a => if closeF v a then (1 : Int) else 0))
            "neighbor_matches" ((matchIdx (closeF v) SW).map natCast),
    fa := setS (setS s.fa "src_window" SW) "area_window" AW }

section proj
variable (s : State F) (ie' : String → Int) (v : F) (SW AW : List F)

theorem afterMatch_ctl : (afterMatch s ie' v SW AW).ctl = s.ctl := rfl
theorem afterMatch_ienv : (afterMatch s ie' v SW AW).ienv = ie' := rfl
theorem afterMatch_shp_nm :
    (afterMatch s ie' v SW AW).shp "neighbor_matches" = [(matchIdx (closeF v) SW).length] := by
  simp [afterMatch]
theorem afterMatch_ia_nm :
    (afterMatch s ie' v SW AW).ia "neighbor_matches" = (matchIdx (closeF v) SW).map natCast := by
  simp [afterMatch]
theorem afterMatch_shp (a : String) (h1 : a ≠ "is_close") (h2 : a ≠ "neighbor_matches") :
    (afterMatch s ie' v SW AW).shp a = s.shp a := by
  simp [afterMatch, setS, h1, h2]
theorem afterMatch_fa_aw : (afterMatch s ie' v SW AW).fa "area_window" = AW := by simp [afterMatch]
theorem afterMatch_fa_sw : (afterMatch s ie' v SW AW).fa "src_window" = SW := by simp [afterMatch, setS]
theorem afterMatch_fa (a : String) (h1 : a ≠ "src_window") (h2 : a ≠ "area_window") :
    (afterMatch s ie' v SW AW).fa a = s.fa a := by
  simp [afterMatch, setS, h1, h2]
end proj

/-- what the loops over `neighbor_matches` (the search of the first pass, the merge of the second) need of their
    surroundings -/
structure MLoc (rows cols n : Nat) (idx : List Nat) (AW : List F) (st : State F) : Prop where
  run : st.ctl = .run
  rv : st.ienv "rows" = (rows : Int)
  cv : st.ienv "cols" = (cols : Int)
  oshp : st.shp "out" = [rows, cols]
  nshp : st.shp "neighbor_matches" = [idx.length]
  nia : st.ia "neighbor_matches" = idx.map natCast
  ashp : st.shp "area_window" = [n]
  afa : st.fa "area_window" = AW

theorem MLoc.of_mods {rows cols n : Nat} {idx : List Nat} {AW : List F} {s t : State F}
    {iv fv bv ias fas shs : List String} (l : MLoc rows cols n idx AW s) (h : ILVs.Mods iv fv bv ias fas shs s t)
    (hrun : t.ctl = .run) (hiv : ∀ v ∈ ["rows", "cols"], v ∉ iv) (hia : "neighbor_matches" ∉ ias)
    (hfa : "area_window" ∉ fas) (hsh : ∀ a ∈ ["out", "neighbor_matches", "area_window"], a ∉ shs) :
    MLoc rows cols n idx AW t :=
  { run := hrun
    rv := (h.ienv _ (hiv _ (by simp))).trans l.rv
    cv := (h.ienv _ (hiv _ (by simp))).trans l.cv
    oshp := (h.shp _ (hsh _ (by simp))).trans l.oshp
    nshp := (h.shp _ (hsh _ (by simp))).trans l.nshp
    nia := (h.ia _ hia).trans l.nia
    ashp := (h.shp _ (hsh _ (by simp))).trans l.ashp
    afa := (h.fa _ hfa).trans l.afa }

theorem afterMatch_loc {rows cols n : Nat} {D : List F} {s : State F} (g : Geo rows cols n D s) (ie' : String → Int)
    (hr : ie' "rows" = s.ienv "rows") (hc : ie' "cols" = s.ienv "cols") (v : F) (SW AW : List F) :
    MLoc rows cols n (matchIdx (closeF v) SW) AW (afterMatch s ie' v SW AW) :=
  { run := g.run
    rv := hr.trans g.rv
    cv := hc.trans g.cv
    oshp := (afterMatch_shp _ _ _ _ _ _ (by simp) (by simp)).trans g.oshp
    nshp := afterMatch_shp_nm _ _ _ _ _
    nia := afterMatch_ia_nm _ _ _ _ _
    ashp := (afterMatch_shp _ _ _ _ _ _ (by simp) (by simp)).trans g.ashp
    afa := afterMatch_fa_aw _ _ _ _ _ }

/-- `val = data[y, x]` -/
theorem exec_setVal (fuel rows cols y x : Nat) (hy : y < rows) (hx : x < cols) (s : State F)
    (hyv : s.ienv "y" = (y : Int)) (hxv : s.ienv "x" = (x : Int)) (hd : s.shp "data" = [rows, cols]) :
    exec fuel (.setF "val" (.ld2 "data" (.var "y") (.var "x"))) s =
      { s with fenv := setS s.fenv "val" (at_ cols (s.fa "data") (y, x)) } := by
  obtain ⟨hok, hev⟩ := FE.ld2_nat s "data" (.var "y") (.var "x") rows cols y x hd rfl rfl hyv hxv hy hx
  rw [exec_setF _ _ _ _ hok, hev]; rfl

/-- `out[y, x] = <numeric variable>` -/
theorem exec_store_out (fuel rows cols y x : Nat) (hy : y < rows) (hx : x < cols) (e : FE) (s : State F)
    (he : e.ok s = true) (hyv : s.ienv "y" = (y : Int)) (hxv : s.ienv "x" = (x : Int))
    (hos : s.shp "out" = [rows, cols]) :
    exec fuel (.stF2 "out" (.var "y") (.var "x") e) s =
      { s with fa := setS s.fa "out" ((s.fa "out").set (pos cols (y, x)) (e.eval s)) } :=
  exec_stF2_nat fuel "out" _ _ e s rows cols y x hos rfl rfl he hyv hxv hy hx

theorem getD_map_cast (l : List Nat) (j : Nat) : (l.map natCast).getD j 0 = ((l.getD j 0 : Nat) : Int) := by
  simp only [List.getD_eq_getElem?_getD, List.getElem?_map]
  cases l[j]? <;> simp

/-- `area_val = area_window[neighbor_matches[j]]` -/
theorem exec_areaVal (fuel n : Nat) (idx : List Nat) (hidx : ∀ k ∈ idx, k < n) (j : Nat) (hj : j < idx.length)
    (st : State F) (hjv : st.ienv "j" = (j : Int)) (hns : st.shp "neighbor_matches" = [idx.length])
    (hni : st.ia "neighbor_matches" = idx.map natCast) (has : st.shp "area_window" = [n]) :
    exec fuel (.setF "area_val" (.ld1 "area_window" (.ld1 "neighbor_matches" (.var "j")))) st =
      { st with fenv := setS st.fenv "area_val" ((st.fa "area_window").getD (idx.getD j 0) Fl.nan) } := by
  obtain ⟨hok1, hev1⟩ := IE.ld1_nat st "neighbor_matches" (.var "j") idx.length j hns rfl hjv hj
  rw [hni, getD_map_cast] at hev1
  obtain ⟨hok, hev⟩ := FE.ld1_nat st "area_window" _ n _ has hok1 hev1 (hidx _ (getD_mem idx j 0 hj))
  rw [exec_setF _ _ _ _ hok, hev]

theorem exec_matchThen_gathered (fuel : Nat) (ek wn wk : String) (hne : wn ≠ wk) (rest : St) (s : State F) (v : F)
    (SW AW : List F) (hrun : s.ctl = .run) (hsw : s.shp "src_window" = [SW.length]) :
    ∃ ie' : String → Int, (∀ x, x ≠ ek → x ≠ wn → x ≠ wk → ie' x = s.ienv x) ∧
      exec fuel (matchThen ek wn wk rest)
          { s with fenv := setS s.fenv "val" v, fa := setS (setS s.fa "src_window" SW) "area_window" AW } =
        exec fuel rest (afterMatch s ie' v SW AW) := by
  obtain ⟨ie', hie, hm⟩ := exec_matchThen fuel ek wn wk hne rest SW.length
    { s with fenv := setS s.fenv "val" v, fa := setS (setS s.fa "src_window" SW) "area_window" AW } hrun hsw
    (by simp [setS])
  refine ⟨ie', hie, hm.trans ?_⟩
  simp [afterMatch, setS]

/-- a first-pass step at a NaN cell: `out[y, x] = val; continue` -/
theorem cell1_nan (fuel rows cols n : Nat) (D : List F) (y x : Nat) (hy : y < rows) (hx : x < cols) (s : State F)
    (g : Geo rows cols n D s) (hyv : s.ienv "y" = (y : Int)) (hxv : s.ienv "x" = (x : Int))
    (hnan : Fl.isnan (at_ cols D (y, x)) = true) :
    afterBody (exec fuel cell1 s) =
      { s with
        fenv := setS s.fenv "val" (at_ cols D (y, x)),
        fa := setS s.fa "out" ((s.fa "out").set (pos cols (y, x)) (at_ cols D (y, x))) } := by
  let s1 : State F := { s with fenv := setS s.fenv "val" (at_ cols D (y, x)) }
  have hite : exec fuel (.ite (.isnan (.var "val")) (.seq (.stF2 "out" (.var "y") (.var "x") (.var "val")) .cont) .skip) s1 =
      { s1 with fa := setS s.fa "out" ((s.fa "out").set (pos cols (y, x)) (at_ cols D (y, x))), ctl := .cont } := by
    rw [exec_ite_def]
    have hv : s1.fenv "val" = at_ cols D (y, x) := by simp only [s1, setS_same]
    simp only [BE.ok, FE.ok, BE.eval, FE.eval, hv, hnan, if_true]
    rw [exec_seq, exec_store_out fuel rows cols y x hy hx _ _ (by simp [FE.ok]) (by exact hyv) (by exact hxv)
      (by exact g.oshp), if_pos (by exact g.run), exec_cont]
    simp only [FE.eval, hv]
    rfl
  unfold cell1
  rw [exec_seq, exec_setVal fuel rows cols y x hy hx s hyv hxv g.dshp, g.dat, if_pos (by exact g.run), exec_seq,
    show ({ s with fenv := setS s.fenv "val" (at_ cols D (y, x)) } : State F) = s1 from rfl, hite,
    if_neg (by simp)]
  simp only [afterBody, s1, g.run]

theorem cell1_front (fuel rows cols n : Nat) (hn : n = 4 ∨ n = 8) (D : List F) (y x : Nat) (hy : y < rows)
    (hx : x < cols) (s : State F) (g : Geo rows cols n D s) (hyv : s.ienv "y" = (y : Int))
    (hxv : s.ienv "x" = (x : Int)) (hnan : Fl.isnan (at_ cols D (y, x)) = false) :
    ∃ ie' : String → Int, (∀ v, v ≠ "elem1$k" → v ≠ "where2$n" → v ≠ "where2$k" → ie' v = s.ienv v) ∧
      exec fuel cell1 s = exec fuel assign1
        (afterMatch s ie' (at_ cols D (y, x))
          ((gridNbrs rows cols (decide (n = 8)) (y, x)).map (at_ cols D))
          ((gridNbrs rows cols (decide (n = 8)) (y, x)).map (at_ cols (s.fa "out")))) := by
  let s1 : State F := { s with fenv := setS s.fenv "val" (at_ cols D (y, x)) }
  have hg := exec_gather fuel rows cols n y x hn hy hx s1 g.run hyv hxv g.rv g.cv g.nv g.dshp g.oshp g.sshp g.ashp
    g.slen g.alen
  rw [show s1.fa "data" = D from g.dat] at hg
  obtain ⟨ie', hie, hm⟩ := exec_matchThen_gathered fuel "elem1$k" "where2$n" "where2$k" (by simp) assign1 s
    (at_ cols D (y, x)) ((gridNbrs rows cols (decide (n = 8)) (y, x)).map (at_ cols D))
    ((gridNbrs rows cols (decide (n = 8)) (y, x)).map (at_ cols (s.fa "out"))) g.run
    (by rw [g.sshp, List.length_map, gridNbrs_length rows cols n hn])
  refine ⟨ie', hie, ?_⟩
  unfold cell1
  rw [exec_seq, exec_setVal fuel rows cols y x hy hx s hyv hxv g.dshp, g.dat, if_pos (by exact g.run), exec_seq,
    exec_ite_def]
  simp only [BE.ok, FE.ok, BE.eval, FE.eval, setS_same, hnan, if_true, Bool.false_eq_true, if_false, exec_skip]
  rw [if_pos (by exact g.run), exec_seq]
  rw [show ({ s with fenv := setS s.fenv "val" (at_ cols D (y, x)) } : State F) = s1 from rfl, hg,
    if_pos (by exact g.run)]
  exact hm

/-- a second-pass step at a NaN cell: the windows are gathered, then `continue` -/
theorem cell2_nan (fuel rows cols n : Nat) (hn : n = 4 ∨ n = 8) (D : List F) (y x : Nat) (hy : y < rows)
    (hx : x < cols) (s : State F) (g : Geo rows cols n D s) (hyv : s.ienv "y" = (y : Int))
    (hxv : s.ienv "x" = (x : Int)) (hnan : Fl.isnan (at_ cols D (y, x)) = true) :
    afterBody (exec fuel cell2 s) =
      { s with
        fenv := setS s.fenv "val" (at_ cols D (y, x)),
        fa := setS (setS s.fa "src_window" ((gridNbrs rows cols (decide (n = 8)) (y, x)).map (at_ cols D)))
                "area_window" ((gridNbrs rows cols (decide (n = 8)) (y, x)).map (at_ cols (s.fa "out"))) } := by
  have hg := exec_gather fuel rows cols n y x hn hy hx s g.run hyv hxv g.rv g.cv g.nv g.dshp g.oshp g.sshp g.ashp
    g.slen g.alen
  unfold cell2
  rw [exec_seq, hg, if_pos (by exact g.run), exec_seq,
    exec_setVal fuel rows cols y x hy hx _ (by exact hyv) (by exact hxv) (by exact g.dshp), if_pos (by exact g.run),
    exec_seq, exec_ite_def]
  have hd : setS (setS s.fa "src_window" ((gridNbrs rows cols (decide (n = 8)) (y, x)).map (at_ cols (s.fa "data"))))
      "area_window" ((gridNbrs rows cols (decide (n = 8)) (y, x)).map (at_ cols (s.fa "out"))) "data" = D := by
    rw [setS_other _ _ _ _ (by simp), setS_other _ _ _ _ (by simp)]; exact g.dat
  simp only [BE.ok, FE.ok, BE.eval, FE.eval, setS_same, hd, hnan, if_true, exec_cont]
  simp only [afterBody, if_neg (show ¬ (Ctl.cont = Ctl.run) by decide), g.dat]
  simp only [g.run]

theorem cell2_front (fuel rows cols n : Nat) (hn : n = 4 ∨ n = 8) (D : List F) (y x : Nat) (hy : y < rows)
    (hx : x < cols) (s : State F) (g : Geo rows cols n D s) (hyv : s.ienv "y" = (y : Int))
    (hxv : s.ienv "x" = (x : Int)) (hnan : Fl.isnan (at_ cols D (y, x)) = false) :
    ∃ ie' : String → Int, (∀ v, v ≠ "elem3$k" → v ≠ "where4$n" → v ≠ "where4$k" → ie' v = s.ienv v) ∧
      exec fuel cell2 s = exec fuel merge
        (afterMatch s ie' (at_ cols D (y, x))
          ((gridNbrs rows cols (decide (n = 8)) (y, x)).map (at_ cols D))
          ((gridNbrs rows cols (decide (n = 8)) (y, x)).map (at_ cols (s.fa "out")))) := by
  have hg := exec_gather fuel rows cols n y x hn hy hx s g.run hyv hxv g.rv g.cv g.nv g.dshp g.oshp g.sshp g.ashp
    g.slen g.alen
  rw [g.dat] at hg
  obtain ⟨ie', hie, hm⟩ := exec_matchThen_gathered fuel "elem3$k" "where4$n" "where4$k" (by simp) merge s
    (at_ cols D (y, x)) ((gridNbrs rows cols (decide (n = 8)) (y, x)).map (at_ cols D))
    ((gridNbrs rows cols (decide (n = 8)) (y, x)).map (at_ cols (s.fa "out"))) g.run
    (by rw [g.sshp, List.length_map, gridNbrs_length rows cols n hn])
  refine ⟨ie', hie, ?_⟩
  unfold cell2
  rw [exec_seq, hg, if_pos (by exact g.run), exec_seq,
    exec_setVal fuel rows cols y x hy hx _ (by exact hyv) (by exact hxv) (by exact g.dshp), if_pos (by exact g.run),
    exec_seq, exec_ite_def]
  have hd : setS (setS s.fa "src_window" ((gridNbrs rows cols (decide (n = 8)) (y, x)).map (at_ cols D)))
      "area_window" ((gridNbrs rows cols (decide (n = 8)) (y, x)).map (at_ cols (s.fa "out"))) "data" = D := by
    rw [setS_other _ _ _ _ (by simp), setS_other _ _ _ _ (by simp)]; exact g.dat
  simp only [BE.ok, FE.ok, BE.eval, FE.eval, setS_same, hd, hnan, if_true, Bool.false_eq_true, if_false, exec_skip]
  rw [if_pos (by exact g.run)]
  exact hm

end XrsVerif.IL.Rg
