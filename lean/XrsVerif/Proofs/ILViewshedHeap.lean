import XrsVerif.Proofs.ILViewshedZip
import Mathlib.Logic.Function.Basic
/-
  The two arrays of the status structure under writes, and the terms in which the refinement proofs of the routines
  that modify the tree (`_insert_into_tree`, `_delete_from_tree`, the rotations, the two colour fix-ups) speak about
  them:

  * the two arrays as a heap of rows, `heapOf V N : Nat → Row F`.  A store is `Function.update` of one row, so what a
    block does to the arrays is one equation between heaps.  `Linked` reads only `Row.lnk` of the rows of a shape,
    `absT` / `absCtx` only `Row.dat`;
  * a position in a well-linked tree, `Pos N n sub ctx`, with the geometry every walk along the parent pointers uses;
    `plug_replace`: the subtree at a position is replaced when the rows of the context keep everything but the child
    cell of the position's parent (`redirect`);
  * `TreeAt rv s n sh`: the running state `s` holds the well-linked tree `sh` without repeated rows, its root row in
    the variable `rv` -- what a block specification assumes and delivers;
  * `Move rv n f s r sh sh'`: a block as a transformer `f` of the model tree.  Blocks compose (`Move.trans`);
    assignments and reads of scalars ride along (`Move.exec_setI`, `Move.exec_ld`).
-/
set_option linter.unusedSectionVars false
namespace XrsVerif.ILVs
open XrsVerif XrsVerif.IL XrsVerif.Viewshed Function
variable {F : Type} [Fl F]

theorem nAt_set (l : List Int) (a b : Nat) (v : Int) (i c : Nat) (hb : b < 4) (hc : c < 4) (ha : a * 4 + b < l.length) :
    nAt (l.set (a * 4 + b) v) i c = if i = a ∧ c = b then v else nAt l i c := by
  unfold nAt
  rw [List.getD_eq_getElem?_getD, List.getElem?_set]
  by_cases h : i = a ∧ c = b
  · obtain ⟨rfl, rfl⟩ := h
    simp [ha]
  · have : ¬ (a * 4 + b = i * 4 + c) := by omega
    simp only [this, if_false, h, List.getD_eq_getElem?_getD]

theorem vAt_set (l : List F) (a b : Nat) (v : F) (i c : Nat) (hb : b < 8) (hc : c < 8) (ha : a * 8 + b < l.length) :
    vAt (l.set (a * 8 + b) v) i c = if i = a ∧ c = b then ⟨v⟩ else vAt l i c := by
  unfold vAt
  rw [List.getD_eq_getElem?_getD, List.getElem?_set]
  by_cases h : i = a ∧ c = b
  · obtain ⟨rfl, rfl⟩ := h
    simp [ha]
  · have : ¬ (a * 8 + b = i * 8 + c) := by omega
    simp only [this, if_false, h, List.getD_eq_getElem?_getD]

theorem vAt_set0 (l : List F) (a : Nat) (v : F) (i c : Nat) (hc : c < 8) (ha : a * 8 < l.length) :
    vAt (l.set (a * 8) v) i c = if i = a ∧ c = 0 then ⟨v⟩ else vAt l i c := by
  have := vAt_set l a 0 v i c (by decide) hc (by omega)
  simpa using this

theorem nodeAt_set7 (l : List F) (a : Nat) (v : F) (i : Nat) : nodeAt (l.set (a * 8 + 7) v) i = nodeAt l i := by
  have h : ∀ c, c < 7 → vAt (l.set (a * 8 + 7) v) i c = vAt l i c := by
    intro c hc
    unfold vAt
    rw [List.getD_eq_getElem?_getD, List.getElem?_set]
    have : ¬ (a * 8 + 7 = i * 8 + c) := by omega
    simp only [this, if_false, List.getD_eq_getElem?_getD]
  simp only [nodeAt, h 0 (by decide), h 1 (by decide), h 2 (by decide), h 3 (by decide), h 4 (by decide), h 5 (by decide),
    h 6 (by decide)]

theorem set7_keeps (V : List F) (n p : Nat) (m : F) (hp : p + 1 < n) (hlen : V.length = n * 8) :
    vAt (V.set (p * 8 + 7) m) (n - 1) 7 = vAt V (n - 1) 7 ∧ ∀ y, nodeAt (V.set (p * 8 + 7) m) y = nodeAt V y := by
  refine ⟨?_, fun y => nodeAt_set7 V p m y⟩
  rw [vAt_set _ _ _ _ _ _ (by decide) (by decide) (by omega)]
  have : ¬ (n - 1 = p) := by omega
  simp [this]

theorem set_vAt_self (V : List F) (p : Nat) (hlen : p * 8 + 7 < V.length) : V.set (p * 8 + 7) (vAt V p 7).v = V := by
  unfold vAt
  apply List.ext_getElem
  · simp
  · intro i h1 h2
    by_cases hi : i = p * 8 + 7
    · subst hi; simp [List.getD_eq_getElem?_getD, List.getElem?_eq_getElem hlen]
    · rw [List.getElem_set_ne (by omega)]

theorem exec_stN (fuel : Nat) (s : State F) (n : Nat) (hs : s.shp "tree_nodes" = [n, 4]) (x : String) (c : Int) (e : IE)
    (hc : 0 ≤ c ∧ c < 4) (hin : inRange (s.ienv x) n = true) (he : e.ok s = true) :
    exec fuel (.stI2 "tree_nodes" (.var x) (.lit c) e) s =
      { s with ia := (setS s.ia "tree_nodes"
          ((s.ia "tree_nodes").set (rowOf n (s.ienv x) * 4 + c.toNat) (e.eval s))) } := by
  obtain ⟨k, rfl⟩ := Int.eq_ofNat_of_zero_le hc.1
  have hk : k < 4 := by omega
  simp only [exec, IE.ok_var, IE.ok_lit, IE.eval_var, IE.eval_lit, he, hs, List.length_cons, List.length_nil,
    List.getD_cons_zero, List.getD_cons_succ, hin, inRange_of_lt k 4 hk, Bool.and_self, decide_true, if_true]
  rw [off2_ptr n 4 _ k]
  simp

theorem exec_stV (fuel : Nat) (s : State F) (n : Nat) (hs : s.shp "tree_vals" = [n, 8]) (x : String) (c : Int) (e : FE)
    (hc : 0 ≤ c ∧ c < 8) (hin : inRange (s.ienv x) n = true) (he : e.ok s = true) :
    exec fuel (.stF2 "tree_vals" (.var x) (.lit c) e) s =
      { s with fa := (setS s.fa "tree_vals"
          ((s.fa "tree_vals").set (rowOf n (s.ienv x) * 8 + c.toNat) (e.eval s))) } := by
  obtain ⟨k, rfl⟩ := Int.eq_ofNat_of_zero_le hc.1
  have hk : k < 8 := by omega
  simp only [exec, IE.ok_var, IE.ok_lit, IE.eval_var, IE.eval_lit, he, hs, List.length_cons, List.length_nil,
    List.getD_cons_zero, List.getD_cons_succ, hin, inRange_of_lt k 8 hk, Bool.and_self, decide_true, if_true]
  rw [off2_ptr n 8 _ k]
  simp

/-- `if A > B: t = A else: t = B` -/
def selMax (t : String) (A B : FE) : St := .ite (.cmpF .gt A B) (.setF t A) (.setF t B)

theorem selMax_spec (fuel : Nat) (t : String) (A B : FE) (s : State F) (hA : A.ok s = true) (hB : B.ok s = true) :
    exec fuel (selMax t A B) s = { s with fenv := setS s.fenv t (mx2 (⟨A.eval s⟩ : Fv F) ⟨B.eval s⟩).v } := by
  unfold selMax
  by_cases h : Fl.lt (B.eval s) (A.eval s) = true
  · simp [il, hA, hB, h, mx2_v]
  · simp [il, hA, hB, h, mx2_v]

/-- `if A > B: tree_vals[x][c] = A else: tree_vals[x][c] = B` -/
def stMax (arr : String) (i j : IE) (A B : FE) : St := .ite (.cmpF .gt A B) (.stF2 arr i j A) (.stF2 arr i j B)

theorem stMax_spec (fuel : Nat) (s : State F) (n : Nat) (hs : s.shp "tree_vals" = [n, 8]) (x : String) (c : Int)
    (A B : FE) (hc : 0 ≤ c ∧ c < 8) (hin : inRange (s.ienv x) n = true) (hA : A.ok s = true) (hB : B.ok s = true) :
    exec fuel (stMax "tree_vals" (.var x) (.lit c) A B) s =
      { s with fa := (setS s.fa "tree_vals"
          ((s.fa "tree_vals").set (rowOf n (s.ienv x) * 8 + c.toNat) (mx2 (⟨A.eval s⟩ : Fv F) ⟨B.eval s⟩).v)) } := by
  unfold stMax
  by_cases h : Fl.lt (B.eval s) (A.eval s) = true
  · rw [exec_ite_true _ _ _ _ _ (by simp [BE.ok, hA, hB]) (by simp [il, h]),
      exec_stV fuel s n hs x c A hc hin hA]
    simp [mx2_v, h]
  · rw [exec_ite_false _ _ _ _ _ (by simp [BE.ok, hA, hB]) (by simpa [il] using h),
      exec_stV fuel s n hs x c B hc hin hB]
    simp [mx2_v, h]

theorem Linked.idx_lt {N : List Int} {n : Nat} : ∀ {sh : Sh} {par : Int}, Linked N n par sh → ∀ i ∈ sh.idxs, i + 1 < n := by
  intro sh
  induction sh with
  | nil => intro _ _ i hi; simp [Sh.idxs] at hi
  | node l j r ihl ihr =>
    intro par h i hi
    simp only [Sh.idxs, List.mem_append, List.mem_cons] at hi
    rcases hi with hi | rfl | hi
    · exact ihl h.2.2.2.2.1 i hi
    · exact h.1
    · exact ihr h.2.2.2.2.2 i hi

theorem Linked.congr {N N' : List Int} {n : Nat} : ∀ {sh : Sh} {par : Int},
    Linked N n par sh →
    (∀ i ∈ sh.idxs, nAt N' i 1 = nAt N i 1 ∧ nAt N' i 2 = nAt N i 2 ∧ nAt N' i 3 = nAt N i 3) →
    Linked N' n par sh := by
  intro sh
  induction sh with
  | nil => intro _ _ _; trivial
  | node l i r ihl ihr =>
    intro par h hc
    obtain ⟨hi, hL, hR, hP, hlL, hlR⟩ := h
    obtain ⟨c1, c2, c3⟩ := hc i (by simp [Sh.idxs])
    exact ⟨hi, by rw [c1]; exact hL, by rw [c2]; exact hR, by rw [c3]; exact hP,
      ihl hlL (fun j hj => hc j (by simp [Sh.idxs, hj])), ihr hlR (fun j hj => hc j (by simp [Sh.idxs, hj]))⟩

theorem Linked.reparent {N N' : List Int} {n : Nat} {sh : Sh} {par par' : Int} (h : Linked N n par sh)
    (hn : sh.idxs.Nodup)
    (h12 : ∀ i ∈ sh.idxs, nAt N' i 1 = nAt N i 1 ∧ nAt N' i 2 = nAt N i 2)
    (h3 : ∀ i ∈ sh.idxs, (i : Int) ≠ sh.ptr → nAt N' i 3 = nAt N i 3)
    (hroot : ∀ i : Nat, sh.ptr = (i : Int) → nAt N' i 3 = par') :
    Linked N' n par' sh := by
  cases sh with
  | nil => trivial
  | node l i r =>
    obtain ⟨hi, hL, hR, hP, hlL, hlR⟩ := h
    have hd := Sh.ptr_ne_of_nodup l r i hn
    obtain ⟨c1, c2⟩ := h12 i (by simp [Sh.idxs])
    refine ⟨hi, by rw [c1]; exact hL, by rw [c2]; exact hR, hroot i rfl, ?_, ?_⟩
    · refine hlL.congr (fun j hj => ?_)
      have hji : j ≠ i := fun e => hd.2.2.2.2.1 (e ▸ hj)
      obtain ⟨d1, d2⟩ := h12 j (by simp [Sh.idxs, hj])
      exact ⟨d1, d2, h3 j (by simp [Sh.idxs, hj]) (by simp only [Sh.ptr]; omega)⟩
    · refine hlR.congr (fun j hj => ?_)
      have hji : j ≠ i := fun e => hd.2.2.2.2.2 (e ▸ hj)
      obtain ⟨d1, d2⟩ := h12 j (by simp [Sh.idxs, hj])
      exact ⟨d1, d2, h3 j (by simp [Sh.idxs, hj]) (by simp only [Sh.ptr]; omega)⟩

def absFr (V : List F) (N : List Int) : Fr → TFr (Fv F)
  | .L i r => .L (nodeAt V i) (vAt V i 7) (decide (nAt N i 0 = 0)) (absT V N r)
  | .R l i => .R (absT V N l) (nodeAt V i) (vAt V i 7) (decide (nAt N i 0 = 0))

def absCtx (V : List F) (N : List Int) (ctx : Ctx) : List (TFr (Fv F)) := ctx.map (absFr V N)

theorem absCtx_cons (V : List F) (N : List Int) (fr : Fr) (rest : Ctx) :
    absCtx V N (fr :: rest) = absFr V N fr :: absCtx V N rest := rfl

theorem absCtx_append (V : List F) (N : List Int) (a b : Ctx) : absCtx V N (a ++ b) = absCtx V N a ++ absCtx V N b := by
  simp [absCtx]

theorem absCtx_length (V : List F) (N : List Int) (a : Ctx) : (absCtx V N a).length = a.length := by simp [absCtx]

theorem absFr_mx (V : List F) (N : List Int) (fr : Fr) : (absFr V N fr).mx = vAt V fr.idx 7 := by cases fr <;> rfl

theorem absFr_nd (V : List F) (N : List Int) (fr : Fr) : (absFr V N fr).nd = nodeAt V fr.idx := by cases fr <;> rfl

theorem mxAt_lastPtr (V : List F) (N : List Int) (n : Nat) : ∀ (a : Ctx) (c : Int),
    mxAt V n (lastPtr c a) = lastMx (mxAt V n c) (absCtx V N a) := by
  intro a
  induction a with
  | nil => intro c; rfl
  | cons fr rest ih =>
    intro c
    simp only [lastPtr, absCtx, List.map_cons, lastMx, absFr_mx]
    rw [ih]
    simp [mxAt, absCtx]

theorem map_dir_absCtx (V : List F) (N : List Int) (ctx : Ctx) : (absCtx V N ctx).map TFr.dir = ctx.map Fr.dir := by
  induction ctx with
  | nil => rfl
  | cons fr rest ih =>
    rw [absCtx_cons, List.map_cons, List.map_cons, ih]
    cases fr <;> rfl

theorem pathOf_absCtx (V : List F) (N : List Int) : ∀ (ctx : Ctx),
    pathOf ctx = ((absCtx V N ctx).map TFr.dir).reverse :=
  fun ctx => by rw [map_dir_absCtx, pathOf_eq]

theorem absT_plug (V : List F) (N : List Int) : ∀ (ctx : Ctx) (sub : Sh),
    absT V N (plug sub ctx) = plugT (absT V N sub) (absCtx V N ctx) := by
  intro ctx
  induction ctx with
  | nil => intro sub; rfl
  | cons fr rest ih =>
    intro sub
    cases fr with
    | L i r | R r i => simp only [plug, absCtx, List.map_cons, absFr, plugT]; rw [ih]; rfl

theorem subAt_plug (V : List F) (N : List Int) (ctx : Ctx) (sub : Sh) :
    subAt (pathOf ctx) (absT V N (plug sub ctx)) = absT V N sub := by
  rw [absT_plug, pathOf_absCtx V N ctx, subAt_plugT]

theorem isRed_fill (V : List F) (N : List Int) (fr : Fr) (t : Sh) :
    isRed (absT V N (fr.fill t)) = decide (nAt N fr.idx 0 = 0) := by cases fr <;> rfl

theorem isRed_absT_ptr (V : List F) (N : List Int) (n : Nat) (sh : Sh)
    (hnil : nAt N (n - 1) 0 = 1) : isRed (absT V N sh) = decide (nAt N (rowOf n sh.ptr) 0 = 0) := by
  cases sh with
  | nil => simp [absT, isRed, Sh.ptr, hnil]
  | node l i r => simp [absT, isRed, Sh.ptr]

theorem CtxLinked.congr {N N' : List Int} {n : Nat} : ∀ {ctx : Ctx} {c : Int}, CtxLinked N n c ctx →
    (∀ i ∈ ctxIdxs ctx, nAt N' i 1 = nAt N i 1 ∧ nAt N' i 2 = nAt N i 2 ∧ nAt N' i 3 = nAt N i 3) →
    CtxLinked N' n c ctx := by
  intro ctx
  induction ctx with
  | nil => intro _ _ _; trivial
  | cons fr rest ih =>
    intro c h hc
    cases fr with
    | L i r | R r i =>
      obtain ⟨h1, h2, h3, h4, h5, h6, h7⟩ := h
      obtain ⟨c1, c2, c3⟩ := hc i (by simp [ctxIdxs])
      exact ⟨h1, by rw [c1]; exact h2, by rw [c2]; exact h3, h4, by rw [c3]; exact h5,
        h6.congr (fun j hj => hc j (by simp [ctxIdxs, hj])), ih h7 (fun j hj => hc j (by simp [ctxIdxs, hj]))⟩

theorem CtxLinked.redirect {N N' : List Int} {n : Nat} {fr : Fr} {rest : Ctx} {c c' : Int}
    (h : CtxLinked N n c (fr :: rest)) (hnd : (ctxIdxs (fr :: rest)).Nodup)
    (hnew : ∀ j : Nat, c' = (j : Int) → j ∉ ctxIdxs (fr :: rest))
    (hfr : match fr with
      | .L p _ => nAt N' p 1 = c' ∧ nAt N' p 2 = nAt N p 2 ∧ nAt N' p 3 = nAt N p 3
      | .R _ p => nAt N' p 2 = c' ∧ nAt N' p 1 = nAt N p 1 ∧ nAt N' p 3 = nAt N p 3)
    (hoth : ∀ j ∈ ctxIdxs (fr :: rest), j ≠ fr.idx →
      nAt N' j 1 = nAt N j 1 ∧ nAt N' j 2 = nAt N j 2 ∧ nAt N' j 3 = nAt N j 3) :
    CtxLinked N' n c' (fr :: rest) := by
  have hsib : ∀ (sib : Sh), (∀ j ∈ sib.idxs, j ∈ ctxIdxs (fr :: rest)) → 0 ≤ c' → sib.ptr ≠ c' := fun sib hin h0 e => by
    obtain ⟨j, hj⟩ := Int.eq_ofNat_of_zero_le h0
    exact hnew j hj (hin j (Sh.ptr_mem sib j (e.trans hj)))
  cases fr with
  | L p r0 =>
    obtain ⟨g1, g2, g3, g4, g5, g6, g7⟩ := h
    obtain ⟨e1, e2, e3⟩ := hfr
    have hnd' := List.nodup_cons.mp (show (p :: (r0.idxs ++ ctxIdxs rest)).Nodup from hnd)
    replace hoth : ∀ j ∈ ctxIdxs (Fr.L p r0 :: rest), j ≠ p → _ := hoth
    exact ⟨g1, e1, by rw [e2]; exact g3, hsib r0 (fun j hj => by simp [ctxIdxs, hj]), by rw [e3]; exact g5,
      g6.congr (fun j hj => hoth j (by simp [ctxIdxs, hj]) (fun e => hnd'.1 (by simp [← e, hj]))),
      g7.congr (fun j hj => hoth j (by simp [ctxIdxs, hj]) (fun e => hnd'.1 (by simp [← e, hj])))⟩
  | R l0 p =>
    obtain ⟨g1, g2, g3, g4, g5, g6, g7⟩ := h
    obtain ⟨e1, e2, e3⟩ := hfr
    have hnd' := List.nodup_cons.mp (show (p :: (l0.idxs ++ ctxIdxs rest)).Nodup from hnd)
    replace hoth : ∀ j ∈ ctxIdxs (Fr.R l0 p :: rest), j ≠ p → _ := hoth
    exact ⟨g1, by rw [e2]; exact g2, e1, hsib l0 (fun j hj => by simp [ctxIdxs, hj]), by rw [e3]; exact g5,
      g6.congr (fun j hj => hoth j (by simp [ctxIdxs, hj]) (fun e => hnd'.1 (by simp [← e, hj]))),
      g7.congr (fun j hj => hoth j (by simp [ctxIdxs, hj]) (fun e => hnd'.1 (by simp [← e, hj])))⟩

/-- one row of the status structure: the four cells of `tree_nodes`, and of the eight cells of `tree_vals` the node
    (columns 0..6) and the stored maximum (column 7) -/
structure Row (F : Type) where
  col : Int
  left : Int
  right : Int
  par : Int
  nd : Node (Fv F)
  mx : Fv F

abbrev Heap (F : Type) := Nat → Row F

def heapOf (V : List F) (N : List Int) : Heap F := fun i =>
  ⟨nAt N i 0, nAt N i 1, nAt N i 2, nAt N i 3, nodeAt V i, vAt V i 7⟩

def heap (s : State F) : Heap F := heapOf (s.fa "tree_vals") (s.ia "tree_nodes")

/-- the row after `tree_nodes[·][k] = v` -/
def Row.setN (r : Row F) (k : Nat) (v : Int) : Row F :=
  match k with
  | 0 => { r with col := v } | 1 => { r with left := v } | 2 => { r with right := v } | _ => { r with par := v }

/-- the row after `tree_vals[·][k] = v` -/
def Row.setV (r : Row F) (k : Nat) (v : Fv F) : Row F :=
  match k with
  | 0 => { r with nd := { r.nd with key := v } } | 1 => { r with nd := { r.nd with g0 := v } }
  | 2 => { r with nd := { r.nd with g1 := v } } | 3 => { r with nd := { r.nd with g2 := v } }
  | 4 => { r with nd := { r.nd with a0 := v } } | 5 => { r with nd := { r.nd with a1 := v } }
  | 6 => { r with nd := { r.nd with a2 := v } } | _ => { r with mx := v }

def Row.setKid (r : Row F) (d : Dir) (v : Int) : Row F :=
  match d with | .L => { r with left := v } | .R => { r with right := v }

/-- the link cells: all that `Linked` / `CtxLinked` read of a row -/
def Row.lnk (r : Row F) : Int × Int × Int := (r.left, r.right, r.par)

/-- colour, node and stored maximum: all that `absT` / `absCtx` read of a row -/
def Row.dat (r : Row F) : Int × Node (Fv F) × Fv F := (r.col, r.nd, r.mx)

/-! ### a store is an update of one row

  The side conditions are in the form a block proof has them (`n` rows, row `a < n`, the length from `VS`), so that
  `simp` discharges them. -/

theorem nAt_set_lt (l : List Int) (n a b : Nat) (v : Int) (i c : Nat) (hlen : l.length = n * 4) (ha : a < n) (hb : b < 4)
    (hc : c < 4) : nAt (l.set (a * 4 + b) v) i c = if i = a ∧ c = b then v else nAt l i c :=
  nAt_set l a b v i c hb hc (by omega)

theorem vAt_set_lt (l : List F) (n a b : Nat) (v : F) (i c : Nat) (hlen : l.length = n * 8) (ha : a < n) (hb : b < 8)
    (hc : c < 8) : vAt (l.set (a * 8 + b) v) i c = if i = a ∧ c = b then ⟨v⟩ else vAt l i c :=
  vAt_set l a b v i c hb hc (by omega)

theorem heapOf_setN (V : List F) (N : List Int) (n a b : Nat) (v : Int) (hlen : N.length = n * 4) (ha : a < n)
    (hb : b < 4) : heapOf V (N.set (a * 4 + b) v) = update (heapOf V N) a ((heapOf V N a).setN b v) := by
  have hs := fun i c (hc : c < 4) => nAt_set_lt N n a b v i c hlen ha hb hc
  funext i
  have e : heapOf V (N.set (a * 4 + b) v) i =
      ⟨if i = a ∧ 0 = b then v else nAt N i 0, if i = a ∧ 1 = b then v else nAt N i 1,
        if i = a ∧ 2 = b then v else nAt N i 2, if i = a ∧ 3 = b then v else nAt N i 3, nodeAt V i, vAt V i 7⟩ := by
    simp only [heapOf, hs i 0 (by decide), hs i 1 (by decide), hs i 2 (by decide), hs i 3 (by decide)]
  rw [e]
  by_cases hi : i = a
  · subst hi
    rw [update_self]
    match b, hb with
    | 0, _ | 1, _ | 2, _ | 3, _ => simp [heapOf, Row.setN]
  · rw [update_of_ne hi]
    simp [heapOf, hi]

theorem heapOf_setV (V : List F) (N : List Int) (n a b : Nat) (v : F) (hlen : V.length = n * 8) (ha : a < n)
    (hb : b < 8) : heapOf (V.set (a * 8 + b) v) N = update (heapOf V N) a ((heapOf V N a).setV b ⟨v⟩) := by
  have hs := fun i c (hc : c < 8) => vAt_set_lt V n a b v i c hlen ha hb hc
  funext i
  have e : heapOf (V.set (a * 8 + b) v) N i = ⟨nAt N i 0, nAt N i 1, nAt N i 2, nAt N i 3,
      ⟨if i = a ∧ 0 = b then ⟨v⟩ else vAt V i 0, if i = a ∧ 1 = b then ⟨v⟩ else vAt V i 1,
       if i = a ∧ 2 = b then ⟨v⟩ else vAt V i 2, if i = a ∧ 3 = b then ⟨v⟩ else vAt V i 3,
       if i = a ∧ 4 = b then ⟨v⟩ else vAt V i 4, if i = a ∧ 5 = b then ⟨v⟩ else vAt V i 5,
       if i = a ∧ 6 = b then ⟨v⟩ else vAt V i 6⟩, if i = a ∧ 7 = b then ⟨v⟩ else vAt V i 7⟩ := by
    simp only [heapOf, nodeAt, hs i 0 (by decide), hs i 1 (by decide), hs i 2 (by decide), hs i 3 (by decide),
      hs i 4 (by decide), hs i 5 (by decide), hs i 6 (by decide), hs i 7 (by decide)]
  rw [e]
  by_cases hi : i = a
  · subst hi
    rw [update_self]
    match b, hb with
    | 0, _ | 1, _ | 2, _ | 3, _ | 4, _ | 5, _ | 6, _ | 7, _ => simp [heapOf, nodeAt, Row.setV]
  · rw [update_of_ne hi]
    simp [heapOf, nodeAt, hi]

/-- column 0, in the form `simp` leaves the index in (`a * 4 + 0` has become `a * 4`) -/
theorem heapOf_setN0 (V : List F) (N : List Int) (n a : Nat) (v : Int) (hlen : N.length = n * 4) (ha : a < n) :
    heapOf V (N.set (a * 4) v) = update (heapOf V N) a ((heapOf V N a).setN 0 v) :=
  heapOf_setN V N n a 0 v hlen ha (by decide)

theorem heapOf_setV0 (V : List F) (N : List Int) (n a : Nat) (v : F) (hlen : V.length = n * 8) (ha : a < n) :
    heapOf (V.set (a * 8) v) N = update (heapOf V N) a ((heapOf V N a).setV 0 ⟨v⟩) :=
  heapOf_setV V N n a 0 v hlen ha (by decide)

/-- `tree_vals[p][TN_MAX_GRAD_ID] = m` -/
theorem heapOf_setMx (V : List F) (N : List Int) (n p : Nat) (m : Fv F) (hlen : V.length = n * 8) (hp : p < n) :
    heapOf (V.set (p * 8 + 7) m.v) N = update (heapOf V N) p { heapOf V N p with mx := m } :=
  heapOf_setV V N n p 7 m.v hlen hp (by decide)

/-- row `z` gets the seven node fields of row `y` -/
def copyArr (V : List F) (y z : Nat) : List F :=
  ((((((V.set (z * 8) (vAt V y 0).v).set (z * 8 + 1) (vAt V y 1).v).set (z * 8 + 2) (vAt V y 2).v).set (z * 8 + 3)
    (vAt V y 3).v).set (z * 8 + 4) (vAt V y 4).v).set (z * 8 + 5) (vAt V y 5).v).set (z * 8 + 6) (vAt V y 6).v

theorem copyArr_length (V : List F) (y z : Nat) : (copyArr V y z).length = V.length := by simp [copyArr]

theorem heapOf_copyArr (V : List F) (N : List Int) (n y z : Nat) (hlen : V.length = n * 8) (hz : z < n) :
    heapOf (copyArr V y z) N = update (heapOf V N) z { heapOf V N z with nd := nodeAt V y } := by
  unfold copyArr
  rw [heapOf_setV _ N n z 6 _ (by simp [hlen]) hz (by decide), heapOf_setV _ N n z 5 _ (by simp [hlen]) hz (by decide),
    heapOf_setV _ N n z 4 _ (by simp [hlen]) hz (by decide), heapOf_setV _ N n z 3 _ (by simp [hlen]) hz (by decide),
    heapOf_setV _ N n z 2 _ (by simp [hlen]) hz (by decide), heapOf_setV _ N n z 1 _ (by simp [hlen]) hz (by decide),
    heapOf_setV0 _ N n z _ hlen hz]
  simp only [update_self, update_idem]
  rfl

/-- `if c: tree_nodes[x][TN_LEFT_ID] = e else: tree_nodes[x][TN_RIGHT_ID] = e` (the link of a new leaf, the parent cell
    of both rotations, the splice of the deletion) is one store -/
theorem exec_stKid (fuel : Nat) (s : State F) (n : Nat) (hs : s.shp "tree_nodes" = [n, 4]) (c : BE) (x : String) (e : IE)
    (hc : c.ok s = true) (hin : inRange (s.ienv x) n = true) (he : e.ok s = true) :
    exec fuel (.ite c (.stI2 "tree_nodes" (.var x) (.lit 1) e) (.stI2 "tree_nodes" (.var x) (.lit 2) e)) s =
      { s with ia := (setS s.ia "tree_nodes"
          ((s.ia "tree_nodes").set (rowOf n (s.ienv x) * 4 + (if c.eval s = true then 1 else 2)) (e.eval s))) } := by
  rw [IL.exec_ite _ _ _ _ _ hc]
  split
  · exact exec_stN fuel s n hs x 1 e (by decide) hin he
  · exact exec_stN fuel s n hs x 2 e (by decide) hin he

theorem heapOf_setKid (V : List F) (N : List Int) (n a : Nat) (P : Prop) [Decidable P] (v : Int)
    (hlen : N.length = n * 4) (ha : a < n) :
    heapOf V (N.set (a * 4 + (if P then 1 else 2)) v) =
      update (heapOf V N) a ((heapOf V N a).setKid (if P then .L else .R) v) := by
  split
  · exact heapOf_setN V N n a 1 v hlen ha (by decide)
  · exact heapOf_setN V N n a 2 v hlen ha (by decide)

theorem Linked.frame {V V' : List F} {N N' : List Int} {n : Nat} {sh : Sh} {par : Int} (h : Linked N n par sh)
    (e : ∀ i ∈ sh.idxs, (heapOf V' N' i).lnk = (heapOf V N i).lnk) : Linked N' n par sh :=
  h.congr fun i hi => by
    have := e i hi
    simp only [Row.lnk, heapOf, Prod.mk.injEq] at this
    exact this

theorem absT_frame {V V' : List F} {N N' : List Int} (sh : Sh)
    (e : ∀ i ∈ sh.idxs, (heapOf V' N' i).dat = (heapOf V N i).dat) : absT V' N' sh = absT V N sh := by
  induction sh with
  | nil => rfl
  | node l i r ihl ihr =>
    have := e i (by simp [Sh.idxs])
    simp only [Row.dat, heapOf, Prod.mk.injEq] at this
    simp only [absT, this.1, this.2.1, this.2.2, ihl (fun j hj => e j (by simp [Sh.idxs, hj])),
      ihr (fun j hj => e j (by simp [Sh.idxs, hj]))]

theorem absCtx_frame {V V' : List F} {N N' : List Int} (ctx : Ctx)
    (e : ∀ i ∈ ctxIdxs ctx, (heapOf V' N' i).dat = (heapOf V N i).dat) : absCtx V' N' ctx = absCtx V N ctx := by
  induction ctx with
  | nil => rfl
  | cons fr rest ih =>
    have hrest := ih (fun i hi => e i (by cases fr <;> simp [ctxIdxs, hi]))
    simp only [absCtx, List.map_cons] at hrest ⊢
    rw [hrest]
    congr 1
    have := e fr.idx (by cases fr <;> simp [ctxIdxs, Fr.idx])
    simp only [Row.dat, heapOf, Prod.mk.injEq] at this
    cases fr with
    | L i r | R r i =>
      simp only [Fr.idx] at this
      simp only [absFr, this.1, this.2.1, this.2.2, absT_frame r (fun j hj => e j (by simp [ctxIdxs, hj]))]

theorem absT_congr {V V' : List F} {N N' : List Int} : ∀ (sh : Sh),
    (∀ i ∈ sh.idxs, (∀ c, c < 8 → vAt V' i c = vAt V i c) ∧ nAt N' i 0 = nAt N i 0) →
    absT V' N' sh = absT V N sh :=
  fun sh h => absT_frame sh fun i hi => by
    obtain ⟨hv, hn⟩ := h i hi
    simp only [Row.dat, heapOf, nodeAt, hv 0 (by decide), hv 1 (by decide), hv 2 (by decide), hv 3 (by decide),
      hv 4 (by decide), hv 5 (by decide), hv 6 (by decide), hv 7 (by decide), hn]

theorem absCtx_congr {V V' : List F} {N N' : List Int} : ∀ (ctx : Ctx),
    (∀ i ∈ ctxIdxs ctx, (∀ c, c < 8 → vAt V' i c = vAt V i c) ∧ nAt N' i 0 = nAt N i 0) →
    absCtx V' N' ctx = absCtx V N ctx :=
  fun ctx h => absCtx_frame ctx fun i hi => by
    obtain ⟨hv, hn⟩ := h i hi
    simp only [Row.dat, heapOf, nodeAt, hv 0 (by decide), hv 1 (by decide), hv 2 (by decide), hv 3 (by decide),
      hv 4 (by decide), hv 5 (by decide), hv 6 (by decide), hv 7 (by decide), hn]

/-- abstractions only read the colour column of `tree_nodes` -/
theorem absT_col {V : List F} {N N' : List Int} (h0 : ∀ j, nAt N' j 0 = nAt N j 0) (sh : Sh) : absT V N' sh = absT V N sh :=
  absT_congr sh (fun i _ => ⟨fun _ _ => rfl, h0 i⟩)

theorem absCtx_col {V : List F} {N N' : List Int} (h0 : ∀ j, nAt N' j 0 = nAt N j 0) (ctx : Ctx) :
    absCtx V N' ctx = absCtx V N ctx :=
  absCtx_congr ctx (fun i _ => ⟨fun _ _ => rfl, h0 i⟩)

theorem absT_update {V V' : List F} {N N' : List Int} {p : Nat} {row : Row F}
    (e : heapOf V' N' = update (heapOf V N) p row) (sub : Sh) (hp : p ∉ sub.idxs) : absT V' N' sub = absT V N sub :=
  absT_frame sub fun i hi => by
    have hne : i ≠ p := fun h => hp (h ▸ hi)
    rw [e, update_of_ne hne]

theorem absCtx_update {V V' : List F} {N N' : List Int} {p : Nat} {row : Row F}
    (e : heapOf V' N' = update (heapOf V N) p row) (ctx : Ctx) (hp : p ∉ ctxIdxs ctx) :
    absCtx V' N' ctx = absCtx V N ctx :=
  absCtx_frame ctx fun i hi => by
    have hne : i ≠ p := fun h => hp (h ▸ hi)
    rw [e, update_of_ne hne]

theorem absFr_update {V V' : List F} {N : List Int} (fr : Fr) {nd : Node (Fv F)} {m : Fv F}
    (e : heapOf V' N = update (heapOf V N) fr.idx { heapOf V N fr.idx with nd := nd, mx := m })
    (hs : fr.idx ∉ fr.sib.idxs) : absFr V' N fr = ((absFr V N fr).setNd nd).setMx m := by
  have hrow := congrFun e fr.idx
  rw [update_self] at hrow
  have hnd : nodeAt V' fr.idx = nd := congrArg Row.nd hrow
  have hmx : vAt V' fr.idx 7 = m := congrArg Row.mx hrow
  have hsib := absT_update e fr.sib hs
  cases fr with
  | L i r | R r i => simp only [Fr.idx, Fr.sib] at hnd hmx hsib; simp only [absFr, TFr.setNd, TFr.setMx, hnd, hmx, hsib]

theorem absFr_update_mx {V V' : List F} {N : List Int} (fr : Fr) {m : Fv F}
    (e : heapOf V' N = update (heapOf V N) fr.idx { heapOf V N fr.idx with mx := m }) (hs : fr.idx ∉ fr.sib.idxs) :
    absFr V' N fr = (absFr V N fr).setMx m :=
  (absFr_update fr e hs).trans (by cases fr <;> rfl)

theorem mxAt_update {V V' : List F} {N N' : List Int} {p : Nat} {row : Row F}
    (e : heapOf V' N' = update (heapOf V N) p row) (n : Nat) (q : Int) (hq : rowOf n q ≠ p) : mxAt V' n q = mxAt V n q := by
  have := congrArg Row.mx (congrFun e (rowOf n q))
  rwa [update_of_ne hq] at this

/-- the link array spells out the tree `plug sub ctx`, no row twice: a position in a well-formed tree -/
structure Pos (N : List Int) (n : Nat) (sub : Sh) (ctx : Ctx) : Prop where
  linked : Linked N n (-1) (plug sub ctx)
  nodup : (plug sub ctx).idxs.Nodup

namespace Pos
variable {N : List Int} {n : Nat} {sb : Sh} {cx : Ctx}

theorem sub (h : Pos N n sb cx) : Linked N n (ctxPar cx) sb := (unplug cx sb h.linked h.nodup).1
theorem ctx (h : Pos N n sb cx) : CtxLinked N n sb.ptr cx := (unplug cx sb h.linked h.nodup).2.1
theorem rows (h : Pos N n sb cx) : (sb.idxs ++ ctxIdxs cx).Nodup := (nodup_plug_iff cx sb).mp h.nodup
theorem sub_nodup (h : Pos N n sb cx) : sb.idxs.Nodup := (List.nodup_append.mp h.rows).1
theorem ctx_nodup (h : Pos N n sb cx) : (ctxIdxs cx).Nodup := (List.nodup_append.mp h.rows).2.1
theorem disj (h : Pos N n sb cx) {i : Nat} (hi : i ∈ sb.idxs) (hc : i ∈ ctxIdxs cx) : False :=
  (List.nodup_append.mp h.rows).2.2 i hi i hc rfl
theorem ctx_lt (h : Pos N n sb cx) {i : Nat} (hi : i ∈ ctxIdxs cx) : i + 1 < n :=
  Linked.idx_lt h.linked i ((mem_plug_iff cx sb i).mpr (Or.inr hi))
theorem frame_mem {fr : Fr} (hf : fr ∈ cx) : fr.idx ∈ ctxIdxs cx :=
  (frameRows_sublist cx).subset (List.mem_map_of_mem hf)

theorem ptr_not_frame (h : Pos N n sb cx) {t : Sh} (hd : ∀ i ∈ t.idxs, i ∉ cx.map Fr.idx) :
    rowOf n t.ptr ∉ cx.map Fr.idx := by
  intro hm
  rcases rowOf_ptr_cases n t with e | e
  · have := h.ctx_lt ((frameRows_sublist cx).subset hm); omega
  · exact hd _ e hm

theorem par_cases (h : Pos N n sb cx) : ctxPar cx = -1 ∨ ∃ p : Nat, ctxPar cx = (p : Int) ∧ p + 1 < n ∧ p ∉ sb.idxs := by
  cases cx with
  | nil => exact Or.inl rfl
  | cons fr rest =>
    have hm : fr.idx ∈ ctxIdxs (fr :: rest) := frame_mem List.mem_cons_self
    exact Or.inr ⟨fr.idx, ctxPar_cons fr rest, h.ctx_lt hm, fun hs => h.disj hs hm⟩

theorem up {fr : Fr} {rest : Ctx} (h : Pos N n sb (fr :: rest)) : Pos N n (fr.fill sb) rest := by
  obtain ⟨h1, h2⟩ := h; rw [plug_cons] at h1 h2; exact ⟨h1, h2⟩

theorem mkD {N : List Int} {n : Nat} {d : Dir} {sub : Sh} {i : Nat} {sib : Sh} {rest : Ctx}
    (h : Pos N n sub (Fr.mkD d i sib :: rest)) :
    i + 1 < n ∧ nAt N i d.col = sub.ptr ∧ nAt N i d.flip.col = sib.ptr ∧ (0 ≤ sub.ptr → sib.ptr ≠ sub.ptr) ∧
      Linked N n (i : Int) sib := by
  have h := h.ctx
  cases d with
  | L => exact ⟨h.1, h.2.1, h.2.2.1, h.2.2.2.1, h.2.2.2.2.2.1⟩
  | R => exact ⟨h.1, h.2.2.1, h.2.1, h.2.2.2.1, h.2.2.2.2.2.1⟩

theorem frames_nodup {N : List Int} {n : Nat} {sub : Sh} {ctx : Ctx} (h : Pos N n sub ctx) : (ctx.map Fr.idx).Nodup :=
  h.ctx_nodup.sublist (frameRows_sublist ctx)

theorem sibling {N : List Int} {n : Nat} {d : Dir} {xl : Sh} {x : Nat} {xr : Sh} {p : Nat} {sib : Sh} {rest : Ctx}
    (h : Pos N n (Sh.nodeD d (.node xl x xr) p sib) rest) :
    x + 1 < n ∧ nAt N x 3 = (p : Int) ∧ p + 1 < n ∧ nAt N p d.flip.col = sib.ptr ∧ Linked N n (p : Int) sib := by
  have hp := h.sub
  cases d with
  | L => exact ⟨hp.2.2.2.2.1.1, hp.2.2.2.2.1.2.2.2.1, hp.1, hp.2.2.1, hp.2.2.2.2.2⟩
  | R => exact ⟨hp.2.2.2.2.2.1, hp.2.2.2.2.2.2.2.2.1, hp.1, hp.2.1, hp.2.2.2.2.1⟩

theorem split {xsh : Sh} {below : Ctx} {zf : Fr} {above : Ctx} (h : Pos N n xsh (below ++ zf :: above)) :
    zf.idx ∉ xsh.idxs ∧ zf.idx ∉ ctxIdxs below ∧ zf.idx ∉ zf.sib.idxs ∧ zf.idx ∉ ctxIdxs above ∧
      ∀ i ∈ xsh.idxs, i ∉ ctxIdxs above := by
  have hmem : ∀ {i}, i ∈ ctxIdxs above → i ∈ ctxIdxs (below ++ zf :: above) := fun hi => by
    rw [ctxIdxs_append, ctxIdxs_cons]; simp [hi]
  have hz : zf.idx ∈ ctxIdxs (below ++ zf :: above) := by rw [ctxIdxs_append, ctxIdxs_cons]; simp
  have hnd := h.ctx_nodup
  rw [ctxIdxs_append, ctxIdxs_cons] at hnd
  obtain ⟨_, hnd2, hdis⟩ := List.nodup_append.mp hnd
  have hnd3 := (List.nodup_cons.mp hnd2).1
  exact ⟨fun hm => h.disj hm hz, fun hm => hdis _ hm _ (by simp) rfl, fun hm => hnd3 (by simp [hm]),
    fun hm => hnd3 (by simp [hm]), fun i hi hm => h.disj hi (hmem hm)⟩

end Pos

/-- the heap with the child cell of the position's parent redirected to `c` -/
def redirect (ctx : Ctx) (c : Int) (h : Heap F) : Heap F :=
  match ctx with
  | [] => h
  | fr :: _ => update h fr.idx ((h fr.idx).setKid fr.dir c)

theorem redirect_other (ctx : Ctx) (c : Int) (h : Heap F) (j : Nat) (hj : ∀ fr rest, ctx = fr :: rest → j ≠ fr.idx) :
    redirect ctx c h j = h j := by
  cases ctx with
  | nil => rfl
  | cons fr rest => exact update_of_ne (hj fr rest rfl) _ _

theorem redirect_dat (ctx : Ctx) (c : Int) (h : Heap F) (j : Nat) : (redirect ctx c h j).dat = (h j).dat := by
  cases ctx with
  | nil => rfl
  | cons fr rest =>
    by_cases e : j = fr.idx
    · subst e; simp only [redirect, update_self]; cases fr <;> rfl
    · simp only [redirect, update_of_ne e]

/-- the equation `plug_replace` asks of a row of the context, from the cells of a block that is specified cell by cell -/
theorem redirect_of_cells {V V' : List F} {N N' : List Int} {ctx : Ctx} {c : Int} {j : Nat}
    (hV : ∀ k, k < 8 → vAt V' j k = vAt V j k) (h03 : nAt N' j 0 = nAt N j 0 ∧ nAt N' j 3 = nAt N j 3)
    (h12 : (∀ fr rest, ctx = fr :: rest → j ≠ fr.idx) → nAt N' j 1 = nAt N j 1 ∧ nAt N' j 2 = nAt N j 2)
    (hpar : ∀ fr rest, ctx = fr :: rest → j = fr.idx →
      match fr with
      | .L _ _ => nAt N' j 1 = c ∧ nAt N' j 2 = nAt N j 2
      | .R _ _ => nAt N' j 2 = c ∧ nAt N' j 1 = nAt N j 1) :
    heapOf V' N' j = redirect ctx c (heapOf V N) j := by
  have hnd : nodeAt V' j = nodeAt V j := by
    simp only [nodeAt, hV 0 (by decide), hV 1 (by decide), hV 2 (by decide), hV 3 (by decide), hV 4 (by decide),
      hV 5 (by decide), hV 6 (by decide)]
  by_cases e : ∀ fr rest, ctx = fr :: rest → j ≠ fr.idx
  · rw [redirect_other ctx c _ j e]
    simp only [heapOf, hnd, hV 7 (by decide), h03.1, h03.2, (h12 e).1, (h12 e).2]
  · obtain ⟨fr, rest, rfl, ej⟩ : ∃ fr rest, ctx = fr :: rest ∧ j = fr.idx := by
      by_contra hh; exact e fun fr rest e1 e2 => hh ⟨fr, rest, e1, e2⟩
    have hp := hpar fr rest rfl ej
    cases fr with
    | L p r0 | R r0 p =>
      obtain rfl : j = p := ej
      simp only [redirect, Fr.idx, update_self, heapOf, Fr.dir, Row.setKid, hnd, hV 7 (by decide), h03.1, h03.2, hp.1, hp.2]

/-- **the subtree at a position is replaced**: `new`, whose rows are none of the context's, is linked below the
    position's parent, and the rows of the context keep everything but the child cell of that parent, which points to
    `new`.  Then `new` sits at the position, in the same context.  (A new leaf: `old = .nil`; a rotation: `new` has the
    rows of `old`; the splice of the deletion: `new` a child of `old`.) -/
theorem plug_replace {V V' : List F} {N N' : List Int} {n : Nat} {ctx : Ctx} {old new : Sh} (h : Pos N n old ctx)
    (hnew : Linked N' n (ctxPar ctx) new) (hnn : new.idxs.Nodup) (hdis : ∀ j ∈ new.idxs, j ∉ ctxIdxs ctx)
    (hctx : ∀ j ∈ ctxIdxs ctx, heapOf V' N' j = redirect ctx new.ptr (heapOf V N) j) :
    Pos N' n new ctx ∧ absCtx V' N' ctx = absCtx V N ctx := by
  refine ⟨⟨replug ctx new hnew ?_, ?_⟩, absCtx_frame ctx fun j hj => by rw [hctx j hj, redirect_dat]⟩
  · have hco := h.ctx
    cases ctx with
    | nil => trivial
    | cons fr rest =>
      have hp := hctx fr.idx (Pos.frame_mem List.mem_cons_self)
      simp only [redirect, update_self] at hp
      refine hco.redirect h.ctx_nodup (fun j hj hm => hdis j (Sh.ptr_mem new j hj) hm) ?_ (fun j hj hne => ?_)
      · cases fr with
        | L p r0 =>
          have : (heapOf V' N' p).lnk = (new.ptr, (heapOf V N p).right, (heapOf V N p).par) := congrArg Row.lnk hp
          simp only [Row.lnk, heapOf, Prod.mk.injEq] at this
          exact this
        | R l0 p =>
          have : (heapOf V' N' p).lnk = ((heapOf V N p).left, new.ptr, (heapOf V N p).par) := congrArg Row.lnk hp
          simp only [Row.lnk, heapOf, Prod.mk.injEq] at this
          exact ⟨this.2.1, this.1, this.2.2⟩
      · have := congrArg Row.lnk ((hctx j hj).trans (redirect_other _ _ _ j (fun f r e => by cases e; exact hne)))
        simp only [Row.lnk, heapOf, Prod.mk.injEq] at this
        exact this
  · rw [nodup_plug_iff]
    exact List.nodup_append.mpr ⟨hnn, h.ctx_nodup, fun a ha b hb e => hdis a ha (e ▸ hb)⟩

theorem absT_replace {V V' : List F} {N N' : List Int} (ctx : Ctx) (old new : Sh) (f : Tree (Fv F) → Tree (Fv F))
    (hc : absCtx V' N' ctx = absCtx V N ctx) (habs : absT V' N' new = f (absT V N old)) :
    absT V' N' (plug new ctx) = atPath f (pathOf ctx) (absT V N (plug old ctx)) := by
  rw [absT_plug, absT_plug, habs, hc, atPath_plugT _ _ _ _ (pathOf_absCtx V N ctx)]

structure TreeAt (rv : String) (s : State F) (n : Nat) (sh : Sh) : Prop where
  vs : VS s n
  run : s.ctl = .run
  linked : Linked (s.ia "tree_nodes") n (-1) sh
  nodup : sh.idxs.Nodup
  root : s.ienv rv = sh.ptr

section treeAt
variable {rv : String} {n : Nat}

theorem TreeAt.of_eq {s r : State F} {sh : Sh} (h : TreeAt rv s n sh) (h1 : r.shp = s.shp) (h2 : r.fa = s.fa)
    (h3 : r.ia = s.ia) (h4 : r.ctl = .run) (h5 : r.ienv rv = s.ienv rv) : TreeAt rv r n sh :=
  ⟨h.vs.of_eq h1 h2 h3, h4, by rw [h3]; exact h.linked, h.nodup, by rw [h5]; exact h.root⟩

theorem TreeAt.pos {rv : String} {s : State F} {n : Nat} {sub : Sh} {ctx : Ctx} (h : TreeAt rv s n (plug sub ctx)) :
    Pos (s.ia "tree_nodes") n sub ctx :=
  ⟨h.linked, h.nodup⟩

end treeAt

/-- a colour cell holds `RB_RED = 0` or `RB_BLACK = 1` -/
def ColV (c : Int) : Prop := c = 0 ∨ c = 1

theorem colV_one : ColV 1 := Or.inr rfl
theorem colV_zero : ColV 0 := Or.inl rfl

theorem colV_of_store {N N' : List Int} {i : Nat} {c : Int} (hc : ColV c)
    (hoth : ∀ j, j ≠ i → nAt N' j 0 = nAt N j 0) (hi : nAt N' i 0 = c) : ∀ j, ColV (nAt N j 0) → ColV (nAt N' j 0) := by
  intro j hj
  by_cases e : j = i
  · rw [e, hi]; exact hc
  · rw [hoth j e]; exact hj

theorem colV_of_eq {N N' : List Int} (h : ∀ j, nAt N' j 0 = nAt N j 0) : ∀ j, ColV (nAt N j 0) → ColV (nAt N' j 0) :=
  fun j hj => by rw [h j]; exact hj

/-- a block takes `s`, holding the tree `sh`, to `r`, holding `sh'` (the same rows in the same order); the model tree
    changes by `f`; the NIL row keeps its maximum and colour, sane colour cells stay sane -/
structure Move (rv : String) (n : Nat) (f : Tree (Fv F) → Tree (Fv F)) (s r : State F) (sh sh' : Sh) : Prop where
  holds : TreeAt rv r n sh'
  idxs : sh'.idxs = sh.idxs
  abs : absT (r.fa "tree_vals") (r.ia "tree_nodes") sh' = f (absT (s.fa "tree_vals") (s.ia "tree_nodes") sh)
  nilMax : vAt (r.fa "tree_vals") (n - 1) 7 = vAt (s.fa "tree_vals") (n - 1) 7
  nilCol : nAt (r.ia "tree_nodes") (n - 1) 0 = nAt (s.ia "tree_nodes") (n - 1) 0
  col : ∀ j, ColV (nAt (s.ia "tree_nodes") j 0) → ColV (nAt (r.ia "tree_nodes") j 0)

section move
variable {rv : String} {n : Nat}

theorem Move.refl {s : State F} {sh : Sh} (h : TreeAt rv s n sh) : Move rv n (fun t => t) s s sh sh :=
  ⟨h, rfl, rfl, rfl, rfl, fun _ hj => hj⟩

theorem Move.trans {f g : Tree (Fv F) → Tree (Fv F)} {s r q : State F} {sh sh' sh'' : Sh}
    (h1 : Move rv n f s r sh sh') (h2 : Move rv n g r q sh' sh'') : Move rv n (fun t => g (f t)) s q sh sh'' :=
  ⟨h2.holds, h2.idxs.trans h1.idxs, by rw [h2.abs, h1.abs], h2.nilMax.trans h1.nilMax, h2.nilCol.trans h1.nilCol,
   fun j hj => h2.col j (h1.col j hj)⟩

/-- the move of a block whose first statements leave the arrays alone -/
theorem Move.of_eq {f : Tree (Fv F) → Tree (Fv F)} {s s' r : State F} {sh sh' : Sh}
    (h : Move rv n f s' r sh sh') (hfa : s'.fa = s.fa) (hia : s'.ia = s.ia) : Move rv n f s r sh sh' :=
  ⟨h.holds, h.idxs, by rw [h.abs, hfa, hia], by rw [h.nilMax, hfa], by rw [h.nilCol, hia], by rw [← hia]; exact h.col⟩

theorem Move.congr {rv : String} {n : Nat} {f g : Tree (Fv F) → Tree (Fv F)} {s r : State F} {sh sh' : Sh}
    (m : Move rv n f s r sh sh')
    (e : f (absT (s.fa "tree_vals") (s.ia "tree_nodes") sh) = g (absT (s.fa "tree_vals") (s.ia "tree_nodes") sh)) :
    Move rv n g s r sh sh' :=
  ⟨m.holds, m.idxs, m.abs.trans e, m.nilMax, m.nilCol, m.col⟩

theorem Move.setI {f : Tree (Fv F) → Tree (Fv F)} {s r : State F} {sh sh' : Sh} (m : Move rv n f s r sh sh')
    (v : String) (val : Int) (hv : rv ≠ v) : Move rv n f s { r with ienv := setS r.ienv v val } sh sh' :=
  ⟨m.holds.of_eq rfl rfl rfl m.holds.run (setS_other _ _ _ _ hv), m.idxs, m.abs, m.nilMax, m.nilCol, m.col⟩

theorem Move.exec_setI {f : Tree (Fv F) → Tree (Fv F)} {s r : State F} {sh sh' : Sh} (m : Move rv n f s r sh sh')
    (fuel : Nat) (v : String) (e : IE) (he : e.ok r = true) (hv : rv ≠ v) :
    ∃ q : State F, exec fuel (.setI v e) r = q ∧ Move rv n f s q sh sh' ∧ q.ia = r.ia ∧
      q.ienv = setS r.ienv v (e.eval r) :=
  ⟨_, IL.exec_setI fuel v e r he, m.setI v _ hv, rfl, rfl⟩

theorem Move.exec_ld {f : Tree (Fv F) → Tree (Fv F)} {s r : State F} {sh sh' : Sh} (m : Move rv n f s r sh sh')
    (fuel : Nat) (v xv : String) (c : Int) (hc : 0 ≤ c ∧ c < 4) (i : Nat) (hi : i + 1 < n) (hx : r.ienv xv = i)
    (hv : rv ≠ v) :
    ∃ q : State F, exec fuel (.setI v (.ld2 "tree_nodes" (.var xv) (.lit c))) r = q ∧ Move rv n f s q sh sh' ∧ q.ia = r.ia ∧
      q.ienv = setS r.ienv v (nAt (r.ia "tree_nodes") i c.toNat) := by
  obtain ⟨q, h1, h2, h3, h4⟩ := m.exec_setI fuel v (.ld2 "tree_nodes" (.var xv) (.lit c))
    (by rw [okN r n m.holds.vs.shpN xv c hc, hx]; exact m.holds.vs.inRange hi) hv
  exact ⟨q, h1, h2, h3, by rw [h4, evalN r n m.holds.vs.shpN xv c hc.1, hx, rowOf_nat]⟩

end move

end XrsVerif.ILVs
