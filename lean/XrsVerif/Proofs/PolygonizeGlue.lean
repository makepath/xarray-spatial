import XrsVerif.Model.PolygonizeGlue
/-!
  Lemmas about the wrapper glue of `polygonize()` (Model/PolygonizeGlue.lean): the integer part of `keepsValues` is
  exactly "the C conversion `wrapTo` is the identity on the source range", and with no drop condition a supplied
  transform reaches the kernel (`bind_noDrop`).
-/
namespace XrsVerif.Polygonize

theorem wrapTo_of_inRange (t : DType) (ht : t.isInt = true) (v : Int) (hv : t.inRange v = true) :
    wrapTo t v = v := by
  cases t <;> simp [DType.isInt, DType.lo, DType.hi, DType.signed, DType.bits, DType.inRange, wrapTo] at * <;>
    first | omega | (split <;> omega)

theorem keepsValues_int {s t : DType} (hs : s.isInt = true) (ht : t.isInt = true)
    (h : keepsValues s t = true) : t.lo ≤ s.lo ∧ s.hi ≤ t.hi := by
  unfold keepsValues at h
  split at h
  · subst s; exact ⟨Int.le_refl _, Int.le_refl _⟩
  · split at h
    · subst s; cases hs
    · simpa [hs, ht] using h

theorem wrapTo_keeps (s t : DType) (hs : s.isInt = true) (ht : t.isInt = true) (h : keepsValues s t = true)
    (v : Int) (hv : s.inRange v = true) : wrapTo t v = v := by
  obtain ⟨h1, h2⟩ := keepsValues_int hs ht h
  apply wrapTo_of_inRange t ht
  simp only [DType.inRange, Bool.and_eq_true, decide_eq_true_eq] at hv ⊢
  exact ⟨Int.le_trans h1 hv.1, Int.le_trans hv.2 h2⟩

/-- when `keepsValues s t` fails there is a value of `s` the conversion changes (so the table is not
    stricter than needed): the greatest or the least value of `s` -/
theorem wrapTo_loses (s t : DType) (hs : s.isInt = true) (ht : t.isInt = true) (h : keepsValues s t = false) :
    ∃ v, s.inRange v = true ∧ wrapTo t v ≠ v := by
  by_cases hhi : wrapTo t s.hi ≠ s.hi
  · exact ⟨s.hi, by cases s <;> simp [DType.isInt] at hs <;> decide, hhi⟩
  · refine ⟨s.lo, by cases s <;> simp [DType.isInt] at hs <;> decide, ?_⟩
    revert hhi h
    cases s <;> cases t <;> simp [DType.isInt] at hs ht <;> decide

theorem bind_noDrop (dropIf : String → List Rat → Bool) (transform : Option (List Rat)) :
    (transform.bind fun t => if ([] : List String).any (fun c => dropIf c t) then none else some t) = transform := by
  cases transform <;> simp

end XrsVerif.Polygonize
