import XrsVerif.Proofs.ILProxInLine
import XrsVerif.Proofs.ILProxSweep
/-
  Step 4 (first part): inside a line of the generated `_process_numpy` (`InLine`), an inlined
  call of the line function (argument passing + `.scope (lineBody (NL k))`) refines `Prox.sweepN`.
-/
namespace XrsVerif.IL.Px
open XrsVerif XrsVerif.Prox
variable {F : Type} [Fl F]
attribute [-simp] List.getD_eq_getElem?_getD
attribute [local simp] List.getD_cons_zero List.getD_cons_succ

theorem outer_ne_line (v : String) (hv : v.toList.head? ≠ some '_') (k : String) (a : LV) : v ≠ (NL k).nm a :=
  ne_inlined v ("_process_proximity_line" ++ k ++ "$") a.base hv (by simp [String.append_assoc])

theorem outer_ne_dir (v : String) (hv : v.toList.head? ≠ some '_') (k x : String) : v ≠ D k ++ x :=
  ne_inlined v (D k) x hv (by simp [D, String.append_assoc])

/-- the state after argument passing -/
def callSt (N : Names) (st : State F) (fwd : Bool) : State F :=
  { st with
    benv := setS st.benv (N.nm .isForward) fwd
    ienv := setS (setS (setS st.ienv (N.nm .lineId) (st.ienv "line")) (N.nm .width) (st.ienv "width"))
      (N.nm .distanceMetric) (st.ienv "distance_metric")
    fenv := setS st.fenv (N.nm .maxDistance) (st.fenv "max_distance") }

variable {c : Cfg} {emb : Nat → F} {tg : Nat → Nat → Bool}

/-- an inlined call of the line function refines `Prox.sweepN`: inside line `n`, the model's line state `m` becomes
    its sweep -/
theorem callLine_refines {s0 sE st : State F} {n : Nat} {m : LineSt} {al : List Tgt} (inp : PNInput c emb tg s0)
    (h : InLine c emb s0 sE n st m al) (k : String) (fwdE : BE) (fwd : Bool)
    (hE : (fwdE = .tt ∧ fwd = true) ∨ (fwdE = .ff ∧ fwd = false)) (rest : St) (fuel : Nat) :
    ∃ st' : State F, exec fuel (callLine (NL k) fwdE rest) st = exec fuel rest st' ∧
      InLine c emb s0 sE n st' (sweepN c tg n fwd m c.W) al := by
  have hN := NL_wf k
  have hne := hN.nm_eq
  have s := h.stat
  have hs := s.run
  have h1 : exec fuel (callLine (NL k) fwdE rest) st = exec fuel (.seq (.scope (lineBody (NL k))) rest) (callSt (NL k) st fwd) := by
    have hw1 := outer_ne_line "width" (by simp) k
    have hw2 := outer_ne_line "distance_metric" (by simp) k
    unfold callLine
    generalize St.seq (.scope (lineBody (NL k))) rest = R
    rcases hE with ⟨rfl, rfl⟩ | ⟨rfl, rfl⟩ <;>
      simp [il, callSt, exec_seq, hs, setS, hw1, hw2]
  rw [h1]
  generalize hst1 : callSt (NL k) st fwd = st1
  have e : st1.ctl = .run ∧ st1.shp = st.shp ∧ st1.ia = st.ia ∧ st1.fa = st.fa ∧ st1.ext = st.ext ∧
      st1.benv ((NL k).nm .isForward) = fwd ∧ st1.ienv ((NL k).nm .lineId) = n ∧ st1.ienv ((NL k).nm .width) = c.W ∧
      st1.ienv ((NL k).nm .distanceMetric) = st.ienv "distance_metric" ∧
      st1.fenv ((NL k).nm .maxDistance) = st.fenv "max_distance" ∧
      (∀ v, (∀ a : LV, v ≠ (NL k).nm a) → st1.ienv v = st.ienv v ∧ st1.fenv v = st.fenv v) := by
    subst hst1
    refine ⟨hs, rfl, rfl, rfl, rfl, by simp [callSt, setS], by simp [callSt, setS, hne, h.line],
      by simp [callSt, setS, hne, s.width], by simp [callSt, setS], by simp [callSt, setS], ?_⟩
    intro v hv
    simp [callSt, setS, hv .lineId, hv .width, hv .distanceMetric, hv .maxDistance]
  obtain ⟨c1, sh1, ia1, fa1, ex1, b1, l1, w1, m1, x1, o1⟩ := e
  -- the callee's view of the caller's arrays and scalars
  have env : LineEnv (NL k) c emb tg n fwd st1 := by
    refine ⟨⟨by rw [sh1]; exact s.px, by rw [sh1]; exact s.py, by rw [sh1]; exact s.nx, by rw [sh1]; exact s.ny,
      by rw [sh1]; exact h.slp, by rw [sh1]; exact s.scan, by rw [sh1]; exact s.xc, by rw [sh1]; exact s.yc⟩,
      by rw [sh1, fa1]; show st.shp "target_values" = [(st.fa "target_values").length]; rw [s.ftv]; exact s.tv, h.hn, l1, b1, w1, by rw [x1, s.maxd]; exact inp.arith, ?_, ?_⟩
    · intro tr tc r p h1 h2 h3 h4
      have hxs : (NL k).xs = "x_coords" := rfl
      have hys : (NL k).ys = "y_coords" := rfl
      simpa [cellDist2, cellDist, pnDist2, hxs, hys, fa1, ex1, m1, s.fxc, s.fyc, s.ext, s.metric] using
        inp.d2 tr tc r p h1 h2 h3 h4
    · intro p hp
      have hsr : (NL k).src = "scan_line" := rfl
      have hvl : (NL k).vals = "target_values" := rfl
      rw [hsr, hvl, fa1, h.scan p hp, s.ftv]; exact inp.tgt n p h.hn hp
  obtain ⟨c2, f2, r2⟩ := lineBody_refines hN fuel st1 m c1 env (h.rel.congr ia1 fa1)
  have hsc : exec fuel (.scope (lineBody (NL k))) st1 = { exec fuel (lineBody (NL k)) st1 with ctl := .run } :=
    exec_scope_ret _ _ _ c2
  rw [exec_seq_run _ _ _ _ (by rw [hsc]), hsc]
  generalize exec fuel (lineBody (NL k)) st1 = st2 at c2 f2 r2
  -- the callee's scalars all start with `_`: of the caller's state it changes the five work arrays only
  have fa2 : ∀ a, a ≠ "line_proximity" → st2.fa a = st.fa a := fun a ha => (f2.fa a ha).trans (by rw [fa1])
  have fr : RowFrame st { st2 with ctl := .run } :=
    ⟨by rw [← sh1]; exact f2.shp, by rw [← ex1]; exact f2.ext,
     fun v hv _ => (f2.ienv v (fun a _ => outer_ne_line v hv k a)).trans (o1 v (outer_ne_line v hv k)).1,
     fun v hv => (f2.fenv v (fun a _ => outer_ne_line v hv k a)).trans (o1 v (outer_ne_line v hv k)).2,
     fun a ha _ _ => fa2 a ha⟩
  have eo := fa2 "output_img" (by simp)
  exact ⟨{ st2 with ctl := .run }, rfl, h.next rfl fr (r2.congr rfl rfl) (by rw [show _ = st2.fa "output_img" from rfl, eo]; exact s.lout)
    (h.out.congr eo) (fun j _ => by rw [show _ = st2.fa "output_img" from rfl, eo]) (fa2 _ (by simp))⟩

end XrsVerif.IL.Px
