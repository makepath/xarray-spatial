import XrsVerif.Proofs.PolygonizeLosslessRing
import Mathlib.Data.Finset.Prod
/-
  C15: what `follow` returns.  The loop folds `visit` over the orbit of the start state up to its first return
  (`followLoop_char`), and the orbit does return within the fuel because `step` is injective on the finitely many
  boundary-edge states (`follow_isSome`).  `follow_spec` puts the two together; `follow_ring` says what the returned
  ring looks like.
-/
namespace XrsVerif.Polygonize

theorem orbitL_length (f : FSt → FSt) (m : Nat) (s : FSt) : (orbitL f m s).length = m := by
  induction m generalizing s with
  | zero => rfl
  | succ m ih => simp [orbitL, ih]

/-- one iteration of the `_follow` loop on the accumulated (previous heading, trace) -/
def visit (nx ny : Nat) (hole : Bool) (acc : Option Dir × Trace) (cur : FSt) : Option Dir × Trace :=
  let ij := (cur.x + cur.y * nx).toNat
  (some cur.d,
   ⟨if acc.1 ≠ some cur.d then cur.corner :: acc.2.pts else acc.2.pts,
    if cur.d = .E ∧ hole = false then ij :: acc.2.v1 else acc.2.v1,
    if ¬(cur.d = .E ∧ hole = false) ∧ cur.d = .W ∧ ij + nx < nx * ny then (ij + nx) :: acc.2.v2 else acc.2.v2⟩)

theorem followLoop_char (R : Int → Int → Bool) (nx ny : Nat) (hole : Bool) (start : FSt) :
    ∀ (fuel : Nat) (cur : FSt) (prev : Option Dir) (tr res : Trace),
      followLoop R nx ny hole start fuel cur prev tr = some res →
      ∃ k, (step R)^[k + 1] cur = start ∧ (∀ i, 1 ≤ i → i < k + 1 → (step R)^[i] cur ≠ start) ∧
        res = ((orbitL (step R) (k + 1) cur).foldl (visit nx ny hole) (prev, tr)).2 := by
  intro fuel
  induction fuel with
  | zero => intro cur prev tr res h; simp [followLoop] at h
  | succ fuel ih =>
    intro cur prev tr res h
    simp only [followLoop] at h
    split at h
    · rename_i hs
      simp only [Option.some.injEq] at h
      refine ⟨0, hs, by intro i h1 h2; omega, ?_⟩
      rw [← h]; rfl
    · rename_i hs
      obtain ⟨m, hit, hmin, hres⟩ := ih _ _ _ _ h
      refine ⟨m + 1, hit, ?_, ?_⟩
      · intro i h1 h2
        cases i with
        | zero => omega
        | succ i =>
          cases i with
          | zero => exact hs
          | succ i => exact hmin (i + 1) (by omega) (by omega)
      · rw [hres]; rfl

theorem orbit_returns {α : Type} [DecidableEq α] (f : α → α) (S : Finset α)
    (hS : ∀ a ∈ S, f a ∈ S) (hinj : ∀ a ∈ S, ∀ b ∈ S, f a = f b → a = b) (s : α) (hs : s ∈ S) :
    ∃ k, 0 < k ∧ k ≤ S.card ∧ f^[k] s = s := by
  have hmem : ∀ n, f^[n] s ∈ S := fun n => Set.MapsTo.iterate (s := (S : Set α)) hS n hs
  have hinjn : ∀ n, ∀ a ∈ S, ∀ b ∈ S, f^[n] a = f^[n] b → a = b := fun n a ha b hb =>
    Set.InjOn.iterate (s := (S : Set α)) (fun a ha b hb => hinj a ha b hb) hS n ha hb
  obtain ⟨i, hi, j, hj, hne, heq⟩ :=
    Finset.exists_ne_map_eq_of_card_lt_of_maps_to (s := Finset.range (S.card + 1)) (t := S)
      (f := fun n => f^[n] s) (by simp) (fun n _ => hmem n)
  simp only [Finset.mem_range] at hi hj
  -- wlog i < j
  have key : ∀ i j, i < j → j < S.card + 1 → f^[i] s = f^[j] s → ∃ k, 0 < k ∧ k ≤ S.card ∧ f^[k] s = s := by
    intro i j hij hj heq
    refine ⟨j - i, by omega, by omega, ?_⟩
    have : f^[i] s = f^[i] (f^[j - i] s) := by
      rw [← Function.iterate_add_apply]; rw [show i + (j - i) = j by omega]; exact heq
    exact (hinjn i _ hs _ (hmem _) this).symm
  rcases Nat.lt_or_gt_of_ne hne with h | h
  · exact key i j h hj heq
  · exact key j i h hi heq.symm

instance (R : Int → Int → Bool) : DecidablePred (Valid R) := fun s => by unfold Valid; infer_instance

def allStates (nx ny : Nat) : Finset FSt :=
  ((Finset.range nx ×ˢ Finset.range ny) ×ˢ ({Dir.E, Dir.N, Dir.W, Dir.S} : Finset Dir)).image
    fun p => ⟨(p.1.1 : Int), (p.1.2 : Int), p.2⟩

def boundaryStates (R : Int → Int → Bool) (nx ny : Nat) : Finset FSt := (allStates nx ny).filter (Valid R)

theorem card_boundaryStates_le (R : Int → Int → Bool) (nx ny : Nat) :
    (boundaryStates R nx ny).card ≤ 4 * nx * ny := by
  unfold boundaryStates allStates
  refine (Finset.card_filter_le _ _).trans ((Finset.card_image_le).trans ?_)
  rw [Finset.card_product, Finset.card_product, Finset.card_range, Finset.card_range]
  have : ({Dir.E, Dir.N, Dir.W, Dir.S} : Finset Dir).card = 4 := by decide
  rw [this]; ring_nf; omega

theorem mem_boundaryStates {R : Int → Int → Bool} {nx ny : Nat}
    (hR : InRaster R nx ny) {s : FSt} (hs : Valid R s) :
    s ∈ boundaryStates R nx ny := by
  unfold boundaryStates allStates
  rw [Finset.mem_filter]
  refine ⟨?_, hs⟩
  obtain ⟨h0, h1, h2, h3⟩ := hR s.x s.y hs.1
  rw [Finset.mem_image]
  refine ⟨((s.x.toNat, s.y.toNat), s.d), ?_, ?_⟩
  · simp only [Finset.mem_product, Finset.mem_range]
    refine ⟨⟨by omega, by omega⟩, ?_⟩
    cases s.d <;> simp
  · obtain ⟨x, y, d⟩ := s
    simp only at h0 h1 h2 h3
    simp only [FSt.mk.injEq, and_true]
    constructor <;> omega

theorem followLoop_isSome (R : Int → Int → Bool) (nx ny : Nat) (hole : Bool) (start : FSt) :
    ∀ (fuel : Nat) (cur : FSt) (prev : Option Dir) (tr : Trace) (k : Nat), 0 < k → k ≤ fuel →
      (step R)^[k] cur = start → (followLoop R nx ny hole start fuel cur prev tr).isSome = true := by
  intro fuel
  induction fuel with
  | zero => intro cur prev tr k h0 hk; omega
  | succ fuel ih =>
    intro cur prev tr k h0 hk hit
    simp only [followLoop]
    split
    · rfl
    · rename_i hne
      have hk1 : k ≠ 1 := by
        intro h1; subst h1; simp at hit; exact hne hit
      refine ih _ _ _ (k - 1) (by omega) (by omega) ?_
      have : k = (k - 1) + 1 := by omega
      rw [this, Function.iterate_succ_apply] at hit
      exact hit

/-- started on a boundary edge, the follower is back at its start after at most
    `4·nx·ny` iterations, so `follow` (fuel `4·nx·ny + 4`) returns a ring -/
theorem follow_isSome (nx ny : Nat) (regs : Nat → Nat) (ij : Nat) (hole : Bool)
    (hstart : Valid (inRegion nx ny regs (regs ij)) ⟨(ij % nx : Nat), (ij / nx : Nat), if hole then .W else .E⟩) :
    (follow nx ny regs ij hole).isSome = true := by
  have hR := inRegion_inRaster nx ny regs (regs ij)
  obtain ⟨k, hk0, hk, hit⟩ := orbit_returns (step (inRegion nx ny regs (regs ij)))
    (boundaryStates (inRegion nx ny regs (regs ij)) nx ny)
    (fun a ha => mem_boundaryStates hR (step_valid _ a (Finset.mem_filter.mp ha).2))
    (fun a ha b hb h => step_injective _ a b (Finset.mem_filter.mp ha).2 (Finset.mem_filter.mp hb).2 h)
    _ (mem_boundaryStates hR hstart)
  have hfuel : k ≤ 4 * nx * ny + 4 := by
    have := card_boundaryStates_le (inRegion nx ny regs (regs ij)) nx ny; omega
  have := followLoop_isSome (inRegion nx ny regs (regs ij)) nx ny hole _ (4 * nx * ny + 4) _ none ⟨[], [], []⟩ k hk0 hfuel hit
  unfold follow
  simp only
  cases hfl : followLoop (inRegion nx ny regs (regs ij)) nx ny hole
      ⟨(ij % nx : Nat), (ij / nx : Nat), if hole then .W else .E⟩ (4 * nx * ny + 4)
      ⟨(ij % nx : Nat), (ij / nx : Nat), if hole then .W else .E⟩ none ⟨[], [], []⟩ with
  | none => rw [hfl] at this; simp at this
  | some tr => simp

def FSt.idx (nx : Nat) (s : FSt) : Nat := (s.x + s.y * nx).toNat

theorem visit_v2 (nx ny : Nat) (hole : Bool) (q : Nat) (acc : Option Dir × Trace) (s : FSt) :
    q ∈ (visit nx ny hole acc s).2.v2 ↔ q ∈ acc.2.v2 ∨ (s.d = .W ∧ q = s.idx nx + nx ∧ q < nx * ny) := by
  simp only [visit, FSt.idx]
  split
  · rename_i hc
    rw [List.mem_cons]
    constructor
    · rintro (h | h)
      · right; exact ⟨hc.2.1, h, by omega⟩
      · left; exact h
    · rintro (h | ⟨_, h, _⟩)
      · right; exact h
      · left; exact h
  · rename_i hc
    constructor
    · intro h; left; exact h
    · rintro (h | ⟨h1, h2, h3⟩)
      · exact h
      · exfalso; apply hc
        refine ⟨?_, h1, by omega⟩
        rw [h1]; simp

theorem mem_v2_fold (nx ny : Nat) (hole : Bool) (q : Nat) : ∀ (l : List FSt) (acc : Option Dir × Trace),
    q ∈ (l.foldl (visit nx ny hole) acc).2.v2 ↔
      q ∈ acc.2.v2 ∨ ∃ s ∈ l, s.d = .W ∧ q = s.idx nx + nx ∧ q < nx * ny := by
  intro l
  induction l with
  | nil => intro acc; simp
  | cons s l ih =>
    intro acc
    rw [List.foldl_cons, ih, visit_v2]
    simp only [List.mem_cons, exists_eq_or_imp]
    exact or_assoc

theorem mem_v1_fold (nx ny : Nat) (hole : Bool) (q : Nat) : ∀ (l : List FSt) (acc : Option Dir × Trace),
    q ∈ (l.foldl (visit nx ny hole) acc).2.v1 →
      q ∈ acc.2.v1 ∨ ∃ s ∈ l, s.d = .E ∧ q = s.idx nx := by
  intro l
  induction l with
  | nil => intro acc h; left; simpa using h
  | cons s l ih =>
    intro acc h
    rw [List.foldl_cons] at h
    rcases ih _ h with h1 | ⟨t, ht, h1⟩
    · simp only [visit] at h1
      split at h1
      · rename_i hc
        rcases List.mem_cons.mp h1 with e | e
        · right; exact ⟨s, List.mem_cons_self, hc.1, e⟩
        · left; exact e
      · left; exact h1
    · right; exact ⟨t, List.mem_cons_of_mem _ ht, h1⟩

theorem pts_fold (nx ny : Nat) (hole : Bool) : ∀ (l : List FSt) (acc : Option Dir × Trace),
    (l.foldl (visit nx ny hole) acc).2.pts = recPts acc.1 l acc.2.pts := by
  intro l
  induction l with
  | nil => intro acc; rfl
  | cons s l ih => intro acc; rw [List.foldl_cons, ih]; rfl

theorem follow_fold (nx ny : Nat) (regs : Nat → Nat) (ij : Nat) (hole : Bool) (tr : Trace)
    (h : follow nx ny regs ij hole = some tr) :
    let R := inRegion nx ny regs (regs ij)
    let start : FSt := ⟨(ij % nx : Nat), (ij / nx : Nat), if hole then .W else .E⟩
    ∃ k, (step R)^[k + 1] start = start ∧ (∀ i, 1 ≤ i → i < k + 1 → (step R)^[i] start ≠ start) ∧
      tr.pts = cycRing (orbitL (step R) (k + 1) start) ∧
      (∀ q, q ∈ tr.v2 ↔ ∃ s ∈ orbitL (step R) (k + 1) start, s.d = .W ∧ q = s.idx nx + nx ∧ q < nx * ny) ∧
      (∀ q, q ∈ tr.v1 → ∃ s ∈ orbitL (step R) (k + 1) start, s.d = .E ∧ q = s.idx nx) := by
  intro R start
  unfold follow at h
  simp only at h
  split at h
  · cases h
  · rename_i res hres
    simp only [Option.some.injEq] at h
    obtain ⟨m, hit, hmin, hr⟩ := followLoop_char _ nx ny hole _ _ _ _ _ _ hres
    refine ⟨m, hit, hmin, ?_, ?_, ?_⟩
    · rw [← h]; simp only [cycRing]; rw [hr, pts_fold]
    · intro q
      rw [← h]; simp only; rw [hr, mem_v2_fold]; simp only [List.not_mem_nil, false_or]; exact Iff.rfl
    · intro q hq
      rw [← h] at hq; simp only at hq; rw [hr] at hq
      rcases mem_v1_fold nx ny hole q _ _ hq with h1 | h1
      · simp at h1
      · exact h1

theorem follow_char (nx ny : Nat) (regs : Nat → Nat) (ij : Nat) (hole : Bool) (tr : Trace)
    (hstart : Valid (inRegion nx ny regs (regs ij)) ⟨(ij % nx : Nat), (ij / nx : Nat), if hole then .W else .E⟩)
    (h : follow nx ny regs ij hole = some tr) :
    ∃ c : List FSt, IsCyc (inRegion nx ny regs (regs ij)) c ∧ c.Nodup ∧
      (⟨(ij % nx : Nat), (ij / nx : Nat), if hole then .W else .E⟩ : FSt) ∈ c ∧ tr.pts = cycRing c ∧
      (∀ q, q ∈ tr.v2 ↔ ∃ s ∈ c, s.d = .W ∧ q = s.idx nx + nx ∧ q < nx * ny) ∧
      (∀ q, q ∈ tr.v1 → ∃ s ∈ c, s.d = .E ∧ q = s.idx nx) := by
  obtain ⟨k, hit, hmin, hp, h2, h1⟩ := follow_fold nx ny regs ij hole tr h
  exact ⟨_, ⟨cycle_closed hstart hit, k, _, rfl, hit⟩, orbitL_nodup hstart hmin, List.mem_cons_self, hp, h2, h1⟩

def Est (nx p : Nat) : FSt := ⟨(p % nx : Nat), (p / nx : Nat), .E⟩
def Wst (nx p : Nat) : FSt := ⟨(p % nx : Nat), (p / nx : Nat), .W⟩

theorem state_coords {nx ny : Nat} {regs : Nat → Nat} {r : Nat} {s : FSt}
    (hs : inRegion nx ny regs r s.x s.y = true) :
    s.x = ((s.idx nx % nx : Nat) : Int) ∧ s.y = ((s.idx nx / nx : Nat) : Int) ∧ s.idx nx < nx * ny ∧
      regs (s.idx nx) = r := by
  obtain ⟨h0, h1, h2, h3⟩ := inRegion_inRaster nx ny regs r _ _ hs
  obtain ⟨x, y, d⟩ := s
  simp only at h0 h1 h2 h3 hs ⊢
  obtain ⟨X, rfl⟩ := Int.eq_ofNat_of_zero_le h0
  obtain ⟨Y, rfl⟩ := Int.eq_ofNat_of_zero_le h2
  have hX : X < nx := by omega
  have hY : Y < ny := by omega
  obtain ⟨_, _, hr⟩ := (inRegion_nat nx ny regs r X Y).mp hs
  simp only [FSt.idx, flat_xy]
  have := xy_of X Y hX
  rw [this.1, this.2]
  exact ⟨rfl, rfl, pix_lt hX hY, hr⟩

/-- the pixels flagged in `v2` by a cycle of region `r` -/
theorem trv2_iff {nx ny : Nat} {regs : Nat → Nat} {r : Nat} {c : List FSt}
    (hc : ∀ s ∈ c, Valid (inRegion nx ny regs r) s) (q : Nat) :
    (∃ s ∈ c, s.d = .W ∧ q = s.idx nx + nx ∧ q < nx * ny) ↔
      (nx ≤ q ∧ q < nx * ny ∧ regs (q - nx) = r ∧ Wst nx (q - nx) ∈ c) := by
  constructor
  · rintro ⟨s, hs, hd, hq, hn⟩
    obtain ⟨e1, e2, e3, e4⟩ := state_coords (hc s hs).1
    have hsub : q - nx = s.idx nx := by omega
    refine ⟨by omega, hn, by rw [hsub]; exact e4, ?_⟩
    rw [hsub]
    have : Wst nx (s.idx nx) = s := by
      obtain ⟨x, y, d⟩ := s
      simp only at hd e1 e2
      simp only [Wst]; rw [← e1, ← e2, hd]
    rw [this]; exact hs
  · rintro ⟨h1, h2, h3, h4⟩
    refine ⟨Wst nx (q - nx), h4, rfl, ?_, h2⟩
    simp only [Wst, FSt.idx, flat_xy, Nat.mod_add_div']
    omega

theorem follow_spec (nx ny : Nat) (regs : Nat → Nat) (ij : Nat) (hole : Bool)
    (hstart : Valid (inRegion nx ny regs (regs ij)) ⟨(ij % nx : Nat), (ij / nx : Nat), if hole then .W else .E⟩) :
    ∃ tr c, follow nx ny regs ij hole = some tr ∧ IsCyc (inRegion nx ny regs (regs ij)) c ∧ c.Nodup ∧
      (⟨(ij % nx : Nat), (ij / nx : Nat), if hole then .W else .E⟩ : FSt) ∈ c ∧ tr.pts = cycRing c ∧
      (∀ q, q ∈ tr.v2 ↔ nx ≤ q ∧ q < nx * ny ∧ regs (q - nx) = regs ij ∧ Wst nx (q - nx) ∈ c) ∧
      (∀ q, q ∈ tr.v1 → regs q = regs ij) := by
  obtain ⟨tr, hf⟩ := Option.isSome_iff_exists.mp (follow_isSome nx ny regs ij hole hstart)
  obtain ⟨c, hcyc, hnd, hmem, hpts, hv2, hv1⟩ := follow_char nx ny regs ij hole tr hstart hf
  have hcl := hcyc.1
  refine ⟨tr, c, hf, hcyc, hnd, hmem, hpts, ?_, ?_⟩
  · intro q; rw [hv2 q, trv2_iff hcl.valid q]
  · intro q hq
    obtain ⟨s, hs, _, e⟩ := hv1 q hq
    rw [e]; exact (state_coords (hcl.valid s hs).1).2.2.2

theorem follow_ring (nx ny : Nat) (regs : Nat → Nat) (ij : Nat) (hole : Bool) (tr : Trace)
    (h : follow nx ny regs ij hole = some tr) :
    let start : FSt := ⟨(ij % nx : Nat), (ij / nx : Nat), if hole then .W else .E⟩
    Rectilinear tr.pts ∧ tr.pts.head? = some start.corner ∧ tr.pts.getLast? = some start.corner ∧
      2 ≤ tr.pts.length := by
  intro start
  obtain ⟨k, hit, _, hp, _, _⟩ := follow_fold nx ny regs ij hole tr h
  generalize inRegion nx ny regs (regs ij) = R at hit hp
  rw [hp, cycRing_eq]
  refine ⟨rectilinear_of_chainOK _ _ ?_, rfl, ?_, by simp⟩
  · exact chain_cycle R hit
  · rw [← List.cons_append]; exact List.getLast?_concat

end XrsVerif.Polygonize
