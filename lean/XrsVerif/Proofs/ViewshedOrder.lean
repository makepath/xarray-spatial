import XrsVerif.Proofs.ViewshedEvents
import Mathlib.Tactic.Ring
/-
  C05 -- the event order of the sweep (Model/ViewshedEvents.lean: `evLe`, `sortedEvents`) is a total preorder; within a
  cell ENTER < CENTER < EXIT in that order, except on the east ray where CENTER (bearing 0) < EXIT < ENTER.
-/
namespace XrsVerif.ViewshedEvents

/-- the half-open upper half plane: bearings in [0, π) -/
def UH (x y : Int) : Prop := 0 < y ∨ (y = 0 ∧ 0 < x)

theorem UH.y_nonneg {x y : Int} (h : UH x y) : 0 ≤ y := by unfold UH at h; omega
theorem UH.x_pos {x : Int} (h : UH x 0) : 0 < x := by unfold UH at h; omega

theorem half_spec (x y : Int) :
    (half x y = 0 ∧ UH x y) ∨ (half x y = 1 ∧ UH (-x) (-y)) ∨ (half x y = 2 ∧ x = 0 ∧ y = 0) := by
  unfold half
  split
  · exact Or.inl ⟨rfl, ‹_›⟩
  · split
    · exact Or.inr (Or.inl ⟨rfl, by unfold UH; omega⟩)
    · exact Or.inr (Or.inr ⟨rfl, by omega⟩)

theorem half_zero_iff (x y : Int) : half x y = 0 ↔ UH x y := by
  have := half_spec x y; unfold UH at *; omega

theorem half_one_iff (x y : Int) : half x y = 1 ↔ UH (-x) (-y) := by
  have := half_spec x y; unfold UH at *; omega

theorem cross_neg (a b c d : Int) : cross (-a) (-b) (-c) (-d) = cross a b c d := by unfold cross; ring
theorem cross_antisymm (a b c d : Int) : cross c d a b = -cross a b c d := by unfold cross; ring
theorem cross_self (a b : Int) : cross a b a b = 0 := by unfold cross; ring
theorem cross_axis_left (a c d : Int) : cross a 0 c d = a * d := by unfold cross; ring
theorem cross_axis_right (a b c : Int) : cross a b c 0 = -(b * c) := by unfold cross; ring

/-- the y-component of `cross(p,q) r + cross(q,r) p + cross(r,p) q = 0` -/
theorem cross_identity (px py qx qy rx ry : Int) :
    qy * cross px py rx ry = ry * cross px py qx qy + py * cross qx qy rx ry := by unfold cross; ring

theorem cross_identity_x (px py qx qy rx ry : Int) :
    qx * cross px py rx ry = rx * cross px py qx qy + px * cross qx qy rx ry := by unfold cross; ring

theorem UH.y_eq_zero {px py qx : Int} (hp : UH px py) (hq : UH qx 0) (h : 0 ≤ cross px py qx 0) : py = 0 := by
  rw [cross_axis_right] at h
  have := mul_nonneg hp.y_nonneg hq.x_pos.le
  exact (mul_eq_zero.mp (by omega : py * qx = 0)).resolve_right hq.x_pos.ne'

theorem UH_trans {px py qx qy rx ry : Int} (hp : UH px py) (hq : UH qx qy) (hr : UH rx ry)
    (h1 : 0 ≤ cross px py qx qy) (h2 : 0 ≤ cross qx qy rx ry) :
    0 ≤ cross px py rx ry ∧ (cross px py rx ry = 0 → cross px py qx qy = 0 ∧ cross qx qy rx ry = 0) := by
  rcases hq.y_nonneg.lt_or_eq with hqy | rfl
  · -- `q` off the axis: so is `r`; divide the identity `qy (p × r) = ry (p × q) + py (q × r)` by `qy`
    have hry : 0 < ry := hr.y_nonneg.lt_of_ne fun e => hqy.ne' (UH.y_eq_zero hq (e ▸ hr) (e ▸ h2))
    have id := cross_identity px py qx qy rx ry
    have a := mul_nonneg hry.le h1
    have b := mul_nonneg hp.y_nonneg h2
    refine ⟨Int.nonneg_of_mul_nonneg_right (by omega) hqy, fun e => ?_⟩
    rw [e, mul_zero] at id
    have hc1 := (mul_eq_zero.mp (by omega : ry * cross px py qx qy = 0)).resolve_left hry.ne'
    refine ⟨hc1, (mul_eq_zero.mp (by omega : py * cross qx qy rx ry = 0)).resolve_left fun hpy => ?_⟩
    subst hpy
    rw [cross_axis_left] at hc1
    exact (mul_pos hp.x_pos hqy).ne' hc1
  · -- `q` on the axis: so is `p`
    obtain rfl := UH.y_eq_zero hp hq h1
    rw [cross_axis_left, cross_axis_left, cross_axis_left, mul_zero]
    exact ⟨mul_nonneg hp.x_pos.le hr.y_nonneg, fun e =>
      ⟨rfl, by rw [(mul_eq_zero.mp e).resolve_left hp.x_pos.ne', mul_zero]⟩⟩

theorem same_half_cases {px py qx qy rx ry : Int} (h1 : half px py = half qx qy) (h2 : half qx qy = half rx ry) :
    (UH px py ∧ UH qx qy ∧ UH rx ry) ∨ (UH (-px) (-py) ∧ UH (-qx) (-qy) ∧ UH (-rx) (-ry)) ∨
      (px = 0 ∧ py = 0 ∧ qx = 0 ∧ qy = 0) := by
  rcases half_spec qx qy with ⟨hq, u⟩ | ⟨hq, u⟩ | ⟨hq, u⟩
  · exact Or.inl ⟨(half_zero_iff _ _).mp (h1.trans hq), u, (half_zero_iff _ _).mp (h2.symm.trans hq)⟩
  · exact Or.inr (Or.inl ⟨(half_one_iff _ _).mp (h1.trans hq), u, (half_one_iff _ _).mp (h2.symm.trans hq)⟩)
  · have := half_spec px py; unfold UH at this; omega

theorem same_half_trans {px py qx qy rx ry : Int} (h1 : half px py = half qx qy) (h2 : half qx qy = half rx ry)
    (c1 : 0 ≤ cross px py qx qy) (c2 : 0 ≤ cross qx qy rx ry) :
    0 ≤ cross px py rx ry ∧ (cross px py rx ry = 0 → cross px py qx qy = 0 ∧ cross qx qy rx ry = 0) := by
  rcases same_half_cases h1 h2 with ⟨hp, hq, hr⟩ | ⟨hp, hq, hr⟩ | ⟨rfl, rfl, rfl, rfl⟩
  · exact UH_trans hp hq hr c1 c2
  · have := UH_trans hp hq hr (by rwa [cross_neg]) (by rwa [cross_neg])
    rwa [cross_neg, cross_neg, cross_neg] at this
  · simp [cross]

theorem evLe_iff (vr vc : Int) (a b : Event) :
    evLe vr vc a b = true ↔
      half (a.px vc) (a.py vr) < half (b.px vc) (b.py vr) ∨
      (half (a.px vc) (a.py vr) = half (b.px vc) (b.py vr) ∧
        (0 < cross (a.px vc) (a.py vr) (b.px vc) (b.py vr) ∨
         (cross (a.px vc) (a.py vr) (b.px vc) (b.py vr) = 0 ∧ a.ty ≤ b.ty))) := by
  simp only [evLe, angLt, angEq, Bool.or_eq_true, Bool.and_eq_true, decide_eq_true_eq, and_assoc, and_or_left, or_assoc]

theorem evLe_trans (vr vc : Int) (a b c : Event) (h1 : evLe vr vc a b = true) (h2 : evLe vr vc b c = true) :
    evLe vr vc a c = true := by
  rw [evLe_iff] at h1 h2 ⊢
  rcases h1 with h1 | ⟨e1, h1⟩
  · left; omega
  · rcases h2 with h2 | ⟨e2, h2⟩
    · left; omega
    · obtain ⟨h, h0⟩ := same_half_trans e1 e2 (by omega) (by omega)
      refine Or.inr ⟨e1.trans e2, ?_⟩
      rcases h.lt_or_eq with h | h
      · exact Or.inl h
      · have := h0 h.symm
        exact Or.inr ⟨h.symm, by omega⟩


theorem evLe_total (vr vc : Int) (a b : Event) : (evLe vr vc a b || evLe vr vc b a) = true := by
  rw [Bool.or_eq_true, evLe_iff, evLe_iff, cross_antisymm (a.px vc) (a.py vr) (b.px vc) (b.py vr)]
  omega

theorem evLe_refl (vr vc : Int) (a : Event) : evLe vr vc a a = true := by
  rw [evLe_iff]; right; exact ⟨rfl, Or.inr ⟨cross_self _ _, Int.le_refl _⟩⟩

theorem sortedEvents_pairwise (T : Int → Int → Rat) (h w : Nat) (vr vc : Int) :
    (sortedEvents T h w vr vc).Pairwise (fun a b => evLe vr vc a b = true) :=
  List.pairwise_mergeSort (evLe_trans vr vc) (evLe_total vr vc) _

theorem sortedEvents_perm (T : Int → Int → Rat) (h w : Nat) (vr vc : Int) :
    (sortedEvents T h w vr vc).Perm (eventList T h w vr vc) := List.mergeSort_perm _ _

/-- strictly smaller bearing -/
def slt (px py qx qy : Int) : Prop :=
  half px py < half qx qy ∨ (half px py = half qx qy ∧ 0 < cross px py qx qy)

theorem slt_trans {px py qx qy rx ry : Int} (h1 : slt px py qx qy) (h2 : slt qx qy rx ry) : slt px py rx ry := by
  rcases h1 with h1 | ⟨e1, c1⟩
  · exact Or.inl (by rcases h2 with h2 | ⟨e2, _⟩ <;> omega)
  · rcases h2 with h2 | ⟨e2, c2⟩
    · exact Or.inl (by omega)
    · obtain ⟨h, h0⟩ := same_half_trans e1 e2 c1.le c2.le
      exact Or.inr ⟨e1.trans e2, h.lt_of_ne fun e => c1.ne' (h0 e.symm).1⟩

theorem slt_UH {px py qx qy : Int} (hp : UH px py) (hq : UH qx qy) (hc : 0 < cross px py qx qy) : slt px py qx qy :=
  Or.inr ⟨by rw [(half_zero_iff _ _).mpr hp, (half_zero_iff _ _).mpr hq], hc⟩

theorem slt_LH {px py qx qy : Int} (hp : UH (-px) (-py)) (hq : UH (-qx) (-qy)) (hc : 0 < cross px py qx qy) :
    slt px py qx qy :=
  Or.inr ⟨by rw [(half_one_iff _ _).mpr hp, (half_one_iff _ _).mpr hq], hc⟩

theorem slt_UL {px py qx qy : Int} (hp : UH px py) (hq : UH (-qx) (-qy)) : slt px py qx qy :=
  Or.inl (by rw [(half_zero_iff _ _).mpr hp, (half_one_iff _ _).mpr hq]; decide)

theorem evLe_of_slt (vr vc : Int) (a b : Event) (h : slt (a.px vc) (a.py vr) (b.px vc) (b.py vr)) :
    evLe vr vc a b = true ∧ ¬ evLe vr vc b a = true := by
  rw [evLe_iff, evLe_iff, cross_antisymm (a.px vc) (a.py vr) (b.px vc) (b.py vr)]
  unfold slt at h
  omega

/-- **ENTER, CENTER, EXIT of one cell in bearing order**: entering corner < centre < exiting corner in [0, 2π) for every
    cell that is not on the east ray; for a cell on the east ray the centre has bearing 0 and the order is
    centre < exiting corner (just above 0) < entering corner (just below 2π) -/
theorem cell_bearing_order (dr dc : Int) (hne : dr ≠ 0 ∨ dc ≠ 0) :
    let ex := 2 * dc + (posOff 1 dr dc).2
    let ey := -(2 * dr + (posOff 1 dr dc).1)
    let cx := 2 * dc + (posOff 0 dr dc).2
    let cy := -(2 * dr + (posOff 0 dr dc).1)
    let xx := 2 * dc + (posOff (-1) dr dc).2
    let xy := -(2 * dr + (posOff (-1) dr dc).1)
    if dr = 0 ∧ 0 < dc then slt cx cy xx xy ∧ slt xx xy ex ey
    else slt ex ey cx cy ∧ slt cx cy xx xy := by
  intro ex ey cx cy xx xy
  obtain ⟨hE, hX⟩ := offTable_corners dr dc hne
  simp only [ex, ey, cx, cy, xx, xy, posOff_enter, posOff_exit, posOff_centre, Int.add_zero]
  have cE := hE.centre
  have cX := hX.centre_mirror
  have eE := hE.pmY
  have eX := hX.pmY
  rcases Int.lt_trichotomy dr 0 with hr | rfl | hr
  · -- north of the observer all three points lie in the upper half plane
    rw [if_neg (by omega)]
    exact ⟨slt_UH (Or.inl (by omega)) (Or.inl (by omega)) cE, slt_UH (Or.inl (by omega)) (Or.inl (by omega)) cX⟩
  · have rE := hE.row
    have rX := CwCorner.row (Int.neg_zero ▸ hX)
    rcases Int.lt_or_gt_of_ne (by omega : dc ≠ 0) with hc | hc
    · -- the west ray: the entering corner above the axis, the centre on it, the exiting corner below
      rw [if_neg (by omega)]
      exact ⟨slt_UL (Or.inl (by omega)) (Or.inr ⟨by omega, by omega⟩),
        slt_LH (Or.inr ⟨by omega, by omega⟩) (Or.inl (by omega)) cX⟩
    · -- the east ray: the centre on the axis, the exiting corner above it, the entering corner below
      rw [if_pos ⟨rfl, hc⟩]
      exact ⟨slt_UH (Or.inr ⟨by omega, by omega⟩) (Or.inl (by omega)) cX, slt_UL (Or.inl (by omega)) (Or.inl (by omega))⟩
  · -- south of the observer all three lie in the lower half plane
    rw [if_neg (by omega)]
    exact ⟨slt_LH (Or.inl (by omega)) (Or.inl (by omega)) cE, slt_LH (Or.inl (by omega)) (Or.inl (by omega)) cX⟩

theorem mkEvent_px (T : Int → Int → Rat) (h w vr vc row col ty : Int) :
    (mkEvent T h w vr vc row col ty).px vc = 2 * (col - vc) + (posOff ty (row - vr) (col - vc)).2 := by
  simp only [mkEvent, Event.px]; ring

theorem mkEvent_py (T : Int → Int → Rat) (h w vr vc row col ty : Int) :
    (mkEvent T h w vr vc row col ty).py vr = -(2 * (row - vr) + (posOff ty (row - vr) (col - vc)).1) := by
  simp only [mkEvent, Event.py]; ring

theorem pairwise_three {α : Type} {R : α → α → Prop} {a b c : α} (ab : R a b) (ac : R a c) (bc : R b c) :
    [a, b, c].Pairwise R := by
  simp only [List.pairwise_cons, List.mem_cons, List.not_mem_nil, or_false, forall_eq_or_imp, forall_eq,
    List.Pairwise.nil, and_true, IsEmpty.forall_iff, implies_true]
  exact ⟨⟨ab, ac⟩, bc⟩

theorem cell_events_strict (T : Int → Int → Rat) (h w vr vc r c : Int) (hne : r ≠ vr ∨ c ≠ vc) :
    (if r = vr ∧ vc < c
      then [mkEvent T h w vr vc r c 0, mkEvent T h w vr vc r c (-1), mkEvent T h w vr vc r c 1]
      else [mkEvent T h w vr vc r c 1, mkEvent T h w vr vc r c 0, mkEvent T h w vr vc r c (-1)]).Pairwise
      fun a b => evLe vr vc a b = true ∧ ¬ evLe vr vc b a = true := by
  have key := cell_bearing_order (r - vr) (c - vc) (by omega)
  simp only at key
  have lift : ∀ ty1 ty2, slt (2 * (c - vc) + (posOff ty1 (r - vr) (c - vc)).2)
      (-(2 * (r - vr) + (posOff ty1 (r - vr) (c - vc)).1)) (2 * (c - vc) + (posOff ty2 (r - vr) (c - vc)).2)
      (-(2 * (r - vr) + (posOff ty2 (r - vr) (c - vc)).1)) →
      evLe vr vc (mkEvent T h w vr vc r c ty1) (mkEvent T h w vr vc r c ty2) = true ∧
        ¬ evLe vr vc (mkEvent T h w vr vc r c ty2) (mkEvent T h w vr vc r c ty1) = true := fun ty1 ty2 hs =>
    evLe_of_slt vr vc _ _ (by rwa [mkEvent_px, mkEvent_py, mkEvent_px, mkEvent_py])
  split
  · rw [if_pos (by omega)] at key
    exact pairwise_three (lift 0 (-1) key.1) (lift 0 1 (slt_trans key.1 key.2)) (lift (-1) 1 key.2)
  · rw [if_neg (by omega)] at key
    exact pairwise_three (lift 1 0 key.1) (lift 1 (-1) (slt_trans key.1 key.2)) (lift 0 (-1) key.2)

theorem eq_of_sorted_of_perm_strict {α : Type} {le : α → α → Prop} {l₁ l₂ : List α} (h₁ : l₁.Pairwise le)
    (hp : l₁.Perm l₂) (h₂ : l₂.Pairwise fun a b => le a b ∧ ¬ le b a) : l₁ = l₂ := by
  refine hp.eq_of_pairwise (fun a b ha hb => ?_) h₁ (h₂.imp And.left)
  exact List.Pairwise.forall_of_forall_of_flip (R := fun a b => le a b → le b a → a = b) (fun _ _ _ _ => rfl)
    (h₂.imp fun h _ hba => absurd hba h.2) (h₂.imp fun h hba _ => absurd hba h.2) (hp.mem_iff.mp ha) hb

/-- **a list sorted by `evLe` that holds the three events of a cell holds them as ENTER, CENTER, EXIT** -- except for a
    cell on the east ray, whose CENTER (bearing 0) comes first, then EXIT, and ENTER last -/
theorem sorted_cellEvents (T : Int → Int → Rat) (h w vr vc r c : Int) (hne : r ≠ vr ∨ c ≠ vc) {l : List Event}
    (hpw : l.Pairwise fun a b => evLe vr vc a b = true) (hperm : l.Perm (cellEvents T h w vr vc r c)) :
    l = if r = vr ∧ vc < c
      then [mkEvent T h w vr vc r c 0, mkEvent T h w vr vc r c (-1), mkEvent T h w vr vc r c 1]
      else [mkEvent T h w vr vc r c 1, mkEvent T h w vr vc r c 0, mkEvent T h w vr vc r c (-1)] := by
  have strict := cell_events_strict T h w vr vc r c hne
  by_cases he : r = vr ∧ vc < c
  · rw [if_pos he] at strict ⊢
    exact eq_of_sorted_of_perm_strict hpw (hperm.trans (List.perm_append_comm (l₁ := [mkEvent T h w vr vc r c 1])
      (l₂ := [mkEvent T h w vr vc r c 0, mkEvent T h w vr vc r c (-1)]))) strict
  · rw [if_neg he] at strict ⊢
    exact eq_of_sorted_of_perm_strict hpw hperm strict

end XrsVerif.ViewshedEvents
