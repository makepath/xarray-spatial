import XrsVerif.Proofs.PolygonizeLosslessRegion
import XrsVerif.Proofs.PolygonizeLosslessRanks
import XrsVerif.Proofs.PolygonizeLosslessC16
/-
  C15, losslessness of `Polygonize.scan` on the region array of `calculateRegions`: `scan` reads the array only inside
  the raster, where it is `regionId` (`scan_eq`), whose ids are first-pixel ranks and whose regions are connected, so
  `scan_done` and the lemmas about a traced region apply; the clauses are then assembled into `losslessB`
  (`scan_losslessB`).
-/
namespace XrsVerif.Polygonize

theorem inRegion_congr {nx ny : Nat} {regs regs' : Nat → Nat} (h : ∀ p, p < nx * ny → regs p = regs' p) :
    inRegion nx ny regs = inRegion nx ny regs' := by
  funext r x y
  rw [Bool.eq_iff_iff]
  simp only [inRegion, Bool.and_eq_true, decide_eq_true_eq, beq_iff_eq]
  refine and_congr_right fun hb => ?_
  obtain ⟨X, rfl⟩ := Int.eq_ofNat_of_zero_le hb.1.1.1
  obtain ⟨Y, rfl⟩ := Int.eq_ofNat_of_zero_le hb.1.2
  rw [flat_xy, h _ (pix_lt (by omega) (by omega))]

theorem scanStep_congr {V : Type} {nx ny : Nat} {regs regs' : Nat → Nat} (h : ∀ p, p < nx * ny → regs p = regs' p)
    (values : Nat → V) (st : Scan V) {ij : Nat} (hij : ij < nx * ny) :
    scanStep nx ny regs values st ij = scanStep nx ny regs' values st ij := by
  unfold scanStep follow
  rw [h ij hij, h (ij - nx) (by omega), inRegion_congr h]

theorem scan_eq {V : Type} (nx ny : Nat) (conn8 : Bool) (close : V → V → Bool) (values : Nat → V)
    (mask : Nat → Bool) :
    scan nx ny conn8 close values mask =
      (List.range (nx * ny)).foldl (scanStep nx ny (regionId nx ny conn8 close values mask) values)
        ⟨[], [], 0, [], [], true⟩ := by
  refine List.foldl_ext _ _ _ fun st ij hij => scanStep_congr (fun p hp => ?_) values st (List.mem_range.mp hij)
  rw [calculateRegions_eq]
  simp [Array.getD, hp]

theorem connP_close {V : Type} (nx : Nat) (conn8 : Bool) (close : V → V → Bool) (values : Nat → V)
    (mask : Nat → Bool) (n : Nat) (hrefl : ∀ a, close a a = true)
    (hsymm : ∀ a b, close a b = true → close b a = true)
    (htrans : ∀ a b c, close a b = true → close b c = true → close a c = true) {p q : Nat}
    (h : ConnP nx conn8 close values mask n p q) : close (values p) (values q) = true := by
  induction h with
  | base e => exact e.2.2.2.2
  | refl u => exact hrefl _
  | symm _ ih => exact hsymm _ _ ih
  | trans _ _ ih1 ih2 => exact htrans _ _ _ ih1 ih2

/-- the pixels as `losslessB` enumerates them: `(column, row)` -/
def cellsOf (nx ny : Nat) : List (Nat × Nat) :=
  (List.range ny).flatMap fun j => (List.range nx).map fun i => (i, j)

theorem mem_cellsOf {nx ny : Nat} {c : Nat × Nat} : c ∈ cellsOf nx ny ↔ c.1 < nx ∧ c.2 < ny := by
  obtain ⟨i, j⟩ := c
  simp [cellsOf, List.mem_flatMap, List.mem_map, List.mem_range]
  omega

theorem cellsOf_succ (nx ny : Nat) :
    cellsOf nx (ny + 1) = cellsOf nx ny ++ (List.range nx).map fun i => (i, ny) := by
  simp [cellsOf, List.range_succ, List.flatMap_append]

theorem filter_range_beq (n r : Nat) :
    (List.range n).filter (fun k => r == k + 1) = if 1 ≤ r ∧ r ≤ n then [r - 1] else [] := by
  induction n with
  | zero => simp; omega
  | succ n ih =>
    rw [List.range_succ, List.filter_append, ih]
    by_cases h1 : r = n + 1
    · subst h1
      rw [if_neg (by omega), if_pos (by omega)]
      simp
    · have : (r == n + 1) = false := by simpa using h1
      simp only [List.filter_cons, this, List.filter_nil, List.append_nil, Bool.false_eq_true, if_false]
      by_cases h2 : 1 ≤ r ∧ r ≤ n
      · rw [if_pos h2, if_pos (by omega)]
      · rw [if_neg h2, if_neg (by omega)]

theorem countP_cellsOf (nx ny : Nat) (g : Nat → Bool) :
    (cellsOf nx ny).countP (fun c => g (c.1 + c.2 * nx)) = (List.range (nx * ny)).countP g := by
  have key : (((cellsOf nx ny).countP (fun c => g (c.1 + c.2 * nx)) : Nat) : Int) =
      sumN ny (fun y => sumN nx (fun x => if g (x + y * nx) = true then 1 else 0)) := by
    induction ny with
    | zero => simp [cellsOf, sumN]
    | succ ny ih =>
      rw [cellsOf_succ, List.countP_append, Int.natCast_add, ih]
      simp only [sumN]
      congr 1
      rw [List.countP_map, ← countP_range]
      rfl
  have h2 := countP_range (nx * ny) g
  rw [sumN_flat] at h2
  have := key.trans h2.symm
  exact Int.natCast_inj.mp this

section facts
variable {V : Type} (nx ny : Nat) (conn8 : Bool) (close : V → V → Bool) (values : Nat → V) (mask : Nat → Bool)
  (hnx : 0 < nx) (hrefl : ∀ a, close a a = true) (hsymm : ∀ a b, close a b = true → close b a = true)
  (htrans : ∀ a b c, close a b = true → close b c = true → close a c = true)
include hnx hsymm htrans

theorem mask_of_regionId {p : Nat} (hp : p < nx * ny) (h : regionId nx ny conn8 close values mask p ≠ 0) :
    mask p = true :=
  Bool.of_not_eq_false fun hm => h ((regionId_spec conn8 values mask hnx hsymm htrans hp hp).1 hm)

theorem regionId_conn : RegConn nx ny conn8 (regionId nx ny conn8 close values mask) := by
  intro p q hp hq he hne
  have hmp := mask_of_regionId nx ny conn8 close values mask hnx hsymm htrans hp hne
  have hmq := mask_of_regionId nx ny conn8 close values mask hnx hsymm htrans hq (he ▸ hne)
  refine Cl.mono (fun u v hl => Cl.base ?_)
    (((regionId_spec conn8 values mask hnx hsymm htrans hp hq).2.2 hmp hmq).mp he)
  have hv : v < nx * ny := Nat.lt_trans (back_lt nx conn8 hnx hl.2.1) hl.1
  exact ⟨hl.1, hl.2.1, ((regionId_spec conn8 values mask hnx hsymm htrans hl.1 hv).2.2 hl.2.2.1
    hl.2.2.2.1).mpr (Cl.base hl)⟩

theorem scan_regions_done :
    ScanDone nx ny (regionId nx ny conn8 close values mask) values (scan nx ny conn8 close values mask) := by
  rw [scan_eq]
  exact scan_done hnx _ values fun ij hij r hr h =>
    regionId_ranked nx ny conn8 close values mask hnx hsymm htrans hij hr h

theorem scan_regions_lossless :
    let sc := scan nx ny conn8 close values mask
    let rid := regionId nx ny conn8 close values mask
    sc.ok = true ∧ sc.polys.length = sc.regionDone ∧ sc.column.length = sc.regionDone ∧
    (∀ p, p < nx * ny → rid p ≤ sc.regionDone) ∧
    (∀ i, i < sc.regionDone → ∃ f, f < nx * ny ∧ rid f = i + 1 ∧ (∀ p, p < f → rid p ≠ i + 1) ∧
      sc.column.reverse[i]? = some (values f)) ∧
    (∀ i, i < sc.regionDone → ∀ X Y : Nat, X < nx → Y < ny →
      inPolygon (sc.polys.getD i []) (X : Int) (Y : Int) = (rid (X + Y * nx) == i + 1) ∧
      ((sc.polys.getD i []).map (fun ring => crossings ring (X : Int) (Y : Int))).sum % 2 =
        if rid (X + Y * nx) = i + 1 then 1 else 0) := by
  intro sc rid
  have D := scan_regions_done nx ny conn8 close values mask hnx hsymm htrans
  have C := regionId_conn nx ny conn8 close values mask hnx hsymm htrans
  refine ⟨D.ok, D.npolys, D.ncol, D.seen, fun i hi => ?_, fun i hi X Y hX hY => ?_⟩
  · obtain ⟨f, cs, hg, _, hcol⟩ := D.traced i hi
    exact ⟨f, hg.inr, hg.reg, hg.first, hcol⟩
  · obtain ⟨f, cs, hg, hpol, _⟩ := D.traced i hi
    rw [show sc.polys.getD i [] = _ from hpol]
    exact ⟨hg.inPolygon hnx C (by omega) hX hY, hg.evenodd hnx C (by omega) hX hY⟩

include hrefl in
/-- the cell-assignment clause of C15 for `scan` -/
theorem scan_cells_lossless (sc : Scan V) (hsc : scan nx ny conn8 close values mask = sc) :
    sc.ok = true ∧ sc.column.length = sc.polys.length ∧
    ∀ X Y : Nat, X < nx → Y < ny →
      (mask (X + Y * nx) = false →
        ∀ k, k < sc.polys.length → inPolygon (sc.polys.getD k []) (X : Int) (Y : Int) = false) ∧
      (mask (X + Y * nx) = true →
        ∃ k, k < sc.polys.length ∧ k + 1 = regionId nx ny conn8 close values mask (X + Y * nx) ∧
          (∀ k', k' < sc.polys.length →
            (inPolygon (sc.polys.getD k' []) (X : Int) (Y : Int) = true ↔ k' = k)) ∧
          ∃ v, sc.column.reverse[k]? = some v ∧ close v (values (X + Y * nx)) = true) := by
  subst hsc
  obtain ⟨h1, h2, h3, h4, h5, h6⟩ := scan_regions_lossless nx ny conn8 close values mask hnx hsymm htrans
  refine ⟨h1, h3.trans h2.symm, ?_⟩
  intro X Y hX hY
  have hp := pix_lt hX hY
  have sp := regionId_spec conn8 values mask hnx hsymm htrans hp hp
  constructor
  · intro hm k hk
    rw [(h6 k (by omega) X Y hX hY).1, sp.1 hm]
    simp
  · intro hm
    have hpos := sp.2.1 hm
    have hle := h4 _ hp
    refine ⟨regionId nx ny conn8 close values mask (X + Y * nx) - 1, by omega, by omega, ?_, ?_⟩
    · intro k' hk'
      rw [(h6 k' (by omega) X Y hX hY).1, beq_iff_eq]
      omega
    · obtain ⟨f, hf, e1, _, e3⟩ := h5 (regionId nx ny conn8 close values mask (X + Y * nx) - 1) (by omega)
      refine ⟨values f, e3, ?_⟩
      have sf := regionId_spec conn8 values mask hnx hsymm htrans hf hp
      have hmf := mask_of_regionId nx ny conn8 close values mask hnx hsymm htrans hf (by omega)
      exact connP_close nx conn8 close values mask (nx * ny) hrefl hsymm htrans
        ((sf.2.2 hmf hm).mp (by omega))

/-- area and orientation of the polygons of `scan` -/
theorem scan_regions_area (sc : Scan V) (hsc : scan nx ny conn8 close values mask = sc) :
    ∀ k, k < sc.polys.length →
      ((sc.polys.getD k []).map area2).sum =
        2 * (((List.range (nx * ny)).countP
          (fun p => regionId nx ny conn8 close values mask p == k + 1) : Nat) : Int) ∧
      ∃ ext holes, sc.polys.getD k [] = ext :: holes ∧ 0 < area2 ext ∧ ∀ h ∈ holes, area2 h < 0 := by
  subst hsc
  intro k hk
  have D := scan_regions_done nx ny conn8 close values mask hnx hsymm htrans
  have C := regionId_conn nx ny conn8 close values mask hnx hsymm htrans
  obtain ⟨f, cs, hg, hpol, _⟩ := D.traced k (D.npolys ▸ hk)
  rw [hpol]
  obtain ⟨c0, rest, hcs, hp, hn⟩ := hg.toGoodReg.orientation hnx C (by omega)
  refine ⟨hg.area hnx C (by omega), cycRing c0, rest.map cycRing, by rw [hcs]; rfl, hp, fun h hm => ?_⟩
  obtain ⟨c, hc, rfl⟩ := List.mem_map.mp hm
  exact hn c hc

theorem scan_regions_wf (sc : Scan V) (hsc : scan nx ny conn8 close values mask = sc) :
    ∀ k, k < sc.polys.length → ∀ ring ∈ sc.polys.getD k [], ringWellFormed nx ny ring = true := by
  subst hsc
  intro k hk
  have D := scan_regions_done nx ny conn8 close values mask hnx hsymm htrans
  obtain ⟨f, cs, hg, hpol, _⟩ := D.traced k (D.npolys ▸ hk)
  rw [hpol]
  exact hg.wellFormed

theorem owners_eq (sc : Scan V) (hsc : scan nx ny conn8 close values mask = sc) {c : Nat × Nat}
    (hc : c ∈ cellsOf nx ny) :
    ((List.range sc.polys.length).filter fun k => inPolygon (sc.polys.getD k []) (c.1 : Int) (c.2 : Int)) =
      if mask (c.1 + c.2 * nx) = true then [regionId nx ny conn8 close values mask (c.1 + c.2 * nx) - 1] else [] := by
  subst hsc
  obtain ⟨hc1, hc2⟩ := mem_cellsOf.mp hc
  obtain ⟨_, h2, _, h4, _, h6⟩ := scan_regions_lossless nx ny conn8 close values mask hnx hsymm htrans
  have hp := pix_lt hc1 hc2
  have sp := regionId_spec conn8 values mask hnx hsymm htrans hp hp
  have e : ((List.range (scan nx ny conn8 close values mask).polys.length).filter
        fun k => inPolygon ((scan nx ny conn8 close values mask).polys.getD k []) (c.1 : Int) (c.2 : Int)) =
      (List.range (scan nx ny conn8 close values mask).polys.length).filter
        (fun k => regionId nx ny conn8 close values mask (c.1 + c.2 * nx) == k + 1) := by
    apply List.filter_congr
    intro k hk
    have hk' := List.mem_range.mp hk
    exact (h6 k (by omega) c.1 c.2 hc1 hc2).1
  rw [e, filter_range_beq]
  have hle := h4 _ hp
  by_cases hm : mask (c.1 + c.2 * nx) = true
  · have := sp.2.1 hm
    rw [if_pos hm, if_pos (by omega)]
  · have hm' : mask (c.1 + c.2 * nx) = false := by simpa using hm
    have := sp.1 hm'
    rw [if_neg hm, if_neg (by omega)]

include hrefl in
/-- **the complete statement of C15 holds for the output of `scan` on every raster** with `0 < nx`, `close` an
    equivalence -/
theorem scan_losslessB (sc : Scan V) (hsc : scan nx ny conn8 close values mask = sc) :
    losslessB nx ny conn8 close values mask sc.column.reverse sc.polys = true := by
  have F1 := scan_cells_lossless nx ny conn8 close values mask hnx hrefl hsymm htrans sc hsc
  have F2 := scan_regions_area nx ny conn8 close values mask hnx hsymm htrans sc hsc
  have F3 := scan_regions_wf nx ny conn8 close values mask hnx hsymm htrans sc hsc
  have hown := fun c hc => owners_eq nx ny conn8 close values mask hnx hsymm htrans sc hsc (c := c) hc
  have hrid : ∀ c ∈ cellsOf nx ny, mask (c.1 + c.2 * nx) = true →
      1 ≤ regionId nx ny conn8 close values mask (c.1 + c.2 * nx) := by
    intro c hc hm
    obtain ⟨hc1, hc2⟩ := mem_cellsOf.mp hc
    have hp := pix_lt hc1 hc2
    exact (regionId_spec conn8 values mask hnx hsymm htrans hp hp).2.1 hm
  unfold losslessB
  dsimp only
  have hcells : ((List.range ny).flatMap fun j => (List.range nx).map fun i => (i, j)) = cellsOf nx ny := rfl
  rw [hcells]
  rw [Bool.and_eq_true, Bool.and_eq_true, Bool.and_eq_true]
  refine ⟨⟨⟨?_, ?_⟩, ?_⟩, ?_⟩
  · -- lengths
    rw [decide_eq_true_eq, List.length_reverse]; exact F1.2.1
  · -- cell assignment
    rw [List.all_eq_true]
    intro c hc
    obtain ⟨hc1, hc2⟩ := mem_cellsOf.mp hc
    rw [hown c hc]
    by_cases hm : mask (c.1 + c.2 * nx) = true
    · obtain ⟨k, _, hk1, _, v, hv, hcl⟩ := (F1.2.2 c.1 c.2 hc1 hc2).2 hm
      have hk : regionId nx ny conn8 close values mask (c.1 + c.2 * nx) - 1 = k := by omega
      simp only [hm, if_true, hk, hv, hcl]
    · simp only [hm, Bool.false_eq_true, if_false, List.isEmpty_nil]
  · -- same polygon iff same C16 component
    rw [List.all_eq_true]
    intro c hc
    rw [List.all_eq_true]
    intro c' hc'
    obtain ⟨hc1, hc2⟩ := mem_cellsOf.mp hc
    obtain ⟨hc1', hc2'⟩ := mem_cellsOf.mp hc'
    by_cases hm : mask (c.1 + c.2 * nx) = true
    · by_cases hm' : mask (c'.1 + c'.2 * nx) = true
      · rw [hown c hc, hown c' hc']
        simp only [hm, hm', Bool.and_self, if_true]
        have hb := comp_iff_region nx ny conn8 close values mask hnx hsymm htrans hc1 hc2 hc1' hc2' hm hm'
        have h1 := hrid c hc hm
        have h1' := hrid c' hc' hm'
        rw [beq_iff_eq, Bool.eq_iff_iff, beq_iff_eq, beq_iff_eq]
        unfold gdata at hb
        rw [hb]
        simp only [List.cons.injEq, and_true]
        omega
      · simp only [hm', Bool.and_false, Bool.false_eq_true, if_false]
    · simp only [hm, Bool.false_and, Bool.false_eq_true, if_false]
  · -- per polygon: area, orientation, well-formed rings
    rw [List.all_eq_true]
    intro k hk
    have hk' := List.mem_range.mp hk
    obtain ⟨harea, ext, holes, hrings, hpos, hneg⟩ := F2 k hk'
    rw [Bool.and_eq_true, Bool.and_eq_true]
    refine ⟨⟨?_, ?_⟩, ?_⟩
    · rw [beq_iff_eq, harea]
      congr 2
      rw [← List.countP_eq_length_filter, ← countP_cellsOf nx ny]
      apply List.countP_congr
      intro c hc
      rw [hown c hc]
      by_cases hm : mask (c.1 + c.2 * nx) = true
      · have := hrid c hc hm
        simp only [hm, if_true, beq_iff_eq, List.cons.injEq, and_true]
        omega
      · have hm' : mask (c.1 + c.2 * nx) = false := by simpa using hm
        obtain ⟨hc1, hc2⟩ := mem_cellsOf.mp hc
        have hp := pix_lt hc1 hc2
        have := (regionId_spec conn8 values mask hnx hsymm htrans hp hp).1 hm'
        simp only [hm, Bool.false_eq_true, if_false, this]
        simp
    · rw [hrings]
      simp only [Bool.and_eq_true, decide_eq_true_eq, List.all_eq_true]
      exact ⟨hpos, hneg⟩
    · rw [List.all_eq_true]
      exact F3 k hk'

end facts

end XrsVerif.Polygonize
