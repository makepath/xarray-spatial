import XrsVerif.Proofs.ILangVstree
import XrsVerif.Model.Viewshed
import XrsVerif.Gen.IL
/-
  The abstraction from an ILang state holding viewshed's status structure (the two arrays `tree_vals` (n, 8) and
  `tree_nodes` (n, 4) of xrspatial/viewshed.py, NIL = index -1 = the last row) to the functional tree of the hand
  model (Model/Viewshed.lean), for the refinement proofs of the nine generated tree programs `Gen.IL.vs*`.

  * `Fv F`   the numbers of an `[Fl F]` seen through the hand model's `<`, `≤`, `+ - * /` (`a < b` is
             `Fl.lt a b = true`, ...); a structure of its own, so that these instances never meet other instances
             on `F`;
  * `Sh`     a tree *shape*: which row is the root, which rows hang left / right (the pointer structure);
  * `absT`   the hand model's tree read off the arrays along a shape: node values from `tree_vals[i][0..6]`,
             stored maximum from `tree_vals[i][7]`, colour from `tree_nodes[i][0]` (0 = red).
-/
set_option linter.unusedSectionVars false
namespace XrsVerif.ILVs
open XrsVerif XrsVerif.IL XrsVerif.Viewshed
variable {F : Type} [Fl F]

structure Fv (F : Type) where
  v : F

instance : LT (Fv F) := ⟨fun a b => Fl.lt a.v b.v = true⟩
instance : LE (Fv F) := ⟨fun a b => Fl.le a.v b.v = true⟩
instance : DecidableLT (Fv F) := fun a b => inferInstanceAs (Decidable (Fl.lt a.v b.v = true))
instance : DecidableLE (Fv F) := fun a b => inferInstanceAs (Decidable (Fl.le a.v b.v = true))
instance : Add (Fv F) := ⟨fun a b => ⟨Fl.add a.v b.v⟩⟩
instance : Sub (Fv F) := ⟨fun a b => ⟨Fl.sub a.v b.v⟩⟩
instance : Mul (Fv F) := ⟨fun a b => ⟨Fl.mul a.v b.v⟩⟩
instance : Div (Fv F) := ⟨fun a b => ⟨Fl.div a.v b.v⟩⟩

theorem fv_lt (a b : Fv F) : (a < b) = (Fl.lt a.v b.v = true) := rfl
theorem fv_le (a b : Fv F) : (a ≤ b) = (Fl.le a.v b.v = true) := rfl
theorem fv_decide_lt (a b : Fv F) : decide (a < b) = Fl.lt a.v b.v := by
  show decide (Fl.lt a.v b.v = true) = _
  exact Bool.decide_eq_true
theorem fv_decide_le (a b : Fv F) : decide (a ≤ b) = Fl.le a.v b.v := by
  show decide (Fl.le a.v b.v = true) = _
  exact Bool.decide_eq_true
@[simp] theorem fv_add (a b : Fv F) : (a + b).v = Fl.add a.v b.v := rfl
@[simp] theorem fv_sub (a b : Fv F) : (a - b).v = Fl.sub a.v b.v := rfl
@[simp] theorem fv_mul (a b : Fv F) : (a * b).v = Fl.mul a.v b.v := rfl
@[simp] theorem fv_div (a b : Fv F) : (a / b).v = Fl.div a.v b.v := rfl
@[simp] theorem Fv.mk_v (a : Fv F) : (⟨a.v⟩ : Fv F) = a := rfl
theorem Fv.ext' {a b : Fv F} (h : a.v = b.v) : a = b := by cases a; cases b; simp_all

theorem mx2_v (a b : Fv F) : (mx2 a b).v = if Fl.lt b.v a.v = true then a.v else b.v := by
  unfold mx2; simp only [fv_lt]; split <;> rfl
theorem mn2_v (a b : Fv F) : (mn2 a b).v = if Fl.lt b.v a.v = true then b.v else a.v := by
  unfold mn2; simp only [fv_lt]; split <;> rfl

/-- `SMALLEST_GRAD = -9999999999999999999999.0` as the translator writes it (the float literal is the double
    `-1e22` exactly) -/
def smallest : Fv F := ⟨Fl.lit (-10000000000000000000000) 1⟩

/-- `tree_vals[i][j]` for a row index `i` -/
def vAt (vals : List F) (i j : Nat) : Fv F := ⟨vals.getD (i * 8 + j) Fl.nan⟩
/-- `tree_nodes[i][j]` for a row index `i` -/
def nAt (nodes : List Int) (i j : Nat) : Int := nodes.getD (i * 4 + j) 0

def nodeAt (vals : List F) (i : Nat) : Node (Fv F) :=
  ⟨vAt vals i 0, vAt vals i 1, vAt vals i 2, vAt vals i 3, vAt vals i 4, vAt vals i 5, vAt vals i 6⟩

@[simp] theorem nodeAt_key (vals : List F) (i : Nat) : (nodeAt vals i).key = vAt vals i 0 := rfl
@[simp] theorem nodeAt_g0 (vals : List F) (i : Nat) : (nodeAt vals i).g0 = vAt vals i 1 := rfl
@[simp] theorem nodeAt_g1 (vals : List F) (i : Nat) : (nodeAt vals i).g1 = vAt vals i 2 := rfl
@[simp] theorem nodeAt_g2 (vals : List F) (i : Nat) : (nodeAt vals i).g2 = vAt vals i 3 := rfl
@[simp] theorem nodeAt_a0 (vals : List F) (i : Nat) : (nodeAt vals i).a0 = vAt vals i 4 := rfl
@[simp] theorem nodeAt_a1 (vals : List F) (i : Nat) : (nodeAt vals i).a1 = vAt vals i 5 := rfl
@[simp] theorem nodeAt_a2 (vals : List F) (i : Nat) : (nodeAt vals i).a2 = vAt vals i 6 := rfl

theorem spans_fl (nd : Node (Fv F)) (ang : Fv F) : spans nd ang = (Fl.le nd.a0.v ang.v && Fl.le ang.v nd.a2.v) := by
  unfold spans; rw [fv_decide_le, fv_decide_le]

theorem itp_v (nd : Node (Fv F)) (ang : Fv F) :
    (itp nd ang).v =
      if Fl.lt ang.v nd.a1.v = true then
        Fl.add nd.g1.v (Fl.div (Fl.mul (Fl.sub nd.g0.v nd.g1.v) (Fl.sub nd.a1.v ang.v)) (Fl.sub nd.a1.v nd.a0.v))
      else if Fl.lt nd.a1.v ang.v = true then
        Fl.add nd.g1.v (Fl.div (Fl.mul (Fl.sub nd.g2.v nd.g1.v) (Fl.sub ang.v nd.a1.v)) (Fl.sub nd.a2.v nd.a1.v))
      else nd.g1.v := by
  unfold itp
  simp only [fv_lt]
  split
  · rfl
  · split <;> rfl

inductive Sh where
  | nil : Sh
  | node (l : Sh) (i : Nat) (r : Sh) : Sh
  deriving Repr, DecidableEq, Inhabited

/-- the pointer to (the root of) a shape: `NIL_ID = -1` for the empty tree -/
def Sh.ptr : Sh → Int
  | .nil => -1
  | .node _ i _ => (i : Int)

def Sh.idxs : Sh → List Nat
  | .nil => []
  | .node l i r => l.idxs ++ i :: r.idxs

def Sh.height : Sh → Nat
  | .nil => 0
  | .node l _ r => max l.height r.height + 1

def Sh.size : Sh → Nat
  | .nil => 0
  | .node l _ r => l.size + 1 + r.size

/-- the link columns of `tree_nodes` (n rows) spell out the shape `sh` hanging below the pointer `par`;
    every node is a proper row (the last row is NIL) -/
def Linked (nodes : List Int) (n : Nat) : Int → Sh → Prop
  | _, .nil => True
  | par, .node l i r =>
    i + 1 < n ∧ nAt nodes i 1 = l.ptr ∧ nAt nodes i 2 = r.ptr ∧ nAt nodes i 3 = par ∧
      Linked nodes n (i : Int) l ∧ Linked nodes n (i : Int) r

def absT (vals : List F) (nodes : List Int) : Sh → Tree (Fv F)
  | .nil => .nil
  | .node l i r =>
    .node (absT vals nodes l) (nodeAt vals i) (vAt vals i 7) (decide (nAt nodes i 0 = 0)) (absT vals nodes r)

/-- the shape found by following the links from a pointer (at most `fuel` levels) -/
def shapeOf (nodes : List Int) (n : Nat) : Nat → Int → Sh
  | 0, _ => .nil
  | fuel + 1, p =>
    if 0 ≤ p ∧ p + 1 < n then
      .node (shapeOf nodes n fuel (nAt nodes p.toNat 1)) p.toNat (shapeOf nodes n fuel (nAt nodes p.toNat 2))
    else .nil

/-- the abstraction function: arrays + root pointer ↦ the hand model's tree -/
def absOf (vals : List F) (nodes : List Int) (n : Nat) (fuel : Nat) (root : Int) : Tree (Fv F) :=
  absT vals nodes (shapeOf nodes n fuel root)

theorem Sh.ptr_node_nonneg (l r : Sh) (i : Nat) : 0 ≤ (Sh.node l i r).ptr := by simp [Sh.ptr]

theorem Linked.ptr_range {nodes : List Int} {n : Nat} {par : Int} {sh : Sh} (h : Linked nodes n par sh) :
    -1 ≤ sh.ptr ∧ sh.ptr + 1 < n ∨ sh.ptr = -1 := by
  cases sh with
  | nil => right; rfl
  | node l i r => left; simp only [Sh.ptr]; have := h.1; omega

theorem Linked.shapeOf {nodes : List Int} {n : Nat} : ∀ {sh : Sh} {par : Int} (fuel : Nat),
    Linked nodes n par sh → sh.height ≤ fuel → shapeOf nodes n fuel sh.ptr = sh := by
  intro sh
  induction sh with
  | nil =>
    intro par fuel _ _
    cases fuel with
    | zero => rfl
    | succ f => simp [ILVs.shapeOf, Sh.ptr]
  | node l i r ihl ihr =>
    intro par fuel h hf
    obtain ⟨hi, hl, hr, _, hL, hR⟩ := h
    cases fuel with
    | zero => simp [Sh.height] at hf
    | succ f =>
      simp only [Sh.height] at hf
      have h1 : l.height ≤ f := by omega
      have h2 : r.height ≤ f := by omega
      simp only [ILVs.shapeOf, Sh.ptr]
      have : (0 : Int) ≤ (i : Int) ∧ (i : Int) + 1 < n := by omega
      simp only [this, and_self, if_true, Int.toNat_natCast, hl, hr, ihl f hL h1, ihr f hR h2]

/-- the two arrays of the status structure in a state: shapes (n, 8) / (n, 4), matching lengths, at least the
    NIL row -/
structure VS (s : State F) (n : Nat) : Prop where
  shpV : s.shp "tree_vals" = [n, 8]
  shpN : s.shp "tree_nodes" = [n, 4]
  lenV : (s.fa "tree_vals").length = n * 8
  lenN : (s.ia "tree_nodes").length = n * 4
  pos : 0 < n

theorem VS.of_eq {s r : State F} {n : Nat} (h : VS s n) (h1 : r.shp = s.shp) (h2 : r.fa = s.fa) (h3 : r.ia = s.ia) :
    VS r n :=
  ⟨by rw [h1]; exact h.shpV, by rw [h1]; exact h.shpN, by rw [h2]; exact h.lenV, by rw [h3]; exact h.lenN, h.pos⟩

theorem VS.inRange {s : State F} {n : Nat} (h : VS s n) {i : Nat} (hi : i + 1 < n) : inRange (i : Int) n = true :=
  inRange_ptr n _ (by omega) h.pos

theorem VS.of_vals {s r : State F} {n : Nat} (h : VS s n) (hshp : r.shp = s.shp) (hia : r.ia = s.ia)
    (hlen : (r.fa "tree_vals").length = (s.fa "tree_vals").length) : VS r n :=
  ⟨by rw [hshp]; exact h.shpV, by rw [hshp]; exact h.shpN, by rw [hlen]; exact h.lenV, by rw [hia]; exact h.lenN, h.pos⟩

/-- a pointer that may be dereferenced: NIL or a row -/
def PtrOK (n : Nat) (p : Int) : Prop := -1 ≤ p ∧ p < n

theorem Linked.ptrOK {nodes : List Int} {n : Nat} {par : Int} {sh : Sh} (h : Linked nodes n par sh) (hn : 0 < n) :
    PtrOK n sh.ptr := by
  cases sh with
  | nil => simp only [Sh.ptr, PtrOK]; omega
  | node l i r => simp only [Sh.ptr, PtrOK]; have := h.1; omega

/-! ### evaluation of the reads `tree_nodes[x][c]`, `tree_vals[x][c]`

  A block that reads the arrays is run by `simp [blk, exec, eN, oN, eV, oV, …]`, where `eN := fun s' => evalN s' n`
  (likewise `oN`, `eV`, `oV`) are these four lemmas at the `n` of the proof: a read `ld2` stays folded and becomes
  `nAt` / `vAt` at the state it is evaluated in.  The other expression forms go by the read-free rules of
  Proofs/ILangVstree.lean (`IE.eval_var`, …), not by the simp set `il`, whose `IE.eval` / `FE.eval` would unfold a read
  down to list indexing. -/

theorem evalN (s : State F) (n : Nat) (hs : s.shp "tree_nodes" = [n, 4]) (x : String) (c : Int) (hc : 0 ≤ c) :
    IE.eval s (.ld2 "tree_nodes" (.var x) (.lit c)) = nAt (s.ia "tree_nodes") (rowOf n (s.ienv x)) c.toNat := by
  obtain ⟨k, rfl⟩ := Int.eq_ofNat_of_zero_le hc
  simp only [IE.eval, hs, nAt, Int.toNat_natCast]
  rw [off2_ptr n 4 _ k]

theorem okN (s : State F) (n : Nat) (hs : s.shp "tree_nodes" = [n, 4]) (x : String) (c : Int) (hc : 0 ≤ c ∧ c < 4) :
    IE.ok s (.ld2 "tree_nodes" (.var x) (.lit c)) = inRange (s.ienv x) n := by
  obtain ⟨k, rfl⟩ := Int.eq_ofNat_of_zero_le hc.1
  simp [il, hs, inRange_of_lt k 4 (by omega)]

theorem exec_ldN (fuel n : Nat) (s : State F) (hs : s.shp "tree_nodes" = [n, 4]) (v x : String) (c : Int)
    (hc : 0 ≤ c ∧ c < 4) (hin : inRange (s.ienv x) n = true) (val : Int)
    (hval : nAt (s.ia "tree_nodes") (rowOf n (s.ienv x)) c.toNat = val) :
    exec fuel (.setI v (.ld2 "tree_nodes" (.var x) (.lit c))) s = { s with ienv := setS s.ienv v val } := by
  rw [exec_setI _ _ _ _ (by rw [okN s n hs x c hc]; exact hin), evalN s n hs x c hc.1, hval]

theorem evalV (s : State F) (n : Nat) (hs : s.shp "tree_vals" = [n, 8]) (x : String) (c : Int) (hc : 0 ≤ c) :
    FE.eval s (.ld2 "tree_vals" (.var x) (.lit c)) = (vAt (s.fa "tree_vals") (rowOf n (s.ienv x)) c.toNat).v := by
  obtain ⟨k, rfl⟩ := Int.eq_ofNat_of_zero_le hc
  simp only [FE.eval, IE.eval, hs, vAt, Int.toNat_natCast]
  rw [off2_ptr n 8 _ k]

theorem okV (s : State F) (n : Nat) (hs : s.shp "tree_vals" = [n, 8]) (x : String) (c : Int) (hc : 0 ≤ c ∧ c < 8) :
    FE.ok s (.ld2 "tree_vals" (.var x) (.lit c)) = inRange (s.ienv x) n := by
  obtain ⟨k, rfl⟩ := Int.eq_ofNat_of_zero_le hc.1
  simp [il, hs, inRange_of_lt k 8 (by omega)]

/-- `r` differs from `s` at most in the listed scalar variables (and in control) -/
structure Frame (iv fv bv : List String) (s r : State F) : Prop where
  ia : r.ia = s.ia
  fa : r.fa = s.fa
  shp : r.shp = s.shp
  ext : r.ext = s.ext
  ienv : ∀ v, v ∉ iv → r.ienv v = s.ienv v
  fenv : ∀ v, v ∉ fv → r.fenv v = s.fenv v
  benv : ∀ v, v ∉ bv → r.benv v = s.benv v

theorem Frame.refl (iv fv bv : List String) (s : State F) : Frame iv fv bv s s :=
  ⟨rfl, rfl, rfl, rfl, fun _ _ => rfl, fun _ _ => rfl, fun _ _ => rfl⟩

theorem Frame.trans {iv fv bv : List String} {a b c : State F} (h1 : Frame iv fv bv a b) (h2 : Frame iv fv bv b c) :
    Frame iv fv bv a c :=
  ⟨h2.ia.trans h1.ia, h2.fa.trans h1.fa, h2.shp.trans h1.shp, h2.ext.trans h1.ext,
   fun v hv => (h2.ienv v hv).trans (h1.ienv v hv), fun v hv => (h2.fenv v hv).trans (h1.fenv v hv),
   fun v hv => (h2.benv v hv).trans (h1.benv v hv)⟩

theorem Frame.mono {iv fv bv iv' fv' bv' : List String} {a b : State F} (h : Frame iv fv bv a b)
    (h1 : ∀ v, v ∈ iv → v ∈ iv') (h2 : ∀ v, v ∈ fv → v ∈ fv') (h3 : ∀ v, v ∈ bv → v ∈ bv') : Frame iv' fv' bv' a b :=
  ⟨h.ia, h.fa, h.shp, h.ext, fun v hv => h.ienv v (fun hh => hv (h1 v hh)), fun v hv => h.fenv v (fun hh => hv (h2 v hh)),
   fun v hv => h.benv v (fun hh => hv (h3 v hh))⟩

theorem Frame.ctl {iv fv bv : List String} {a b : State F} (h : Frame iv fv bv a b) (k : Ctl) :
    Frame iv fv bv a { b with ctl := k } :=
  ⟨h.ia, h.fa, h.shp, h.ext, h.ienv, h.fenv, h.benv⟩

theorem Frame.vs {iv fv bv : List String} {a b : State F} {n : Nat} (h : Frame iv fv bv a b) (hv : VS a n) : VS b n :=
  hv.of_eq h.shp h.fa h.ia

theorem Frame.setI {iv fv bv : List String} (s : State F) {x : String} (v : Int) (hx : x ∈ iv) :
    Frame iv fv bv s { s with ienv := setS s.ienv x v } :=
  ⟨rfl, rfl, rfl, rfl, fun _ hw => setS_other _ _ _ _ (fun e => hw (e ▸ hx)), fun _ _ => rfl, fun _ _ => rfl⟩

theorem Frame.setF {iv fv bv : List String} (s : State F) {x : String} (v : F) (hx : x ∈ fv) :
    Frame iv fv bv s { s with fenv := setS s.fenv x v } :=
  ⟨rfl, rfl, rfl, rfl, fun _ _ => rfl, fun _ hw => setS_other _ _ _ _ (fun e => hw (e ▸ hx)), fun _ _ => rfl⟩

theorem Frame.setB {iv fv bv : List String} (s : State F) {x : String} (v : Bool) (hx : x ∈ bv) :
    Frame iv fv bv s { s with benv := setS s.benv x v } :=
  ⟨rfl, rfl, rfl, rfl, fun _ _ => rfl, fun _ _ => rfl, fun _ hw => setS_other _ _ _ _ (fun e => hw (e ▸ hx))⟩

/-- three-way comparison `_compare(a, b)` -/
def cmp3 (a b : F) : Int := if Fl.lt a b = true then -1 else if Fl.lt b a = true then 1 else 0

theorem cmp3_cases (a b : F) : cmp3 a b = -1 ∨ cmp3 a b = 1 ∨ cmp3 a b = 0 := by
  unfold cmp3
  split
  · exact Or.inl rfl
  · split
    · exact Or.inr (Or.inl rfl)
    · exact Or.inr (Or.inr rfl)

/-- the inlined `_compare(a, b)` -/
def cmpScope (a b r : String) : St :=
  (.scope (.seq (.ite (.cmpF .lt (.var a) (.var b))
          (.seq (.setI r (.lit (-1)))
          .ret)
          .skip)
        (.seq (.ite (.cmpF .gt (.var a) (.var b))
          (.seq (.setI r (.lit 1))
          .ret)
          .skip)
        (.seq (.setI r (.lit 0))
        .ret))))

theorem cmpScope_spec (a b r : String) (fuel : Nat) (s : State F) (hrun : s.ctl = .run) :
    exec fuel (cmpScope a b r) s = { s with ienv := setS s.ienv r (cmp3 (s.fenv a) (s.fenv b)) } := by
  unfold cmpScope cmp3
  by_cases h1 : Fl.lt (s.fenv a) (s.fenv b) = true
  · simp [il, h1, hrun]
  · by_cases h2 : Fl.lt (s.fenv b) (s.fenv a) = true
    · simp [il, h1, h2, hrun]
    · simp [il, h1, h2, hrun]

/-- `if a > m: m = a` -/
def maxUpd (a m : String) : St := .ite (.cmpF .gt (.var a) (.var m)) (.setF m (.var a)) .skip

theorem maxUpd_spec (a m : String) (fuel : Nat) (s : State F) :
    exec fuel (maxUpd a m) s = { s with fenv := setS s.fenv m (mx2 (⟨s.fenv a⟩ : Fv F) ⟨s.fenv m⟩).v } := by
  unfold maxUpd
  by_cases h : Fl.lt (s.fenv m) (s.fenv a) = true
  · simp [il, h, mx2_v]
  · simp [il, h, mx2_v, setS_self]

/-- the expression `min(tree_vals[nid][TN_GRAD_0], tree_vals[nid][TN_GRAD_1], tree_vals[nid][TN_GRAD_2])` -/
def minvE (nid : String) : FE :=
  (.bin .min (.bin .min (.ld2 "tree_vals" (.var nid) (.lit 1)) (.ld2 "tree_vals" (.var nid) (.lit 2)))
    (.ld2 "tree_vals" (.var nid) (.lit 3)))

theorem minvE_eval (s : State F) (n : Nat) (hs : s.shp "tree_vals" = [n, 8]) (nid : String) :
    (minvE nid).eval s = (minv (nodeAt (s.fa "tree_vals") (rowOf n (s.ienv nid)))).v := by
  have e1 := evalV s n hs nid 1 (by decide)
  have e2 := evalV s n hs nid 2 (by decide)
  have e3 := evalV s n hs nid 3 (by decide)
  simp only [minvE, FE.eval_bin, e1, e2, e3, BinOp.eval, minv, mn2_v, nodeAt]
  rfl

theorem minvE_ok (s : State F) (n : Nat) (hs : s.shp "tree_vals" = [n, 8]) (nid : String)
    (hp : inRange (s.ienv nid) n = true) : (minvE nid).ok s = true := by
  have o1 := okV s n hs nid 1 (by decide)
  have o2 := okV s n hs nid 2 (by decide)
  have o3 := okV s n hs nid 3 (by decide)
  simp only [minvE, FE.ok_bin, o1, o2, o3, hp, Bool.and_self]

/-- the inlined `_find_value_min_value(tree_vals, nid)`: `ret := min(...)` in a scope -/
def minvScope (nid ret : String) : St := .scope (.seq (.setF ret (minvE nid)) .ret)

theorem minvScope_spec (nid ret : String) (fuel n : Nat) (s : State F) (hs : s.shp "tree_vals" = [n, 8])
    (hrun : s.ctl = .run) (hp : inRange (s.ienv nid) n = true) :
    exec fuel (minvScope nid ret) s =
      { s with fenv := setS s.fenv ret (minv (nodeAt (s.fa "tree_vals") (rowOf n (s.ienv nid)))).v } := by
  rw [minvScope, exec_scope, exec_seq, exec_setF _ _ _ _ (minvE_ok s n hs _ hp), minvE_eval s n hs]
  simp [hrun, exec_ret]

end XrsVerif.ILVs
