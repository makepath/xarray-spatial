import XrsVerif.Proofs.ILViewshedZip
/-
  The pointer walks to the in-order neighbours of a node (they read only `tree_nodes`): the two loops by which phase 2
  of `_find_max_value_within_key` moves to the predecessor (`maxLoop`, `climbLoop`, for arbitrary variable names), and
  the refinement of `Gen.IL.vsTreeSuccessor` (`_tree_successor` with `_tree_minimum` inlined):
  * the node has a right subtree: the leftmost node of it (`minIdx`) -- the in-order successor, the only case
    `_delete_from_tree` uses;
  * otherwise: climb while coming from a right child; the first ancestor reached from its left child, *or the root*
    when there is none (the code returns `y` when `y`'s parent is NIL -- not NIL), or NIL when the node is the root
    itself (`climbR`).
-/
namespace XrsVerif.ILVs
open XrsVerif XrsVerif.IL XrsVerif.Viewshed
variable {F : Type} [Fl F]

/-- `while tree_nodes[x][TN_RIGHT_ID] != NIL_ID: x = tree_nodes[x][TN_RIGHT_ID]` -/
def maxLoop (x : String) : St :=
  (.while (.cmpI .ne (.ld2 "tree_nodes" (.var x) (.lit 2)) (.lit (-1)))
        (.setI x (.ld2 "tree_nodes" (.var x) (.lit 2))))

theorem maxLoop_spec (x : String) (n : Nat) (r : Sh) (i : Nat) (l : Sh) (par : Int) (fuel : Nat) (s : State F)
    (hv : VS s n) (hrun : s.ctl = .run) (hl : Linked (s.ia "tree_nodes") n par (.node l i r)) (hx : s.ienv x = i)
    (hf : r.rheight < fuel) :
    exec fuel (maxLoop x) s = { s with ienv := setS s.ienv x (maxIdx r i) } := by
  -- the invariant: `x` at the root of a subtree with the same rightmost node
  refine while_rule _ _ (fun k t => ∃ (l' : Sh) (i' : Nat) (r' : Sh) (par' : Int), r'.rheight = k ∧
      t = { s with ienv := setS s.ienv x (i' : Int) } ∧ Linked (s.ia "tree_nodes") n par' (.node l' i' r') ∧
      maxIdx r' i' = maxIdx r i)
    (fun t => t = { s with ienv := setS s.ienv x (maxIdx r i) }) ?_ r.rheight fuel s
    ⟨l, i, r, par, rfl, by rw [← hx, setS_self], hl, rfl⟩ hf
  rintro fuel k t _ ⟨l', i', r', par', rfl, ht, hl', hm⟩
  have hvt : VS t n := by rw [ht]; exact hv.of_eq rfl rfl rfl
  have htx : t.ienv x = i' := by rw [ht]; exact setS_same _ _ _
  have hlnk : nAt (t.ia "tree_nodes") i' 2 = r'.ptr := by rw [ht]; exact hl'.2.2.1
  have hin : inRange (t.ienv x) n = true := by rw [htx]; exact hv.inRange hl'.1
  have hev : BE.eval t (.cmpI .ne (.ld2 "tree_nodes" (.var x) (.lit 2)) (.lit (-1))) = decide (r'.ptr ≠ -1) := by
    rw [BE.eval_cmpI, evalN t n hvt.shpN x 2 (by decide), IE.eval_lit, htx, rowOf_nat]
    simp [cmpInt, hlnk]
  refine ⟨by rw [BE.ok_cmpI, okN t n hvt.shpN x 2 (by decide), hin, IE.ok_lit]; rfl, fun hc => ?_, fun hc => Or.inl ?_⟩
  · rw [hev] at hc
    cases r' with
    | nil => rw [ht, ← hm]; rfl
    | node a b c => simp [Sh.ptr] at hc
  · rw [hev] at hc
    cases r' with
    | nil => simp [Sh.ptr] at hc
    | node rl j rr =>
      rw [exec_setI _ _ _ _ (by rw [okN t n hvt.shpN x 2 (by decide)]; exact hin), evalN t n hvt.shpN x 2 (by decide), htx,
        rowOf_nat, show (2 : Int).toNat = 2 from rfl, hlnk]
      exact ⟨by rw [ht]; exact hrun, _, Nat.lt_succ_self _, rl, j, rr, _, rfl, by rw [ht]; simp only [setS_setS]; rfl,
        hl'.2.2.2.2.2, hm⟩

/-- `while cur != NIL_ID and last == tree_nodes[cur][TN_LEFT_ID]: last = cur; cur = tree_nodes[cur][TN_PARENT_ID]` -/
def climbLoop (cur last : String) : St :=
  (.while (.and (.cmpI .ne (.var cur) (.lit (-1))) (.cmpI .eq (.var last) (.ld2 "tree_nodes" (.var cur) (.lit 1))))
    (.seq (.setI last (.var cur))
    (.setI cur (.ld2 "tree_nodes" (.var cur) (.lit 3)))))

theorem climbLoop_spec (cur last : String) (hne : cur ≠ last) (n : Nat) (ctx : Ctx) (c : Nat) (fuel : Nat) (s : State F)
    (hv : VS s n) (hrun : s.ctl = .run) (hc : CtxLinked (s.ia "tree_nodes") n (c : Int) ctx) (hlast : s.ienv last = c)
    (hcur : s.ienv cur = ctxPar ctx) (hf : ctx.length < fuel) :
    let r := exec fuel (climbLoop cur last) s
    r.ctl = .run ∧ Frame [cur, last] [] [] s r ∧ r.ienv cur = climbPtr ctx := by
  -- the invariant: `last` below a context from which the climb ends at the same row
  refine while_rule _ _
    (fun k t => ∃ (cx : Ctx) (c' : Nat), cx.length = k ∧ t.ctl = .run ∧ Frame [cur, last] [] [] s t ∧
      CtxLinked (s.ia "tree_nodes") n (c' : Int) cx ∧ t.ienv last = c' ∧ t.ienv cur = ctxPar cx ∧ climbPtr cx = climbPtr ctx)
    (fun r => r.ctl = .run ∧ Frame [cur, last] [] [] s r ∧ r.ienv cur = climbPtr ctx) ?_ ctx.length fuel s
    ⟨ctx, c, rfl, hrun, Frame.refl _ _ _ _, hc, hlast, hcur, rfl⟩ hf
  rintro fuel k t _ ⟨cx, c', rfl, hrun, hfr, hc, hlast, hcur, hcl⟩
  have hv := hfr.vs hv
  rw [← hfr.ia] at hc
  match cx, hc, hcur, hcl with
  | [], _, hcur, hcl =>
    refine ⟨?_, fun _ => ⟨hrun, hfr, by rw [← hcl]; simpa [climbPtr, ctxPar] using hcur⟩, fun h => ?_⟩
    · simp [BE.ok, BE.eval, IE.ok_var, IE.ok_lit, IE.eval_var, IE.eval_lit, hcur, ctxPar, cmpInt]
    · simp [BE.eval, IE.eval_var, IE.eval_lit, hcur, ctxPar, cmpInt] at h
  | .L p pr :: rest, ⟨hp, hL, hR, hd, hP, hlr, hrest⟩, hcur, hcl =>
    simp only [ctxPar] at hcur
    have hin : inRange (p : Int) n = true := hv.inRange hp
    have hb : exec fuel (.seq (.setI last (.var cur)) (.setI cur (.ld2 "tree_nodes" (.var cur) (.lit 3)))) t =
        { t with ienv := setS (setS t.ienv last (p : Int)) cur (ctxPar rest) } := by
      simp [exec, IE.ok_var, IE.eval_var, okN _ n, evalN _ n, hv.shpN, hcur, setS, hne, hin, hP, hrun]
    refine ⟨?_, fun h => ?_, fun _ => Or.inl ?_⟩
    · simp [BE.ok, BE.eval, IE.ok_var, IE.ok_lit, IE.eval_var, IE.eval_lit, okN t n hv.shpN, hcur, hin]
    · simp [BE.eval, IE.eval_var, IE.eval_lit, evalN t n hv.shpN, hcur, hlast, hL, cmpInt] at h
    · rw [hb]
      exact ⟨hrun, _, Nat.lt_succ_self _, rest, p, rfl, hrun,
        hfr.trans ((Frame.setI t _ (.tail _ (.head _))).trans (Frame.setI _ _ (.head _))), hfr.ia ▸ hrest,
        by simp [setS, hne.symm], by simp [setS], hcl⟩
  | .R pl p :: rest, ⟨hp, hL, hR, hd, hP, hll, hrest⟩, hcur, hcl =>
    simp only [ctxPar] at hcur
    have hin : inRange (p : Int) n = true := hv.inRange hp
    have : ¬ ((c' : Int) = pl.ptr) := fun e => hd (by omega) e.symm
    refine ⟨?_, fun _ => ⟨hrun, hfr, by rw [← hcl]; simpa [climbPtr] using hcur⟩, fun h => ?_⟩
    · simp [BE.ok, BE.eval, IE.ok_var, IE.ok_lit, IE.eval_var, IE.eval_lit, okN t n hv.shpN, hcur, hin]
    · simp [BE.eval, IE.eval_var, IE.eval_lit, evalN t n hv.shpN, hcur, hlast, hL, cmpInt, this] at h

/-- the climb of `_tree_successor`: `(value, left through the early return)` -/
def climbR : Ctx → Int × Bool
  | [] => (-1, false)
  | .L p _ :: _ => ((p : Int), false)
  | .R _ p :: [] => ((p : Int), true)
  | .R _ _ :: fr :: rest => climbR (fr :: rest)

def succClimbBody : St :=
  (.seq (.setI "x" (.var "y"))
  (.seq (.ite (.cmpI .eq (.ld2 "tree_nodes" (.var "y") (.lit 3)) (.lit (-1)))
      (.seq (.setI "ret0" (.var "y")) .ret)
      .skip)
  (.setI "y" (.ld2 "tree_nodes" (.var "y") (.lit 3)))))

def succClimb : St :=
  .while (.and (.cmpI .ne (.var "y") (.lit (-1))) (.cmpI .eq (.var "x") (.ld2 "tree_nodes" (.var "y") (.lit 2))))
    succClimbBody

theorem succClimb_spec (n : Nat) (ctx : Ctx) (c : Nat) (fuel : Nat) (s : State F) (hv : VS s n) (hrun : s.ctl = .run)
    (hc : CtxLinked (s.ia "tree_nodes") n (c : Int) ctx) (hx : s.ienv "x" = c) (hy : s.ienv "y" = ctxPar ctx)
    (hf : ctx.length < fuel) :
    let r := exec fuel succClimb s
    r.ia = s.ia ∧ r.fa = s.fa ∧
      ((climbR ctx).2 = false → r.ctl = .run ∧ r.ienv "y" = (climbR ctx).1) ∧
      ((climbR ctx).2 = true → r.ctl = .ret ∧ r.ienv "ret0" = (climbR ctx).1) := by
  -- the invariant: `x` below a context from which the climb ends in the same way
  refine while_rule _ _
    (fun k t => ∃ (cx : Ctx) (c' : Nat), cx.length = k ∧ VS t n ∧ t.ctl = .run ∧ t.ia = s.ia ∧ t.fa = s.fa ∧
      CtxLinked (t.ia "tree_nodes") n (c' : Int) cx ∧ t.ienv "x" = c' ∧ t.ienv "y" = ctxPar cx ∧ climbR cx = climbR ctx)
    (fun r => r.ia = s.ia ∧ r.fa = s.fa ∧
      ((climbR ctx).2 = false → r.ctl = .run ∧ r.ienv "y" = (climbR ctx).1) ∧
      ((climbR ctx).2 = true → r.ctl = .ret ∧ r.ienv "ret0" = (climbR ctx).1)) ?_ ctx.length fuel s
    ⟨ctx, c, rfl, hv, hrun, rfl, rfl, hc, hx, hy, rfl⟩ hf
  rintro fuel k t _ ⟨cx, c', rfl, hv, hrun, hia, hfa, hc, hx, hy, hcl⟩
  rw [← hcl]
  match cx, hc, hy with
  | [], _, hy =>
    refine ⟨?_, fun _ => ⟨hia, hfa, fun _ => ⟨hrun, by simpa [climbR, ctxPar] using hy⟩, fun h => by simp [climbR] at h⟩,
      fun h => ?_⟩
    · simp [BE.ok, BE.eval, IE.ok_var, IE.ok_lit, IE.eval_var, IE.eval_lit, hy, ctxPar, cmpInt]
    · simp [BE.eval, IE.eval_var, IE.eval_lit, hy, ctxPar, cmpInt] at h
  | .L p pr :: rest, ⟨hp, hL, hR, hd, hP, hlr, hrest⟩, hy =>
    simp only [ctxPar] at hy
    have hin : inRange (p : Int) n = true := hv.inRange hp
    have : ¬ ((c' : Int) = pr.ptr) := fun e => hd (by omega) e.symm
    refine ⟨?_, fun _ => ⟨hia, hfa, fun _ => ⟨hrun, by simpa [climbR] using hy⟩, fun h => by simp [climbR] at h⟩,
      fun h => ?_⟩
    · simp [BE.ok, BE.eval, IE.ok_var, IE.ok_lit, IE.eval_var, IE.eval_lit, okN t n hv.shpN, hy, hin]
    · simp [BE.eval, IE.eval_var, IE.eval_lit, evalN t n hv.shpN, hy, hx, hR, cmpInt, this] at h
  | .R pl p :: rest, ⟨hp, hL, hR, hd, hP, hll, hrest⟩, hy =>
    simp only [ctxPar] at hy
    have hin : inRange (p : Int) n = true := hv.inRange hp
    refine ⟨?_, fun h => ?_, fun _ => ?_⟩
    · simp [BE.ok, BE.eval, IE.ok_var, IE.ok_lit, IE.eval_var, IE.eval_lit, okN t n hv.shpN, hy, hin]
    · simp [BE.eval, IE.eval_var, IE.eval_lit, evalN t n hv.shpN, hy, hx, hR, cmpInt] at h
    cases rest with
    | nil =>
      -- `y` is the root: the early return
      simp only [ctxPar] at hP
      have hb : exec fuel succClimbBody t =
          { t with ienv := setS (setS t.ienv "x" (p : Int)) "ret0" (p : Int), ctl := .ret } := by
        simp [succClimbBody, exec, IE.ok_var, IE.eval_var, IE.ok_lit, IE.eval_lit, BE.ok, BE.eval, okN _ n, evalN _ n,
          hv.shpN, hy, setS, hin, hP, hrun, cmpInt]
      rw [hb]
      exact Or.inr (Or.inr (Or.inr ⟨rfl, hia, hfa, fun h => by simp [climbR] at h, fun _ => ⟨rfl, by simp [climbR, setS]⟩⟩))
    | cons fr2 rest2 =>
      obtain ⟨q, hq⟩ : ∃ q : Nat, ctxPar (fr2 :: rest2) = (q : Int) := ⟨_, ctxPar_cons fr2 rest2⟩
      rw [hq] at hP
      have hne : ¬ ((q : Int) = -1) := by omega
      have hb : exec fuel succClimbBody t = { t with ienv := setS (setS t.ienv "x" (p : Int)) "y" (q : Int) } := by
        simp [succClimbBody, exec, IE.ok_var, IE.eval_var, IE.ok_lit, IE.eval_lit, BE.ok, BE.eval, okN _ n, evalN _ n,
          hv.shpN, hy, setS, hin, hP, hrun, cmpInt, hne]
      rw [hb]
      exact Or.inl ⟨hrun, _, Nat.lt_succ_self _, fr2 :: rest2, p, rfl, hv.of_eq rfl rfl rfl, hrun, hia, hfa, hrest,
        by simp [setS], by simp [setS, hq], by simp [climbR]⟩

/-- the in-order successor pointer `_tree_successor` returns at the position `(l, i, r, ctx)` -/
def succPtr (r : Sh) (ctx : Ctx) : Int :=
  match r with
  | .node rl m _ => (minIdx rl m : Int)
  | .nil => (climbR ctx).1

theorem vsTreeSuccessor_body : Gen.IL.vsTreeSuccessor.body =
    (.seq (.ite (.cmpI .ne (.ld2 "tree_nodes" (.var "x") (.lit 2)) (.lit (-1)))
        (.seq (.setI "_tree_minimum1$x" (.ld2 "tree_nodes" (.var "x") (.lit 2)))
        (.seq (.scope (.seq (minLoop "_tree_minimum1$x")
        (.seq (.setI "_tree_minimum1$ret0" (.var "_tree_minimum1$x"))
        .ret)))
        (.seq (.setI "ret0" (.var "_tree_minimum1$ret0"))
        .ret)))
        .skip)
      (.seq (.setI "y" (.ld2 "tree_nodes" (.var "x") (.lit 3)))
      (.seq succClimb
      (.seq (.setI "ret0" (.var "y"))
      .ret)))) := rfl

/-- **Refinement of `_tree_successor`** at a position of a well-linked tree -/
theorem vsTreeSuccessor_refines (s : State F) (fuel n : Nat) (hv : VS s n) (hrun : s.ctl = .run)
    (l : Sh) (i : Nat) (r : Sh) (ctx : Ctx)
    (hl : Linked (s.ia "tree_nodes") n (ctxPar ctx) (.node l i r)) (hc : CtxLinked (s.ia "tree_nodes") n (i : Int) ctx)
    (hx : s.ienv "x" = i) (hf : r.height + ctx.length + 1 < fuel) :
    let q := Gen.IL.vsTreeSuccessor.run s fuel
    q.ctl = .ret ∧ q.ienv "ret0" = succPtr r ctx ∧ q.fa = s.fa ∧ q.ia = s.ia := by
  obtain ⟨hi, hL, hR, hP, hlL, hlR⟩ := hl
  have hin : inRange (i : Int) n = true := hv.inRange hi
  simp only [Prog.run, vsTreeSuccessor_body]
  cases r with
  | node rl m rr =>
    simp only [Sh.ptr] at hR
    have h1 : exec fuel (.setI "_tree_minimum1$x" (.ld2 "tree_nodes" (.var "x") (.lit 2))) s =
        { s with ienv := setS s.ienv "_tree_minimum1$x" (m : Int) } := by
      simp [exec, okN _ n, evalN _ n, hv.shpN, hx, hin, hR]
    have hml := minLoop_spec "_tree_minimum1$x" n rl m rr (i : Int) fuel
      { s with ienv := setS s.ienv "_tree_minimum1$x" (m : Int) } (hv.of_eq rfl rfl rfl) hrun hlR (by simp [setS])
      (by have := Sh.lheight_le rl; simp only [Sh.height] at hf; omega)
    rw [exec_seq, exec_ite_true _ _ _ _ _ (by simp [BE.ok, okN s n hv.shpN, hx, hin, IE.ok_lit])
      (by simp [BE.eval, evalN s n hv.shpN, hx, hR, cmpInt, IE.eval_lit])]
    rw [exec_seq, h1]
    simp only [hrun, if_true] at hml ⊢
    rw [exec_seq, exec_scope, exec_seq, hml]
    simp [exec, IE.ok_var, IE.eval_var, setS, succPtr]
  | nil =>
    simp only [Sh.ptr] at hR
    have hite : exec fuel (.ite (.cmpI .ne (.ld2 "tree_nodes" (.var "x") (.lit 2)) (.lit (-1)))
        (.seq (.setI "_tree_minimum1$x" (.ld2 "tree_nodes" (.var "x") (.lit 2)))
        (.seq (.scope (.seq (minLoop "_tree_minimum1$x")
        (.seq (.setI "_tree_minimum1$ret0" (.var "_tree_minimum1$x"))
        .ret)))
        (.seq (.setI "ret0" (.var "_tree_minimum1$ret0"))
        .ret)))
        .skip) s = s := by
      rw [exec_ite_false _ _ _ _ _ (by simp [BE.ok, okN s n hv.shpN, hx, hin, IE.ok_lit])
        (by simp [BE.eval, evalN s n hv.shpN, hx, hR, cmpInt, IE.eval_lit]), exec_skip]
    have h1 : exec fuel (.setI "y" (.ld2 "tree_nodes" (.var "x") (.lit 3))) s =
        { s with ienv := setS s.ienv "y" (ctxPar ctx) } := by
      simp [exec, okN _ n, evalN _ n, hv.shpN, hx, hin, hP]
    have hcl := succClimb_spec n ctx i fuel { s with ienv := setS s.ienv "y" (ctxPar ctx) } (hv.of_eq rfl rfl rfl) hrun hc
      (by simpa [setS] using hx) (by simp [setS]) (by omega)
    rw [exec_seq_run _ _ _ _ (by rw [hite]; exact hrun), hite, exec_seq_run _ _ _ _ (by rw [h1]; exact hrun), h1]
    obtain ⟨c1, c2, c3, c4⟩ := hcl
    by_cases hb : (climbR ctx).2 = true
    · obtain ⟨d1, d2⟩ := c4 hb
      rw [exec_seq_stop _ _ _ _ (by rw [d1]; simp)]
      exact ⟨d1, by simpa [succPtr] using d2, c2, c1⟩
    · obtain ⟨d1, d2⟩ := c3 (by simpa using hb)
      rw [exec_seq_run _ _ _ _ d1]
      simp [exec, IE.ok_var, IE.eval_var, d1, d2, c1, c2, succPtr]

/-- when there is a right subtree the row returned holds the model's in-order successor: the first node of the right
    subtree's in-order list -/
theorem succPtr_head (vals : List F) (nodes : List Int) (rl : Sh) (m : Nat) (rr : Sh) (ctx : Ctx) :
    ∃ k : Nat, succPtr (.node rl m rr) ctx = (k : Int) ∧
      (absT vals nodes (.node rl m rr)).toList.head? = some (nodeAt vals k) :=
  ⟨minIdx rl m, rfl, minIdx_head vals nodes rl m rr⟩

end XrsVerif.ILVs
