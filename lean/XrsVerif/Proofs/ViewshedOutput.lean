import XrsVerif.Proofs.KSimp
import XrsVerif.Gen.Kernels
/-!
  Symbolic evaluation of the generated `_get_vertical_ang` (C05)
  (`Gen.viewshed_vertical_ang`) in its three branches.
-/
namespace XrsVerif.Viewshed
open XrsVerif

variable {K : Type} [Field K] [LinearOrder K] [IsStrictOrderedRing K] [Trig K]

/-- the value `_get_vertical_ang(viewpoint_elev, dist², elev)` stores for a visible cell -/
def vertAng (ve d2 e : K) : NV K :=
  Gen.viewshed_vertical_ang.cell
    (envOf [("viewpoint_elev", some ve), ("distance_to_viewpoint", some d2), ("elev", some e)]) (rd0 []) (fun _ => [])

def vertAngFailed (ve d2 e : K) : Option String :=
  Gen.viewshed_vertical_ang.cellFailed
    (envOf [("viewpoint_elev", some ve), ("distance_to_viewpoint", some d2), ("elev", some e)]) (rd0 []) (fun _ => [])

theorem vertAng_below (ve d2 e : K) (hd : 0 < d2) (hlt : e < ve) (hpi : (4 : K) * Trig.atan 1 ≠ 0) :
    vertAng ve d2 e = some (Trig.atan (Trig.sqrt d2 / (ve - e)) * 180 / (4 * Trig.atan 1)) := by
  unfold vertAng
  have hne : d2 ≠ 0 := ne_of_gt hd
  have h0 : ve - e ≠ 0 := ne_of_gt (sub_pos.mpr hlt)
  simp [kl, Gen.viewshed_vertical_ang, hne, h0, hlt, hpi]

theorem vertAng_level (ve d2 : K) (hd : 0 < d2) : vertAng ve d2 ve = some 90 := by
  unfold vertAng
  have hne : d2 ≠ 0 := ne_of_gt hd
  simp [kl, Gen.viewshed_vertical_ang, hne]

theorem vertAng_above (ve d2 e : K) (hd : 0 < d2) (hgt : ve < e) (hpi : (4 : K) * Trig.atan 1 ≠ 0)
    (hs : Trig.sqrt d2 ≠ 0) :
    vertAng ve d2 e = some (Trig.atan (|ve - e| / Trig.sqrt d2) * 180 / (4 * Trig.atan 1) + 90) := by
  unfold vertAng
  have hne : d2 ≠ 0 := ne_of_gt hd
  have h0 : ve - e ≠ 0 := ne_of_lt (sub_neg.mpr hgt)
  have h1 : ¬ e < ve := not_lt_of_gt hgt
  simp [kl, Gen.viewshed_vertical_ang, hne, h0, h1, hpi, hs]

end XrsVerif.Viewshed
