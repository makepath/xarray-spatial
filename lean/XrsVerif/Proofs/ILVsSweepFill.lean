import XrsVerif.Proofs.ILVsSweepIns
/-
  One iteration of the initial fill of the generated sweep (`for i in range(vp_col + 1, n_cols)`):
  the node of the observer-row cell from the three elevations in `data` (`fillNode_exec`), the assertion on the centre
  bearing, the `- 2π` adjustment, `_pop`, the inlined `_insert_into_tree` (contract `InsContract`): `fillBody_exec`; the
  loop visits exactly the model's initial status set `initialCols` (`fill_range`).
-/
namespace XrsVerif.ILSw
open XrsVerif XrsVerif.IL XrsVerif.ILVs XrsVerif.Viewshed XrsVerif.ViewshedEvents
variable {F : Type} [Fl F]
set_option linter.unusedVariables false

/-- **the node of an initial cell**: the observer-row cell `(vr, c)` with the three elevations `data[0..2][c]` -/
theorem fillNode_exec (hH : HalfOK F) (rest : St) (s : State F) (fuel : Nat) (c vr vc : Int) (el0 el1 el2 : F)
    (e0 e1 e2 e3 e4 e5 e6 : F)
    (hs : s.ctl = .run) (shN : s.shp "status_node" = [7]) (hE : s.fa "status_node" = [e0, e1, e2, e3, e4, e5, e6])
    (her : s.ienv "e_row" = vr) (hec : s.ienv "e_col" = c) (hsr : s.ienv "status_row" = vr) (hsc : s.ienv "status_col" = c)
    (hvr : s.ienv "vp_row" = vr) (hvc : s.ienv "vp_col" = vc)
    (h0 : s.fenv "e_elev_0" = el0) (h1 : s.fenv "e_elev_1" = el1) (h2 : s.fenv "e_elev_2" = el2) :
    ∃ s' : State F, exec fuel (fillNode rest) s = exec fuel rest s' ∧ s'.ctl = .run ∧ s'.ia = s.ia ∧ s'.shp = s.shp ∧
      s'.ext = s.ext ∧
      s'.fa = setS s.fa "status_node" (enterNodeF vr c vr vc
          (angF (halfF c (posOff 1 (vr - vr) (c - vc)).2) (halfF vr (posOff 1 (vr - vr) (c - vc)).1) (Fl.lit vc 1) (Fl.lit vr 1))
          el0 el1 el2 (s.fenv "vp_elev") (s.fenv "ew_res") (s.fenv "ns_res")) ∧
      (∀ v ∈ swLiveI, s'.ienv v = s.ienv v) ∧ (∀ v ∈ swLiveF, s'.fenv v = s.fenv v) := by
  obtain ⟨ie, fe, be, ia, fa, shp, ext, ctl⟩ := s
  simp only at hs shN hE her hec hsr hsc hvr hvc h0 h1 h2; subst hs
  have hpb1 := fun s => posBody_int (F := F) hH "_calc_event_pos5$" s fuel
  have hpb2 := fun s => posBody_int (F := F) hH "_calc_event_pos8$" s fuel
  have hpb3 := fun s => posBody_int (F := F) hH "_calc_event_pos11$" s fuel
  have hab0 := fun s => angBody_exec (F := F) "_calculate_angle6$" s fuel
  have hab1 := fun s => angBody_exec (F := F) "_calculate_angle9$" s fuel
  have hab2 := fun s => angBody_exec (F := F) "_calculate_angle12$" s fuel
  have hgb1 := fun s => gradBody_exec (F := F) "_calc_event_grad7$" s fuel
  have hgb2 := fun s => gradBody_exec (F := F) "_calc_event_grad13$" s fuel
  have hdb := fun s => distBody_exec (F := F) "_calc_dist_n_grad10$" s fuel
  simp [fillNode, posCallI, angCall, gradCall, distCall, exec, IE.ok, IE.eval, FE.ok, FE.eval, shN, hE,
    setS_apply, setS_setS, inRange_lit, off1_lit7, hpb1, hpb2, hpb3, hab0, hab1, hab2, hgb1, hgb2, hdb,
    posEnv_apply, angEnv_apply, gradEnv_apply, distEnv_apply, posS', her, hec, hsr, hsc, hvr, hvc, h0, h1, h2]
  refine ⟨_, rfl, rfl, rfl, rfl, rfl, ?_, ?_, ?_⟩
  · dsimp only
    simp [enterNodeF, keyF, gradEventF, gradCellF, ptDist2]
  · apply swLiveI_all <;> simp [setS_apply]
  · apply swLiveF_all <;> simp [gradEnv_apply, angEnv_apply, distEnv_apply, posEnv_apply, setS_apply]

theorem swLive_iP0 : (∀ v ∈ swLiveI, iP0.isPrefixOf v = false) ∧ (∀ v ∈ swLiveF, iP0.isPrefixOf v = false) := by
  decide +kernel

/-- the entering bearing of an initial cell lies below the east ray: it is moved to `a0 - 2π` when it exceeds the centre's -/
def adjustFill (k g0 g1 g2 a0 a1 a2 : F) : List F :=
  if Fl.lt a1 a0 = true then [k, g0, g1, g2, Fl.sub a0 twoPi, a1, a2] else [k, g0, g1, g2, a0, a1, a2]

theorem adjustFill_length (k g0 g1 g2 a0 a1 a2 : F) : (adjustFill k g0 g1 g2 a0 a1 a2).length = 7 := by
  simp only [adjustFill]; split <;> rfl

theorem fillAdj_exec (ins : St) (s : State F) (fuel : Nat) (kk g0 g1 g2 a0 a1 a2 : F) (hs : s.ctl = .run)
    (shN : s.shp "status_node" = [7]) (hE : s.fa "status_node" = [kk, g0, g1, g2, a0, a1, a2])
    (hassert : Fl.eq a1 (Fl.lit 0 1) = true) :
    exec fuel (fillTail ins) s = exec fuel (popCall "_pop14$" (insCall "_insert_into_tree15$" ins))
      { s with fa := setS s.fa "status_node" (adjustFill kk g0 g1 g2 a0 a1 a2) } := by
  obtain ⟨ie, fe, be, ia, fa, shp, ext, ctl⟩ := s
  simp only at hs shN hE; subst hs
  simp only [fillTail]
  generalize popCall "_pop14$" (insCall "_insert_into_tree15$" ins) = rest
  have hfa : setS fa "status_node" [kk, g0, g1, g2, a0, a1, a2] = fa := by rw [← hE]; exact setS_self _ _
  cases hc2 : Fl.lt a1 a0 <;>
  simp [il, shN, hE, inRange_lit, off1_lit7, adjustFill, twoPi, piF, hc2, hfa, hassert]

/-- `data[t][c]` -/
def dataAt (s : State F) (w t c : Nat) : F := (s.fa "data").getD (t * w + c) Fl.nan

/-- the node the initial fill inserts for the observer-row cell `(vr, c)` -/
def fillNodeAdj (c vr vc : Int) (el0 el1 el2 ve ew ns : F) : List F :=
  adjustFill (keyF vr c vr vc ew ns)
    (gradEventF (halfF vr (posOff 1 (vr - vr) (c - vc)).1) (halfF c (posOff 1 (vr - vr) (c - vc)).2) el0 vr vc ve ew ns)
    (gradCellF vr c el1 vr vc ve ew ns)
    (gradEventF (halfF vr (posOff (-1) (vr - vr) (c - vc)).1) (halfF c (posOff (-1) (vr - vr) (c - vc)).2) el2 vr vc ve ew ns)
    (angF (halfF c (posOff 1 (vr - vr) (c - vc)).2) (halfF vr (posOff 1 (vr - vr) (c - vc)).1) (Fl.lit vc 1) (Fl.lit vr 1))
    (angF (halfF c (posOff 0 (vr - vr) (c - vc)).2) (halfF vr (posOff 0 (vr - vr) (c - vc)).1) (Fl.lit vc 1) (Fl.lit vr 1))
    (angF (halfF c (posOff (-1) (vr - vr) (c - vc)).2) (halfF vr (posOff (-1) (vr - vr) (c - vc)).1) (Fl.lit vc 1) (Fl.lit vr 1))

/-- **one iteration of the initial fill** (the insertion a black box with contract `InsContract`): for the observer-row cell
    in column `c` whose centre elevation `data[1][c]` is not NaN, the node built from the three elevations of `data` -- the
    corner elevations `_init_event_list` left there -- is inserted in the row popped from the idle stack; for a NaN cell
    nothing is inserted.  (The centre of such a cell lies due east: its bearing must compare equal to 0, `hassert`.) -/
theorem fillBody_exec (hH : HalfOK F) (hi : InsContract F insFill iP0) (s : State F) (fuel n w : Nat) (sh : Sh) (c top nid : Nat)
    (hs : s.ctl = .run) (shN : s.shp "status_node" = [7]) (lenN : (s.fa "status_node").length = 7)
    (shD : s.shp "data" = [3, w]) (hcw : c < w) (hi' : s.ienv "i" = c) (hv : SVS s n)
    (hL : Linked (s.ia "status_struct") n (-1) sh) (hN : sh.idxs.Nodup) (hne : sh ≠ .nil) (hroot : s.ienv "root" = sh.ptr)
    (hS : vAt (s.fa "status_values") (n - 1) 7 = smallest)
    (shI : s.shp "idle" = [n]) (lenI : (s.ia "idle").length = n) (htop : (s.ia "idle").getD 0 0 = top) (htn : top < n)
    (ht0 : 0 < top) (hnid : (s.ia "idle").getD top 0 = nid) (hnn : nid + 1 < n) (hfresh : nid ∉ sh.idxs)
    (hfuel : 2 * sh.height + sh.size + 4 ≤ fuel) :
    let vr := s.ienv "vp_row"
    let vc := s.ienv "vp_col"
    let node := fillNodeAdj c vr vc (dataAt s w 0 c) (dataAt s w 1 c) (dataAt s w 2 c) (s.fenv "vp_elev") (s.fenv "ew_res") (s.fenv "ns_res")
    (Fl.isnan (dataAt s w 1 c) = false →
      Fl.eq (angF (halfF (c : Int) (posOff 0 (vr - vr) ((c : Int) - vc)).2 : F) (halfF vr (posOff 0 (vr - vr) ((c : Int) - vc)).1)
        (Fl.lit vc 1) (Fl.lit vr 1)) (Fl.lit 0 1) = true →
      ∃ (s' : State F) (sh' : Sh), exec fuel (fillBody insFill) s = s' ∧ s'.ctl = .run ∧ SVS s' n ∧
        Linked (s'.ia "status_struct") n (-1) sh' ∧ sh'.idxs.Nodup ∧ s'.ienv "root" = sh'.ptr ∧
        sh'.idxs.Perm (nid :: sh.idxs) ∧ vAt (s'.fa "status_values") (n - 1) 7 = smallest ∧
        Rebal smallest (leafInsert (nodeOfList node) (absT (s.fa "status_values") (s.ia "status_struct") sh))
          (absT (s'.fa "status_values") (s'.ia "status_struct") sh') ∧
        s'.ia "idle" = (s.ia "idle").set 0 ((top : Int) - 1) ∧
        (∀ a, a ≠ "status_values" → a ≠ "status_node" → s'.fa a = s.fa a) ∧
        (∀ a, a ≠ "status_struct" → a ≠ "idle" → s'.ia a = s.ia a) ∧ s'.shp = s.shp ∧
        (∀ v ∈ swLiveI, v ≠ "root" → s'.ienv v = s.ienv v) ∧ (∀ v ∈ swLiveF, s'.fenv v = s.fenv v)) ∧
    (Fl.isnan (dataAt s w 1 c) = true →
      ∃ ie' fe' sn, exec fuel (fillBody insFill) s = ⟨ie', fe', s.benv, s.ia, setS s.fa "status_node" sn, s.shp, s.ext, .run⟩ ∧
        (∀ v ∈ swLiveI, ie' v = s.ienv v) ∧ (∀ v ∈ swLiveF, fe' v = s.fenv v)) := by
  intro vr vc node
  obtain ⟨e0, e1, e2, e3, e4, e5, e6, hE⟩ := list7 _ lenN
  have ic : inRange (c : Int) w = true := inRange_of_lt c w hcw
  have o0 : off2 [3, w] (0 : Int) (c : Int) = 0 * w + c := off2_nat 3 w 0 c
  have o1 : off2 [3, w] (1 : Int) (c : Int) = 1 * w + c := off2_nat 3 w 1 c
  have o2 : off2 [3, w] (2 : Int) (c : Int) = 2 * w + c := off2_nat 3 w 2 c
  obtain ⟨ie, fe, be, ia, fa, shp, ext, ctl⟩ := s
  simp only at hs shN hE shD hi' hv hL hN hroot hS shI lenI htop hnid; subst hs
  -- the statements before the NaN test
  let s1 : State F := ⟨setS (setS (setS (setS ie "status_row" (ie "vp_row")) "status_col" c) "e_row" (ie "vp_row")) "e_col" c,
    setS (setS (setS fe "e_elev_0" ((fa "data").getD c Fl.nan)) "e_elev_1" ((fa "data").getD (w + c) Fl.nan)) "e_elev_2"
      ((fa "data").getD (2 * w + c) Fl.nan), be, ia,
    setS fa "status_node" [Fl.lit (-1) 1, Fl.nan, Fl.nan, Fl.nan, Fl.nan, Fl.nan, Fl.nan], shp, ext, .run⟩
  have hpre : exec fuel (fillBody insFill) (⟨ie, fe, be, ia, fa, shp, ext, .run⟩ : State F) =
      if Fl.isnan ((fa "data").getD (w + c) Fl.nan) = true then s1 else exec fuel (fillCore insFill) s1 := by
    simp only [fillBody, initNode]
    cases hnan : Fl.isnan ((fa "data").getD (w + c) Fl.nan) <;>
    (have hnan' := hnan; simp only [List.getD_eq_getElem?_getD] at hnan') <;>
    simp [exec, IE.ok, IE.eval, FE.ok, FE.eval, BE.ok, BE.eval, shN, shD, hE, hi', setS_apply, setS_setS, inRange_lit, off1_lit7,
      ic, o0, o1, o2, hnan', s1]
  constructor
  · intro hnan hassert
    simp only [dataAt, Nat.one_mul] at hnan
    rw [hpre]
    simp only [hnan, Bool.false_eq_true, if_false, fillCore]
    obtain ⟨s2, hex2, c_ctl, c_ia, c_shp, c_ext, c_fa, c_li, c_lf⟩ := fillNode_exec hH (fillTail insFill) s1 fuel c vr vc
      ((fa "data").getD c Fl.nan) ((fa "data").getD (w + c) Fl.nan) ((fa "data").getD (2 * w + c) Fl.nan)
      (Fl.lit (-1) 1) Fl.nan Fl.nan Fl.nan Fl.nan Fl.nan Fl.nan rfl shN (by simp [s1])
      (by simp [s1, setS_apply, vr]) (by simp [s1]) (by simp [s1, setS_apply, vr]) (by simp [s1, setS_apply])
      (by simp [s1, setS_apply, vr]) (by simp [s1, setS_apply, vc]) (by simp [s1, setS_apply]) (by simp [s1, setS_apply])
      (by simp [s1])
    have b_fa : ∀ a, a ≠ "status_node" → s2.fa a = fa a := fun a h => by rw [c_fa]; simp [s1, setS_apply, h]
    simp only [show s1.fenv "vp_elev" = fe "vp_elev" from rfl, show s1.fenv "ew_res" = fe "ew_res" from rfl,
      show s1.fenv "ns_res" = fe "ns_res" from rfl] at c_fa
    rw [hex2, fillAdj_exec insFill s2 fuel _ _ _ _ _ _ _ c_ctl (c_shp ▸ shN) (by rw [c_fa]; rfl) hassert]
    obtain ⟨s3, sh', e3, d⟩ := insNode_exec "_pop14$" "_insert_into_tree15$" insFill hi swLive_iP0 (by simp) (by simp)
      ⟨ie, fe, be, ia, fa, shp, ext, .run⟩ s2 fuel n sh top nid node (adjustFill_length ..) c_ctl c_ia c_shp b_fa
      (fun v hv => (c_li v hv).trans (by revert v; apply swLiveI_all <;> simp [s1, setS_apply]))
      (fun v hv => (c_lf v hv).trans (by revert v; apply swLiveF_all <;> simp [s1, setS_apply]))
      hv hL hN hne hroot hS shN shI htop htn hnid hnn hfresh hfuel
    refine ⟨s3, sh', ?_, d⟩
    rw [← e3]
    simp only [node, fillNodeAdj, dataAt, Nat.zero_mul, Nat.zero_add, Nat.one_mul]
  · intro hnan
    simp only [dataAt, Nat.one_mul] at hnan
    rw [hpre]
    simp only [hnan, if_true]
    refine ⟨_, _, _, rfl, ?_, ?_⟩
    · apply swLiveI_all <;> simp [setS_apply]
    · apply swLiveF_all <;> simp [setS_apply]

/-- **the initial fill visits the model's initial status set**: the loop range `range(vp_col + 1, n_cols)` is the list
    `initialCols` of Model/ViewshedEvents.lean (the observer's row, strictly east, from west to east) -/
theorem fill_range (w vc : Nat) (hvc : vc < w) : rangeList ((vc : Int) + 1) (w : Int) 1 = initialCols w vc := by
  rw [rangeList_step1]; unfold initialCols
  have e1 : ((w : Int) - ((vc : Int) + 1)).toNat = w - (vc + 1) := by omega
  rw [e1]
  apply List.ext_getElem?
  intro k
  have hsplit : List.range w = List.range (vc + 1) ++ (List.range (w - (vc + 1))).map (fun j => vc + 1 + j) := by
    have : w = (vc + 1) + (w - (vc + 1)) := by omega
    conv_lhs => rw [this, List.range_add]
  rw [hsplit, List.map_append, List.filter_append]
  have h1 : ((List.range (vc + 1)).map fun (j : Nat) => (j : Int)).filter (fun j => decide ((vc : Int) < j)) = [] := by
    rw [List.filter_eq_nil_iff]
    intro x hx
    simp only [List.mem_map, List.mem_range] at hx
    obtain ⟨j, hj, rfl⟩ := hx
    simp; omega
  have h2 : (((List.range (w - (vc + 1))).map (fun j => vc + 1 + j)).map fun (j : Nat) => (j : Int)).filter
      (fun j => decide ((vc : Int) < j)) = ((List.range (w - (vc + 1))).map (fun j => vc + 1 + j)).map fun (j : Nat) => (j : Int) := by
    rw [List.filter_eq_self]
    intro x hx
    simp only [List.mem_map, List.mem_range] at hx
    obtain ⟨j, ⟨i, hi, rfl⟩, rfl⟩ := hx
    simp; omega
  rw [h1, h2, List.nil_append]
  simp only [List.getElem?_map, List.map_map]
  cases h : (List.range (w - (vc + 1)))[k]? with
  | none => simp
  | some j => simp

end XrsVerif.ILSw
