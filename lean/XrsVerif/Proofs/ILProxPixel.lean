import XrsVerif.Proofs.ILProxRel
import XrsVerif.Proofs.Proximity
/-
  Step 2: one pixel of the generated `_process_proximity_line` (`pixelBody N`) is
  the model's `Prox.pixel` under the abstraction relation `LineRel` (three candidate phases + update).
-/
namespace XrsVerif.IL.Px
open XrsVerif XrsVerif.Prox
variable {F : Type} [Fl F]
attribute [-simp] List.getD_eq_getElem?_getD

theorem getD_set_rel₃ {α β γ : Type} {R : α → β → γ → Prop} {W p : Nat} {l : List α} {m : List β} {t : List γ}
    {a0 a : α} {b0 b : β} {c0 c : γ} (hl : l.length = W) (hm : m.length = W) (ht : t.length = W) (hp : p < W)
    (h : ∀ q, q < W → R (l.getD q a0) (m.getD q b0) (t.getD q c0)) (hr : R a b c) (q : Nat) (hq : q < W) :
    R ((l.set p a).getD q a0) ((m.set p b).getD q b0) ((t.set p c).getD q c0) := by
  by_cases hqp : p = q
  · subst hqp
    rw [getD_set_same _ _ _ _ (hl ▸ hp), getD_set_same _ _ _ _ (hm ▸ hp), getD_set_same _ _ _ _ (ht ▸ hp)]
    exact hr
  · rw [getD_set_ne _ _ _ _ _ hqp, getD_set_ne _ _ _ _ _ hqp, getD_set_ne _ _ _ _ _ hqp]
    exact h q hq

theorem getD_set_rel₂ {α β : Type} {R : α → β → Prop} {W p : Nat} {l : List α} {m : List β}
    {a0 a : α} {b0 b : β} (hl : l.length = W) (hm : m.length = W) (hp : p < W)
    (h : ∀ q, q < W → R (l.getD q a0) (m.getD q b0)) (hr : R a b) (q : Nat) (hq : q < W) :
    R ((l.set p a).getD q a0) ((m.set p b).getD q b0) :=
  getD_set_rel₃ (R := fun x y (_ : Unit) => R x y) (t := List.replicate W ()) (c0 := ()) (c := ()) hl hm
    List.length_replicate hp h hr q hq

/-- in the middle of the candidate phases of pixel `p`: `s0` = state at the start of the pixel,
    `(pan, n)` = the model's pair (remembered targets, bound) -/
structure CandRel (N : Names) (c : Cfg) (emb : Nat → F) (s0 s : State F) (pan : List Tgt) (n : Option Nat) : Prop where
  frame : PixFrame N s0 s
  ctl : s.ctl = .run
  nx : s.ia "nearest_xs" = s0.ia "nearest_xs"
  ny : s.ia "nearest_ys" = s0.ia "nearest_ys"
  lpa : s.fa "line_proximity" = s0.fa "line_proximity"
  len_px : (s.ia "pan_near_x").length = c.W
  len_py : (s.ia "pan_near_y").length = c.W
  mlen : pan.length = c.W
  pan : ∀ q, q < c.W → tgtRel c.H c.W ((s.ia "pan_near_x").getD q 0) ((s.ia "pan_near_y").getD q 0) (pan.getD q none)
  nds : NdsOK c emb (s.fenv (N.nm .maxDistance)) (s.fenv (N.nm .nds)) n

/-- a remembered target at `p` comes with its distance in `near_distance_square` -/
def HasD (N : Names) (emb : Nat → F) (p : Nat) (s : State F) (pan : List Tgt) (n : Option Nat) : Prop :=
  pan.getD p none ≠ none → ∃ d, n = some d ∧ s.fenv (N.nm .nds) = emb d

section phases
variable {N : Names} (hN : N.WF) {c : Cfg} {emb : Nat → F} {tg : Nat → Nat → Bool} {row : Nat} {fwd : Bool}
variable {s0 s : State F} (fuel : Nat) {p : Nat}
variable (env0 : SweepEnv N c emb tg row fwd s0) (hp : p < c.W) (hpix0 : s0.ienv (N.nm .pixel) = p)

theorem cand_setI {pan : List Tgt} {n : Option Nat} (h : CandRel N c emb s0 s pan n) (hd : HasD N emb p s pan n)
    (b : LV) (hb : b.scratch = true) (v : Int) :
    CandRel N c emb s0 { s with ienv := setS s.ienv (N.nm b) v } pan n ∧
    HasD N emb p { s with ienv := setS s.ienv (N.nm b) v } pan n :=
  ⟨⟨h.frame.trans (FrameS.setI s b hb v), h.ctl, h.nx, h.ny, h.lpa, h.len_px, h.len_py, h.mlen, h.pan, h.nds⟩, hd⟩

include hN env0 hp hpix0

/-- "Are we near(er) to the closest target to the above (below) pixel?" = `Prox.fromAbove` -/
theorem cand_above {pan : List Tgt} {n : Option Nat} (h : CandRel N c emb s0 s pan n) :
    CandRel N c emb s0 (exec fuel (bAbove N) s) (fromAbove c row p pan n).1 (fromAbove c row p pan n).2 ∧
    HasD N emb p (exec fuel (bAbove N) s) (fromAbove c row p pan n).1 (fromAbove c row p pan n).2 := by
  have env := env0.of_pix hN h.frame
  have hpix : s.ienv (N.nm .pixel) = p := by rw [h.frame.keepI hN .pixel rfl, hpix0]
  have hrel := h.pan p hp
  cases hm : pan.getD p none with
  | none =>
    rw [hm] at hrel
    have hx : (s.ia "pan_near_x").getD p 0 = -1 := hrel
    rw [above_none N s fuel c.H c.W p env.shp hp hpix hx]
    have e : fromAbove c row p pan n = (pan, n) := by simp only [fromAbove, hm]
    rw [e]
    exact ⟨h, fun hne => absurd hm hne⟩
  | some t =>
    obtain ⟨tr, tc⟩ := t
    rw [hm] at hrel
    obtain ⟨hx, hy, htr, htc⟩ := hrel
    rw [above_some N hN s fuel h.ctl c.H c.W row p env.shp env.row_lt hp env.row_eq hpix tr tc htr htc hx hy,
      env.dist tr tc row p htr htc env.row_lt hp, h.nds.lt env.arith]
    cases hlt : ltOpt (dist2 c tr tc row p) n with
    | true =>
      have e : fromAbove c row p pan n = (pan, some (dist2 c tr tc row p)) := by simp only [fromAbove, hm, hlt, if_true]
      rw [e]
      simp only [if_true]
      refine ⟨⟨h.frame.trans ((afterDist_frame ..).trans (setNds_frame ..)), h.ctl, h.nx, h.ny, h.lpa,
        h.len_px, h.len_py, h.mlen, h.pan, ?_⟩, ?_⟩
      · right
        exact ⟨_, rfl, by simp⟩
      · intro _
        exact ⟨_, rfl, by simp⟩
    | false =>
      have e : fromAbove c row p pan n = (pan.set p none, n) := by simp only [fromAbove, hm, hlt, Bool.false_eq_true, if_false]
      rw [e]
      simp only [Bool.false_eq_true, if_false]
      refine ⟨⟨h.frame.trans ((afterDist_frame ..).trans (setPan_frame ..)), h.ctl, by simpa using h.nx,
        by simpa using h.ny, h.lpa, by simpa using h.len_px, by simpa using h.len_py, by simpa using h.mlen, ?_, ?_⟩, ?_⟩
      · simp only [setPan_px, setPan_py, afterDist_ia]
        exact getD_set_rel₃ h.len_px h.len_py h.mlen hp h.pan rfl
      · simpa [afterDist_fenv_keep N c.W s tr tc row p hN .nds, afterDist_fenv_keep N c.W s tr tc row p hN .maxDistance]
          using h.nds
      · intro hne
        simp [getD_set, h.mlen, hp] at hne

/-- a neighbour phase = `Prox.stepNb` (skipped at the start / end of the line, else `Prox.fromNeighbour`) -/
theorem cand_nb {pan : List Tgt} {n : Option Nat} (h : CandRel N c emb s0 s pan n) (hd : HasD N emb p s pan n)
    (g q lim : LV) (skip : Bool) (qn : Nat)
    (hg : if skip then s.ienv (N.nm g) = s.ienv (N.nm lim)
          else (s.ienv (N.nm g) ≠ s.ienv (N.nm lim) ∧ s.ienv (N.nm q) = qn ∧ qn < c.W)) :
    CandRel N c emb s0 (exec fuel (bNb N g q lim) s) (stepNb c row p skip qn (pan, n)).1 (stepNb c row p skip qn (pan, n)).2 ∧
    HasD N emb p (exec fuel (bNb N g q lim) s) (stepNb c row p skip qn (pan, n)).1 (stepNb c row p skip qn (pan, n)).2 := by
  have env := env0.of_pix hN h.frame
  have hpix : s.ienv (N.nm .pixel) = p := by rw [h.frame.keepI hN .pixel rfl, hpix0]
  cases skip with
  | true =>
    simp only [if_true] at hg
    rw [nb_skip N s fuel g q lim hg]
    simp only [stepNb, if_true]
    exact ⟨h, hd⟩
  | false =>
    simp only [Bool.false_eq_true, if_false] at hg
    obtain ⟨hg, hqv, hq⟩ := hg
    simp only [stepNb, Bool.false_eq_true, if_false]
    have hrel := h.pan qn hq
    cases hm : pan.getD qn none with
    | none =>
      rw [hm] at hrel
      have hx : (s.ia "pan_near_x").getD qn 0 = -1 := hrel
      rw [nb_none N s fuel c.H c.W env.shp g q lim qn hq hqv hx]
      have e : fromNeighbour c row p qn pan n = (pan, n) := by simp only [fromNeighbour, hm]
      rw [e]
      exact ⟨h, hd⟩
    | some t =>
      obtain ⟨tr, tc⟩ := t
      rw [hm] at hrel
      obtain ⟨hx, hy, htr, htc⟩ := hrel
      rw [nb_some N hN s fuel h.ctl c.H c.W row p env.shp env.row_lt hp env.row_eq hpix g q lim hg qn tr tc hq htr htc
        hqv hx hy, env.dist tr tc row p htr htc env.row_lt hp, h.nds.lt env.arith]
      cases hlt : ltOpt (dist2 c tr tc row p) n with
      | true =>
        have e : fromNeighbour c row p qn pan n = (pan.set p (some (tr, tc)), some (dist2 c tr tc row p)) := by
          simp only [fromNeighbour, hm, hlt, if_true]
        rw [e]
        simp only [if_true]
        refine ⟨⟨h.frame.trans ((afterDist_frame ..).trans ((setNds_frame ..).trans (setPan_frame ..))), h.ctl,
          by simpa using h.nx, by simpa using h.ny, h.lpa, by simpa using h.len_px, by simpa using h.len_py,
          by simpa using h.mlen, ?_, ?_⟩, ?_⟩
        · simp only [setPan_px, setPan_py, setNds_ia, afterDist_ia]
          exact getD_set_rel₃ h.len_px h.len_py h.mlen hp h.pan ⟨rfl, rfl, htr, htc⟩
        · right
          exact ⟨_, rfl, by simp⟩
        · intro _
          exact ⟨_, rfl, by simp⟩
      | false =>
        have e : fromNeighbour c row p qn pan n = (pan, n) := by simp only [fromNeighbour, hm, hlt, Bool.false_eq_true, if_false]
        rw [e]
        simp only [Bool.false_eq_true, if_false]
        refine ⟨⟨h.frame.trans (afterDist_frame ..), h.ctl, h.nx, h.ny, h.lpa, h.len_px, h.len_py, h.mlen, h.pan, ?_⟩, ?_⟩
        · simpa [afterDist_fenv_keep N c.W s tr tc row p hN .nds, afterDist_fenv_keep N c.W s tr tc row p hN .maxDistance]
            using h.nds
        · intro hne
          obtain ⟨d, h1, h2⟩ := hd hne
          exact ⟨d, h1, by simpa [afterDist_fenv_keep N c.W s tr tc row p hN .nds] using h2⟩

/-- "Update our proximity value." = `Prox.update` -/
theorem cand_upd {m : LineSt} (rel0 : LineRel c emb s0 m) {pan : List Tgt} {n : Option Nat}
    (h : CandRel N c emb s0 s pan n) (hd : HasD N emb p s pan n) :
    (exec fuel (bUpd N) s).ctl = .run ∧ PixFrame N s0 (exec fuel (bUpd N) s) ∧
    LineRel c emb (exec fuel (bUpd N) s) (update c m p pan n) := by
  have env := env0.of_pix hN h.frame
  have hpix : s.ienv (N.nm .pixel) = p := by rw [h.frame.keepI hN .pixel rfl, hpix0]
  rw [upd_exec N s fuel h.ctl c.H c.W p env.shp hp hpix]
  have base : LineRel c emb s { pan := pan, lp := m.lp, nr := m.nr } :=
    ⟨h.len_px, h.len_py, by rw [h.nx]; exact rel0.len_nx, by rw [h.ny]; exact rel0.len_ny,
     by rw [h.lpa]; exact rel0.len_lp, h.mlen, rel0.mlen_lp, rel0.mlen_nr, h.pan,
     by rw [h.nx, h.ny]; exact rel0.nr, by rw [h.lpa]; exact rel0.lp, rel0.nrlp⟩
  have hrel := h.pan p hp
  cases hm : pan.getD p none with
  | none =>
    rw [hm] at hrel
    have hx : (s.ia "pan_near_x").getD p 0 = -1 := hrel
    have hc : updCond N s p = false := by simp [updCond, hx]
    have e : update c m p pan n = { pan := pan, lp := m.lp, nr := m.nr } := by simp only [update, hm]
    rw [hc, e]
    exact ⟨h.ctl, h.frame, base⟩
  | some t =>
    rw [hm] at hrel
    obtain ⟨hx, hy, htr, htc⟩ := hrel
    obtain ⟨d, hn, hnds⟩ := hd (by rw [hm]; simp)
    have hx1 : (s.ia "pan_near_x").getD p 0 ≠ -1 := by rw [hx]; omega
    have hlp := rel0.lp p hp
    rw [← h.lpa] at hlp
    have hc : updCond N s p = (withinMax c d && better m.lp p d) := by
      simp only [updCond, hx1, ne_eq, not_false_eq_true, decide_true, Bool.true_and, hnds, env.arith.thr_ge]
      congr 1
      unfold better
      cases hl : m.lp.getD p none with
      | none =>
        rw [hl] at hlp
        have : Fl.lt ((s.fa "line_proximity").getD p Fl.nan) (Fl.lit 0 1) = true := hlp
        simp [this]
      | some old =>
        rw [hl] at hlp
        obtain ⟨h1, _, h3⟩ := hlp
        simp [h1, h3, env.arith.lt_emb]
    rw [hc]
    subst hn
    cases hb : (withinMax c d && better m.lp p d) with
    | false =>
      have e : update c m p pan (some d) = { pan := pan, lp := m.lp, nr := m.nr } := by simp only [update, hm, hb, Bool.false_eq_true, if_false]
      rw [e]
      exact ⟨h.ctl, h.frame, base⟩
    | true =>
      have e : update c m p pan (some d) = { pan := pan, lp := m.lp.set p (some d), nr := m.nr.set p (some t) } := by
        simp only [update, hm, hb, if_true]
      rw [e]
      simp only [if_true]
      refine ⟨h.ctl, h.frame.trans ⟨rfl, rfl, fun _ _ => rfl, fun _ _ => rfl, fun _ _ => rfl, ?_, ?_⟩, ?_⟩
      · intro a _ _ h3 h4; simp [setS, h3, h4]
      · intro a ha; simp [setS, ha]
      · refine ⟨by simpa [setS] using h.len_px, by simpa [setS] using h.len_py,
          by simpa [setS] using base.len_nx, by simpa [setS] using base.len_ny, by simpa [setS] using base.len_lp,
          h.mlen, by simpa using rel0.mlen_lp, by simpa using rel0.mlen_nr, by simpa [setS] using h.pan, ?_, ?_, ?_⟩
        · simpa [setS] using getD_set_rel₃ base.len_nx base.len_ny rel0.mlen_nr hp base.nr
            (show tgtRel c.H c.W _ _ (some t) from ⟨hx, hy, htr, htc⟩)
        · simpa [setS] using getD_set_rel₂ base.len_lp rel0.mlen_lp hp base.lp
            (show lpRel emb (Fl.sqrt (s.fenv (N.nm .nds))) (some d) by
              simp [lpRel, hnds, env.arith.sqrt_sq, env.arith.sqrt_lt, env.arith.sqrt_le])
        · exact getD_set_rel₂ (R := fun a b => a ≠ none → b ≠ none) rel0.mlen_nr rel0.mlen_lp hp rel0.nrlp (by simp)

end phases

/-- step 2: one pixel of the generated line sweep (the `k`-th in sweep order) is `Prox.pixel` -/
theorem pixel_refines {N : Names} (hN : N.WF) {c : Cfg} {emb : Nat → F} {tg : Nat → Nat → Bool} {row : Nat} {fwd : Bool}
    (fuel : Nat) (s : State F) (m : LineSt) (k : Nat) (hk : k < c.W) (hs : s.ctl = .run)
    (env : SweepEnv N c emb tg row fwd s) (rel : LineRel c emb s m)
    (hpix : s.ienv (N.nm .pixel) = ((posOf c.W fwd k : Nat) : Int)) :
    ((exec fuel (pixelBody N) s).ctl = .run ∨ (exec fuel (pixelBody N) s).ctl = .cont) ∧
    PixFrame N s (exec fuel (pixelBody N) s) ∧
    LineRel c emb (exec fuel (pixelBody N) s) (pixel c tg row fwd m k) := by
  have hp : posOf c.W fwd k < c.W := posOf_lt c.W fwd k hk
  generalize hpdef : posOf c.W fwd k = p at hp hpix
  -- is_target = False
  rw [pixelBody, exec_seq_run _ _ _ _ (by rw [init_exec]; exact hs), init_exec]
  generalize hs1 : ({ s with benv := setS s.benv (N.nm .isTarget) false } : State F) = s1
  have f1 : PixFrame N s s1 := by
    subst hs1
    refine ⟨rfl, rfl, fun _ _ => rfl, fun _ _ => rfl, ?_, fun _ _ _ _ _ => rfl, fun _ _ => rfl⟩
    intro v hv; simp [setS, hv .isTarget rfl]
  have e1 : s1.ia = s.ia ∧ s1.fa = s.fa ∧ s1.ctl = .run ∧ s1.benv (N.nm .isTarget) = false := by
    subst hs1; exact ⟨rfl, rfl, hs, by simp [setS]⟩
  obtain ⟨e1i, e1f, c1, t1⟩ := e1
  have env1 := env.of_pix hN f1
  have hpix1 : s1.ienv (N.nm .pixel) = p := by rw [f1.keepI hN .pixel rfl, hpix]
  -- the target test
  obtain ⟨c2, t2, so2, fe2, ie2, be2⟩ := test_exec N hN s1 fuel c1 p c.W (s1.fa N.vals).length hp hpix1 env1.shp.src
    env1.vshp env1.nv rfl t1
  rw [exec_seq_run _ _ _ _ c2]
  generalize hs2 : exec fuel (bTest N) s1 = s2 at c2 t2 so2 fe2 ie2 be2
  rw [env1.tgt p hp] at t2
  have f12 : PixFrame N s1 s2 :=
    ⟨so2.shp, so2.ext, fun v hv => ie2 v (hv .i rfl), fun v _ => by rw [fe2], fun v hv => be2 v (hv .isTarget rfl),
     fun a _ _ _ _ => by rw [so2.ia], fun a _ => by rw [so2.fa]⟩
  have f2 : PixFrame N s s2 := f1.trans f12
  have env2 := env.of_pix hN f2
  have hpix2 : s2.ienv (N.nm .pixel) = p := by rw [f2.keepI hN .pixel rfl, hpix]
  have e2i : s2.ia = s.ia := by rw [so2.ia, e1i]
  have e2f : s2.fa = s.fa := by rw [so2.fa, e1f]
  cases htg : tg row p with
  | true =>
    rw [htg] at t2
    have hx := tgt_true N s2 fuel c2 c.H c.W p env2.shp hp hpix2 t2
    rw [exec_seq_stop _ _ _ _ (by rw [hx]; simp), hx]
    have em : pixel c tg row fwd m k =
        { pan := m.pan.set p (some (row, p)), lp := m.lp.set p (some 0), nr := m.nr.set p (some (row, p)) } := by
      simp only [pixel, hpdef, htg, if_true]
    rw [em, env2.row_eq, e2i, e2f]
    have ht : tgtRel c.H c.W (p : Int) (row : Int) (some (row, p)) := ⟨rfl, rfl, env.row_lt, hp⟩
    refine ⟨Or.inr rfl, f2.trans ⟨rfl, rfl, fun _ _ => rfl, fun _ _ => rfl, fun _ _ => rfl, ?_, ?_⟩, ?_⟩
    · intro a h1 h2 h3 h4; simp [setS, h1, h2, h3, h4, e2i]
    · intro a ha; simp [setS, ha, e2f]
    · refine ⟨by simpa [setS] using rel.len_px, by simpa [setS] using rel.len_py, by simpa [setS] using rel.len_nx,
        by simpa [setS] using rel.len_ny, by simpa [setS] using rel.len_lp, by simpa using rel.mlen_pan,
        by simpa using rel.mlen_lp, by simpa using rel.mlen_nr, ?_, ?_, ?_, ?_⟩
      · simpa [setS] using getD_set_rel₃ rel.len_px rel.len_py rel.mlen_pan hp rel.pan ht
      · simpa [setS] using getD_set_rel₃ rel.len_nx rel.len_ny rel.mlen_nr hp rel.nr ht
      · simpa [setS] using getD_set_rel₂ rel.len_lp rel.mlen_lp hp rel.lp
          (show lpRel emb (Fl.lit 0 1) (some 0) from ⟨env.arith.zero_lt, env.arith.zero_le, env.arith.zero_sq⟩)
      · exact getD_set_rel₂ (R := fun a b => a ≠ none → b ≠ none) rel.mlen_nr rel.mlen_lp hp rel.nrlp (by simp)
  | false =>
    rw [htg] at t2
    rw [exec_seq_run _ _ _ _ (by rw [tgt_false N s2 fuel t2]; exact c2), tgt_false N s2 fuel t2]
    -- near_distance_square = max_distance ** 2 * 2.0
    rw [bCand, exec_seq_run _ _ _ _ (by rw [nds_exec]; exact c2), nds_exec]
    have h4 : CandRel N c emb s (setNds N s2 (Fl.mul (Fl.mul (s2.fenv (N.nm .maxDistance)) (s2.fenv (N.nm .maxDistance))) (Fl.lit 2 1)))
        m.pan c.max2x2 :=
      ⟨f2.trans (setNds_frame ..), c2, by simp [e2i], by simp [e2i], by simp [e2f],
       by simpa [e2i] using rel.len_px, by simpa [e2i] using rel.len_py, rel.mlen_pan,
       by simpa [e2i] using rel.pan,
       Or.inl ⟨by simp [setNds_fenv_keep N s2 _ hN .maxDistance], rfl⟩⟩
    generalize hs4 : setNds N s2 (Fl.mul (Fl.mul (s2.fenv (N.nm .maxDistance)) (s2.fenv (N.nm .maxDistance))) (Fl.lit 2 1)) = s4
      at h4
    -- above
    obtain ⟨h5, d5⟩ := cand_above hN fuel env hp hpix h4
    rw [exec_seq_run _ _ _ _ h5.ctl]
    generalize hs5 : exec fuel (bAbove N) s4 = s5 at h5 d5
    generalize ha : fromAbove c row p m.pan c.max2x2 = a at h5 d5
    -- last = pixel - step
    have hl : exec fuel (bLastSet N) s5 =
        { s5 with ienv := setS s5.ienv (N.nm .last) (s5.ienv (N.nm .pixel) - s5.ienv (N.nm .step)) } := by
      simp [il, bLastSet]
    obtain ⟨h6, d6⟩ := cand_setI h5 d5 .last rfl (s5.ienv (N.nm .pixel) - s5.ienv (N.nm .step))
    rw [exec_seq_run _ _ _ _ (by rw [hl]; exact h5.ctl), hl]
    have hv6 : s5.ienv (N.nm .pixel) - s5.ienv (N.nm .step) = (p : Int) - (if fwd then 1 else -1) := by
      rw [h5.frame.keepI hN .pixel rfl, h5.frame.keepI hN .step rfl, hpix, env.step]
    rw [hv6] at h6 d6 ⊢
    generalize hs6 : ({ s5 with ienv := setS s5.ienv (N.nm .last) ((p : Int) - (if fwd then 1 else -1)) } : State F) = s6
      at h6 d6
    have hlast : s6.ienv (N.nm .last) = (p : Int) - (if fwd then 1 else -1) := by subst hs6; simp
    have hg6 : if (k == 0) then s6.ienv (N.nm .pixel) = s6.ienv (N.nm .start)
        else (s6.ienv (N.nm .pixel) ≠ s6.ienv (N.nm .start) ∧ s6.ienv (N.nm .last) = ((posOf c.W fwd (k - 1) : Nat) : Int) ∧
          posOf c.W fwd (k - 1) < c.W) := by
      rw [h6.frame.keepI hN .pixel rfl, h6.frame.keepI hN .start rfl, hpix, env.start, hlast, ← hpdef]
      unfold posOf
      by_cases hk0 : k = 0 <;> cases fwd <;> simp [hk0] <;> omega
    obtain ⟨h7, d7⟩ := cand_nb hN fuel env hp hpix h6 d6 .pixel .last .start (k == 0) (posOf c.W fwd (k - 1)) hg6
    rw [exec_seq_run _ _ _ _ h7.ctl]
    generalize hs7 : exec fuel (bNb N .pixel .last .start) s6 = s7 at h7 d7
    generalize hb : stepNb c row p (k == 0) (posOf c.W fwd (k - 1)) a = b at h7 d7
    -- tr = pixel + step
    have htr : exec fuel (bTrSet N) s7 =
        { s7 with ienv := setS s7.ienv (N.nm .tr) (s7.ienv (N.nm .pixel) + s7.ienv (N.nm .step)) } := by
      simp [il, bTrSet]
    obtain ⟨h8, d8⟩ := cand_setI h7 d7 .tr rfl (s7.ienv (N.nm .pixel) + s7.ienv (N.nm .step))
    rw [exec_seq_run _ _ _ _ (by rw [htr]; exact h7.ctl), htr]
    have hv8 : s7.ienv (N.nm .pixel) + s7.ienv (N.nm .step) = (p : Int) + (if fwd then 1 else -1) := by
      rw [h7.frame.keepI hN .pixel rfl, h7.frame.keepI hN .step rfl, hpix, env.step]
    rw [hv8] at h8 d8 ⊢
    generalize hs8 : ({ s7 with ienv := setS s7.ienv (N.nm .tr) ((p : Int) + (if fwd then 1 else -1)) } : State F) = s8
      at h8 d8
    have htrv : s8.ienv (N.nm .tr) = (p : Int) + (if fwd then 1 else -1) := by subst hs8; simp
    have hg8 : if (k + 1 == c.W) then s8.ienv (N.nm .tr) = s8.ienv (N.nm .end_)
        else (s8.ienv (N.nm .tr) ≠ s8.ienv (N.nm .end_) ∧ s8.ienv (N.nm .tr) = ((posOf c.W fwd (k + 1) : Nat) : Int) ∧
          posOf c.W fwd (k + 1) < c.W) := by
      rw [h8.frame.keepI hN .end_ rfl, env.end_, htrv, ← hpdef]
      unfold posOf
      by_cases hk1 : k + 1 = c.W <;> cases fwd <;> simp [hk1] <;> omega
    obtain ⟨h9, d9⟩ := cand_nb hN fuel env hp hpix h8 d8 .tr .tr .end_ (k + 1 == c.W) (posOf c.W fwd (k + 1)) hg8
    rw [exec_seq_run _ _ _ _ h9.ctl]
    generalize hs9 : exec fuel (bNb N .tr .tr .end_) s8 = s9 at h9 d9
    -- update
    obtain ⟨c10, f10, r10⟩ := cand_upd hN fuel env hp hpix rel h9 d9
    have em : pixel c tg row fwd m k =
        update c m p (stepNb c row p (k + 1 == c.W) (posOf c.W fwd (k + 1)) b).1
          (stepNb c row p (k + 1 == c.W) (posOf c.W fwd (k + 1)) b).2 := by
      simp only [pixel, hpdef, htg, Bool.false_eq_true, if_false, ha, hb]
    rw [em]
    exact ⟨Or.inl c10, f10, r10⟩

end XrsVerif.IL.Px
