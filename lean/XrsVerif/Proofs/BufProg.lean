import XrsVerif.Model.BufProg
/-!
  Helper lemmas for C10: the abstraction relation between concrete states and taint sets, its
  preservation by every primitive step, the post-fixpoint property of `aloop`, and the verdicts
  `noInputWrite` / `safeAll` as statements about the checker's result.
-/
namespace XrsVerif.BP

/-- abstraction relation: every variable that concretely points below `k` (into an input buffer) is
    tainted, fresh buffer ids are `≥ k`, and no input buffer has been written -/
def Rel (k : Nat) (s : St) (l : Taint) : Prop :=
  k ≤ s.next ∧ (∀ v b, s.env v = some b → b < k → l.has v = true) ∧ (∀ b, b < k → s.dirty b = false)

theorem has_iff {l : Taint} {v : Nat} : l.has v = true ↔ v ∈ l := by
  simp [Taint.has]

theorem has_clear {l : Taint} {d v : Nat} : (l.clear d).has v = true ↔ (l.has v = true ∧ v ≠ d) := by
  simp [Taint.has, Taint.clear]

theorem has_join {a b : Taint} {v : Nat} : (a.join b).has v = true ↔ (a.has v = true ∨ b.has v = true) := by
  simp only [Taint.has, Taint.join, List.contains_eq_mem, List.mem_append, List.mem_filter,
    decide_eq_true_eq, Bool.not_eq_true', decide_eq_false_iff_not]
  constructor
  · rintro (h | ⟨h, _⟩)
    · exact Or.inl h
    · exact Or.inr h
  · rintro (h | h)
    · exact Or.inl h
    · by_cases hv : v ∈ a
      · exact Or.inl hv
      · exact Or.inr ⟨h, hv⟩

theorem sub_iff {a b : Taint} : a.sub b = true ↔ ∀ v, a.has v = true → b.has v = true := by
  simp [Taint.sub, Taint.has]

theorem Rel.weaken {k : Nat} {s : St} {l m : Taint} (h : Rel k s l)
    (hsub : ∀ v, l.has v = true → m.has v = true) : Rel k s m :=
  ⟨h.1, fun v b hv hb => hsub v (h.2.1 v b hv hb), h.2.2⟩

theorem rel_init (k : Nat) : Rel k (init k) (inputs k) := by
  refine ⟨Nat.le_refl k, ?_, fun _ _ => rfl⟩
  intro v b hv _
  simp only [init] at hv
  by_cases hvk : v < k
  · simp [inputs, Taint.has, hvk]
  · simp [hvk] at hv

theorem has_condCons {l : Taint} {v : Nat} (c : Bool) (d : Nat) (h : l.has v = true) :
    Taint.has (if c then d :: l else l) v = true := by
  cases c
  · exact h
  · simp only [if_true, Taint.has, List.contains_cons, Bool.or_eq_true]
    exact Or.inr h

theorem rel_bindFresh {k : Nat} {s : St} {l : Taint} (d : Nat) (h : Rel k s l) :
    Rel k (s.bindFresh d) (l.clear d) := by
  obtain ⟨hn, henv, hd⟩ := h
  refine ⟨by simp only [St.bindFresh]; omega, ?_, by simpa [St.bindFresh] using hd⟩
  intro v b hv hb
  simp only [St.bindFresh] at hv
  by_cases hvd : v = d
  · simp only [hvd, if_true, Option.some.injEq] at hv
    omega
  · simp only [hvd, if_false] at hv
    exact has_clear.mpr ⟨henv v b hv hb, hvd⟩

theorem rel_bindFresh' {k : Nat} {s : St} {l : Taint} (d : Nat) (flag : Bool) (h : Rel k s l) :
    Rel k (s.bindFresh d) (if flag then d :: l.clear d else l.clear d) :=
  (rel_bindFresh d h).weaken fun _ => has_condCons flag d

theorem rel_bindTo' {k : Nat} {s : St} {l : Taint} (d : Nat) (ob : Option Nat) (flag : Bool) (h : Rel k s l)
    (hf : ∀ b, ob = some b → b < k → flag = true) :
    Rel k (s.bindTo d ob) (if flag then d :: l.clear d else l.clear d) := by
  obtain ⟨hn, henv, hd⟩ := h
  refine ⟨by simpa [St.bindTo] using hn, ?_, by simpa [St.bindTo] using hd⟩
  intro v b hv hb
  simp only [St.bindTo] at hv
  by_cases hvd : v = d
  · simp only [hvd, if_true] at hv
    rw [if_pos (hf b hv hb), hvd]
    simp [Taint.has]
  · simp only [hvd, if_false] at hv
    exact has_condCons flag d (has_clear.mpr ⟨henv v b hv hb, hvd⟩)

theorem rel_bindTo {k : Nat} {s : St} {l : Taint} (d src : Nat) (h : Rel k s l) :
    Rel k (s.bindTo d (s.env src)) (if l.has src then d :: l.clear d else l.clear d) :=
  rel_bindTo' d _ _ h fun b hb hlt => h.2.1 src b hb hlt

/-- filling one slot of a wrapper primitive's result: the source is read in the state `pre` the primitive
    was called in, whose abstraction is `l0` -/
theorem rel_bindPart {k : Nat} {s pre : St} {l l0 : Taint} (p : Part) (sh : Bool)
    (hpre : Rel k pre l0) (h : Rel k s l) (hok : p.admits sh) :
    Rel k (s.bindPart pre p sh) (l.bindPart l0 p) := by
  cases sh with
  | true =>
    simp only [St.bindPart, if_true, Taint.bindPart]
    refine rel_bindTo' p.dst _ (p.tainted l0) h ?_
    intro b hb hlt
    simp only [Part.admits, if_true] at hok
    cases hsrc : p.src with
    | none => simp [hsrc] at hb
    | some x =>
      simp only [hsrc, Option.bind_some] at hb
      simp [Part.tainted, hok, hsrc, hpre.2.1 x b hb hlt]
  | false =>
    simp only [St.bindPart, Bool.false_eq_true, if_false, Taint.bindPart]
    exact rel_bindFresh' p.dst _ h

theorem step_rel {k : Nat} {s s' : St} {l l' : Taint} {o : Op}
    (hx : OpStep o s s') (h : Rel k s l) (ha : astep l o = some l') : Rel k s' l' := by
  cases hx with
  | alloc d =>
    simp only [astep, Option.some.injEq] at ha; subst ha; exact rel_bindFresh d h
  | copyOf d src =>
    simp only [astep, Option.some.injEq] at ha; subst ha; exact rel_bindFresh d h
  | viewOf d src =>
    simp only [astep, Option.some.injEq] at ha; subst ha; exact rel_bindTo d src h
  | maybeIsView d src =>
    simp only [astep, Option.some.injEq] at ha; subst ha; exact rel_bindTo d src h
  | maybeIsCopy d src =>
    simp only [astep, Option.some.injEq] at ha; subst ha
    exact rel_bindFresh' d _ h
  | write d =>
    simp only [astep] at ha
    split at ha
    · simp at ha
    · rename_i hnot
      simp only [Option.some.injEq] at ha; subst ha
      obtain ⟨hn, henv, hd⟩ := h
      cases hed : s.env d with
      | none => exact ⟨hn, henv, hd⟩
      | some b =>
        refine ⟨by simpa [St.mark] using hn, by simpa [St.mark] using henv, ?_⟩
        intro x hx
        have hbx : x ≠ b := by
          intro hh; subst hh
          exact hnot (henv d x hed hx)
        simp [St.mark, hbx, hd x hx]
  | unknown => simp [astep] at ha
  | build a b c x y z _ ha' hb' hc' =>
    simp only [astep, Option.some.injEq] at ha; subst ha
    exact rel_bindPart c z h (rel_bindPart b y h (rel_bindPart a x h h ha') hb') hc'

theorem aloop_spec {f : Taint → Option Taint} {fuel : Nat} {l m : Taint}
    (h : aloop f fuel l = some m) :
    (∀ v, l.has v = true → m.has v = true) ∧ ∃ m', f m = some m' ∧ m'.sub m = true := by
  induction fuel generalizing l with
  | zero => simp [aloop] at h
  | succ n ih =>
    simp only [aloop] at h
    cases hf : f l with
    | none => simp [hf] at h
    | some l' =>
      simp only [hf] at h
      by_cases hs : l'.sub l = true
      · simp only [hs, if_true, Option.some.injEq] at h; subst h
        exact ⟨fun _ hv => hv, l', hf, hs⟩
      · simp only [hs] at h
        obtain ⟨h1, h2⟩ := ih h
        exact ⟨fun v hv => h1 v (has_join.mpr (Or.inl hv)), h2⟩

theorem aloop_stable {f : Taint → Option Taint} {fuel : Nat} {l m : Taint}
    (h : aloop f fuel l = some m) : aloop f fuel m = some m := by
  obtain ⟨_, m', hf, hs⟩ := aloop_spec h
  cases fuel with
  | zero => simp [aloop] at h
  | succ n => simp [aloop, hf, hs]

theorem acheck_op_some {o : Op} {k : Prog} {l l' : Taint} (h : acheck (.op o k) l = some l') :
    ∃ l1, astep l o = some l1 ∧ acheck k l1 = some l' := by
  simp only [acheck] at h
  split at h
  · exact ⟨_, ‹_›, h⟩
  · simp at h

theorem acheck_ite_some {p q k : Prog} {l l' : Taint} (h : acheck (.ite p q k) l = some l') :
    ∃ a b, acheck p l = some a ∧ acheck q l = some b ∧ acheck k (a.join b) = some l' := by
  simp only [acheck] at h
  split at h
  · exact ⟨_, _, ‹_›, ‹_›, h⟩
  · simp at h

theorem acheck_loop_some {b k : Prog} {l l' : Taint} (h : acheck (.loop b k) l = some l') :
    ∃ m, aloop (acheck b) loopFuel l = some m ∧ acheck k m = some l' := by
  simp only [acheck] at h
  split at h
  · exact ⟨_, ‹_›, h⟩
  · simp at h

theorem noInputWrite_iff {p : Prog} {a0 : Taint} : noInputWrite p a0 = true ↔ ∃ l, acheck p a0 = some l :=
  Option.isSome_iff_exists

theorem safeAll_iff {p : Prog} {a0 : Taint} {rets : List Nat} :
    safeAll p a0 rets = true ↔ ∃ l, acheck p a0 = some l ∧ ∀ r ∈ rets, l.has r = false := by
  unfold safeAll
  cases acheck p a0 <;> simp

theorem safe_eq_safeAll (p : Prog) (a0 : Taint) (ret : Nat) : safe p a0 ret = safeAll p a0 [ret] := by
  unfold safe safeAll
  cases acheck p a0 <;> simp

theorem noInputWrite_of_safeAll {p : Prog} {a0 : Taint} {rets : List Nat} (h : safeAll p a0 rets = true) :
    noInputWrite p a0 = true :=
  noInputWrite_iff.2 ((safeAll_iff.1 h).imp fun _ => And.left)

/-- the checker walks the whole program (both branches, every loop body at least once), so a program it accepts
    has no unclassified construct anywhere -/
theorem acheck_no_unknown {p : Prog} : ∀ {l l' : Taint}, acheck p l = some l' → p.hasUnknown = false := by
  induction p with
  | done => intro _ _ _; rfl
  | op o k ih =>
    intro l l' h
    obtain ⟨l1, h1, hk⟩ := acheck_op_some h
    cases o with
    | unknown => cases h1
    | _ => exact ih hk
  | ite p q k ihp ihq ihk =>
    intro l l' h
    obtain ⟨a, b, ha, hb, hk⟩ := acheck_ite_some h
    simp only [Prog.hasUnknown, ihp ha, ihq hb, ihk hk, Bool.or_self]
  | loop b k ihb ihk =>
    intro l l' h
    obtain ⟨m, hm, hk⟩ := acheck_loop_some h
    obtain ⟨_, m', hf, _⟩ := aloop_spec hm
    simp only [Prog.hasUnknown, ihb hf, ihk hk, Bool.or_self]

end XrsVerif.BP
