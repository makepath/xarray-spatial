import XrsVerif.Proofs.ILVsSweepEv
import XrsVerif.Proofs.ILViewshedBase
import XrsVerif.Proofs.ILVsGeom
import XrsVerif.Proofs.ILVsAngle
/-
  What an ENTER event and the initial fill of the generated sweep share: the node both build
  from three elevations (`enterNodeF`), then `id = _pop(idle)` and the inlined `_insert_into_tree` as a black box with the
  contract `InsContract` (the hand model's `leafInsert` up to rebalancing): `popIns_exec`, `insNode_exec`.
-/
namespace XrsVerif.ILSw
open XrsVerif XrsVerif.IL XrsVerif.ILVs XrsVerif.Viewshed XrsVerif.ViewshedEvents
variable {F : Type} [Fl F]

/-- the node of the cell `(r, c)` the ENTER branch builds from its event record `(ang, elev0, elev1, elev2)`:
    key, the gradients at the entering corner / centre / exiting corner, the stored entering bearing and the recomputed
    centre and exiting bearings (before the adjustments across the east ray) -/
def enterNodeF (r c vr vc : Int) (ang el0 el1 el2 ve ew ns : F) : List F :=
  [keyF r c vr vc ew ns,
   gradEventF (halfF r (posOff 1 (r - vr) (c - vc)).1) (halfF c (posOff 1 (r - vr) (c - vc)).2) el0 vr vc ve ew ns,
   gradCellF r c el1 vr vc ve ew ns,
   gradEventF (halfF r (posOff (-1) (r - vr) (c - vc)).1) (halfF c (posOff (-1) (r - vr) (c - vc)).2) el2 vr vc ve ew ns,
   ang,
   angF (halfF c (posOff 0 (r - vr) (c - vc)).2) (halfF r (posOff 0 (r - vr) (c - vc)).1) (Fl.lit vc 1) (Fl.lit vr 1),
   angF (halfF c (posOff (-1) (r - vr) (c - vc)).2) (halfF r (posOff (-1) (r - vr) (c - vc)).1) (Fl.lit vc 1) (Fl.lit vr 1)]

/-- the node held by the seven-entry buffer `status_node` -/
def nodeOfList (l : List F) : Node (Fv F) :=
  ⟨⟨l.getD 0 Fl.nan⟩, ⟨l.getD 1 Fl.nan⟩, ⟨l.getD 2 Fl.nan⟩, ⟨l.getD 3 Fl.nan⟩, ⟨l.getD 4 Fl.nan⟩, ⟨l.getD 5 Fl.nan⟩, ⟨l.getD 6 Fl.nan⟩⟩

/-- **contract of an inlined `_insert_into_tree`** (locals prefixed `P`; the hand model's `leafInsert` followed by the colour
    fixup, `Rebal`): a fresh row `node_id` receives the node held by `status_node`; the arrays afterwards hold a well-linked
    tree over the old rows and the new one whose abstraction is the model's insertion up to rebalancing; `ret0` is the root -/
def InsContract (F : Type) [Fl F] (ins : St) (P : String) : Prop :=
  ∀ (s : State F) (fuel n : Nat) (sh : Sh) (nid : Nat), s.ctl = .run → SVS s n →
    Linked (s.ia "status_struct") n (-1) sh → sh.idxs.Nodup → sh ≠ .nil → s.ienv (P ++ "root") = sh.ptr →
    vAt (s.fa "status_values") (n - 1) 7 = smallest → s.ienv (P ++ "node_id") = nid → nid + 1 < n → nid ∉ sh.idxs →
    s.shp "status_node" = [7] → (s.fa "status_node").length = 7 → 2 * sh.height + sh.size + 4 ≤ fuel →
    ∃ (s' : State F) (sh' : Sh), exec fuel (.scope ins) s = s' ∧ TreeFrame P s s' ∧ SVS s' n ∧
      Linked (s'.ia "status_struct") n (-1) sh' ∧ sh'.idxs.Nodup ∧ s'.ienv (P ++ "ret0") = sh'.ptr ∧
      sh'.idxs.Perm (nid :: sh.idxs) ∧ vAt (s'.fa "status_values") (n - 1) 7 = smallest ∧
      Rebal smallest (leafInsert (nodeOfList (s.fa "status_node")) (absT (s.fa "status_values") (s.ia "status_struct") sh))
        (absT (s'.fa "status_values") (s'.ia "status_struct") sh')

/-- `2π` as the program computes it -/
def twoPi : F := Fl.mul (Fl.lit 2 1) piF

/-- **`id = _pop(idle); root = _insert_into_tree(…, root, id, status_node)`** (locals prefixed `pp` resp. `P`; the
    insertion a black box with contract `InsContract`): a row is popped from the idle stack and receives the node held by
    `status_node` -- the arrays then hold the model's `leafInsert` up to rebalancing -- and `root` is updated -/
theorem popIns_exec (pp P : String) (ins : St) (hi : InsContract F ins P)
    (hP : (∀ v ∈ swLiveI, P.isPrefixOf v = false) ∧ (∀ v ∈ swLiveF, P.isPrefixOf v = false))
    (hPh : P.toList.head? = some '_') (hpp : pp.toList.head? = some '_')
    (s : State F) (fuel n : Nat) (sh : Sh) (top nid : Nat) (hs : s.ctl = .run) (hv : SVS s n)
    (hL : Linked (s.ia "status_struct") n (-1) sh) (hN : sh.idxs.Nodup) (hne : sh ≠ .nil) (hroot : s.ienv "root" = sh.ptr)
    (hS : vAt (s.fa "status_values") (n - 1) 7 = smallest)
    (hfuel : 2 * sh.height + sh.size + 4 ≤ fuel) (shN : s.shp "status_node" = [7]) (lenN : (s.fa "status_node").length = 7)
    (shI : s.shp "idle" = [n]) (htop : (s.ia "idle").getD 0 0 = top) (htn : top < n)
    (hnid : (s.ia "idle").getD top 0 = nid) (hnn : nid + 1 < n) (hfresh : nid ∉ sh.idxs) :
    ∃ (s' : State F) (sh' : Sh), exec fuel (popCall pp (insCall P ins)) s = s' ∧ s'.ctl = .run ∧ SVS s' n ∧
      Linked (s'.ia "status_struct") n (-1) sh' ∧ sh'.idxs.Nodup ∧ s'.ienv "root" = sh'.ptr ∧
      sh'.idxs.Perm (nid :: sh.idxs) ∧ vAt (s'.fa "status_values") (n - 1) 7 = smallest ∧
      Rebal smallest (leafInsert (nodeOfList (s.fa "status_node"))
        (absT (s.fa "status_values") (s.ia "status_struct") sh)) (absT (s'.fa "status_values") (s'.ia "status_struct") sh') ∧
      s'.ia "idle" = (s.ia "idle").set 0 ((top : Int) - 1) ∧
      (∀ a, a ≠ "status_values" → s'.fa a = s.fa a) ∧
      (∀ a, a ≠ "status_struct" → a ≠ "idle" → s'.ia a = s.ia a) ∧ s'.shp = s.shp ∧
      (∀ v ∈ swLiveI, v ≠ "root" → s'.ienv v = s.ienv v) ∧ (∀ v ∈ swLiveF, s'.fenv v = s.fenv v) := by
  obtain ⟨ie, fe, be, ia, fa, shp, ext, ctl⟩ := s
  simp only at hs hv hL hN hroot hS shN lenN shI htop hnid; subst hs
  have i0 : inRange (0 : Int) n = true := inRange_of_lt 0 n (by omega)
  have o0 : off1 [n] (0 : Int) = 0 := off1_nat n 0
  have htop' : (ia "idle")[0]?.getD 0 = (top : Int) := by simpa using htop
  have it : inRange (top : Int) n = true := inRange_of_lt top n htn
  have ot : off1 [n] (top : Int) = top := off1_nat n top
  have hnid' : (ia "idle")[top]?.getD 0 = (nid : Int) := by simpa using hnid
  let ie1 := setS (setS (setS ie (pp ++ "item") nid) (pp ++ "ret0") nid) "id" nid
  have hpop : exec fuel (popCall pp (insCall P ins)) (⟨ie, fe, be, ia, fa, shp, ext, .run⟩ : State F) =
      exec fuel (insCall P ins) ⟨ie1, fe, be, setS ia "idle" ((ia "idle").set 0 ((top : Int) - 1)), fa, shp, ext, .run⟩ := by
    generalize insCall P ins = rest
    simp [il, popCall, shI, i0, o0, htop', it, ot, hnid', ie1]
  have hlive : ∀ v ∈ swLiveI, ie1 v = ie v := fun v hv => by
    have hid : v ≠ "id" := by revert v; apply swLiveI_all <;> simp
    simp [ie1, setS_apply, hid, ne_inlined v pp _ (swLive_head v hv) hpp]
  rw [hpop]
  let s1 : State F := ⟨setS (setS ie1 (P ++ "root") (ie1 "root")) (P ++ "node_id") (ie1 "id"), fe, be,
    setS ia "idle" ((ia "idle").set 0 ((top : Int) - 1)), fa, shp, ext, .run⟩
  obtain ⟨s2, sh', hex, fr, hv2, hL2, hN2, hr0, hperm, hS2, hmodel⟩ := hi s1 fuel n sh nid rfl
    ⟨hv.shpV, hv.shpN, hv.lenV, by simpa [s1, setS_apply] using hv.lenN, hv.pos⟩
    (by simpa [s1, setS_apply] using hL) hN hne
    (by simp [s1, setS_apply, hlive "root" (by simp [swLiveI]), hroot]) hS
    (by simp [s1, ie1, setS_apply]) hnn hfresh shN lenN hfuel
  have h12 : exec fuel (.seq (.setI (P ++ "root") (.var "root")) (.setI (P ++ "node_id") (.var "id")))
      (⟨ie1, fe, be, setS ia "idle" ((ia "idle").set 0 ((top : Int) - 1)), fa, shp, ext, .run⟩ : State F) = s1 := by
    simp [il, s1, ne_inlined "id" P _ (by simp) hPh]
  rw [insCall, exec_seq_assoc, exec_seq_eq _ _ _ _ _ h12 rfl, exec_seq_eq _ _ _ _ _ hex fr.ctl]
  obtain ⟨hc2, hsh2, hext2, hfa2, hia2, hie2, hfe2⟩ := fr
  rw [exec_setI _ _ _ _ (by simp [IE.ok])]
  obtain ⟨ie2, fe2, be2, ia2, fa2, shp2, ext2, ctl2⟩ := s2
  simp only at hc2 hsh2 hext2 hfa2 hia2 hie2 hfe2 hv2 hL2 hN2 hr0 hS2 hmodel; subst hc2 hsh2 hext2
  refine ⟨_, sh', rfl, rfl, ⟨hv2.shpV, hv2.shpN, hv2.lenV, hv2.lenN, hv2.pos⟩, hL2, hN2, ?_, hperm, hS2, ?_, ?_, hfa2, ?_, rfl, ?_, ?_⟩
  · simp [il]; exact hr0
  · simpa [s1, setS_apply] using hmodel
  · simp only []; rw [hia2 _ (by simp)]; simp [s1]
  · intro a h1 h2; simp only []; rw [hia2 a h1]; simp [s1, setS_apply, h2]
  · intro v hv hne'
    simp only [setS_apply, if_neg hne']
    rw [hie2 v (hP.1 v hv)]
    simp [s1, setS_apply, ne_inlined v P _ (swLive_head v hv) hPh, hlive v hv]
  · intro v hv
    simp only []
    rw [hfe2 v (hP.2 v hv)]

/-- **from the finished node on**, for an ENTER event and for the initial fill alike: `s2`, the state in which the node
    has been built, differs from the state `s` at the head of the iteration in the node buffer and in dead scalars only;
    with `node` in the buffer, `_pop` and the insertion leave what `popIns_exec` says, read from `s` -/
theorem insNode_exec (pp P : String) (ins : St) (hi : InsContract F ins P)
    (hP : (∀ v ∈ swLiveI, P.isPrefixOf v = false) ∧ (∀ v ∈ swLiveF, P.isPrefixOf v = false))
    (hPh : P.toList.head? = some '_') (hpp : pp.toList.head? = some '_')
    (s s2 : State F) (fuel n : Nat) (sh : Sh) (top nid : Nat) (node : List F) (hnode : node.length = 7)
    (c_ctl : s2.ctl = .run) (c_ia : s2.ia = s.ia) (c_shp : s2.shp = s.shp) (c_fa : ∀ a, a ≠ "status_node" → s2.fa a = s.fa a)
    (c_li : ∀ v ∈ swLiveI, s2.ienv v = s.ienv v) (c_lf : ∀ v ∈ swLiveF, s2.fenv v = s.fenv v) (hv : SVS s n)
    (hL : Linked (s.ia "status_struct") n (-1) sh) (hN : sh.idxs.Nodup) (hne : sh ≠ .nil) (hroot : s.ienv "root" = sh.ptr)
    (hS : vAt (s.fa "status_values") (n - 1) 7 = smallest) (shN : s.shp "status_node" = [7])
    (shI : s.shp "idle" = [n]) (htop : (s.ia "idle").getD 0 0 = top) (htn : top < n)
    (hnid : (s.ia "idle").getD top 0 = nid) (hnn : nid + 1 < n) (hfresh : nid ∉ sh.idxs)
    (hfuel : 2 * sh.height + sh.size + 4 ≤ fuel) :
    ∃ (s' : State F) (sh' : Sh),
      exec fuel (popCall pp (insCall P ins)) { s2 with fa := setS s2.fa "status_node" node } = s' ∧ s'.ctl = .run ∧ SVS s' n ∧
      Linked (s'.ia "status_struct") n (-1) sh' ∧ sh'.idxs.Nodup ∧ s'.ienv "root" = sh'.ptr ∧
      sh'.idxs.Perm (nid :: sh.idxs) ∧ vAt (s'.fa "status_values") (n - 1) 7 = smallest ∧
      Rebal smallest (leafInsert (nodeOfList node) (absT (s.fa "status_values") (s.ia "status_struct") sh))
        (absT (s'.fa "status_values") (s'.ia "status_struct") sh') ∧
      s'.ia "idle" = (s.ia "idle").set 0 ((top : Int) - 1) ∧
      (∀ a, a ≠ "status_values" → a ≠ "status_node" → s'.fa a = s.fa a) ∧
      (∀ a, a ≠ "status_struct" → a ≠ "idle" → s'.ia a = s.ia a) ∧ s'.shp = s.shp ∧
      (∀ v ∈ swLiveI, v ≠ "root" → s'.ienv v = s.ienv v) ∧ (∀ v ∈ swLiveF, s'.fenv v = s.fenv v) := by
  have fa2 : ∀ a, a ≠ "status_node" → setS s2.fa "status_node" node a = s.fa a := fun a h => by
    rw [setS_apply, if_neg h, c_fa a h]
  have fv := fa2 "status_values" (by simp)
  obtain ⟨s', sh', e, d1, d2, d3, d4, d5, d6, d7, d8, d9, d10, d11, d12, d13, d14⟩ := popIns_exec pp P ins hi hP hPh hpp
    { s2 with fa := setS s2.fa "status_node" node } fuel n sh top nid c_ctl
    ⟨c_shp ▸ hv.shpV, c_shp ▸ hv.shpN, (congrArg List.length fv).trans hv.lenV, c_ia ▸ hv.lenN, hv.pos⟩ (c_ia ▸ hL) hN hne
    ((c_li _ (by simp [swLiveI])).trans hroot) ((congrArg (vAt · (n - 1) 7) fv).trans hS) hfuel (c_shp ▸ shN) (by simp [hnode])
    (c_shp ▸ shI) (c_ia ▸ htop) htn (c_ia ▸ hnid) hnn hfresh
  simp only [fv, setS_apply, if_true, c_ia] at d8 d9
  exact ⟨s', sh', e, d1, d2, d3, d4, d5, d6, d7, d8, d9, fun a h1 h2 => (d10 a h1).trans (fa2 a h2),
    fun a h1 h2 => (d11 a h1 h2).trans (by rw [c_ia]), d12.trans c_shp, fun v hv hne' => (d13 v hv hne').trans (c_li v hv),
    fun v hv => (d14 v hv).trans (c_lf v hv)⟩

end XrsVerif.ILSw
