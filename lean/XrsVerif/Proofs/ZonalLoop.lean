import XrsVerif.Model.ZonalLoop
/-
  The loop program of `_strides` (in the translator's normal form) computes the
  hand model `strides` of Model/Zonal.lean, for all arrays.

  Normal form (harness/facts_zonal.py): temporaries that are bound once are inlined
  (`num_elements = flatten_zones.shape[0]`), the array parameters are called `a0`, `a1`, the scalars
  `v0`, `v1`, ... in the order in which they are first bound, `x += k` is `x = x + k`, the allocation of the
  returned array is `outLen`.
-/
namespace XrsVerif.Zonal
variable {κ : Type} [DecidableEq κ]

/-- `_strides` as written in /repo, in normal form:
    `count = 0; for i in range(len(unique_zones)): while count < len(flatten_zones) and
     flatten_zones[count] == unique_zones[i]: count += 1; strides[i] = count` -/
def stridesSrc : LProg :=
  { outLen := .len "a1"
    body := [ .assign "v0" (.lit 0),
              .forRange "v1" (.len "a1")
                [ .whileDo (.and (.lt (.var "v0") (.len "a0")) (.eqAt "a0" (.var "v0") "a1" (.var "v1")))
                    [ .assign "v0" (.add (.var "v0") (.lit 1)) ],
                  .store (.var "v1") (.var "v0") ] ]
    ok := true }

/-- the two array parameters: `flatten_zones`, `unique_zones` -/
def stridesArrs (fz uz : List κ) : String → List κ :=
  fun a => if a = "a0" then fz else if a = "a1" then uz else []

omit [DecidableEq κ] in
@[simp] theorem stridesArrs_fz (fz uz : List κ) : stridesArrs fz uz "a0" = fz := by simp [stridesArrs]
omit [DecidableEq κ] in
@[simp] theorem stridesArrs_uz (fz uz : List κ) : stridesArrs fz uz "a1" = uz := by simp [stridesArrs]

abbrev whileC : BE := .and (.lt (.var "v0") (.len "a0")) (.eqAt "a0" (.var "v0") "a1" (.var "v1"))
abbrev whileB : List LS := [ .assign "v0" (.add (.var "v0") (.lit 1)) ]

theorem while_run (fz uz : List κ) (u : κ) (fuel : Nat) :
    ∀ (s : LState) (c : Nat), s.env "v0" = c → uz[s.env "v1"]? = some u → fz.length - c < fuel →
      let r := LS.exec (stridesArrs fz uz) fuel (.whileDo whileC whileB) s
      r.env "v0" = c + ((fz.drop c).takeWhile (· == u)).length ∧ r.out = s.out ∧
      ∀ v, v ≠ "v0" → r.env v = s.env v := by
  induction fuel with
  | zero => intro s c _ _ h; omega
  | succ fuel ih =>
    intro s c hc hi hf
    simp only [LS.exec]
    by_cases hcond : BE.eval (stridesArrs fz uz) s.env whileC = true
    · -- one more element equal to u
      simp only [hcond, if_true]
      simp only [BE.eval, NE.eval, hc, stridesArrs_fz, stridesArrs_uz, Bool.and_eq_true, decide_eq_true_eq] at hcond
      obtain ⟨hlt, heq⟩ := hcond
      have hfz : fz[c]? = some fz[c] := List.getElem?_eq_getElem hlt
      simp only [hfz, hi] at heq
      have heq' : fz[c] = u := by simpa using heq
      let s1 := execList (stridesArrs fz uz) fuel whileB s
      have hs1c : s1.env "v0" = c + 1 := by simp [s1, execList, LS.exec, setEnv, NE.eval, hc]
      have hs1o : s1.out = s.out := by simp [s1, execList, LS.exec]
      have hs1v : ∀ v, v ≠ "v0" → s1.env v = s.env v := by
        intro v hv; simp [s1, execList, LS.exec, setEnv, hv]
      obtain ⟨h1, h2, h3⟩ := ih s1 (c + 1) hs1c (by rw [hs1v _ (by decide)]; exact hi) (by omega)
      refine ⟨?_, by rw [h2, hs1o], fun v hv => by rw [h3 v hv, hs1v v hv]⟩
      rw [h1]
      have hd : fz.drop c = fz[c] :: fz.drop (c + 1) := List.drop_eq_getElem_cons hlt
      rw [hd, List.takeWhile_cons]
      simp [heq']
      omega
    · -- the loop stops
      simp only [hcond]
      refine ⟨?_, rfl, fun _ _ => rfl⟩
      simp only [Bool.not_eq_true] at hcond
      simp only [Bool.false_eq_true, if_false, hc]
      simp only [BE.eval, NE.eval, hc, stridesArrs_fz, stridesArrs_uz, hi] at hcond
      by_cases hlt : c < fz.length
      · have hfz : fz[c]? = some fz[c] := List.getElem?_eq_getElem hlt
        simp only [hlt, decide_true, Bool.true_and, hfz] at hcond
        have hd : fz.drop c = fz[c] :: fz.drop (c + 1) := List.drop_eq_getElem_cons hlt
        rw [hd, List.takeWhile_cons]
        have : (fz[c] == u) = false := by simpa using hcond
        simp [this]
      · have : fz.drop c = [] := List.drop_eq_nil_of_le (by omega)
        simp [this]

abbrev forBody : List LS := [ .whileDo whileC whileB, .store (.var "v1") (.var "v0") ]

theorem for_step (fz uz : List κ) (u : κ) (fuel : Nat) (s : LState) (c j : Nat)
    (hc : s.env "v0" = c) (hj : uz[j]? = some u) (hf : fz.length < fuel) :
    let r := execList (stridesArrs fz uz) fuel forBody { s with env := setEnv s.env "v1" j }
    r.env "v0" = c + ((fz.drop c).takeWhile (· == u)).length ∧
    r.out = s.out.set j (c + ((fz.drop c).takeWhile (· == u)).length) := by
  obtain ⟨h1, h2, h3⟩ := while_run fz uz u fuel { s with env := setEnv s.env "v1" j } c
    (by simp [setEnv, hc]) (by simpa [setEnv] using hj) (by omega)
  simp only [execList, LS.exec, NE.eval]
  refine ⟨h1, ?_⟩
  rw [h1, h2, h3 _ (by decide)]; simp [setEnv]

theorem for_run (fz uz : List κ) (fuel : Nat) (hf : fz.length < fuel) :
    ∀ (us pre : List κ) (s : LState) (c : Nat), uz = pre ++ us →
      s.env "v0" = c → s.out.length = uz.length →
      ((List.range' pre.length us.length).foldl
          (fun st i => execList (stridesArrs fz uz) fuel forBody { st with env := setEnv st.env "v1" i }) s).out
        = s.out.take pre.length ++ strides (fz.drop c) c us := by
  intro us
  induction us with
  | nil =>
    intro pre s c huz _ hl
    simp only [List.length_nil, List.range'_zero, List.foldl_nil, strides, List.append_nil]
    rw [huz, List.append_nil] at hl
    rw [← hl, List.take_length]
  | cons u us ih =>
    intro pre s c huz hc hl
    have hj : uz[pre.length]? = some u := by rw [huz]; simp
    obtain ⟨h1, h3⟩ := for_step fz uz u fuel s c pre.length hc hj hf
    simp only [List.length_cons, List.range'_succ, List.foldl_cons]
    have := ih (pre ++ [u]) _ _ (by rw [huz]; simp) h1 (by rw [h3]; simpa using hl)
    simp only [List.length_append, List.length_cons, List.length_nil] at this
    rw [this, h3]
    have hlt : pre.length < s.out.length := by rw [hl, huz]; simp
    simp only [strides]
    rw [List.drop_drop]
    have : (s.out.set pre.length (c + ((fz.drop c).takeWhile (· == u)).length)).take (pre.length + 1)
        = s.out.take pre.length ++ [c + ((fz.drop c).takeWhile (· == u)).length] := by
      rw [List.take_add_one]
      simp [List.take_set_of_le, hlt]
    rw [this]
    simp

/-- **the program written in /repo computes the model's `strides`** for every pair of arrays
    (`fuel` only has to exceed the number of elements: every `while` makes at most that many steps) -/
theorem stridesSrc_run (fz uz : List κ) (fuel : Nat) (hf : fz.length < fuel) :
    stridesSrc.run (stridesArrs fz uz) fuel = strides fz 0 uz := by
  simp only [LProg.run, stridesSrc, execList, LS.exec, NE.eval, stridesArrs_uz]
  have h := for_run fz uz fuel hf uz [] { env := setEnv (fun _ => 0) "v0" 0, out := List.replicate uz.length 0 } 0 rfl
    (by simp [setEnv]) (by simp)
  simp only [List.length_nil, List.take_zero, List.nil_append, List.drop_zero] at h
  rw [← h]
  simp only [List.range_eq_range', execList, LS.exec, NE.eval]

end XrsVerif.Zonal
