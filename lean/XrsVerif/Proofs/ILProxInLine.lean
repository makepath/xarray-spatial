import XrsVerif.Proofs.ILProxMerge
/-
  Step 4: the relation between a state of the generated `_process_numpy` and the model
  inside one raster line of a pass.

  `PNInput` are the hypotheses on the inputs, `PNStatic` what holds of every state between the lines of the passes.
  Between the loops of a line the state is described by `InLine … st m al`: the static part, `line = n`,
  `scan_line = img[n]`, the work arrays against the model's line state `m` (`LineRel`), line `n` of `output_img`
  against the targets `al` (`OutRow`), the other lines untouched.  Every loop of a line is one step on `(m, al)`
  (Proofs/ILProxCall.lean, Proofs/ILProxLines.lean); `InLine.next` carries the relation over such a step.
-/
namespace XrsVerif.IL.Px
open XrsVerif XrsVerif.Prox
variable {F : Type} [Fl F]
set_option linter.unusedSectionVars false
attribute [-simp] List.getD_eq_getElem?_getD
attribute [local simp] List.getD_cons_zero List.getD_cons_succ

/-- what the pieces of one line of a pass leave unchanged: shapes, `_distance`, the caller's scalars (names not
    starting with `_`, except the loop counter `i`), the inputs and `scan_line` -/
structure RowFrame (s r : State F) : Prop where
  shp : r.shp = s.shp
  ext : r.ext = s.ext
  ienv : ∀ v, v.toList.head? ≠ some '_' → v ≠ "i" → r.ienv v = s.ienv v
  fenv : ∀ v, v.toList.head? ≠ some '_' → r.fenv v = s.fenv v
  fa : ∀ a, a ≠ "line_proximity" → a ≠ "output_img" → a ≠ "img_distance" → r.fa a = s.fa a

theorem RowFrame.refl (s : State F) : RowFrame s s := ⟨rfl, rfl, fun _ _ _ => rfl, fun _ _ => rfl, fun _ _ _ _ => rfl⟩

theorem RowFrame.trans {s r t : State F} (h1 : RowFrame s r) (h2 : RowFrame r t) : RowFrame s t :=
  ⟨h2.shp.trans h1.shp, h2.ext.trans h1.ext, fun v a b => (h2.ienv v a b).trans (h1.ienv v a b),
   fun v a => (h2.fenv v a).trans (h1.fenv v a), fun x a b d => (h2.fa x a b d).trans (h1.fa x a b d)⟩

/-- what `output_img[n][p]` holds when the model's recorded target is `t` (`none`: still the NaN it was
    allocated with; PROXIMITY mode never writes it) -/
def outVal (mode : Int) (img xc yc : List F) (W n p : Nat) : Tgt → F
  | none => Fl.nan
  | some t =>
    if mode = 1 then img.getD (t.1 * W + t.2) Fl.nan
    else if mode = 2 then
      dirF (xc.getD (n * W + p) Fl.nan) (xc.getD (t.1 * W + t.2) Fl.nan)
        (yc.getD (n * W + p) Fl.nan) (yc.getD (t.1 * W + t.2) Fl.nan)
    else Fl.nan

theorem mergeVal_outVal (mode : Int) (img xc yc : List F) (W n p : Nat) (old t : Tgt) :
    mergeVal mode img xc yc W n p (outVal mode img xc yc W n p old) t =
      outVal mode img xc yc W n p (match t with | some t' => some t' | none => old) := by
  cases t with
  | none => rfl
  | some t' =>
    by_cases h1 : mode = 1
    · simp [mergeVal, outVal, h1]
    · by_cases h2 : mode = 2
      · simp [mergeVal, outVal, h2]
      · cases old <;> simp [mergeVal, outVal, h1, h2]

/-- `_distance` between two cells of the coordinate grids of `_process_numpy`, squared -/
def pnDist2 (W : Nat) (s : State F) (tr tc r p : Nat) : F :=
  Fl.mul
    (s.ext "_distance" ((s.fa "x_coords").getD (tr * W + tc) Fl.nan) ((s.fa "x_coords").getD (r * W + p) Fl.nan)
      ((s.fa "y_coords").getD (tr * W + tc) Fl.nan) ((s.fa "y_coords").getD (r * W + p) Fl.nan) (s.ienv "distance_metric"))
    (s.ext "_distance" ((s.fa "x_coords").getD (tr * W + tc) Fl.nan) ((s.fa "x_coords").getD (r * W + p) Fl.nan)
      ((s.fa "y_coords").getD (tr * W + tc) Fl.nan) ((s.fa "y_coords").getD (r * W + p) Fl.nan) (s.ienv "distance_metric"))

/-- hypotheses on the inputs of `_process_numpy` (state `s0` at entry), for a model configuration `c`, an
    embedding `emb` of squared distances and a target predicate `tg` -/
structure PNInput (c : Cfg) (emb : Nat → F) (tg : Nat → Nat → Bool) (s0 : State F) : Prop where
  run : s0.ctl = .run
  /-- well-formed arrays: `img`, `x_coords`, `y_coords` of shape `H × W`, `target_values` 1-D -/
  img : s0.shp "img" = [c.H, c.W]
  xc : s0.shp "x_coords" = [c.H, c.W]
  yc : s0.shp "y_coords" = [c.H, c.W]
  tv : s0.shp "target_values" = [(s0.fa "target_values").length]
  arith : Arith c emb (s0.fenv "max_distance")
  /-- the `-1.0` every line starts with is negative -/
  neg1 : Fl.lt (Fl.neg (Fl.lit 1 1) : F) (Fl.lit 0 1) = true
  /-- `_distance` on the coordinate grids, squared, is the model's `dist2` -/
  d2 : ∀ tr tc r p, tr < c.H → tc < c.W → r < c.H → p < c.W → pnDist2 c.W s0 tr tc r p = emb (dist2 c tr tc r p)
  /-- the target test on the raster is the model's target predicate -/
  tgt : ∀ r p, r < c.H → p < c.W →
    targetTest ((s0.fa "img").getD (r * c.W + p) Fl.nan) (s0.fa "target_values") = tg r p

structure PNStatic (c : Cfg) (s0 st : State F) : Prop where
  run : st.ctl = .run
  px : st.shp "pan_near_x" = [c.W]
  py : st.shp "pan_near_y" = [c.W]
  nx : st.shp "nearest_xs" = [c.W]
  ny : st.shp "nearest_ys" = [c.W]
  scan : st.shp "scan_line" = [c.W]
  img : st.shp "img" = [c.H, c.W]
  xc : st.shp "x_coords" = [c.H, c.W]
  yc : st.shp "y_coords" = [c.H, c.W]
  out : st.shp "output_img" = [c.H, c.W]
  dist : st.shp "img_distance" = [c.H, c.W]
  tv : st.shp "target_values" = [(s0.fa "target_values").length]
  lpx : (st.ia "pan_near_x").length = c.W
  lpy : (st.ia "pan_near_y").length = c.W
  lnx : (st.ia "nearest_xs").length = c.W
  lny : (st.ia "nearest_ys").length = c.W
  lscan : (st.fa "scan_line").length = c.W
  lout : (st.fa "output_img").length = c.H * c.W
  ldist : (st.fa "img_distance").length = c.H * c.W
  height : st.ienv "height" = c.H
  width : st.ienv "width" = c.W
  mode : st.ienv "process_mode" = s0.ienv "process_mode"
  metric : st.ienv "distance_metric" = s0.ienv "distance_metric"
  maxd : st.fenv "max_distance" = s0.fenv "max_distance"
  fimg : st.fa "img" = s0.fa "img"
  fxc : st.fa "x_coords" = s0.fa "x_coords"
  fyc : st.fa "y_coords" = s0.fa "y_coords"
  ftv : st.fa "target_values" = s0.fa "target_values"
  ext : st.ext = s0.ext

variable {c : Cfg} {emb : Nat → F} {tg : Nat → Nat → Bool}

theorem PNStatic.of_agree {s0 st r : State F} (h : PNStatic c s0 st) (hr : r.ctl = .run)
    (hsh : ∀ a, a ≠ "line_proximity" → r.shp a = st.shp a)
    (hi : ∀ v, v.toList.head? ≠ some '_' → v ≠ "i" → v ≠ "line" → r.ienv v = st.ienv v)
    (hf : r.fenv "max_distance" = st.fenv "max_distance")
    (hfa : ∀ a, a ≠ "line_proximity" → a ≠ "output_img" → a ≠ "img_distance" → a ≠ "scan_line" → r.fa a = st.fa a)
    (hext : r.ext = st.ext)
    (lpx : (r.ia "pan_near_x").length = c.W) (lpy : (r.ia "pan_near_y").length = c.W)
    (lnx : (r.ia "nearest_xs").length = c.W) (lny : (r.ia "nearest_ys").length = c.W)
    (lscan : (r.fa "scan_line").length = c.W) (lout : (r.fa "output_img").length = c.H * c.W)
    (ldist : (r.fa "img_distance").length = c.H * c.W) : PNStatic c s0 r :=
  ⟨hr, (hsh _ (by simp)).trans h.px, (hsh _ (by simp)).trans h.py, (hsh _ (by simp)).trans h.nx,
    (hsh _ (by simp)).trans h.ny, (hsh _ (by simp)).trans h.scan, (hsh _ (by simp)).trans h.img,
    (hsh _ (by simp)).trans h.xc, (hsh _ (by simp)).trans h.yc, (hsh _ (by simp)).trans h.out,
    (hsh _ (by simp)).trans h.dist, (hsh _ (by simp)).trans h.tv, lpx, lpy, lnx, lny, lscan, lout, ldist,
    (hi _ (by simp) (by simp) (by simp)).trans h.height, (hi _ (by simp) (by simp) (by simp)).trans h.width,
    (hi _ (by simp) (by simp) (by simp)).trans h.mode, (hi _ (by simp) (by simp) (by simp)).trans h.metric,
    hf.trans h.maxd, (hfa _ (by simp) (by simp) (by simp) (by simp)).trans h.fimg,
    (hfa _ (by simp) (by simp) (by simp) (by simp)).trans h.fxc, (hfa _ (by simp) (by simp) (by simp) (by simp)).trans h.fyc,
    (hfa _ (by simp) (by simp) (by simp) (by simp)).trans h.ftv, hext.trans h.ext⟩

theorem PNStatic.setLine {s0 st : State F} (h : PNStatic c s0 st) (v : Int) :
    PNStatic c s0 { st with ienv := setS st.ienv "line" v } :=
  h.of_agree h.run (fun _ _ => rfl) (fun _ _ _ hl => setS_other _ _ _ _ hl) rfl (fun _ _ _ _ _ => rfl) rfl
    h.lpx h.lpy h.lnx h.lny h.lscan h.lout h.ldist

/-- line `n` of `output_img` holds the value of the model's recorded targets `al` -/
def OutRow (c : Cfg) (s0 st : State F) (n : Nat) (al : List Tgt) : Prop :=
  al.length = c.W ∧ ∀ p, p < c.W → (st.fa "output_img").getD (n * c.W + p) Fl.nan =
    outVal (s0.ienv "process_mode") (s0.fa "img") (s0.fa "x_coords") (s0.fa "y_coords") c.W n p (al.getD p none)

/-- the cells of the two result arrays outside line `n` are as in `sE` -/
def OtherRows (W n : Nat) (sE st : State F) : Prop :=
  ∀ j, (j < n * W ∨ n * W + W ≤ j) → (st.fa "output_img").getD j Fl.nan = (sE.fa "output_img").getD j Fl.nan ∧
    (st.fa "img_distance").getD j Fl.nan = (sE.fa "img_distance").getD j Fl.nan

/-- inside line `n` of a pass: the state `st` against the model's line state `m` and the targets `al` that line `n`
    of `output_img` stands for; `s0` = the state at entry of `_process_numpy`, `sE` = the state in front of the line -/
structure InLine (c : Cfg) (emb : Nat → F) (s0 sE : State F) (n : Nat) (st : State F) (m : LineSt) (al : List Tgt) : Prop where
  stat : PNStatic c s0 st
  hn : n < c.H
  line : st.ienv "line" = n
  slp : st.shp "line_proximity" = [c.W]
  scan : ∀ p, p < c.W → (st.fa "scan_line").getD p Fl.nan = (s0.fa "img").getD (n * c.W + p) Fl.nan
  rel : LineRel c emb st m
  out : OutRow c s0 st n al
  rest : OtherRows c.W n sE st
  dist : st.fa "img_distance" = sE.fa "img_distance"

/-- a step inside the line that leaves the caller's scalars, the inputs and `scan_line` alone (`RowFrame`) -/
theorem InLine.next {s0 sE st r : State F} {n : Nat} {m m' : LineSt} {al al' : List Tgt}
    (h : InLine c emb s0 sE n st m al) (hr : r.ctl = .run) (f : RowFrame st r) (rel : LineRel c emb r m')
    (lout : (r.fa "output_img").length = c.H * c.W) (out : OutRow c s0 r n al')
    (rest : ∀ j, (j < n * c.W ∨ n * c.W + c.W ≤ j) → (r.fa "output_img").getD j Fl.nan = (st.fa "output_img").getD j Fl.nan)
    (dist : r.fa "img_distance" = st.fa "img_distance") : InLine c emb s0 sE n r m' al' :=
  ⟨h.stat.of_agree hr (fun a _ => congrFun f.shp a) (fun v h1 h2 _ => f.ienv v h1 h2) (f.fenv _ (by simp))
      (fun a h1 h2 h3 _ => f.fa a h1 h2 h3) f.ext rel.len_px rel.len_py rel.len_nx rel.len_ny
      (by rw [f.fa _ (by simp) (by simp) (by simp)]; exact h.stat.lscan) lout (by rw [dist]; exact h.stat.ldist),
    h.hn, (f.ienv _ (by simp) (by simp)).trans h.line, (congrFun f.shp _).trans h.slp,
    fun p hp => by rw [f.fa _ (by simp) (by simp) (by simp)]; exact h.scan p hp,
    rel, out, fun j hj => ⟨(rest j hj).trans (h.rest j hj).1, by rw [dist]; exact (h.rest j hj).2⟩, dist.trans h.dist⟩

theorem OutRow.congr {s0 st r : State F} {n : Nat} {al : List Tgt} (h : OutRow c s0 st n al)
    (e : r.fa "output_img" = st.fa "output_img") : OutRow c s0 r n al := ⟨h.1, fun p hp => by rw [e]; exact h.2 p hp⟩

end XrsVerif.IL.Px
