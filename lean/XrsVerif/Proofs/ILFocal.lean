import XrsVerif.Proofs.ILangFocal
import XrsVerif.Gen.IL
import XrsVerif.Proofs.Focal
/-
  Proofs/ILFocal.lean -- refinement (layer T3): the ILang program `Gen.IL.convolve2d`, generated statement by
  statement from `_convolve_2d_numpy` of xrspatial/convolution.py, computes, for every raster and every kernel of
  odd shape `(2a+1) × (2b+1)`: NaN on the border of width `(a, b)` and, at every interior cell, the sum --
  accumulated from `0.0` by `Fl.add` in the program's order (kernel rows outer, kernel columns inner; no
  associativity or commutativity assumed) -- of `kernel[k, l] * data[i - a + k, j - b + l]`.

  `red_eval_*`: numba's one-pass reductions `RedOp.eval` (Core/ILang.lean) *are* the model's `nanmean` … `nanstd`
  (same filter, same fold order, NaN for an empty selection): by `rfl` for sum, mean, variance and standard deviation;
  for `nanmin` / `nanmax` after a case split on the filtered list (both sides match on it, in two different
  definitions).
-/
namespace XrsVerif.Focal
open XrsVerif XrsVerif.IL XrsVerif.ILVs XrsVerif.IL.Fc
set_option linter.unusedSectionVars false
variable {F : Type} [Fl F]

/-- a flat row-major list with `cols` columns as a 2-D array (non-negative indices) -/
def listArr (l : List F) (cols : Nat) : Arr F := fun i j => l.getD (i.toNat * cols + j.toNat) Fl.nan

theorem red_eval_nansum (xs : List F) : RedOp.eval .nansum xs = nansum xs := rfl
theorem red_eval_nanmean (xs : List F) : RedOp.eval .nanmean xs = nanmean xs := rfl
theorem red_eval_nanvar (xs : List F) : RedOp.eval .nanvar xs = nanvar xs := rfl
theorem red_eval_nanstd (xs : List F) : RedOp.eval .nanstd xs = nanstd xs := rfl
theorem red_eval_nanmin (xs : List F) : RedOp.eval .nanmin xs = nanmin xs := by
  simp only [RedOp.eval, nanmin, nonNan, valid]
  cases List.filter (fun x => !Fl.isnan x) xs <;> rfl
theorem red_eval_nanmax (xs : List F) : RedOp.eval .nanmax xs = nanmax xs := by
  simp only [RedOp.eval, nanmax, nonNan, valid]
  cases List.filter (fun x => !Fl.isnan x) xs <;> rfl

/-- the value the two inner loops accumulate into `num`, starting from `acc`: kernel rows outer, kernel columns
    inner, `acc + kernel[k, l] * data[i - a + k, j - b + l]` -/
def convSum (D K : Arr F) (nkx nky : Nat) (a b : Nat) (i j : Int) (acc : F) : F :=
  (List.range nkx).foldl (fun acc (k : Nat) =>
    (List.range nky).foldl (fun acc (l : Nat) =>
      Fl.add acc (Fl.mul (K (k : Int) (l : Int)) (D (i - (a : Int) + (k : Int)) (j - (b : Int) + (l : Int))))) acc) acc

/-- the nested fold is `fsum` of the row-major list of products: the right-hand side of `C09.conv_spec` -/
theorem convSum_eq_fsum (D K : Arr F) (nkx nky a b : Nat) (i j : Int) :
    convSum D K nkx nky a b i j (Fl.lit 0 1) =
      fsum ((allCells nkx nky).map fun p =>
        Fl.mul (K p.1 p.2) (D (i - (a : Int) + p.1) (j - (b : Int) + p.2))) := by
  unfold convSum fsum allCells
  rw [List.map_flatMap, List.foldl_flatMap]
  congr 1
  funext acc k
  rw [List.map_map, List.foldl_map]
  rfl

def stJJBody : St :=
  .seq (.setI "jjj" (.bin .sub (.bin .add (.var "wky") (.var "jj")) (.var "j")))
    (.setF "num" (.bin .add (.var "num") (.bin .mul (.ld2 "kernel" (.var "iii") (.var "jjj")) (.ld2 "data" (.var "ii") (.var "jj")))))
def stJJ : St := .forRange "jj" (.var "jjmin") (.var "jjmax") (.lit 1) stJJBody
def stIIBody : St := .seq (.setI "iii" (.bin .sub (.bin .add (.var "wkx") (.var "ii")) (.var "i"))) stJJ
def stII : St := .forRange "ii" (.var "iimin") (.var "iimax") (.lit 1) stIIBody
def stCell : St :=
  .seq (.setI "jjmin" (.bin .max (.bin .sub (.var "j") (.var "wky")) (.lit 0)))
  (.seq (.setI "jjmax" (.bin .min (.bin .add (.bin .add (.var "j") (.var "wky")) (.lit 1)) (.var "ny")))
  (.seq (.setF "num" (.lit 0 1))
  (.seq stII
  (.stF2 "out" (.var "i") (.var "j") (.var "num")))))
def stJ : St := .forRange "j" (.var "wky") (.bin .sub (.var "ny") (.var "wky")) (.lit 1) stCell
def stRow : St :=
  .seq (.setI "iimin" (.bin .max (.bin .sub (.var "i") (.var "wkx")) (.lit 0)))
  (.seq (.setI "iimax" (.bin .min (.bin .add (.bin .add (.var "i") (.var "wkx")) (.lit 1)) (.var "nx")))
  stJ)
def stI : St := .forRange "i" (.var "wkx") (.bin .sub (.var "nx") (.var "wkx")) (.lit 1) stRow

/-- what the loops need of the state: the two input arrays with their shapes, the shape of `out`, the size
    variables; the kernel has odd shape `(2a+1) × (2b+1)` -/
structure CInv (data kernel : List F) (nx ny nkx nky a b : Nat) (s : State F) : Prop where
  ctl : s.ctl = .run
  shd : s.shp "data" = [nx, ny]
  shk : s.shp "kernel" = [nkx, nky]
  sho : s.shp "out" = [nx, ny]
  fad : s.fa "data" = data
  fak : s.fa "kernel" = kernel
  vnx : s.ienv "nx" = nx
  vny : s.ienv "ny" = ny
  vwkx : s.ienv "wkx" = a
  vwky : s.ienv "wky" = b


theorem CInv.of_mods {data kernel : List F} {nx ny nkx nky a b : Nat} {iv fv bv ias fas shs : List String}
    {s r : State F} (h : CInv data kernel nx ny nkx nky a b s) (hm : Mods iv fv bv ias fas shs s r)
    (hc : r.ctl = .run)
    (hw : (∀ v ∈ ["nx", "ny", "wkx", "wky"], v ∉ iv) ∧ (∀ x ∈ ["data", "kernel"], x ∉ fas) ∧
      (∀ x ∈ ["data", "kernel", "out"], x ∉ shs)) : CInv data kernel nx ny nkx nky a b r :=
  ⟨hc, (hm.shp _ (hw.2.2 _ (by simp))).trans h.shd, (hm.shp _ (hw.2.2 _ (by simp))).trans h.shk,
   (hm.shp _ (hw.2.2 _ (by simp))).trans h.sho, (hm.fa _ (hw.2.1 _ (by simp))).trans h.fad,
   (hm.fa _ (hw.2.1 _ (by simp))).trans h.fak, (hm.ienv _ (hw.1 _ (by simp))).trans h.vnx,
   (hm.ienv _ (hw.1 _ (by simp))).trans h.vny, (hm.ienv _ (hw.1 _ (by simp))).trans h.vwkx,
   (hm.ienv _ (hw.1 _ (by simp))).trans h.vwky⟩

/-! ### what the loops write

  The frame an iteration of `for v …: body` receives (`exec_forRange_foldl`, `exec_forRange_err`) and the frame of the
  whole loop (`exec_frame`) carry the write sets as `v :: wI body`, …
  (`LoopMods`); they are spelt out here once per loop. -/

theorem frame_jj {s st : State F} (h : LoopMods "jj" stJJBody s st) : Mods ["jj", "jjj"] ["num"] [] [] [] [] s st := h

theorem frame_ii {s st : State F} (h : LoopMods "ii" stIIBody s st) :
    Mods ["ii", "iii", "jj", "jjj"] ["num"] [] [] [] [] s st := h

theorem frame_j {s st : State F} (h : LoopMods "j" stCell s st) :
    Mods ["j", "jjmin", "jjmax", "ii", "iii", "jj", "jjj"] ["num", "num"] [] [] ["out"] [] s st := h

theorem frame_i {s st : State F} (h : LoopMods "i" stRow s st) :
    Mods ["i", "iimin", "iimax", "j", "jjmin", "jjmax", "ii", "iii", "jj", "jjj"] ["num", "num"] [] [] ["out"] [] s st := h

/-! An iteration of each loop starts in a state that still satisfies `CInv`: none of the four loops writes what `CInv`
    speaks of.  The side condition is decided here, once per loop. -/

section keep
variable {data kernel : List F} {nx ny nkx nky a b : Nat} {s st : State F}

theorem CInv.in_jj (hI : CInv data kernel nx ny nkx nky a b s) (h : LoopMods "jj" stJJBody s st) (hc : st.ctl = .run) :
    CInv data kernel nx ny nkx nky a b st := hI.of_mods (frame_jj h) hc (by decide)

theorem CInv.in_ii (hI : CInv data kernel nx ny nkx nky a b s) (h : LoopMods "ii" stIIBody s st) (hc : st.ctl = .run) :
    CInv data kernel nx ny nkx nky a b st := hI.of_mods (frame_ii h) hc (by decide)

theorem CInv.in_j (hI : CInv data kernel nx ny nkx nky a b s) (h : LoopMods "j" stCell s st) (hc : st.ctl = .run) :
    CInv data kernel nx ny nkx nky a b st := hI.of_mods (frame_j h) hc (by decide)

theorem CInv.in_i (hI : CInv data kernel nx ny nkx nky a b s) (h : LoopMods "i" stRow s st) (hc : st.ctl = .run) :
    CInv data kernel nx ny nkx nky a b st := hI.of_mods (frame_i h) hc (by decide)

end keep

theorem win_idx {a n nk : Nat} {i ii : Int} (hi0 : (a : Int) ≤ i) (hi1 : i < (n : Int) - a) (hk : 2 * a + 1 ≤ nk)
    (h0 : i - (a : Int) ≤ ii) (h1 : ii < i + (a : Int) + 1) :
    0 ≤ ii ∧ ii < n ∧ 0 ≤ ii - (i - (a : Int)) ∧ ii - (i - (a : Int)) < nk := by omega

theorem interior_idx {a n : Nat} {i : Int} (hi0 : (a : Int) ≤ i) (hi1 : i < (n : Int) - a) : 0 ≤ i ∧ i < n := by omega

theorem win_off {a n k : Nat} {i : Int} (hi0 : (a : Int) ≤ i) (hi1 : i < (n : Int) - a) (hk : k < 2 * a + 1) :
    i - (a : Int) ≤ i - (a : Int) + k ∧ i - (a : Int) + k - (i - (a : Int)) = k ∧ 0 ≤ i - (a : Int) + k ∧
    i - (a : Int) + k < n := by omega

theorem conv_jj_body (data kernel : List F) (nx ny nkx nky a b : Nat) (fuel : Nat) (s : State F) (kk ii j jj : Int)
    (hI : CInv data kernel nx ny nkx nky a b s) (hk0 : 0 ≤ kk) (hk1 : kk < nkx)
    (hl0 : j - (b : Int) ≤ jj) (hl1 : jj - (j - (b : Int)) < nky)
    (hii0 : 0 ≤ ii) (hii1 : ii < nx) (hjj0 : 0 ≤ jj) (hjj1 : jj < ny)
    (viii : s.ienv "iii" = kk) (vii : s.ienv "ii" = ii) (vj : s.ienv "j" = j) (vjj : s.ienv "jj" = jj) :
    (exec fuel stJJBody s).ctl = .run ∧
    (exec fuel stJJBody s).fenv "num" =
      Fl.add (s.fenv "num") (Fl.mul (listArr kernel nky kk (jj - (j - (b : Int)))) (listArr data ny ii jj)) := by
  have e1 : (b : Int) + jj - j = jj - (j - (b : Int)) := by omega
  have r1 : inRange kk nkx = true := inRange_of_nonneg_lt _ _ hk0 hk1
  have r2 : inRange (jj - (j - (b : Int))) nky = true := inRange_of_nonneg_lt _ _ (by omega) hl1
  have r3 : inRange ii nx = true := inRange_of_nonneg_lt _ _ hii0 hii1
  have r4 : inRange jj ny = true := inRange_of_nonneg_lt _ _ hjj0 hjj1
  have o1 : off2 [nkx, nky] kk (jj - (j - (b : Int))) = kk.toNat * nky + (jj - (j - (b : Int))).toNat :=
    off2_nonneg _ _ _ _ hk0 (by omega)
  have o2 : off2 [nx, ny] ii jj = ii.toNat * ny + jj.toNat := off2_nonneg _ _ _ _ hii0 hjj0
  simp [il, stJJBody, setS, hI.shd, hI.shk, hI.fad, hI.fak, hI.vwky, viii, vii, vj, vjj, e1, r1, r2, r3, r4, o1, o2,
    listArr, hI.ctl]

theorem conv_jj (data kernel : List F) (nx ny nkx nky a b : Nat) (fuel : Nat) (s : State F) (kk ii j : Int)
    (hI : CInv data kernel nx ny nkx nky a b s) (hk0 : 0 ≤ kk) (hk1 : kk < nkx) (hnky : 2 * b + 1 ≤ nky)
    (hii0 : 0 ≤ ii) (hii1 : ii < nx) (hj0 : (b : Int) ≤ j) (hj1 : j < (ny : Int) - b)
    (viii : s.ienv "iii" = kk) (vii : s.ienv "ii" = ii) (vj : s.ienv "j" = j)
    (vmin : s.ienv "jjmin" = j - (b : Int)) (vmax : s.ienv "jjmax" = j + (b : Int) + 1) :
    let r := exec fuel stJJ s
    r.ctl = .run ∧
    r.fenv "num" = (List.range (2 * b + 1)).foldl (fun acc (l : Nat) =>
      Fl.add acc (Fl.mul (listArr kernel nky kk (l : Int))
        (listArr data ny ii (j - (b : Int) + (l : Int))))) (s.fenv "num") := by
  intro r
  obtain ⟨hc, hv⟩ := exec_forRange_foldl fuel "jj" (.var "jjmin") (.var "jjmax") stJJBody s (fun st => st.fenv "num")
    (fun acc jj => Fl.add acc (Fl.mul (listArr kernel nky kk (jj - (j - (b : Int)))) (listArr data ny ii jj)))
    hI.ctl rfl rfl (fun _ _ => rfl)
    (fun st jj h0 h1 hc hM vjj => by
      have hM := frame_jj hM
      simp only [IE.eval, vmin, vmax] at h0 h1
      obtain ⟨q0, q1, _, q3⟩ := win_idx hj0 hj1 hnky h0 h1
      exact conv_jj_body data kernel nx ny nkx nky a b fuel st kk ii j jj (hI.in_jj hM hc) hk0 hk1
        h0 q3 hii0 hii1 q0 q1 ((hM.ienv _ (by simp)).trans viii)
        ((hM.ienv _ (by simp)).trans vii) ((hM.ienv _ (by simp)).trans vj) vjj)
  refine ⟨hc, hv.trans ?_⟩
  simp only [IE.eval, vmin, vmax]
  have hn : (j + (b : Int) + 1 - (j - (b : Int))).toNat = 2 * b + 1 := by omega
  rw [hn, List.foldl_map]
  congr 1
  funext acc l
  have : j - (b : Int) + (l : Int) - (j - (b : Int)) = (l : Int) := by omega
  rw [this]

theorem conv_ii_body (data kernel : List F) (nx ny nkx nky a b : Nat) (fuel : Nat) (s : State F) (i ii : Int)
    (hI : CInv data kernel nx ny nkx nky a b s) (vi : s.ienv "i" = i) (vii : s.ienv "ii" = ii) :
    exec fuel stIIBody s = exec fuel stJJ { s with ienv := setS s.ienv "iii" (ii - (i - (a : Int))) } := by
  have e1 : (a : Int) + ii - i = ii - (i - (a : Int)) := by omega
  exact exec_seq_eq fuel _ _ s _ (by simp [il, hI.vwkx, vi, vii, e1]) hI.ctl

theorem conv_ii_enter (data kernel : List F) (nx ny nkx nky a b : Nat) (fuel : Nat) (s st : State F) (i j ii : Int)
    (hI : CInv data kernel nx ny nkx nky a b s)
    (hM : LoopMods "ii" stIIBody s st)
    (hc : st.ctl = .run) (vi : s.ienv "i" = i) (vj : s.ienv "j" = j)
    (vmin : s.ienv "jjmin" = j - (b : Int)) (vmax : s.ienv "jjmax" = j + (b : Int) + 1) (vii : st.ienv "ii" = ii) :
    ∃ s1 : State F, exec fuel stIIBody st = exec fuel stJJ s1 ∧ CInv data kernel nx ny nkx nky a b s1 ∧
      s1.ienv "iii" = ii - (i - (a : Int)) ∧ s1.ienv "ii" = ii ∧ s1.ienv "j" = j ∧
      s1.ienv "jjmin" = j - (b : Int) ∧ s1.ienv "jjmax" = j + (b : Int) + 1 ∧ s1.fenv = st.fenv := by
  have hM := frame_ii hM
  have hM1 := hM.trans (mods_setI _ _ _ _ _ _ st "iii" (ii - (i - (a : Int))) (by simp))
  exact ⟨{ st with ienv := setS st.ienv "iii" (ii - (i - (a : Int))) }, conv_ii_body data kernel nx ny nkx nky a b fuel st i ii (hI.in_ii hM hc)
      ((hM.ienv _ (by simp)).trans vi) vii,
    hI.in_ii hM1 hc, setS_same st.ienv "iii" _, (setS_other st.ienv "iii" "ii" (ii - (i - (a : Int))) (by simp)).trans vii,
    (hM1.ienv _ (by simp)).trans vj, (hM1.ienv _ (by simp)).trans vmin, (hM1.ienv _ (by simp)).trans vmax, rfl⟩

theorem conv_ii (data kernel : List F) (nx ny nkx nky a b : Nat) (fuel : Nat) (s : State F) (i j : Int)
    (hI : CInv data kernel nx ny nkx nky a b s) (hnkx : 2 * a + 1 ≤ nkx) (hnky : 2 * b + 1 ≤ nky)
    (hi0 : (a : Int) ≤ i) (hi1 : i < (nx : Int) - a) (hj0 : (b : Int) ≤ j) (hj1 : j < (ny : Int) - b)
    (vi : s.ienv "i" = i) (vj : s.ienv "j" = j)
    (vimin : s.ienv "iimin" = i - (a : Int)) (vimax : s.ienv "iimax" = i + (a : Int) + 1)
    (vmin : s.ienv "jjmin" = j - (b : Int)) (vmax : s.ienv "jjmax" = j + (b : Int) + 1) :
    let r := exec fuel stII s
    r.ctl = .run ∧
    r.fenv "num" = convSum (listArr data ny) (listArr kernel nky) (2 * a + 1) (2 * b + 1) a b i j (s.fenv "num") := by
  intro r
  obtain ⟨hc, hv⟩ := exec_forRange_foldl fuel "ii" (.var "iimin") (.var "iimax") stIIBody s (fun st => st.fenv "num")
    (fun acc ii => (List.range (2 * b + 1)).foldl (fun acc (l : Nat) =>
      Fl.add acc (Fl.mul (listArr kernel nky (ii - (i - (a : Int))) (l : Int))
        (listArr data ny ii (j - (b : Int) + (l : Int))))) acc)
    hI.ctl rfl rfl (fun _ _ => rfl)
    (fun st ii h0 h1 hc hM vii => by
      simp only [IE.eval, vimin, vimax] at h0 h1
      obtain ⟨s1, he, hI1, w1, w2, w3, w4, w5, w6⟩ :=
        conv_ii_enter data kernel nx ny nkx nky a b fuel s st i j ii hI hM hc vi vj vmin vmax vii
      rw [he, ← w6]
      obtain ⟨q0, q1, q2, q3⟩ := win_idx hi0 hi1 hnkx h0 h1
      exact conv_jj data kernel nx ny nkx nky a b fuel s1 _ ii j hI1 q2 q3 hnky q0 q1 hj0 hj1 w1 w2 w3 w4 w5)
  refine ⟨hc, hv.trans ?_⟩
  simp only [IE.eval, vimin, vimax]
  have hn : (i + (a : Int) + 1 - (i - (a : Int))).toNat = 2 * a + 1 := by omega
  rw [hn, List.foldl_map]
  unfold convSum
  congr 1
  funext acc k
  have : i - (a : Int) + (k : Int) - (i - (a : Int)) = (k : Int) := by omega
  rw [this]

/-- `arr[vi, vj] = vn` with in-range non-negative indices -/
theorem exec_stF2_vars (fuel : Nat) (arr vi vj vn : String) (s : State F) (r c : Nat) (i j : Int)
    (hsh : s.shp arr = [r, c]) (hvi : s.ienv vi = i) (hvj : s.ienv vj = j)
    (hi0 : 0 ≤ i) (hi1 : i < r) (hj0 : 0 ≤ j) (hj1 : j < c) :
    exec fuel (.stF2 arr (.var vi) (.var vj) (.var vn)) s =
      { s with fa := setS s.fa arr ((s.fa arr).set (i.toNat * c + j.toNat) (s.fenv vn)) } := by
  simp [il, hsh, hvi, hvj, inRange_of_nonneg_lt _ _ hi0 hi1, inRange_of_nonneg_lt _ _ hj0 hj1,
    off2_nonneg _ _ _ _ hi0 hj0]


theorem conv_cell_pre (data kernel : List F) (nx ny nkx nky a b : Nat) (fuel : Nat) (s : State F) (j : Int)
    (hI : CInv data kernel nx ny nkx nky a b s) (hj0 : (b : Int) ≤ j) (hj1 : j < (ny : Int) - b)
    (vj : s.ienv "j" = j) :
    ∃ s3 : State F, exec fuel stCell s = exec fuel (.seq stII (.stF2 "out" (.var "i") (.var "j") (.var "num"))) s3 ∧
      Mods ["jjmin", "jjmax"] ["num"] [] [] [] [] s s3 ∧ CInv data kernel nx ny nkx nky a b s3 ∧
      s3.ienv "jjmin" = j - (b : Int) ∧ s3.ienv "jjmax" = j + (b : Int) + 1 ∧ s3.fenv "num" = Fl.lit 0 1 := by
  have e1 : max (j - (b : Int)) 0 = j - (b : Int) := by omega
  have e2 : min (j + (b : Int) + 1) ny = j + (b : Int) + 1 := by omega
  have hM : Mods ["jjmin", "jjmax"] ["num"] [] [] [] [] s
      { s with ienv := setS (setS s.ienv "jjmin" (j - (b : Int))) "jjmax" (j + (b : Int) + 1),
               fenv := setS s.fenv "num" (Fl.lit 0 1) } :=
    (mods_setI _ _ _ _ _ _ s "jjmin" _ (by simp)).trans
      ((mods_setI _ _ _ _ _ _ _ "jjmax" _ (by simp)).trans (mods_setF _ _ _ _ _ _ _ "num" _ (by simp)))
  refine ⟨_, ?_, hM, hI.of_mods hM hI.ctl (by decide), by simp [setS], by simp, by simp⟩
  simp [stCell, exec_seq, exec_setI_def, exec_setF_def, IE.ok, IE.eval, iop_max, iop_min, iop_sub, iop_add, FE.ok,
    FE.eval, setS_apply, vj, hI.vwky, hI.vny, hI.ctl, e1, e2]

theorem conv_cell (data kernel : List F) (nx ny nkx nky a b : Nat) (fuel : Nat) (s : State F) (i j : Int)
    (hI : CInv data kernel nx ny nkx nky a b s) (hnkx : 2 * a + 1 ≤ nkx) (hnky : 2 * b + 1 ≤ nky)
    (hi0 : (a : Int) ≤ i) (hi1 : i < (nx : Int) - a) (hj0 : (b : Int) ≤ j) (hj1 : j < (ny : Int) - b)
    (vi : s.ienv "i" = i) (vj : s.ienv "j" = j)
    (vimin : s.ienv "iimin" = i - (a : Int)) (vimax : s.ienv "iimax" = i + (a : Int) + 1) :
    let r := exec fuel stCell s
    r.ctl = .run ∧
    r.fa "out" = (s.fa "out").set (i.toNat * ny + j.toNat)
      (convSum (listArr data ny) (listArr kernel nky) (2 * a + 1) (2 * b + 1) a b i j (Fl.lit 0 1)) := by
  intro r
  obtain ⟨s3, he, hM3, hI3, v1, v2, v3⟩ := conv_cell_pre data kernel nx ny nkx nky a b fuel s j hI hj0 hj1 vj
  obtain ⟨hc4, hnum⟩ := conv_ii data kernel nx ny nkx nky a b fuel s3 i j hI3 hnkx hnky hi0 hi1 hj0 hj1
    ((hM3.ienv _ (by simp)).trans vi) ((hM3.ienv _ (by simp)).trans vj)
    ((hM3.ienv _ (by simp)).trans vimin) ((hM3.ienv _ (by simp)).trans vimax) v1 v2
  have hM4 := frame_ii (exec_frame fuel stII s3)
  have hI4 := hI3.in_ii hM4 hc4
  have h5 := exec_stF2_vars fuel "out" "i" "j" "num" (exec fuel stII s3) nx ny i j hI4.sho
    ((hM4.ienv _ (by simp)).trans ((hM3.ienv _ (by simp)).trans vi))
    ((hM4.ienv _ (by simp)).trans ((hM3.ienv _ (by simp)).trans vj)) (interior_idx hi0 hi1).1 (interior_idx hi0 hi1).2
    (interior_idx hj0 hj1).1 (interior_idx hj0 hj1).2
  simp only [r]
  rw [he, exec_seq_run fuel _ _ _ hc4, h5]
  refine ⟨hc4, ?_⟩
  simp only [setS_same]
  rw [hnum, v3, hM4.fa _ (by simp), hM3.fa _ (by simp)]

abbrev cellVal (data kernel : List F) (ny nky a b : Nat) (i j : Int) : F :=
  convSum (listArr data ny) (listArr kernel nky) (2 * a + 1) (2 * b + 1) a b i j (Fl.lit 0 1)

/-- what the `j` loop does to `out` in row `i` -/
def rowFold (data kernel : List F) (ny nky a b : Nat) (i : Int) (out : List F) : List F :=
  (intRange (b : Int) ((ny : Int) - (b : Int))).foldl
    (fun o j => o.set (i.toNat * ny + j.toNat) (cellVal data kernel ny nky a b i j)) out

theorem intRange_eq (lo hi : Int) :
    (List.range (hi - lo).toNat).map (fun (k : Nat) => lo + (k : Int)) = intRange lo hi := rfl

theorem conv_j (data kernel : List F) (nx ny nkx nky a b : Nat) (fuel : Nat) (s : State F) (i : Int)
    (hI : CInv data kernel nx ny nkx nky a b s) (hnkx : 2 * a + 1 ≤ nkx) (hnky : 2 * b + 1 ≤ nky) (hi0 : (a : Int) ≤ i) (hi1 : i < (nx : Int) - a)
    (vi : s.ienv "i" = i) (vimin : s.ienv "iimin" = i - (a : Int)) (vimax : s.ienv "iimax" = i + (a : Int) + 1) :
    let r := exec fuel stJ s
    r.ctl = .run ∧ r.fa "out" = rowFold data kernel ny nky a b i (s.fa "out") := by
  intro r
  obtain ⟨hc, hv⟩ := exec_forRange_foldl fuel "j" (.var "wky") (.bin .sub (.var "ny") (.var "wky")) stCell s
    (fun st => st.fa "out") (fun o j => o.set (i.toNat * ny + j.toNat) (cellVal data kernel ny nky a b i j))
    hI.ctl rfl rfl (fun _ _ => rfl)
    (fun st j h0 h1 hc hM vj => by
      have hM := frame_j hM
      simp only [IE.eval, IOp.eval, hI.vny, hI.vwky] at h0 h1
      exact conv_cell data kernel nx ny nkx nky a b fuel st i j (hI.in_j hM hc) hnkx hnky hi0 hi1 h0 h1
        ((hM.ienv _ (by simp)).trans vi) vj ((hM.ienv _ (by simp)).trans vimin)
        ((hM.ienv _ (by simp)).trans vimax))
  refine ⟨hc, hv.trans ?_⟩
  simp only [IE.eval, IOp.eval, hI.vny, hI.vwky]
  rfl

theorem conv_row_pre (data kernel : List F) (nx ny nkx nky a b : Nat) (fuel : Nat) (s : State F) (i : Int)
    (hI : CInv data kernel nx ny nkx nky a b s) (hi0 : (a : Int) ≤ i) (hi1 : i < (nx : Int) - a)
    (vi : s.ienv "i" = i) :
    ∃ s2 : State F, exec fuel stRow s = exec fuel stJ s2 ∧ Mods ["iimin", "iimax"] [] [] [] [] [] s s2 ∧
      CInv data kernel nx ny nkx nky a b s2 ∧ s2.ienv "iimin" = i - (a : Int) ∧ s2.ienv "iimax" = i + (a : Int) + 1 := by
  have e1 : max (i - (a : Int)) 0 = i - (a : Int) := by omega
  have e2 : min (i + (a : Int) + 1) nx = i + (a : Int) + 1 := by omega
  have hM : Mods ["iimin", "iimax"] [] [] [] [] [] s
      { s with ienv := setS (setS s.ienv "iimin" (i - (a : Int))) "iimax" (i + (a : Int) + 1) } :=
    (mods_setI _ _ _ _ _ _ s "iimin" _ (by simp)).trans (mods_setI _ _ _ _ _ _ _ "iimax" _ (by simp))
  refine ⟨_, ?_, hM, hI.of_mods hM hI.ctl (by decide), by simp [setS], by simp⟩
  simp [stRow, exec_seq, exec_setI_def, IE.ok, IE.eval, iop_max, iop_min, iop_sub, iop_add, setS_apply, vi, hI.vwkx,
    hI.vnx, hI.ctl, e1, e2]

theorem conv_row (data kernel : List F) (nx ny nkx nky a b : Nat) (fuel : Nat) (s : State F) (i : Int)
    (hI : CInv data kernel nx ny nkx nky a b s) (hnkx : 2 * a + 1 ≤ nkx) (hnky : 2 * b + 1 ≤ nky) (hi0 : (a : Int) ≤ i) (hi1 : i < (nx : Int) - a)
    (vi : s.ienv "i" = i) :
    let r := exec fuel stRow s
    r.ctl = .run ∧ r.fa "out" = rowFold data kernel ny nky a b i (s.fa "out") := by
  intro r
  obtain ⟨s2, he, hM2, hI2, v1, v2⟩ := conv_row_pre data kernel nx ny nkx nky a b fuel s i hI hi0 hi1 vi
  obtain ⟨hc, hout⟩ := conv_j data kernel nx ny nkx nky a b fuel s2 i hI2 hnkx hnky hi0 hi1
    ((hM2.ienv _ (by simp)).trans vi) v1 v2
  simp only [r]
  rw [he]
  exact ⟨hc, hout.trans (by rw [hM2.fa _ (by simp)])⟩

/-- what the `i` loop does to `out` -/
def rowsFold (data kernel : List F) (nx ny nky a b : Nat) (out : List F) : List F :=
  (intRange (a : Int) ((nx : Int) - (a : Int))).foldl (fun o i => rowFold data kernel ny nky a b i o) out

theorem conv_rows (data kernel : List F) (nx ny nkx nky a b : Nat) (fuel : Nat) (s : State F)
    (hI : CInv data kernel nx ny nkx nky a b s) (hnkx : 2 * a + 1 ≤ nkx) (hnky : 2 * b + 1 ≤ nky) :
    let r := exec fuel stI s
    r.ctl = .run ∧ r.fa "out" = rowsFold data kernel nx ny nky a b (s.fa "out") := by
  intro r
  obtain ⟨hc, hv⟩ := exec_forRange_foldl fuel "i" (.var "wkx") (.bin .sub (.var "nx") (.var "wkx")) stRow s
    (fun st => st.fa "out") (fun o i => rowFold data kernel ny nky a b i o) hI.ctl rfl rfl (fun _ _ => rfl)
    (fun st i h0 h1 hc hM vi => by
      have hM := frame_i hM
      simp only [IE.eval, IOp.eval, hI.vnx, hI.vwkx] at h0 h1
      exact conv_row data kernel nx ny nkx nky a b fuel st i (hI.in_i hM hc) hnkx hnky h0 h1 vi)
  refine ⟨hc, hv.trans ?_⟩
  simp only [IE.eval, IOp.eval, hI.vnx, hI.vwkx]
  rfl

theorem allCells_eq_pairs (r c : Nat) :
    allCells r c = (pairs r c).map (fun ab : Nat × Nat => ((ab.1 : Int), (ab.2 : Int))) := by
  rw [allCells_eq]; rfl

theorem allCells_length (r c : Nat) : (allCells r c).length = r * c := by
  rw [allCells_eq_pairs, List.length_map, pairs_length]

theorem allCells_getElem? (r c p q : Nat) (hp : p < r) (hq : q < c) :
    (allCells r c)[p * c + q]? = some ((p : Int), (q : Int)) := by
  rw [allCells_eq_pairs, List.getElem?_map, pairs_getElem? r c p q hp hq]
  rfl

/-- **specification of the output**, row-major: NaN on the border of width `(a, b)` (everywhere, when the kernel
    is larger than the raster), the window sum `cellVal` at the interior cells -/
def convOut (data kernel : List F) (nx ny a b : Nat) : List F :=
  (allCells nx ny).map fun c =>
    if (a : Int) ≤ c.1 ∧ c.1 < (nx : Int) - (a : Int) ∧ (b : Int) ≤ c.2 ∧ c.2 < (ny : Int) - (b : Int)
    then cellVal data kernel ny (2 * b + 1) a b c.1 c.2 else Fl.nan

theorem rowsFold_flat (data kernel : List F) (nx ny nky a b : Nat) (out : List F) :
    rowsFold data kernel nx ny nky a b out =
      ((intRange (a : Int) ((nx : Int) - (a : Int))).flatMap fun i =>
        (intRange (b : Int) ((ny : Int) - (b : Int))).map fun j => (i, j)).foldl
        (fun o (p : Int × Int) => o.set (p.1.toNat * ny + p.2.toNat) (cellVal data kernel ny nky a b p.1 p.2)) out := by
  unfold rowsFold rowFold
  rw [List.foldl_flatMap]
  congr 1
  funext o i
  rw [List.foldl_map]

theorem rowsFold_replicate (data kernel : List F) (nx ny a b : Nat) :
    rowsFold data kernel nx ny (2 * b + 1) a b (List.replicate (nx * ny) Fl.nan) = convOut data kernel nx ny a b := by
  rw [rowsFold_flat]
  apply ext_rowMajor nx ny _ _ (by rw [foldl_set_length, List.length_replicate])
    (by unfold convOut; rw [List.length_map, allCells_length])
  intro p q hp hq
  have ht := rowMajor_lt hp hq
  unfold convOut
  rw [List.getElem?_map, allCells_getElem? nx ny p q hp hq, Option.map_some]
  -- a store hits offset `p * ny + q` only from the cell `(p, q)`
  have hcell : ∀ x ∈ (intRange (a : Int) ((nx : Int) - (a : Int))).flatMap (fun i =>
      (intRange (b : Int) ((ny : Int) - (b : Int))).map fun j => (i, j)),
      x.1.toNat * ny + x.2.toNat = p * ny + q →
      x = ((p : Int), (q : Int)) ∧ (a : Int) ≤ p ∧ (p : Int) < (nx : Int) - a ∧ (b : Int) ≤ q ∧ (q : Int) < (ny : Int) - b := by
    intro x hx hxt
    obtain ⟨i, hi, hx⟩ := List.mem_flatMap.mp hx
    obtain ⟨j, hj, rfl⟩ := List.mem_map.mp hx
    have hi' := (mem_intRange _ _ _).mp hi
    have hj' := (mem_intRange _ _ _).mp hj
    have := idx_inj i.toNat j.toNat p q ny (by omega) hq hxt
    have e1 : i = (p : Int) := by omega
    have e2 : j = (q : Int) := by omega
    subst e1 e2
    exact ⟨rfl, hi'.1, hi'.2, hj'.1, hj'.2⟩
  by_cases hin : (a : Int) ≤ (p : Int) ∧ (p : Int) < (nx : Int) - (a : Int) ∧
      (b : Int) ≤ (q : Int) ∧ (q : Int) < (ny : Int) - (b : Int)
  · rw [if_pos hin]
    apply foldl_set_hit
    · intro x hx hxt
      rw [(hcell x hx hxt).1]
    · refine ⟨((p : Int), (q : Int)), List.mem_flatMap.mpr ⟨(p : Int), (mem_intRange _ _ _).mpr ⟨hin.1, hin.2.1⟩,
        List.mem_map.mpr ⟨(q : Int), (mem_intRange _ _ _).mpr ⟨hin.2.2.1, hin.2.2.2⟩, rfl⟩⟩, ?_⟩
      simp only [Int.toNat_natCast]
    · simpa using ht
  · rw [if_neg hin, foldl_set_miss _ _ _ _ _ (fun x hx hxt => hin (hcell x hx hxt).2)]
    simp [ht]

structure ConvInput (data kernel : List F) (nx ny nkx nky : Nat) (s : State F) : Prop where
  ctl : s.ctl = .run
  shd : s.shp "data" = [nx, ny]
  shk : s.shp "kernel" = [nkx, nky]
  fad : s.fa "data" = data
  fak : s.fa "kernel" = kernel

def convStart (s : State F) (nx ny nkx nky : Nat) : State F :=
  { s with
    ienv := setS (setS (setS (setS (setS (setS s.ienv "nx" (nx : Int)) "ny" (ny : Int)) "nkx" (nkx : Int)) "nky" (nky : Int))
              "wkx" ((nkx / 2 : Nat) : Int)) "wky" ((nky / 2 : Nat) : Int),
    shp := setS s.shp "out" [nx, ny],
    fa := setS s.fa "out" (List.replicate (nx * ny) Fl.nan) }

theorem conv_body_eq : Gen.IL.convolve2d.body =
    .seq (.setI "nx" (.dim "data" 0))
    (.seq (.setI "ny" (.dim "data" 1))
    (.seq (.setI "nkx" (.dim "kernel" 0))
    (.seq (.setI "nky" (.dim "kernel" 1))
    (.seq (.setI "wkx" (.bin .fdiv (.var "nkx") (.lit 2)))
    (.seq (.setI "wky" (.bin .fdiv (.var "nky") (.lit 2)))
    (.seq (.allocF "out" [(.dim "data" 0), (.dim "data" 1)] (.lit 0 1))
    (.seq (.allocF "out" [(.dim "out" 0), (.dim "out" 1)] .nan)
    (.seq stI .ret)))))))) := rfl

/-- half a kernel side as a natural number: `nkx // 2` (`_convolve_2d_numpy`) and `int(krows / 2)` (`_apply_numpy`,
    translated to `.tdiv`) -/
theorem fdiv_two_nat (n : Nat) : Int.fdiv (n : Int) 2 = ((n / 2 : Nat) : Int) := by
  rw [fdiv_two]; omega

theorem tdiv_two (n : Nat) : Int.tdiv (n : Int) 2 = ((n / 2 : Nat) : Int) := by
  rw [Int.tdiv_eq_ediv_of_nonneg (by omega)]
  omega

theorem conv_prefix (data kernel : List F) (nx ny nkx nky : Nat) (fuel : Nat) (s : State F)
    (hin : ConvInput data kernel nx ny nkx nky s) (rest : St) :
    exec fuel
      (.seq (.setI "nx" (.dim "data" 0))
      (.seq (.setI "ny" (.dim "data" 1))
      (.seq (.setI "nkx" (.dim "kernel" 0))
      (.seq (.setI "nky" (.dim "kernel" 1))
      (.seq (.setI "wkx" (.bin .fdiv (.var "nkx") (.lit 2)))
      (.seq (.setI "wky" (.bin .fdiv (.var "nky") (.lit 2)))
      (.seq (.allocF "out" [(.dim "data" 0), (.dim "data" 1)] (.lit 0 1))
      (.seq (.allocF "out" [(.dim "out" 0), (.dim "out" 1)] .nan)
      rest)))))))) s = exec fuel rest (convStart s nx ny nkx nky) := by
  simp [exec_seq, exec_setI_def, exec_allocF_def, IE.ok, IE.eval, IOp.eval, FE.ok, FE.eval, setS_apply, setS_setS,
    hin.shd, hin.shk, hin.ctl, fdiv_two_nat, convStart]

theorem convStart_inv (data kernel : List F) (nx ny nkx nky : Nat) (s : State F)
    (hin : ConvInput data kernel nx ny nkx nky s) :
    CInv data kernel nx ny nkx nky (nkx / 2) (nky / 2) (convStart s nx ny nkx nky) :=
  ⟨hin.ctl, by simp [convStart, setS, hin.shd], by simp [convStart, setS, hin.shk], by simp [convStart],
    by simp [convStart, setS, hin.fad], by simp [convStart, setS, hin.fak], by simp [convStart, setS],
    by simp [convStart, setS], by simp [convStart, setS], by simp [convStart, setS]⟩

/-- **refinement.** the program generated from `_convolve_2d_numpy`, run on any raster and any kernel of odd shape
    `(2a+1) × (2b+1)`, ends with `return`, never reads or writes out of range, leaves its inputs unchanged, and its
    output array is `convOut`: NaN on the border of width `(a, b)`, the window sum (in the program's order) inside -/
theorem convolve2d_refines (data kernel : List F) (nx ny a b : Nat) (s : State F) (fuel : Nat)
    (hin : ConvInput data kernel nx ny (2 * a + 1) (2 * b + 1) s) :
    let r := Gen.IL.convolve2d.run s fuel
    r.ctl = .ret ∧ r.shp "out" = [nx, ny] ∧ r.fa "data" = data ∧ r.fa "kernel" = kernel ∧
    r.fa "out" = convOut data kernel nx ny a b := by
  simp only [Prog.run, conv_body_eq]
  rw [conv_prefix data kernel nx ny (2 * a + 1) (2 * b + 1) fuel s hin]
  have hI := convStart_inv data kernel nx ny (2 * a + 1) (2 * b + 1) s hin
  rw [show (2 * a + 1) / 2 = a by omega, show (2 * b + 1) / 2 = b by omega] at hI
  obtain ⟨hc, hout⟩ := conv_rows data kernel nx ny (2 * a + 1) (2 * b + 1) a b fuel _ hI (Nat.le_refl _) (Nat.le_refl _)
  have hI' := hI.in_i (exec_frame fuel stI _) hc
  rw [exec_seq_run fuel _ _ _ hc, exec_ret]
  refine ⟨rfl, hI'.sho, hI'.fad, hI'.fak, hout.trans ?_⟩
  simp only [convStart, setS_same]
  exact rowsFold_replicate data kernel nx ny a b

theorem convolve_getElem? (D K : Arr F) (nx ny nkx nky p q : Nat) (hp : p < nx) (hq : q < ny) :
    (convolve D K nx ny nkx nky)[p * ny + q]? = some (convCell D K nx ny nkx nky (p : Int) (q : Int)) := by
  unfold convolve
  rw [List.getElem?_map, allCells_getElem? nx ny p q hp hq]
  rfl

/-! ### kernels with an even side: the program reads `kernel` out of range

  With half widths `a = nkx // 2`, `b = nky // 2` the inner loops visit kernel rows `0 … 2a` and columns `0 … 2b`; for an
  even side `2a = nkx` (or `2b = nky`) the last one does not exist.  numba performs no bounds check there (the read is
  undefined behaviour); ILang stops with `Ctl.err "index"`.  `apply` / `focal_stats` reject such kernels
  (`custom_kernel`, C09 `kernel_validation`); `convolution_2d` and `hotspots` hand theirs to `convolve_2d` unchecked. -/

theorem conv_jj_err (data kernel : List F) (nx ny nkx nky a b : Nat) (fuel : Nat) (s : State F) (kk ii j : Int)
    (hI : CInv data kernel nx ny nkx nky a b s) (hk0 : 0 ≤ kk) (hbad : (nkx : Int) ≤ kk ∨ nky ≤ 2 * b)
    (hii0 : 0 ≤ ii) (hii1 : ii < nx) (hj0 : (b : Int) ≤ j) (hj1 : j < (ny : Int) - b)
    (viii : s.ienv "iii" = kk) (vii : s.ienv "ii" = ii) (vj : s.ienv "j" = j)
    (vmin : s.ienv "jjmin" = j - (b : Int)) (vmax : s.ienv "jjmax" = j + (b : Int) + 1) :
    (exec fuel stJJ s).ctl = .err "index" := by
  -- the first failing column `m`
  obtain ⟨m, hm, hgood, hbad'⟩ : ∃ m : Nat, m < 2 * b + 1 ∧ (∀ l < m, kk < nkx ∧ l < nky) ∧
      (inRange kk nkx = false ∨ inRange (m : Int) nky = false) := by
    by_cases hk : kk < nkx
    · exact ⟨nky, by omega, fun l hl => ⟨hk, hl⟩, Or.inr (inRange_ge _ _ (Int.le_refl _))⟩
    · exact ⟨0, by omega, fun l hl => absurd hl (Nat.not_lt_zero _), Or.inl (inRange_ge _ _ (by omega))⟩
  apply exec_forRange_err fuel "jj" (.var "jjmin") (.var "jjmax") stJJBody s "index" m hI.ctl rfl rfl
    (by simp only [IE.eval, vmin, vmax]; omega)
  · intro st l hl hc hM vjj
    have hM := frame_jj hM
    simp only [IE.eval, vmin] at vjj
    obtain ⟨q0, q1, q2, q3⟩ := win_off hj0 hj1 (Nat.lt_trans hl hm)
    exact Or.inl (conv_jj_body data kernel nx ny nkx nky a b fuel st kk ii j _ (hI.in_jj hM hc) hk0
      (hgood l hl).1 q0 (by rw [q1]; exact Int.ofNat_lt.mpr (hgood l hl).2) hii0 hii1 q2 q3
      ((hM.ienv _ (by simp)).trans viii) ((hM.ienv _ (by simp)).trans vii) ((hM.ienv _ (by simp)).trans vj) vjj).1
  · intro st hc hM vjj
    have hM := frame_jj hM
    simp only [IE.eval, vmin] at vjj
    have hI' := hI.in_jj hM hc
    have e1 : (b : Int) + (j - (b : Int) + (m : Int)) - j = (m : Int) := by omega
    have v1 : st.ienv "iii" = kk := (hM.ienv _ (by simp)).trans viii
    have v3 : st.ienv "j" = j := (hM.ienv _ (by simp)).trans vj
    rcases hbad' with h | h <;>
      simp [il, stJJBody, setS, hI'.shk, hI'.vwky, v1, v3, vjj, e1, h, hc]

theorem conv_ii_err (data kernel : List F) (nx ny nkx nky a b : Nat) (fuel : Nat) (s : State F) (i j : Int)
    (hI : CInv data kernel nx ny nkx nky a b s) (hbad : nkx ≤ 2 * a ∨ nky ≤ 2 * b)
    (hi0 : (a : Int) ≤ i) (hi1 : i < (nx : Int) - a) (hj0 : (b : Int) ≤ j) (hj1 : j < (ny : Int) - b)
    (vi : s.ienv "i" = i) (vj : s.ienv "j" = j)
    (vimin : s.ienv "iimin" = i - (a : Int)) (vimax : s.ienv "iimax" = i + (a : Int) + 1)
    (vmin : s.ienv "jjmin" = j - (b : Int)) (vmax : s.ienv "jjmax" = j + (b : Int) + 1) :
    (exec fuel stII s).ctl = .err "index" := by
  -- the first failing kernel row `m`
  obtain ⟨m, hm, hgood, hbad'⟩ : ∃ m : Nat, m < 2 * a + 1 ∧ (∀ k < m, 2 * b + 1 ≤ nky ∧ k < nkx) ∧
      ((nkx : Int) ≤ m ∨ nky ≤ 2 * b) := by
    by_cases h : nky ≤ 2 * b
    · exact ⟨0, by omega, fun k hk => absurd hk (Nat.not_lt_zero _), Or.inr h⟩
    · exact ⟨nkx, by omega, fun k hk => ⟨by omega, hk⟩, Or.inl (Int.le_refl _)⟩
  apply exec_forRange_err fuel "ii" (.var "iimin") (.var "iimax") stIIBody s "index" m hI.ctl rfl rfl
    (by simp only [IE.eval, vimin, vimax]; omega)
  · intro st k hk hc hM vii
    simp only [IE.eval, vimin] at vii
    obtain ⟨s1, he, hI1, w1, w2, w3, w4, w5, _⟩ :=
      conv_ii_enter data kernel nx ny nkx nky a b fuel s st i j _ hI hM hc vi vj vmin vmax vii
    rw [he]
    obtain ⟨q0, q1, q2, q3⟩ := win_off hi0 hi1 (Nat.lt_trans hk hm)
    exact Or.inl (conv_jj data kernel nx ny nkx nky a b fuel s1 _ _ j hI1 (Int.sub_nonneg.mpr q0)
      (by rw [q1]; exact Int.ofNat_lt.mpr (hgood k hk).2) (hgood k hk).1 q2 q3 hj0 hj1 w1 w2 w3 w4 w5).1
  · intro st hc hM vii
    simp only [IE.eval, vimin] at vii
    obtain ⟨s1, he, hI1, w1, w2, w3, w4, w5, _⟩ :=
      conv_ii_enter data kernel nx ny nkx nky a b fuel s st i j _ hI hM hc vi vj vmin vmax vii
    rw [he]
    obtain ⟨q0, q1, q2, q3⟩ := win_off hi0 hi1 hm
    exact conv_jj_err data kernel nx ny nkx nky a b fuel s1 _ _ j hI1 (Int.sub_nonneg.mpr q0)
      (hbad'.imp (fun h => by rw [q1]; exact h) id) q2 q3 hj0 hj1 w1 w2 w3 w4 w5

theorem conv_cell_err (data kernel : List F) (nx ny nkx nky a b : Nat) (fuel : Nat) (s : State F) (i j : Int)
    (hI : CInv data kernel nx ny nkx nky a b s) (hbad : nkx ≤ 2 * a ∨ nky ≤ 2 * b)
    (hi0 : (a : Int) ≤ i) (hi1 : i < (nx : Int) - a) (hj0 : (b : Int) ≤ j) (hj1 : j < (ny : Int) - b)
    (vi : s.ienv "i" = i) (vj : s.ienv "j" = j)
    (vimin : s.ienv "iimin" = i - (a : Int)) (vimax : s.ienv "iimax" = i + (a : Int) + 1) :
    (exec fuel stCell s).ctl = .err "index" := by
  obtain ⟨s3, he, hM3, hI3, v1, v2, _⟩ := conv_cell_pre data kernel nx ny nkx nky a b fuel s j hI hj0 hj1 vj
  have herr := conv_ii_err data kernel nx ny nkx nky a b fuel s3 i j hI3 hbad hi0 hi1 hj0 hj1
    ((hM3.ienv _ (by simp)).trans vi) ((hM3.ienv _ (by simp)).trans vj)
    ((hM3.ienv _ (by simp)).trans vimin) ((hM3.ienv _ (by simp)).trans vimax) v1 v2
  rw [he, exec_seq_stop fuel _ _ _ (by rw [herr]; simp)]
  exact herr

/-- the `j` loop stops at its first cell (there is one: `b < ny - b`) -/
theorem conv_j_err (data kernel : List F) (nx ny nkx nky a b : Nat) (fuel : Nat) (s : State F) (i : Int)
    (hI : CInv data kernel nx ny nkx nky a b s) (hbad : nkx ≤ 2 * a ∨ nky ≤ 2 * b) (hvis : 2 * b < ny)
    (hi0 : (a : Int) ≤ i) (hi1 : i < (nx : Int) - a)
    (vi : s.ienv "i" = i) (vimin : s.ienv "iimin" = i - (a : Int)) (vimax : s.ienv "iimax" = i + (a : Int) + 1) :
    (exec fuel stJ s).ctl = .err "index" := by
  apply exec_forRange_err fuel "j" (.var "wky") (.bin .sub (.var "ny") (.var "wky")) stCell s "index" 0 hI.ctl rfl rfl
    (by simp only [IE.eval, IOp.eval, hI.vny, hI.vwky]; omega) (fun _ k hk => absurd hk (Nat.not_lt_zero _))
  intro st hc hM vj
  have hM := frame_j hM
  simp only [IE.eval, hI.vwky, Int.natCast_zero, Int.add_zero] at vj
  exact conv_cell_err data kernel nx ny nkx nky a b fuel st i (b : Int) (hI.in_j hM hc) hbad hi0 hi1
    (Int.le_refl _) (by omega) ((hM.ienv _ (by simp)).trans vi) vj ((hM.ienv _ (by simp)).trans vimin)
    ((hM.ienv _ (by simp)).trans vimax)

theorem conv_row_err (data kernel : List F) (nx ny nkx nky a b : Nat) (fuel : Nat) (s : State F) (i : Int)
    (hI : CInv data kernel nx ny nkx nky a b s) (hbad : nkx ≤ 2 * a ∨ nky ≤ 2 * b) (hvis : 2 * b < ny)
    (hi0 : (a : Int) ≤ i) (hi1 : i < (nx : Int) - a) (vi : s.ienv "i" = i) :
    (exec fuel stRow s).ctl = .err "index" := by
  obtain ⟨s2, he, hM2, hI2, v1, v2⟩ := conv_row_pre data kernel nx ny nkx nky a b fuel s i hI hi0 hi1 vi
  rw [he]
  exact conv_j_err data kernel nx ny nkx nky a b fuel s2 i hI2 hbad hvis hi0 hi1
    ((hM2.ienv _ (by simp)).trans vi) v1 v2

/-- the `i` loop stops at its first row (there is one: `a < nx - a`) -/
theorem conv_rows_err (data kernel : List F) (nx ny nkx nky a b : Nat) (fuel : Nat) (s : State F)
    (hI : CInv data kernel nx ny nkx nky a b s) (hbad : nkx ≤ 2 * a ∨ nky ≤ 2 * b)
    (hvisx : 2 * a < nx) (hvisy : 2 * b < ny) :
    (exec fuel stI s).ctl = .err "index" := by
  apply exec_forRange_err fuel "i" (.var "wkx") (.bin .sub (.var "nx") (.var "wkx")) stRow s "index" 0 hI.ctl rfl rfl
    (by simp only [IE.eval, IOp.eval, hI.vnx, hI.vwkx]; omega) (fun _ k hk => absurd hk (Nat.not_lt_zero _))
  intro st hc hM vi
  have hM := frame_i hM
  simp only [IE.eval, hI.vwkx, Int.natCast_zero, Int.add_zero] at vi
  exact conv_row_err data kernel nx ny nkx nky a b fuel st (a : Int) (hI.in_i hM hc) hbad hvisy
    (Int.le_refl _) (by omega) vi

/-- **even kernels.** if a side of the kernel is even (a kernel with no row or no column included) and the outer loops
    visit at least one cell (`2 * (nkx // 2) < nx`, `2 * (nky // 2) < ny`), the generated program stops with an
    out-of-range read of `kernel` -- the real numba code reads past the end of a kernel row / of the kernel there -/
theorem convolve2d_even_err (data kernel : List F) (nx ny nkx nky : Nat) (s : State F) (fuel : Nat)
    (hin : ConvInput data kernel nx ny nkx nky s) (heven : nkx % 2 = 0 ∨ nky % 2 = 0)
    (hvisx : 2 * (nkx / 2) < nx) (hvisy : 2 * (nky / 2) < ny) :
    (Gen.IL.convolve2d.run s fuel).ctl = .err "index" := by
  simp only [Prog.run, conv_body_eq]
  rw [conv_prefix data kernel nx ny nkx nky fuel s hin]
  have hI := convStart_inv data kernel nx ny nkx nky s hin
  have herr := conv_rows_err data kernel nx ny nkx nky (nkx / 2) (nky / 2) fuel _ hI
    (by rcases heven with h | h <;> omega) hvisx hvisy
  rw [exec_seq_stop fuel _ _ _ (by rw [herr]; simp)]
  exact herr

def convState (data kernel : List F) (nx ny nkx nky : Nat) : State F :=
  { (State.empty : State F) with
    fa := fun x => if x = "data" then data else if x = "kernel" then kernel else []
    shp := fun x => if x = "data" then [nx, ny] else if x = "kernel" then [nkx, nky] else [] }

theorem convState_input (data kernel : List F) (nx ny nkx nky : Nat) :
    ConvInput data kernel nx ny nkx nky (convState data kernel nx ny nkx nky) :=
  ⟨rfl, by simp [convState], by simp [convState], by simp [convState], by simp [convState]⟩

end XrsVerif.Focal
