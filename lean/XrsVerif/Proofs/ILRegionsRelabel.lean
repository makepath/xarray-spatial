import XrsVerif.Proofs.ILRegionsDefs
import XrsVerif.Proofs.ILangRaster
/-
  Proofs/ILRegionsRelabel.lean -- the whole-raster relabelling loops of the second pass of `Gen.IL.areaConnectivity`

      for y1 in range(0, rows):
          for x1 in range(0, cols):
              if out[y1, x1] == a:
                  out[y1, x1] = b

  `exec_relabel`: afterwards `out` is `out.map (fun v => if Fl.eq v a then b else v)` (every cell is read before it is
  written, once).
-/
namespace XrsVerif.IL.Rg
open XrsVerif XrsVerif.IL XrsVerif.Regions
variable {F : Type} [Fl F]
set_option linter.unusedSectionVars false

/-- `out[out == a] = b`, one value -/
def relabelF (A B : F) (v : F) : F := if Fl.eq v A then B else v

def mapTo (f : F → F) (k : Nat) (l : List F) : List F := (l.take k).map f ++ l.drop k

theorem mapTo_zero (f : F → F) (l : List F) : mapTo f 0 l = l := by simp [mapTo]

theorem mapTo_all (f : F → F) (l : List F) (k : Nat) (h : l.length ≤ k) : mapTo f k l = l.map f := by
  simp [mapTo, List.take_of_length_le h, List.drop_eq_nil_of_le h]

theorem mapTo_length (f : F → F) (k : Nat) (l : List F) : (mapTo f k l).length = l.length := by
  simp [mapTo]; omega

theorem mapTo_cons_succ (f : F → F) (k : Nat) (a : F) (l : List F) :
    mapTo f (k + 1) (a :: l) = f a :: mapTo f k l := by simp [mapTo]

theorem mapTo_getD (f : F → F) (k : Nat) (l : List F) (d : F) : (mapTo f k l).getD k d = l.getD k d := by
  induction l generalizing k with
  | nil => simp [mapTo]
  | cons a l ih =>
    cases k with
    | zero => simp [mapTo]
    | succ k => rw [mapTo_cons_succ]; simpa using ih k

theorem mapTo_set (f : F → F) (k : Nat) (l : List F) (d : F) (h : k < l.length) :
    (mapTo f k l).set k (f (l.getD k d)) = mapTo f (k + 1) l := by
  induction l generalizing k with
  | nil => simp at h
  | cons a l ih =>
    cases k with
    | zero => simp [mapTo]
    | succ k =>
      rw [mapTo_cons_succ, mapTo_cons_succ, List.set_cons_succ]
      have := ih k (by simpa using h)
      simp only [List.getD_cons_succ]
      rw [this]

theorem mapTo_fix (f : F → F) (k : Nat) (l : List F) (d : F) (hf : f (l.getD k d) = l.getD k d) :
    mapTo f (k + 1) l = mapTo f k l := by
  induction l generalizing k with
  | nil => simp [mapTo]
  | cons a l ih =>
    cases k with
    | zero => simp only [List.getD_cons_zero] at hf; simp [mapTo, hf]
    | succ k =>
      rw [mapTo_cons_succ, mapTo_cons_succ]
      simp only [List.getD_cons_succ] at hf
      rw [ih k hf]

theorem exec_relabelBody (fuel rows cols i j : Nat) (hi : i < rows) (hj : j < cols) (a b : String) (st : State F)
    (hy1 : st.ienv "y1" = (i : Int)) (hx1 : st.ienv "x1" = (j : Int)) (hos : st.shp "out" = [rows, cols]) :
    exec fuel (relabelBody a b) st =
      { st with fa := setS st.fa "out"
                  (if Fl.eq ((st.fa "out").getD (i * cols + j) Fl.nan) (st.fenv a)
                   then (st.fa "out").set (i * cols + j) (st.fenv b) else st.fa "out") } := by
  obtain ⟨hok, hev⟩ := FE.ld2_nat st "out" (.var "y1") (.var "x1") rows cols i j hos rfl rfl hy1 hx1 hi hj
  rw [relabelBody, exec_ite _ _ _ _ _ (by simp only [BE.ok, hok]; rfl)]
  simp only [BE.eval, hev]
  simp only [CmpOp.eval, FE.eval]
  by_cases hc : Fl.eq ((st.fa "out").getD (i * cols + j) Fl.nan) (st.fenv a) = true
  · simp only [hc, if_true]
    exact exec_stF2_nat fuel "out" (.var "y1") (.var "x1") (.var b) st rows cols i j hos rfl rfl rfl hy1 hx1 hi hj
  · simp only [hc, Bool.false_eq_true, if_false, exec_skip, setS_self]

theorem exec_relabel (fuel rows cols : Nat) (a b : String) (s : State F) (hrun : s.ctl = .run)
    (hrv : s.ienv "rows" = (rows : Int)) (hcv : s.ienv "cols" = (cols : Int))
    (hos : s.shp "out" = [rows, cols]) (hol : (s.fa "out").length = rows * cols) :
    (exec fuel (relabel a b) s).ctl = .run ∧
    (exec fuel (relabel a b) s).fa "out" = (s.fa "out").map (relabelF (s.fenv a) (s.fenv b)) := by
  have h := exec_sweep fuel "y1" "x1" (by simp) (.var "rows") (.var "cols") (relabelBody a b) rows cols
    (fun k st => st.fenv = s.fenv ∧ st.shp "out" = [rows, cols] ∧ st.ienv "rows" = (rows : Int) ∧
      st.ienv "cols" = (cols : Int) ∧ st.fa "out" = mapTo (relabelF (s.fenv a) (s.fenv b)) k (s.fa "out"))
    (fun k st i hQ => ⟨hQ.1, hQ.2.1, (setS_other st.ienv "y1" "rows" i (by simp)).trans hQ.2.2.1,
      (setS_other st.ienv "y1" "cols" i (by simp)).trans hQ.2.2.2.1, hQ.2.2.2.2⟩)
    (fun k st i hQ => ⟨hQ.1, hQ.2.1, (setS_other st.ienv "x1" "rows" i (by simp)).trans hQ.2.2.1,
      (setS_other st.ienv "x1" "cols" i (by simp)).trans hQ.2.2.2.1, hQ.2.2.2.2⟩)
    (fun k st hQ => ⟨rfl, hQ.2.2.1⟩) (fun k st hQ => ⟨rfl, hQ.2.2.2.1⟩)
    (fun p q st hp hq hst hy hx ⟨q1, q2, q3, q4, q5⟩ => by
      rw [exec_relabelBody fuel rows cols p q hp hq a b st hy hx q2, afterBody_run _ (by exact hst)]
      refine ⟨hst, hy, q1, q2, q3, q4, ?_⟩
      have hlt : p * cols + q < (s.fa "out").length := by rw [hol]; exact rowMajor_lt hp hq
      simp only [setS_same]
      rw [q5, q1, mapTo_getD]
      by_cases hc : Fl.eq ((s.fa "out").getD (p * cols + q) Fl.nan) (s.fenv a) = true
      · rw [if_pos hc, ← mapTo_set _ _ _ Fl.nan hlt]
        simp only [relabelF, hc, if_true]
      · rw [if_neg hc]
        exact (mapTo_fix _ _ _ Fl.nan (by simp only [relabelF, hc, Bool.false_eq_true, if_false])).symm)
    s hrun ⟨rfl, hos, hrv, hcv, (mapTo_zero _ _).symm⟩
  exact ⟨h.1, h.2.2.2.2.2.trans (mapTo_all _ _ _ (Nat.le_of_eq hol))⟩

end XrsVerif.IL.Rg
