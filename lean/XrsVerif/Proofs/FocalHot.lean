import XrsVerif.Proofs.Focal
import Mathlib.Tactic.NormNum
import Mathlib.Tactic.SplitIfs
/-!
  C09, hotspots: the generated per-cell classifier `Gen.hotspots_cpu` (translated from
  `focal._calc_hotspots_numpy` on every run) in closed form.  The kernel is run
  once by `simp [kl, …]` with every comparison undecided (so a changed literal or comparison in the source breaks the
  proof); what is left is that the p-value tests of the confidence ladder follow from its tests on |z|.
-/
set_option linter.unusedSectionVars false
namespace XrsVerif.Focal
open XrsVerif XrsVerif.Gen
variable {K : Type} [Field K] [LinearOrder K] [IsStrictOrderedRing K] [Trig K]

/-- the documented confidence ladder: 99 / 95 / 90 above |z| = 2.58 / 1.96 / 1.65 -/
def confidence (v : K) : K :=
  if 129 / 50 < |v| then 99 else if 49 / 25 < |v| then 95 else if 33 / 20 < |v| then 90 else 0

/-- the documented class of a z-score: the confidence carrying the sign of z -/
def hotspotSpec (v : K) : K := if 0 < v then confidence v else if v < 0 then -confidence v else 0

/-- the kernel's p-value ladder on |z| (0.0099 / 0.0495 / 0.0985 from |z| = 2.33 / 1.65 / 1.29) -/
def pval (a : K) : K :=
  if 233 / 100 ≤ a then 99 / 10000 else if 33 / 20 ≤ a then 99 / 2000 else if 129 / 100 ≤ a then 197 / 2000 else 1

/-- the kernel run once, its three ladders left as they stand in the source: each rung of the confidence
    ladder tests |z| and the p-value -/
theorem hotspotClass_eval (v : K) :
    hotspotClass (some v : NV K) = some ((if 0 < v then 1 else if v < 0 then -1 else 0) *
      (if 129 / 50 < |v| ∧ pval |v| < 1 / 100 then 99 else if 49 / 25 < |v| ∧ pval |v| < 1 / 20 then 95
        else if 33 / 20 < |v| ∧ pval |v| < 1 / 10 then 90 else 0)) := by
  simp [kl, hotspotClass, hotspots_cpu, KSt.ite_env, ite_apply, ← apply_ite some, pval]

/-! In each rung the test on |z| implies the one on the p-value. -/

theorem pval_lt_99 {a : K} (h : 129 / 50 < a) : pval a < 1 / 100 := by
  rw [pval, if_pos (le_trans (by norm_num) h.le)]
  norm_num

theorem pval_lt_95 {a : K} (h : 49 / 25 < a) : pval a < 1 / 20 := by
  rw [pval, if_pos (le_trans (by norm_num) h.le : (33 / 20 : K) ≤ a)]
  split_ifs <;> norm_num

theorem pval_lt_90 {a : K} (h : 33 / 20 < a) : pval a < 1 / 10 := by
  rw [pval, if_pos h.le]
  split_ifs <;> norm_num

theorem hotspotClass_some (v : K) : hotspotClass (some v : NV K) = some (hotspotSpec v) := by
  rw [hotspotClass_eval]
  simp only [and_iff_left_of_imp pval_lt_99, and_iff_left_of_imp pval_lt_95, and_iff_left_of_imp pval_lt_90]
  show some (_ * confidence v) = _
  unfold hotspotSpec
  split_ifs
  · exact congrArg some (one_mul _)
  · exact congrArg some (neg_one_mul _)
  · exact congrArg some (zero_mul _)

theorem hotspotClass_none : hotspotClass (none : NV K) = some 0 := by
  have ha : Fl.abs (none : NV K) = none := rfl
  have n1 : ¬ ((1 : K) < 100⁻¹) := by norm_num
  have n2 : ¬ ((1 : K) < 20⁻¹) := by norm_num
  have n3 : ¬ ((1 : K) < 10⁻¹) := by norm_num
  simp [kl, hotspotClass, hotspots_cpu, ha, n1, n2, n3]

theorem confidence_neg (v : K) : confidence (-v) = confidence v := by simp [confidence, abs_neg]

theorem hotspotSpec_neg (v : K) : hotspotSpec (-v) = -hotspotSpec v := by
  unfold hotspotSpec
  rw [confidence_neg]
  simp only [neg_pos, neg_lt_zero]
  split_ifs with h1 h2 h3 <;> first | rfl | simp | (exfalso; linarith)

theorem hotspotClass_neg (z : NV K) : hotspotClass (Fl.neg z) = Fl.neg (hotspotClass z) := by
  cases z with
  | none => simp [hotspotClass_none]
  | some v => rw [fl_neg, hotspotClass_some, hotspotClass_some, hotspotSpec_neg, fl_neg]

theorem hotspotSpec_values (v : K) :
    hotspotSpec v = 0 ∨ hotspotSpec v = 90 ∨ hotspotSpec v = -90 ∨ hotspotSpec v = 95 ∨ hotspotSpec v = -95 ∨
      hotspotSpec v = 99 ∨ hotspotSpec v = -99 := by
  have hc : confidence v = 0 ∨ confidence v = 90 ∨ confidence v = 95 ∨ confidence v = 99 := by
    unfold confidence
    split_ifs <;> simp only [true_or, or_true]
  unfold hotspotSpec
  split_ifs
  · rcases hc with c | c | c | c <;> simp only [c, true_or, or_true]
  · rcases hc with c | c | c | c <;> simp only [c, neg_zero, true_or, or_true]
  · exact .inl rfl

end XrsVerif.Focal
