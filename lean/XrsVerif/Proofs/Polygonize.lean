import XrsVerif.Model.Polygonize
import XrsVerif.Proofs.ListFold
/-
  The polygonize model (Model/Polygonize.lean): the follower's step on boundary-edge states (`Valid`: region on the
  left, complement on the right), row-major index arithmetic, where `_scan` starts a follow, and the whole of C15 as
  one decidable check of a result (`losslessB`).  Core Lean only.
-/
namespace XrsVerif.Polygonize

def Valid (R : Int → Int → Bool) (s : FSt) : Prop :=
  R s.x s.y = true ∧ R s.rightCell.1 s.rightCell.2 = false

theorem step_cases (R : Int → Int → Bool) (s : FSt) :
    (R s.aheadRight.1 s.aheadRight.2 = true ∧ step R s = ⟨s.aheadRight.1, s.aheadRight.2, s.d.right⟩) ∨
    (R s.aheadRight.1 s.aheadRight.2 = false ∧ R s.ahead.1 s.ahead.2 = true ∧
        step R s = ⟨s.ahead.1, s.ahead.2, s.d⟩) ∨
    (R s.aheadRight.1 s.aheadRight.2 = false ∧ R s.ahead.1 s.ahead.2 = false ∧
        step R s = ⟨s.x, s.y, s.d.left⟩) := by
  unfold step
  by_cases h1 : R s.aheadRight.1 s.aheadRight.2 = true
  · simp [h1]
  · by_cases h2 : R s.ahead.1 s.ahead.2 = true
    · simp [h1, h2]
    · simp [h1, h2]

theorem step_valid (R : Int → Int → Bool) (s : FSt) (h : Valid R s) : Valid R (step R s) := by
  obtain ⟨x, y, d⟩ := s
  rcases step_cases R ⟨x, y, d⟩ with ⟨h1, e⟩ | ⟨h1, h2, e⟩ | ⟨h1, h2, e⟩ <;> rw [e] <;>
    unfold Valid at * <;> cases d <;>
    simp_all [FSt.ahead, FSt.aheadRight, FSt.rightCell, Dir.dx, Dir.dy, Dir.left, Dir.right] <;>
    grind

theorem corner_step (R : Int → Int → Bool) (s : FSt) :
    (step R s).corner = (s.corner.1 + s.d.dx, s.corner.2 + s.d.dy) := by
  obtain ⟨x, y, d⟩ := s
  rcases step_cases R ⟨x, y, d⟩ with ⟨h1, e⟩ | ⟨h1, h2, e⟩ | ⟨h1, h2, e⟩ <;> rw [e] <;> cases d <;>
    simp [FSt.ahead, FSt.aheadRight, FSt.corner, Dir.dx, Dir.dy, Dir.left, Dir.right] <;> omega

/-- the state before `u` on a boundary: undo the right turn if the pixel behind `u` and to its right is
    inside, else the straight move if the pixel behind is inside, else the left turn -/
def pred (R : Int → Int → Bool) (u : FSt) : FSt :=
  if R (u.x - u.d.dx - u.d.left.dx) (u.y - u.d.dy - u.d.left.dy) then
    ⟨u.x - u.d.dx - u.d.left.dx, u.y - u.d.dy - u.d.left.dy, u.d.left⟩
  else if R (u.x - u.d.dx) (u.y - u.d.dy) then ⟨u.x - u.d.dx, u.y - u.d.dy, u.d⟩
  else ⟨u.x, u.y, u.d.right⟩

theorem pred_step (R : Int → Int → Bool) (s : FSt) (hs : Valid R s) : pred R (step R s) = s := by
  obtain ⟨x, y, d⟩ := s
  rcases step_cases R ⟨x, y, d⟩ with ⟨h1, e⟩ | ⟨h1, h2, e⟩ | ⟨h1, h2, e⟩ <;> rw [e] <;> cases d <;>
    simp [pred, Valid, FSt.ahead, FSt.aheadRight, FSt.rightCell, Dir.dx, Dir.dy, Dir.left, Dir.right, ← Int.sub_eq_add_neg] at * <;>
    simp [*]

theorem step_injective (R : Int → Int → Bool) (s t : FSt) (hs : Valid R s) (ht : Valid R t)
    (h : step R s = step R t) : s = t := by
  rw [← pred_step R s hs, h, pred_step R t ht]

def AxisPar (p q : Int × Int) : Prop := p.1 = q.1 ∨ p.2 = q.2

theorem AxisPar.symm {p q : Int × Int} (h : AxisPar p q) : AxisPar q p := by
  unfold AxisPar at *; omega

def Rectilinear : List (Int × Int) → Prop
  | [] => True
  | [_] => True
  | p :: q :: rest => AxisPar p q ∧ Rectilinear (q :: rest)

/-- a pixel corner of an `nx × ny` raster -/
def InBox (nx ny : Nat) (p : Int × Int) : Prop := 0 ≤ p.1 ∧ p.1 ≤ nx ∧ 0 ≤ p.2 ∧ p.2 ≤ ny

def InRaster (R : Int → Int → Bool) (nx ny : Nat) : Prop :=
  ∀ x y, R x y = true → 0 ≤ x ∧ x < nx ∧ 0 ≤ y ∧ y < ny

theorem corner_inBox {R : Int → Int → Bool} {nx ny : Nat} (hR : InRaster R nx ny) {s : FSt} (hs : Valid R s) :
    InBox nx ny s.corner := by
  obtain ⟨h0, h1, h2, h3⟩ := hR s.x s.y hs.1
  obtain ⟨x, y, d⟩ := s
  simp only at h0 h1 h2 h3
  cases d <;> simp [FSt.corner, InBox] <;> omega

theorem flat_xy (nx X Y : Nat) : ((X : Int) + (Y : Int) * (nx : Int)).toNat = X + Y * nx := by
  rw [← Int.natCast_mul, ← Int.natCast_add, Int.toNat_natCast]

theorem xy_of {nx : Nat} (X Y : Nat) (hX : X < nx) : (X + Y * nx) % nx = X ∧ (X + Y * nx) / nx = Y := by
  rw [Nat.add_comm]; exact (rowMajor_div_mod Y hX).symm

theorem pix_lt {nx ny X Y : Nat} (hX : X < nx) (hY : Y < ny) : X + Y * nx < nx * ny := by
  rw [Nat.add_comm, Nat.mul_comm nx]; exact rowMajor_lt hY hX

theorem above_pix {nx ny q : Nat} (hnx : 0 < nx) (h1 : nx ≤ q) (h2 : q < nx * ny) :
    (q - nx) % nx < nx ∧ (q - nx) / nx + 1 < ny ∧ (q - nx) % nx + ((q - nx) / nx + 1) * nx = q := by
  have hd := Nat.mod_add_div' (q - nx) nx
  have hm : ((q - nx) / nx + 1) * nx = (q - nx) / nx * nx + nx := by rw [Nat.add_mul, Nat.one_mul]
  refine ⟨Nat.mod_lt _ hnx, ?_, by omega⟩
  have : (q - nx) / nx + 1 ≤ q / nx := by rw [Nat.le_div_iff_mul_le hnx]; omega
  have := Nat.div_lt_of_lt_mul h2
  omega

theorem inRegion_inRaster (nx ny : Nat) (regs : Nat → Nat) (r : Nat) : InRaster (inRegion nx ny regs r) nx ny := by
  intro x y h
  simp only [inRegion, Bool.and_eq_true, decide_eq_true_eq] at h
  omega

theorem inRegion_nat (nx ny : Nat) (regs : Nat → Nat) (r : Nat) (X Y : Nat) :
    inRegion nx ny regs r (X : Int) (Y : Int) = true ↔ X < nx ∧ Y < ny ∧ regs (X + Y * nx) = r := by
  simp only [inRegion, Bool.and_eq_true, decide_eq_true_eq, beq_iff_eq, flat_xy]
  omega

theorem inRegion_idx {nx ny : Nat} (hnx : 0 < nx) (regs : Nat → Nat) (r : Nat) {p : Nat} (hp : p < nx * ny) :
    inRegion nx ny regs r ((p % nx : Nat) : Int) ((p / nx : Nat) : Int) = true ↔ regs p = r := by
  rw [inRegion_nat, Nat.mod_add_div']
  have := Nat.mod_lt p hnx
  have := Nat.div_lt_of_lt_mul hp
  constructor
  · intro h; exact h.2.2
  · intro h; exact ⟨by omega, by omega, h⟩

theorem valid_E_iff (R : Int → Int → Bool) (x y : Int) :
    Valid R ⟨x, y, .E⟩ ↔ R x y = true ∧ R x (y - 1) = false := by
  simp [Valid, FSt.rightCell, Dir.left, Dir.dx, Dir.dy]
theorem valid_W_iff (R : Int → Int → Bool) (x y : Int) :
    Valid R ⟨x, y, .W⟩ ↔ R x y = true ∧ R x (y + 1) = false := by
  simp [Valid, FSt.rightCell, Dir.left, Dir.dx, Dir.dy]
theorem valid_N_iff (R : Int → Int → Bool) (x y : Int) :
    Valid R ⟨x, y, .N⟩ ↔ R x y = true ∧ R (x + 1) y = false := by
  simp [Valid, FSt.rightCell, Dir.left, Dir.dx, Dir.dy]
theorem valid_S_iff (R : Int → Int → Bool) (x y : Int) :
    Valid R ⟨x, y, .S⟩ ↔ R x y = true ∧ R (x - 1) y = false := by
  simp [Valid, FSt.rightCell, Dir.left, Dir.dx, Dir.dy]

theorem valid_W (nx ny : Nat) (regs : Nat → Nat) (X Y : Nat) (hX : X < nx) (hY : Y < ny)
    (hne : regs (X + (Y + 1) * nx) ≠ regs (X + Y * nx)) :
    Valid (inRegion nx ny regs (regs (X + Y * nx))) ⟨(X : Int), (Y : Int), .W⟩ :=
  (valid_W_iff _ _ _).mpr ⟨(inRegion_nat nx ny regs _ X Y).mpr ⟨hX, hY, rfl⟩,
    Bool.eq_false_iff.mpr fun h => hne ((inRegion_nat nx ny regs _ X (Y + 1)).mp h).2.2⟩

theorem valid_E (nx ny : Nat) (regs : Nat → Nat) (X Y : Nat) (hX : X < nx) (hY : Y < ny)
    (hne : 1 ≤ Y → regs (X + (Y - 1) * nx) ≠ regs (X + Y * nx)) :
    Valid (inRegion nx ny regs (regs (X + Y * nx))) ⟨(X : Int), (Y : Int), .E⟩ := by
  refine (valid_E_iff _ _ _).mpr ⟨(inRegion_nat nx ny regs _ X Y).mpr ⟨hX, hY, rfl⟩, Bool.eq_false_iff.mpr fun h => ?_⟩
  cases Y with
  | zero => have := inRegion_inRaster nx ny regs _ _ _ h; omega
  | succ Y => exact hne (Nat.le_add_left 1 Y) ((inRegion_nat nx ny regs _ X Y).mp (by simpa using h)).2.2

/-- a hole is started on the N edge of pixel `ij - nx` (heading W) only when the pixel above it, `ij`,
    is in another region: that state is a boundary edge -/
theorem hole_start_valid (nx ny : Nat) (regs : Nat → Nat) (ij : Nat) (hnx : 0 < nx) (h1 : nx ≤ ij)
    (h2 : ij < nx * ny) (hne : regs ij ≠ regs (ij - nx)) :
    Valid (inRegion nx ny regs (regs (ij - nx))) ⟨((ij - nx) % nx : Nat), ((ij - nx) / nx : Nat), .W⟩ := by
  obtain ⟨hx, hy, hup⟩ := above_pix hnx h1 h2
  have hd := Nat.mod_add_div' (ij - nx) nx
  have := valid_W nx ny regs ((ij - nx) % nx) ((ij - nx) / nx) hx (by omega) (by rw [hup, hd]; exact hne)
  rw [hd] at this
  exact this

/-- an exterior is started on the S edge of pixel `ij` (heading E); that state is a boundary edge when
    the pixel below is not in the same region -- true for the first pixel of a region in scan order -/
theorem exterior_start_valid (nx ny : Nat) (regs : Nat → Nat) (ij : Nat) (hnx : 0 < nx)
    (h2 : ij < nx * ny) (hfirst : nx ≤ ij → regs (ij - nx) ≠ regs ij) :
    Valid (inRegion nx ny regs (regs ij)) ⟨(ij % nx : Nat), (ij / nx : Nat), .E⟩ := by
  have hd := Nat.mod_add_div' ij nx
  have := valid_E nx ny regs (ij % nx) (ij / nx) (Nat.mod_lt _ hnx) (Nat.div_lt_of_lt_mul h2) (by
    intro hY
    have h1 : 1 * nx ≤ ij / nx * nx := Nat.mul_le_mul_right nx hY
    have hdown : ij % nx + (ij / nx - 1) * nx = ij - nx := by
      rw [Nat.sub_mul, Nat.one_mul]; omega
    rw [hdown, hd]; exact hfirst (by omega))
  rw [hd] at this
  exact this

section spec
variable {V : Type}

def edgesOf (ring : Ring) : List ((Int × Int) × (Int × Int)) := ring.zip ring.tail

/-- even-odd rule for the centre of pixel `(i, j)`: vertical ring edges strictly to its right that
    span its height (coordinates doubled to stay integral) -/
def crossings (ring : Ring) (i j : Int) : Nat :=
  (edgesOf ring).countP fun e =>
    e.1.1 == e.2.1 && decide (2 * i + 1 < 2 * e.1.1) && decide (2 * min e.1.2 e.2.2 < 2 * j + 1)
      && decide (2 * j + 1 < 2 * max e.1.2 e.2.2)

def inRing (ring : Ring) (i j : Int) : Bool := crossings ring i j % 2 == 1

/-- inside the exterior (first ring) and inside none of the holes -/
def inPolygon (rings : List Ring) (i j : Int) : Bool :=
  match rings with
  | [] => false
  | ext :: holes => inRing ext i j && holes.all (fun h => !inRing h i j)

/-- twice the signed (shoelace) area; positive = anticlockwise with x to the right, y upwards -/
def area2 (ring : Ring) : Int := ((edgesOf ring).map fun e => e.1.1 * e.2.2 - e.2.1 * e.1.2).sum

def ringWellFormed (nx ny : Nat) (ring : Ring) : Bool :=
  decide (5 ≤ ring.length) && (ring.head? == ring.getLast?) &&
  ring.all (fun p => decide (0 ≤ p.1) && decide (p.1 ≤ nx) && decide (0 ≤ p.2) && decide (p.2 ≤ ny)) &&
  (edgesOf ring).all (fun e => (e.1.1 == e.2.1) != (e.1.2 == e.2.2))

/-- **The full statement of C15 for one raster**, as a decidable check of a result `(column, polys)`:
    every unmasked pixel centre lies in exactly one polygon (exterior minus holes, even-odd rule) and that
    polygon carries the pixel's value, masked pixels lie in none; two pixels lie in the same polygon
    exactly when they are in the same connected region of equal value (4- or 8-connectivity among unmasked
    pixels -- expressed through the C16 labelling, which Props/C16 proves to be the components); each
    polygon's area (exterior minus holes) is its pixel count; rings are closed, lie on pixel corners,
    have axis-parallel edges, exteriors anticlockwise and holes clockwise. -/
def losslessB (nx ny : Nat) (conn8 : Bool) (eqv : V → V → Bool) (values : Nat → V) (mask : Nat → Bool)
    (column : List V) (polys : List (List Ring)) : Bool :=
  let cells : List (Nat × Nat) := (List.range ny).flatMap fun j => (List.range nx).map fun i => (i, j)
  let owners : Nat × Nat → List Nat := fun c =>
    (List.range polys.length).filter fun k => inPolygon (polys.getD k []) c.1 c.2
  let comp : Nat × Nat → Option Nat :=
    Regions.regions ny nx conn8 eqv (fun c => if mask (c.2 + c.1 * nx) then some (values (c.2 + c.1 * nx)) else none)
  decide (column.length = polys.length) &&
  cells.all (fun c =>
    if mask (c.1 + c.2 * nx) then
      (match owners c with
       | [k] => (match column[k]? with | some v => eqv v (values (c.1 + c.2 * nx)) | none => false)
       | _ => false)
    else (owners c).isEmpty) &&
  cells.all (fun c => cells.all fun c' =>
    if mask (c.1 + c.2 * nx) && mask (c'.1 + c'.2 * nx) then
      (owners c == owners c') == (comp (c.2, c.1) == comp (c'.2, c'.1))
    else true) &&
  (List.range polys.length).all (fun k =>
    let rings := polys.getD k []
    ((rings.map area2).sum == 2 * ((cells.filter fun c => owners c == [k]).length : Int)) &&
    (match rings with
     | [] => false
     | ext :: holes => decide (0 < area2 ext) && holes.all (fun h => decide (area2 h < 0))) &&
    rings.all (ringWellFormed nx ny))

end spec

def affineR (t : List Rat) (p : Rat × Rat) : Rat × Rat :=
  let g := fun k => t.getD k 0
  (g 0 * p.1 + g 1 * p.2 + g 2, g 3 * p.1 + g 4 * p.2 + g 5)

theorem affine_eq (t : List Rat) (p : Int × Int) : affine t p = affineR t (toRat p) := rfl

end XrsVerif.Polygonize
