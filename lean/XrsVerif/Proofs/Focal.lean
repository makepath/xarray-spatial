import XrsVerif.Model.Focal
import XrsVerif.Proofs.KSimp
import XrsVerif.Proofs.ListFold
/-!
  Helper lemmas and specification-level definitions for C09 (Props/C09.lean).

  Part 1 (any `Fl` instance, i.e. also IEEE `Float`): the index bookkeeping of `_apply_numpy`,
  `_mean_numpy` and `_convolve_2d_numpy` -- loops over `intRange`, buffer updates, slices.
  Part 2 (`NV K`, NaN or an element of an ordered field): the NaN-ignoring reductions.
-/
set_option linter.unusedSectionVars false
namespace XrsVerif.Focal
open XrsVerif XrsVerif.Gen.Focal

section Generic
variable {F : Type} [Fl F]

theorem mem_intRange (lo hi k : Int) : k ∈ intRange lo hi ↔ lo ≤ k ∧ k < hi := by
  simp only [intRange, List.mem_map, List.mem_range]
  constructor
  · rintro ⟨a, ha, rfl⟩; omega
  · intro h; exact ⟨(k - lo).toNat, by omega, by omega⟩

theorem foldl_miss {κ : Type} (ks : List κ) (step : Arr F → κ → Arr F) (i j : Int)
    (hmiss : ∀ k ∈ ks, ∀ b, step b k i j = b i j) (b0 : Arr F) :
    (ks.foldl step b0) i j = b0 i j :=
  foldl_snoc_inv step (fun _ b => b i j = b0 i j) ks
    (fun _ c b ⟨_, hl⟩ h => (hmiss c (by simp [hl]) b).trans h) rfl

theorem foldl_upd_at {κ : Type} (ks : List κ) (step : Arr F → κ → Arr F) (i j : Int) (k0 : κ)
    (c : Bool) (v : F)
    (hk0 : ∀ b, step b k0 i j = if c then v else b i j)
    (hmiss : ∀ k ∈ ks, k ≠ k0 → ∀ b, step b k i j = b i j)
    (hin : k0 ∈ ks) (b0 : Arr F) :
    (ks.foldl step b0) i j = if c then v else b0 i j := by
  induction ks generalizing b0 with
  | nil => simp at hin
  | cons k rest ih =>
    simp only [List.foldl_cons]
    have hm' : ∀ k' ∈ rest, k' ≠ k0 → ∀ b, step b k' i j = b i j :=
      fun k' hk' => hmiss k' (List.mem_cons_of_mem _ hk')
    by_cases hk : k = k0
    · subst hk
      by_cases hr : k ∈ rest
      · rw [ih hm' hr, hk0]; split <;> rfl
      · rw [foldl_miss rest step i j (fun k' hk' => hm' k' hk' (fun e => hr (e ▸ hk'))), hk0]
    · have hr : k0 ∈ rest := by
        rcases List.mem_cons.mp hin with h | h
        · exact absurd h.symm hk
        · exact h
      rw [ih hm' hr, hmiss k List.mem_cons_self hk]

/-- the closed form of the window handed to the reducer at output cell (y, x):
    position (a, b) holds `data[y - krows/2 + a, x - kcols/2 + b]` when that cell is inside the raster and
    `kernel[a, b] == 1`, and `init a b` (NaN in the real code) otherwise -/
def gatherSpec (data kernel : Arr F) (rows cols krows kcols : Nat) (init : Arr F) (y x : Int) : Arr F :=
  fun a b =>
    let i := y - ((krows / 2 : Nat) : Int) + a
    let j := x - ((kcols / 2 : Nat) : Int) + b
    if (decide (0 ≤ i ∧ i < rows ∧ 0 ≤ j ∧ j < cols) && Fl.eq (kernel a b) (Fl.lit 1 1)) then data i j
    else init a b

theorem applyStep_at (data kernel : Arr F) (v : ApplyVars) (buf : Arr F) (i j : Int) :
    applyStep data kernel v buf i j =
      if apply_in_bounds v = true ∧
          Fl.eq (kernel (apply_test_idx v).1 (apply_test_idx v).2) (Fl.lit apply_test_val 1) = true ∧
          i = (apply_store_idx v).1 ∧ j = (apply_store_idx v).2
      then data (apply_read_idx v).1 (apply_read_idx v).2 else buf i j := by
  unfold applyStep
  by_cases h1 : apply_in_bounds v = true
  · by_cases h2 : Fl.eq (kernel (apply_test_idx v).1 (apply_test_idx v).2) (Fl.lit apply_test_val 1) = true
    · simp only [h1, h2, if_true, true_and, Arr.set]
    · simp only [h1, h2, if_true, true_and]; rfl
  · simp only [h1]; rfl

theorem applyGather_eq (data kernel : Arr F) (rows cols krows kcols : Nat) (buf0 : Arr F) (y x a b : Int)
    (ha : 0 ≤ a) (ha' : a < krows) (hb : 0 ≤ b) (hb' : b < kcols) :
    applyGather data kernel rows cols krows kcols buf0 y x a b =
      gatherSpec data kernel rows cols krows kcols buf0 y x a b := by
  unfold applyGather gatherSpec
  simp only [applyVars, apply_hrows, apply_hcols, apply_ky_lo, apply_ky_hi, apply_kx_lo, apply_kx_hi]
  have h2a : a ≤ 2 * ((krows / 2 : Nat) : Int) := by omega
  have h2b : b ≤ 2 * ((kcols / 2 : Nat) : Int) := by omega
  generalize ((krows / 2 : Nat) : Int) = hr at *
  generalize ((kcols / 2 : Nat) : Int) = hc at *
  -- the one iteration that can write (a, b)
  rw [foldl_upd_at _ _ a b (y - hr + a)
        (decide (0 ≤ y - hr + a ∧ y - hr + a < rows ∧ 0 ≤ x - hc + b ∧ x - hc + b < cols) &&
          Fl.eq (kernel a b) (Fl.lit 1 1))
        (data (y - hr + a) (x - hc + b))]
  · intro bf
    rw [foldl_upd_at _ _ a b (x - hc + b)
        (decide (0 ≤ y - hr + a ∧ y - hr + a < rows ∧ 0 ≤ x - hc + b ∧ x - hc + b < cols) &&
          Fl.eq (kernel a b) (Fl.lit 1 1))
        (data (y - hr + a) (x - hc + b))]
    · intro bf2
      rw [applyStep_at]
      simp only [apply_in_bounds, apply_test_idx, apply_test_val, apply_store_idx, apply_read_idx]
      have e1 : y - hr + a - (y - hr) = a := by omega
      have e2 : x - hc + b - (x - hc) = b := by omega
      simp only [e1, e2, and_self, and_true, Bool.and_eq_true, decide_eq_true_eq]
      have e3 : ((y - hr + a ≥ 0 ∧ y - hr + a < (rows : Int)) ∧ x - hc + b ≥ 0) ∧ x - hc + b < (cols : Int) ↔
          (0 ≤ y - hr + a ∧ y - hr + a < rows ∧ 0 ≤ x - hc + b ∧ x - hc + b < cols) := by omega
      simp only [e3]
    · intro kx _ hne bf2
      rw [applyStep_at]
      simp only [apply_store_idx]
      have : ¬ (b = kx - (x - hc)) := by omega
      simp only [this, and_false, if_false]
    · rw [mem_intRange]; omega
  · intro ky _ hne bf
    apply foldl_miss
    intro kx _ bf2
    rw [applyStep_at]
    simp only [apply_store_idx]
    have : ¬ (a = ky - (y - hr)) := by omega
    simp only [this, false_and, and_false, if_false]
  · rw [mem_intRange]; omega

/-- the window the reducer receives at output cell (y, x), in closed form (NaN outside the footprint) -/
def specWindow (data kernel : Arr F) (rows cols krows kcols : Nat) (y x : Int) : List (List F) :=
  windowOf (gatherSpec data kernel rows cols krows kcols nanArr y x) krows kcols

theorem windowOf_congr (b1 b2 : Arr F) (r c : Nat)
    (h : ∀ a b : Int, 0 ≤ a → a < r → 0 ≤ b → b < c → b1 a b = b2 a b) : windowOf b1 r c = windowOf b2 r c := by
  unfold windowOf
  apply List.map_congr_left
  intro a ha
  apply List.map_congr_left
  intro b hb
  rw [List.mem_range] at ha hb
  exact h a b (by omega) (by omega) (by omega) (by omega)

theorem applyCells_eq (data kernel : Arr F) (rows cols krows kcols : Nat) (func : List (List F) → F)
    (hfill : apply_fill_each_step = true) (cells : List (Int × Int)) (prev : Arr F) :
    applyCells data kernel rows cols krows kcols func cells prev =
      cells.map fun c => func (specWindow data kernel rows cols krows kcols c.1 c.2) := by
  induction cells generalizing prev with
  | nil => rfl
  | cons c rest ih =>
    obtain ⟨y, x⟩ := c
    simp only [applyCells, hfill, if_true, List.map_cons]
    rw [ih]
    congr 2
    unfold specWindow
    apply windowOf_congr
    intro a b h1 h2 h3 h4
    exact applyGather_eq data kernel rows cols krows kcols nanArr y x a b h1 h2 h3 h4


theorem intRange_nil (lo hi : Int) (h : hi ≤ lo) : intRange lo hi = [] := by
  unfold intRange
  have : (hi - lo).toNat = 0 := by omega
  rw [this]; rfl

theorem intRange_cons (lo hi : Int) (h : lo < hi) : intRange lo hi = lo :: intRange (lo + 1) hi := by
  unfold intRange
  obtain ⟨n, hn⟩ : ∃ n : Nat, (hi - lo).toNat = n + 1 := ⟨(hi - lo).toNat - 1, by omega⟩
  have hn' : (hi - (lo + 1)).toNat = n := by omega
  rw [hn, hn', List.range_succ_eq_map, List.map_cons, List.map_map]
  congr 1
  · simp
  · apply List.map_congr_left; intro k _; simp only [Function.comp]; push_cast; omega

theorem intRange_of_len (lo hi : Int) (n : Nat) (h : hi - lo = n) :
    intRange lo hi = (List.range n).map fun (k : Nat) => lo + (k : Int) := by
  unfold intRange
  have : (hi - lo).toNat = n := by omega
  rw [this]

theorem filter_intRange (a b lo hi : Int) :
    (intRange a b).filter (fun i => decide (lo ≤ i ∧ i < hi)) = intRange (max a lo) (min b hi) := by
  obtain ⟨n, hn⟩ : ∃ n : Nat, (b - a).toNat = n := ⟨_, rfl⟩
  induction n generalizing a with
  | zero =>
    rw [intRange_nil a b (by omega), intRange_nil _ _ (by omega)]; rfl
  | succ n ih =>
    rw [intRange_cons a b (by omega), List.filter_cons, ih (a + 1) (by omega)]
    by_cases h : lo ≤ a ∧ a < hi
    · simp only [h, and_self, decide_true, if_true]
      rw [intRange_cons (max a lo) (min b hi) (by omega)]
      congr 1
      · omega
      · congr 1; omega
    · simp only [h, decide_false, Bool.false_eq_true, if_false]
      by_cases h2 : a < lo
      · have e : max (a + 1) lo = max a lo := by omega
        rw [e]
      · rw [intRange_nil _ _ (by omega), intRange_nil _ _ (by omega)]

theorem prod_filter {β : Type} (la lb : List Nat) (fi fj : Nat → Int) (p q : Int → Bool) (f : Int → Int → β) :
    ((la.map fi).filter p).flatMap (fun i => ((lb.map fj).filter q).map (f i)) =
      (la.flatMap fun a => lb.map fun b => (a, b)).filterMap
        (fun ab => if p (fi ab.1) && q (fj ab.2) then some (f (fi ab.1) (fj ab.2)) else none) := by
  have inner : ∀ (i : Int) (a : Nat), fi a = i → p i = true →
      ((lb.map fj).filter q).map (f i) =
        (lb.map fun b => (a, b)).filterMap
          (fun ab => if p (fi ab.1) && q (fj ab.2) then some (f (fi ab.1) (fj ab.2)) else none) := by
    intro i a hia hp
    induction lb with
    | nil => rfl
    | cons b rest ih =>
      simp only [List.map_cons, List.filter_cons, List.filterMap_cons, hia, hp, Bool.true_and]
      by_cases hq : q (fj b) = true
      · simp [hq, ih]
      · simp [hq, ih]
  have innerF : ∀ (a : Nat), p (fi a) = false →
      (lb.map fun b => (a, b)).filterMap
          (fun ab => if p (fi ab.1) && q (fj ab.2) then some (f (fi ab.1) (fj ab.2)) else none) = [] := by
    intro a hp
    induction lb with
    | nil => rfl
    | cons b rest ih => simp [hp]
  induction la with
  | nil => rfl
  | cons a rest ih =>
    simp only [List.map_cons, List.filter_cons, List.flatMap_cons, List.filterMap_append]
    by_cases hp : p (fi a) = true
    · simp only [hp, if_true, List.flatMap_cons, ih]
      rw [inner (fi a) a rfl hp]
    · have hp' : p (fi a) = false := by simpa using hp
      simp only [hp', Bool.false_eq_true, if_false, ih, innerF a hp', List.nil_append]

/-- the data cells selected by `sel` among the positions of a `krows × kcols` window centred on (y, x) that lie
    inside the raster -- row-major, NaN cells included -/
def footprintSel (sel : Int → Int → Bool) (data : Arr F) (rows cols krows kcols : Nat) (y x : Int) : List F :=
  (allCells krows kcols).filterMap fun p =>
    let i := y - ((krows / 2 : Nat) : Int) + p.1
    let j := x - ((kcols / 2 : Nat) : Int) + p.2
    if decide (0 ≤ i ∧ i < rows) && decide (0 ≤ j ∧ j < cols) && sel p.1 p.2 then some (data i j) else none

/-- the input cells lying under the 1-entries of the kernel centred on (y, x), clipped at the raster edge -/
def footprint (data kernel : Arr F) (rows cols krows kcols : Nat) (y x : Int) : List F :=
  footprintSel (fun a b => Fl.eq (kernel a b) (Fl.lit 1 1)) data rows cols krows kcols y x

theorem mem_allCells (r c : Nat) (p : Int × Int) :
    p ∈ allCells r c ↔ ∃ a b : Nat, a < r ∧ b < c ∧ p = ((a : Int), (b : Int)) := by
  simp only [allCells, List.mem_flatMap, List.mem_map, List.mem_range]
  constructor
  · rintro ⟨a, ha, b, hb, rfl⟩; exact ⟨a, b, ha, hb, rfl⟩
  · rintro ⟨a, b, ha, hb, rfl⟩; exact ⟨a, ha, b, hb, rfl⟩

theorem mapM_ok {α β : Type} (l : List α) (f : α → Except String β) (g : α → β)
    (h : ∀ a ∈ l, f a = .ok (g a)) : l.mapM f = .ok (l.map g) := by
  induction l with
  | nil => rfl
  | cons a rest ih =>
    rw [List.mapM_cons, h a List.mem_cons_self, ih (fun a' ha' => h a' (List.mem_cons_of_mem _ ha'))]
    rfl

theorem flatten_windowOf (b : Arr F) (r c : Nat) :
    (windowOf b r c).flatten = (allCells r c).map fun p => b p.1 p.2 := by
  unfold windowOf allCells
  rw [List.flatten_eq_flatMap, List.flatMap_map, List.map_flatMap]
  simp only [List.map_map]
  rfl

theorem allCells_eq (r c : Nat) :
    allCells r c = ((List.range r).flatMap fun a => (List.range c).map fun b => (a, b)).map
      (fun ab : Nat × Nat => ((ab.1 : Int), (ab.2 : Int))) := by
  unfold allCells
  rw [List.map_flatMap]
  simp only [List.map_map]
  rfl

/-- the slice `data[max(y-1,0):min(y+2,rows), max(x-1,0):min(x+2,cols)]` of `_mean_numpy` is the full 3x3
    footprint clipped at the raster edge -/
theorem mean_slice_eq (data : Arr F) (rows cols : Nat) (y x : Int) :
    sliceCells data (max (y - 1) 0) (min (y + 2) rows) (max (x - 1) 0) (min (x + 2) cols) =
      footprintSel (fun _ _ => true) data rows cols 3 3 y x := by
  unfold sliceCells footprintSel
  rw [← filter_intRange (y - 1) (y + 2) 0 rows, ← filter_intRange (x - 1) (x + 2) 0 cols,
      intRange_of_len (y - 1) (y + 2) 3 (by omega), intRange_of_len (x - 1) (x + 2) 3 (by omega),
      prod_filter, allCells_eq, List.filterMap_map]
  apply List.filterMap_congr
  intro ab _
  simp only [Function.comp, Bool.and_true]
  have e1 : y - ((3 / 2 : Nat) : Int) + (ab.1 : Int) = y - 1 + (ab.1 : Int) := by norm_num
  have e2 : x - ((3 / 2 : Nat) : Int) + (ab.2 : Int) = x - 1 + (ab.2 : Int) := by norm_num
  rw [e1, e2]

/-- in the interior the accumulated products of `_convolve_2d_numpy` are `kernel[a, b] * data[i - wkx + a, j - wky + b]`
    over the whole kernel, row-major -/
theorem conv_terms_eq (data kernel : Arr F) (nx ny nkx nky : Nat) (i j : Int)
    (hi0 : ((nkx / 2 : Nat) : Int) ≤ i) (hi1 : i < (nx : Int) - ((nkx / 2 : Nat) : Int))
    (hj0 : ((nky / 2 : Nat) : Int) ≤ j) (hj1 : j < (ny : Int) - ((nky / 2 : Nat) : Int))
    (hoddx : nkx % 2 = 1) (hoddy : nky % 2 = 1) :
    convTerms data kernel nx ny nkx nky i j =
      (allCells nkx nky).map fun p =>
        Fl.mul (kernel p.1 p.2) (data (i - ((nkx / 2 : Nat) : Int) + p.1) (j - ((nky / 2 : Nat) : Int) + p.2)) := by
  unfold convTerms
  simp only [convVars, conv_wkx, conv_wky, conv_ii_lo, conv_ii_hi, conv_jj_lo, conv_jj_hi, conv_kernel_idx, conv_data_idx]
  have a1 : max (i - ((nkx / 2 : Nat) : Int)) 0 = i - ((nkx / 2 : Nat) : Int) := by omega
  have a2 : min (i + ((nkx / 2 : Nat) : Int) + 1) (nx : Int) = i + ((nkx / 2 : Nat) : Int) + 1 := by omega
  have a3 : max (j - ((nky / 2 : Nat) : Int)) 0 = j - ((nky / 2 : Nat) : Int) := by omega
  have a4 : min (j + ((nky / 2 : Nat) : Int) + 1) (ny : Int) = j + ((nky / 2 : Nat) : Int) + 1 := by omega
  rw [a1, a2, a3, a4,
      intRange_of_len (i - ((nkx / 2 : Nat) : Int)) (i + ((nkx / 2 : Nat) : Int) + 1) nkx (by omega),
      intRange_of_len (j - ((nky / 2 : Nat) : Int)) (j + ((nky / 2 : Nat) : Int) + 1) nky (by omega)]
  unfold allCells
  rw [List.flatMap_map, List.map_flatMap]
  apply List.flatMap_congr
  intro a _
  simp only [List.map_map]
  apply List.map_congr_left
  intro b _
  simp only [Function.comp]
  congr 2 <;> omega

/-- a cell of `_convolve_2d_numpy`, any kernel shape: the accumulated products where the two outer loops go, NaN on the
    margin of half the kernel's extent -/
theorem convCell_eq (data kernel : Arr F) (nx ny nkx nky : Nat) (i j : Int) :
    convCell data kernel nx ny nkx nky i j =
      if ((nkx / 2 : Nat) : Int) ≤ i ∧ i < (nx : Int) - ((nkx / 2 : Nat) : Int) ∧
          ((nky / 2 : Nat) : Int) ≤ j ∧ j < (ny : Int) - ((nky / 2 : Nat) : Int)
      then fsum (convTerms data kernel nx ny nkx nky i j) else Fl.nan := by
  have hin : convInLoop nx ny nkx nky i j = true ↔
      ((nkx / 2 : Nat) : Int) ≤ i ∧ i < (nx : Int) - ((nkx / 2 : Nat) : Int) ∧
      ((nky / 2 : Nat) : Int) ≤ j ∧ j < (ny : Int) - ((nky / 2 : Nat) : Int) := by
    simp only [convInLoop, Bool.and_eq_true, decide_eq_true_eq, and_assoc]
    rfl
  simp only [convCell, hin, conv_fill_nan, if_true]

/-- **the convolution cell for an odd kernel `(2a+1) × (2b+1)`, in closed form**, with the half widths as the numbers
    they are -/
theorem convCell_odd (D K : Arr F) (nx ny a b : Nat) (i j : Int) :
    convCell D K nx ny (2 * a + 1) (2 * b + 1) i j =
      if (a : Int) ≤ i ∧ i < (nx : Int) - a ∧ (b : Int) ≤ j ∧ j < (ny : Int) - b then
        fsum ((allCells (2 * a + 1) (2 * b + 1)).map fun p => Fl.mul (K p.1 p.2) (D (i - a + p.1) (j - b + p.2)))
      else Fl.nan := by
  have ha : (2 * a + 1) / 2 = a := by omega
  have hb : (2 * b + 1) / 2 = b := by omega
  rw [convCell_eq, ha, hb]
  split
  · rename_i h
    rw [conv_terms_eq D K nx ny _ _ i j (by rw [ha]; exact h.1) (by rw [ha]; exact h.2.1) (by rw [hb]; exact h.2.2.1)
      (by rw [hb]; exact h.2.2.2) (by omega) (by omega), ha, hb]
  · rfl

end Generic

section NVPart
variable {K : Type} [Field K] [LinearOrder K] [IsStrictOrderedRing K] [Trig K]

def vals (w : List (NV K)) : List K := w.filterMap id

theorem valid_eq (w : List (NV K)) : valid w = (vals w).map some := by
  unfold valid vals
  rw [List.map_filterMap, ← List.filterMap_eq_filter]
  exact List.filterMap_congr fun a _ => by cases a <;> rfl

theorem fsum_some (l : List K) : fsum (l.map (some : K → NV K)) = some l.sum := by
  unfold fsum
  have : (Fl.lit 0 1 : NV K) = some 0 := by simp
  rw [this, List.foldl_map, List.foldl_hom some fl_add, List.sum_eq_foldl]

theorem natLit_eq (n : Nat) : (natLit n : NV K) = some (n : K) := by
  simp [natLit]

theorem nansum_eq (w : List (NV K)) : nansum w = some (vals w).sum := by
  unfold nansum; rw [valid_eq, fsum_some]

theorem nanmean_eq (w : List (NV K)) :
    nanmean w = if vals w = [] then none else some ((vals w).sum / ((vals w).length : K)) := by
  unfold nanmean
  rw [nansum_eq, valid_eq, List.length_map, natLit_eq, fl_div]
  by_cases h : vals w = []
  · simp [h]
  · have : ((vals w).length : K) ≠ 0 := by
      simpa [List.length_eq_zero_iff] using h
    simp [h, this]


def IsMaxOf (l : List K) (m : K) : Prop := m ∈ l ∧ ∀ v ∈ l, v ≤ m
def IsMinOf (l : List K) (m : K) : Prop := m ∈ l ∧ ∀ v ∈ l, m ≤ v

theorem nanmax_empty (w : List (NV K)) (h : vals w = []) : nanmax w = none := by
  unfold nanmax; rw [valid_eq, h]; rfl

theorem nanmin_empty (w : List (NV K)) (h : vals w = []) : nanmin w = none := by
  unfold nanmin; rw [valid_eq, h]; rfl

theorem nanmax_some (w : List (NV K)) (h : vals w ≠ []) : ∃ m, nanmax w = some m ∧ IsMaxOf (vals w) m := by
  unfold nanmax; rw [valid_eq]
  cases hv : vals w with
  | nil => exact absurd hv h
  | cons a rest =>
    refine ⟨_, ?_, foldl_max_cons a rest⟩
    rw [List.map_cons, fmaxL, List.foldl_map]
    exact List.foldl_hom some fun a b => by simp only [fl_lt, decide_eq_true_eq, apply_ite some]

theorem nanmin_some (w : List (NV K)) (h : vals w ≠ []) : ∃ m, nanmin w = some m ∧ IsMinOf (vals w) m := by
  unfold nanmin; rw [valid_eq]
  cases hv : vals w with
  | nil => exact absurd hv h
  | cons a rest =>
    refine ⟨_, ?_, foldl_min_cons a rest⟩
    rw [List.map_cons, fminL, List.foldl_map]
    exact List.foldl_hom some fun a b => by simp only [fl_lt, decide_eq_true_eq, apply_ite some]

def popVar (l : List K) : K :=
  (l.map fun v => (v - l.sum / (l.length : K)) * (v - l.sum / (l.length : K))).sum / (l.length : K)

theorem nanvar_eq (w : List (NV K)) :
    nanvar w = if vals w = [] then none else some (popVar (vals w)) := by
  unfold nanvar
  simp only [nanmean_eq, valid_eq, List.length_map, natLit_eq]
  by_cases h : vals w = []
  · simp [h, fsum]
  · have hne : ((vals w).length : K) ≠ 0 := by simpa [List.length_eq_zero_iff] using h
    simp only [h, if_false, List.map_map]
    have : ((fun v : NV K => Fl.mul (Fl.sub v (some ((vals w).sum / ((vals w).length : K))))
              (Fl.sub v (some ((vals w).sum / ((vals w).length : K))))) ∘ some) =
           (some ∘ fun v : K => (v - (vals w).sum / ((vals w).length : K)) * (v - (vals w).sum / ((vals w).length : K))) := by
      funext v; simp
    rw [this, ← List.map_map, fsum_some, fl_div]
    simp [hne, popVar]

theorem nanstd_eq (w : List (NV K)) :
    nanstd w = if vals w = [] then none else some (Trig.sqrt (popVar (vals w))) := by
  unfold nanstd; rw [nanvar_eq]; split <;> simp

theorem fl_eq_one (k : NV K) : (Fl.eq k (Fl.lit 1 1 : NV K) = true) ↔ k = some 1 := by
  cases k with
  | none => simp
  | some a => simp

/-- the non-NaN cells the reducer sees are exactly the non-NaN input cells under the 1-entries of the kernel
    (clipped at the raster edge), in row-major order -/
theorem vals_specWindow (data kernel : Arr (NV K)) (rows cols krows kcols : Nat) (y x : Int) :
    vals (specWindow data kernel rows cols krows kcols y x).flatten =
      vals (footprint data kernel rows cols krows kcols y x) := by
  unfold specWindow footprint footprintSel vals
  rw [flatten_windowOf, List.filterMap_map, List.filterMap_filterMap]
  apply List.filterMap_congr
  intro p _
  simp only [Function.comp, gatherSpec, nanArr, id]
  generalize y - ((krows / 2 : Nat) : Int) + p.1 = i
  generalize x - ((kcols / 2 : Nat) : Int) + p.2 = j
  by_cases h1 : 0 ≤ i <;> by_cases h2 : i < (rows : Int) <;> by_cases h3 : 0 ≤ j <;>
    by_cases h4 : j < (cols : Int) <;> simp [h1, h2, h3, h4] <;> split <;> rfl

def negArr (d : Arr (NV K)) : Arr (NV K) := fun i j => Fl.neg (d i j)

theorem vals_map_neg (l : List (NV K)) : vals (l.map Fl.neg) = (vals l).map fun v => -v := by
  unfold vals
  rw [List.filterMap_map, List.map_filterMap]
  exact List.filterMap_congr fun a _ => by cases a <;> rfl

theorem nanmean_neg (l : List (NV K)) : nanmean (l.map Fl.neg) = Fl.neg (nanmean l) := by
  rw [nanmean_eq, nanmean_eq, vals_map_neg, ← List.sum_neg, List.length_map]
  by_cases h : vals l = []
  · simp [h]
  · simp [h, neg_div]

theorem popVar_neg (l : List K) : popVar (l.map fun v => -v) = popVar l := by
  unfold popVar
  rw [← List.sum_neg, List.length_map, List.map_map]
  congr 2
  apply List.map_congr_left
  intro v _
  simp only [Function.comp]
  ring

theorem nanstd_neg (l : List (NV K)) : nanstd (l.map Fl.neg) = nanstd l := by
  rw [nanstd_eq, nanstd_eq, vals_map_neg, popVar_neg]
  simp

theorem cellsOf_neg (d : Arr (NV K)) (r c : Nat) : cellsOf (negArr d) r c = (cellsOf d r c).map Fl.neg := by
  unfold cellsOf negArr; rw [List.map_map]; rfl

theorem fl_add_neg (a b : NV K) : Fl.add (Fl.neg a) (Fl.neg b) = Fl.neg (Fl.add a b) := by
  cases a <;> cases b <;> simp
  ring

theorem fl_mul_neg (a b : NV K) : Fl.mul a (Fl.neg b) = Fl.neg (Fl.mul a b) := by
  cases a <;> cases b <;> simp

theorem foldl_add_neg (l : List (NV K)) (acc : NV K) :
    (l.map Fl.neg).foldl Fl.add (Fl.neg acc) = Fl.neg (l.foldl Fl.add acc) := by
  induction l generalizing acc with
  | nil => rfl
  | cons a rest ih => simp only [List.map_cons, List.foldl_cons, fl_add_neg, ih]

theorem fsum_neg (l : List (NV K)) : fsum (l.map Fl.neg) = Fl.neg (fsum l) := by
  unfold fsum
  have : (Fl.lit 0 1 : NV K) = Fl.neg (Fl.lit 0 1) := by simp
  rw [this, foldl_add_neg]
  simp

theorem convTerms_neg (d k : Arr (NV K)) (nx ny nkx nky : Nat) (i j : Int) :
    convTerms (negArr d) k nx ny nkx nky i j = (convTerms d k nx ny nkx nky i j).map Fl.neg := by
  unfold convTerms negArr
  simp only [List.map_flatMap, List.map_map]
  apply List.flatMap_congr
  intro ii _
  apply List.map_congr_left
  intro jj _
  simp only [Function.comp, fl_mul_neg]

theorem convolve_neg (d k : Arr (NV K)) (nx ny nkx nky : Nat) :
    convolve (negArr d) k nx ny nkx nky = (convolve d k nx ny nkx nky).map Fl.neg := by
  unfold convolve
  rw [List.map_map]
  apply List.map_congr_left
  intro c _
  simp only [Function.comp, convCell, convTerms_neg, fsum_neg]
  split
  · rfl
  · simp [conv_fill_nan]

theorem zscore_neg (m gm gs : NV K) :
    Fl.div (Fl.sub (Fl.neg m) (Fl.neg gm)) gs = Fl.neg (Fl.div (Fl.sub m gm) gs) := by
  cases m <;> cases gm <;> cases gs <;> simp
  rename_i a b c
  by_cases h : c = 0
  · simp [h]
  · simp [h]; ring

theorem hotspotsZ_neg (d k : Arr (NV K)) (rows cols krows kcols : Nat) :
    hotspotsZ (negArr d) k rows cols krows kcols =
      (hotspotsZ d k rows cols krows kcols).map fun zs => zs.map Fl.neg := by
  unfold hotspotsZ
  simp only [cellsOf_neg, nanmean_neg, nanstd_neg, convolve_neg]
  split
  · rfl
  · simp only [Except.map, List.map_map]
    congr 1
    apply List.map_congr_left
    intro m _
    simp only [Function.comp, zscore_neg]

end NVPart
end XrsVerif.Focal
