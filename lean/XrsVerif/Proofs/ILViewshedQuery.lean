import XrsVerif.Proofs.ILViewshedWalk
/-
  Refinement of `Gen.IL.vsQuery`, the translation of `_max_grad_in_status_struct` (with `_find_max_value_within_key`,
  `_search_for_node`, `_compare`, `_find_max_value`, `_find_value_min_value` inlined), to the hand model's two-phase
  `query`, for every `[Fl F]`.

  The program is cut into blocks (`qInner`, `p1Loop`, `p2Loop` with body `p2Proc ; p2Move`); `vsQuery_body` ties them to
  the generated program by `rfl`.
    phase 1 (`p1Loop_spec`)   the walk from the key's node to the root = `shortCtx` along the context = `short`;
    phase 2 (`p2Loop_spec`)   the in-order predecessor walk by pointers (rightmost of the left subtree, else climb
                              while coming from a left child) with the early exit = the model's `walk` over the
                              predecessors, nearest first.
  What the program computes on the zipper (`queryZ`, `vsQuery_run`) is the model's query with the list of phase 2
  given *structurally* (`queryP`: `predsOf`, the in-order predecessors of the node the search finds, instead of the
  filter `key < K`): `queryZ_eq`, **`vsQuery_refines`**.  `queryP = query` needs the keys to be ordered
  (Proofs/ILViewshedOrder.lean).
-/
namespace XrsVerif.ILVs
open XrsVerif XrsVerif.IL XrsVerif.Viewshed
variable {F : Type} [Fl F]

local macro "q__find_max_value5_ret0" : term => `("_find_max_value_within_key1$_find_max_value5$ret0")
local macro "q__find_max_value5_row_tree_vals" : term => `("_find_max_value_within_key1$_find_max_value5$row$tree_vals")
local macro "q__find_value_min_value6_node_id" : term => `("_find_max_value_within_key1$_find_value_min_value6$node_id")
local macro "q__find_value_min_value6_ret0" : term => `("_find_max_value_within_key1$_find_value_min_value6$ret0")
local macro "q__search_for_node2__compare3_a" : term => `("_find_max_value_within_key1$_search_for_node2$_compare3$a")
local macro "q__search_for_node2__compare3_b" : term => `("_find_max_value_within_key1$_search_for_node2$_compare3$b")
local macro "q__search_for_node2__compare3_ret0" : term => `("_find_max_value_within_key1$_search_for_node2$_compare3$ret0")
local macro "q__search_for_node2__compare4_a" : term => `("_find_max_value_within_key1$_search_for_node2$_compare4$a")
local macro "q__search_for_node2__compare4_b" : term => `("_find_max_value_within_key1$_search_for_node2$_compare4$b")
local macro "q__search_for_node2__compare4_ret0" : term => `("_find_max_value_within_key1$_search_for_node2$_compare4$ret0")
local macro "q__search_for_node2_cur_node" : term => `("_find_max_value_within_key1$_search_for_node2$cur_node")
local macro "q__search_for_node2_key" : term => `("_find_max_value_within_key1$_search_for_node2$key")
local macro "q__search_for_node2_ret0" : term => `("_find_max_value_within_key1$_search_for_node2$ret0")
local macro "q__search_for_node2_root" : term => `("_find_max_value_within_key1$_search_for_node2$root")
local macro "q_ang" : term => `("_find_max_value_within_key1$ang")
local macro "q_check_me" : term => `("_find_max_value_within_key1$check_me")
local macro "q_cur_grad" : term => `("_find_max_value_within_key1$cur_grad")
local macro "q_cur_node" : term => `("_find_max_value_within_key1$cur_node")
local macro "q_cur_parent" : term => `("_find_max_value_within_key1$cur_parent")
local macro "q_cur_parent_left" : term => `("_find_max_value_within_key1$cur_parent_left")
local macro "q_gradient" : term => `("_find_max_value_within_key1$gradient")
local macro "q_key_node" : term => `("_find_max_value_within_key1$key_node")
local macro "q_last_node" : term => `("_find_max_value_within_key1$last_node")
local macro "q_max" : term => `("_find_max_value_within_key1$max")
local macro "q_max_key" : term => `("_find_max_value_within_key1$max_key")
local macro "q_min_value" : term => `("_find_max_value_within_key1$min_value")
local macro "q_ret0" : term => `("_find_max_value_within_key1$ret0")
local macro "q_root" : term => `("_find_max_value_within_key1$root")
local macro "q_tmp_max" : term => `("_find_max_value_within_key1$tmp_max")

/-- the names of the inlined `_search_for_node` -/
def qSearchNames : SearchNames :=
  ⟨q__search_for_node2_cur_node, q__search_for_node2_key, q__search_for_node2__compare3_a,
   q__search_for_node2__compare3_b, q__search_for_node2__compare3_ret0, q__search_for_node2__compare4_a,
   q__search_for_node2__compare4_b, q__search_for_node2__compare4_ret0⟩

def p2Span : St :=
  (.ite (.and (.cmpF .le (.ld2 "tree_vals" (.var q_cur_node) (.lit 4)) (.var q_ang)) (.cmpF .le (.var q_ang) (.ld2 "tree_vals" (.var q_cur_node) (.lit 6))))
    (.setB q_check_me .tt)
    .skip)

def p2Grad : St :=
  (.ite (.cmpF .lt (.var q_ang) (.ld2 "tree_vals" (.var q_cur_node) (.lit 5)))
    (.setF q_cur_grad (.bin .add (.ld2 "tree_vals" (.var q_cur_node) (.lit 2)) (.bin .div (.bin .mul (.bin .sub (.ld2 "tree_vals" (.var q_cur_node) (.lit 1)) (.ld2 "tree_vals" (.var q_cur_node) (.lit 2))) (.bin .sub (.ld2 "tree_vals" (.var q_cur_node) (.lit 5)) (.var q_ang))) (.bin .sub (.ld2 "tree_vals" (.var q_cur_node) (.lit 5)) (.ld2 "tree_vals" (.var q_cur_node) (.lit 4))))))
    (.ite (.cmpF .gt (.var q_ang) (.ld2 "tree_vals" (.var q_cur_node) (.lit 5)))
      (.setF q_cur_grad (.bin .add (.ld2 "tree_vals" (.var q_cur_node) (.lit 2)) (.bin .div (.bin .mul (.bin .sub (.ld2 "tree_vals" (.var q_cur_node) (.lit 3)) (.ld2 "tree_vals" (.var q_cur_node) (.lit 2))) (.bin .sub (.var q_ang) (.ld2 "tree_vals" (.var q_cur_node) (.lit 5)))) (.bin .sub (.ld2 "tree_vals" (.var q_cur_node) (.lit 6)) (.ld2 "tree_vals" (.var q_cur_node) (.lit 5))))))
      (.setF q_cur_grad (.ld2 "tree_vals" (.var q_cur_node) (.lit 2)))))

def p1Body : St :=
  (.seq (.setI q_cur_parent (.ld2 "tree_nodes" (.var q_cur_node) (.lit 3)))
  (.seq (.ite (.cmpI .eq (.var q_cur_node) (.ld2 "tree_nodes" (.var q_cur_parent) (.lit 2)))
      (.seq (.setI q_cur_parent_left (.ld2 "tree_nodes" (.var q_cur_parent) (.lit 1)))
      (.seq (.setI q__find_max_value5_row_tree_vals (.var q_cur_parent_left))
      (.seq (.scope (.seq (.setF q__find_max_value5_ret0 (.ld2 "tree_vals" (.var q__find_max_value5_row_tree_vals) (.lit 7)))
          .ret))
      (.seq (.setF q_tmp_max (.var q__find_max_value5_ret0))
      (.seq (maxUpd q_tmp_max q_max)
      (.seq (.setI q__find_value_min_value6_node_id (.var q_cur_parent))
      (.seq (minvScope q__find_value_min_value6_node_id q__find_value_min_value6_ret0)
      (.seq (.setF q_min_value (.var q__find_value_min_value6_ret0)) (maxUpd q_min_value q_max)))))))))
      .skip)
  (.setI q_cur_node (.var q_cur_parent))))

def p2Proc : St :=
  (.seq (.setB q_check_me .ff)
  (.seq p2Span
  (.seq (.ite (.and (.not (.var q_check_me)) (.cmpF .gt (.ld2 "tree_vals" (.var q_cur_node) (.lit 0)) (.ofInt (.lit 0))))
      .skip
      .skip)
  (.seq (.ite (.cmpF .gt (.ld2 "tree_vals" (.var q_cur_node) (.lit 0)) (.var q_max_key))
      (.fail "ValueError")
      .skip)
  (.ite (.and (.var q_check_me) (.cmpI .ne (.var q_cur_node) (.var q_key_node)))
    (.seq p2Grad
    (.seq (maxUpd q_cur_grad q_max)
    (.ite (.cmpF .gt (.var q_max) (.var q_gradient)) (.seq (.setF q_ret0 (.var q_max)) .ret) .skip)))
    .skip)))))

def p2Move : St :=
  (.ite (.cmpI .ne (.ld2 "tree_nodes" (.var q_cur_node) (.lit 1)) (.lit (-1)))
    (.seq (.setI q_cur_node (.ld2 "tree_nodes" (.var q_cur_node) (.lit 1))) (maxLoop q_cur_node))
    (.seq (.setI q_last_node (.var q_cur_node))
    (.seq (.setI q_cur_node (.ld2 "tree_nodes" (.var q_cur_node) (.lit 3)))
    (climbLoop q_cur_node q_last_node))))

def p2Body : St :=
  (.seq (.setB q_check_me .ff)
  (.seq p2Span
  (.seq (.ite (.and (.not (.var q_check_me)) (.cmpF .gt (.ld2 "tree_vals" (.var q_cur_node) (.lit 0)) (.ofInt (.lit 0))))
      .skip
      .skip)
  (.seq (.ite (.cmpF .gt (.ld2 "tree_vals" (.var q_cur_node) (.lit 0)) (.var q_max_key))
      (.fail "ValueError")
      .skip)
  (.seq (.ite (.and (.var q_check_me) (.cmpI .ne (.var q_cur_node) (.var q_key_node)))
      (.seq p2Grad
      (.seq (maxUpd q_cur_grad q_max)
      (.ite (.cmpF .gt (.var q_max) (.var q_gradient)) (.seq (.setF q_ret0 (.var q_max)) .ret) .skip)))
      .skip)
  p2Move)))))

def p1Loop : St := .while (.cmpI .ne (.ld2 "tree_nodes" (.var q_cur_node) (.lit 3)) (.lit (-1))) p1Body

def p2Loop : St := .while (.cmpI .ne (.var q_cur_node) (.lit (-1))) p2Body

def qSearch : St :=
  (.scope (.seq (.setI q__search_for_node2_cur_node (.var q__search_for_node2_root))
    (.seq (searchLoop qSearchNames)
    (.seq (.setI q__search_for_node2_ret0 (.var q__search_for_node2_cur_node)) .ret))))

def qPhase2 : St :=
  (.seq (.setF q_max (.lit (-10000000000000000000000) 1))
  (.seq (.setI q_cur_node (.var q_key_node)) (.seq p2Loop (.seq (.setF q_ret0 (.var q_max)) .ret))))

def qTail : St :=
  (.seq (.setI q_cur_node (.var q_key_node))
  (.seq (.setF q_max (.lit (-10000000000000000000000) 1))
  (.seq p1Loop
  (.seq (.ite (.cmpF .gt (.var q_max) (.var q_gradient)) (.seq (.setF q_ret0 (.var q_max)) .ret) .skip)
  qPhase2))))

def qInner : St :=
  (.seq (.setI q__search_for_node2_root (.var q_root))
  (.seq (.setF q__search_for_node2_key (.var q_max_key))
  (.seq qSearch
  (.seq (.setI q_key_node (.var q__search_for_node2_ret0))
  (.seq (.ite (.cmpI .eq (.var q_key_node) (.lit (-1)))
      (.seq (.setF q_ret0 (.lit (-10000000000000000000000) 1)) .ret)
      .skip)
  qTail)))))

theorem vsQuery_body : Gen.IL.vsQuery.body =
    (.seq (.ite (.cmpI .eq (.var "root") (.lit (-1)))
        (.seq (.setF "ret0" (.lit (-10000000000000000000000) 1)) .ret)
        .skip)
    (.seq (.setI q_root (.var "root"))
    (.seq (.setF q_max_key (.var "distance"))
    (.seq (.setF q_ang (.var "angle"))
    (.seq (.setF q_gradient (.var "gradient"))
    (.seq (.scope qInner) (.seq (.setF "ret0" (.var q_ret0)) .ret))))))) := rfl

def p1iv : List String :=
  [q_cur_node, q_cur_parent, q_cur_parent_left, q__find_max_value5_row_tree_vals, q__find_value_min_value6_node_id]
def p1fv : List String :=
  [q_max, q_tmp_max, q_min_value, q__find_max_value5_ret0, q__find_value_min_value6_ret0]

/-- one frame of phase 1 -/
def shortStep (vals : List F) (n : Nat) (acc : Fv F) : Fr → Fv F
  | .L _ _ => acc
  | .R l i => mx2 (minv (nodeAt vals i)) (mx2 (mxAt vals n l.ptr) acc)

theorem p1Body_spec (n fuel : Nat) (s : State F) (hv : VS s n) (hrun : s.ctl = .run) (i : Nat) (fr : Fr) (rest : Ctx)
    (hc : CtxLinked (s.ia "tree_nodes") n (i : Int) (fr :: rest))
    (hpar : nAt (s.ia "tree_nodes") i 3 = ctxPar (fr :: rest)) (hi : i + 1 < n)
    (hcur : s.ienv q_cur_node = i) :
    let r := exec fuel p1Body s
    r.ctl = .run ∧ Frame p1iv p1fv [] s r ∧ r.ienv q_cur_node = fr.idx ∧
      r.fenv q_max = (shortStep (s.fa "tree_vals") n ⟨s.fenv q_max⟩ fr).v := by
  have eN := fun (s' : State F) => evalN s' n
  have oN := fun (s' : State F) => okN s' n
  have eV := fun (s' : State F) => evalV s' n
  have oV := fun (s' : State F) => okV s' n
  have hin : inRange (i : Int) n = true := hv.inRange hi
  cases fr with
  | L p pr =>
    obtain ⟨hp, hL, hR, hne, hP, hlr, hrest⟩ := hc
    simp only [ctxPar] at hpar
    have hinp : inRange (p : Int) n = true := hv.inRange hp
    have hne' : ¬ ((i : Int) = pr.ptr) := fun e => hne (by omega) e.symm
    intro r
    have hr : r = { s with ienv := setS (setS s.ienv q_cur_parent (p : Int)) q_cur_node (p : Int) } := by
      simp [r, p1Body, exec, eN, oN, hv.shpN, hcur, hin, hinp, hpar, hR, hne', BE.ok, BE.eval, IE.ok_var, IE.eval_var,
        cmpInt, setS, hrun]
    rw [hr]
    exact ⟨hrun, (Frame.setI s _ (.tail _ (.head _))).trans (Frame.setI _ _ (.head _)), by simp [setS, Fr.idx],
      by simp [shortStep]⟩
  | R pl p =>
    obtain ⟨hp, hL, hR, hne, hP, hll, hrest⟩ := hc
    simp only [ctxPar] at hpar
    have hinp : inRange (p : Int) n = true := hv.inRange hp
    have hinl : inRange pl.ptr n = true := inRange_ptr n _ (hll.ptrOK hv.pos) hv.pos
    intro r
    have mS := fun (a b : String) (s' : State F) => minvScope_spec a b fuel n s'
    simp [r, p1Body, exec, mS, maxUpd_spec, eN, oN, eV, oV, hv.shpN, hv.shpV, hcur, hin, hinp, hinl, hpar, hR, hL, BE.ok, BE.eval,
      IE.ok_var, IE.eval_var, FE.ok_var, FE.eval_var, cmpInt, setS, hrun]
    refine ⟨?_, by simp [Fr.idx], by simp [shortStep, mxAt]⟩
    refine ⟨rfl, rfl, rfl, rfl, ?_, ?_, fun _ _ => rfl⟩ <;> intro v hv' <;>
      simp only [p1iv, p1fv, List.mem_cons, List.not_mem_nil, or_false, not_or] at hv' <;> simp [setS, hv']

theorem shortCtx_cons (vals : List F) (n : Nat) (acc : Fv F) (fr : Fr) (rest : Ctx) :
    shortCtx vals n acc (fr :: rest) = shortCtx vals n (shortStep vals n acc fr) rest := by
  cases fr <;> rfl

theorem p1Loop_spec (n : Nat) (ctx : Ctx) (i : Nat) (fuel : Nat) (s : State F) (hv : VS s n) (hrun : s.ctl = .run)
    (hc : CtxLinked (s.ia "tree_nodes") n (i : Int) ctx) (hpar : nAt (s.ia "tree_nodes") i 3 = ctxPar ctx) (hi : i + 1 < n)
    (hcur : s.ienv q_cur_node = i) (hf : ctx.length < fuel) :
    let r := exec fuel p1Loop s
    r.ctl = .run ∧ Frame p1iv p1fv [] s r ∧
      r.fenv q_max = (shortCtx (s.fa "tree_vals") n ⟨s.fenv q_max⟩ ctx).v := by
  -- the invariant: the rest of the walk, from the maximum so far, gives the result of the whole walk
  refine while_rule _ _
    (fun k t => ∃ (cx : Ctx) (i' : Nat), cx.length = k ∧ t.ctl = .run ∧ Frame p1iv p1fv [] s t ∧
      CtxLinked (s.ia "tree_nodes") n (i' : Int) cx ∧ nAt (s.ia "tree_nodes") i' 3 = ctxPar cx ∧ i' + 1 < n ∧
      t.ienv q_cur_node = i' ∧
      shortCtx (s.fa "tree_vals") n ⟨t.fenv q_max⟩ cx = shortCtx (s.fa "tree_vals") n ⟨s.fenv q_max⟩ ctx)
    (fun r => r.ctl = .run ∧ Frame p1iv p1fv [] s r ∧ r.fenv q_max = (shortCtx (s.fa "tree_vals") n ⟨s.fenv q_max⟩ ctx).v)
    ?_ ctx.length fuel s ⟨ctx, i, rfl, hrun, Frame.refl _ _ _ _, hc, hpar, hi, hcur, rfl⟩ hf
  rintro fuel k t _ ⟨cx, i', rfl, trun, tfr, tc, tpar, ti, tcur, tsh⟩
  have hvt := tfr.vs hv
  have hin : inRange (i' : Int) n = true := hv.inRange ti
  have hev : BE.eval t (.cmpI .ne (.ld2 "tree_nodes" (.var q_cur_node) (.lit 3)) (.lit (-1))) = decide (ctxPar cx ≠ -1) := by
    rw [BE.eval_cmpI, evalN t n hvt.shpN _ 3 (by decide), tcur, rowOf_nat, IE.eval_lit, tfr.ia]
    simp [cmpInt, tpar]
  refine ⟨by rw [BE.ok_cmpI, okN t n hvt.shpN _ 3 (by decide), tcur, hin, IE.ok_lit]; rfl, fun h => ?_, fun h => Or.inl ?_⟩
  · rw [hev] at h
    obtain rfl : cx = [] := (ctxPar_eq_neg_one cx).mp (by simpa using h)
    exact ⟨trun, tfr, by rw [← tsh]; rfl⟩
  · rw [hev] at h
    obtain ⟨fr, rest, rfl⟩ := List.exists_cons_of_ne_nil (l := cx) fun e => by simp [e, ctxPar] at h
    obtain ⟨b1, b2, b3, b4⟩ := p1Body_spec n fuel t hvt trun i' fr rest (by rw [tfr.ia]; exact tc) (by rw [tfr.ia]; exact tpar)
      ti tcur
    obtain ⟨s1, s2, s3⟩ := tc.step
    exact ⟨b1, _, Nat.lt_succ_self _, rest, fr.idx, rfl, b1, tfr.trans b2, s3, s2, s1, b3,
      by rw [b4, tfr.fa, ← tsh, shortCtx_cons]⟩

theorem p2Move_spec (n fuel : Nat) (s : State F) (hv : VS s n) (hrun : s.ctl = .run) (l : Sh) (j : Nat) (r : Sh) (ctx : Ctx)
    (hl : Linked (s.ia "tree_nodes") n (ctxPar ctx) (.node l j r)) (hc : CtxLinked (s.ia "tree_nodes") n (j : Int) ctx)
    (hcur : s.ienv q_cur_node = j) (hf : l.height + ctx.length + 1 < fuel) :
    let q := exec fuel p2Move s
    q.ctl = .run ∧ Frame [q_cur_node, q_last_node] [] [] s q ∧ q.ienv q_cur_node = predPtr l ctx := by
  obtain ⟨hj, hL, hR, hP, hlL, hlR⟩ := hl
  have hin : inRange (j : Int) n = true := hv.inRange hj
  intro q
  cases l with
  | nil =>
    simp only [Sh.ptr] at hL
    have h1 : exec fuel (.seq (.setI q_last_node (.var q_cur_node))
        (.setI q_cur_node (.ld2 "tree_nodes" (.var q_cur_node) (.lit 3)))) s =
        { s with ienv := setS (setS s.ienv q_last_node (j : Int)) q_cur_node (ctxPar ctx) } := by
      simp [exec, IE.ok_var, IE.eval_var, okN _ n, evalN _ n, hv.shpN, hcur, setS, hin, hP, hrun]
    have hcl := climbLoop_spec q_cur_node q_last_node (by decide) n ctx j fuel
      { s with ienv := setS (setS s.ienv q_last_node (j : Int)) q_cur_node (ctxPar ctx) } (hv.of_eq rfl rfl rfl) hrun hc
      (by simp [setS]) (by simp [setS]) (by omega)
    have hq : q = exec fuel (climbLoop q_cur_node q_last_node)
        { s with ienv := setS (setS s.ienv q_last_node (j : Int)) q_cur_node (ctxPar ctx) } := by
      simp only [q, p2Move]
      rw [exec_ite_false, exec_seq_assoc, exec_seq, h1]
      · simp [hrun]
      · simp [BE.ok, okN s n hv.shpN, hcur, hin, IE.ok_lit]
      · simp [BE.eval, evalN s n hv.shpN, hcur, hL, cmpInt, IE.eval_lit]
    rw [hq]
    exact ⟨hcl.1, ((Frame.setI s _ (.tail _ (.head _))).trans (Frame.setI _ _ (.head _))).trans hcl.2.1,
      by simpa [predPtr] using hcl.2.2⟩
  | node ll m lr =>
    simp only [Sh.ptr] at hL
    have h1 : exec fuel (.setI q_cur_node (.ld2 "tree_nodes" (.var q_cur_node) (.lit 1))) s =
        { s with ienv := setS s.ienv q_cur_node (m : Int) } := by
      simp [exec, okN _ n, evalN _ n, hv.shpN, hcur, hin, hL]
    have hml := maxLoop_spec q_cur_node n lr m ll (j : Int) fuel { s with ienv := setS s.ienv q_cur_node (m : Int) }
      (hv.of_eq rfl rfl rfl) hrun hlL (by simp [setS])
      (by have := Sh.rheight_le lr; simp only [Sh.height] at hf; omega)
    have hq : q = { s with ienv := setS s.ienv q_cur_node (maxIdx lr m : Int) } := by
      simp only [q, p2Move]
      rw [exec_ite_true, exec_seq, h1]
      · simp only [hrun, if_true] at hml ⊢
        rw [hml]; simp [setS_setS]
      · simp [BE.ok, okN s n hv.shpN, hcur, hin, IE.ok_lit]
      · simp [BE.eval, evalN s n hv.shpN, hcur, hL, cmpInt, IE.eval_lit]
    rw [hq]
    exact ⟨hrun, Frame.setI s _ (.head _), by simp [predPtr]⟩

theorem p2Body_exec (fuel : Nat) (s : State F) : exec fuel p2Body s = exec fuel (.seq p2Proc p2Move) s := by
  unfold p2Body p2Proc
  exact exec_seqK fuel [_, _, _, _] _ _ s

theorem p2Span_spec (fuel n : Nat) (s : State F) (hs : s.shp "tree_vals" = [n, 8])
    (hin : inRange (s.ienv q_cur_node) n = true) :
    exec fuel p2Span s = { s with benv := (setS s.benv q_check_me
      (s.benv q_check_me || spans (nodeAt (s.fa "tree_vals") (rowOf n (s.ienv q_cur_node))) (⟨s.fenv q_ang⟩ : Fv F))) } := by
  have e4 := evalV s n hs q_cur_node 4 (by decide)
  have e6 := evalV s n hs q_cur_node 6 (by decide)
  have o4 := okV s n hs q_cur_node 4 (by decide)
  have o6 := okV s n hs q_cur_node 6 (by decide)
  simp only [show Int.toNat 4 = 4 from rfl, show Int.toNat 6 = 6 from rfl] at e4 e6
  have hsp : spans (nodeAt (s.fa "tree_vals") (rowOf n (s.ienv q_cur_node))) (⟨s.fenv q_ang⟩ : Fv F) =
      (Fl.le (vAt (s.fa "tree_vals") (rowOf n (s.ienv q_cur_node)) 4).v (s.fenv q_ang) &&
        Fl.le (s.fenv q_ang) (vAt (s.fa "tree_vals") (rowOf n (s.ienv q_cur_node)) 6).v) := by
    rw [spans_fl]; rfl
  rw [hsp]
  by_cases h1 : Fl.le (vAt (s.fa "tree_vals") (rowOf n (s.ienv q_cur_node)) 4).v (s.fenv q_ang) = true
  · by_cases h2 : Fl.le (s.fenv q_ang) (vAt (s.fa "tree_vals") (rowOf n (s.ienv q_cur_node)) 6).v = true
    · simp [p2Span, exec, BE.ok, BE.eval, FE.ok_var, FE.eval_var, CmpOp.eval, e4, e6, o4, o6, hin, h1, h2]
    · simp [p2Span, exec, BE.ok, BE.eval, FE.ok_var, FE.eval_var, CmpOp.eval, e4, e6, o4, o6, hin, h1, h2, setS_self]
  · simp [p2Span, exec, BE.ok, BE.eval, FE.ok_var, FE.eval_var, CmpOp.eval, e4, e6, o4, o6, hin, h1, setS_self]

theorem p2Grad_spec (fuel n : Nat) (s : State F) (hs : s.shp "tree_vals" = [n, 8])
    (hin : inRange (s.ienv q_cur_node) n = true) :
    exec fuel p2Grad s = { s with fenv := (setS s.fenv q_cur_grad
      (itp (nodeAt (s.fa "tree_vals") (rowOf n (s.ienv q_cur_node))) (⟨s.fenv q_ang⟩ : Fv F)).v) } := by
  have e1 := evalV s n hs q_cur_node 1 (by decide)
  have e2 := evalV s n hs q_cur_node 2 (by decide)
  have e3 := evalV s n hs q_cur_node 3 (by decide)
  have e4 := evalV s n hs q_cur_node 4 (by decide)
  have e5 := evalV s n hs q_cur_node 5 (by decide)
  have e6 := evalV s n hs q_cur_node 6 (by decide)
  have o1 := okV s n hs q_cur_node 1 (by decide)
  have o2 := okV s n hs q_cur_node 2 (by decide)
  have o3 := okV s n hs q_cur_node 3 (by decide)
  have o4 := okV s n hs q_cur_node 4 (by decide)
  have o5 := okV s n hs q_cur_node 5 (by decide)
  have o6 := okV s n hs q_cur_node 6 (by decide)
  simp only [show Int.toNat 1 = 1 from rfl, show Int.toNat 2 = 2 from rfl, show Int.toNat 3 = 3 from rfl,
    show Int.toNat 4 = 4 from rfl, show Int.toNat 5 = 5 from rfl, show Int.toNat 6 = 6 from rfl] at e1 e2 e3 e4 e5 e6
  rw [itp_v]
  simp only [nodeAt_a0, nodeAt_a1, nodeAt_a2, nodeAt_g0, nodeAt_g1, nodeAt_g2]
  by_cases h1 : Fl.lt (s.fenv q_ang) (vAt (s.fa "tree_vals") (rowOf n (s.ienv q_cur_node)) 5).v = true
  · simp [p2Grad, exec, BE.ok, BE.eval, FE.ok_var, FE.eval_var, FE.ok_bin, FE.eval_bin, BinOp.eval, CmpOp.eval,
      e1, e2, e4, e5, o1, o2, o4, o5, hin, h1]
  · by_cases h2 : Fl.lt (vAt (s.fa "tree_vals") (rowOf n (s.ienv q_cur_node)) 5).v (s.fenv q_ang) = true
    · simp [p2Grad, exec, BE.ok, BE.eval, FE.ok_var, FE.eval_var, FE.ok_bin, FE.eval_bin, BinOp.eval, CmpOp.eval,
        e2, e3, e5, e6, o2, o3, o5, o6, hin, h1, h2]
    · simp [p2Grad, exec, BE.ok, BE.eval, FE.ok_var, FE.eval_var, CmpOp.eval,
        e2, e5, o2, o5, hin, h1, h2]

def p2fv : List String := [q_cur_grad, q_max, q_ret0]

/-- the processing half of one iteration of phase 2 at row `j`: one step of the model's `walk` (none at the key's own
    node), leaving through `return` when the early exit fires -/
theorem p2Proc_spec (n fuel : Nat) (s : State F) (hv : VS s n) (hrun : s.ctl = .run) (j : Nat) (hj : j + 1 < n)
    (hcur : s.ienv q_cur_node = j) (hnf : Fl.lt (s.fenv q_max_key) (vAt (s.fa "tree_vals") j 0).v = false) :
    let ang : Fv F := ⟨s.fenv q_ang⟩
    let w := walkE ang ⟨s.fenv q_gradient⟩ (fun m => itp m ang)
      (if (j : Int) = s.ienv q_key_node then [] else [nodeAt (s.fa "tree_vals") j]) ⟨s.fenv q_max⟩
    let q := exec fuel p2Proc s
    Frame [] p2fv [q_check_me] s q ∧
      (w.2 = true → q.ctl = .ret ∧ q.fenv q_ret0 = w.1.v) ∧ (w.2 = false → q.ctl = .run ∧ q.fenv q_max = w.1.v) := by
  have eV := fun (s' : State F) => evalV s' n
  have oV := fun (s' : State F) => okV s' n
  have sS := fun (s' : State F) => p2Span_spec fuel n s'
  have gS := fun (s' : State F) => p2Grad_spec fuel n s'
  have hin : inRange (j : Int) n = true := hv.inRange hj
  intro ang w q
  have hfr : ∀ (q' : State F), q'.ia = s.ia → q'.fa = s.fa → q'.shp = s.shp → q'.ext = s.ext → q'.ienv = s.ienv →
      (∀ v, v ∉ p2fv → q'.fenv v = s.fenv v) → (∀ v, v ∉ [q_check_me] → q'.benv v = s.benv v) →
      Frame [] p2fv [q_check_me] s q' :=
    fun q' a b c d e f g => ⟨a, b, c, d, fun _ _ => by rw [e], f, g⟩
  by_cases hb : spans (nodeAt (s.fa "tree_vals") j) ang = true
  · by_cases hk : (j : Int) = s.ienv q_key_node
    · have hw : w = (⟨s.fenv q_max⟩, false) := by simp [w, hk, walkE]
      have hq : q = { s with benv := setS s.benv q_check_me true } := by
        simp [q, p2Proc, exec, sS, hv.shpV, hcur, hin, hb, ang, BE.ok, BE.eval, FE.ok_var, FE.eval_var, FE.ok_ofInt,
          IE.ok_lit, IE.ok_var, IE.eval_var, eV, oV, CmpOp.eval, hnf, cmpInt, setS, hk.symm, hrun, setS_setS]
      rw [hw, hq]
      exact ⟨Frame.setB s _ (.head _), by simp, by simp [hrun]⟩
    · have hk' : ¬ (s.ienv q_key_node = (j : Int)) := fun e => hk e.symm
      by_cases hx : Fl.lt (s.fenv q_gradient)
          (mx2 (itp (nodeAt (s.fa "tree_vals") j) ang) (⟨s.fenv q_max⟩ : Fv F)).v = true
      · have hw : w = (mx2 (itp (nodeAt (s.fa "tree_vals") j) ang) ⟨s.fenv q_max⟩, true) := by
          simp only [w, hk, if_false, walkE, hb, if_true]
          rw [if_pos (show (⟨s.fenv q_gradient⟩ : Fv F) < _ from hx)]
        simp [q, p2Proc, exec, sS, gS, maxUpd_spec, hv.shpV, hcur, hin, hb, ang, BE.ok, BE.eval, FE.ok_var, FE.eval_var,
          FE.ok_ofInt, IE.ok_lit, IE.ok_var, IE.eval_var, eV, oV, CmpOp.eval, hnf, cmpInt, setS, hk, hrun,
          setS_setS, hx]
        rw [hw]
        refine ⟨?_, by simp [ang], by simp⟩
        apply hfr <;> try rfl
        · intro v hv'; simp only [p2fv, List.mem_cons, List.not_mem_nil, or_false, not_or] at hv'; simp [setS, hv']
        · intro v hv'; simp only [List.mem_cons, List.not_mem_nil, or_false] at hv'; simp [setS, hv']
      · have hw : w = (mx2 (itp (nodeAt (s.fa "tree_vals") j) ang) ⟨s.fenv q_max⟩, false) := by
          simp only [w, hk, if_false, walkE, hb, if_true]
          rw [if_neg (show ¬ (⟨s.fenv q_gradient⟩ : Fv F) < _ from hx)]
        simp [q, p2Proc, exec, sS, gS, maxUpd_spec, hv.shpV, hcur, hin, hb, ang, BE.ok, BE.eval, FE.ok_var, FE.eval_var,
          FE.ok_ofInt, IE.ok_lit, IE.ok_var, IE.eval_var, eV, oV, CmpOp.eval, hnf, cmpInt, setS, hk, hrun,
          setS_setS, hx]
        rw [hw]
        refine ⟨?_, by simp, by simp [ang]⟩
        apply hfr <;> try rfl
        · intro v hv'; simp only [p2fv, List.mem_cons, List.not_mem_nil, or_false, not_or] at hv'; simp [setS, hv']
        · intro v hv'; simp only [List.mem_cons, List.not_mem_nil, or_false] at hv'; simp [setS, hv']
  · have hb' : spans (nodeAt (s.fa "tree_vals") j) ang = false := by simpa using hb
    have hw : w = (⟨s.fenv q_max⟩, false) := by
      simp only [w]; split <;> simp [walkE, hb']
    have hq : q = { s with benv := setS s.benv q_check_me false } := by
      simp [q, p2Proc, exec, sS, hv.shpV, hcur, hin, hb', ang, BE.ok, BE.eval, FE.ok_var, FE.eval_var, FE.ok_ofInt,
        IE.ok_lit, IE.ok_var, IE.eval_var, eV, oV, CmpOp.eval, hnf, cmpInt, setS, hrun, setS_setS]
    rw [hw, hq]
    exact ⟨Frame.setB s _ (.head _), by simp, by simp [hrun]⟩

theorem walkE_append {α : Type} [LT α] [DecidableLT α] [LE α] [DecidableLE α] (ang g : α) (f : Node α → α)
    (xs ys : List (Node α)) (acc : α) :
    walkE ang g f (xs ++ ys) acc =
      if (walkE ang g f xs acc).2 = true then walkE ang g f xs acc else walkE ang g f ys (walkE ang g f xs acc).1 := by
  induction xs generalizing acc with
  | nil => simp [walkE]
  | cons x xs ih =>
    simp only [List.cons_append, walkE]
    split
    · split
      · simp
      · exact ih _
    · exact ih _

def p2iv : List String := [q_cur_node, q_last_node]

/-- phase 2 from any position: the model's `walk` over the node itself (unless it is the key's node) and its in-order
    predecessors, nearest first; the loop is left by `return` exactly when the walk exits early -/
theorem p2Loop_spec (n : Nat) (sh : Sh) (k : Nat) (l : Sh) (j : Nat) (r : Sh) (ctx : Ctx) (fuel : Nat)
    (s : State F) (hv : VS s n) (hrun : s.ctl = .run) (hL : Linked (s.ia "tree_nodes") n (-1) sh) (hN : sh.idxs.Nodup)
    (hplug : plug (.node l j r) ctx = sh) (hcur : s.ienv q_cur_node = j) (hkey : s.ienv q_key_node = k)
    (hnf : ∀ i ∈ j :: (l.rev ++ predsCtx ctx), Fl.lt (s.fenv q_max_key) (vAt (s.fa "tree_vals") i 0).v = false)
    (hne : ∀ i ∈ l.rev ++ predsCtx ctx, i ≠ k) (hfuel : (l.rev ++ predsCtx ctx).length + sh.height + 2 ≤ fuel) :
    let ang : Fv F := ⟨s.fenv q_ang⟩
    let w := walkE ang ⟨s.fenv q_gradient⟩ (fun nd => itp nd ang)
      (((if j = k then [] else [j]) ++ (l.rev ++ predsCtx ctx)).map (nodeAt (s.fa "tree_vals"))) ⟨s.fenv q_max⟩
    let q := exec fuel p2Loop s
    Frame p2iv p2fv [q_check_me] s q ∧
      (w.2 = true → q.ctl = .ret ∧ q.fenv q_ret0 = w.1.v) ∧ (w.2 = false → q.ctl = .run ∧ q.fenv q_max = w.1.v) := by
  intro ang w q
  have hw0 : walkE ang ⟨s.fenv q_gradient⟩ (fun nd => itp nd ang)
      (((if j = k then [] else [j]) ++ (l.rev ++ predsCtx ctx)).map (nodeAt (s.fa "tree_vals"))) ⟨s.fenv q_max⟩ = w := rfl
  clear_value w
  -- the invariant: past the last predecessor with the result in `max`, or at a position from which the walk over the
  -- node and its predecessors, started with `max`, gives the result.  The bound counts the predecessors; the height of
  -- the tree is added because every iteration runs the two pointer loops of `p2Move`.
  refine while_rule (.cmpI .ne (.var q_cur_node) (.lit (-1))) p2Body
    (fun b t => t.ctl = .run ∧ Frame p2iv p2fv [q_check_me] s t ∧
      ((t.ienv q_cur_node = -1 ∧ w = (⟨t.fenv q_max⟩, false)) ∨
        ∃ (l' : Sh) (j' : Nat) (r' : Sh) (c' : Ctx), (l'.rev ++ predsCtx c').length + sh.height + 1 = b ∧
          plug (.node l' j' r') c' = sh ∧ t.ienv q_cur_node = j' ∧
          walkE ang ⟨s.fenv q_gradient⟩ (fun nd => itp nd ang)
            (((if j' = k then [] else [j']) ++ (l'.rev ++ predsCtx c')).map (nodeAt (s.fa "tree_vals"))) ⟨t.fenv q_max⟩ = w ∧
          (∀ i ∈ j' :: (l'.rev ++ predsCtx c'), Fl.lt (s.fenv q_max_key) (vAt (s.fa "tree_vals") i 0).v = false) ∧
          (∀ i ∈ l'.rev ++ predsCtx c', i ≠ k)))
    (fun t => Frame p2iv p2fv [q_check_me] s t ∧
      (w.2 = true → t.ctl = .ret ∧ t.fenv q_ret0 = w.1.v) ∧ (w.2 = false → t.ctl = .run ∧ t.fenv q_max = w.1.v))
    ?_ _ fuel s ⟨hrun, Frame.refl _ _ _ _, Or.inr ⟨l, j, r, ctx, rfl, hplug, hcur, hw0, hnf, hne⟩⟩ (by omega)
  rintro fuel b t hb ⟨trun, tfr, tpos⟩
  have hev : BE.eval t (.cmpI .ne (.var q_cur_node) (.lit (-1))) = decide (t.ienv q_cur_node ≠ -1) := by
    simp [BE.eval, IE.eval_var, IE.eval_lit, cmpInt]
  refine ⟨by simp [BE.ok, IE.ok_var, IE.ok_lit], fun h => ?_, fun h => ?_⟩ <;> rw [hev] at h
  · rcases tpos with ⟨_, hw⟩ | ⟨_, j', _, _, _, _, tcur, _⟩
    · subst hw; exact ⟨tfr, fun h' => (by cases h'), fun _ => ⟨trun, rfl⟩⟩
    · rw [tcur] at h; exact absurd (of_decide_eq_false h) (by simp)
  rcases tpos with ⟨tcur, _⟩ | ⟨l, j, r, ctx, rfl, hplug, tcur, tw, tnf, tne⟩
  · rw [tcur] at h; simp at h
  have hvt := tfr.vs hv
  have hkey' : t.ienv q_key_node = k := by rw [tfr.ienv _ (by simp [p2iv])]; exact hkey
  have tfe : ∀ v, v ∉ p2fv → t.fenv v = s.fenv v := tfr.fenv
  obtain ⟨hl, hc, _⟩ := unplug (nodes := t.ia "tree_nodes") (n := n) ctx (.node l j r) (by rw [hplug, tfr.ia]; exact hL)
    (by rw [hplug]; exact hN)
  have hph := plug_height ctx (.node l j r)
  rw [hplug] at hph
  simp only [Sh.height] at hph
  obtain ⟨hP1, hP2, hP3⟩ := p2Proc_spec n fuel t hvt trun j hl.1 tcur (by
    rw [tfe _ (by simp [p2fv]), tfr.fa]; exact tnf j List.mem_cons_self)
  simp only [hkey', tfe q_ang (by simp [p2fv]), tfe q_gradient (by simp [p2fv]), tfr.fa] at hP2 hP3
  have hlist1 : (if (j : Int) = (k : Int) then ([] : List (Node (Fv F))) else [nodeAt (s.fa "tree_vals") j]) =
      (if j = k then [] else [j]).map (nodeAt (s.fa "tree_vals")) := by
    by_cases e : j = k
    · simp [e]
    · simp [e, show ¬ ((j : Int) = (k : Int)) by omega]
  rw [List.map_append, ← hlist1, walkE_append] at tw
  generalize walkE ang ⟨s.fenv q_gradient⟩ (fun nd => itp nd ang)
    (if (j : Int) = (k : Int) then [] else [nodeAt (s.fa "tree_vals") j]) ⟨t.fenv q_max⟩ = w1 at tw hP2 hP3
  rw [p2Body_exec]
  by_cases hx : w1.2 = true
  · -- the early exit
    obtain ⟨hq1, hq2⟩ := hP2 hx
    rw [if_pos hx] at tw
    rw [exec_seq_stop _ _ _ _ (by rw [hq1]; simp)]
    exact Or.inr (Or.inr (Or.inr ⟨hq1, tfr.trans (hP1.mono (by simp) (fun _ h => h) (fun _ h => h)),
      fun _ => ⟨hq1, by rw [← tw]; exact hq2⟩, fun h' => (by rw [← tw, hx] at h'; cases h')⟩))
  · obtain ⟨hq1, hq2⟩ := hP3 (by simpa using hx)
    rw [if_neg hx] at tw
    obtain ⟨hM1, hM2, hM3⟩ := p2Move_spec n fuel (exec fuel p2Proc t) (hP1.vs hvt) hq1 l j r ctx (by rw [hP1.ia]; exact hl)
      (by rw [hP1.ia]; exact hc) (by rw [hP1.ienv _ (by simp)]; exact tcur) (by omega)
    rw [exec_seq_run _ _ _ _ hq1]
    have hfr2 : Frame p2iv p2fv [q_check_me] s (exec fuel p2Move (exec fuel p2Proc t)) :=
      tfr.trans ((hP1.mono (by simp) (fun _ h => h) (fun _ h => h)).trans (hM2.mono (fun _ h => h) (by simp) (by simp)))
    have hmax : (exec fuel p2Move (exec fuel p2Proc t)).fenv q_max = w1.1.v := by rw [hM2.fenv _ (by simp)]; exact hq2
    rw [predPos_ptr l j r ctx] at hM3
    refine Or.inl ⟨hM1, ?_⟩
    cases hpp : predPos l j r ctx with
    | none =>
      rw [hpp] at hM3
      rw [predPos_none l j r ctx hpp] at tw
      exact ⟨0, by omega, hM1, hfr2, Or.inl ⟨hM3, by rw [hmax, ← tw]; rfl⟩⟩
    | some pos =>
      obtain ⟨l', j', r', c'⟩ := pos
      rw [hpp] at hM3
      obtain ⟨hpl, hlist⟩ := predPos_some l j r ctx l' j' r' c' hpp
      have hl2 : [j'] ++ (l'.rev ++ predsCtx c') = l.rev ++ predsCtx ctx := by rw [← hlist]; simp
      refine ⟨_, ?_, hM1, hfr2, Or.inr ⟨l', j', r', c', rfl, hpl.trans hplug, hM3, ?_,
        fun i hi => tnf i (List.mem_cons_of_mem _ (by rw [← hlist]; simpa using hi)),
        fun i hi => tne i (by rw [← hlist]; simp only [List.cons_append, List.mem_cons]; exact Or.inr hi)⟩⟩
      · have : (j' :: l'.rev ++ predsCtx c').length = (l.rev ++ predsCtx ctx).length := by rw [hlist]
        simp only [List.cons_append, List.length_cons] at this; omega
      · rw [if_neg (tne j' (by rw [← hlist]; simp)), hl2, hmax]; exact tw

theorem qPhase2_spec (n : Nat) (sh : Sh) (l : Sh) (k : Nat) (r : Sh) (ctx : Ctx) (fuel : Nat) (s : State F)
    (hv : VS s n) (hrun : s.ctl = .run) (hL : Linked (s.ia "tree_nodes") n (-1) sh) (hN : sh.idxs.Nodup)
    (hplug : plug (.node l k r) ctx = sh) (hkey : s.ienv q_key_node = k)
    (hnf : ∀ i ∈ k :: (l.rev ++ predsCtx ctx), Fl.lt (s.fenv q_max_key) (vAt (s.fa "tree_vals") i 0).v = false)
    (hfuel : sh.size + sh.height + 2 ≤ fuel) :
    let ang : Fv F := ⟨s.fenv q_ang⟩
    let q := exec fuel qPhase2 s
    q.ctl = .ret ∧
      q.fenv q_ret0 = (walk ang ⟨s.fenv q_gradient⟩ (fun nd => itp nd ang)
        ((l.rev ++ predsCtx ctx).map (nodeAt (s.fa "tree_vals"))) smallest).v ∧
      q.fa = s.fa ∧ q.ia = s.ia ∧ q.shp = s.shp := by
  intro ang q
  have hpre : exec fuel (.seq (.setF q_max (.lit (-10000000000000000000000) 1)) (.setI q_cur_node (.var q_key_node))) s =
      { s with fenv := setS s.fenv q_max (smallest : Fv F).v, ienv := setS s.ienv q_cur_node (k : Int) } := by
    simp [exec, FE.ok_lit, FE.eval_lit, IE.ok_var, IE.eval_var, hkey, hrun, smallest]
  have hlen : (l.rev ++ predsCtx ctx).length ≤ sh.size := by
    have := predsCtx_length ctx (.node l k r)
    rw [hplug] at this
    simp only [Sh.size, List.length_append, Sh.rev_length] at this ⊢; omega
  have hloop := p2Loop_spec n sh k l k r ctx fuel
    { s with fenv := setS s.fenv q_max (smallest : Fv F).v, ienv := setS s.ienv q_cur_node (k : Int) }
    (hv.of_eq rfl rfl rfl) hrun hL hN hplug (by simp [setS]) (by simpa [setS] using hkey)
    (by simpa [setS] using hnf) (preds_ne l k r ctx (by rw [hplug]; exact hN)) (by omega)
  simp only [if_true] at hloop
  have e1 : (setS s.fenv q_max (smallest : Fv F).v) q_ang = s.fenv q_ang := by simp [setS]
  have e2 : (setS s.fenv q_max (smallest : Fv F).v) q_gradient = s.fenv q_gradient := by simp [setS]
  have e3 : (setS s.fenv q_max (smallest : Fv F).v) q_max = (smallest : Fv F).v := by simp [setS]
  simp only [e1, e2, e3, List.nil_append, Fv.mk_v] at hloop
  obtain ⟨hf, hw1, hw2⟩ := hloop
  have hq : q = exec fuel (.seq p2Loop (.seq (.setF q_ret0 (.var q_max)) .ret))
      { s with fenv := setS s.fenv q_max (smallest : Fv F).v, ienv := setS s.ienv q_cur_node (k : Int) } := by
    simp only [q, qPhase2]
    rw [exec_seq_assoc, exec_seq_run _ _ _ _ (by rw [hpre]; exact hrun), hpre]
  rw [hq, ← walkE_fst]
  generalize walkE ang ⟨s.fenv q_gradient⟩ (fun nd => itp nd ang)
    ((l.rev ++ predsCtx ctx).map (nodeAt (s.fa "tree_vals"))) smallest = w at hw1 hw2 ⊢
  by_cases hx : w.2 = true
  · obtain ⟨h1, h2⟩ := hw1 hx
    rw [exec_seq_stop _ _ _ _ (by rw [h1]; simp)]
    exact ⟨h1, h2, hf.fa, hf.ia, hf.shp⟩
  · obtain ⟨h1, h2⟩ := hw2 (by simpa using hx)
    rw [exec_seq_run _ _ _ _ h1]
    simp [exec, FE.ok_var, FE.eval_var, h1, h2, hf.fa, hf.ia, hf.shp]

/-- the value `_find_max_value_within_key` computes once the key's node `k` is found at position `(l, k, r, ctx)` -/
def queryPos (vals : List F) (n : Nat) (l : Sh) (ctx : Ctx) (ang g : Fv F) : Fv F :=
  let s1 := shortCtx vals n smallest ctx
  if g < s1 then s1
  else walk ang g (fun nd => itp nd ang) ((l.rev ++ predsCtx ctx).map (nodeAt vals)) smallest

theorem qTail_spec (n : Nat) (sh : Sh) (l : Sh) (k : Nat) (r : Sh) (ctx : Ctx) (fuel : Nat) (s : State F)
    (hv : VS s n) (hrun : s.ctl = .run) (hL : Linked (s.ia "tree_nodes") n (-1) sh) (hN : sh.idxs.Nodup)
    (hplug : plug (.node l k r) ctx = sh) (hkey : s.ienv q_key_node = k)
    (hnf : ∀ i ∈ k :: (l.rev ++ predsCtx ctx), Fl.lt (s.fenv q_max_key) (vAt (s.fa "tree_vals") i 0).v = false)
    (hfuel : sh.size + sh.height + 2 ≤ fuel) :
    let q := exec fuel qTail s
    q.ctl = .ret ∧
      q.fenv q_ret0 = (queryPos (s.fa "tree_vals") n l ctx ⟨s.fenv q_ang⟩ ⟨s.fenv q_gradient⟩).v ∧
      q.fa = s.fa ∧ q.ia = s.ia ∧ q.shp = s.shp := by
  intro q
  obtain ⟨hl, hc, _⟩ := unplug ctx (.node l k r) (by rw [hplug]; exact hL) (by rw [hplug]; exact hN)
  have hph := plug_height ctx (.node l k r)
  rw [hplug] at hph
  have hpre : exec fuel (.seq (.setI q_cur_node (.var q_key_node)) (.setF q_max (.lit (-10000000000000000000000) 1))) s =
      { s with ienv := setS s.ienv q_cur_node (k : Int), fenv := setS s.fenv q_max (smallest : Fv F).v } := by
    simp [exec, FE.ok_lit, FE.eval_lit, IE.ok_var, IE.eval_var, hkey, hrun, smallest]
  have h1 := p1Loop_spec n ctx k fuel
    { s with ienv := setS s.ienv q_cur_node (k : Int), fenv := setS s.fenv q_max (smallest : Fv F).v }
    (hv.of_eq rfl rfl rfl) hrun hc hl.2.2.2.1 hl.1 (by simp [setS]) (by have := Sh.height_le_size sh; omega)
  obtain ⟨h1a, h1b, h1c⟩ := h1
  have e3 : (setS s.fenv q_max (smallest : Fv F).v) q_max = (smallest : Fv F).v := by simp [setS]
  simp only [e3, Fv.mk_v] at h1c
  generalize hs1 : exec fuel p1Loop
    { s with ienv := setS s.ienv q_cur_node (k : Int), fenv := setS s.fenv q_max (smallest : Fv F).v } = s1 at h1a h1b h1c
  have hq : q = exec fuel (.seq (.ite (.cmpF .gt (.var q_max) (.var q_gradient)) (.seq (.setF q_ret0 (.var q_max)) .ret) .skip)
      qPhase2) s1 := by
    simp only [q, qTail]
    rw [exec_seq_assoc, exec_seq_run _ _ _ _ (by rw [hpre]; exact hrun), hpre, exec_seq_run _ _ _ _ (by rw [hs1]; exact h1a), hs1]
  have hg : s1.fenv q_gradient = s.fenv q_gradient := by rw [h1b.fenv _ (by simp [p1fv])]; simp [setS]
  have ha : s1.fenv q_ang = s.fenv q_ang := by rw [h1b.fenv _ (by simp [p1fv])]; simp [setS]
  have hk : s1.fenv q_max_key = s.fenv q_max_key := by rw [h1b.fenv _ (by simp [p1fv])]; simp [setS]
  have hkn : s1.ienv q_key_node = k := by rw [h1b.ienv _ (by simp [p1iv])]; simpa [setS] using hkey
  rw [hq]
  unfold queryPos
  by_cases hx : Fl.lt (s.fenv q_gradient) (shortCtx (s.fa "tree_vals") n smallest ctx).v = true
  · rw [if_pos (show (⟨s.fenv q_gradient⟩ : Fv F) < _ from hx)]
    simp [exec, BE.ok, BE.eval, FE.ok_var, FE.eval_var, CmpOp.eval, hg, h1c, hx, h1a, h1b.fa, h1b.ia, h1b.shp]
  · rw [if_neg (show ¬ (⟨s.fenv q_gradient⟩ : Fv F) < _ from hx)]
    have h2 := qPhase2_spec n sh l k r ctx fuel s1 (h1b.vs (hv.of_eq rfl rfl rfl)) h1a (by rw [h1b.ia]; exact hL) hN hplug hkn
      (by rw [hk, h1b.fa]; exact hnf) hfuel
    rw [ha, hg, h1b.fa, h1b.ia, h1b.shp] at h2
    have hite : exec fuel (.ite (.cmpF .gt (.var q_max) (.var q_gradient)) (.seq (.setF q_ret0 (.var q_max)) .ret) .skip) s1
        = s1 := by
      simp [exec, BE.ok, BE.eval, FE.ok_var, FE.eval_var, CmpOp.eval, hg, h1c, hx]
    rw [exec_seq_run _ _ _ _ (by rw [hite]; exact h1a), hite]
    simpa using h2

theorem qSearch_spec (n : Nat) (sh : Sh) (fuel : Nat) (s : State F) (hv : VS s n) (hrun : s.ctl = .run)
    (hL : Linked (s.ia "tree_nodes") n (-1) sh) (hroot : s.ienv q__search_for_node2_root = sh.ptr)
    (hf : sh.height < fuel) :
    let q := exec fuel qSearch s
    q.ctl = .run ∧ Frame (q__search_for_node2_ret0 :: qSearchNames.iv) qSearchNames.fv [] s q ∧
      q.ienv q__search_for_node2_ret0 = findPtr (s.fa "tree_vals") ⟨s.fenv q__search_for_node2_key⟩ sh :=
  searchScope_spec qSearchNames (by simp [SearchNames.OK, qSearchNames]) _ _ n sh (-1) fuel s hv hrun hL hroot hf

/-- what the generated program computes, on the zipper: search, then `queryPos` at the node found -/
def queryZ (vals : List F) (n : Nat) (sh : Sh) (K ang g : Fv F) : Fv F :=
  match findZ vals K sh [] with
  | none => smallest
  | some (l, _, _, c) => queryPos vals n l c ang g

/-- the code's `raise ValueError` is never reached: no in-order predecessor of the key's node has a key above `K` -/
def QueryNoFail (vals : List F) (sh : Sh) (K : Fv F) : Prop :=
  match findZ vals K sh [] with
  | none => True
  | some (l, _, _, c) => ∀ i ∈ l.rev ++ predsCtx c, Fl.lt K.v (vAt vals i 0).v = false

theorem qInner_spec (n : Nat) (sh : Sh) (fuel : Nat) (s : State F) (hv : VS s n) (hrun : s.ctl = .run)
    (hL : Linked (s.ia "tree_nodes") n (-1) sh) (hN : sh.idxs.Nodup) (hroot : s.ienv q_root = sh.ptr)
    (hnf : QueryNoFail (s.fa "tree_vals") sh ⟨s.fenv q_max_key⟩) (hfuel : sh.size + sh.height + 2 ≤ fuel) :
    let q := exec fuel qInner s
    q.ctl = .ret ∧
      q.fenv q_ret0 = (queryZ (s.fa "tree_vals") n sh ⟨s.fenv q_max_key⟩ ⟨s.fenv q_ang⟩ ⟨s.fenv q_gradient⟩).v ∧
      q.fa = s.fa ∧ q.ia = s.ia ∧ q.shp = s.shp := by
  intro q
  have hpre : exec fuel (.seq (.setI q__search_for_node2_root (.var q_root))
      (.setF q__search_for_node2_key (.var q_max_key))) s =
      { s with ienv := setS s.ienv q__search_for_node2_root sh.ptr,
               fenv := setS s.fenv q__search_for_node2_key (s.fenv q_max_key) } := by
    simp [exec, FE.ok_var, FE.eval_var, IE.ok_var, IE.eval_var, hroot, hrun]
  have hS := qSearch_spec n sh fuel
    { s with ienv := setS s.ienv q__search_for_node2_root sh.ptr,
             fenv := setS s.fenv q__search_for_node2_key (s.fenv q_max_key) }
    (hv.of_eq rfl rfl rfl) hrun hL (by simp [setS]) (by have := Sh.height_le_size sh; omega)
  obtain ⟨hS1, hS2, hS3⟩ := hS
  have e0 : (setS s.fenv q__search_for_node2_key (s.fenv q_max_key)) q__search_for_node2_key = s.fenv q_max_key := by
    simp [setS]
  simp only [e0] at hS3
  generalize hsS : exec fuel qSearch
    { s with ienv := setS s.ienv q__search_for_node2_root sh.ptr,
             fenv := setS s.fenv q__search_for_node2_key (s.fenv q_max_key) } = sS at hS1 hS2 hS3
  -- after `key_node = ...`
  have hq : q = exec fuel (.seq (.ite (.cmpI .eq (.var q_key_node) (.lit (-1)))
        (.seq (.setF q_ret0 (.lit (-10000000000000000000000) 1)) .ret) .skip) qTail)
      { sS with ienv := setS sS.ienv q_key_node (sS.ienv q__search_for_node2_ret0) } := by
    simp only [q, qInner]
    rw [exec_seq_assoc, exec_seq_run _ _ _ _ (by rw [hpre]; exact hrun), hpre,
      exec_seq_run _ _ _ _ (by rw [hsS]; exact hS1), hsS,
      exec_seq_run _ _ _ _ (by simp [exec, IE.ok_var, hS1])]
    simp only [exec_setI _ _ _ _ (IE.ok_var _ _), IE.eval_var]
  have hfe : ∀ v, v ∉ qSearchNames.fv → v ≠ q__search_for_node2_key → sS.fenv v = s.fenv v := by
    intro v h1 h2; rw [hS2.fenv v h1]; simp [setS, h2]
  have hang : sS.fenv q_ang = s.fenv q_ang := hfe _ (by simp [SearchNames.fv, qSearchNames]) (by decide)
  have hgr : sS.fenv q_gradient = s.fenv q_gradient := hfe _ (by simp [SearchNames.fv, qSearchNames]) (by decide)
  have hmk : sS.fenv q_max_key = s.fenv q_max_key := hfe _ (by simp [SearchNames.fv, qSearchNames]) (by decide)
  rw [hq]
  unfold queryZ
  unfold QueryNoFail at hnf
  cases hfz : findZ (s.fa "tree_vals") ⟨s.fenv q_max_key⟩ sh [] with
  | none =>
    have hp := findZ_none _ _ sh [] hfz
    rw [hp] at hS3
    simp [exec, BE.ok, BE.eval, IE.ok_var, IE.ok_lit, IE.eval_var, IE.eval_lit, cmpInt, setS, hS3, FE.ok_lit, FE.eval_lit,
      hS1, hS2.fa, hS2.ia, hS2.shp, smallest]
  | some pos =>
    obtain ⟨l, k, r, c⟩ := pos
    rw [hfz] at hnf
    obtain ⟨hp, hplug, hk1, hk2⟩ := findZ_some _ _ sh [] l k r c hfz
    simp only [plug] at hplug
    rw [hp] at hS3
    have hite : exec fuel (.ite (.cmpI .eq (.var q_key_node) (.lit (-1)))
        (.seq (.setF q_ret0 (.lit (-10000000000000000000000) 1)) .ret) .skip)
        { sS with ienv := setS sS.ienv q_key_node (sS.ienv q__search_for_node2_ret0) } =
        { sS with ienv := setS sS.ienv q_key_node (k : Int) } := by
      have : ¬ ((k : Int) = -1) := by omega
      simp [exec, BE.ok, BE.eval, IE.ok_var, IE.ok_lit, IE.eval_var, IE.eval_lit, cmpInt, setS, hS3, this]
    rw [exec_seq_run _ _ _ _ (by rw [hite]; exact hS1), hite]
    have hT := qTail_spec n sh l k r c fuel { sS with ienv := setS sS.ienv q_key_node (k : Int) }
      ((hS2.vs (hv.of_eq rfl rfl rfl)).of_eq rfl rfl rfl) hS1 (by rw [hS2.ia]; exact hL) hN hplug (by simp [setS])
      (by
        intro i hi
        rw [hmk, hS2.fa]
        rcases List.mem_cons.mp hi with rfl | hi
        · have : ¬ (Fl.lt (s.fenv q_max_key) (vAt (s.fa "tree_vals") i 0).v = true) := hk1
          simpa using this
        · exact hnf i hi)
      hfuel
    obtain ⟨t1, t2, t3, t4, t5⟩ := hT
    refine ⟨t1, ?_, t3.trans hS2.fa, t4.trans hS2.ia, t5.trans hS2.shp⟩
    rw [t2]
    simp only [hang, hgr, hS2.fa]

theorem vsQuery_run (s : State F) (fuel n : Nat) (hv : VS s n) (hrun : s.ctl = .run) (sh : Sh)
    (hL : Linked (s.ia "tree_nodes") n (-1) sh) (hN : sh.idxs.Nodup) (hroot : s.ienv "root" = sh.ptr)
    (hnf : QueryNoFail (s.fa "tree_vals") sh ⟨s.fenv "distance"⟩) (hfuel : sh.size + sh.height + 2 ≤ fuel) :
    let q := Gen.IL.vsQuery.run s fuel
    q.ctl = .ret ∧
      q.fenv "ret0" = (queryZ (s.fa "tree_vals") n sh ⟨s.fenv "distance"⟩ ⟨s.fenv "angle"⟩ ⟨s.fenv "gradient"⟩).v ∧
      q.fa = s.fa ∧ q.ia = s.ia := by
  simp only [Prog.run, vsQuery_body]
  cases sh with
  | nil =>
    simp only [Sh.ptr] at hroot
    simp [exec, BE.ok, BE.eval, IE.ok_var, IE.ok_lit, IE.eval_var, IE.eval_lit, cmpInt, hroot, FE.ok_lit, FE.eval_lit, hrun,
      queryZ, findZ, smallest]
  | node l i r =>
    simp only [Sh.ptr] at hroot
    have hne : ¬ ((i : Int) = -1) := by omega
    have hite : exec fuel (.ite (.cmpI .eq (.var "root") (.lit (-1)))
        (.seq (.setF "ret0" (.lit (-10000000000000000000000) 1)) .ret) .skip) s = s := by
      simp [exec, BE.ok, BE.eval, IE.ok_var, IE.ok_lit, IE.eval_var, IE.eval_lit, cmpInt, hroot, hne]
    rw [exec_seq_run _ _ _ _ (by rw [hite]; exact hrun), hite]
    have hpre : exec fuel (.seq (.setI q_root (.var "root")) (.seq (.setF q_max_key (.var "distance"))
        (.seq (.setF q_ang (.var "angle")) (.setF q_gradient (.var "gradient"))))) s =
        { s with ienv := setS s.ienv q_root (i : Int),
                 fenv := setS (setS (setS s.fenv q_max_key (s.fenv "distance")) q_ang (s.fenv "angle")) q_gradient
                   (s.fenv "gradient") } := by
      simp [exec, FE.ok_var, FE.eval_var, IE.ok_var, IE.eval_var, hroot, hrun, setS]
    have hI := qInner_spec n (.node l i r) fuel
      { s with ienv := setS s.ienv q_root (i : Int),
               fenv := setS (setS (setS s.fenv q_max_key (s.fenv "distance")) q_ang (s.fenv "angle")) q_gradient
                 (s.fenv "gradient") }
      (hv.of_eq rfl rfl rfl) hrun hL hN (by simp [setS, Sh.ptr]) (by simpa [setS] using hnf) hfuel
    have e1 : (setS (setS (setS s.fenv q_max_key (s.fenv "distance")) q_ang (s.fenv "angle")) q_gradient
        (s.fenv "gradient")) q_max_key = s.fenv "distance" := by simp [setS]
    have e2 : (setS (setS (setS s.fenv q_max_key (s.fenv "distance")) q_ang (s.fenv "angle")) q_gradient
        (s.fenv "gradient")) q_ang = s.fenv "angle" := by simp [setS]
    have e3 : (setS (setS (setS s.fenv q_max_key (s.fenv "distance")) q_ang (s.fenv "angle")) q_gradient
        (s.fenv "gradient")) q_gradient = s.fenv "gradient" := by simp [setS]
    simp only [e1, e2, e3] at hI
    obtain ⟨hI1, hI2, hI3, hI4, hI5⟩ := hI
    have hreg : ∀ (a b c d k : St) (s' : State F), exec fuel (.seq a (.seq b (.seq c (.seq d k)))) s' =
        exec fuel (.seq (.seq a (.seq b (.seq c d))) k) s' := fun a b c d k s' => exec_seqK fuel [b, c, d] a k s'
    rw [hreg, exec_seq_run _ _ _ _ (by rw [hpre]; exact hrun), hpre, exec_seq, exec_scope]
    simp only [hI1, if_true]
    simp [exec, FE.ok_var, FE.eval_var, hI2, hI3, hI4]

/-- the two-phase query with the phase-2 list given structurally -/
def queryP {α : Type} [LT α] [DecidableLT α] [LE α] [DecidableLE α] [Add α] [Sub α] [Mul α] [Div α]
    (S : α) (t : Tree α) (K ang g : α) : α :=
  if t.contains K then
    let s := short S t K
    if g < s then s else walk ang g (fun n => itp n ang) (predsOf t K) S
  else S

theorem findZ_isSome_contains (vals : List F) (nodes : List Int) (K : Fv F) (sh : Sh) (c : Ctx) :
    (absT vals nodes sh).contains K = (findZ vals K sh c).isSome := by
  rw [findPtr_contains]
  cases h : findZ vals K sh c with
  | none => simp [findZ_none vals K sh c h]
  | some pos =>
    obtain ⟨l, k, r, c'⟩ := pos
    have := (findZ_some vals K sh c l k r c' h).1
    simp [this]

/-- what the program computes is the model's query (with the structural phase-2 list) on the abstracted tree,
    provided the NIL row holds the sentinel -/
theorem queryZ_eq (vals : List F) (nodes : List Int) (n : Nat) (sh : Sh) (K ang g : Fv F)
    (hS : vAt vals (n - 1) 7 = smallest) :
    queryZ vals n sh K ang g = queryP smallest (absT vals nodes sh) K ang g := by
  unfold queryZ queryP
  rw [findZ_isSome_contains vals nodes K sh []]
  cases h : findZ vals K sh [] with
  | none => simp
  | some pos =>
    obtain ⟨l, k, r, c⟩ := pos
    have h1 := shortCtx_findZ vals nodes n K smallest hS sh [] l k r c h
    have h2 := preds_findZ vals nodes K sh [] l k r c h
    simp only [shortCtx] at h1
    simp only [predsCtx, List.map_nil, List.append_nil] at h2
    simp only [Option.isSome_some, if_true, queryPos, h1, h2]

theorem queryNoFail_of (vals : List F) (nodes : List Int) (sh : Sh) (K : Fv F)
    (h : ∀ nd ∈ predsOf (absT vals nodes sh) K, ¬ K < nd.key) : QueryNoFail vals sh K := by
  unfold QueryNoFail
  cases hz : findZ vals K sh [] with
  | none => trivial
  | some pos =>
    obtain ⟨l, k, r, c⟩ := pos
    have h2 := preds_findZ vals nodes K sh [] l k r c hz
    simp only [predsCtx, List.map_nil, List.append_nil] at h2
    intro i hi
    have : nodeAt vals i ∈ predsOf (absT vals nodes sh) K := by
      rw [← h2]; exact List.mem_map_of_mem hi
    have := h _ this
    simp only [nodeAt_key, fv_lt] at this
    simpa using this

/-- **Refinement of `_max_grad_in_status_struct`**: on a state whose arrays hold a well-linked tree (shape `sh`,
    no row twice, NIL row = sentinel) and on which the code's `raise ValueError` is not reached, the generated
    program returns the hand model's query of the abstracted tree and leaves the arrays alone. -/
theorem vsQuery_refines (s : State F) (fuel n : Nat) (hv : VS s n) (hrun : s.ctl = .run) (sh : Sh)
    (hL : Linked (s.ia "tree_nodes") n (-1) sh) (hN : sh.idxs.Nodup) (hroot : s.ienv "root" = sh.ptr)
    (hS : vAt (s.fa "tree_vals") (n - 1) 7 = smallest)
    (hnf : ∀ nd ∈ predsOf (absT (s.fa "tree_vals") (s.ia "tree_nodes") sh) ⟨s.fenv "distance"⟩,
      ¬ (⟨s.fenv "distance"⟩ : Fv F) < nd.key)
    (hfuel : sh.size + sh.height + 2 ≤ fuel) :
    let q := Gen.IL.vsQuery.run s fuel
    q.ctl = .ret ∧
      q.fenv "ret0" = (queryP smallest (absT (s.fa "tree_vals") (s.ia "tree_nodes") sh)
        ⟨s.fenv "distance"⟩ ⟨s.fenv "angle"⟩ ⟨s.fenv "gradient"⟩).v ∧
      q.fa = s.fa ∧ q.ia = s.ia := by
  have := vsQuery_run s fuel n hv hrun sh hL hN hroot (queryNoFail_of _ (s.ia "tree_nodes") sh _ hnf) hfuel
  rw [queryZ_eq _ (s.ia "tree_nodes") n sh _ _ _ hS] at this
  exact this

end XrsVerif.ILVs
