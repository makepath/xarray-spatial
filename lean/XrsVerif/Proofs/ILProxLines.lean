import XrsVerif.Proofs.ILProxCall
/-
  Step 4 (second part): one line of the top-down pass of the generated `_process_numpy`
  (`tdLine`) and one line of the bottom-up pass (`buLine`) refine `Prox.rowStep`.

  Every loop of a line is one step on the model's line state `m` and the targets `al` that `output_img[n]` stands for
  (`InLine`, Proofs/ILProxInLine.lean): an inlined call sweeps `m` (`callLine_refines`), a merge loop merges `m.nr` into
  `al`, the reset blanks `m.nr`; `rowStep` is their composition.  What a pass keeps of a finished line is `LineDone`.
-/
namespace XrsVerif.IL.Px
open XrsVerif XrsVerif.Prox XrsVerif.ILVs
variable {F : Type} [Fl F]
set_option linter.unusedSectionVars false
attribute [-simp] List.getD_eq_getElem?_getD
attribute [local simp] List.getD_cons_zero List.getD_cons_succ

/-- what a merge loop leaves unchanged (`fas` = the numeric arrays it may write) -/
structure MLFrame (D : String) (fas : List String) (s r : State F) : Prop where
  shp : r.shp = s.shp
  ext : r.ext = s.ext
  ienv : ∀ v, v ≠ "i" → r.ienv v = s.ienv v
  benv : r.benv = s.benv
  ia : r.ia = s.ia
  fa : ∀ a, a ∉ fas → r.fa a = s.fa a
  fenv : ∀ v, (∀ x ∈ dirLocals, v ≠ D ++ x) → r.fenv v = s.fenv v

theorem MLFrame.refl (D : String) (fas : List String) (s : State F) : MLFrame D fas s s :=
  ⟨rfl, rfl, fun _ _ => rfl, rfl, rfl, fun _ _ => rfl, fun _ _ => rfl⟩

theorem MLFrame.row {k : String} {fas : List String} {s r : State F} (h : MLFrame (D k) fas s r)
    (hf : ∀ a, a ∈ fas → a = "line_proximity" ∨ a = "output_img" ∨ a = "img_distance") : RowFrame s r :=
  ⟨h.shp, h.ext, fun v _ hi => h.ienv v hi, fun v hv => h.fenv v (fun x _ => outer_ne_dir v hv k x),
   fun a h1 h2 h3 => h.fa a (fun hm => by rcases hf a hm with e | e | e <;> contradiction)⟩

theorem Only.row {ias fas : List String} {s r : State F} (h : Only ias fas s r)
    (hf : ∀ a, a ∈ fas → a = "line_proximity" ∨ a = "output_img" ∨ a = "img_distance") : RowFrame s r :=
  ⟨h.shp, h.ext, fun v _ hi => h.ienv v hi, fun v _ => by rw [h.fenv],
   fun a h1 h2 h3 => h.fa a (fun hm => by rcases hf a hm with e | e | e <;> contradiction)⟩

section loops
variable {c : Cfg} {emb : Nat → F} {tg : Nat → Nat → Bool}
variable {D : String} {s0 sE s st : State F} {n k : Nat} {m : LineSt} {al : List Tgt}

/-- `st` after `k` iterations of a merge loop started in `s` inside line `n`, where `output_img[n]` stood for `al`: the
    first `k` entries of the line stand for `al` merged with `nr`, the rest of `output_img` is as in `s` -/
def Merged (c : Cfg) (s0 s : State F) (al nr : List Tgt) (n k : Nat) (st : State F) : Prop :=
  (st.fa "output_img").length = c.H * c.W ∧
  (∀ q, q < k → (st.fa "output_img").getD (n * c.W + q) Fl.nan =
    outVal (s0.ienv "process_mode") (s0.fa "img") (s0.fa "x_coords") (s0.fa "y_coords") c.W n q (curOf al nr q)) ∧
  ∀ j, (j < n * c.W ∨ n * c.W + k ≤ j) → (st.fa "output_img").getD j Fl.nan = (s.fa "output_img").getD j Fl.nan

theorem Merged.zero {nr : List Tgt} (h : InLine c emb s0 sE n s m al) : Merged c s0 s al nr n 0 s :=
  ⟨h.stat.lout, fun q hq => absurd hq (Nat.not_lt_zero q), fun _ _ => rfl⟩

theorem Merged.skip {r : State F} (h : InLine c emb s0 sE n s m al) (hk : k < c.W) (mg : Merged c s0 s al m.nr n k st)
    (hnr : m.nr.getD k none = none) (e : r.fa "output_img" = st.fa "output_img") : Merged c s0 s al m.nr n (k + 1) r := by
  rw [Merged, e]
  refine ⟨mg.1, fun q hq => ?_, fun j hj => mg.2.2 j (by omega)⟩
  by_cases hqk : q = k
  · subst hqk; rw [mg.2.2 _ (Or.inr (Nat.le_refl _)), h.out.2 q hk, curOf, hnr]
  · exact mg.2.1 q (by omega)

theorem Merged.outRow {r : State F} (h : InLine c emb s0 sE n s m al) (mg : Merged c s0 s al m.nr n c.W r) :
    OutRow c s0 r n (mergeNr al m.nr) := by
  have hl : al.length = m.nr.length := by rw [h.out.1, h.rel.mlen_nr]
  exact ⟨(Prox.mergeNr_length _ _ hl).trans h.out.1, fun p hp => by rw [mg.2.1 p hp, Prox.mergeNr_getD _ _ _ hl]⟩

/-- the merge statement inside a loop over `i`: `st` is the state after `k` iterations of a loop started in `s`,
    `fa'` the numeric arrays after what the iteration does before the merge (a store to an array of `fas`, or
    nothing: `fa' = st.fa`) -/
theorem mergeStmt_in_loop (fas : List String) (ho : "output_img" ∈ fas)
    (hin : "img" ∉ fas ∧ "x_coords" ∉ fas ∧ "y_coords" ∉ fas) (fuel : Nat) (h : InLine c emb s0 sE n s m al) (hk : k < c.W)
    (hst : st.ctl = .run) (fr : MLFrame D fas s st) (mg : Merged c s0 s al m.nr n k st)
    (fa' : String → List F) (hfa : ∀ a, a ∉ fas → fa' a = st.fa a) (hout : fa' "output_img" = st.fa "output_img")
    (hlp : m.nr.getD k none ≠ none → Fl.le (Fl.lit 0 1) ((fa' "line_proximity").getD k Fl.nan) = true) :
    let r := exec fuel (mergeStmt D) { st with ienv := setS st.ienv "i" (k : Int), fa := fa' }
    r.ctl = .run ∧ MLFrame D fas s r ∧ Merged c s0 s al m.nr n (k + 1) r ∧ ∀ a, a ≠ "output_img" → r.fa a = fa' a := by
  intro r
  have cx := h.stat
  have fm := mergeStmt_mods D fuel { st with ienv := setS st.ienv "i" (k : Int), fa := fa' }
  have hi : ∀ v, v ≠ "i" → setS st.ienv "i" (k : Int) v = s.ienv v := fun v hv => by
    rw [setS_other _ _ _ _ hv, fr.ienv v hv]
  have hf : ∀ a, a ∉ fas → fa' a = s.fa a := fun a ha => (hfa a ha).trans (fr.fa a ha)
  have cx1 : MergeCtx c.H c.W n k { st with ienv := setS st.ienv "i" (k : Int), fa := fa' } :=
    ⟨hst, h.hn, hk, (hi _ (by simp)).trans h.line, setS_same st.ienv "i" (k : Int), (congrFun fr.shp _).trans cx.nx,
     (congrFun fr.shp _).trans cx.ny, (congrFun fr.shp _).trans h.slp, (congrFun fr.shp _).trans cx.img,
     (congrFun fr.shp _).trans cx.xc, (congrFun fr.shp _).trans cx.yc, (congrFun fr.shp _).trans cx.out,
     (congrArg List.length hout).trans mg.1⟩
  obtain ⟨c2, l2, v2, o2⟩ := mergeStmt_exec D _ fuel c.H c.W n k cx1 (m.nr.getD k none)
    (by have := h.rel.nr k hk; rw [← fr.ia] at this; exact this) hlp
  have ha : ∀ a, a ≠ "output_img" → r.fa a = fa' a := fun a ha => fm.fa a (by simpa using ha)
  refine ⟨c2, ⟨fm.shp_eq.trans fr.shp, fm.ext.trans fr.ext, fun v hv => (congrFun fm.ienv_eq v).trans (hi v hv),
    fm.benv_eq.trans fr.benv, fm.ia_eq.trans fr.ia,
    fun a ha' => (ha a (fun e => ha' (e ▸ ho))).trans (hf a ha'), fun v hv => ?_⟩, ⟨l2, fun q hq => ?_, fun j hj => ?_⟩, ha⟩
  · exact (fm.fenv v (fun hm => by obtain ⟨x, hx, e⟩ := List.mem_map.1 hm; exact hv x hx e.symm)).trans (fr.fenv v hv)
  · by_cases hqk : q = k
    · -- the entry written in this iteration: what `s` held there stood for `al[q]`
      subst hqk
      have e := mg.2.2 _ (Or.inr (Nat.le_refl (n * c.W + q)))
      rw [← hout] at e
      rw [v2]
      show mergeVal (setS st.ienv "i" (q : Int) "process_mode") (fa' "img") (fa' "x_coords") (fa' "y_coords") c.W n q
        ((fa' "output_img").getD (n * c.W + q) Fl.nan) (m.nr.getD q none) = _
      rw [hi _ (by simp), hf _ hin.1, hf _ hin.2.1, hf _ hin.2.2, e, h.out.2 q hk, cx.mode, cx.fimg, cx.fxc, cx.fyc,
        mergeVal_outVal]
      rfl
    · rw [o2 _ (by omega)]
      show (fa' "output_img").getD (n * c.W + q) Fl.nan = _
      rw [hout]; exact mg.2.1 q (by omega)
  · rw [o2 _ (by omega)]
    show (fa' "output_img").getD j Fl.nan = _
    rw [hout]; exact mg.2.2 j (by omega)

end loops

section steps
variable {c : Cfg} {emb : Nat → F} {tg : Nat → Nat → Bool}
variable {s0 sE st : State F} {n : Nat} {m : LineSt} {al : List Tgt}

/-- `for i in range(width): <merge>` after a sweep: `output_img[n]` takes over what the sweep recorded -/
theorem mergeLoop_exec (h : InLine c emb s0 sE n st m al) (k : String) (fuel : Nat) :
    (exec fuel (mergeLoop (D k)) st).ctl = .run ∧
    InLine c emb s0 sE n (exec fuel (mergeLoop (D k)) st) m (mergeNr al m.nr) := by
  unfold mergeLoop
  obtain ⟨hc, fr, mg⟩ := forRange_up "i" (.var "width") (mergeStmt (D k)) st fuel c.W h.stat.run rfl
    (by simp [IE.eval, h.stat.width])
    (fun j r => MLFrame (D k) ["output_img"] st r ∧ Merged c s0 st al m.nr n j r) ⟨MLFrame.refl _ _ st, Merged.zero h⟩
    (by
      intro j hj u hu ⟨fr, mg⟩
      obtain ⟨c2, f2, m2, _⟩ := mergeStmt_in_loop ["output_img"] (by simp) (by simp) fuel h hj hu fr mg u.fa
        (fun _ _ => rfl) rfl (fun hne => by rw [fr.fa _ (by simp)]; exact (h.rel.lp_nonneg hj hne).2)
      rw [afterBody_run _ c2]
      exact ⟨c2, f2, m2⟩)
  exact ⟨hc, h.next hc (fr.row (by simp)) (h.rel.congr5 (by rw [fr.ia]) (by rw [fr.ia]) (by rw [fr.ia]) (by rw [fr.ia])
    (fr.fa _ (by simp))) mg.1 (mg.outRow h) mg.2.2 (fr.fa _ (by simp))⟩

/-- `nearest_xs/ys` reset between the two sweeps -/
theorem InLine.reset (h : InLine c emb s0 sE n st m al) (fuel : Nat) :
    (exec fuel resetNearest st).ctl = .run ∧
    InLine c emb s0 sE n (exec fuel resetNearest st) { m with nr := List.replicate c.W none } al := by
  have s := h.stat
  obtain ⟨hc, f, lx, ly, v⟩ := resetNearest_exec st fuel c.W s.run s.width s.nx s.ny h.rel.len_nx h.rel.len_ny
  have eo : (exec fuel resetNearest st).fa = st.fa := funext fun a => f.fa a (by simp)
  refine ⟨hc, h.next hc (f.row (by simp)) ?_ (by rw [eo]; exact s.lout) (h.out.congr (by rw [eo])) (fun j _ => by rw [eo])
    (by rw [eo])⟩
  exact ⟨by rw [f.ia _ (by simp)]; exact h.rel.len_px, by rw [f.ia _ (by simp)]; exact h.rel.len_py, lx, ly,
    by rw [eo]; exact h.rel.len_lp, h.rel.mlen_pan, h.rel.mlen_lp, by simp,
    by rw [f.ia _ (by simp), f.ia "pan_near_y" (by simp)]; exact h.rel.pan,
    fun q hq => by simp only [Prox.getD_replicate_none]; exact (v q hq).1,
    by rw [eo]; exact h.rel.lp, fun q _ hne => by simp only [Prox.getD_replicate_none] at hne; exact absurd rfl hne⟩

/-- two sweeps of a line with the merge in between -/
theorem InLine.twoSweeps (inp : PNInput c emb tg s0) {pan : List Tgt} {lp0 : List (Option Nat)}
    (h : InLine c emb s0 sE n st { pan := pan, lp := lp0, nr := List.replicate c.W none } al)
    (ka kb da : String) (fwdE fwdE' : BE) (fwd : Bool)
    (hE : (fwdE = .tt ∧ fwdE' = .ff ∧ fwd = true) ∨ (fwdE = .ff ∧ fwdE' = .tt ∧ fwd = false)) (rest : St) (fuel : Nat) :
    ∃ st' : State F,
      exec fuel (callLine (NL ka) fwdE (.seq (mergeLoop (D da)) (.seq resetNearest (callLine (NL kb) fwdE' rest)))) st =
        exec fuel rest st' ∧
      InLine c emb s0 sE n st' (sweep c tg n (!fwd) (sweep c tg n fwd pan lp0).pan (sweep c tg n fwd pan lp0).lp)
        (mergeNr al (sweep c tg n fwd pan lp0).nr) := by
  obtain ⟨st1, e1, h1⟩ := callLine_refines inp h ka fwdE fwd (hE.imp (fun a => ⟨a.1, a.2.2⟩) (fun a => ⟨a.1, a.2.2⟩)) _ fuel
  obtain ⟨c2, h2⟩ := mergeLoop_exec h1 da fuel
  obtain ⟨c3, h3⟩ := h2.reset fuel
  obtain ⟨st4, e4, h4⟩ := callLine_refines inp h3 kb fwdE' (!fwd)
    (hE.symm.imp (fun a => ⟨a.2.1, by simp [a.2.2]⟩) (fun a => ⟨a.2.1, by simp [a.2.2]⟩)) rest fuel
  exact ⟨st4, by rw [e1, exec_seq_run _ _ _ _ c2, exec_seq_run _ _ _ _ c3, e4], h4⟩

end steps

/-- a final `img_distance` value against the model: NaN for "no target within reach" -/
def lpFin (emb : Nat → F) (x : F) : Option Nat → Prop
  | none => x = Fl.nan
  | some d => lpRel emb x (some d)

/-- `pan_near_x/y` against the model's remembered targets -/
def PanRel (c : Cfg) (st : State F) (pan : List Tgt) : Prop :=
  pan.length = c.W ∧
  ∀ q, q < c.W → tgtRel c.H c.W ((st.ia "pan_near_x").getD q 0) ((st.ia "pan_near_y").getD q 0) (pan.getD q none)

/-- what the passes keep of line `n` (`R` = `lpRel emb` after the top-down, `lpFin emb` after the
    bottom-up pass) -/
structure LineDone (c : Cfg) (R : F → Option Nat → Prop) (s0 sE : State F) (n : Nat) (r : State F) (pan : List Tgt)
    (o : RowOut) : Prop where
  stat : PNStatic c s0 r
  pan : PanRel c r pan
  slp : r.shp "line_proximity" = [c.W]
  llp : (r.fa "line_proximity").length = c.W
  olen : o.lp.length = c.W
  row : ∀ p, p < c.W → R ((r.fa "img_distance").getD (n * c.W + p) Fl.nan) (o.lp.getD p none)
  out : OutRow c s0 r n o.al
  rest : OtherRows c.W n sE r

section td
variable {c : Cfg} {emb : Nat → F} {tg : Nat → Nat → Bool}
variable {s0 sE st : State F} {n : Nat} {m : LineSt} {al : List Tgt}

/-- the state after `i = k; img_distance[line][i] = line_proximity[i]` -/
def storeSt (st : State F) (n W k : Nat) : State F :=
  { st with
    ienv := setS st.ienv "i" (k : Int)
    fa := setS st.fa "img_distance" ((st.fa "img_distance").set (n * W + k) ((st.fa "line_proximity").getD k Fl.nan)) }

/-- the last loop of a top-down line: `img_distance[line][i] = line_proximity[i]`, then the merge -/
theorem storeMergeLoop_exec (h : InLine c emb s0 sE n st m al) (k : String) (fuel : Nat) :
    LineDone c (lpRel emb) s0 sE n (exec fuel (storeMergeLoop (D k)) st) m.pan { lp := m.lp, al := mergeNr al m.nr } := by
  unfold storeMergeLoop
  have s := h.stat
  obtain ⟨hc, f, mg, ld, hq, hj⟩ := forRange_up "i" (.var "width") (storeMergeLoopBody (D k)) st fuel c.W s.run rfl
    (by simp [IE.eval, s.width])
    (fun j r => MLFrame (D k) ["output_img", "img_distance"] st r ∧ Merged c s0 st al m.nr n j r ∧
      (r.fa "img_distance").length = c.H * c.W ∧
      (∀ q, q < j → (r.fa "img_distance").getD (n * c.W + q) Fl.nan = (st.fa "line_proximity").getD q Fl.nan) ∧
      (∀ i, (i < n * c.W ∨ n * c.W + j ≤ i) → (r.fa "img_distance").getD i Fl.nan = (st.fa "img_distance").getD i Fl.nan))
    ⟨MLFrame.refl _ _ st, Merged.zero h, s.ldist, fun q hq => absurd hq (Nat.not_lt_zero q), fun _ _ => rfl⟩
    (by
      intro j hj u hu ⟨fr, mg, ld0, hq, hi⟩
      have idx := rowMajor_lt h.hn hj
      have lpe : u.fa "line_proximity" = st.fa "line_proximity" := fr.fa _ (by simp)
      -- img_distance[line][i] = line_proximity[i]
      have hb : exec fuel (storeMergeLoopBody (D k)) { u with ienv := setS u.ienv "i" (j : Int) } =
          exec fuel (mergeStmt (D k)) (storeSt u n c.W j) := by
        rw [storeMergeLoopBody, exec_seq_run]
        all_goals
          simp [il, storeSt, hu, setS, fr.shp, s.dist, h.slp, fr.ienv "line" (by simp), h.line, inRange_of_lt _ _ hj,
            inRange_of_lt _ _ h.hn, off1_nat, off2_nat]
      rw [hb, storeSt]
      obtain ⟨c2, f2, m2, a2⟩ := mergeStmt_in_loop ["output_img", "img_distance"] (by simp) (by simp) fuel h hj
        hu fr mg (setS u.fa "img_distance" ((u.fa "img_distance").set (n * c.W + j) ((u.fa "line_proximity").getD j Fl.nan)))
        (fun a ha => setS_other _ _ _ _ (fun e => ha (by simp [e]))) (setS_other _ _ _ _ (by simp))
        (fun hne => by rw [setS_other _ _ _ _ (by simp), lpe]; exact (h.rel.lp_nonneg hj hne).2)
      rw [afterBody_run _ c2]
      have d2 := (a2 "img_distance" (by simp)).trans (setS_same _ _ _)
      refine ⟨c2, f2, m2, by rw [d2]; simpa using ld0, fun q hq' => ?_, fun i hi' => ?_⟩
      · rw [d2]
        by_cases hqj : q = j
        · subst hqj; rw [getD_set_same _ _ _ _ (by rw [ld0]; exact idx), lpe]
        · rw [getD_set_ne _ _ _ _ _ (by omega)]; exact hq q (by omega)
      · rw [d2, getD_set_ne _ _ _ _ _ (by omega)]; exact hi i (by omega))
  have fr : RowFrame st _ := f.row (by intro a ha; simp at ha; rcases ha with e | e <;> simp [e])
  exact ⟨s.of_agree hc (fun a _ => congrFun fr.shp a) (fun v h1 h2 _ => fr.ienv v h1 h2) (fr.fenv _ (by simp))
      (fun a h1 h2 h3 _ => fr.fa a h1 h2 h3) fr.ext (by rw [f.ia]; exact s.lpx) (by rw [f.ia]; exact s.lpy)
      (by rw [f.ia]; exact s.lnx) (by rw [f.ia]; exact s.lny) (by rw [fr.fa _ (by simp) (by simp) (by simp)]; exact s.lscan)
      mg.1 ld,
    ⟨h.rel.mlen_pan, by rw [f.ia]; exact h.rel.pan⟩, (congrFun fr.shp _).trans h.slp,
    by rw [f.fa _ (by simp)]; exact h.rel.len_lp, h.rel.mlen_lp, fun p hp => by rw [hq p hp]; exact h.rel.lp p hp,
    mg.outRow h, fun i hi => ⟨(mg.2.2 i hi).trans (h.rest i hi).1, (hj i hi).trans (h.rest i hi).2⟩⟩

/-- the state after `line_proximity = np.zeros(width)` -/
def allocLpSt (st : State F) (W : Nat) : State F :=
  { st with
    shp := setS st.shp "line_proximity" [W]
    fa := setS st.fa "line_proximity" (List.replicate W (Fl.lit 0 1)) }

theorem allocLp_exec (st : State F) (fuel W : Nat) (hw : st.ienv "width" = W) :
    exec fuel (.allocF "line_proximity" [(.var "width")] (.lit 0 1)) st = allocLpSt st W := by
  simp [il, hw, allocLpSt]

/-- the three loops in front of the first sweep of a top-down line -/
theorem tdBegin (inp : PNInput c emb tg s0) (s : PNStatic c s0 st) (hn : n < c.H) (hline : st.ienv "line" = n)
    {pan : List Tgt} (hpan : PanRel c st pan)
    (hout : OutRow c s0 st n (blankRow c).al) (rest : St) (fuel : Nat) :
    ∃ st' : State F,
      exec fuel (.seq readLine (.seq (.allocF "line_proximity" [(.var "width")] (.lit 0 1)) (.seq resetLine rest))) st =
        exec fuel rest st' ∧
      InLine c emb s0 st n st' { pan := pan, lp := List.replicate c.W none, nr := List.replicate c.W none }
        (List.replicate c.W none) := by
  obtain ⟨c1, f1, l1, v1⟩ := readLine_exec st fuel c.H c.W n s.run s.width hline hn s.scan s.img s.lscan
  have w1 : (exec fuel readLine st).ienv "width" = c.W := by rw [f1.ienv _ (by simp)]; exact s.width
  rw [exec_seq_run _ _ _ _ c1, exec_seq_run _ _ _ _ (by rw [allocLp_exec _ fuel c.W w1]; exact c1), allocLp_exec _ fuel c.W w1]
  generalize exec fuel readLine st = st1 at c1 f1 l1 v1 w1
  have o2 : ∀ a, a ≠ "line_proximity" → (allocLpSt st1 c.W).shp a = st1.shp a ∧ (allocLpSt st1 c.W).fa a = st1.fa a :=
    fun a ha => by simp [allocLpSt, setS, ha]
  obtain ⟨c3, f3, l3, l3x, l3y, v3⟩ := resetLine_exec (allocLpSt st1 c.W) fuel c.W c1 w1 (by simp [allocLpSt, setS])
    (by rw [(o2 _ (by simp)).1, f1.shp]; exact s.nx) (by rw [(o2 _ (by simp)).1, f1.shp]; exact s.ny)
    (by simp [allocLpSt, setS]) (by rw [show (allocLpSt st1 c.W).ia = st1.ia from rfl, f1.ia _ (by simp)]; exact s.lnx)
    (by rw [show (allocLpSt st1 c.W).ia = st1.ia from rfl, f1.ia _ (by simp)]; exact s.lny)
  refine ⟨_, exec_seq_run _ _ _ _ c3, ?_⟩
  generalize exec fuel resetLine (allocLpSt st1 c.W) = st3 at c3 f3 l3 l3x l3y v3
  have ia3 : ∀ a, a ≠ "nearest_xs" → a ≠ "nearest_ys" → st3.ia a = st.ia a := fun a h1 h2 => by
    rw [f3.ia a (by simp [h1, h2])]; exact f1.ia a (by simp)
  have fa3 : ∀ a, a ≠ "line_proximity" → a ≠ "scan_line" → st3.fa a = st.fa a := fun a h1 h2 => by
    rw [f3.fa a (by simpa using h1), (o2 a h1).2, f1.fa a (by simpa using h2)]
  have sc3 : st3.fa "scan_line" = st1.fa "scan_line" := by rw [f3.fa _ (by simp), (o2 _ (by simp)).2]
  have sh3 : ∀ a, a ≠ "line_proximity" → st3.shp a = st.shp a := fun a ha => by rw [f3.shp, (o2 a ha).1, f1.shp]
  refine ⟨s.of_agree c3 sh3 (fun v _ hv _ => by rw [f3.ienv v hv]; exact f1.ienv v hv)
      (by rw [f3.fenv]; exact congrFun f1.fenv _) (fun a h1 _ _ h4 => fa3 a h1 h4) (by rw [f3.ext]; exact f1.ext)
      (by rw [ia3 _ (by simp) (by simp)]; exact s.lpx) (by rw [ia3 _ (by simp) (by simp)]; exact s.lpy) l3x l3y
      (by rw [sc3]; exact l1) (by rw [fa3 _ (by simp) (by simp)]; exact s.lout) (by rw [fa3 _ (by simp) (by simp)]; exact s.ldist),
    hn, by rw [f3.ienv _ (by simp)]; exact (f1.ienv _ (by simp)).trans hline, by rw [f3.shp]; simp [allocLpSt, setS],
    fun p hp => by rw [sc3, v1 p hp, s.fimg], ?_, hout.congr (fa3 _ (by simp) (by simp)),
    fun j _ => ⟨by rw [fa3 _ (by simp) (by simp)], by rw [fa3 _ (by simp) (by simp)]⟩, fa3 _ (by simp) (by simp)⟩
  · exact ⟨by rw [ia3 _ (by simp) (by simp)]; exact s.lpx, by rw [ia3 _ (by simp) (by simp)]; exact s.lpy, l3x, l3y, l3,
      hpan.1, by simp, by simp, by rw [ia3 _ (by simp) (by simp), ia3 "pan_near_y" (by simp) (by simp)]; exact hpan.2,
      fun q hq => by simp only [Prox.getD_replicate_none]; exact (v3 q hq).2.1,
      fun q hq => by simp only [Prox.getD_replicate_none, (v3 q hq).1]; exact inp.neg1,
      fun q _ hne => by simp only [Prox.getD_replicate_none] at hne; exact absurd rfl hne⟩

theorem tdLine_done (inp : PNInput c emb tg s0) (s : PNStatic c s0 st) (hn : n < c.H) (hline : st.ienv "line" = n)
    {pan : List Tgt} (hpan : PanRel c st pan) (hout : OutRow c s0 st n (blankRow c).al) (fuel : Nat) :
    LineDone c (lpRel emb) s0 st n (exec fuel tdLine st) (rowStep c tg true n pan (blankRow c)).1
      (rowStep c tg true n pan (blankRow c)).2 := by
  obtain ⟨st3, e3, h3⟩ := tdBegin inp s hn hline hpan hout
    (callLine (NL "1") .tt (.seq (mergeLoop (D "2")) (.seq resetNearest (callLine (NL "3") .ff (storeMergeLoop (D "4")))))) fuel
  obtain ⟨st4, e4, h4⟩ := h3.twoSweeps inp "1" "3" "2" .tt .ff true (Or.inl ⟨rfl, rfl, rfl⟩) (storeMergeLoop (D "4")) fuel
  rw [tdLine, e3, e4]
  exact storeMergeLoop_exec h4 "4" fuel

end td

section bu
variable {c : Cfg} {emb : Nat → F} {tg : Nat → Nat → Bool}
variable {s0 sE st : State F} {n : Nat} {m : LineSt} {al : List Tgt}

/-- the three loops in front of the first sweep of a bottom-up line: `line_proximity` takes the line of `img_distance` -/
theorem buBegin (s : PNStatic c s0 st) (hn : n < c.H) (hline : st.ienv "line" = n)
    (slp : st.shp "line_proximity" = [c.W]) (llp : (st.fa "line_proximity").length = c.W)
    {pan : List Tgt} (hpan : PanRel c st pan) {o : RowOut} (holp : o.lp.length = c.W)
    (hdist : ∀ p, p < c.W → lpRel emb ((st.fa "img_distance").getD (n * c.W + p) Fl.nan) (o.lp.getD p none))
    (hout : OutRow c s0 st n o.al) (rest : St) (fuel : Nat) :
    ∃ st' : State F, exec fuel (.seq readDistance (.seq readLine (.seq resetNearest rest))) st = exec fuel rest st' ∧
      InLine c emb s0 st n st' { pan := pan, lp := o.lp, nr := List.replicate c.W none } o.al := by
  obtain ⟨c1, f1, l1, v1⟩ := readDistance_exec st fuel c.H c.W n s.run s.width hline hn slp s.dist llp
  rw [exec_seq_run _ _ _ _ c1]
  generalize exec fuel readDistance st = st1 at c1 f1 l1 v1
  obtain ⟨c2, f2, l2, v2⟩ := readLine_exec st1 fuel c.H c.W n c1 (by rw [f1.ienv _ (by simp)]; exact s.width)
    (by rw [f1.ienv _ (by simp)]; exact hline) hn (by rw [f1.shp]; exact s.scan) (by rw [f1.shp]; exact s.img)
    (by rw [f1.fa _ (by simp)]; exact s.lscan)
  rw [exec_seq_run _ _ _ _ c2]
  generalize exec fuel readLine st1 = st2 at c2 f2 l2 v2
  obtain ⟨c3, f3, l3x, l3y, v3⟩ := resetNearest_exec st2 fuel c.W c2
    (by rw [f2.ienv _ (by simp), f1.ienv _ (by simp)]; exact s.width)
    (by rw [f2.shp, f1.shp]; exact s.nx) (by rw [f2.shp, f1.shp]; exact s.ny)
    (by rw [f2.ia _ (by simp), f1.ia _ (by simp)]; exact s.lnx) (by rw [f2.ia _ (by simp), f1.ia _ (by simp)]; exact s.lny)
  refine ⟨_, exec_seq_run _ _ _ _ c3, ?_⟩
  generalize exec fuel resetNearest st2 = st3 at c3 f3 l3x l3y v3
  have sh3 : st3.shp = st.shp := by rw [f3.shp, f2.shp, f1.shp]
  have ia3 : ∀ a, a ≠ "nearest_xs" → a ≠ "nearest_ys" → st3.ia a = st.ia a := fun a h1 h2 => by
    rw [f3.ia a (by simp [h1, h2]), f2.ia a (by simp)]; exact f1.ia a (by simp)
  have fa3 : ∀ a, a ≠ "line_proximity" → a ≠ "scan_line" → st3.fa a = st.fa a := fun a h1 h2 => by
    rw [f3.fa a (by simp), f2.fa a (by simpa using h2), f1.fa a (by simpa using h1)]
  have sc3 : st3.fa "scan_line" = st2.fa "scan_line" := f3.fa _ (by simp)
  have lp3 : st3.fa "line_proximity" = st1.fa "line_proximity" := by rw [f3.fa _ (by simp), f2.fa _ (by simp)]
  refine ⟨s.of_agree c3 (fun a _ => congrFun sh3 a) (fun v _ hv _ => by rw [f3.ienv v hv, f2.ienv v hv]; exact f1.ienv v hv)
      (by rw [f3.fenv, f2.fenv]; exact congrFun f1.fenv _) (fun a h1 _ _ h4 => fa3 a h1 h4) (by rw [f3.ext, f2.ext]; exact f1.ext)
      (by rw [ia3 _ (by simp) (by simp)]; exact s.lpx) (by rw [ia3 _ (by simp) (by simp)]; exact s.lpy) l3x l3y
      (by rw [sc3]; exact l2) (by rw [fa3 _ (by simp) (by simp)]; exact s.lout) (by rw [fa3 _ (by simp) (by simp)]; exact s.ldist),
    hn, by rw [f3.ienv _ (by simp), f2.ienv _ (by simp)]; exact (f1.ienv _ (by simp)).trans hline, by rw [sh3]; exact slp,
    fun p hp => by rw [sc3, v2 p hp, f1.fa "img" (by simp), s.fimg], ?_, hout.congr (fa3 _ (by simp) (by simp)),
    fun j _ => ⟨by rw [fa3 _ (by simp) (by simp)], by rw [fa3 _ (by simp) (by simp)]⟩, fa3 _ (by simp) (by simp)⟩
  exact ⟨by rw [ia3 _ (by simp) (by simp)]; exact s.lpx, by rw [ia3 _ (by simp) (by simp)]; exact s.lpy, l3x, l3y,
    by rw [lp3]; exact l1, hpan.1, holp, by simp,
    by rw [ia3 _ (by simp) (by simp), ia3 "pan_near_y" (by simp) (by simp)]; exact hpan.2,
    fun q hq => by simp only [Prox.getD_replicate_none]; exact (v3 q hq).1,
    fun q hq => by rw [lp3, v1 q hq]; exact hdist q hq,
    fun q _ hne => by simp only [Prox.getD_replicate_none] at hne; exact absurd rfl hne⟩

/-- "final post processing of distances": a negative `line_proximity[i]` becomes NaN, otherwise the merge -/
theorem finalLoop_exec (h : InLine c emb s0 sE n st m al) (k : String) (fuel : Nat) :
    let r := exec fuel (finalLoop (D k)) st
    r.ctl = .run ∧ MLFrame (D k) ["output_img", "line_proximity"] st r ∧ (r.fa "output_img").length = c.H * c.W ∧
    (r.fa "line_proximity").length = c.W ∧ OutRow c s0 r n (mergeNr al m.nr) ∧
    (∀ p, p < c.W → lpFin emb ((r.fa "line_proximity").getD p Fl.nan) (m.lp.getD p none)) ∧
    (∀ j, (j < n * c.W ∨ n * c.W + c.W ≤ j) → (r.fa "output_img").getD j Fl.nan = (st.fa "output_img").getD j Fl.nan) := by
  unfold finalLoop
  have s := h.stat
  obtain ⟨hc, f, mg, ll, hq, _⟩ := forRange_up "i" (.var "width") (finalLoopBody (D k)) st fuel c.W s.run rfl
    (by simp [IE.eval, s.width])
    (fun j r => MLFrame (D k) ["output_img", "line_proximity"] st r ∧ Merged c s0 st al m.nr n j r ∧
      (r.fa "line_proximity").length = c.W ∧
      (∀ q, q < j → (r.fa "line_proximity").getD q Fl.nan =
        if Fl.lt ((st.fa "line_proximity").getD q Fl.nan) (Fl.lit 0 1) = true then Fl.nan
        else (st.fa "line_proximity").getD q Fl.nan) ∧
      (∀ q, j ≤ q → (r.fa "line_proximity").getD q Fl.nan = (st.fa "line_proximity").getD q Fl.nan))
    ⟨MLFrame.refl _ _ st, Merged.zero h, h.rel.len_lp, fun q hq => absurd hq (Nat.not_lt_zero q), fun _ _ => rfl⟩
    (by
      intro j hj u hu ⟨fr, mg, ll0, hq, hl⟩
      have lpj := hl j (Nat.le_refl _)
      have shlp : u.shp "line_proximity" = [c.W] := (congrFun fr.shp _).trans h.slp
      have hok : (BE.cmpF CmpOp.lt (FE.ld1 "line_proximity" (IE.var "i")) (FE.ofInt (IE.lit 0))).ok
          { u with ienv := setS u.ienv "i" (j : Int) } = true := by
        simp [il, shlp, inRange_of_lt _ _ hj]
      rw [finalLoopBody, exec_ite _ _ _ _ _ hok]
      simp only [BE.eval, FE.eval, IE.eval, CmpOp.eval, shlp, setS_same, off1_nat, lpj]
      cases hneg : Fl.lt ((st.fa "line_proximity").getD j Fl.nan) (Fl.lit 0 1) with
      | true =>
        simp only [if_true]
        have hnr : m.nr.getD j none = none := by
          cases hnj : m.nr.getD j none with
          | none => rfl
          | some t =>
            have := (h.rel.lp_nonneg hj (by rw [hnj]; simp)).1
            rw [hneg] at this; cases this
        have hx : exec fuel (.stF1 "line_proximity" (.var "i") .nan) { u with ienv := setS u.ienv "i" (j : Int) } =
            { u with ienv := setS u.ienv "i" (j : Int),
                      fa := setS u.fa "line_proximity" ((u.fa "line_proximity").set j Fl.nan) } := by
          simp [il, shlp, inRange_of_lt _ _ hj, off1_nat]
        rw [hx, afterBody_run _ (by exact hu)]
        have mj : Merged c s0 st al m.nr n (j + 1)
            { u with ienv := setS u.ienv "i" (j : Int),
                      fa := setS u.fa "line_proximity" ((u.fa "line_proximity").set j Fl.nan) } :=
          mg.skip h hj hnr (setS_other u.fa "line_proximity" "output_img" ((u.fa "line_proximity").set j Fl.nan) (by simp))
        refine ⟨hu, ⟨fr.shp, fr.ext, fun v hv => (setS_other _ _ _ _ hv).trans (fr.ienv v hv), fr.benv, fr.ia,
          fun a ha => (setS_other _ _ _ _ (fun e => ha (by simp [e]))).trans (fr.fa a ha), fr.fenv⟩,
          mj, by simp [setS, ll0], fun q hq' => ?_, fun q hq' => ?_⟩
        · simp only [setS_same]
          by_cases hqj : q = j
          · subst hqj; simp [getD_set, ll0, hj, hneg]
          · rw [getD_set_ne _ _ _ _ _ (by omega)]; exact hq q (by omega)
        · simp only [setS_same]
          rw [getD_set_ne _ _ _ _ _ (by omega)]; exact hl q (by omega)
      | false =>
        simp only [Bool.false_eq_true, if_false]
        obtain ⟨c2, f2, m2, a2⟩ := mergeStmt_in_loop ["output_img", "line_proximity"] (by simp) (by simp) fuel h hj
          hu fr mg u.fa (fun _ _ => rfl) rfl (fun hne => by rw [lpj]; exact (h.rel.lp_nonneg hj hne).2)
        rw [afterBody_run _ c2]
        have lp2 := a2 "line_proximity" (by simp)
        refine ⟨c2, f2, m2, by rw [lp2, ll0], fun q hq' => ?_, fun q hq' => by rw [lp2]; exact hl q (by omega)⟩
        rw [lp2]
        by_cases hqj : q = j
        · subst hqj; rw [lpj, hneg]; simp
        · exact hq q (by omega))
  refine ⟨hc, f, mg.1, ll, mg.outRow h, fun p hp => ?_, mg.2.2⟩
  rw [hq p hp]
  have h3 := h.rel.lp p hp
  cases hl : m.lp.getD p none with
  | none => rw [hl] at h3; simp [lpFin, show Fl.lt _ _ = true from h3]
  | some d => rw [hl] at h3; simp only [lpFin, h3.1, Bool.false_eq_true, if_false]; exact h3

/-- the last two loops of a bottom-up line: "final post processing", then the line goes back to `img_distance` -/
theorem InLine.buEnd (h : InLine c emb s0 sE n st m al) (k : String) (fuel : Nat) :
    LineDone c (lpFin emb) s0 sE n (exec fuel (.seq (finalLoop (D k)) storeDistance) st) m.pan
      { lp := m.lp, al := mergeNr al m.nr } := by
  have s := h.stat
  obtain ⟨c5, f5, l5o, l5l, v5, w5, o5⟩ := finalLoop_exec h k fuel
  rw [exec_seq_run _ _ _ _ c5]
  have fr5 : RowFrame st _ := f5.row (by intro a ha; simp at ha; rcases ha with e | e <;> simp [e])
  generalize exec fuel (finalLoop (D k)) st = st5 at c5 f5 l5o l5l v5 w5 o5 fr5
  obtain ⟨c6, f6, l6, v6, o6⟩ := storeDistance_exec st5 fuel c.H c.W n c5
    (by rw [fr5.ienv _ (by simp) (by simp)]; exact s.width) (by rw [fr5.ienv _ (by simp) (by simp)]; exact h.line)
    h.hn (by rw [fr5.shp]; exact h.slp) (by rw [fr5.shp]; exact s.dist) (by rw [f5.fa _ (by simp)]; exact s.ldist)
  have fr : RowFrame st _ := fr5.trans (f6.row (by intro a ha; simp at ha; simp [ha]))
  generalize exec fuel storeDistance st5 = r at c6 f6 l6 v6 o6 fr
  have ia6 : r.ia = st.ia := by funext a; rw [f6.ia a (by simp), f5.ia]
  exact ⟨s.of_agree c6 (fun a _ => congrFun fr.shp a) (fun v h1 h2 _ => fr.ienv v h1 h2) (fr.fenv _ (by simp))
      (fun a h1 h2 h3 _ => fr.fa a h1 h2 h3) fr.ext (by rw [ia6]; exact s.lpx) (by rw [ia6]; exact s.lpy)
      (by rw [ia6]; exact s.lnx) (by rw [ia6]; exact s.lny) (by rw [fr.fa _ (by simp) (by simp) (by simp)]; exact s.lscan)
      (by rw [f6.fa _ (by simp)]; exact l5o) l6,
    ⟨h.rel.mlen_pan, by rw [ia6]; exact h.rel.pan⟩, (congrFun fr.shp _).trans h.slp,
    by rw [f6.fa _ (by simp)]; exact l5l, h.rel.mlen_lp, fun p hp => by rw [v6 p hp]; exact w5 p hp,
    v5.congr (f6.fa _ (by simp)),
    fun j hj => ⟨by rw [f6.fa _ (by simp), o5 j hj]; exact (h.rest j hj).1,
      by rw [o6 j hj, f5.fa _ (by simp)]; exact (h.rest j hj).2⟩⟩

theorem buLine_done (inp : PNInput c emb tg s0) (s : PNStatic c s0 st) (hn : n < c.H) (hline : st.ienv "line" = n)
    (slp : st.shp "line_proximity" = [c.W]) (llp : (st.fa "line_proximity").length = c.W)
    {pan : List Tgt} (hpan : PanRel c st pan) {o : RowOut} (holp : o.lp.length = c.W)
    (hdist : ∀ p, p < c.W → lpRel emb ((st.fa "img_distance").getD (n * c.W + p) Fl.nan) (o.lp.getD p none))
    (hout : OutRow c s0 st n o.al) (fuel : Nat) :
    LineDone c (lpFin emb) s0 st n (exec fuel buLine st) (rowStep c tg false n pan o).1 (rowStep c tg false n pan o).2 := by
  obtain ⟨st3, e3, h3⟩ := buBegin s hn hline slp llp hpan holp hdist hout
    (callLine (NL "5") .ff (.seq (mergeLoop (D "6")) (.seq resetNearest (callLine (NL "7") .tt
      (.seq (finalLoop (D "8")) storeDistance))))) fuel
  obtain ⟨st4, e4, h4⟩ := h3.twoSweeps inp "5" "7" "6" .ff .tt false (Or.inr ⟨rfl, rfl, rfl⟩)
    (.seq (finalLoop (D "8")) storeDistance) fuel
  rw [buLine, e3, e4]
  exact h4.buEnd "8" fuel

end bu

end XrsVerif.IL.Px
