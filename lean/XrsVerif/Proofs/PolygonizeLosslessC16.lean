import XrsVerif.Proofs.PolygonizeRegions
/-
  C15, losslessness: polygonize's labelling and the C16 labelling (`Regions.regions`) induce the same partition of the
  unmasked pixels (`comp_iff_region`): `ConnP` (chains of W/S/SW/SE links on flat indices) and `Regions.Connected`
  (chains of `Adj` steps on (row, column) cells) are the same closure.  `losslessB` says "same connected region"
  through the C16 labelling.
-/
namespace XrsVerif.Polygonize
open XrsVerif.Regions (Cell Adj Step Connected gridCells mem_gridCells)

section bridge
variable {V : Type} (nx ny : Nat) (conn8 : Bool) (close : V → V → Bool) (values : Nat → V) (mask : Nat → Bool)

/-- the raster as C16 sees it: cell `(row, column)`, masked-out = NaN -/
def gdata : Cell → Option V :=
  fun c => if mask (c.2 + c.1 * nx) then some (values (c.2 + c.1 * nx)) else none

theorem earlier_of_adj_of_lt {n8 : Bool} {p q : Cell} (h : Adj n8 p q)
    (hlt : q.1 < p.1 ∨ (q.1 = p.1 ∧ q.2 < p.2)) : Earlier n8 p q := by
  obtain ⟨y, x⟩ := p
  obtain ⟨y', x'⟩ := q
  unfold Adj at h
  unfold Earlier
  rcases hlt with hlt | ⟨rfl, hlt⟩ <;> cases n8 <;> simp at h hlt ⊢ <;> omega

theorem adj_earlier {n8 : Bool} {p q : Cell} (h : Adj n8 p q) : Earlier n8 p q ∨ Earlier n8 q p := by
  have hne : p ≠ q := fun e => by
    subst e
    cases n8 <;> simp [Adj] at h
  rcases Nat.lt_trichotomy q.1 p.1 with hr | hr | hr
  · exact .inl (earlier_of_adj_of_lt h (.inl hr))
  · rcases Nat.lt_trichotomy q.2 p.2 with hc | hc | hc
    · exact .inl (earlier_of_adj_of_lt h (.inr ⟨hr, hc⟩))
    · exact absurd (Prod.ext hr hc).symm hne
    · exact .inr (earlier_of_adj_of_lt h.symm (.inr ⟨hr.symm, hc⟩))
  · exact .inr (earlier_of_adj_of_lt h.symm (.inl hr))

theorem earlier_adj {n8 : Bool} {p q : Cell} (h : Earlier n8 p q) : Adj n8 p q := by
  obtain ⟨y, x⟩ := p
  obtain ⟨y', x'⟩ := q
  unfold Adj
  unfold Earlier at h
  cases n8 <;> simp at h ⊢ <;> omega

theorem gdata_some {c : Cell} {v : V} (h : gdata nx values mask c = some v) :
    mask (c.2 + c.1 * nx) = true ∧ v = values (c.2 + c.1 * nx) := by
  unfold gdata at h
  split at h
  · rename_i hm; exact ⟨hm, (Option.some.inj h).symm⟩
  · cases h

theorem connected_connP (hsymm : ∀ a b, close a b = true → close b a = true) {p q : Cell}
    (h : Connected ny nx conn8 close (gdata nx values mask) p q) :
    ConnP nx conn8 close values mask (nx * ny) (p.2 + p.1 * nx) (q.2 + q.1 * nx) := by
  induction h with
  | refl p _ => exact Cl.refl _
  | symm _ ih => exact Cl.symm ih
  | trans _ _ ih1 ih2 => exact Cl.trans ih1 ih2
  | step hs =>
    rename_i p q
    obtain ⟨hp, hq, hadj, v, w, hv, hw, hm⟩ := hs
    obtain ⟨hmp, rfl⟩ := gdata_some nx values mask hv
    obtain ⟨hmq, rfl⟩ := gdata_some nx values mask hw
    obtain ⟨hp1, hp2⟩ := mem_gridCells.mp hp
    obtain ⟨hq1, hq2⟩ := mem_gridCells.mp hq
    rcases adj_earlier hadj with he | he
    · exact Cl.base ⟨pix_lt hp2 hp1, (back_iff_earlier nx conn8 hp2 hq2).mpr he, hmp, hmq, hm⟩
    · exact Cl.symm (Cl.base ⟨pix_lt hq2 hq1, (back_iff_earlier nx conn8 hq2 hp2).mpr he, hmq, hmp, hsymm _ _ hm⟩)

theorem connP_connected (hnx : 0 < nx) {u v : Nat}
    (h : ConnP nx conn8 close values mask (nx * ny) u v) :
    (u < nx * ny → Connected ny nx conn8 close (gdata nx values mask) (u / nx, u % nx) (v / nx, v % nx)) ∧
    (u < nx * ny ↔ v < nx * ny) := by
  have hcell : ∀ w, w < nx * ny → ((w / nx, w % nx) : Cell) ∈ gridCells ny nx := by
    intro w hw; rw [mem_gridCells]; exact ⟨Nat.div_lt_of_lt_mul hw, Nat.mod_lt w hnx⟩
  induction h with
  | refl u => exact ⟨fun hu => Connected.refl _ (hcell u hu), Iff.rfl⟩
  | symm _ ih => exact ⟨fun hv => Connected.symm (ih.1 (ih.2.mpr hv)), ih.2.symm⟩
  | trans _ _ ih1 ih2 =>
    exact ⟨fun hu => Connected.trans (ih1.1 hu) (ih2.1 (ih1.2.mp hu)), ih1.2.trans ih2.2⟩
  | base e =>
    rename_i u v
    obtain ⟨hu, hb, hmu, hmv, hcl⟩ := e
    have hv : v < nx * ny := Nat.lt_trans (back_lt nx conn8 hnx hb) hu
    refine ⟨fun _ => Connected.step ⟨hcell u hu, hcell v hv, earlier_adj (back_earlier nx conn8 hnx hb),
      values u, values v, ?_, ?_, hcl⟩, ⟨fun _ => hv, fun _ => hu⟩⟩
    · simp only [gdata, Nat.mod_add_div', hmu, if_true]
    · simp only [gdata, Nat.mod_add_div', hmv, if_true]

theorem comp_iff_region (hnx : 0 < nx)
    (hsymm : ∀ a b, close a b = true → close b a = true)
    (htrans : ∀ a b c, close a b = true → close b c = true → close a c = true)
    {X Y X' Y' : Nat} (hX : X < nx) (hY : Y < ny) (hX' : X' < nx) (hY' : Y' < ny)
    (hm : mask (X + Y * nx) = true) (hm' : mask (X' + Y' * nx) = true) :
    Regions.regions ny nx conn8 close (gdata nx values mask) (Y, X) =
        Regions.regions ny nx conn8 close (gdata nx values mask) (Y', X') ↔
      regionId nx ny conn8 close values mask (X + Y * nx) =
        regionId nx ny conn8 close values mask (X' + Y' * nx) := by
  have hsym : ∀ a b, close a b = close b a := fun a b => Bool.eq_iff_iff.mpr ⟨hsymm a b, hsymm b a⟩
  have hp : ((Y, X) : Cell) ∈ gridCells ny nx := mem_gridCells.mpr ⟨hY, hX⟩
  have hidx := pix_lt hX hY
  have hidx' := pix_lt hX' hY'
  rw [Regions.regions_iff_connected hsym hp (by simp [gdata, hm]),
    (regionId_spec conn8 values mask hnx hsymm htrans hidx hidx').2.2 hm hm']
  constructor
  · intro h; exact connected_connP nx ny conn8 close values mask hsymm h
  · intro h
    have := (connP_connected nx ny conn8 close values mask hnx h).1 hidx
    rw [(xy_of X Y hX).1, (xy_of X Y hX).2, (xy_of X' Y' hX').1, (xy_of X' Y' hX').2] at this
    exact this

end bridge

end XrsVerif.Polygonize
