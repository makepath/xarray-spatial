import XrsVerif.Proofs.AStarInv
import Mathlib.Data.Rat.Floor
import Mathlib.Tactic.Ring
import Mathlib.Tactic.Linarith
import Mathlib.Tactic.FieldSimp
/-
  Coordinates -> cells (`pixelId`, over `Rat`) and snapping (`findNearest`).
-/
namespace XrsVerif.AStar

theorem absR_eq_abs (q : ℚ) : absR q = |q| := by
  unfold absR
  split
  · rename_i h; rw [abs_of_neg h]
  · rename_i h; rw [abs_of_nonneg (not_lt.mp h)]

theorem pixelId_eq_floor (c0 cs p : ℚ) : pixelId c0 cs p = ⌊|p - c0| / cs + 1 / 2⌋ := by
  unfold pixelId; rw [absR_eq_abs]; rfl

/-- the index is the integer nearest to `|p - c0| / cellsize` (ties upward) -/
theorem pixelId_bounds (c0 cs p : ℚ) :
    (pixelId c0 cs p : ℚ) - 1 / 2 ≤ |p - c0| / cs ∧ |p - c0| / cs < (pixelId c0 cs p : ℚ) + 1 / 2 := by
  rw [pixelId_eq_floor]
  have h1 := Int.floor_le (|p - c0| / cs + 1 / 2)
  have h2 := Int.lt_floor_add_one (|p - c0| / cs + 1 / 2)
  constructor <;> linarith

/-- e.g. 0.9 on a unit grid is cell 1, and x = 2.3 on the grid 2.0, 2.1, ... is cell 3 -/
example : pixelId 0 1 (9 / 10) = 1 := by decide +kernel
example : pixelId 2 (1 / 10) (23 / 10) = 3 := by decide +kernel

theorem sqDist_self (a : Cell) : sqDist a a = 0 := by simp [sqDist]

/-- the scan of `_find_nearest_pixel` -/
theorem nearFold_spec (cross : Cell → Bool) (p : Cell) (l : List Cell) :
    (l.foldl (nearStep cross p) none = none ∧ ∀ x ∈ l, cross x = false) ∨
    ∃ c, l.foldl (nearStep cross p) none = some (c, sqDist c p) ∧ c ∈ l ∧ cross c = true ∧
      ∀ x ∈ l, cross x = true → sqDist c p ≤ sqDist x p := by
  rcases foldl_pickOpt_spec (fun b y : Cell × Int => y.2 < b.2) (fun y r => r.2 ≤ y.2)
      (fun _ => le_refl _) (fun h h' => le_trans h' h) le_of_lt not_lt.mp
      cross (fun c => (c, sqDist c p)) (nearStep cross p) (fun _ => rfl)
      (fun ⟨c0, m⟩ x => by
        by_cases hk : cross x = true
        · simp only [nearStep, hk, if_true]; exact (apply_ite some _ _ _).symm
        · simp only [nearStep, hk]; rfl) l with h | ⟨r, h, ⟨c, hc, hk, rfl⟩, hle⟩
  · exact Or.inl h
  · exact Or.inr ⟨c, h, hc, hk, hle⟩

/-- snapping: a crossable cell at minimum distance when one exists (the cell itself when it is
    crossable), `none` only when nothing is crossable -/
theorem findNearest_spec (h w : Nat) (cross : Cell → Bool) (p : Cell) :
    (cross p = true → findNearest h w cross p = some p) ∧
    (∀ c, findNearest h w cross p = some c →
      cross c = true ∧ (inside h w p = true → inside h w c = true) ∧
      ∀ c', inside h w c' = true → cross c' = true → sqDist c p ≤ sqDist c' p) ∧
    (findNearest h w cross p = none → ∀ c', inside h w c' = true → cross c' = false) := by
  unfold findNearest
  by_cases hp : cross p = true
  · simp only [hp, if_true]
    refine ⟨fun _ => trivial, ?_, fun h => by simp at h⟩
    intro c hc
    simp at hc; subst hc
    exact ⟨hp, id, fun c' _ _ => by rw [sqDist_self]; exact sqDist_nonneg _ _⟩
  · simp only [hp, Bool.false_eq_true, if_false]
    rcases nearFold_spec cross p (cells h w) with ⟨hn, hall⟩ | ⟨c1, hs, hmem, hcr, hmin⟩
    · rw [hn]
      exact ⟨fun h => h.elim, fun c hc => (by cases hc), fun _ c' hin => hall c' (mem_cells.mpr hin)⟩
    · rw [hs]
      refine ⟨fun h => h.elim, fun c hc => ?_, fun hnone => by cases hnone⟩
      cases hc
      exact ⟨hcr, fun _ => mem_cells.mp hmem, fun c' hin hcr' => hmin c' (mem_cells.mpr hin) hcr'⟩

end XrsVerif.AStar
