import XrsVerif.Proofs.ILViewshedFixRot
import XrsVerif.Proofs.ILViewshedInsProg
/-
  `_rb_insert_fixup` as it is inlined in `Gen.IL.vsInsert` (`insFixup` of Proofs/ILViewshedInsProg.lean), block by
  block.

  * the cut: `insFixup'` is `insFixup` written with the four inlined rotations as `rotCallD d …` (renamed copies of
    the stand-alone programs) and the two mirror-image branches as `insCase .L` / `insCase .R`; `insFixup_eq` checks
    that by `decide` against the generated program;
  * the blocks of one loop iteration at a position of the whole tree, each a `Move` by steps of the model (`atPath`):
    `recol_move d` (red uncle), `in_move d` (inner child), `out_move d` (outer child).
-/
namespace XrsVerif.ILVs
open XrsVerif XrsVerif.IL XrsVerif.Viewshed
variable {F : Type} [Fl F]

/-- red uncle: recolour, `z` moves two levels up -/
def recolBlock : St :=
  (.seq (.stI2 "tree_nodes" (.var "_rb_insert_fixup6$z_parent") (.lit 0) (.lit 1))
  (.seq (.stI2 "tree_nodes" (.var "_rb_insert_fixup6$y") (.lit 0) (.lit 1))
  (.seq (.stI2 "tree_nodes" (.var "_rb_insert_fixup6$z_parent_parent") (.lit 0) (.lit 0))
  (.setI "_rb_insert_fixup6$z" (.var "_rb_insert_fixup6$z_parent_parent")))))

/-- "case 3": parent black, grandparent red, rotation at the grandparent -/
def case3 (rotOut : St) : St :=
  (.seq (.setI "_rb_insert_fixup6$z_parent" (.ld2 "tree_nodes" (.var "_rb_insert_fixup6$z") (.lit 3)))
  (.seq (.setI "_rb_insert_fixup6$z_parent_parent" (.ld2 "tree_nodes" (.var "_rb_insert_fixup6$z_parent") (.lit 3)))
  (.seq (.stI2 "tree_nodes" (.var "_rb_insert_fixup6$z_parent") (.lit 0) (.lit 1))
  (.seq (.stI2 "tree_nodes" (.var "_rb_insert_fixup6$z_parent_parent") (.lit 0) (.lit 0))
  rotOut))))

/-- "case 2": `z = z.parent`, rotation at it -/
def case2 (rotIn : St) : St := (.seq (.setI "_rb_insert_fixup6$z" (.var "_rb_insert_fixup6$z_parent")) rotIn)

def insFixCase (sideUncle sideInner : Int) (rotIn rotOut : St) : St :=
  (.seq (.setI "_rb_insert_fixup6$y" (.ld2 "tree_nodes" (.var "_rb_insert_fixup6$z_parent_parent") (.lit sideUncle)))
  (.ite (.cmpI .eq (.ld2 "tree_nodes" (.var "_rb_insert_fixup6$y") (.lit 0)) (.lit 0))
    recolBlock
    (.seq (.ite (.cmpI .eq (.var "_rb_insert_fixup6$z") (.ld2 "tree_nodes" (.var "_rb_insert_fixup6$z_parent") (.lit sideInner)))
        (case2 rotIn)
        .skip)
    (case3 rotOut))))

/-- the renamings of the two inlined rotations of the branch in which `z.parent` is the `d`-side child of the
    grandparent -/
def renIn (d : Dir) : String → String :=
  pickD d (rotRen "_rb_insert_fixup6$_left_rotate7$" "8" "9") (rotRen "_rb_insert_fixup6$_right_rotate13$" "14" "15")

def renOut (d : Dir) : String → String :=
  pickD d (rotRen "_rb_insert_fixup6$_right_rotate10$" "11" "12") (rotRen "_rb_insert_fixup6$_left_rotate16$" "17" "18")

/-- "case 2" rotates at `z.parent` towards `d`, "case 3" at the grandparent towards the other side -/
def rotIn (d : Dir) : St := rotCallD d (renIn d) "_rb_insert_fixup6$root" "_rb_insert_fixup6$z"

def rotOut (d : Dir) : St := rotCallD d.flip (renOut d) "_rb_insert_fixup6$root" "_rb_insert_fixup6$z_parent_parent"

/-- the branch of an iteration in which `z.parent` is the `d`-side child of the grandparent: the uncle, and an inner
    child `z`, are on the other side -/
def insCase (d : Dir) : St := insFixCase d.flip.col d.flip.col (rotIn d) (rotOut d)

def insFixPre : St :=
  (.seq (.setI "_rb_insert_fixup6$z_parent_parent" (.ld2 "tree_nodes" (.var "_rb_insert_fixup6$z_parent") (.lit 3)))
  (.seq (.setI "_rb_insert_fixup6$n1" (.ld2 "tree_nodes" (.var "_rb_insert_fixup6$z") (.lit 3)))
  (.setI "_rb_insert_fixup6$n2" (.ld2 "tree_nodes" (.var "_rb_insert_fixup6$z_parent_parent") (.lit 1)))))

def insFixTail : St := (.setI "_rb_insert_fixup6$z_parent" (.ld2 "tree_nodes" (.var "_rb_insert_fixup6$z") (.lit 3)))

def insFixBody : St :=
  (.seq (.setI "_rb_insert_fixup6$z_parent_parent" (.ld2 "tree_nodes" (.var "_rb_insert_fixup6$z_parent") (.lit 3)))
  (.seq (.setI "_rb_insert_fixup6$n1" (.ld2 "tree_nodes" (.var "_rb_insert_fixup6$z") (.lit 3)))
  (.seq (.setI "_rb_insert_fixup6$n2" (.ld2 "tree_nodes" (.var "_rb_insert_fixup6$z_parent_parent") (.lit 1)))
  (.seq (.ite (.cmpI .eq (.var "_rb_insert_fixup6$n1") (.var "_rb_insert_fixup6$n2"))
      (insCase .L)
      (insCase .R))
  insFixTail))))

def insFixLoop : St :=
  .while (.cmpI .eq (.ld2 "tree_nodes" (.var "_rb_insert_fixup6$z_parent") (.lit 0)) (.lit 0)) insFixBody

def insFixEnd : St :=
  (.seq (.stI2 "tree_nodes" (.var "_rb_insert_fixup6$root") (.lit 0) (.lit 1))
  (.seq (.setI "_rb_insert_fixup6$ret0" (.var "_rb_insert_fixup6$root")) .ret))

def insFixup' : St :=
  (.seq (.setI "_rb_insert_fixup6$root" (.var "root"))
  (.seq (.setI "_rb_insert_fixup6$z" (.var "inserted"))
  (.seq (.scope (.seq (.setI "_rb_insert_fixup6$z_parent" (.ld2 "tree_nodes" (.var "_rb_insert_fixup6$z") (.lit 3)))
      (.seq insFixLoop insFixEnd)))
  (.seq (.setI "root" (.var "_rb_insert_fixup6$ret0")) (.seq (.setI "ret0" (.var "root")) .ret)))))

/-- the inlined `_rb_insert_fixup` of the generated program is the loop over the four renamed rotation bodies -/
theorem insFixup_eq : insFixup = insFixup' := by decide +kernel

/-- red uncle: `z.parent` (row `pi`) is the `d`-side child of the grandparent `g`, the uncle (row `ui`) the other
    child: both black, `g` red, `z` moves to `g` -/
theorem recol_move (d : Dir) (fuel n : Nat) (s : State F) (pl : Sh) (pi : Nat) (pr : Sh) (g : Nat) (ul : Sh) (ui : Nat)
    (ur : Sh) (rest : Ctx)
    (h : TreeAt "_rb_insert_fixup6$root" s n (plug (.nodeD d (.node pl pi pr) g (.node ul ui ur)) rest))
    (hzp : s.ienv "_rb_insert_fixup6$z_parent" = pi) (hy : s.ienv "_rb_insert_fixup6$y" = ui)
    (hzpp : s.ienv "_rb_insert_fixup6$z_parent_parent" = g) :
    let r := exec fuel recolBlock s
    Move "_rb_insert_fixup6$root" n (fun T => atPath (setCol true) (pathOf rest) (atPath (setCol false) (pathOf rest ++ [d.flip])
        (atPath (setCol false) (pathOf rest ++ [d]) T))) s r
      (plug (.nodeD d (.node pl pi pr) g (.node ul ui ur)) rest) (plug (.nodeD d (.node pl pi pr) g (.node ul ui ur)) rest) ∧
    r.ienv "_rb_insert_fixup6$z" = g := by
  intro r
  obtain ⟨m1, e1, _, _⟩ := stColE_move fuel n s "_rb_insert_fixup6$z_parent" (.lit 1) 1 false (IE.ok_lit _ _) (IE.eval_lit _ _)
    (by decide) colV_one h (Fr.mkD d g (.node ul ui ur) :: rest) pl pi pr (plug_mkD ..).symm (pathOf_mkD ..) hzp
  generalize hs1 : exec fuel (.stI2 "tree_nodes" (.var "_rb_insert_fixup6$z_parent") (.lit 0) (.lit 1)) s = s1 at m1 e1
  obtain ⟨m2, e2, _, _⟩ := stColE_move fuel n s1 "_rb_insert_fixup6$y" (.lit 1) 1 false (IE.ok_lit _ _) (IE.eval_lit _ _)
    (by decide) colV_one m1.holds (Fr.mkD d.flip g (.node pl pi pr) :: rest) ul ui ur (by rw [plug_mkD, Sh.nodeD_flip])
    (pathOf_mkD ..) ((congrFun e1 _).trans hy)
  generalize hs2 : exec fuel (.stI2 "tree_nodes" (.var "_rb_insert_fixup6$y") (.lit 0) (.lit 1)) s1 = s2 at m2 e2
  obtain ⟨m3, e3, _, _⟩ := stColE_move fuel n s2 "_rb_insert_fixup6$z_parent_parent" (.lit 0) 0 true (IE.ok_lit _ _)
    (IE.eval_lit _ _) (by decide) colV_zero m2.holds rest _ g _ rfl rfl ((congrFun (e2.trans e1) _).trans hzpp)
  generalize hs3 : exec fuel (.stI2 "tree_nodes" (.var "_rb_insert_fixup6$z_parent_parent") (.lit 0) (.lit 0)) s2 = s3 at m3 e3
  obtain ⟨s4, h4, m4, _, a4⟩ := ((m1.trans m2).trans m3).exec_setI fuel "_rb_insert_fixup6$z"
    (.var "_rb_insert_fixup6$z_parent_parent") (IE.ok_var _ _) (by simp)
  rw [show r = s4 from (exec_seq_eq _ _ _ _ _ hs1 m1.holds.run).trans ((exec_seq_eq _ _ _ _ _ hs2 m2.holds.run).trans
    ((exec_seq_eq _ _ _ _ _ hs3 m3.holds.run).trans h4))]
  exact ⟨m4, by rw [a4, setS_same, IE.eval_var, e3, e2, e1]; exact hzpp⟩

theorem renIn_inj (d : Dir) : Inj (renIn d) := by cases d <;> exact rotRen_inj _ _ _

theorem renOut_inj (d : Dir) : Inj (renOut d) := by cases d <;> exact rotRen_inj _ _ _

theorem rot_names (d : Dir) :
    "_rb_insert_fixup6$z" ∉ wI (rotIn d) ∧ "_rb_insert_fixup6$z" ∉ wI (rotOut d) ∧
      "_rb_insert_fixup6$z" ≠ renIn d "root" ∧ "_rb_insert_fixup6$z_parent_parent" ≠ renOut d "root" := by
  cases d <;> decide

/-- outer child ("case 3"): `z` and `z.parent` are both `d`-side children; the parent `q` becomes black, the
    grandparent `g` red, and the rotation at `g` away from `d` puts `q` above it -/
theorem out_move (d : Dir) (fuel n : Nat) (s : State F) (cl : Sh) (c : Nat) (cr : Sh) (q : Nat) (qs : Sh) (g : Nat) (u : Sh)
    (rest : Ctx)
    (h : TreeAt "_rb_insert_fixup6$root" s n (plug (.node cl c cr) (Fr.mkD d q qs :: Fr.mkD d g u :: rest)))
    (hz : s.ienv "_rb_insert_fixup6$z" = c) :
    let r := exec fuel (case3 (rotOut d)) s
    Move "_rb_insert_fixup6$root" n (fun T => atPath (rotD (vAt (s.fa "tree_vals") (n - 1) 7) d.flip) (pathOf rest)
        (atPath (setCol true) (pathOf rest) (atPath (setCol false) (pathOf rest ++ [d]) T))) s r
      (plug (.node cl c cr) (Fr.mkD d q qs :: Fr.mkD d g u :: rest))
      (plug (.node cl c cr) (Fr.mkD d q (.nodeD d qs g u) :: rest)) ∧
    r.ienv "_rb_insert_fixup6$z" = c ∧ nAt (r.ia "tree_nodes") q 0 = 1 := by
  intro r
  have eW : plug (.node cl c cr) (Fr.mkD d q qs :: Fr.mkD d g u :: rest) =
      plug (.nodeD d (.nodeD d (.node cl c cr) q qs) g u) rest := by rw [plug_mkD, plug_mkD]
  have hlc := h.pos.sub
  have hc3 : nAt (s.ia "tree_nodes") c 3 = q := by have := hlc.2.2.2.1; rwa [ctxPar_cons, Fr.idx_mkD] at this
  obtain ⟨hqn, hq3, _⟩ := h.pos.ctx.step
  rw [Fr.idx_mkD] at hqn hq3
  rw [ctxPar_cons, Fr.idx_mkD] at hq3
  have hqg : q ≠ g := by
    have := h.pos.frames_nodup
    simp only [List.map_cons, Fr.idx_mkD, List.nodup_cons, List.mem_cons, not_or] at this
    exact this.1.1
  obtain ⟨s1, h1, m1, i1, a1⟩ := (Move.refl h).exec_ld fuel "_rb_insert_fixup6$z_parent" "_rb_insert_fixup6$z" 3 (by decide)
    c hlc.1 hz (by simp)
  obtain ⟨s2, h2, m2, i2, a2⟩ := m1.exec_ld fuel "_rb_insert_fixup6$z_parent_parent" "_rb_insert_fixup6$z_parent" 3 (by decide)
    q hqn (by rw [a1, setS_same]; exact hc3) (by simp)
  have ezp : s2.ienv "_rb_insert_fixup6$z_parent" = q := by simp [a2, a1, setS, hc3]
  have ezpp : s2.ienv "_rb_insert_fixup6$z_parent_parent" = g := by simp [a2, i1, hq3]
  have ez : s2.ienv "_rb_insert_fixup6$z" = c := by simp [a2, a1, setS, hz]
  obtain ⟨m3, e3, _, c3⟩ := stColE_move fuel n s2 "_rb_insert_fixup6$z_parent" (.lit 1) 1 false (IE.ok_lit _ _) (IE.eval_lit _ _)
    (by decide) colV_one m2.holds (Fr.mkD d g u :: rest) _ q _ (plug_mkD d _ q qs _) (pathOf_mkD ..) ezp
  generalize hs3 : exec fuel (.stI2 "tree_nodes" (.var "_rb_insert_fixup6$z_parent") (.lit 0) (.lit 1)) s2 = s3 at m3 e3 c3
  obtain ⟨m4, e4, o4, _⟩ := stColE_move fuel n s3 "_rb_insert_fixup6$z_parent_parent" (.lit 0) 0 true (IE.ok_lit _ _)
    (IE.eval_lit _ _) (by decide) colV_zero m3.holds rest _ g _ eW rfl ((congrFun e3 _).trans ezpp)
  generalize hs4 : exec fuel (.stI2 "tree_nodes" (.var "_rb_insert_fixup6$z_parent_parent") (.lit 0) (.lit 0)) s3 = s4 at m4 e4 o4
  have m14 := (m2.trans m3).trans m4
  -- the rotation at the grandparent names its sides from `d.flip`
  obtain ⟨m5, k5, c5⟩ := rotCall_move d.flip (renOut d) (renOut_inj d) "_rb_insert_fixup6$z_parent_parent" (rot_names d).2.2.2
    fuel n s4 _ m14.nilMax (sh' := plug (.node cl c cr) (Fr.mkD d q (.nodeD d qs g u) :: rest)) m4.holds rest u g qs q
    (.node cl c cr) (by rw [eW, Sh.nodeD_flip, Sh.nodeD_flip]) (by rw [plug_mkD, Sh.nodeD_flip, Sh.nodeD_flip]) rfl
    ((congrFun (e4.trans e3) _).trans ezpp)
  rw [show r = exec fuel (rotOut d) s4 from (exec_seq_eq _ _ _ _ _ h1 m1.holds.run).trans
    ((exec_seq_eq _ _ _ _ _ h2 m2.holds.run).trans ((exec_seq_eq _ _ _ _ _ hs3 m3.holds.run).trans
      (exec_seq_eq _ _ _ _ _ hs4 m4.holds.run)))]
  exact ⟨m14.trans m5, (k5 _ (rot_names d).2.1).trans ((congrFun (e4.trans e3) _).trans ez), (c5 q).trans ((o4 q hqg).trans c3)⟩

/-- inner child ("case 2"): `z` is on the other side of its parent than the parent is of the grandparent; `z` moves to
    its parent `p`, and the rotation at `p` towards `d` puts the old `z` above it -/
theorem in_move (d : Dir) (fuel n : Nat) (s : State F) (zm : Sh) (z : Nat) (ze : Sh) (p : Nat) (ps : Sh) (g : Nat) (u : Sh)
    (rest : Ctx)
    (h : TreeAt "_rb_insert_fixup6$root" s n (plug (.nodeD d zm z ze) (Fr.mkD d.flip p ps :: Fr.mkD d g u :: rest)))
    (hzp : s.ienv "_rb_insert_fixup6$z_parent" = p) :
    let r := exec fuel (case2 (rotIn d)) s
    Move "_rb_insert_fixup6$root" n (atPath (rotD (vAt (s.fa "tree_vals") (n - 1) 7) d) (pathOf rest ++ [d])) s r
      (plug (.nodeD d zm z ze) (Fr.mkD d.flip p ps :: Fr.mkD d g u :: rest))
      (plug (.nodeD d ps p zm) (Fr.mkD d z ze :: Fr.mkD d g u :: rest)) ∧
    r.ienv "_rb_insert_fixup6$z" = p ∧ (∀ i, nAt (r.ia "tree_nodes") i 0 = nAt (s.ia "tree_nodes") i 0) := by
  intro r
  obtain ⟨s1, h1, m1, i1, a1⟩ := (Move.refl h).exec_setI fuel "_rb_insert_fixup6$z" (.var "_rb_insert_fixup6$z_parent")
    (IE.ok_var _ _) (by simp)
  have ez : s1.ienv "_rb_insert_fixup6$z" = p := by rw [a1, setS_same, IE.eval_var]; exact hzp
  obtain ⟨m2, k2, c2⟩ := rotCall_move d (renIn d) (renIn_inj d) "_rb_insert_fixup6$z" (rot_names d).2.2.1 fuel n s1 _ m1.nilMax
    m1.holds (Fr.mkD d g u :: rest) ps p zm z ze (by rw [plug_mkD, Sh.nodeD_flip]) (plug_mkD ..) (pathOf_mkD ..) ez
  rw [show r = exec fuel (rotIn d) s1 from exec_seq_eq _ _ _ _ _ h1 m1.holds.run]
  exact ⟨m1.trans m2, (k2 _ (rot_names d).1).trans ez, fun i => (c2 i).trans (by rw [i1])⟩

end XrsVerif.ILVs
