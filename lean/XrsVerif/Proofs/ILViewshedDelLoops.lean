import XrsVerif.Proofs.ILViewshedDelSplice
/-
  The four passes of `_delete_from_tree` over the ancestors of the spliced-out node, on the arrays: the loops L1 and L2
  are the passes `scanArr (l1Step …)` and `scanArr (l2Step …)` up a context (`delL1_spec`, `delL2_spec`).
  `zview s n sub ctx` is what the passes read of a state at a position (the NIL row's maximum, the abstraction of the
  subtree and of the ancestors); a block's effect is ONE equation on it (`delL1F1_spec`, `delCopyB_spec`).
-/
namespace XrsVerif.ILVs
open XrsVerif XrsVerif.IL XrsVerif.Viewshed Function
variable {F : Type} [Fl F]

/-- `_find_max_value(tree_vals[row])` inlined: `ret := tree_vals[row][7]` -/
theorem fmvScope_spec (fuel n : Nat) (s : State F) (hs : s.shp "tree_vals" = [n, 8]) (hrun : s.ctl = .run) (ret row : String)
    (hin : inRange (s.ienv row) n = true) :
    exec fuel (.scope (.seq (.setF ret (.ld2 "tree_vals" (.var row) (.lit 7))) .ret)) s =
      { s with fenv := setS s.fenv ret (mxAt (s.fa "tree_vals") n (s.ienv row)).v } := by
  rw [exec_scope, exec_seq, exec_setF _ _ _ _ (by rw [okV s n hs row 7 (by decide)]; exact hin), evalV s n hs row 7 (by decide)]
  simp [hrun, exec_ret, mxAt]

/-- the value the loops L1 / L2 store: `m = left if left > right else right; if minv > m: m = minv` -/
def loopMax (V : List F) (n : Nat) (P : Nat) (Lp Rp : Int) : Fv F :=
  mx2 (minv (nodeAt V P)) (mx2 (mxAt V n Lp) (mxAt V n Rp))

theorem loopMax_v (V : List F) (n : Nat) (P : Nat) (Lp Rp : Int) :
    (loopMax V n P Lp Rp).v =
      if Fl.lt (mx2 (mxAt V n Lp) (mxAt V n Rp)).v (minv (nodeAt V P)).v = true then (minv (nodeAt V P)).v
      else (mx2 (mxAt V n Lp) (mxAt V n Rp)).v := by
  unfold loopMax; rw [mx2_v]

theorem recompLoop_wI (p l r k1 k2 k3 : String) : ∀ v ∈ wI (recompLoop p l r k1 k2 k3),
    v ∈ ["_find_max_value" ++ k1 ++ "$row$tree_vals", "_find_max_value" ++ k2 ++ "$row$tree_vals",
      "_find_value_min_value" ++ k3 ++ "$node_id"] := fun _ h => h

/-- the temporaries of the inlined calls must not hide `p` and `r` -/
theorem recompLoop_spec (p l r k1 k2 k3 : String) (fuel n : Nat) (s : State F) (hv : VS s n) (hrun : s.ctl = .run)
    (P : Nat) (Lp Rp : Int) (hP : P + 1 < n) (hLp : PtrOK n Lp) (hRp : PtrOK n Rp)
    (ep : s.ienv p = P) (el : s.ienv l = Lp) (er : s.ienv r = Rp)
    (hr1 : r ≠ "_find_max_value" ++ k1 ++ "$row$tree_vals") (hp1 : p ≠ "_find_max_value" ++ k1 ++ "$row$tree_vals")
    (hp2 : p ≠ "_find_max_value" ++ k2 ++ "$row$tree_vals") (hp3 : p ≠ "_find_value_min_value" ++ k3 ++ "$node_id")
    (hl2 : "left" ≠ "_find_max_value" ++ k2 ++ "$ret0") :
    let V := s.fa "tree_vals"
    let q := exec fuel (recompLoop p l r k1 k2 k3) s
    q.ctl = .run ∧ q.fa "tree_vals" = V.set (P * 8 + 7) (loopMax V n P Lp Rp).v := by
  intro V q
  have hinP : inRange (P : Int) n = true := inRange_ptr n _ (by omega) hv.pos
  have hinL : inRange Lp n = true := inRange_ptr n _ hLp hv.pos
  have hinR : inRange Rp n = true := inRange_ptr n _ hRp hv.pos
  have hlen : P * 8 + 7 < (s.fa "tree_vals").length := by rw [hv.lenV]; omega
  have eV := fun (s' : State F) => evalV s' n
  have oV := fun (s' : State F) => okV s' n
  have sV := fun (s' : State F) => exec_stV fuel s' n
  have sM := fun (s' : State F) => stMax_spec fuel s' n
  have mS := fun (a b : String) (s' : State F) => minvScope_spec a b fuel n s'
  by_cases hlt : Fl.lt (mx2 (vAt (s.fa "tree_vals") (rowOf n Lp) 7) (vAt (s.fa "tree_vals") (rowOf n Rp) 7)).v
      (minv (nodeAt (s.fa "tree_vals") P)).v = true
  · -- `minv` is the larger: the second store overwrites the first (`List.set_set`)
    simp [q, V, recompLoop, exec, sV, sM, mS, eV, oV, hv.shpV, ep, el, er, hinP, hinL, hinR, IE.ok_var, IE.eval_var,
      FE.ok_var, FE.eval_var, BE.ok, BE.eval, CmpOp.eval, setS, hrun, vAt_set, hlen, nodeAt_set7, mxAt, loopMax_v, hlt,
      List.set_set, hr1, hp1, hp2, hp3, hl2]
  · simp [q, V, recompLoop, exec, sM, mS, eV, oV, hv.shpV, ep, el, er, hinP, hinL, hinR, IE.ok_var, IE.eval_var,
      FE.ok_var, FE.eval_var, BE.ok, BE.eval, CmpOp.eval, setS, hrun, vAt_set, hlen, nodeAt_set7, mxAt, loopMax_v, hlt,
      hr1, hp1, hp2, hp3, hl2]

theorem PtrOK.of_linked {N : List Int} {n : Nat} {par : Int} {sh : Sh} (h : Linked N n par sh) (hn : 0 < n) : PtrOK n sh.ptr :=
  h.ptrOK hn

theorem delL1Body_wI : ∀ v ∈ wI delL1Body, v ∈ ["cur_parent", "_find_value_min_value6$node_id", "cur_parent_left",
    "cur_parent_right", "_find_max_value7$row$tree_vals", "_find_max_value8$row$tree_vals",
    "_find_value_min_value9$node_id", "cur_node"] := by decide

theorem delL1Body_spec (fuel n : Nat) (s : State F) (hv : VS s n) (hrun : s.ctl = .run) (cr p y : Nat) (hcr : cr + 1 < n)
    (hp : p + 1 < n) (hyn : y + 1 < n) (ecur : s.ienv "cur_node" = cr) (ey : s.ienv "y" = y)
    (hpar : nAt (s.ia "tree_nodes") cr 3 = (p : Int))
    (hLp : PtrOK n (nAt (s.ia "tree_nodes") p 1)) (hRp : PtrOK n (nAt (s.ia "tree_nodes") p 2)) :
    let V := s.fa "tree_vals"
    let N := s.ia "tree_nodes"
    let r := exec fuel delL1Body s
    (feq (vAt V p 7) (minv (nodeAt V y)) = true →
        r.ctl = .run ∧ r.fa "tree_vals" = V.set (p * 8 + 7) (loopMax V n p (nAt N p 1) (nAt N p 2)).v ∧
          r.ienv "cur_node" = p) ∧
      (feq (vAt V p 7) (minv (nodeAt V y)) = false → r.ctl = .brk ∧ r.fa = s.fa) := by
  intro V N r
  have hincr : inRange (cr : Int) n = true := hv.inRange hcr
  have hinp : inRange (p : Int) n = true := hv.inRange hp
  have hiny : inRange (y : Int) n = true := hv.inRange hyn
  have eN := fun (s' : State F) => evalN s' n
  have oN := fun (s' : State F) => okN s' n
  have eV := fun (s' : State F) => evalV s' n
  have oV := fun (s' : State F) => okV s' n
  have mS := fun (a b : String) (s' : State F) => minvScope_spec a b fuel n s'
  cases hq : feq (vAt V p 7) (minv (nodeAt V y)) with
  | true =>
    refine ⟨fun _ => ?_, fun hne => absurd hne (by simp)⟩
    have hq' : Fl.eq (vAt (s.fa "tree_vals") p 7).v (minv (nodeAt (s.fa "tree_vals") y)).v = true := hq
    -- the state in which the recomputation starts
    obtain ⟨s1, hs1, h1⟩ : ∃ s1 : State F,
        s1 = { s with ienv := setS (setS (setS (setS s.ienv "cur_parent" (p : Int)) "_find_value_min_value6$node_id" (y : Int))
                        "cur_parent_left" (nAt (s.ia "tree_nodes") p 1)) "cur_parent_right" (nAt (s.ia "tree_nodes") p 2),
                      fenv := setS s.fenv "_find_value_min_value6$ret0" (minv (nodeAt (s.fa "tree_vals") y)).v } ∧
        r = exec fuel (.seq (recompLoop "cur_parent" "cur_parent_left" "cur_parent_right" "7" "8" "9")
          (.setI "cur_node" (.var "cur_parent"))) s1 :=
      ⟨_, rfl, by
        simp [r, delL1Body, exec, mS, eN, oN, eV, oV, hv.shpN, hv.shpV, ecur, ey, hincr, hinp, hiny, hpar, IE.ok_var,
          IE.eval_var, FE.ok_var, FE.eval_var, BE.ok, BE.eval, CmpOp.eval, setS, hrun, hq']⟩
    obtain ⟨c1, c2⟩ := recompLoop_spec "cur_parent" "cur_parent_left" "cur_parent_right" "7" "8" "9" fuel n s1
      (by rw [hs1]; exact hv.of_eq rfl rfl rfl) (by rw [hs1]; exact hrun) p _ _ hp hLp hRp
      (by rw [hs1]; simp [setS]) (by rw [hs1]; simp [setS]) (by rw [hs1]; simp [setS])
      (by decide) (by decide) (by decide) (by decide) (by decide)
    have hfr := exec_frame fuel (recompLoop "cur_parent" "cur_parent_left" "cur_parent_right" "7" "8" "9") s1
    rw [show s1.fa = s.fa by rw [hs1]] at c2
    rw [h1, exec_seq_run _ _ _ _ c1, exec_setI _ _ _ _ (IE.ok_var _ _), IE.eval_var,
      hfr.ienv_of (recompLoop_wI _ _ _ _ _ _) "cur_parent" (by simp)]
    exact ⟨c1, c2, by rw [hs1]; simp [setS]⟩
  | false =>
    refine ⟨fun he => absurd he (by simp), fun _ => ?_⟩
    have hq' : Fl.eq (vAt (s.fa "tree_vals") p 7).v (minv (nodeAt (s.fa "tree_vals") y)).v = false := hq
    have h1 : r = { s with ienv := setS (setS s.ienv "cur_parent" (p : Int)) "_find_value_min_value6$node_id" (y : Int),
                           fenv := setS s.fenv "_find_value_min_value6$ret0" (minv (nodeAt (s.fa "tree_vals") y)).v,
                           ctl := .brk } := by
      simp [r, delL1Body, exec, mS, eN, oN, eV, oV, hv.shpN, hv.shpV, ecur, ey, hincr, hinp, hiny, hpar, IE.ok_var, IE.eval_var,
        FE.ok_var, FE.eval_var, BE.ok, BE.eval, CmpOp.eval, setS, hrun, hq']
    rw [h1]
    exact ⟨rfl, rfl⟩

theorem recompL_absFr (V : List F) (N : List Int) (n : Nat) (c : Int) (fr : Fr) (rest : Ctx)
    (hc : CtxLinked N n c (fr :: rest)) :
    (absFr V N fr).recompL (vAt V (n - 1) 7) (mxAt V n c) = loopMax V n fr.idx (nAt N fr.idx 1) (nAt N fr.idx 2) ∧
    ((absFr V N fr).kids (vAt V (n - 1) 7) (mxAt V n c)).1 = mxAt V n (nAt N fr.idx 1) := by
  cases fr with
  | L p sib =>
    obtain ⟨_, h1, h2, _⟩ := hc
    simp only [absFr, TFr.recompL, TFr.kids, TFr.nd, loopMax, Fr.idx, h1, h2, mxAt_absT V N n sib, and_self]
  | R sib p =>
    obtain ⟨_, h1, h2, _⟩ := hc
    simp only [absFr, TFr.recompL, TFr.kids, TFr.nd, loopMax, Fr.idx, h1, h2, mxAt_absT V N n sib, and_self]

/-- the test of the loops that walk up the parent pointers, `tree_nodes[cur][TN_PARENT_ID] != NIL_ID` -/
theorem parTest_spec (n : Nat) (s : State F) (hv : VS s n) (cur : String) (cr : Nat) (hcr : cr + 1 < n)
    (e : s.ienv cur = cr) (ctx : Ctx) (hpar : nAt (s.ia "tree_nodes") cr 3 = ctxPar ctx) :
    BE.ok s (.cmpI .ne (.ld2 "tree_nodes" (.var cur) (.lit 3)) (.lit (-1))) = true ∧
    BE.eval s (.cmpI .ne (.ld2 "tree_nodes" (.var cur) (.lit 3)) (.lit (-1))) = decide (ctx ≠ []) := by
  have hin : inRange (s.ienv cur) n = true := by rw [e]; exact hv.inRange hcr
  refine ⟨by rw [BE.ok_cmpI, okN s n hv.shpN _ 3 (by decide), hin, IE.ok_lit]; rfl, ?_⟩
  rw [BE.eval_cmpI, evalN s n hv.shpN _ 3 (by decide), e, rowOf_nat, IE.eval_lit]
  simp only [cmpInt, show (3 : Int).toNat = 3 from rfl, hpar]
  cases ctx with
  | nil => simp [ctxPar]
  | cons fr rest => rw [ctxPar_cons]; simp

/-- **loop L1 on the arrays**: the pass `scanArr (l1Step …)` up the context of the spliced-out node -/
theorem delL1_spec (n y : Nat) (hyn : y + 1 < n) (ctx : Ctx) (c : Int) (cr : Nat) (fuel : Nat) (s : State F)
    (hv : VS s n) (hrun : s.ctl = .run) (hc : CtxLinked (s.ia "tree_nodes") n c ctx)
    (hpar : nAt (s.ia "tree_nodes") cr 3 = ctxPar ctx) (hcr : cr + 1 < n) (hcp : PtrOK n c)
    (ecur : s.ienv "cur_node" = cr) (ey : s.ienv "y" = y) (hf : ctx.length < fuel) :
    let V := s.fa "tree_vals"
    let r := exec fuel delL1 s
    r.ctl = .run ∧
      r.fa "tree_vals" = scanArr (l1Step feq (vAt V (n - 1) 7) (minv (nodeAt V y))) n (s.ia "tree_nodes") V c ctx := by
  intro V
  obtain ⟨S, hS⟩ : ∃ S, S = vAt V (n - 1) 7 := ⟨_, rfl⟩
  obtain ⟨yn, hyn'⟩ : ∃ yn, yn = nodeAt V y := ⟨_, rfl⟩
  obtain ⟨N, hN⟩ : ∃ N, N = s.ia "tree_nodes" := ⟨_, rfl⟩
  rw [← hS, ← hyn', ← hN]
  rw [← hN] at hc hpar
  -- the invariant: the rest of the pass, run on the current array, gives the result of the whole pass
  refine IL.while_rule _ delL1Body
    (fun k q => ∃ (ctx' : Ctx) (c' : Int) (cr' : Nat), ctx'.length = k ∧ VS q n ∧ q.ctl = .run ∧ q.ia "tree_nodes" = N ∧
      q.ienv "y" = y ∧ vAt (q.fa "tree_vals") (n - 1) 7 = S ∧ nodeAt (q.fa "tree_vals") y = yn ∧
      CtxLinked N n c' ctx' ∧ nAt N cr' 3 = ctxPar ctx' ∧ cr' + 1 < n ∧ PtrOK n c' ∧ q.ienv "cur_node" = cr' ∧
      scanArr (l1Step feq S (minv yn)) n N (q.fa "tree_vals") c' ctx' = scanArr (l1Step feq S (minv yn)) n N V c ctx)
    (fun q => q.ctl = .run ∧ q.fa "tree_vals" = scanArr (l1Step feq S (minv yn)) n N V c ctx)
    (fun fuel' k q _ ⟨ctx', c', cr', hlen, qv, qrun, qN, qy, qS, qyn, qc, qpar, qcr, qcp, qcur, qscan⟩ => ?_)
    ctx.length fuel s ⟨ctx, c, cr, rfl, hv, hrun, hN.symm, ey, hS.symm, hyn'.symm, hc, hpar, hcr, hcp, ecur, rfl⟩ hf
  obtain ⟨hok, hev⟩ := parTest_spec n q qv "cur_node" cr' qcr qcur ctx' (by rw [qN]; exact qpar)
  refine ⟨hok, fun h0 => ?_, fun h1 => ?_⟩
  · obtain rfl : ctx' = [] := by simpa [hev] using h0
    exact ⟨qrun, qscan⟩
  obtain ⟨fr, rest, rfl⟩ := List.exists_cons_of_ne_nil (by simpa [hev] using h1)
  rw [ctxPar_cons] at qpar
  obtain ⟨hpn, hp3, hcrest⟩ := qc.step
  obtain ⟨hk1, hk2⟩ := qc.kidsOK qcp qv.pos
  obtain ⟨b4, b5⟩ := delL1Body_spec fuel' n q qv qrun cr' fr.idx y qcr hpn hyn qcur qy (by rw [qN]; exact qpar)
    (by rw [qN]; exact hk1) (by rw [qN]; exact hk2)
  obtain ⟨hrl, _⟩ := recompL_absFr (q.fa "tree_vals") N n c' fr rest qc
  have hfrb := exec_frame fuel' delL1Body q
  rw [qS] at hrl
  simp only [scanArr, l1Step, absFr_mx, hrl] at qscan
  rw [qyn] at b4 b5
  rw [qN] at b4
  cases hq : feq (vAt (q.fa "tree_vals") fr.idx 7) (minv yn) with
  | true =>
    obtain ⟨d1, d2, d3⟩ := b4 hq
    obtain ⟨k1, k2⟩ := set7_keeps (q.fa "tree_vals") n fr.idx
      (loopMax (q.fa "tree_vals") n fr.idx (nAt N fr.idx 1) (nAt N fr.idx 2)).v hpn qv.lenV
    simp only [hq, if_true] at qscan
    exact Or.inl ⟨d1, rest.length, by rw [← hlen]; simp, rest, (fr.idx : Int), fr.idx, rfl,
      qv.of_vals hfrb.shp_eq hfrb.ia_eq (by rw [d2]; simp), d1, by rw [hfrb.ia_eq]; exact qN,
      (hfrb.ienv_of delL1Body_wI "y" (by simp)).trans qy, by rw [d2, k1]; exact qS, by rw [d2, k2]; exact qyn, hcrest, hp3, hpn,
      by simp only [PtrOK]; omega, d3, by rw [d2]; exact qscan⟩
  | false =>
    obtain ⟨d1, d2⟩ := b5 hq
    simp only [hq, Bool.false_eq_true, if_false] at qscan
    exact Or.inr (Or.inr (Or.inl ⟨d1, rfl, by show (exec fuel' delL1Body q).fa "tree_vals" = _; rw [d2]; exact qscan⟩))

/-- the value loop L2 leaves at the ancestor `p` of the current node `cr` -/
def l2Val (V : List F) (n : Nat) (N : List Int) (p cr : Nat) (XR : Int) (zg : Fv F) : Fv F :=
  if feq (vAt V p 7) zg then
    (if !(feq (minv (nodeAt V p)) zg) && !(feq (mxAt V n (nAt N p 1)) zg && feq (mxAt V n XR) zg) then
      loopMax V n p (nAt N p 1) (nAt N p 2) else vAt V p 7)
  else (if vAt V p 7 < vAt V cr 7 then vAt V cr 7 else vAt V p 7)

/-- the state in which the tie test of loop L2 has been evaluated -/
def l2St (s : State F) (n p : Nat) (X : Int) : State F :=
  { s with
    ienv := (setS (setS (setS (setS (setS (setS s.ienv "z_parent" (p : Int)) "z_parent_left" (nAt (s.ia "tree_nodes") p 1)) "z_parent_right" (nAt (s.ia "tree_nodes") p 2)) "x_parent" (nAt (s.ia "tree_nodes") (rowOf n X) 3)) "x_parent_right" (nAt (s.ia "tree_nodes") (rowOf n (nAt (s.ia "tree_nodes") (rowOf n X) 3)) 2)) "_find_value_min_value13$node_id" (p : Int)),
    fenv := (setS s.fenv "_find_value_min_value13$ret0" (minv (nodeAt (s.fa "tree_vals") p)).v),
    ctl := .run }

theorem delL2Body_wI : ∀ v ∈ wI delL2Body, v ∈ ["z_parent", "z_parent_left", "z_parent_right", "x_parent", "x_parent_right",
    "_find_value_min_value13$node_id", "_find_max_value14$row$tree_vals", "_find_max_value15$row$tree_vals",
    "_find_value_min_value16$node_id", "z"] := fun _ h => h

theorem delL2Body_wF : ∀ v ∈ wF delL2Body, v ∈ ["_find_value_min_value13$ret0", "_find_max_value14$ret0", "left",
    "_find_max_value15$ret0", "right", "_find_value_min_value16$ret0", "min_value"] := fun _ h => h

theorem delL2Body_spec (fuel n : Nat) (s : State F) (hv : VS s n) (hrun : s.ctl = .run) (cr p : Nat) (hcr : cr + 1 < n)
    (hp : p + 1 < n) (ez : s.ienv "z" = cr) (hpar : nAt (s.ia "tree_nodes") cr 3 = (p : Int))
    (X : Int) (ex : s.ienv "x" = X) (hX : PtrOK n X)
    (hXP : PtrOK n (nAt (s.ia "tree_nodes") (rowOf n X) 3))
    (hXR : PtrOK n (nAt (s.ia "tree_nodes") (rowOf n (nAt (s.ia "tree_nodes") (rowOf n X) 3)) 2))
    (hLp : PtrOK n (nAt (s.ia "tree_nodes") p 1)) (hRp : PtrOK n (nAt (s.ia "tree_nodes") p 2)) :
    let V := s.fa "tree_vals"
    let N := s.ia "tree_nodes"
    let XR := nAt N (rowOf n (nAt N (rowOf n X) 3)) 2
    let zg : Fv F := ⟨s.fenv "z_gradient"⟩
    let r := exec fuel delL2Body s
    r.ctl = .run ∧ r.fa "tree_vals" = V.set (p * 8 + 7) (l2Val V n N p cr XR zg).v ∧ r.ienv "z" = p := by
  intro V N XR zg r
  have hincr : inRange (cr : Int) n = true := hv.inRange hcr
  have hinp : inRange (p : Int) n = true := hv.inRange hp
  have hinX : inRange X n = true := inRange_ptr n _ hX hv.pos
  have hinXP := inRange_ptr n _ hXP hv.pos
  have hinXR := inRange_ptr n _ hXR hv.pos
  have hinL := inRange_ptr n _ hLp hv.pos
  have hlen : p * 8 + 7 < (s.fa "tree_vals").length := by rw [hv.lenV]; omega
  have eN := fun (s' : State F) => evalN s' n
  have oN := fun (s' : State F) => okN s' n
  have eV := fun (s' : State F) => evalV s' n
  have oV := fun (s' : State F) => okV s' n
  have sV := fun (s' : State F) => exec_stV fuel s' n
  have mS := fun (a b : String) (s' : State F) => minvScope_spec a b fuel n s'
  cases h1 : feq (vAt V p 7) zg with
  | true =>
    have h1r : Fl.eq (vAt (s.fa "tree_vals") p 7).v (s.fenv "z_gradient") = true := h1
    cases h2 : (!(feq (minv (nodeAt V p)) zg) && !(feq (mxAt V n (nAt N p 1)) zg && feq (mxAt V n XR) zg)) with
    | true =>
      -- the tie test in the form its evaluation takes
      have hP2 := h2
      simp [feq, mxAt, V, N, XR, zg] at hP2
      obtain ⟨c1, c2⟩ := recompLoop_spec "z_parent" "z_parent_left" "z_parent_right" "14" "15" "16" fuel n (l2St s n p X)
        (hv.of_eq rfl rfl rfl) rfl p _ _ hp hLp hRp (by simp [setS, l2St]) (by simp [setS, l2St]) (by simp [setS, l2St])
        (by decide) (by decide) (by decide) (by decide) (by decide)
      have hfr := exec_frame fuel (recompLoop "z_parent" "z_parent_left" "z_parent_right" "14" "15" "16") (l2St s n p X)
      have hr1 : r = exec fuel (.seq (recompLoop "z_parent" "z_parent_left" "z_parent_right" "14" "15" "16")
          (.setI "z" (.var "z_parent"))) (l2St s n p X) := by
        simp [r, delL2Body, exec, mS, eN, oN, eV, oV, hv.shpN, hv.shpV, ez, ex, hincr, hinp, hinX, hinXP, hinXR, hinL, hpar,
          IE.ok_var, IE.eval_var, FE.ok_var, FE.eval_var, BE.ok, BE.eval, CmpOp.eval, setS, hrun, h1r, l2St, hP2]
      rw [hr1, exec_seq_run _ _ _ _ c1, exec_setI _ _ _ _ (IE.ok_var _ _), IE.eval_var,
        hfr.ienv_of (recompLoop_wI _ _ _ _ _ _) "z_parent" (by simp)]
      refine ⟨c1, c2.trans ?_, by simp [setS, l2St]⟩
      simp only [l2Val, h1, h2, if_true]
      rfl
    | false =>
      -- `-not_and`: the `if` of the run has the test as a negated conjunction
      have hP2 := ne_true_of_eq_false h2
      simp [feq, mxAt, V, N, XR, zg, -not_and] at hP2
      have hr1 : r = { (l2St s n p X) with ienv := setS (l2St s n p X).ienv "z" (p : Int), ctl := s.ctl } := by
        simp [r, delL2Body, exec, mS, eN, oN, eV, oV, hv.shpN, hv.shpV, ez, ex, hincr, hinp, hinX, hinXP, hinXR, hinL, hpar,
          IE.ok_var, IE.eval_var, FE.ok_var, FE.eval_var, BE.ok, BE.eval, CmpOp.eval, setS, hrun, h1r, l2St, hP2]
      rw [hr1]
      refine ⟨hrun, ?_, by simp [setS]⟩
      show s.fa "tree_vals" = _
      simp only [l2Val, h1, h2, if_true, Bool.false_eq_true, if_false]
      exact (set_vAt_self _ _ hlen).symm
  | false =>
    have h1r : Fl.eq (vAt (s.fa "tree_vals") p 7).v (s.fenv "z_gradient") = false := h1
    by_cases h3 : vAt V p 7 < vAt V cr 7
    · have h3r : Fl.lt (vAt (s.fa "tree_vals") p 7).v (vAt (s.fa "tree_vals") cr 7).v = true := h3
      have hr1 : r = { s with ienv := setS (setS s.ienv "z_parent" (p : Int)) "z" (p : Int),
                              fa := (setS s.fa "tree_vals" ((s.fa "tree_vals").set (p * 8 + 7) (vAt (s.fa "tree_vals") cr 7).v)) } := by
        simp [r, delL2Body, exec, sV, eN, oN, eV, oV, hv.shpN, hv.shpV, ez, hincr, hinp, hpar,
          IE.ok_var, IE.eval_var, FE.ok_var, FE.eval_var, BE.ok, BE.eval, CmpOp.eval, setS, hrun, h1r, h3r]
      rw [hr1]
      refine ⟨hrun, ?_, by simp [setS]⟩
      simp only [setS, if_true, l2Val, h1, h3, Bool.false_eq_true, if_false]
      rfl
    · have h3r : Fl.lt (vAt (s.fa "tree_vals") p 7).v (vAt (s.fa "tree_vals") cr 7).v = false := Bool.eq_false_iff.mpr h3
      have hr1 : r = { s with ienv := setS (setS s.ienv "z_parent" (p : Int)) "z" (p : Int) } := by
        simp [r, delL2Body, exec, eN, oN, eV, oV, hv.shpN, hv.shpV, ez, hincr, hinp, hpar,
          IE.ok_var, IE.eval_var, FE.ok_var, FE.eval_var, BE.ok, BE.eval, CmpOp.eval, setS, hrun, h1r, h3r]
      rw [hr1]
      refine ⟨hrun, ?_, by simp [setS]⟩
      show s.fa "tree_vals" = _
      simp only [l2Val, h1, h3, Bool.false_eq_true, if_false]
      exact (set_vAt_self _ _ hlen).symm

theorem l2Step_absFr (V : List F) (N : List Int) (n : Nat) (cr : Nat) (fr : Fr) (rest : Ctx) (XR : Int) (zg : Fv F)
    (hc : CtxLinked N n (cr : Int) (fr :: rest)) :
    l2Step feq (vAt V (n - 1) 7) zg (mxAt V n XR) (mxAt V n (cr : Int)) (absFr V N fr) =
      some (l2Val V n N fr.idx cr XR zg) := by
  obtain ⟨hrl, hkid⟩ := recompL_absFr V N n (cr : Int) fr rest hc
  simp only [l2Step, l2Val, absFr_mx, absFr_nd, hrl, hkid]
  simp only [mxAt, rowOf_nat]

/-- **loop L2 on the arrays**: the pass `scanArr (l2Step …)` up the context of `z` -/
theorem delL2_spec (n : Nat) (X XR : Int) (hX : PtrOK n X) (hXR : PtrOK n XR) (ctx : Ctx) (cr : Nat) (fuel : Nat)
    (s : State F) (hv : VS s n) (hrun : s.ctl = .run) (hc : CtxLinked (s.ia "tree_nodes") n (cr : Int) ctx)
    (hpar : nAt (s.ia "tree_nodes") cr 3 = ctxPar ctx) (hcr : cr + 1 < n) (ez : s.ienv "z" = cr) (ex : s.ienv "x" = X)
    (hXP : PtrOK n (nAt (s.ia "tree_nodes") (rowOf n X) 3))
    (hxr : nAt (s.ia "tree_nodes") (rowOf n (nAt (s.ia "tree_nodes") (rowOf n X) 3)) 2 = XR)
    (hnot : rowOf n XR ∉ ctx.map Fr.idx) (hf : ctx.length < fuel) :
    let V := s.fa "tree_vals"
    let zg : Fv F := ⟨s.fenv "z_gradient"⟩
    let r := exec fuel delL2 s
    r.ctl = .run ∧
      r.fa "tree_vals" = scanArr (l2Step feq (vAt V (n - 1) 7) zg (mxAt V n XR)) n (s.ia "tree_nodes") V (cr : Int) ctx := by
  intro V zg
  obtain ⟨S, hS⟩ : ∃ S, S = vAt V (n - 1) 7 := ⟨_, rfl⟩
  obtain ⟨xm, hxm⟩ : ∃ xm, xm = mxAt V n XR := ⟨_, rfl⟩
  obtain ⟨N, hN⟩ : ∃ N, N = s.ia "tree_nodes" := ⟨_, rfl⟩
  rw [← hS, ← hxm, ← hN]
  rw [← hN] at hc hpar hXP hxr
  refine IL.while_rule _ delL2Body
    (fun k q => ∃ (ctx' : Ctx) (cr' : Nat), ctx'.length = k ∧ VS q n ∧ q.ctl = .run ∧ q.ia "tree_nodes" = N ∧
      q.ienv "x" = X ∧ (⟨q.fenv "z_gradient"⟩ : Fv F) = zg ∧ vAt (q.fa "tree_vals") (n - 1) 7 = S ∧
      mxAt (q.fa "tree_vals") n XR = xm ∧ CtxLinked N n (cr' : Int) ctx' ∧ nAt N cr' 3 = ctxPar ctx' ∧ cr' + 1 < n ∧
      q.ienv "z" = cr' ∧ rowOf n XR ∉ ctx'.map Fr.idx ∧
      scanArr (l2Step feq S zg xm) n N (q.fa "tree_vals") (cr' : Int) ctx' = scanArr (l2Step feq S zg xm) n N V (cr : Int) ctx)
    (fun q => q.ctl = .run ∧ q.fa "tree_vals" = scanArr (l2Step feq S zg xm) n N V (cr : Int) ctx)
    (fun fuel' k q _ ⟨ctx', cr', hlen, qv, qrun, qN, qx, qzg, qS, qxm, qc, qpar, qcr, qz, qnot, qscan⟩ => ?_)
    ctx.length fuel s ⟨ctx, cr, rfl, hv, hrun, hN.symm, ex, rfl, hS.symm, hxm.symm, hc, hpar, hcr, ez, hnot, rfl⟩ hf
  obtain ⟨hok, hev⟩ := parTest_spec n q qv "z" cr' qcr qz ctx' (by rw [qN]; exact qpar)
  refine ⟨hok, fun h0 => ?_, fun h1 => ?_⟩
  · obtain rfl : ctx' = [] := by simpa [hev] using h0
    exact ⟨qrun, qscan⟩
  obtain ⟨fr, rest, rfl⟩ := List.exists_cons_of_ne_nil (by simpa [hev] using h1)
  rw [ctxPar_cons] at qpar
  obtain ⟨hpn, hp3, hcrest⟩ := qc.step
  obtain ⟨hk1, hk2⟩ := qc.kidsOK (by simp only [PtrOK]; omega) qv.pos
  obtain ⟨b1, b2, b3⟩ := delL2Body_spec fuel' n q qv qrun cr' fr.idx qcr hpn qz (by rw [qN]; exact qpar) X qx hX
    (by rw [qN]; exact hXP) (by rw [qN, hxr]; exact hXR) (by rw [qN]; exact hk1) (by rw [qN]; exact hk2)
  have hfrb := exec_frame fuel' delL2Body q
  rw [qN, hxr, qzg] at b2
  obtain ⟨k1, _⟩ := set7_keeps (q.fa "tree_vals") n fr.idx (l2Val (q.fa "tree_vals") n N fr.idx cr' XR zg).v hpn qv.lenV
  have hxm1 : mxAt ((q.fa "tree_vals").set (fr.idx * 8 + 7) (l2Val (q.fa "tree_vals") n N fr.idx cr' XR zg).v) n XR = xm :=
    (mxAt_update (heapOf_setMx _ N n fr.idx _ qv.lenV (by omega)) n XR (fun e => qnot (by simp [e]))).trans qxm
  simp only [scanArr] at qscan
  rw [← qS, ← qxm, l2Step_absFr _ N n cr' fr rest XR zg qc, qS, qxm] at qscan
  exact Or.inl ⟨b1, rest.length, by rw [← hlen]; simp, rest, fr.idx, rfl,
    qv.of_vals hfrb.shp_eq hfrb.ia_eq (by rw [b2]; simp), b1, by rw [hfrb.ia_eq]; exact qN,
    (hfrb.ienv_of delL2Body_wI "x" (by simp)).trans qx,
    by rw [hfrb.fenv_of delL2Body_wF "z_gradient" (by simp)]; exact qzg, by rw [b2, k1]; exact qS, by rw [b2]; exact hxm1,
    hcrest, hp3, hpn, b3, fun h => qnot (by simp [h]), by rw [b2]; exact qscan⟩

/-- the value F1 / C store: `tmp = left if left > right else right; m = tmp if tmp > minv else minv` -/
def fixMax (V : List F) (n : Nat) (P : Nat) (Lp Rp : Int) : Fv F :=
  mx2 (mx2 (mxAt V n Lp) (mxAt V n Rp)) (minv (nodeAt V P))

theorem recompFix_wI (k : String) : ∀ v ∈ wI (seqL (recompFixItems k)),
    v ∈ ["to_fix_left", "to_fix_right", "_find_value_min_value" ++ k ++ "$node_id"] := fun _ h => h

theorem recompFix_wF (k : String) : ∀ v ∈ wF (seqL (recompFixItems k)),
    v ∈ ["tmp_max", "_find_value_min_value" ++ k ++ "$ret0", "min_value"] := fun v h => by
  have h' : v ∈ ["tmp_max", "tmp_max", "_find_value_min_value" ++ k ++ "$ret0", "min_value"] := h
  simpa using h'

/-- the recomputation F1 / C at the node `P` held by `to_fix` (`k` numbers the inlined `_find_value_min_value`, whose
    temporaries must not hide `to_fix` and `tmp_max`) -/
theorem recompFix_spec (k : String) (fuel n : Nat) (s : State F) (hv : VS s n) (hrun : s.ctl = .run) (P : Nat)
    (hP : P + 1 < n) (hLp : PtrOK n (nAt (s.ia "tree_nodes") P 1)) (hRp : PtrOK n (nAt (s.ia "tree_nodes") P 2))
    (ep : s.ienv "to_fix" = P) (hk1 : "to_fix" ≠ "_find_value_min_value" ++ k ++ "$node_id")
    (hk2 : "tmp_max" ≠ "_find_value_min_value" ++ k ++ "$ret0") :
    let V := s.fa "tree_vals"
    let N := s.ia "tree_nodes"
    let q := exec fuel (seqL (recompFixItems k)) s
    q.ctl = .run ∧ q.fa "tree_vals" = V.set (P * 8 + 7) (fixMax V n P (nAt N P 1) (nAt N P 2)).v := by
  intro V N q
  have hinP : inRange (P : Int) n = true := hv.inRange hP
  have hinL : inRange (nAt (s.ia "tree_nodes") P 1) n = true := inRange_ptr n _ hLp hv.pos
  have hinR : inRange (nAt (s.ia "tree_nodes") P 2) n = true := inRange_ptr n _ hRp hv.pos
  have eN := fun (s' : State F) => evalN s' n
  have oN := fun (s' : State F) => okN s' n
  have eV := fun (s' : State F) => evalV s' n
  have oV := fun (s' : State F) => okV s' n
  have sM := fun (s' : State F) => stMax_spec fuel s' n
  have sX := fun (t : String) (A B : FE) (s' : State F) => selMax_spec fuel t A B s'
  have mS := fun (a b : String) (s' : State F) => minvScope_spec a b fuel n s'
  simp [q, V, N, recompFixItems, seqL, exec, sM, sX, mS, eN, oN, eV, oV, hv.shpN, hv.shpV, ep, hinP, hinL, hinR, IE.ok_var,
    IE.eval_var, FE.ok_var, FE.eval_var, setS, hrun, mxAt, fixMax, hk1, hk2]

theorem delCopyCols_spec (fuel n : Nat) (s : State F) (hv : VS s n) (hrun : s.ctl = .run) (y z : Nat) (hyn : y + 1 < n)
    (hzn : z + 1 < n) (hyz : y ≠ z) (ey : s.ienv "y" = y) (ez : s.ienv "z" = z) :
    let q := exec fuel (seqL delCopyColsItems) s
    q = { s with fa := setS s.fa "tree_vals" (copyArr (s.fa "tree_vals") y z) } := by
  intro q
  have hiny : inRange (y : Int) n = true := inRange_ptr n _ (by omega) hv.pos
  have hinz : inRange (z : Int) n = true := inRange_ptr n _ (by omega) hv.pos
  have eV := fun (s' : State F) => evalV s' n
  have oV := fun (s' : State F) => okV s' n
  have sV := fun (s' : State F) => exec_stV fuel s' n
  have hL : (s.fa "tree_vals").length = n * 8 := hv.lenV
  have l0 : z * 8 < (s.fa "tree_vals").length := by omega
  have l1 : z * 8 + 1 < (s.fa "tree_vals").length := by omega
  have l2 : z * 8 + 2 < (s.fa "tree_vals").length := by omega
  have l3 : z * 8 + 3 < (s.fa "tree_vals").length := by omega
  have l4 : z * 8 + 4 < (s.fa "tree_vals").length := by omega
  have l5 : z * 8 + 5 < (s.fa "tree_vals").length := by omega
  simp [q, delCopyColsItems, seqL, exec, sV, eV, oV, hv.shpV, ey, ez, hiny, hinz, setS, hrun, vAt_set, vAt_set0, l0, l1, l2, l3,
    l4, l5, hyz, copyArr, setS_setS]

/-- the status tree at a position, seen through the abstraction: the NIL row's maximum, the subtree, the ancestors -/
structure ZView (F : Type) where
  S : Fv F
  xT : Tree (Fv F)
  frames : List (TFr (Fv F))

def zview (s : State F) (n : Nat) (sub : Sh) (ctx : Ctx) : ZView F :=
  ⟨vAt (s.fa "tree_vals") (n - 1) 7, absT (s.fa "tree_vals") (s.ia "tree_nodes") sub,
   absCtx (s.fa "tree_vals") (s.ia "tree_nodes") ctx⟩

def ZView.tree (a : ZView F) : Tree (Fv F) := plugT a.xT a.frames

theorem zview_tree (s : State F) (n : Nat) (sub : Sh) (ctx : Ctx) :
    (zview s n sub ctx).tree = absT (s.fa "tree_vals") (s.ia "tree_nodes") (plug sub ctx) := (absT_plug _ _ ctx sub).symm

/-- loop L1 and F1 on the view (`yn` the content of the spliced-out node) -/
def ZView.l1f1 (a : ZView F) (yn : Node (Fv F)) : ZView F :=
  { a with xT := (l1f1T feq a.S a.xT yn a.frames).1, frames := (l1f1T feq a.S a.xT yn a.frames).2 }

/-- C and loop L2 on the view, `z` sitting `j` frames up -/
def ZView.cl2 (a : ZView F) (yn : Node (Fv F)) (j : Nat) : ZView F :=
  { a with frames := cl2T feq a.S yn (xprOf a.S a.xT a.frames) j (mxOf a.S a.xT) a.frames }

/-- the recomputation C of the frame of `z` with the successor's content -/
theorem recompF_setNd (V : List F) (N : List Int) (n : Nat) (c : Int) (fr : Fr) (rest : Ctx) (yn : Node (Fv F)) (cm : Fv F)
    (hc : CtxLinked N n c (fr :: rest)) (hcm : mxAt V n c = cm) :
    ((absFr V N fr).setNd yn).recompF (vAt V (n - 1) 7) cm =
      mx2 (mx2 (mxAt V n (nAt N fr.idx 1)) (mxAt V n (nAt N fr.idx 2))) (minv yn) := by
  cases fr with
  | L p sib =>
    obtain ⟨_, h1, h2, _⟩ := hc
    simp only [absFr, TFr.setNd, TFr.recompF, TFr.kids, TFr.nd, Fr.idx, h1, h2, mxAt_absT V N n sib, hcm]
  | R sib p =>
    obtain ⟨_, h1, h2, _⟩ := hc
    simp only [absFr, TFr.setNd, TFr.recompF, TFr.kids, TFr.nd, Fr.idx, h1, h2, mxAt_absT V N n sib, hcm]

theorem recompF_absFr (V : List F) (N : List Int) (n : Nat) (c : Int) (fr : Fr) (rest : Ctx)
    (hc : CtxLinked N n c (fr :: rest)) :
    (absFr V N fr).recompF (vAt V (n - 1) 7) (mxAt V n c) = fixMax V n fr.idx (nAt N fr.idx 1) (nAt N fr.idx 2) :=
  (by cases fr <;> rfl : _ = ((absFr V N fr).setNd (nodeAt V fr.idx)).recompF _ _).trans
    (recompF_setNd V N n c fr rest _ _ hc rfl)

/-- **the splice, loop L1 and the recomputation F1**: the tree without `y`; on the view, the model's `l1f1T` (loop L1,
    then F1 at `y`'s parent -- or at `x` when `y` was the root) -/
theorem delL1F1_spec (fuel n : Nat) (s : State F) (cy : Ctx) (yl : Sh) (y : Nat) (yr : Sh)
    (h : TreeAt "root" s n (plug (.node yl y yr) cy)) (hy : s.ienv "y" = y) (xsh : Sh) (hxs : xsh = spliceSub yl yr)
    (hne : cy = [] → xsh ≠ .nil) (hf : cy.length < fuel) :
    let r := exec fuel (.seq (.seq (seqL delSpliceItems) delL1) (seqL (recompFixItems "10"))) s
    TreeAt "root" r n (plug xsh cy) ∧ zview r n xsh cy = (zview s n xsh cy).l1f1 (nodeAt (s.fa "tree_vals") y) ∧
      nodeAt (r.fa "tree_vals") y = nodeAt (s.fa "tree_vals") y ∧
      (∀ j, nAt (r.ia "tree_nodes") j 0 = nAt (s.ia "tree_nodes") j 0) ∧
      nAt (r.ia "tree_nodes") (rowOf n xsh.ptr) 3 = ctxPar cy ∧
      r.ienv "x" = xsh.ptr ∧ r.ienv "y" = y ∧ r.ienv "deleted" = y ∧ r.ienv "z" = s.ienv "z" := by
  intro r
  obtain ⟨V, hV⟩ : ∃ V, V = s.fa "tree_vals" := ⟨_, rfl⟩
  obtain ⟨N, hN⟩ : ∃ N, N = s.ia "tree_nodes" := ⟨_, rfl⟩
  have hyn : y + 1 < n := h.pos.sub.1
  obtain ⟨a1, a2, a3, a4, a5, ax, afix, acur, adel⟩ := delSplice_spec fuel n s cy yl y yr h hy
  rw [← hxs] at a1 a5 ax afix
  have hfr0 := exec_frame fuel (seqL delSpliceItems) s
  generalize hs0 : exec fuel (seqL delSpliceItems) s = s0 at a1 a2 a3 a4 a5 ax afix acur adel hfr0
  have hcol : ∀ j, nAt (s0.ia "tree_nodes") j 0 = nAt N j 0 := fun j => hN ▸ congrArg Prod.fst (a3 j)
  have hy3 : nAt (s0.ia "tree_nodes") y 3 = ctxPar cy := (congrArg Row.par a4).trans h.pos.sub.2.2.2.1
  have hV0 : s0.fa "tree_vals" = V := by rw [a2, hV]
  have hpos := a1.pos
  have hxOK : PtrOK n xsh.ptr := hpos.sub.ptrOK a1.vs.pos
  have ey0 : s0.ienv "y" = y := (hfr0.ienv_of delSplice_wI "y" (by simp)).trans hy
  have hlt : ∀ fr ∈ cy, fr.idx + 1 < n := fun fr hfr => hpos.ctx_lt (Pos.frame_mem hfr)
  obtain ⟨b1, b4⟩ := delL1_spec n y hyn cy xsh.ptr y fuel s0 a1.vs a1.run hpos.ctx hy3 hyn hxOK acur ey0 hf
  have hfr1 := exec_frame fuel delL1 s0
  generalize hs1 : exec fuel delL1 s0 = s1 at b1 b4 hfr1
  rw [hV0] at b4
  obtain ⟨N', hN'⟩ : ∃ N', N' = s0.ia "tree_nodes" := ⟨_, rfl⟩
  rw [← hN'] at b4 hcol hpos
  have hN1 : s1.ia "tree_nodes" = N' := by rw [hfr1.ia_eq, hN']
  have hv1 : VS s1 n := a1.vs.of_vals hfr1.shp_eq hfr1.ia_eq (by rw [b4, scanArr_length, hV0])
  have hrows1 := heapOf_scanArr (l1Step feq (vAt V (n - 1) 7) (minv (nodeAt V y))) n N' cy V xsh.ptr (hV ▸ h.vs.lenV) hlt
  rw [← b4] at hrows1
  have hS1 : vAt (s1.fa "tree_vals") (n - 1) 7 = vAt V (n - 1) 7 :=
    congrArg Row.mx ((hrows1 (n - 1)).2 fun hm => by
      have := hpos.ctx_lt ((frameRows_sublist cy).subset hm); omega)
  have hx1 : mxAt (s1.fa "tree_vals") n xsh.ptr = mxAt V n xsh.ptr :=
    congrArg Row.mx ((hrows1 _).2 (hpos.ptr_not_frame fun i hi hm => hpos.disj hi ((frameRows_sublist cy).subset hm)))
  have habs1 : absCtx (s1.fa "tree_vals") N' cy =
      scanT (l1Step feq (vAt V (n - 1) 7) (minv (nodeAt V y))) (mxOf (vAt V (n - 1) 7) (absT V N xsh)) (absCtx V N cy) := by
    rw [b4, absCtx_scanArr _ n N' cy V xsh.ptr hpos.ctx_nodup (hV ▸ h.vs.lenV) (fun _ => hpos.ctx_lt), absCtx_col hcol,
      mxAt_absT V N n xsh]
  have hxT1 : absT (s1.fa "tree_vals") N' xsh = absT V N xsh := by
    rw [b4, absT_scanArr _ n N' cy V _ xsh (hV ▸ h.vs.lenV) hlt
      (fun i hi hm => hpos.disj hi ((frameRows_sublist cy).subset hm)), absT_col hcol]
  have e_tofix : s1.ienv "to_fix" = headOr xsh.ptr cy := (hfr1.ienv_of delL1Body_wI "to_fix" (by simp)).trans afix
  have hr : r = exec fuel (seqL (recompFixItems "10")) s1 :=
    (exec_seq_eq _ _ _ _ _ ((exec_seq_eq _ _ _ _ _ hs0 a1.run).trans hs1) b1)
  have hfr2 := exec_frame fuel (seqL (recompFixItems "10")) s1
  rw [← hr] at hfr2
  have hsc : ∀ v, v ∉ ["cur_parent", "_find_value_min_value6$node_id", "cur_parent_left", "cur_parent_right",
      "_find_max_value7$row$tree_vals", "_find_max_value8$row$tree_vals", "_find_value_min_value9$node_id", "cur_node"] →
      v ∉ ["to_fix_left", "to_fix_right", "_find_value_min_value" ++ "10" ++ "$node_id"] → r.ienv v = s0.ienv v :=
    fun v h1 h2 => (hfr2.ienv_of (recompFix_wI "10") v h2).trans (hfr1.ienv_of delL1Body_wI v h1)
  -- what is left to show once F1 has written the row `P` held by `to_fix`
  have key : ∀ (P : Nat) (m : Fv F), P + 1 < n → r.ctl = .run →
      r.fa "tree_vals" = (s1.fa "tree_vals").set (P * 8 + 7) m.v →
      absT (r.fa "tree_vals") N' xsh = (l1f1T feq (vAt V (n - 1) 7) (absT V N xsh) (nodeAt V y) (absCtx V N cy)).1 →
      absCtx (r.fa "tree_vals") N' cy = (l1f1T feq (vAt V (n - 1) 7) (absT V N xsh) (nodeAt V y) (absCtx V N cy)).2 →
      TreeAt "root" r n (plug xsh cy) ∧ zview r n xsh cy = (zview s n xsh cy).l1f1 (nodeAt (s.fa "tree_vals") y) ∧
        nodeAt (r.fa "tree_vals") y = nodeAt (s.fa "tree_vals") y ∧
        (∀ j, nAt (r.ia "tree_nodes") j 0 = nAt (s.ia "tree_nodes") j 0) ∧
        nAt (r.ia "tree_nodes") (rowOf n xsh.ptr) 3 = ctxPar cy ∧
        r.ienv "x" = xsh.ptr ∧ r.ienv "y" = y ∧ r.ienv "deleted" = y ∧ r.ienv "z" = s.ienv "z" := by
    intro P m hP c1 c4 hT hC
    obtain ⟨k1, k2⟩ := set7_keeps (s1.fa "tree_vals") n P m.v hP hv1.lenV
    have hia : r.ia "tree_nodes" = N' := by rw [hfr2.ia_eq, hN1]
    subst hV hN
    refine ⟨⟨hv1.of_vals hfr2.shp_eq hfr2.ia_eq (by rw [c4]; simp), c1, by rw [hia]; exact hpos.linked, hpos.nodup,
      (hsc "root" (by simp) (by simp)).trans a1.root⟩, ?_, by rw [c4, k2]; exact (hrows1 y).1, by rw [hia]; exact hcol,
      by rw [hia, hN']; exact a5, (hsc "x" (by simp) (by simp)).trans ax, (hsc "y" (by simp) (by simp)).trans ey0,
      (hsc "deleted" (by simp) (by simp)).trans adel,
      (hsc "z" (by simp) (by simp)).trans (hfr0.ienv_of delSplice_wI "z" (by simp))⟩
    simp only [zview, ZView.l1f1, hia, hT, hC]
    rw [c4, k1, hS1]
  cases cy with
  | nil =>
    -- `y` was the root: F1 recomputes `x`
    obtain ⟨xl, xi, xr, hxsh⟩ : ∃ xl xi xr, xsh = .node xl xi xr := by
      cases hx : xsh with
      | nil => exact absurd hx (hne rfl)
      | node a b c => exact ⟨a, b, c, rfl⟩
    have hlx := hpos.sub
    have hdx := Sh.ptr_ne_of_nodup xl xr xi (hxsh ▸ hpos.sub_nodup)
    rw [hxsh] at hlx
    obtain ⟨hxin, hx1, hx2, _, hlxl, hlxr⟩ := hlx
    have hV1 : s1.fa "tree_vals" = V := b4
    obtain ⟨c1, c4⟩ := recompFix_spec "10" fuel n s1 hv1 b1 xi hxin (by rw [hN1, hx1]; exact hlxl.ptrOK hv1.pos)
      (by rw [hN1, hx2]; exact hlxr.ptrOK hv1.pos) (by rw [e_tofix, hxsh]; rfl) (by decide) (by decide)
    rw [← hr] at c1 c4
    rw [hN1, hx1, hx2] at c4
    have e := heapOf_setMx (s1.fa "tree_vals") N' n xi (fixMax (s1.fa "tree_vals") n xi xl.ptr xr.ptr) hv1.lenV (by omega)
    have hrow := congrFun e xi
    rw [update_self] at hrow
    refine key xi _ hxin c1 c4 ?_ (by rw [c4]; rfl)
    rw [c4, hxsh]
    simp only [absT]
    rw [absT_update e xl hdx.2.2.2.2.1, absT_update e xr hdx.2.2.2.2.2, show nodeAt _ xi = _ from congrArg Row.nd hrow,
      show vAt _ xi 7 = _ from congrArg Row.mx hrow, hV1, absT_col hcol, absT_col hcol, hcol]
    simp only [l1f1T, absCtx, List.map_nil, scanT, refresh, recomp, fixMax, mxAt_absT V N n xl, mxAt_absT V N n xr]
    rfl
  | cons fr rest =>
    -- F1 recomputes `y`'s parent
    obtain ⟨hpn, _, _⟩ := hpos.ctx.step
    obtain ⟨hk1, hk2⟩ := hpos.ctx.kidsOK hxOK hv1.pos
    obtain ⟨c1, c4⟩ := recompFix_spec "10" fuel n s1 hv1 b1 fr.idx hpn (by rw [hN1]; exact hk1) (by rw [hN1]; exact hk2)
      (by rw [e_tofix]; rfl) (by decide) (by decide)
    rw [← hr] at c1 c4
    rw [hN1, ← recompF_absFr (s1.fa "tree_vals") N' n xsh.ptr fr rest hpos.ctx, hS1, hx1, mxAt_absT V N n xsh] at c4
    have e := heapOf_setMx (s1.fa "tree_vals") N' n fr.idx
      ((absFr (s1.fa "tree_vals") N' fr).recompF (vAt V (n - 1) 7) (mxOf (vAt V (n - 1) 7) (absT V N xsh))) hv1.lenV (by omega)
    have hnd := List.nodup_cons.mp (ctxIdxs_cons fr rest ▸ hpos.ctx_nodup)
    have hfrx : fr.idx ∉ xsh.idxs := fun hm => hpos.disj hm (Pos.frame_mem List.mem_cons_self)
    obtain ⟨f, rs, hscan, hres⟩ := l1f1T_scan_cons feq (vAt V (n - 1) 7) (absT V N xsh) (nodeAt V y) (absFr V N fr) (absCtx V N rest)
    simp only [absCtx_cons] at habs1
    rw [hscan, List.cons.injEq] at habs1
    rw [← absCtx_cons] at hres
    refine key fr.idx _ hpn c1 c4 ?_ ?_
    · rw [hres, c4, absT_update e xsh hfrx, hxT1]
    · rw [hres, c4, absCtx_cons, absFr_update_mx fr e (fun hm => hnd.1 (by simp [hm])),
        absCtx_update e rest (fun hm => hnd.1 (by simp [hm])), habs1.1, habs1.2]

theorem delCopyA_spec (fuel : Nat) (s : State F) (y : Nat) (ey : s.ienv "y" = y) (ez : s.ienv "z" = y) :
    exec fuel delCopy s = s := by
  have hne : ¬ ((y : Int) = -1) := by omega
  simp [delCopy, exec, BE.ok, BE.eval, IE.ok_var, IE.eval_var, IE.ok_lit, IE.eval_lit, cmpInt, ey, ez, hne]

/-- the right child of `x`'s parent after the splice (`x_parent_right` of loop L2) -/
theorem xr_facts (V : List F) {N : List Int} {n : Nat} {xsh : Sh} {hd : Fr} {tl : Ctx} (h : Pos N n xsh (hd :: tl))
    (hn : 0 < n) :
    PtrOK n (nAt N hd.idx 2) ∧ rowOf n (nAt N hd.idx 2) ∉ (hd :: tl).map Fr.idx ∧
      xprOf (vAt V (n - 1) 7) (absT V N xsh) (absCtx V N (hd :: tl)) = mxAt V n (nAt N hd.idx 2) := by
  have hc := h.ctx
  cases hd with
  | L p sib =>
    obtain ⟨_, _, h2, _, _, hls, _⟩ := hc
    simp only [Fr.idx, h2]
    refine ⟨hls.ptrOK hn, ?_, by simp only [absCtx, List.map_cons, absFr, xprOf, mxAt_absT V N n sib]⟩
    have hr := h.ctx_nodup
    rw [ctxIdxs_cons] at hr
    exact h.ptr_not_frame (t := sib) (fun i hi hm => by
      rcases List.mem_cons.mp hm with e | hm
      · exact (List.nodup_cons.mp hr).1 (by simp [Fr.sib, ← e, hi])
      · exact (List.nodup_append.mp (List.nodup_cons.mp hr).2).2.2 i (by simp [Fr.sib, hi]) i
          ((frameRows_sublist tl).subset hm) rfl)
  | R sib p =>
    obtain ⟨_, _, h2, _, _, _, _⟩ := hc
    simp only [Fr.idx, h2]
    exact ⟨h.sub.ptrOK hn, h.ptr_not_frame (fun i hi hm => h.disj hi ((frameRows_sublist _).subset hm)),
      by simp only [absCtx, List.map_cons, absFr, xprOf, mxAt_absT V N n xsh]⟩

/-- the state after `z_gradient = _find_value_min_value(tree_vals, z)` -/
def copySt (s : State F) (z : Nat) : State F :=
  { s with
    ienv := (setS s.ienv "_find_value_min_value11$node_id" (z : Int)),
    fenv := (setS (setS s.fenv "_find_value_min_value11$ret0" (minv (nodeAt (s.fa "tree_vals") z)).v) "z_gradient" (minv (nodeAt (s.fa "tree_vals") z)).v) }

theorem delCopy_wI : ∀ v ∈ wI delCopy, v ∈ ["_find_value_min_value11$node_id", "to_fix", "to_fix_left", "to_fix_right",
    "_find_value_min_value12$node_id", "z_parent", "z_parent_left", "z_parent_right", "x_parent", "x_parent_right",
    "_find_value_min_value13$node_id", "_find_max_value14$row$tree_vals", "_find_max_value15$row$tree_vals",
    "_find_value_min_value16$node_id", "z"] := fun _ h => h

/-- **the successor copy, C and loop L2**: `z`, the frame `below.length` levels above the spliced-out node, gets `y`'s
    content; on the view, the model's `cl2T` -/
theorem delCopyB_spec (fuel n : Nat) (s : State F) (xsh : Sh) (y : Nat) (below : Ctx) (zf : Fr) (above : Ctx)
    (h : TreeAt "root" s n (plug xsh (below ++ zf :: above))) (hyz : y ≠ zf.idx) (hyn : y + 1 < n)
    (ey : s.ienv "y" = y) (ez : s.ienv "z" = zf.idx) (ex : s.ienv "x" = xsh.ptr)
    (hxp : nAt (s.ia "tree_nodes") (rowOf n xsh.ptr) 3 = ctxPar (below ++ zf :: above)) (hf : above.length < fuel) :
    let r := exec fuel delCopy s
    TreeAt "root" r n (plug xsh (below ++ zf :: above)) ∧
      zview r n xsh (below ++ zf :: above) =
        (zview s n xsh (below ++ zf :: above)).cl2 (nodeAt (s.fa "tree_vals") y) below.length := by
  intro r
  have hv := h.vs
  have hrun := h.run
  have hpos := h.pos
  obtain ⟨V, hV⟩ : ∃ V, V = s.fa "tree_vals" := ⟨_, rfl⟩
  obtain ⟨N, hN⟩ : ∃ N, N = s.ia "tree_nodes" := ⟨_, rfl⟩
  obtain ⟨z, hzdef⟩ : ∃ z, z = zf.idx := ⟨_, rfl⟩
  rw [← hN] at hpos hxp
  rw [← hzdef] at hyz ez
  have hlenV : V.length = n * 8 := hV ▸ hv.lenV
  have hxOK : PtrOK n xsh.ptr := hpos.sub.ptrOK hv.pos
  have hcz : CtxLinked N n (lastPtr xsh.ptr below) (zf :: above) := CtxLinked.append below _ _ hpos.ctx
  obtain ⟨hzn, hz3, hcab⟩ := hcz.step
  obtain ⟨hk1, hk2⟩ := hcz.kidsOK (lastPtr_ok below _ _ hpos.ctx hxOK) hv.pos
  rw [← hzdef] at hzn hz3 hcab hk1 hk2
  obtain ⟨hzx, hzb, hzs, hza, hxa⟩ := hpos.split
  rw [← hzdef] at hzx hzb hza
  -- the head of the context (it is not empty): `x`'s parent
  obtain ⟨hd, tl, hcy⟩ : ∃ hd tl, below ++ zf :: above = hd :: tl := by
    cases below with
    | nil => exact ⟨zf, above, rfl⟩
    | cons a b => exact ⟨a, b ++ zf :: above, rfl⟩
  obtain ⟨hXR1, hXR2, hXR3⟩ := xr_facts V (hcy ▸ hpos) hv.pos
  rw [← hcy] at hXR2 hXR3
  have hxp' : nAt N (rowOf n xsh.ptr) 3 = (hd.idx : Int) := by rw [hxp, hcy, ctxPar_cons]
  have hhd : hd.idx + 1 < n := hpos.ctx_lt (hcy ▸ Pos.frame_mem List.mem_cons_self)
  have hXRz : rowOf n (nAt N hd.idx 2) ≠ z := fun e => hXR2 (by rw [e, hzdef]; simp)
  have hXRab : rowOf n (nAt N hd.idx 2) ∉ above.map Fr.idx := fun hm => hXR2 (by simp [hm])
  -- `z_gradient`, the copy, `to_fix = z`
  have hne : ¬ ((y : Int) = -1) := by omega
  have hne2 : ¬ ((y : Int) = (z : Int)) := by omega
  have hinz : inRange (z : Int) n = true := hv.inRange hzn
  have mS := fun (a b : String) (s' : State F) => minvScope_spec a b fuel n s'
  have h0 : exec fuel (seqL [(.setI "_find_value_min_value11$node_id" (.var "z")),
      (minvScope "_find_value_min_value11$node_id" "_find_value_min_value11$ret0"),
      (.setF "z_gradient" (.var "_find_value_min_value11$ret0"))]) s = copySt s z := by
    simp [seqL, exec, mS, hv.shpV, ez, hinz, IE.ok_var, IE.eval_var, FE.ok_var, FE.eval_var, setS, hrun, copySt]
  have hcopy := delCopyCols_spec fuel n (copySt s z) (hv.of_eq rfl rfl rfl) hrun y z hyn hzn (by omega)
    (by simp [copySt, setS, ey]) (by simp [copySt, setS, ez])
  generalize hs2 : ({ copySt s z with fa := (setS (copySt s z).fa "tree_vals"
    (copyArr ((copySt s z).fa "tree_vals") y z)) } : State F) = s2 at hcopy
  have hV2 : s2.fa "tree_vals" = copyArr V y z := by rw [← hs2, hV]; simp [setS, copySt]
  have h3 : exec fuel (.setI "to_fix" (.var "z")) s2 = { s2 with ienv := setS s2.ienv "to_fix" (z : Int) } := by
    rw [exec_setI _ _ _ _ (IE.ok_var _ _), IE.eval_var, ← hs2]; simp [setS, copySt, ez]
  generalize hs3 : ({ s2 with ienv := setS s2.ienv "to_fix" (z : Int) } : State F) = s3 at h3
  have hV3 : s3.fa "tree_vals" = copyArr V y z := by rw [← hs3]; exact hV2
  have hrun3 : s3.ctl = .run := by rw [← hs3, ← hs2]; exact hrun
  have hia3 : s3.ia = s.ia := by rw [← hs3, ← hs2]; rfl
  have hv3 : VS s3 n := hv.of_vals (by rw [← hs3, ← hs2]; rfl) hia3 (by rw [hV3, copyArr_length, hV])
  obtain ⟨c1, c4⟩ := recompFix_spec "12" fuel n s3 hv3 hrun3 z hzn (by rw [hia3, ← hN]; exact hk1)
    (by rw [hia3, ← hN]; exact hk2) (by rw [← hs3]; simp [setS]) (by decide) (by decide)
  rw [hia3, ← hN, hV3] at c4
  have hfr4 := exec_frame fuel (seqL (recompFixItems "12")) s3
  generalize hs4 : exec fuel (seqL (recompFixItems "12")) s3 = s4 at c1 c4 hfr4
  have hia4 : s4.ia = s.ia := hfr4.ia_eq.trans hia3
  have hv4 : VS s4 n := hv3.of_vals hfr4.shp_eq hfr4.ia_eq (by rw [c4, hV3]; simp)
  have hs34 : ∀ v, v ∉ ["to_fix_left", "to_fix_right", "_find_value_min_value" ++ "12" ++ "$node_id"] → v ≠ "to_fix" →
      v ≠ "_find_value_min_value11$node_id" → s4.ienv v = s.ienv v := fun v h1 h2 h3 => by
    rw [hfr4.ienv_of (recompFix_wI "12") v h1, ← hs3, ← hs2]; simp [setS, copySt, h2, h3]
  have ezg4 : (⟨s4.fenv "z_gradient"⟩ : Fv F) = minv (nodeAt V z) := by
    rw [hfr4.fenv_of (recompFix_wF "12") "z_gradient" (by simp), ← hs3, ← hs2, hV]; simp [setS, copySt]
  -- after C the row of `z` holds `y`'s content and the recomputed maximum `m`
  obtain ⟨m, hm⟩ : ∃ m : Fv F, m = fixMax (copyArr V y z) n z (nAt N z 1) (nAt N z 2) := ⟨_, rfl⟩
  rw [← hm] at c4
  have eC := heapOf_copyArr V N n y z hlenV (by omega)
  have e4 : heapOf (s4.fa "tree_vals") N = update (heapOf V N) z { heapOf V N z with nd := nodeAt V y, mx := m } := by
    rw [c4, heapOf_setMx _ N n z m (by rw [copyArr_length]; exact hlenV) (by omega), eC, update_self, update_idem]
  have hS4 : vAt (s4.fa "tree_vals") (n - 1) 7 = vAt V (n - 1) 7 := by
    have := congrArg Row.mx (congrFun e4 (n - 1))
    rwa [update_of_ne (by omega)] at this
  have hrowz := congrFun e4 z
  rw [update_self] at hrowz
  have hmx4 : mxAt (s4.fa "tree_vals") n (z : Int) = m := by rw [mxAt, rowOf_nat]; exact congrArg Row.mx hrowz
  -- the copy leaves every stored maximum alone: the value C stores is the model's
  have hmxC : ∀ q, mxAt (copyArr V y z) n q = mxAt V n q := fun q => by
    show (heapOf (copyArr V y z) N (rowOf n q)).mx = (heapOf V N (rowOf n q)).mx
    rw [eC]
    by_cases eq : rowOf n q = z
    · rw [eq, update_self]
    · rw [update_of_ne eq]
  have hmval : m = ((absFr V N zf).setNd (nodeAt V y)).recompF (vAt V (n - 1) 7)
      (lastMx (mxOf (vAt V (n - 1) 7) (absT V N xsh)) (absCtx V N below)) := by
    rw [recompF_setNd V N n (lastPtr xsh.ptr below) zf above (nodeAt V y) _ hcz
      (by rw [mxAt_lastPtr V N n below xsh.ptr, mxAt_absT V N n xsh]), ← hzdef, hm, fixMax, hmxC, hmxC]
    have := congrArg Row.nd (congrFun eC z)
    rw [update_self] at this
    rw [show nodeAt (copyArr V y z) z = _ from this]
  obtain ⟨d1, d4⟩ := delL2_spec n xsh.ptr (nAt N hd.idx 2) hxOK hXR1 above z fuel s4 hv4 c1
    (by rw [hia4, ← hN]; exact hcab) (by rw [hia4, ← hN]; exact hz3) hzn ((hs34 "z" (by simp) (by simp) (by simp)).trans ez)
    ((hs34 "x" (by simp) (by simp) (by simp)).trans ex) (by rw [hia4, ← hN, hxp']; simp only [PtrOK]; omega)
    (by rw [hia4, ← hN, hxp', rowOf_nat]) hXRab hf
  rw [hia4, ← hN, ezg4, hS4, mxAt_update e4 n _ hXRz] at d4
  have hfr5 := exec_frame fuel delL2 s4
  generalize hs5 : exec fuel delL2 s4 = s5 at d1 d4 hfr5
  have hr : r = s5 := by
    simp only [r, delCopy]
    rw [exec_ite_true _ _ _ _ _ (by simp [BE.ok, IE.ok_var, IE.ok_lit])
      (by simp [BE.eval, IE.eval_var, IE.eval_lit, cmpInt, ey, ez, hne, hne2])]
    rw [exec_seqK, exec_seq_run _ _ _ _ (by rw [h0]; exact hrun), h0]
    simp only [delCopyColsItems]
    rw [exec_seqK, ← delCopyColsItems, exec_seq_run _ _ _ _ (by rw [hcopy, ← hs2]; exact hrun), hcopy,
      exec_seq_run _ _ _ _ (by rw [h3]; exact hrun3), h3]
    simp only [recompFixItems]
    rw [exec_seqK, ← recompFixItems, exec_seq_run _ _ _ _ (by rw [hs4]; exact c1), hs4, hs5]
  have hlt4 : ∀ fr ∈ above, fr.idx + 1 < n := fun fr hfr =>
    hpos.ctx_lt (by rw [ctxIdxs_append, ctxIdxs_cons]; simp [Pos.frame_mem (cx := above) hfr])
  have hrows5 := heapOf_scanArr (l2Step feq (vAt V (n - 1) 7) (minv (nodeAt V z)) (mxAt V n (nAt N hd.idx 2))) n N above
    (s4.fa "tree_vals") (z : Int) hv4.lenV hlt4
  rw [← d4] at hrows5
  have hia5 : s5.ia = s.ia := hfr5.ia_eq.trans hia4
  have hS5 : vAt (s5.fa "tree_vals") (n - 1) 7 = vAt V (n - 1) 7 :=
    (congrArg Row.mx ((hrows5 (n - 1)).2 fun hm => by
      obtain ⟨fr, hfr, e⟩ := List.mem_map.mp hm
      have := hlt4 fr hfr; omega)).trans hS4
  have hT5 : absT (s5.fa "tree_vals") N xsh = absT V N xsh := by
    rw [d4, absT_scanArr _ n _ above _ _ xsh hv4.lenV hlt4 (fun i hi hm => hxa i hi ((frameRows_sublist above).subset hm)),
      absT_update e4 xsh hzx]
  -- the context: below `z` untouched, `z` with `y`'s content and `m`, above `z` the pass L2
  have hC5 : absCtx (s5.fa "tree_vals") N (below ++ zf :: above) =
      absCtx V N below ++ ((absFr V N zf).setNd (nodeAt V y)).setMx m ::
        scanT (l2Step feq (vAt V (n - 1) 7) (minv (nodeAt V z)) (mxAt V n (nAt N hd.idx 2))) m (absCtx V N above) := by
    have hsplit : below ++ zf :: above = (below ++ [zf]) ++ above := by simp
    rw [hsplit, d4, absCtx_scanArr_above _ n _ above (below ++ [zf]) _ _ (hsplit ▸ hpos.ctx_nodup) hv4.lenV
        (fun i hi => hpos.ctx_lt (by rw [ctxIdxs_append, ctxIdxs_cons]; simp [hi])),
      absCtx_append _ _ below [zf], absCtx_update e4 below hzb, absCtx_update e4 above hza, absCtx_cons,
      absFr_update zf (hzdef ▸ e4) hzs, hmx4, List.append_assoc]
    rfl
  have hx : xprOf (vAt V (n - 1) 7) (absT V N xsh) (absCtx V N below ++ absFr V N zf :: absCtx V N above) =
      mxAt V n (nAt N hd.idx 2) := by rw [← hXR3, absCtx_append, absCtx_cons]
  rw [hr]
  refine ⟨⟨hv4.of_vals hfr5.shp_eq hfr5.ia_eq (by rw [d4, scanArr_length]), d1, by rw [hia5, ← hN]; exact hpos.linked,
    hpos.nodup, ?_⟩, ?_⟩
  · rw [hfr5.ienv_of delL2Body_wI "root" (by simp), hs34 "root" (by simp) (by simp) (by simp)]; exact h.root
  simp only [zview, ZView.cl2, hia5, ← hV, ← hN]
  rw [hS5, hT5, hC5, absCtx_append, absCtx_cons, ← absCtx_length V N below, cl2T_append, ← hmval, absFr_nd, ← hzdef, hx]

end XrsVerif.ILVs
