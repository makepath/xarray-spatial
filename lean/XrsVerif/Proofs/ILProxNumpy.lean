import XrsVerif.Proofs.ILProxLines
/-
  Step 4 (end): the two passes of the generated `_process._process_numpy` are the model's
  `tdN` / `buN`, the whole program refines `Prox.run`; `proxAt` / `allocAt` are read off `img_distance` / `output_img`.
-/
namespace XrsVerif.IL.Px
open XrsVerif XrsVerif.Prox
variable {F : Type} [Fl F]
attribute [-simp] List.getD_eq_getElem?_getD
attribute [local simp] List.getD_cons_zero List.getD_cons_succ

variable {c : Cfg} {emb : Nat → F} {tg : Nat → Nat → Bool}

/-- the state after the six statements before the first `pan_near` reset -/
def initSt1 (s0 : State F) (H W : Nat) : State F :=
  { s0 with
    ienv := setS (setS s0.ienv "height" (H : Int)) "width" (W : Int)
    shp := setS (setS (setS (setS s0.shp "pan_near_x" [W]) "pan_near_y" [W]) "output_img" [H, W]) "img_distance" [H, W]
    ia := setS (setS s0.ia "pan_near_x" (List.replicate W 0)) "pan_near_y" (List.replicate W 0)
    fa := setS (setS s0.fa "output_img" (List.replicate (H * W) Fl.nan)) "img_distance" (List.replicate (H * W) (Fl.lit 0 1)) }

/-- the state after the three allocations that follow it -/
def initSt2 (s : State F) (W : Nat) : State F :=
  { s with
    shp := setS (setS (setS s.shp "scan_line" [W]) "nearest_xs" [W]) "nearest_ys" [W]
    ia := setS (setS s.ia "nearest_xs" (List.replicate W 0)) "nearest_ys" (List.replicate W 0)
    fa := setS s.fa "scan_line" (List.replicate W (Fl.lit 0 1)) }

/-- the allocations and the first reset establish the invariant of the passes -/
theorem pnInit_exec (s0 : State F) (fuel : Nat) (inp : PNInput c emb tg s0) (rest : St) :
    ∃ sI : State F, exec fuel (pnInit rest) s0 = exec fuel rest sI ∧ PNStatic c s0 sI ∧
      (∀ q, q < c.W → (sI.ia "pan_near_x").getD q 0 = -1) ∧
      (∀ j, j < c.H * c.W → (sI.fa "output_img").getD j Fl.nan = Fl.nan) := by
  have hs := inp.run
  -- up to the reset
  have h1 : ∀ tail : St, exec fuel
      (.seq (.setI "height" (.dim "img" 0))
      (.seq (.setI "width" (.dim "img" 1))
      (.seq (.allocI "pan_near_x" [(.var "width")] (.lit 0))
      (.seq (.allocI "pan_near_y" [(.var "width")] (.lit 0))
      (.seq (.allocF "output_img" [(.var "height"), (.var "width")] .nan)
      (.seq (.allocF "img_distance" [(.var "height"), (.var "width")] (.lit 0 1))
      tail)))))) s0 = exec fuel tail (initSt1 s0 c.H c.W) := by
    intro tail
    generalize hX : (exec fuel tail : State F → State F) = X
    simp [il, exec_seq, hs, setS, inp.img, hX, initSt1]
  rw [pnInit, h1]
  generalize hA : initSt1 s0 c.H c.W = sA
  have eA : sA.ctl = .run ∧ sA.ienv "height" = c.H ∧ sA.ienv "width" = c.W ∧
      (∀ v, v ≠ "height" → v ≠ "width" → sA.ienv v = s0.ienv v) ∧ sA.fenv = s0.fenv ∧ sA.ext = s0.ext ∧
      sA.shp "pan_near_x" = [c.W] ∧ sA.shp "pan_near_y" = [c.W] ∧ sA.shp "output_img" = [c.H, c.W] ∧
      sA.shp "img_distance" = [c.H, c.W] ∧
      (∀ a, a ≠ "pan_near_x" → a ≠ "pan_near_y" → a ≠ "output_img" → a ≠ "img_distance" → sA.shp a = s0.shp a) ∧
      (sA.ia "pan_near_x").length = c.W ∧ (sA.ia "pan_near_y").length = c.W ∧
      sA.fa "output_img" = List.replicate (c.H * c.W) Fl.nan ∧
      (sA.fa "img_distance").length = c.H * c.W ∧
      (∀ a, a ≠ "output_img" → a ≠ "img_distance" → sA.fa a = s0.fa a) := by
    subst hA
    refine ⟨hs, by simp [initSt1, setS], by simp [initSt1, setS], fun v h1 h2 => by simp [initSt1, setS, h1, h2], rfl, rfl,
      by simp [initSt1, setS], by simp [initSt1, setS], by simp [initSt1, setS], by simp [initSt1, setS],
      fun a h1 h2 h3 h4 => by simp [initSt1, setS, h1, h2, h3, h4], by simp [initSt1, setS], by simp [initSt1, setS],
      by simp [initSt1, setS], by simp [initSt1, setS], fun a h1 h2 => by simp [initSt1, setS, h1, h2]⟩
  obtain ⟨cA, hA1, wA, iA, feA, exA, s1, s2, s3, s4, sO, l1, l2, fo, ld, fO⟩ := eA
  -- the reset
  obtain ⟨cB, fB, lB1, lB2, vB⟩ := resetPan_exec sA fuel c.W cA wA s1 s2 l1 l2
  rw [exec_seq_run _ _ _ _ cB]
  generalize hB : exec fuel resetPan sA = sB at cB fB lB1 lB2 vB
  -- scan_line, nearest_xs, nearest_ys
  have wB : sB.ienv "width" = c.W := by rw [fB.ienv _ (by simp)]; exact wA
  have h2 : exec fuel
      (.seq (.allocF "scan_line" [(.var "width")] (.lit 0 1))
      (.seq (.allocI "nearest_xs" [(.var "width")] (.lit 0))
      (.seq (.allocI "nearest_ys" [(.var "width")] (.lit 0))
      rest))) sB = exec fuel rest (initSt2 sB c.W) := by
    generalize hX : (exec fuel rest : State F → State F) = X
    simp [il, exec_seq, cB, wB, hX, initSt2]
  rw [h2]
  refine ⟨initSt2 sB c.W, rfl, ?_, ?_, ?_⟩
  · refine ⟨cB, by simp [initSt2, setS, fB.shp, s1], by simp [initSt2, setS, fB.shp, s2], by simp [initSt2, setS],
      by simp [initSt2, setS], by simp [initSt2, setS], by simp [initSt2, setS, fB.shp, sO, inp.img],
      by simp [initSt2, setS, fB.shp, sO, inp.xc], by simp [initSt2, setS, fB.shp, sO, inp.yc], by simp [initSt2, setS, fB.shp, s3],
      by simp [initSt2, setS, fB.shp, s4], by simp [initSt2, setS, fB.shp, sO, inp.tv], by simpa [initSt2, setS] using lB1,
      by simpa [initSt2, setS] using lB2, by simp [initSt2, setS], by simp [initSt2, setS], by simp [initSt2, setS],
      by simp [initSt2, setS, fB.fa, fo], by simpa [initSt2, setS, fB.fa] using ld,
      by simp [initSt2, fB.ienv, hA1], by simp [initSt2, wB],
      by simp [initSt2, fB.ienv, iA], by simp [initSt2, fB.ienv, iA], by simp [initSt2, fB.fenv, feA],
      by simp [initSt2, setS, fB.fa, fO], by simp [initSt2, setS, fB.fa, fO], by simp [initSt2, setS, fB.fa, fO],
      by simp [initSt2, setS, fB.fa, fO], by simp [initSt2, fB.ext, exA]⟩
  · intro q hq; simpa [initSt2, setS] using (vB q hq).1
  · intro j hj
    simp [initSt2, setS, fB.fa, fo, List.getD_eq_getElem?_getD, hj]

/-- between two lines of a pass: the grid stands for the rows `row`, `img_distance` under `R` in the lines `D` that the
    pass has done and under `R'` in the others; `line_proximity` exists once `A` holds -/
structure PassInv (c : Cfg) (R R' : F → Option Nat → Prop) (A : Prop) (s0 st : State F) (pan : List Tgt) (D : Nat → Prop)
    (row : Nat → RowOut) : Prop where
  stat : PNStatic c s0 st
  pan : PanRel c st pan
  lp : A → st.shp "line_proximity" = [c.W] ∧ (st.fa "line_proximity").length = c.W
  out : ∀ r, r < c.H → OutRow c s0 st r (row r).al
  done : ∀ r, r < c.H → D r → (row r).lp.length = c.W ∧
    ∀ p, p < c.W → R ((st.fa "img_distance").getD (r * c.W + p) Fl.nan) ((row r).lp.getD p none)
  todo : ∀ r, r < c.H → ¬ D r → ∀ p, p < c.W → R' ((st.fa "img_distance").getD (r * c.W + p) Fl.nan) ((row r).lp.getD p none)

/-- a line of a pass: line `n` joins the lines done, with the row the line has produced -/
theorem PassInv.step {R R' : F → Option Nat → Prop} {A A' : Prop} {s0 st sE r : State F} {pan pan' : List Tgt}
    {D D' : Nat → Prop} {row row' : Nat → RowOut} {n : Nat} {o : RowOut}
    (inv : PassInv c R R' A s0 st pan D row) (d : LineDone c R s0 sE n r pan' o) (hE : sE.fa = st.fa)
    (hD : ∀ x, x < c.H → (D' x ↔ x = n ∨ D x)) (hrow : ∀ x, row' x = if x = n then o else row x) :
    PassInv c R R' A' s0 r pan' D' row' := by
  have other : ∀ x p, x ≠ n → p < c.W → (r.fa "output_img").getD (x * c.W + p) Fl.nan = (st.fa "output_img").getD (x * c.W + p) Fl.nan ∧
      (r.fa "img_distance").getD (x * c.W + p) Fl.nan = (st.fa "img_distance").getD (x * c.W + p) Fl.nan := fun x p hx hp => by
    rw [← hE]
    rcases Nat.lt_or_gt_of_ne hx with h | h
    · exact d.rest _ (Or.inl (rowMajor_lt h hp))
    · exact d.rest _ (Or.inr (idx_ge x n c.W p h))
  refine ⟨d.stat, d.pan, fun _ => ⟨d.slp, d.llp⟩, fun x hx => ?_, fun x hx hd => ?_, fun x hx hd p hp => ?_⟩
  · rw [hrow]
    split
    · next h => rw [h]; exact d.out
    · next h => exact ⟨(inv.out x hx).1, fun p hp => by rw [(other x p h hp).1]; exact (inv.out x hx).2 p hp⟩
  · rw [hrow]
    split
    · next h => rw [h]; exact ⟨d.olen, d.row⟩
    · next h =>
      have hd' := inv.done x hx (((hD x hx).1 hd).resolve_left h)
      exact ⟨hd'.1, fun p hp => by rw [(other x p h hp).2]; exact hd'.2 p hp⟩
  · have h : x ≠ n := fun h => hd ((hD x hx).2 (Or.inl h))
    rw [hrow, if_neg h, (other x p h hp).2]
    exact inv.todo x hx (fun h' => hd ((hD x hx).2 (Or.inr h'))) p hp

/-- invariant of the top-down pass after `n` lines -/
abbrev TDInv (c : Cfg) (emb : Nat → F) (tg : Nat → Nat → Bool) (s0 : State F) (n : Nat) (st : State F) : Prop :=
  PassInv c (lpRel emb) (fun _ _ => True) (0 < n) s0 st (tdN c tg n).1 (· < n) (tdRow c tg n)

/-- the top-down pass is `Prox.tdN … c.H` -/
theorem tdPass_refines (s0 st : State F) (fuel : Nat) (inp : PNInput c emb tg s0) (h0 : TDInv c emb tg s0 0 st) :
    (exec fuel tdPass st).ctl = .run ∧ TDInv c emb tg s0 c.H (exec fuel tdPass st) := by
  refine forRange_up "line" (.var "height") tdLine st fuel c.H h0.stat.run rfl (by simp [IE.eval, h0.stat.height])
    (fun n r => TDInv c emb tg s0 n r) h0 ?_
  intro n hn st1 hst1 inv
  have hout := inv.out n hn
  rw [tdRow_ge c tg (Nat.le_refl n)] at hout
  have d := tdLine_done inp (inv.stat.setLine n) hn (setS_same st1.ienv "line" (n : Int)) (show PanRel c _ _ from inv.pan) hout fuel
  rw [afterBody_run _ d.stat.run]
  exact ⟨d.stat.run, inv.step d rfl (fun x _ => by omega) (tdRow_succ c tg n)⟩

/-- invariant of the bottom-up pass after the last `k` lines; `td` = the rows the top-down pass produced -/
abbrev BUInv (c : Cfg) (emb : Nat → F) (tg : Nat → Nat → Bool) (s0 : State F) (td : List RowOut) (k : Nat)
    (st : State F) : Prop :=
  PassInv c (lpFin emb) (lpRel emb) (0 < c.H) s0 st (buN c tg td k).1 (c.H - k ≤ ·) (buRow c tg td k)

/-- the bottom-up pass is `Prox.buN … c.H` -/
theorem buPass_refines (s0 st : State F) (fuel : Nat) (inp : PNInput c emb tg s0) (td : List RowOut)
    (tdlen : ∀ r, r < c.H → (td.getD r (blankRow c)).lp.length = c.W)
    (h0 : BUInv c emb tg s0 td 0 st) :
    (exec fuel buPass st).ctl = .run ∧ BUInv c emb tg s0 td c.H (exec fuel buPass st) := by
  refine forRange_down "line" (.bin .sub (.var "height") (.lit 1)) buLine st fuel c.H h0.stat.run rfl
    (by simp [il, h0.stat.height]) (fun n r => BUInv c emb tg s0 td n r) h0 ?_
  intro k hk st1 hst1 inv
  have hn : c.H - 1 - k < c.H := by omega
  have hout := inv.out _ hn
  have hto := inv.todo _ hn (by omega)
  rw [buRow_lt c tg td (by omega)] at hout hto
  have d := buLine_done inp (inv.stat.setLine _) hn (setS_same st1.ienv "line" _) (inv.lp (by omega)).1 (inv.lp (by omega)).2
    (show PanRel c _ _ from inv.pan) (tdlen _ hn) hto hout fuel
  rw [afterBody_run _ d.stat.run]
  exact ⟨d.stat.run, inv.step d rfl (fun x _ => by omega) (buRow_succ c tg td hk)⟩

omit emb in
theorem tdN_zero (c : Cfg) (tg : Nat → Nat → Bool) : tdN c tg 0 = (List.replicate c.W none, []) := rfl

/-- `processNumpy_refines` for the template `pnBody` -/
theorem pnBody_refines (s0 : State F) (fuel : Nat) (inp : PNInput c emb tg s0) :
    (exec fuel pnBody s0).ctl = .ret ∧
    (exec fuel pnBody s0).shp "img_distance" = [c.H, c.W] ∧ (exec fuel pnBody s0).shp "output_img" = [c.H, c.W] ∧
    ((exec fuel pnBody s0).fa "img_distance").length = c.H * c.W ∧
    ((exec fuel pnBody s0).fa "output_img").length = c.H * c.W ∧
    ∀ r, r < c.H → ∀ p, p < c.W →
      lpFin emb (((exec fuel pnBody s0).fa "img_distance").getD (r * c.W + p) Fl.nan) (proxAt (run c tg) r p) ∧
      ((exec fuel pnBody s0).fa "output_img").getD (r * c.W + p) Fl.nan =
        outVal (s0.ienv "process_mode") (s0.fa "img") (s0.fa "x_coords") (s0.fa "y_coords") c.W r p
          (allocAt (run c tg) r p) := by
  obtain ⟨sI, hI, statI, panI, outI⟩ := pnInit_exec s0 fuel inp
    (.seq tdPass (.seq resetPan (.seq buPass (.ite (.cmpI .eq (.var "process_mode") (.lit 0)) .ret .ret))))
  rw [pnBody, hI]
  -- top-down
  have inv0 : TDInv c emb tg s0 0 sI :=
    ⟨statI, ⟨by simp [tdN_zero], fun q hq => by simp only [tdN_zero, Prox.getD_replicate_none]; exact panI q hq⟩,
     fun h => absurd h (Nat.lt_irrefl 0),
     fun r hr => ⟨by simp [tdRow, tdN_zero, blankRow], fun p hp => by
       rw [outI _ (rowMajor_lt hr hp)]; simp [tdRow, tdN_zero, blankRow, Prox.getD_replicate_none, outVal]⟩,
     fun r _ hr => absurd hr (Nat.not_lt_zero r), fun _ _ _ _ _ => trivial⟩
  obtain ⟨c1, inv1⟩ := tdPass_refines s0 sI fuel inp inv0
  rw [exec_seq_run _ _ _ _ c1]
  generalize exec fuel tdPass sI = s1 at c1 inv1
  -- reset of pan_near
  obtain ⟨c2, f2, l2x, l2y, v2⟩ := resetPan_exec s1 fuel c.W c1 inv1.stat.width inv1.stat.px inv1.stat.py
    inv1.stat.lpx inv1.stat.lpy
  rw [exec_seq_run _ _ _ _ c2]
  generalize exec fuel resetPan s1 = s2 at c2 f2 l2x l2y v2
  have hfa2 : s2.fa = s1.fa := funext fun a => f2.fa a (by simp)
  have stat2 : PNStatic c s0 s2 :=
    inv1.stat.of_agree c2 (fun a _ => congrFun f2.shp a) (fun v _ hi _ => f2.ienv v hi) (congrFun f2.fenv _)
      (fun a _ _ _ _ => congrFun hfa2 a) f2.ext l2x l2y (by rw [f2.ia _ (by simp)]; exact inv1.stat.lnx)
      (by rw [f2.ia _ (by simp)]; exact inv1.stat.lny) (by rw [hfa2]; exact inv1.stat.lscan)
      (by rw [hfa2]; exact inv1.stat.lout) (by rw [hfa2]; exact inv1.stat.ldist)
  -- bottom-up
  have invB0 : BUInv c emb tg s0 (tdN c tg c.H).2 0 s2 :=
    ⟨stat2, ⟨by simp [buN], fun q hq => by simp only [buN, Prox.getD_replicate_none]; exact (v2 q hq).1⟩,
     fun h => by rw [f2.shp, hfa2]; exact inv1.lp h,
     fun r hr => by rw [buRow_lt _ _ _ (by omega)]; exact (inv1.out r hr).congr (by rw [hfa2]),
     fun r hr1 hr2 => by omega,
     fun r hr _ p hp => by rw [hfa2, buRow_lt _ _ _ (by omega)]; exact (inv1.done r hr hr).2 p hp⟩
  obtain ⟨c3, inv3⟩ := buPass_refines s0 s2 fuel inp (tdN c tg c.H).2 (fun r hr => (inv1.done r hr hr).1) invB0
  rw [exec_seq_run _ _ _ _ c3]
  generalize exec fuel buPass s2 = s3 at c3 inv3
  have hfin : exec fuel (.ite (.cmpI .eq (.var "process_mode") (.lit 0)) .ret .ret) s3 = { s3 with ctl := .ret } := by
    rw [exec_ite _ _ _ _ _ rfl]
    split <;> simp [exec]
  rw [hfin]
  refine ⟨rfl, inv3.stat.dist, inv3.stat.out, inv3.stat.ldist, inv3.stat.lout, ?_⟩
  intro r hr p hp
  simp only [proxAt, allocAt, rowAt_run c tg hr]
  exact ⟨(inv3.done r hr (by omega)).2 p hp, (inv3.out r hr).2 p hp⟩

/-- the generated `_process._process_numpy` refines `Prox.run`: on inputs satisfying `PNInput` (well-formed
    arrays; `Arith` and `-1.0 < 0` for the number domain; `_distance² = emb ∘ dist2`; target test = `tg`) the program
    returns, `img_distance` and `output_img` are `H × W`, and for every cell `(r, p)`:
    * `img_distance[r, p]` is NaN iff the model's `proxAt` is `none`, otherwise it is non-negative and its square is
      the embedded squared proximity of the model;
    * `output_img[r, p]` is the value `outVal` of the model's `allocAt`: NaN for `none`; in ALLOCATION mode the
      raster value at that target, in DIRECTION mode `dirF` (= `_calc_direction`) from the cell to that target. -/
theorem processNumpy_refines (s0 : State F) (fuel : Nat) (inp : PNInput c emb tg s0) :
    let r := Gen.IL.processNumpy.run s0 fuel
    r.ctl = .ret ∧ r.shp "img_distance" = [c.H, c.W] ∧ r.shp "output_img" = [c.H, c.W] ∧
    (r.fa "img_distance").length = c.H * c.W ∧ (r.fa "output_img").length = c.H * c.W ∧
    ∀ row, row < c.H → ∀ p, p < c.W →
      lpFin emb ((r.fa "img_distance").getD (row * c.W + p) Fl.nan) (proxAt (run c tg) row p) ∧
      (r.fa "output_img").getD (row * c.W + p) Fl.nan =
        outVal (s0.ienv "process_mode") (s0.fa "img") (s0.fa "x_coords") (s0.fa "y_coords") c.W row p
          (allocAt (run c tg) row p) := by
  simp only [Prog.run, processNumpy_is_template]
  exact pnBody_refines s0 fuel inp

end XrsVerif.IL.Px
