import XrsVerif.Proofs.ViewshedSweep
import XrsVerif.Proofs.ViewshedDelExact
import XrsVerif.Proofs.ViewshedOutput
import XrsVerif.Proofs.ViewshedEvents
import XrsVerif.Proofs.ViewshedDiscipline
import XrsVerif.Proofs.ViewshedWrapper
import XrsVerif.Gen.ViewshedFacts
import XrsVerif.Proofs.ILViewshedOrder
import XrsVerif.Proofs.ILViewshedRot
import XrsVerif.Proofs.ILViewshedWalk
import XrsVerif.Proofs.ILViewshedInsProg
import XrsVerif.Proofs.ILViewshedDel
import XrsVerif.Proofs.ILViewshedFixRot
import XrsVerif.Proofs.ILVsNV
import XrsVerif.Proofs.ILVsSweepQry
import XrsVerif.Proofs.ILVsSweepSetup
import XrsVerif.Proofs.ILViewshedDelRefines
import XrsVerif.Proofs.ILViewshedDelOrder
import Mathlib.Tactic.Positivity
/-
  C05 -- viewshed marks a cell visible exactly when the line-of-sight model says so.

  The statements are about `Model/Viewshed.lean` (the status tree, its query, rotations, insertion,
  deletion and the sweep, tied to xrspatial/viewshed.py by the seams of harness/corr_C05.py), about
  `Gen.viewshed_vertical_ang` (the translation of `_get_vertical_ang`, regenerated every run) and about
  `Gen.Viewshed.*` (facts read from the source every run).  Numbers are the elements of an arbitrary
  linearly ordered field: the interpolation is exact; float rounding of `+ - * /` and the values of
  `atan` / `sqrt` are covered only by the correspondence run, which feeds the model the doubles the
  real code produced.

  The line-of-sight model (the property's "model the function implements") is `visL`: a cell with key
  (squared distance) `k`, bearing `ang` and gradient `g` is visible iff no active cell with a smaller
  key that spans `ang` has an interpolated gradient greater than `g`.

  What is proved, and what is not:
    * `query_decides`            the two-phase tree query decides exactly `visL` on every tree with ordered
                                 keys whose stored maxima below the root never overestimate (`AugLeQ`; the
                                 root's own maximum is never read);
    * `sweep_refines`, `sweep_refines_of_checked_run`
                                 hence the sweep run with the tree reports the same visible cells as the
                                 sweep run with the list, provided every reached tree state is related
                                 to the list state (`Rel`: BST, AugLeQ, same nodes);
    * `rotate_preserves`, `fixups_preserve`, `leaf_insert_preserves`
                                 rotations (with the code's augmentation repair), recolourings and the
                                 insertion with its upward propagation preserve `Rel`, for all trees;
    * `delete_preserves_of_no_tie`
                                 the deletion (splice / successor copy with the loops L1 / L2 and the
                                 recomputations of the code) followed by any fixup preserves `Rel` and keeps the
                                 stored maxima EXACT whenever no two nodes of the tree tie in their minimum
                                 gradient; with `leaf_insert_exact` and `fixups_preserve_exact`, "`Rel` holds in
                                 every reachable state" is a theorem for tie-free sweeps (`tie_free_run_related`);
    * `delete_preserves_partial` with ties: the deletion still preserves the key order and removes exactly the
                                 node asked for, but it does NOT in general preserve "no overestimate":
                                 `delete_can_overestimate` exhibits a tree, satisfying every invariant, on which
                                 the code's augmentation repairs leave a stored maximum above the true one.  So
                                 for sweeps with gradient ties (plateaus) "`Rel` holds in every reachable state"
                                 is NOT a theorem; it is monitored after every operation of every generated run
                                 (seam 1 of the correspondence).  In the real sweeps found so far the
                                 overestimate sits at the root, whose maximum the query never reads (`AugLeQ`
                                 still holds, so `query_decides` still applies).
    * the output rule            observer 180, invisible -1, visible = the vertical angle, which lies in
                                 (0, 180) and is 90 exactly for a level target, over hypotheses on `atan`.
    * the event geometry (section 6, `Model/ViewshedEvents.lean`, exact integers / rationals, for ALL raster sizes,
      observer positions and terrains):
        `three_events_per_cell`, `event_count`   every non-observer cell yields exactly ENTER, CENTER, EXIT;
        `enter_corner_smallest_exit_corner_largest`
                                 which corner `_calc_event_pos` calls entering / exiting (the if-chain is read from the
                                 source) IS the corner of smallest / largest bearing, by exact cross products;
        `initial_iff_span_contains_bearing_zero`, `initial_status_set`
                                 the cells put into the status structure before the sweep are exactly those whose span
                                 contains bearing 0: the observer's row, strictly east;
        `corner_elevation_local`, `corner_elevation_value`, `corner_cells_are_the_block_at_the_corner`
                                 a corner elevation is the mean of the 2 x 2 block at the corner (own elevation at the
                                 border) and depends on nothing else;
        `initial_fill_uses_corner_elevations`, `init_fill_buffer_written_after_corner_elevations`
                                 the observer-row buffer that seeds the status structure carries those corner elevations
                                 (model), and the source writes it after computing them (fact read from the source);
        `events_sorted`, `cell_events_in_sweep_order`
                                 the sorted list is a permutation of the events in the lexsort order (bearing by half
                                 plane + cross product, then type); in it a cell's events come ENTER, CENTER, EXIT -- on
                                 the east ray CENTER, EXIT, ENTER;
        `cell_operation_sequence`, `insert_delete_counts`, `sweep_discipline`, `sweep_without_initial_fill_breaks`
                                 over initial fill + sweep every cell is inserted, queried, deleted in this order (east ray:
                                 and re-inserted at the very end); an insertion never meets an active cell, a query or
                                 deletion always does; without the initial fill this fails.
    * the generated status-tree routines (section 7, layer T3): `generated_query_decides` -- the program translated
      statement by statement from `_max_grad_in_status_struct` decides line of sight on every state whose arrays hold a
      well-linked BST without overestimates below the root; `generated_rotations_are_model_rotations`,
      `generated_rotation_at_path`, `generated_left_rotation_preserves`, `generated_small_routines`, `generated_tree_successor`;
      `generated_insert_is_model_insert` -- the program translated from `_insert_into_tree` (with `_rb_insert_fixup` and
      its rotations inlined) leaves arrays holding the model's complete insertion `rbInsert`, which preserves `Rel` and `AugLe`;
      `generated_delete_is_pass_form`, `generated_delete_is_model_delete` -- the program translated from `_delete_from_tree`
      (with `_rb_delete_fixup` inlined) leaves arrays holding `rbDelete`: `delCore` followed by rotations and recolourings.
    * the generated event geometry, event list, output rule and sweep (section 8, layer T3):
        `generated_event_corner_cell`, `generated_event_point`, `generated_corners_are_extreme`, `generated_bearing`,
        `generated_vertical_angle_range`, `generated_event_list`
                                 the programs translated from `_calculate_event_row_col`, `_calc_event_pos`, `_calculate_angle`,
                                 `_get_vertical_ang`, `_init_event_list` compute the hand model of sections 5 and 6;
        `generated_sweep_template`, `generated_sweep_setup`, `generated_center_event`, `generated_query_contract`,
        `generated_tree_routines_are_renamings`
                                 the generated `_viewshed_cpu_sweep` is a template around four inlined tree routines, each a
                                 renaming of its stand-alone program; its set-up builds `initTree`; a CENTER event decides
                                 line of sight and writes the vertical angle, over the (discharged) contract of the query;
        `generated_sweep_partial`  PARTIAL: the contracts of the inlined insertion / deletion stay hypotheses and the two
                                 loops are not closed by induction.
    * the wrapper glue (section 9, `Model/ViewshedWrapper.lean` interpreting the facts read from `_viewshed_cpu`):
        `wrapper_source_shape`, `observer_cell_is_nearest_centre`, `resolution_is_coordinate_spacing`,
        `wrapper_feeds_the_sweep_the_model_inputs`, `observer_outside_is_value_error`
                                 for all coordinate arrays (ascending / descending, any spacing) the observer's cell is a cell
                                 whose centre is nearest; on equally spaced coordinates the cell sizes passed to the kernels are
                                 the signed coordinate steps (no attribute enters), so every key is the squared distance between
                                 coordinates; each quantity is passed in the position of the kernel parameter that means it.
      NOT in the model: the float value of a bearing (`atan`), of a gradient (`atan`, `sqrt`) -- compared by seam 0 / the
      geometric oracle of the correspondence; NaN terrains (outside the property's quantifier).
-/
set_option linter.unusedSectionVars false
set_option linter.unusedVariables false
namespace XrsVerif.C05
open XrsVerif XrsVerif.Viewshed

variable {α : Type} [Field α] [LinearOrder α] [IsStrictOrderedRing α]

/-! ### 1. the query -/

/-- **The status-tree query decides line of sight.**  `t`: any tree with strictly ordered keys whose
    stored maxima below the root never overestimate (`AugLe` implies it); `K` a key of the tree; every node nearer than `K` spans the
    bearing (or has a minimum gradient ≤ `g`, which is how the permanent sentinel node is exempted).
    Then the caller's test `max <= gradient` holds iff no nearer node spanning the bearing has a
    greater interpolated gradient. -/
theorem query_decides {S : α} {t : Viewshed.Tree α} (K ang g : α) (hS : S ≤ g) (hb : BST t) (ha : AugLeQ S t)
    (hK : ∃ n ∈ t.toList, n.key = K)
    (hact : ∀ n ∈ t.toList, n.key < K → spans n ang = true ∨ minv n ≤ g) :
    query S t K ang g ≤ g ↔ ∀ n ∈ t.toList, n.key < K → spans n ang = true → itp n ang ≤ g :=
  query_decides' K ang g hS hb ha hK hact

/-- non-vacuity: a three-node tree whose root underestimates (stored 1, true maximum 2) satisfies the
    hypotheses, and the query at key 3 sees the gradient-2 node in the left child's stored maximum (phase 1) -/
example :
    let n1 : Node ℚ := ⟨1, 2, 2, 2, 0, 1, 2⟩
    let n2 : Node ℚ := ⟨2, 1, 1, 1, 0, 1, 2⟩
    let n3 : Node ℚ := ⟨3, 0, 0, 0, 0, 1, 2⟩
    let t : Viewshed.Tree ℚ := .node (.node .nil n1 2 true .nil) n2 1 false (.node .nil n3 0 true .nil)
    BST t ∧ AugLeQ (-5) t ∧ ¬ Exact (-5) t ∧ query (-5) t 3 1 0 = 2 ∧ visL t.toList 3 1 0 = false := by
  refine ⟨?_, ?_, ?_, ?_, ?_⟩
  · rw [← bstB_iff]; decide
  · rw [← augLeQB_iff]; decide
  · rw [← exactB_iff]; decide
  · decide
  · decide

/-- the interpolated gradient of a spanning node is never below its minimum gradient: the reason a
    maximum of minima may be used as a shortcut -/
theorem min_gradient_le_interpolated (n : Node α) (ang : α) (h : spans n ang = true) : minv n ≤ itp n ang :=
  minv_le_itp n ang h

/-- the interpolation is linear corner - centre - corner -/
theorem interpolation_endpoints (n : Node α) (h0 : n.a0 < n.a1) (h2 : n.a1 < n.a2) :
    itp n n.a0 = n.g0 ∧ itp n n.a1 = n.g1 ∧ itp n n.a2 = n.g2 :=
  ⟨itp_enter n h0, itp_centre n, itp_exit n h2⟩

/-- colours never influence the query (balance is performance, not correctness) -/
theorem query_colour_irrelevant (S : α) (f : List Dir → Bool → Bool) (t : Viewshed.Tree α) (K ang g : α) :
    query S (recolour f [] t) K ang g = query S t K ang g := by
  unfold query
  rw [recolour_contains, recolour_short, recolour_toList]

/-! ### 2. the sweep with the tree is the sweep with the list -/

/-- on related states the tree decides what the line-of-sight rule says -/
theorem visible_iff_line_of_sight {S : α} {d : Node α} {t : Viewshed.Tree α} {st : List (Node α)} {k ang g : α}
    (hr : Rel S d t st) (hq : QOK S d st k ang g) :
    visT S t k ang g = true ↔ ∀ n ∈ st, n.key < k → spans n ang = true → itp n ang ≤ g := by
  rw [visT_eq_visL hr hq, visL_iff]

/-- **Refinement, given that each tree operation preserves `BST ∧ AugLeQ ∧ (nodes = abstract set)`**:
    the L1 sweep run with any such implementation of the status structure reports exactly the visible
    cells of the L1 sweep run with the list. -/
theorem sweep_refines {S : α} {d : Node α} (O : TreeOps α) (hp : Preserves S d O)
    (ops : List (Op α)) (t : Viewshed.Tree α) (st : List (Node α)) (hr : Rel S d t st) (ho : OpsOK S d st ops) :
    runT S O t ops = runL st ops :=
  sweep_refines_along O ops t st (invAlong_of_preserves O hp ops t st hr ho) ho

/-- the same for one run whose every state is related (what the correspondence checks on the real
    arrays after every operation): nothing is assumed about the implementation -/
theorem sweep_refines_of_checked_run {S : α} {d : Node α} (O : TreeOps α)
    (ops : List (Op α)) (t : Viewshed.Tree α) (st : List (Node α))
    (hi : InvAlong S d O t st ops) (ho : OpsOK S d st ops) : runT S O t ops = runL st ops :=
  sweep_refines_along O ops t st hi ho

/-- non-vacuity of `Rel` / `QOK` / `OpsOK`: the initial structure (dummy only) is related to the empty
    active set, and a two-cell run satisfies the operation conditions -/
example : Rel (-100 : ℚ) (dummy (-100) 0 (-1)) (initTree (-100) 0 (-1)) [] := by
  refine ⟨?_, ?_, ?_⟩
  · rw [← bstB_iff]; decide
  · rw [← augLeQB_iff]; decide
  · intro n; simp [initTree, Tree.toList]

example :
    let a : Node ℚ := ⟨1, 1, 1, 1, -1, 0, 1⟩
    let b : Node ℚ := ⟨4, 0, 0, 0, -1, 0, 1⟩
    OpsOK (-100 : ℚ) (dummy (-100) 0 (-1)) [] [.ins a, .ins b, .qry 4 0 0, .del 1, .qry 4 (1/2) 0] ∧
      runL ([] : List (Node ℚ)) [.ins a, .ins b, .qry 4 0 0, .del 1, .qry 4 (1/2) 0] = [false, true] ∧
      runT (-100) (coreOps (-100)) (initTree (-100) 0 (-1)) [.ins a, .ins b, .qry 4 0 0, .del 1, .qry 4 (1/2) 0]
        = [false, true] := by
  refine ⟨?_, by decide +kernel, by decide +kernel⟩
  simp only [OpsOK, OpOK, QOK, stepL, dummy]
  refine ⟨⟨by norm_num, by simp⟩, ⟨by norm_num, by simp⟩, ?_, trivial, ?_, trivial⟩
  · refine ⟨by norm_num, ⟨_, List.mem_cons_self, rfl⟩, ?_, by decide +kernel, by decide +kernel⟩
    intro n hn hk
    simp only [List.mem_cons, List.not_mem_nil, or_false] at hn
    rcases hn with rfl | rfl
    · exact absurd hk (lt_irrefl _)
    · decide
  · refine ⟨by norm_num, ?_, ?_, by decide +kernel, by decide +kernel⟩
    · exact ⟨⟨4, 0, 0, 0, -1, 0, 1⟩, by decide +kernel, rfl⟩
    · intro n hn hk
      have : n = (⟨4, 0, 0, 0, -1, 0, 1⟩ : Node ℚ) := by
        simp only [List.mem_filter, List.mem_cons, List.not_mem_nil, or_false] at hn
        rcases hn.1 with rfl | rfl
        · rfl
        · exact absurd hn.2 (by decide)
      subst this
      exact absurd hk (lt_irrefl _)

/-! ### 3. which operations preserve the relation -/

/-- a single rotation anywhere in the tree, with the code's recomputation of the two stored maxima,
    keeps the key order, the nodes, "no overestimate" and exactness -/
theorem rotate_preserves (S : α) (p : List Dir) {t : Viewshed.Tree α} :
    ((atPath (rotL S) p t).toList = t.toList ∧ (atPath (rotR S) p t).toList = t.toList) ∧
    (BST t → BST (atPath (rotL S) p t) ∧ BST (atPath (rotR S) p t)) ∧
    (AugLe S t → AugLe S (atPath (rotL S) p t) ∧ AugLe S (atPath (rotR S) p t)) ∧
    (Exact S t → Exact S (atPath (rotL S) p t) ∧ Exact S (atPath (rotR S) p t)) :=
  have hL := (respects_rotL S).atPath p
  have hR := (respects_rotR S).atPath p
  ⟨⟨hL.toList t, hR.toList t⟩, fun h => ⟨hL.bst h, hR.bst h⟩, fun h => ⟨hL.augLe h, hR.augLe h⟩,
    fun h => ⟨hL.exact h, hR.exact h⟩⟩

/-- whatever `_rb_insert_fixup` / `_rb_delete_fixup` do (any sequence of rotations and recolourings,
    see `fixups_only_recolour_and_rotate`) preserves the relation to the abstract set -/
theorem fixups_preserve {S : α} {d : Node α} {t u : Viewshed.Tree α} {st : List (Node α)}
    (h : Rebal S t u) (hr : Rel S d t st) : Rel S d u st :=
  ⟨h.bst hr.1, h.augLeQ hr.2.1, fun n => by rw [h.toList]; exact hr.2.2 n⟩

/-- ... and exactness and "no overestimate anywhere" -/
theorem fixups_preserve_exact {S : α} {t u : Viewshed.Tree α} (h : Rebal S t u) :
    (Exact S t → Exact S u) ∧ (AugLe S t → AugLe S u) :=
  ⟨h.exact, h.augLe⟩

/-- `_insert_into_tree`: descent, new red leaf, upward propagation of its minimum gradient (which never
    overestimates), then any fixup: the relation is preserved and the new cell joins the active set -/
theorem leaf_insert_preserves {S : α} {d : Node α} {t u : Viewshed.Tree α} {st : List (Node α)} (n : Node α)
    (hr : Rel S d t st) (hd : n.key ≠ d.key) (hfresh : ∀ m ∈ st, m.key ≠ n.key)
    (hu : Rebal S (leafInsert n t) u) : Rel S d u (n :: st) := by
  obtain ⟨hb, ha, hm⟩ := hr
  refine fixups_preserve hu ⟨?_, insCore_AugLeQ S n ha, fun a => ?_⟩
  · refine insCore_BST n hb (fun m hm' => ?_)
    rcases (hm m).mp hm' with rfl | hm'
    · exact fun h => hd h.symm
    · exact hfresh m hm'
  · unfold leafInsert
    rw [insCore_toList, hm, List.mem_cons]
    exact or_left_comm

/-- insertion also keeps exactness of the stored maxima -/
theorem leaf_insert_exact {S : α} {t : Viewshed.Tree α} (n : Node α) (h : Exact S t) (hS : S ≤ minv n) :
    Exact S (leafInsert n t) :=
  (insCore_Exact_aux S n h hS).1

/-- `_delete_from_tree` (PARTIAL: everything except "no overestimate").  The splice / successor copy,
    with whatever the augmentation repairs store, followed by any fixup: the key is found, the keys stay
    strictly ordered and exactly the node with that key leaves the tree.  `AugLe S u` is false in
    general, see `delete_can_overestimate`. -/
theorem delete_preserves_partial {S : α} {d : Node α} {t : Viewshed.Tree α} {st : List (Node α)} (k : α)
    (hr : Rel S d t st) (hk : ∃ n ∈ st, n.key = k) (hd : d.key ≠ k) :
    ∃ c, delCore S k t = some c ∧ ∀ u, Rebal S c u →
      BST u ∧ ∀ n, n ∈ u.toList ↔ (n = d ∨ n ∈ st.filter fun m => !(eqv m.key k)) := by
  obtain ⟨hb, ha, hm⟩ := hr
  obtain ⟨kn, hkn, hkk⟩ := hk
  have hsome := del_isSome S k ⟨kn, (hm kn).mpr (Or.inr hkn), hkk⟩ hb
  obtain ⟨res, hres⟩ := Option.isSome_iff_exists.mp hsome
  have hc : delCore S k t = some (if res.atY then refresh S res.t else res.t) := by simp [delCore, hres]
  refine ⟨_, hc, fun u hu => ?_⟩
  obtain ⟨hb', hm'⟩ := delCore_spec S k hc hb
  refine ⟨hu.bst hb', fun n => ?_⟩
  rw [hu.toList, hm', hm, List.mem_filter]
  simp only [Bool.not_eq_eq_eq_not, Bool.not_true, ← Bool.not_eq_true, eqv_iff]
  constructor
  · rintro ⟨rfl | h, hne⟩
    · exact Or.inl rfl
    · exact Or.inr ⟨h, hne⟩
  · rintro (rfl | ⟨h, hne⟩)
    · exact ⟨Or.inl rfl, hd⟩
    · exact ⟨Or.inr h, hne⟩

/-- **`_delete_from_tree` without gradient ties.**  If the stored maxima are exact, no two nodes of the
    tree have the same minimum gradient and only nodes nearer than the deleted one carry the sentinel
    (the dummy), then the splice / successor copy with the code's augmentation repairs (loops L1, L2,
    recomputations F1, C), followed by any fixup, leaves a tree that is again exact, ordered, and holds
    exactly the remaining nodes. -/
theorem delete_preserves_of_no_tie {S : α} {d : Node α} {t : Viewshed.Tree α} {st : List (Node α)} (k : α)
    (hr : Rel S d t st) (he : Exact S t) (hk : ∃ n ∈ st, n.key = k) (hd : d.key ≠ k)
    (hnotie : ∀ a ∈ t.toList, ∀ b ∈ t.toList, minv a = minv b → a.key = b.key)
    (hsent : ∀ n ∈ t.toList, minv n = S → n.key < k) :
    ∃ c, delCore S k t = some c ∧ ∀ u, Rebal S c u →
      Exact S u ∧ Rel S d u (st.filter fun m => !(eqv m.key k)) := by
  obtain ⟨c, hc, hpart⟩ := delete_preserves_partial k hr hk hd
  refine ⟨c, hc, fun u hu => ?_⟩
  have hex := hu.exact (delCore_exact S k hc ⟨hr.1, he, fun a ha b hb _ => hnotie a ha b hb, hsent⟩)
  exact ⟨hex, (hpart u hu).1, hex.augLe.toQ, (hpart u hu).2⟩

/-- non-vacuity: a four-node tree with pairwise different minimum gradients, exact maxima, key 2 with two
    children (successor copy) -- the hypotheses hold and the result is exact -/
example :
    let f : ℤ → ℤ → Node ℤ := fun k v => ⟨k, v, v, v, 0, 1, 2⟩
    let t : Viewshed.Tree ℤ := .node (.node .nil (f 0 (-9)) (-9) false .nil) (f 2 1) 5 false
      (.node (.node .nil (f 3 5) 5 true .nil) (f 4 2) 5 false .nil)
    BST t ∧ Exact (-9) t ∧ (∀ a ∈ t.toList, ∀ b ∈ t.toList, minv a = minv b → a.key = b.key) ∧
      (∀ n ∈ t.toList, minv n = -9 → n.key < 2) ∧ ∃ u, delCore (-9) 2 t = some u ∧ Exact (-9) u := by
  refine ⟨?_, ?_, by decide, by decide, _, rfl, ?_⟩
  · rw [← bstB_iff]; decide
  · rw [← exactB_iff]; decide
  · rw [← exactB_iff]; decide

/-- **For sweeps without gradient ties the relation holds in every reachable state** -- for every
    implementation that performs the model's insertion / deletion followed by rotations and
    recolourings (`Impl`, which is what the correspondence observes of the real code). -/
theorem tie_free_run_related {S : α} {d : Node α} (O : TreeOps α) (hO : Impl S O) :
    ∀ (ops : List (Op α)) (t : Viewshed.Tree α) (st : List (Node α)),
      Rel S d t st → Exact S t → OpsOK S d st ops → NoTieOps S d st ops → InvAlong S d O t st ops := by
  intro ops
  induction ops with
  | nil => intro t st hr _ _ _; exact hr
  | cons op ops ih =>
    intro t st hr he ho hn
    obtain ⟨hok, ho'⟩ := ho
    obtain ⟨hnt, hn'⟩ := hn
    refine ⟨hr, ?_⟩
    cases op with
    | ins n =>
      have hu := hO.1 n t
      exact ih _ _ (leaf_insert_preserves n hr hok.1 hok.2 hu) (hu.exact (leaf_insert_exact n he hnt)) ho' hn'
    | del k =>
      obtain ⟨hk, hd, hnotie, hsent⟩ := hnt
      have hmem : ∀ n, n ∈ t.toList → n ∈ d :: st := fun n hn => List.mem_cons.mpr ((hr.2.2 n).mp hn)
      obtain ⟨c, hc, hall⟩ := delete_preserves_of_no_tie k hr he hk hd
        (fun a ha b hb => hnotie a (hmem a ha) b (hmem b hb)) (fun n hn => hsent n (hmem n hn))
      obtain ⟨hex, hrel⟩ := hall _ (hO.2 k t c hc)
      exact ih _ _ hrel hex ho' hn'
    | qry k ang g => exact ih _ _ hr he ho' hn'

/-- hence, for tie-free sweeps, the run with the real structure reports exactly the line-of-sight rule -/
theorem tie_free_sweep_correct {S : α} {d : Node α} (O : TreeOps α) (hO : Impl S O)
    (ops : List (Op α)) (t : Viewshed.Tree α) (st : List (Node α))
    (hr : Rel S d t st) (he : Exact S t) (ho : OpsOK S d st ops) (hn : NoTieOps S d st ops) :
    runT S O t ops = runL st ops :=
  sweep_refines_along O ops t st (tie_free_run_related O hO ops t st hr he ho hn) ho

/-- non-vacuity: the model's own operations (no rebalancing at all) are such an implementation, and the
    two-cell run above is tie-free -/
example (S : α) : Impl S (coreOps S) :=
  ⟨fun n t => Rebal.refl _, fun k t c h => by simp only [coreOps, h, Option.getD_some]; exact Rebal.refl _⟩

example :
    let a : Node ℚ := ⟨1, 1, 1, 1, -1, 0, 1⟩
    let b : Node ℚ := ⟨4, 0, 0, 0, -1, 0, 1⟩
    NoTieOps (-100 : ℚ) (dummy (-100) 0 (-1)) [] [.ins a, .ins b, .qry 4 0 0, .del 1, .qry 4 (1/2) 0] := by
  simp only [NoTieOps, stepL, dummy]
  refine ⟨by decide +kernel, by decide +kernel, trivial, ⟨⟨⟨1, 1, 1, 1, -1, 0, 1⟩, by decide +kernel, rfl⟩, by norm_num, ?_, ?_⟩, trivial, trivial⟩
  · decide +kernel
  · decide +kernel

/-- **`AugLe` is not an invariant of the code's deletion.**  A five-node tree (keys 0,1,2,3,5; minimum
    gradients -9,0,2,0,0) with ordered keys and no overestimate -- its root stores 1 where the true
    maximum is 2, an underestimate left by earlier deletions -- on which deleting key 2 leaves the root's
    stored maximum (1) above the true maximum of what remains (0).  Found by exhaustive exploration of
    the real `_insert_into_tree` / `_delete_from_tree` on five keys (25 operations from the empty
    structure reach this tree); the model reproduces the real arrays step by step. -/
theorem delete_can_overestimate :
    ∃ (t u : Viewshed.Tree ℤ), BST t ∧ AugLe (-9) t ∧ delCore (-9) 2 t = some u ∧ BST u ∧ ¬ AugLe (-9) u := by
  let f : ℤ → ℤ → Node ℤ := fun k v => ⟨k, v, v, v, 0, 1, 2⟩
  refine ⟨.node (.node (.node (.node .nil (f 0 (-9)) 0 false (.node .nil (f 1 0) 0 true .nil)) (f 2 2) 2 true .nil)
            (f 3 0) 2 false .nil) (f 5 0) 1 false .nil,
          .node (.node (.node .nil (f 0 (-9)) 0 false (.node .nil (f 1 0) 0 true .nil)) (f 3 0) 0 false .nil)
            (f 5 0) 1 false .nil, ?_, ?_, ?_, ?_, ?_⟩
  · rw [← bstB_iff]; decide
  · rw [← augLeB_iff]; decide
  · decide
  · rw [← bstB_iff]; decide
  · rw [← augLeB_iff]; decide

/-- **and an overestimate below the root makes the query hide a visible cell.**  This six-node tree is
    what the real `_insert_into_tree` / `_delete_from_tree` leave after 21 operations on keys 1..7 with
    minimum gradients (0,2,0,1,0,0,1) (corpus/C05/tree-wrong-answer-7keys.json, replayed against the real
    code on every run): node 5 -- the left child of the root -- stores 1 although every node below it has
    gradient 0.  A cell at key 7 with gradient 1/2 is in line of sight (all nearer cells have gradient 0),
    yet the query answers 1 > 1/2: invisible.  The sequence re-inserts keys; no sweep of a terrain has been
    found that reaches such a state (see design_notes/C05.md). -/
theorem status_tree_can_hide_a_visible_cell :
    ∃ (t : Viewshed.Tree ℚ) (K ang g : ℚ), BST t ∧ ¬ AugLeQ (-9) t ∧
      (∀ n ∈ t.toList, n.key < K → spans n ang = true ∨ minv n ≤ g) ∧
      visL t.toList K ang g = true ∧ visT (-9) t K ang g = false := by
  let f : ℚ → ℚ → Node ℚ := fun k v => ⟨k, v, v, v, 0, 1, 2⟩
  refine ⟨.node (.node (.node (.node .nil (f 0 (-9)) 0 false (.node .nil (f 1 0) 0 true .nil)) (f 3 0) 0 false .nil)
            (f 5 0) 1 true .nil) (f 6 0) 1 false (.node .nil (f 7 1) 1 true .nil), 7, 1, 1/2, ?_, ?_, ?_, ?_, ?_⟩
  · rw [← bstB_iff]; decide +kernel
  · rw [← augLeQB_iff]; decide +kernel
  · decide +kernel
  · decide +kernel
  · decide +kernel

/-! ### 4. facts read from the source on every run -/

/-- `_rb_insert_fixup` / `_rb_delete_fixup` store only to colour fields and call only the two rotations;
    the rotations store only the stored maximum and the three links; the query routines store nothing -/
theorem fixups_only_recolour_and_rotate :
    Gen.Viewshed.rb_insert_fixup_stores = [("tree_nodes", "TN_COLOR_ID")] ∧
    Gen.Viewshed.rb_delete_fixup_stores = [("tree_nodes", "TN_COLOR_ID")] ∧
    (∀ c ∈ Gen.Viewshed.rb_insert_fixup_calls, c = "_left_rotate" ∨ c = "_right_rotate") ∧
    (∀ c ∈ Gen.Viewshed.rb_delete_fixup_calls, c = "_left_rotate" ∨ c = "_right_rotate") ∧
    Gen.Viewshed.left_rotate_stores = [("tree_nodes", "TN_LEFT_ID"), ("tree_nodes", "TN_PARENT_ID"),
      ("tree_nodes", "TN_RIGHT_ID"), ("tree_vals", "TN_MAX_GRAD_ID")] ∧
    Gen.Viewshed.right_rotate_stores = Gen.Viewshed.left_rotate_stores ∧
    Gen.Viewshed.search_for_node_stores = [] ∧ Gen.Viewshed.find_max_value_within_key_stores = [] ∧
    Gen.Viewshed.max_grad_in_status_struct_stores = [] := by
  decide

/-- the sentinel, the event order (EXIT < CENTER < ENTER at equal bearing, bearing first) and the test -/
theorem sweep_constants :
    Gen.Viewshed.SMALLEST_GRAD = -10000000000000000000000 ∧
    Gen.Viewshed.EXITING_EVENT < Gen.Viewshed.CENTER_EVENT ∧ Gen.Viewshed.CENTER_EVENT < Gen.Viewshed.ENTERING_EVENT ∧
    Gen.Viewshed.lexsortKeys = ["E_TYPE_ID", "E_ANG_ID"] ∧
    Gen.Viewshed.visibleTest = "max <= status_node[TN_GRAD_1]" := by
  decide

/-! ### 5. the output rule -/

/-- the observer's cell is 180, the grid is pre-filled with INVISIBLE = -1 and only a visible cell is
    overwritten, with the vertical angle -/
theorem observer_180_invisible_minus_one :
    Gen.Viewshed.observerValue = 180 ∧ Gen.Viewshed.INVISIBLE = -1 ∧ Gen.Viewshed.gridFill = "INVISIBLE" ∧
    Gen.Viewshed.visibleStores = "vert_ang" := by
  decide

section
variable {K : Type} [Field K] [LinearOrder K] [IsStrictOrderedRing K] [Trig K]

/-- hypotheses on the uninterpreted `atan` / `sqrt` (true of the real functions; `π` is `4 * atan 1`) -/
structure TrigHyp (K : Type) [Field K] [LinearOrder K] [IsStrictOrderedRing K] [Trig K] : Prop where
  atan_pos : ∀ x : K, 0 < x → 0 < Trig.atan x
  atan_lt : ∀ x : K, Trig.atan x < 2 * Trig.atan 1          -- atan x < π / 2
  sqrt_pos : ∀ x : K, 0 < x → 0 < Trig.sqrt x

/-- the translated `_get_vertical_ang` never trips its assertion for a cell at positive distance -/
theorem vertical_angle_defined (ve d2 e : K) (hd : 0 < d2) : vertAngFailed ve d2 e = none := by
  unfold vertAngFailed
  have hne : d2 ≠ 0 := ne_of_gt hd
  rcases lt_trichotomy e ve with hlt | rfl | hgt
  · have h0 : ve - e ≠ 0 := ne_of_gt (sub_pos.mpr hlt)
    simp [kl, Gen.viewshed_vertical_ang, hne, h0, hlt]
  · simp [kl, Gen.viewshed_vertical_ang, hne]
  · have h0 : ve - e ≠ 0 := ne_of_lt (sub_neg.mpr hgt)
    have h1 : ¬ e < ve := not_lt_of_gt hgt
    simp [kl, Gen.viewshed_vertical_ang, hne, h0, h1]

/-- **the vertical angle lies in [0, 180], 90 = level**: a target below the observer's eye gets a
    value in (0, 90), a level target exactly 90, a target above a value in (90, 180)
    (`vertAng ve d2 e` is the generated `_get_vertical_ang(viewpoint_elev, dist², elev)`) -/
theorem vertical_angle_range (H : TrigHyp K) (ve d2 e : K) (hd : 0 < d2) :
    ∃ v, vertAng ve d2 e = some v ∧ 0 ≤ v ∧ v ≤ 180 ∧
      (e < ve → 0 < v ∧ v < 90) ∧ (e = ve → v = 90) ∧ (ve < e → 90 < v ∧ v < 180) := by
  have hs := H.sqrt_pos d2 hd
  have hpi : 0 < 4 * Trig.atan (1 : K) := by have := H.atan_pos 1 one_pos; linarith
  -- an angle in (0, π/2), in degrees
  have deg : ∀ a : K, 0 < a → a < 2 * Trig.atan 1 →
      0 < a * 180 / (4 * Trig.atan 1) ∧ a * 180 / (4 * Trig.atan 1) < 90 := fun a h1 h2 =>
    ⟨div_pos (mul_pos h1 (by norm_num)) hpi, by rw [div_lt_iff₀ hpi]; linarith⟩
  rcases lt_trichotomy e ve with hlt | rfl | hgt
  · have hx : 0 < Trig.sqrt d2 / (ve - e) := div_pos hs (sub_pos.mpr hlt)
    obtain ⟨hv0, hv1⟩ := deg _ (H.atan_pos _ hx) (H.atan_lt _)
    exact ⟨_, vertAng_below ve d2 e hd hlt (ne_of_gt hpi), le_of_lt hv0, by linarith, fun _ => ⟨hv0, hv1⟩,
      fun h => absurd h (ne_of_lt hlt), fun h => absurd h (not_lt_of_gt hlt)⟩
  · exact ⟨90, vertAng_level e d2 hd, by norm_num, by norm_num, fun h => absurd h (lt_irrefl _),
      fun _ => rfl, fun h => absurd h (lt_irrefl _)⟩
  · have hx : 0 < |ve - e| / Trig.sqrt d2 := div_pos (abs_pos.mpr (ne_of_lt (sub_neg.mpr hgt))) hs
    obtain ⟨hv0, hv1⟩ := deg _ (H.atan_pos _ hx) (H.atan_lt _)
    exact ⟨_, vertAng_above ve d2 e hd hgt (ne_of_gt hpi) (ne_of_gt hs), by linarith, by linarith,
      fun h => absurd h (not_lt_of_gt hgt), fun h => absurd h.symm (ne_of_lt hgt), fun _ => ⟨by linarith, by linarith⟩⟩

end

/-! ### 6. the event geometry (Model/ViewshedEvents.lean; exact integers / rationals, compared with the real
    `_init_event_list`, `np.lexsort` and the interpreted sweep by seam 0 of the correspondence) -/

section Events
open XrsVerif.ViewshedEvents

/-- the event codes the model uses are the source's -/
theorem event_codes :
    Gen.Viewshed.ENTERING_EVENT = 1 ∧ Gen.Viewshed.CENTER_EVENT = 0 ∧ Gen.Viewshed.EXITING_EVENT = -1 := by decide

/-- **every non-observer cell of the raster yields exactly three events** -- its ENTER, CENTER and EXIT event, generated in
    this order -- and the observer's cell and anything outside the raster yields none -/
theorem three_events_per_cell (T : Int → Int → Rat) (h w : Nat) (vr vc : Int) (r c : Nat) :
    (eventList T h w vr vc).filter (ofCell r c) =
      if r < h ∧ c < w ∧ ¬((r : Int) = vr ∧ (c : Int) = vc)
      then [mkEvent T h w vr vc r c 1, mkEvent T h w vr vc r c 0, mkEvent T h w vr vc r c (-1)] else [] :=
  eventList_filter_cell T h w vr vc r c

/-- hence `3 * (rows * cols - 1)` events in all, for an observer inside the raster -/
theorem event_count (T : Int → Int → Rat) (h w vr vc : Nat) (hr : vr < h) (hc : vc < w) :
    (eventList T h w vr vc).length + 3 = 3 * (h * w) := by
  unfold eventList
  have inner : ∀ i : Nat, ((List.range w).flatMap fun (j : Nat) =>
      if (i : Int) = (vr : Int) ∧ (j : Int) = (vc : Int) then [] else cellEvents T h w vr vc i j).length =
        if i = vr then (w - 1) * 3 + 0 else (w - 1) * 3 + 3 := by
    intro i
    by_cases hi : i = vr
    · subst hi
      rw [length_flatMap_range_one_exception w vc hc _ 3 0]
      · simp
      · intro j hj
        have : ¬ ((j : Int) = (vc : Int)) := by omega
        simp [this, cellEvents]
      · simp
    · have hi' : ¬ ((i : Int) = (vr : Int)) := by omega
      simp only [hi, if_false]
      rw [length_flatMap_range_one_exception w vc hc _ 3 3]
      · intro j _; simp [hi', cellEvents]
      · simp [hi', cellEvents]
  rw [length_flatMap_range_one_exception h vr hr _ ((w - 1) * 3 + 3) ((w - 1) * 3 + 0)]
  · obtain ⟨h', rfl⟩ : ∃ h', h = h' + 1 := ⟨h - 1, by omega⟩
    obtain ⟨w', rfl⟩ : ∃ w', w = w' + 1 := ⟨w - 1, by omega⟩
    simp only [Nat.add_sub_cancel]
    ring
  · intro i hi; rw [inner i]; simp [hi]
  · rw [inner vr]; simp

/-- non-vacuity: a 2 x 3 raster seen from (1, 1) -/
example : (eventList (fun i j => (i + 2 * j : Int)) 2 3 1 1).length = 15 := by decide

/-- **the entering corner has the smaller bearing, the exiting corner the larger** -- stated with exact cross products of
    the doubled vectors from the observer (x east, y north; `cross p q > 0` iff `q` is counter-clockwise of `p`):
    for every cell other than the observer's, both corners are corners of the cell (offsets ±1/2), the entering corner is
    strictly clockwise of the centre and the exiting corner strictly counter-clockwise, and among all four corners the
    entering one is the most clockwise and the exiting one the most counter-clockwise; every corner lies within 90° of
    the centre's direction, so "clockwise of" is an order on them. -/
theorem enter_corner_smallest_exit_corner_largest (dr dc : Int) (hne : dr ≠ 0 ∨ dc ≠ 0) :
    ((posOff 1 dr dc).1 = 1 ∨ (posOff 1 dr dc).1 = -1) ∧ ((posOff 1 dr dc).2 = 1 ∨ (posOff 1 dr dc).2 = -1) ∧
    ((posOff (-1) dr dc).1 = 1 ∨ (posOff (-1) dr dc).1 = -1) ∧ ((posOff (-1) dr dc).2 = 1 ∨ (posOff (-1) dr dc).2 = -1) ∧
    0 < cross (2 * dc + (posOff 1 dr dc).2) (-(2 * dr + (posOff 1 dr dc).1)) (2 * dc) (-(2 * dr)) ∧
    0 < cross (2 * dc) (-(2 * dr)) (2 * dc + (posOff (-1) dr dc).2) (-(2 * dr + (posOff (-1) dr dc).1)) ∧
    ∀ oy ox : Int, (oy = 1 ∨ oy = -1) → (ox = 1 ∨ ox = -1) →
      0 ≤ cross (2 * dc + (posOff 1 dr dc).2) (-(2 * dr + (posOff 1 dr dc).1)) (2 * dc + ox) (-(2 * dr + oy)) ∧
      0 ≤ cross (2 * dc + ox) (-(2 * dr + oy)) (2 * dc + (posOff (-1) dr dc).2) (-(2 * dr + (posOff (-1) dr dc).1)) ∧
      0 < (2 * dc) * (2 * dc + ox) + (2 * dr) * (2 * dr + oy) := by
  have hdot : ∀ oy ox : Int, (oy = 1 ∨ oy = -1) → (ox = 1 ∨ ox = -1) →
      0 < (2 * dc) * (2 * dc + ox) + (2 * dr) * (2 * dr + oy) := by
    intro oy ox hy hx
    obtain ⟨a1, a2⟩ := int_le_sq dr
    obtain ⟨b1, b2⟩ := int_le_sq dc
    -- |2·dc·ox| ≤ 2·dc², |2·dr·oy| ≤ 2·dr²: what is left is 2·(dr² + dc²) ≥ 2
    have hpos : 1 ≤ dr * dr + dc * dc := by omega
    rcases hy with rfl | rfl <;> rcases hx with rfl | rfl <;> linarith
  -- the if-chain picks the corner from which both edges of the cell turn counter-clockwise, resp. clockwise
  obtain ⟨hE, hX⟩ := offTable_corners dr dc hne
  rw [posOff_enter, posOff_exit]
  exact ⟨hE.pmY, hE.pmX, by have := hX.pmY; omega, hX.pmX, hE.centre, hX.centre_mirror,
    fun oy ox hy hx => ⟨hE.corner hy hx, hX.corner_mirror hy hx, hdot oy ox hy hx⟩⟩

/-- **a cell is in the status structure when the sweep starts iff its span contains bearing 0**: the east ray `(1, 0)`
    lies strictly between the entering and the exiting corner exactly for the cells of the observer's row strictly east
    of the observer -/
theorem initial_iff_span_contains_bearing_zero (dr dc : Int) (hne : dr ≠ 0 ∨ dc ≠ 0) :
    (0 < cross (2 * dc + (posOff 1 dr dc).2) (-(2 * dr + (posOff 1 dr dc).1)) 1 0 ∧
     0 < cross 1 0 (2 * dc + (posOff (-1) dr dc).2) (-(2 * dr + (posOff (-1) dr dc).1))) ↔ (dr = 0 ∧ 0 < dc) := by
  -- the east ray lies between the corners iff the entering corner is south of the observer's row and the exiting corner
  -- north of it: only on that row, and there `CwCorner.row` says it is so east of the observer
  obtain ⟨hE, hX⟩ := offTable_corners dr dc hne
  have eE := hE.pmY
  have eX := hX.pmY
  rw [posOff_enter, posOff_exit, cross_axis_right, cross_axis_left]
  constructor
  · rintro ⟨h1, h2⟩
    obtain rfl : dr = 0 := by omega
    have := hE.row
    exact ⟨rfl, by omega⟩
  · rintro ⟨rfl, hc⟩
    have := hE.row
    have := CwCorner.row (Int.neg_zero ▸ hX)
    omega

/-- the columns put into the status structure before the sweep (`for i in range(vp_col + 1, n_cols)`) -/
theorem mem_initialCols (w : Nat) (vc j : Int) : j ∈ initialCols w vc ↔ vc < j ∧ 0 ≤ j ∧ j < w :=
  mem_initialCols' w vc j

/-- the two together: for a cell `(r, c)` of the raster other than the observer's, "`(r, c)` is inserted by the initial
    fill" is equivalent to "the span of `(r, c)` contains bearing 0" -/
theorem initial_status_set (w : Nat) (vr vc r c : Int) (hc : 0 ≤ c ∧ c < w) (hne : r ≠ vr ∨ c ≠ vc) :
    (r = vr ∧ c ∈ initialCols w vc) ↔
      (0 < cross (2 * (c - vc) + (posOff 1 (r - vr) (c - vc)).2) (-(2 * (r - vr) + (posOff 1 (r - vr) (c - vc)).1)) 1 0 ∧
       0 < cross 1 0 (2 * (c - vc) + (posOff (-1) (r - vr) (c - vc)).2) (-(2 * (r - vr) + (posOff (-1) (r - vr) (c - vc)).1))) := by
  rw [initial_iff_span_contains_bearing_zero (r - vr) (c - vc) (by omega), mem_initialCols]
  omega

/-- **a corner elevation depends only on the (at most) four cells meeting at that corner**: two terrains that agree on the
    cell, on its two edge neighbours towards the corner and on the diagonal neighbour give the same corner elevation;
    these four cells are the 2 x 2 block around the corner point `_calc_event_pos` returns (`nbOff = posOff`, each ±1) -/
theorem corner_elevation_local (T T' : Int → Int → Rat) (h w vr vc ty row col : Int)
    (h1 : T row col = T' row col)
    (h2 : T (row + (nbOff ty (row - vr) (col - vc)).1) col = T' (row + (nbOff ty (row - vr) (col - vc)).1) col)
    (h3 : T row (col + (nbOff ty (row - vr) (col - vc)).2) = T' row (col + (nbOff ty (row - vr) (col - vc)).2))
    (h4 : T (row + (nbOff ty (row - vr) (col - vc)).1) (col + (nbOff ty (row - vr) (col - vc)).2) =
          T' (row + (nbOff ty (row - vr) (col - vc)).1) (col + (nbOff ty (row - vr) (col - vc)).2)) :
    cornerElev T h w vr vc ty row col = cornerElev T' h w vr vc ty row col := by
  simp only [cornerElev, h1, h2, h3, h4]

theorem corner_cells_are_the_block_at_the_corner (ty dr dc : Int) (hty : ty = 1 ∨ ty = -1) (hne : dr ≠ 0 ∨ dc ≠ 0) :
    nbOff ty dr dc = posOff ty dr dc ∧ ((nbOff ty dr dc).1 = 1 ∨ (nbOff ty dr dc).1 = -1) ∧
      ((nbOff ty dr dc).2 = 1 ∨ (nbOff ty dr dc).2 = -1) := by
  rw [nbOff_eq_posOff ty dr dc hty]
  obtain ⟨⟨a, b⟩, c, d⟩ := offTable_pm dr dc (by omega)
  rcases hty with rfl | rfl
  · rw [posOff_enter]; exact ⟨rfl, a, b⟩
  · rw [posOff_exit]; exact ⟨rfl, c, d⟩

/-- the value: the mean of the four cells when the diagonal neighbour is inside the raster, the cell's own elevation at the border -/
theorem corner_elevation_value (T : Int → Int → Rat) (h w vr vc ty row col : Int) :
    let r1 := row + (nbOff ty (row - vr) (col - vc)).1
    let c1 := col + (nbOff ty (row - vr) (col - vc)).2
    (0 ≤ r1 ∧ r1 < h ∧ 0 ≤ c1 ∧ c1 < w →
      cornerElev T h w vr vc ty row col = (T r1 c1 + T r1 col + T row c1 + T row col) / 4) ∧
    (¬(0 ≤ r1 ∧ r1 < h ∧ 0 ≤ c1 ∧ c1 < w) → cornerElev T h w vr vc ty row col = T row col) := by
  intro r1 c1
  constructor
  · intro hin; simp only [cornerElev]; rw [if_pos hin]
  · intro hout; simp only [cornerElev]; rw [if_neg hout]

/-- **the observer-row buffer that seeds the status structure holds the corner elevations**: column `j` of `data` carries
    exactly the three elevations of the events of cell `(vr, j)`; the observer's own column its centre elevation -/
theorem initial_fill_uses_corner_elevations (T : Int → Int → Rat) (h w : Nat) (vr vc : Int) (j : Nat) (hj : j < w) :
    (dataRow T h w vr vc)[j]? = some
      (if (j : Int) = vc then (T vr vc, T vr vc, T vr vc)
       else ((mkEvent T h w vr vc vr j 1).e0, (mkEvent T h w vr vc vr j 0).e1, (mkEvent T h w vr vc vr j (-1)).e2)) := by
  simp only [dataRow, List.getElem?_map, List.getElem?_range hj, Option.map_some, mkEvent]

/-- ... and this is what the source does (facts read from `_init_event_list` on every run): the only writes to `data` that
    survive for a non-observer column come after both `_calc_event_elev` calls and store ENTER / CENTER / EXIT elevation
    in rows 0 / 1 / 2; the observer's own column keeps the centre elevation written before the `continue` -/
theorem init_fill_buffer_written_after_corner_elevations :
    Gen.Viewshed.dataWritesAfterElevs = [(0, "E_ELEV_0"), (1, "E_ELEV_1"), (2, "E_ELEV_2")] ∧
    Gen.Viewshed.dataWritesBeforeSkip = [(0, "E_ELEV_1"), (1, "E_ELEV_1"), (2, "E_ELEV_1")] ∧
    Gen.Viewshed.dataWriteGuards = ["i == vp_row"] := by decide

/-- the shape of `_calc_event_elev` in the source: neighbour from `_calculate_event_row_col`, own elevation by default and
    when a NaN is met, the in-raster guard, the 2 x 2 block read through the three-row window, the mean of four -/
theorem corner_elevation_source_shape :
    Gen.Viewshed.cornerElevNeighbour =
      "(row1, col1) = _calculate_event_row_col(event_type, event_row, event_col, viewpoint_row, viewpoint_col)" ∧
    Gen.Viewshed.cornerElevDefault = "inrast[1][event_col]" ∧
    Gen.Viewshed.cornerElevGuard = "0 <= row1 < n_rows and 0 <= col1 < n_cols" ∧
    Gen.Viewshed.cornerElevReads = ["inrast[row1 - event_row + 1][col1]", "inrast[row1 - event_row + 1][event_col]",
      "inrast[1][col1]", "inrast[1][event_col]"] ∧
    Gen.Viewshed.cornerElevNanFallback = "inrast[1][event_col]" ∧
    Gen.Viewshed.cornerElevMean = "(elev1 + elev2 + elev3 + elev4) / 4.0" :=
  ⟨rfl, rfl, rfl, rfl, rfl, rfl⟩

/-- the key of every cell other than the observer's -- its squared map distance -- is positive for non-degenerate cell sizes:
    no status node ever collides with the permanent dummy (key 0), as `leaf_insert_preserves` requires -/
theorem key_positive_off_observer (ew ns : Rat) (vr vc row col : Int) (hew : ew ≠ 0) (hns : ns ≠ 0)
    (hne : row ≠ vr ∨ col ≠ vc) : 0 < key ew ns vr vc row col := by
  unfold key
  rcases hne with h | h
  · exact add_pos_of_nonneg_of_pos (mul_self_nonneg _)
      (mul_self_pos.mpr (mul_ne_zero (by exact_mod_cast (by omega : row - vr ≠ 0)) hns))
  · exact add_pos_of_pos_of_nonneg
      (mul_self_pos.mpr (mul_ne_zero (by exact_mod_cast (by omega : col - vc ≠ 0)) hew)) (mul_self_nonneg _)

/-- **the event order is a sort**: the model of `np.lexsort((type, bearing))` -- bearing in [0, 2π) compared exactly by half
    plane and cross product, ties by the type code EXIT < CENTER < ENTER -- returns a permutation of the generated events
    in which every earlier event is `≤` every later one (the comparison is a total preorder on ALL events:
    `evLe_total`, `evLe_trans`, Proofs/ViewshedOrder.lean) -/
theorem events_sorted (T : Int → Int → Rat) (h w : Nat) (vr vc : Int) :
    (sortedEvents T h w vr vc).Perm (eventList T h w vr vc) ∧
    (sortedEvents T h w vr vc).Pairwise (fun a b => evLe vr vc a b = true) :=
  ⟨sortedEvents_perm T h w vr vc, sortedEvents_pairwise T h w vr vc⟩

/-- **within the sweep a cell's events come as ENTER, CENTER, EXIT** (entering corner < centre < exiting corner as bearings
    in [0, 2π)); the cells on the east ray are the exception the initial fill exists for: CENTER (bearing 0) first, then
    EXIT, and ENTER at the very end of the sweep. -/
theorem cell_events_in_sweep_order (T : Int → Int → Rat) (h w : Nat) (vr vc r c : Int) :
    (sortedEvents T h w vr vc).filter (ofCell r c) =
      if 0 ≤ r ∧ r < h ∧ 0 ≤ c ∧ c < w ∧ ¬(r = vr ∧ c = vc) then
        (if r = vr ∧ vc < c
         then [mkEvent T h w vr vc r c 0, mkEvent T h w vr vc r c (-1), mkEvent T h w vr vc r c 1]
         else [mkEvent T h w vr vc r c 1, mkEvent T h w vr vc r c 0, mkEvent T h w vr vc r c (-1)])
      else [] :=
  sortedEvents_filter_cell_int T h w vr vc r c

/-- **the status-structure operations of one cell over initial fill + sweep** (1 insert, 0 query, -1 delete):
    insert, query, delete for every cell off the east ray; initial insert, query, delete, insert for the cells on it (the
    second insertion, at the cell's ENTER event just below 2π, is never undone -- the sweep ends there); nothing for the
    observer's cell.  So every cell is deleted exactly once and queried exactly once, between an insertion and that deletion. -/
theorem cell_operation_sequence (T : Int → Int → Rat) (h w : Nat) (vr vc : Int) (hobs : 0 ≤ vr ∧ vr < h) (r c : Int) :
    kinds (sweepOps T h w vr vc) r c =
      if 0 ≤ r ∧ r < h ∧ 0 ≤ c ∧ c < w ∧ ¬(r = vr ∧ c = vc) then
        (if r = vr ∧ vc < c then [1, 0, -1, 1] else [1, 0, -1])
      else [] :=
  kinds_sweepOps T h w vr vc hobs r c

/-- each cell of the raster other than the observer's is deleted exactly once, queried exactly once, and inserted exactly once
    before that -- the cells of the east ray a second time after it -/
theorem insert_delete_counts (T : Int → Int → Rat) (h w : Nat) (vr vc : Int) (hobs : 0 ≤ vr ∧ vr < h) (r c : Int)
    (hin : 0 ≤ r ∧ r < h ∧ 0 ≤ c ∧ c < w ∧ ¬(r = vr ∧ c = vc)) :
    (kinds (sweepOps T h w vr vc) r c).count (-1) = 1 ∧ (kinds (sweepOps T h w vr vc) r c).count 0 = 1 ∧
    (kinds (sweepOps T h w vr vc) r c).count 1 = (if r = vr ∧ vc < c then 2 else 1) ∧
    (kinds (sweepOps T h w vr vc) r c).take 3 = [1, 0, -1] := by
  rw [kinds_sweepOps T h w vr vc hobs, if_pos hin]
  split <;> decide

/-- **the active-set discipline**: replaying the initial fill and then the sorted events, every insertion is of a cell that is
    not in the status structure and every deletion and every query is of a cell that is -- so the key a query or a deletion
    looks up is present (what `query_decides` / `delete_preserves_*` assume), and no cell is ever in the structure twice -/
theorem sweep_discipline (T : Int → Int → Rat) (h w : Nat) (vr vc : Int) (hobs : 0 ≤ vr ∧ vr < h) :
    replay [] (sweepOps T h w vr vc) = true := by
  rw [replay_iff]
  intro r c
  rw [kinds_sweepOps T h w vr vc hobs]
  have : ([] : List (Int × Int)).contains (r, c) = false := rfl
  rw [this]
  split
  · split <;> decide
  · rfl

/-- ... and the initial fill is what makes it hold: without it, as soon as there is a cell east of the observer, the first
    event of the sweep queries a cell that is not in the structure -/
theorem sweep_without_initial_fill_breaks (T : Int → Int → Rat) (h w : Nat) (vr vc : Int) (hobs : 0 ≤ vr ∧ vr < h)
    (heast : 0 ≤ vc ∧ vc + 1 < w) : replay [] ((sortedEvents T h w vr vc).map opOfEvent) = false := by
  rw [Bool.eq_false_iff]
  intro hrep
  have := (replay_iff _ _).mp hrep vr (vc + 1)
  rw [kinds_map_opOfEvent, sortedEvents_filter_cell_int, if_pos (by omega), if_pos (by omega)] at this
  obtain ⟨k1, k0, km⟩ := kind_opOfEvent_mkEvent T h w vr vc vr (vc + 1)
  simp only [List.map_cons, List.map_nil, k1, k0, km] at this
  have hc : ([] : List (Int × Int)).contains (vr, vc + 1) = false := rfl
  rw [hc] at this
  exact absurd this (by decide)

/-- non-vacuity: instances on a 3 x 4 raster seen from (1, 1) -/
example : replay [] (sweepOps (fun i j => (i * j : Int)) 3 4 1 1) = true ∧
    replay [] ((sortedEvents (fun i j => (i * j : Int)) 3 4 1 1).map opOfEvent) = false :=
  ⟨sweep_discipline _ 3 4 1 1 (by decide), sweep_without_initial_fill_breaks _ 3 4 1 1 (by decide) (by decide)⟩

end Events

/-! ### 7. the status-tree routines as *generated from the source* (layer T3)

  `Gen.IL.vs*` are the ILang translations of `_find_value_min_value`, `_tree_minimum`, `_tree_successor`,
  `_search_for_node`, `_left_rotate`, `_right_rotate`, `_max_grad_in_status_struct`, `_insert_into_tree`,
  `_delete_from_tree` (harness/facts_il.py, regenerated every run, validated
  against the numba-compiled functions by the `il:` streams).  The refinement theorems (Proofs/ILViewshed*.lean) say
  that these programs compute the hand model the theorems above are about, on every state whose two arrays hold a
  well-linked tree: `sh : Sh` is the pointer structure (which row is the root, which rows hang left / right),
  `Linked` says the link columns spell it out (NIL = -1 = the last row), `absT` reads the model tree off the arrays. -/
section Generated
open XrsVerif.IL XrsVerif.ILVs
variable {F : Type} [Fl F] [Trig α]

/-- an ILang state at the value domain `NV α` (all numbers non-NaN) that holds the status tree `t0` at `root` -/
structure Holds (s : State (NV α)) (n : Nat) (sh : Sh) (t0 : Viewshed.Tree α) : Prop where
  vs : VS s n
  run : s.ctl = .run
  linked : Linked (s.ia "tree_nodes") n (-1) sh
  nodup : sh.idxs.Nodup
  root : s.ienv "root" = sh.ptr
  nil : vAt (s.fa "tree_vals") (n - 1) 7 = smallest
  abs : absT (s.fa "tree_vals") (s.ia "tree_nodes") sh = mapT emb t0

/-- the generated `_max_grad_in_status_struct` returns the model's `query` (search, phase 1 along the parent pointers,
    phase 2 = in-order predecessor walk with early exit) and leaves the arrays alone; fuel = one unit per loop iteration -/
theorem generated_query_is_model_query (s : State (NV α)) (fuel n : Nat) (sh : Sh) (t0 : Viewshed.Tree α)
    (h : Holds s n sh t0) (hb : BST t0) (K ang g : α)
    (hd : s.fenv "distance" = some K) (ha : s.fenv "angle" = some ang) (hg : s.fenv "gradient" = some g)
    (hfuel : sh.size + sh.height + 2 ≤ fuel) :
    let q := Gen.IL.vsQuery.run s fuel
    q.ctl = .ret ∧ q.fenv "ret0" = some (query smallestK t0 K ang g) ∧ q.fa = s.fa ∧ q.ia = s.ia :=
  vsQuery_model s fuel n h.vs h.run sh h.linked h.nodup h.root h.nil t0 h.abs hb K ang g hd ha hg hfuel

/-- **the generated query decides line of sight**: `query_decides` for the program translated from the source -/
theorem generated_query_decides (s : State (NV α)) (fuel n : Nat) (sh : Sh) (t0 : Viewshed.Tree α)
    (h : Holds s n sh t0) (hb : BST t0) (hq : AugLeQ smallestK t0) (K ang g : α) (hS : smallestK ≤ g)
    (hK : ∃ m ∈ t0.toList, m.key = K)
    (hact : ∀ m ∈ t0.toList, m.key < K → spans m ang = true ∨ minv m ≤ g)
    (hd : s.fenv "distance" = some K) (ha : s.fenv "angle" = some ang) (hg : s.fenv "gradient" = some g)
    (hfuel : sh.size + sh.height + 2 ≤ fuel) :
    let q := Gen.IL.vsQuery.run s fuel
    q.ctl = .ret ∧ ∃ v, q.fenv "ret0" = some v ∧
      (v ≤ g ↔ ∀ m ∈ t0.toList, m.key < K → spans m ang = true → itp m ang ≤ g) := by
  obtain ⟨h1, h2, _, _⟩ := generated_query_is_model_query s fuel n sh t0 h hb K ang g hd ha hg hfuel
  exact ⟨h1, _, h2, query_decides K ang g hS hb hq hK hact⟩

/-- for every number type: the generated query is the two-phase query of the abstracted tree with the phase-2 list
    given structurally (`predsOf`), provided the code's `raise ValueError` is not reached -/
theorem generated_query_generic (s : State F) (fuel n : Nat) (hv : VS s n) (hrun : s.ctl = .run) (sh : Sh)
    (hL : Linked (s.ia "tree_nodes") n (-1) sh) (hN : sh.idxs.Nodup) (hroot : s.ienv "root" = sh.ptr)
    (hS : vAt (s.fa "tree_vals") (n - 1) 7 = smallest)
    (hnf : ∀ nd ∈ predsOf (absT (s.fa "tree_vals") (s.ia "tree_nodes") sh) ⟨s.fenv "distance"⟩,
      ¬ (⟨s.fenv "distance"⟩ : Fv F) < nd.key)
    (hfuel : sh.size + sh.height + 2 ≤ fuel) :
    let q := Gen.IL.vsQuery.run s fuel
    q.ctl = .ret ∧
      q.fenv "ret0" = (queryP smallest (absT (s.fa "tree_vals") (s.ia "tree_nodes") sh)
        ⟨s.fenv "distance"⟩ ⟨s.fenv "angle"⟩ ⟨s.fenv "gradient"⟩).v ∧
      q.fa = s.fa ∧ q.ia = s.ia :=
  vsQuery_refines s fuel n hv hrun sh hL hN hroot hS hnf hfuel

/-- the generated `_left_rotate` / `_right_rotate` are the model's `rotL` / `rotR` on the abstraction, stored maxima
    included, for every number type (no order laws needed) -/
theorem generated_rotations_are_model_rotations (s : State F) (fuel n : Nat) (hv : VS s n) (hrun : s.ctl = .run)
    (a : Sh) (x : Nat) (b : Sh) (y : Nat) (c : Sh) (par : Int) :
    (Linked (s.ia "tree_nodes") n par (.node a x (.node b y c)) → (Sh.node a x (.node b y c)).idxs.Nodup →
      s.ienv "x" = x → (par = -1 ∨ ∃ p : Nat, par = (p : Int) ∧ p + 1 < n ∧ p ∉ (Sh.node a x (.node b y c)).idxs) →
      let q := Gen.IL.vsLeftRotate.run s fuel
      q.ctl = .ret ∧ Linked (q.ia "tree_nodes") n par (.node (.node a x b) y c) ∧
        absT (q.fa "tree_vals") (q.ia "tree_nodes") (.node (.node a x b) y c) =
          rotL (vAt (s.fa "tree_vals") (n - 1) 7) (absT (s.fa "tree_vals") (s.ia "tree_nodes") (.node a x (.node b y c))) ∧
        q.ienv "ret0" = (if par = -1 then (y : Int) else s.ienv "root")) ∧
    (Linked (s.ia "tree_nodes") n par (.node (.node a x b) y c) → (Sh.node (.node a x b) y c).idxs.Nodup →
      s.ienv "y" = y → (par = -1 ∨ ∃ p : Nat, par = (p : Int) ∧ p + 1 < n ∧ p ∉ (Sh.node (.node a x b) y c).idxs) →
      let q := Gen.IL.vsRightRotate.run s fuel
      q.ctl = .ret ∧ Linked (q.ia "tree_nodes") n par (.node a x (.node b y c)) ∧
        absT (q.fa "tree_vals") (q.ia "tree_nodes") (.node a x (.node b y c)) =
          rotR (vAt (s.fa "tree_vals") (n - 1) 7) (absT (s.fa "tree_vals") (s.ia "tree_nodes") (.node (.node a x b) y c)) ∧
        q.ienv "ret0" = (if par = -1 then (x : Int) else s.ienv "root")) := by
  refine ⟨fun hl hn hx hp => ?_, fun hl hn hy hp => ?_⟩
  · have := vsLeftRotate_refines s fuel n hv hrun a x b y c par hl hn hx hp
    exact ⟨this.1, this.2.2.2.1, this.2.2.2.2.1, this.2.2.1⟩
  · have := vsRightRotate_refines s fuel n hv hrun a x b y c par hl hn hy hp
    exact ⟨this.1, this.2.2.2.1, this.2.2.2.2.1, this.2.2.1⟩

/-- hence (`respects_rotL`) the subtree the generated left rotation leaves behind holds the same nodes in the same
    order, and is ordered / free of overestimates / exact whenever the subtree before was -/
theorem generated_left_rotation_preserves (s : State (NV α)) (fuel n : Nat) (hv : VS s n) (hrun : s.ctl = .run)
    (a : Sh) (x : Nat) (b : Sh) (y : Nat) (c : Sh) (par : Int) (t0 : Viewshed.Tree α)
    (hl : Linked (s.ia "tree_nodes") n par (.node a x (.node b y c))) (hn : (Sh.node a x (.node b y c)).idxs.Nodup)
    (hx : s.ienv "x" = x) (hp : par = -1 ∨ ∃ p : Nat, par = (p : Int) ∧ p + 1 < n ∧ p ∉ (Sh.node a x (.node b y c)).idxs)
    (hS : vAt (s.fa "tree_vals") (n - 1) 7 = smallest)
    (habs : absT (s.fa "tree_vals") (s.ia "tree_nodes") (.node a x (.node b y c)) = mapT emb t0) :
    let q := Gen.IL.vsLeftRotate.run s fuel
    ∃ t1, absT (q.fa "tree_vals") (q.ia "tree_nodes") (.node (.node a x b) y c) = mapT emb t1 ∧
      t1.toList = t0.toList ∧ (BST t0 → BST t1) ∧ (AugLe smallestK t0 → AugLe smallestK t1) ∧
      (Exact smallestK t0 → Exact smallestK t1) := by
  have h := (vsLeftRotate_refines s fuel n hv hrun a x b y c par hl hn hx hp).2.2.2.2.1
  rw [habs, hS, smallest_emb, rotL_emb] at h
  have hL := respects_rotL (α := α) smallestK
  exact ⟨rotL smallestK t0, h, hL.toList t0, hL.bst, hL.augLe, hL.exact⟩

/-- **a generated rotation anywhere in the tree is one `Rebal` step of the model**: run at `NV α` at a position (`ctx`) of a
    well-linked tree holding the image of `t0`, the generated `_left_rotate` leaves a well-linked tree without repeated rows
    that holds `atPath (rotL S) p t0` (`p` the path to the position) -- so it keeps the node list, BST and AugLe
    (`Respects.atPath`) and every relation `Rel` (`fixups_preserve`); likewise `_right_rotate` -/
theorem generated_rotation_at_path (s : State (NV α)) (fuel n : Nat) (hv : VS s n) (hrun : s.ctl = .run) (ctx : ILVs.Ctx)
    (a : Sh) (x : Nat) (b : Sh) (y : Nat) (c : Sh) (t0 : Viewshed.Tree α)
    (hS : vAt (s.fa "tree_vals") (n - 1) 7 = smallest) :
    (Linked (s.ia "tree_nodes") n (-1) (plug (.node a x (.node b y c)) ctx) →
      (plug (.node a x (.node b y c)) ctx).idxs.Nodup → s.ienv "x" = x →
      absT (s.fa "tree_vals") (s.ia "tree_nodes") (plug (.node a x (.node b y c)) ctx) = mapT emb t0 →
      let q := Gen.IL.vsLeftRotate.run s fuel
      let t1 := atPath (rotL smallestK) (pathOf ctx) t0
      q.ctl = .ret ∧ Linked (q.ia "tree_nodes") n (-1) (plug (.node (.node a x b) y c) ctx) ∧
        (plug (.node (.node a x b) y c) ctx).idxs.Nodup ∧
        absT (q.fa "tree_vals") (q.ia "tree_nodes") (plug (.node (.node a x b) y c) ctx) = mapT emb t1 ∧
        t1.toList = t0.toList ∧ (BST t0 → BST t1) ∧ (AugLe smallestK t0 → AugLe smallestK t1) ∧
        (∀ (d : Node α) (st : List (Node α)), Rel smallestK d t0 st → Rel smallestK d t1 st)) ∧
    (Linked (s.ia "tree_nodes") n (-1) (plug (.node (.node a x b) y c) ctx) →
      (plug (.node (.node a x b) y c) ctx).idxs.Nodup → s.ienv "y" = y →
      absT (s.fa "tree_vals") (s.ia "tree_nodes") (plug (.node (.node a x b) y c) ctx) = mapT emb t0 →
      let q := Gen.IL.vsRightRotate.run s fuel
      let t1 := atPath (rotR smallestK) (pathOf ctx) t0
      q.ctl = .ret ∧ Linked (q.ia "tree_nodes") n (-1) (plug (.node a x (.node b y c)) ctx) ∧
        (plug (.node a x (.node b y c)) ctx).idxs.Nodup ∧
        absT (q.fa "tree_vals") (q.ia "tree_nodes") (plug (.node a x (.node b y c)) ctx) = mapT emb t1 ∧
        t1.toList = t0.toList ∧ (BST t0 → BST t1) ∧ (AugLe smallestK t0 → AugLe smallestK t1) ∧
        (∀ (d : Node α) (st : List (Node α)), Rel smallestK d t0 st → Rel smallestK d t1 st)) := by
  have pL := (respects_rotL (α := α) smallestK).atPath (pathOf ctx)
  have pR := (respects_rotR (α := α) smallestK).atPath (pathOf ctx)
  refine ⟨fun hL hN hx habs => ?_, fun hL hN hy habs => ?_⟩
  · obtain ⟨r1, _, r3, r4, r5, _, _⟩ := vsLeftRotate_at_path s fuel n hv hrun ctx a x b y c hL hN hx
    rw [habs, hS, smallest_emb, atPath_emb _ _ (rotL_emb smallestK)] at r5
    exact ⟨r1, r3, r4, r5, pL.toList t0, pL.bst, pL.augLe,
      fun d st hr => fixups_preserve (Rebal.rotL (pathOf ctx) (Rebal.refl _)) hr⟩
  · obtain ⟨r1, _, r3, r4, r5, _, _⟩ := vsRightRotate_at_path s fuel n hv hrun ctx a x b y c hL hN hy
    rw [habs, hS, smallest_emb, atPath_emb _ _ (rotR_emb smallestK)] at r5
    exact ⟨r1, r3, r4, r5, pR.toList t0, pR.bst, pR.augLe,
      fun d st hr => fixups_preserve (Rebal.rotR (pathOf ctx) (Rebal.refl _)) hr⟩

/-- the small routines: `_find_value_min_value` is `minv`; `_tree_minimum` returns the row of the first node in order;
    `_search_for_node` returns NIL exactly when the model's `contains` is false -/
theorem generated_small_routines (s : State F) (fuel n : Nat) (hv : VS s n) (hrun : s.ctl = .run) :
    (PtrOK n (s.ienv "node_id") →
      (Gen.IL.vsFindValueMin.run s fuel).fenv "ret0" =
        (minv (nodeAt (s.fa "tree_vals") (rowOf n (s.ienv "node_id")))).v) ∧
    (∀ (l : Sh) (i : Nat) (r : Sh) (par : Int), Linked (s.ia "tree_nodes") n par (.node l i r) → s.ienv "x" = i →
      l.lheight < fuel →
      ∃ m : Nat, (Gen.IL.vsTreeMinimum.run s fuel).ienv "ret0" = m ∧
        (absT (s.fa "tree_vals") (s.ia "tree_nodes") (.node l i r)).toList.head? = some (nodeAt (s.fa "tree_vals") m)) ∧
    (∀ (sh : Sh) (par : Int), Linked (s.ia "tree_nodes") n par sh → s.ienv "root" = sh.ptr → sh.height < fuel →
      ((Gen.IL.vsSearch.run s fuel).ienv "ret0" = -1 ↔
        (absT (s.fa "tree_vals") (s.ia "tree_nodes") sh).contains ⟨s.fenv "key"⟩ = false)) := by
  refine ⟨fun hp => (vsFindValueMin_refines s fuel n hv hrun hp).2.1, fun l i r par hl hx hf => ?_,
    fun sh par hl hr hf => ?_⟩
  · exact ⟨minIdx l i, (vsTreeMinimum_refines s fuel n hv hrun l i r par hl hx hf).2.1, minIdx_head _ _ l i r⟩
  · rw [(vsSearch_refines s fuel n hv hrun sh par hl hr hf).2.1, findPtr_contains]
    simp

/-- the generated `_tree_successor` at a node with a right subtree (the only use `_delete_from_tree` makes of it)
    returns the row of the in-order successor: the first node in order of the right subtree -/
theorem generated_tree_successor (s : State F) (fuel n : Nat) (hv : VS s n) (hrun : s.ctl = .run)
    (l : Sh) (i : Nat) (rl : Sh) (m : Nat) (rr : Sh) (ctx : ILVs.Ctx)
    (hl : Linked (s.ia "tree_nodes") n (ctxPar ctx) (.node l i (.node rl m rr)))
    (hc : CtxLinked (s.ia "tree_nodes") n (i : Int) ctx) (hx : s.ienv "x" = i)
    (hf : (Sh.node rl m rr).height + ctx.length + 1 < fuel) :
    let q := Gen.IL.vsTreeSuccessor.run s fuel
    q.ctl = .ret ∧ ∃ k : Nat, q.ienv "ret0" = k ∧
      (absT (s.fa "tree_vals") (s.ia "tree_nodes") (.node rl m rr)).toList.head? = some (nodeAt (s.fa "tree_vals") k) := by
  obtain ⟨h1, h2, _, _⟩ := vsTreeSuccessor_refines s fuel n hv hrun l i (.node rl m rr) ctx hl hc hx hf
  obtain ⟨k, hk, hh⟩ := succPtr_head (s.fa "tree_vals") (s.ia "tree_nodes") rl m rr ctx
  exact ⟨h1, k, h2.trans hk, hh⟩

/-- **the generated `_insert_into_tree` is the model's complete insertion** (the whole routine: descent, creation and
    linking of the new red leaf, upward propagation of its minimum gradient, `_rb_insert_fixup` -- the recolouring loop
    with its four inlined rotations, all cases and both mirror images -- and the blackening of the root).  Run at `NV α`
    on arrays that hold the image of a non-empty tree `t0` (root and NIL row black, the NIL row holding the sentinel),
    with `node_id` a fresh row and `value` the node `nn`, the program returns with arrays that hold the image of
    `rbInsert S nn t0` (Model/ViewshedFix.lean) -- shape, colours, keys, gradients, stored maxima -- well linked, the old
    rows plus `node_id`, `ret0` the root row, the NIL row unchanged in maximum and colour, the root black.
    `rbInsert` is `leafInsert` followed by rotations and recolourings (`Rebal`), so it holds exactly the old nodes plus
    `nn`, preserves `Rel` with the new cell added (`leaf_insert_preserves`), and preserves `AugLe`. -/
theorem generated_insert_is_model_insert (s : State (NV α)) (fuel n m : Nat) (hv : VS s n) (hm : VVal s m)
    (hrun : s.ctl = .run) (l : Sh) (i : Nat) (rr : Sh) (hL : Linked (s.ia "tree_nodes") n (-1) (.node l i rr))
    (hN : (Sh.node l i rr).idxs.Nodup) (hroot : s.ienv "root" = i) (nid : Nat) (hnid : nid + 1 < n)
    (hfresh : nid ∉ (Sh.node l i rr).idxs) (hid : s.ienv "node_id" = nid)
    (hnil : nAt (s.ia "tree_nodes") (n - 1) 0 ≠ 0) (hblack : nAt (s.ia "tree_nodes") i 0 ≠ 0)
    (hS : vAt (s.fa "tree_vals") (n - 1) 7 = smallest)
    (hfuel : (Sh.node l i rr).height + 2 ≤ fuel) (t0 : Viewshed.Tree α) (nn : Node α)
    (habs : absT (s.fa "tree_vals") (s.ia "tree_nodes") (.node l i rr) = mapT emb t0) (hval : valNode s = mapN emb nn) :
    let r := Gen.IL.vsInsert.run s fuel
    let t1 := rbInsert smallestK nn t0
    r.ctl = .ret ∧ VS r n ∧ (∃ sh' : Sh, Linked (r.ia "tree_nodes") n (-1) sh' ∧ sh'.idxs.Nodup ∧
        sh'.idxs.Perm (nid :: (Sh.node l i rr).idxs) ∧
        absT (r.fa "tree_vals") (r.ia "tree_nodes") sh' = mapT emb t1 ∧ r.ienv "ret0" = sh'.ptr) ∧
      vAt (r.fa "tree_vals") (n - 1) 7 = smallest ∧ nAt (r.ia "tree_nodes") (n - 1) 0 ≠ 0 ∧ isRed t1 = false ∧
      Rebal smallestK (leafInsert nn t0) t1 ∧
      (∀ k, k ∈ t1.toList ↔ k = nn ∨ k ∈ t0.toList) ∧
      (∀ (d : Node α) (st : List (Node α)), Rel smallestK d t0 st → nn.key ≠ d.key → (∀ k ∈ st, k.key ≠ nn.key) →
        Rel smallestK d t1 (nn :: st)) ∧
      (AugLe smallestK t0 → AugLe smallestK t1) := by
  intro r t1
  obtain ⟨r1, r2, sh', r3, r4, r5, r6, r7, r8, r9, r10⟩ :=
    vsInsert_model s fuel n m hv hm hrun l i rr hL hN hroot nid hnid hfresh hid hnil hblack hfuel smallestK
      (by rw [hS, smallest_emb]) t0 nn habs hval
  have hreb : Rebal smallestK (leafInsert nn t0) t1 := rbInsert_rebal smallestK nn t0
  refine ⟨r1, r2, ⟨sh', r3, r4, r5, r6, r7⟩, by rw [r8, smallest_emb], r9, r10, hreb, fun k => ?_,
    fun d st hr hd hf => leaf_insert_preserves nn hr hd hf hreb, fun ha => hreb.augLe (insCore_AugLe smallestK nn ha)⟩
  rw [hreb.toList]
  exact insCore_toList nn t0 k

/-- **the generated `_delete_from_tree` is the pass-form deletion with the colour fix-up**, for every number type (the
    whole routine: search, choice of the node `y` to splice out -- `z` or its in-order successor --, the splice, loop L1,
    the recomputation F1, the successor copy with the recomputation C, loop L2, `_rb_delete_fixup` -- all four cases,
    both mirror images, the six inlined rotations -- and the blackening of `x`).
    A key that is not in the tree makes the program stop with `ValueError` (the model's `delCore = none`).  A key found
    at `(l, z, r, ctx)` in a tree that is not the single node `z` (the status structure always keeps its dummy root),
    with a black NIL row and every colour cell `RB_RED` or `RB_BLACK`, makes it return with arrays that hold
      `rbDelFix S (path of x) t1`  if `y` was black and its child `x` is a node,  else  `t1`,
    where `t1 = delPassArr ..` is the tree after the four passes *as the code has them* (`ILVs.delPassT`,
    Proofs/ILViewshedDelPass.lean: the code's operand orders, its `==` on the stored numbers, ties and NaN included),
    well linked over the old rows without `y`, `ret0` the root row, `ret1 = y`, NIL row and colour sanity kept.
    `rbDelFix` is a sequence of rotations and recolourings (`Rebal`, Proofs/ViewshedFix.lean), so whatever `Rebal`
    preserves (node list, order, no overestimate, exactness of the stored maxima) is preserved from `t1`.
    That the pass form is the hand model's `delCore` over a linear order is `ILVs.delPassT_eq_delCore`; the statement
    in terms of the hand model is `generated_delete_is_model_delete` below. -/
theorem generated_delete_is_pass_form (s : State F) (fuel n : Nat) (hv : VS s n) (hrun : s.ctl = .run) (sh : Sh)
    (hL : Linked (s.ia "tree_nodes") n (-1) sh) (hN : sh.idxs.Nodup) (hroot : s.ienv "root" = sh.ptr)
    (hnil : nAt (s.ia "tree_nodes") (n - 1) 0 = 1) (hcol : ∀ j ∈ sh.idxs, ColV (nAt (s.ia "tree_nodes") j 0))
    (hf : sh.height + 2 ≤ fuel) :
    ((absT (s.fa "tree_vals") (s.ia "tree_nodes") sh).contains ⟨s.fenv "key"⟩ = false →
      (Gen.IL.vsDelete.run s fuel).ctl = .err "ValueError") ∧
    (∀ (l : Sh) (z : Nat) (r : Sh) (ctx : ILVs.Ctx),
      findZ (s.fa "tree_vals") ⟨s.fenv "key"⟩ sh [] = some (l, z, r, ctx) → ¬ (l = .nil ∧ r = .nil ∧ ctx = []) →
      let q := Gen.IL.vsDelete.run s fuel
      let P := splicePos l z r ctx
      let S : Fv F := vAt (s.fa "tree_vals") (n - 1) 7
      let t1 := delPassArr (s.fa "tree_vals") (s.ia "tree_nodes") n P.1 P.2.1 P.2.2.1 P.2.2.2
      P.2.1 = spliceIdx l z r ∧ q.ctl = .ret ∧ VS q n ∧
      ∃ sh' : Sh, Linked (q.ia "tree_nodes") n (-1) sh' ∧ sh'.idxs.Nodup ∧ (P.2.1 :: sh'.idxs).Perm sh.idxs ∧
        absT (q.fa "tree_vals") (q.ia "tree_nodes") sh' =
          (if nAt (s.ia "tree_nodes") P.2.1 0 = 1 ∧ P.1.ptr ≠ -1 then rbDelFix S (P.2.2.1.map Fr.dir) t1 else t1) ∧
        Rebal S t1 (absT (q.fa "tree_vals") (q.ia "tree_nodes") sh') ∧
        q.ienv "ret0" = sh'.ptr ∧ q.ienv "ret1" = P.2.1 ∧ vAt (q.fa "tree_vals") (n - 1) 7 = S ∧
        nAt (q.ia "tree_nodes") (n - 1) 0 = 1 ∧ (∀ j ∈ sh'.idxs, ColV (nAt (q.ia "tree_nodes") j 0))) := by
  refine ⟨fun h => vsDelete_absent s fuel n hv hrun sh hL hroot (by omega) h, fun l z r ctx hfz hbig => ?_⟩
  intro q P S t1
  obtain ⟨c1, c2, sh', c3, c4, c5, c6, c7, c8, c9, c10, c11, _⟩ :=
    vsDelete_refines s fuel n hv hrun sh hL hN hroot l z r ctx hfz hbig hnil hcol hf
  obtain ⟨_, _, _, _, _, p3, _⟩ := splicePos_spec l z r ctx
  have hreb : Rebal S t1 (absT (q.fa "tree_vals") (q.ia "tree_nodes") sh') := by
    rw [c6]
    split
    · exact rbDelFix_rebal S _ t1
    · exact Rebal.refl t1
  exact ⟨p3, c1, c2, sh', c3, c4, c5, c6, hreb, c7, c8, c9, c10, c11⟩

/-- **the generated `_delete_from_tree` is the model's complete deletion.**  Run at `NV α` on arrays that hold the
    image of a tree `t0` (more than the one node to delete; NIL row black and holding the sentinel, colour cells sane)
    with `key = k` found in the tree, the program returns with arrays that hold the image of `t1`, where
    `rbDelete smallestK k t0 = some t1` (Model/ViewshedFix.lean): the hand model's `delCore` -- splice or successor copy
    with the code's repairs of the stored maxima (loops L1, L2, recomputations F1, C), ties included -- followed, when a
    black node was spliced out and its child is not NIL, by `_rb_delete_fixup` (`rbDelFix`); linking, `ret0`, `ret1`,
    NIL row and colour sanity as in `generated_delete_is_pass_form`.
    `t1` is `Rebal`-related to `delCore`'s result, so the conclusions of `delete_preserves_partial` and, under its
    hypotheses, of `delete_preserves_of_no_tie` hold of it (the last two conjuncts);
    with ties "no overestimate" can be lost -- that is a property of the code (`delete_can_overestimate`), and the
    program is proved to compute exactly that function. -/
theorem generated_delete_is_model_delete (s : State (NV α)) (fuel n : Nat) (hv : VS s n) (hrun : s.ctl = .run) (sh : Sh)
    (hL : Linked (s.ia "tree_nodes") n (-1) sh) (hN : sh.idxs.Nodup) (hroot : s.ienv "root" = sh.ptr)
    (hnil : nAt (s.ia "tree_nodes") (n - 1) 0 = 1) (hcol : ∀ j ∈ sh.idxs, ColV (nAt (s.ia "tree_nodes") j 0))
    (hS : vAt (s.fa "tree_vals") (n - 1) 7 = smallest) (hf : sh.height + 2 ≤ fuel)
    (t0 : Viewshed.Tree α) (k : α) (habs : absT (s.fa "tree_vals") (s.ia "tree_nodes") sh = mapT emb t0)
    (hkey : s.fenv "key" = some k) (l : Sh) (z : Nat) (r : Sh) (ctx : ILVs.Ctx)
    (hfind : findZ (s.fa "tree_vals") ⟨s.fenv "key"⟩ sh [] = some (l, z, r, ctx))
    (hbig : ¬ (l = .nil ∧ r = .nil ∧ ctx = [])) :
    let q := Gen.IL.vsDelete.run s fuel
    q.ctl = .ret ∧ VS q n ∧ ∃ (sh' : Sh) (c t1 : Viewshed.Tree α),
      delCore smallestK k t0 = some c ∧ rbDelete smallestK k t0 = some t1 ∧ Rebal smallestK c t1 ∧
      Linked (q.ia "tree_nodes") n (-1) sh' ∧ sh'.idxs.Nodup ∧ (spliceIdx l z r :: sh'.idxs).Perm sh.idxs ∧
      absT (q.fa "tree_vals") (q.ia "tree_nodes") sh' = mapT emb t1 ∧
      q.ienv "ret0" = sh'.ptr ∧ q.ienv "ret1" = spliceIdx l z r ∧ vAt (q.fa "tree_vals") (n - 1) 7 = smallest ∧
      nAt (q.ia "tree_nodes") (n - 1) 0 = 1 ∧ (∀ j ∈ sh'.idxs, ColV (nAt (q.ia "tree_nodes") j 0)) ∧
      (∀ (d : Node α) (st : List (Node α)), Rel smallestK d t0 st → (∃ m ∈ st, m.key = k) → d.key ≠ k →
        BST t1 ∧ ∀ m, m ∈ t1.toList ↔ (m = d ∨ m ∈ st.filter fun m => !(eqv m.key k))) ∧
      (∀ (d : Node α) (st : List (Node α)), Rel smallestK d t0 st → Exact smallestK t0 → (∃ m ∈ st, m.key = k) →
        d.key ≠ k → (∀ a ∈ t0.toList, ∀ b ∈ t0.toList, minv a = minv b → a.key = b.key) →
        (∀ m ∈ t0.toList, minv m = smallestK → m.key < k) →
        Exact smallestK t1 ∧ Rel smallestK d t1 (st.filter fun m => !(eqv m.key k))) := by
  intro q
  obtain ⟨c1, c2, sh', t1, c3, c4, c5, c6, c7, c8, c9, c10, c11, c12⟩ :=
    vsDelete_model s fuel n hv hrun sh hL hN hroot l z r ctx hfind hbig hnil hcol hf smallestK
      (by rw [hS, smallest_emb]) t0 k habs hkey
  obtain ⟨c, hc, hreb⟩ := rbDelete_rebal smallestK k t0 t1 c3
  obtain ⟨_, _, _, _, _, p3, _⟩ := splicePos_spec l z r ctx
  rw [p3] at c6 c9
  refine ⟨c1, c2, sh', c, t1, hc, c3, hreb, c4, c5, c6, c7, c8, c9, by rw [c10, smallest_emb], c11, c12, ?_, ?_⟩
  · intro d st hr hk hd
    obtain ⟨c', hc', h⟩ := delete_preserves_partial k hr hk hd
    rw [hc] at hc'
    cases hc'
    exact h t1 hreb
  · intro d st hr he hk hd hnt hsent
    obtain ⟨c', hc', h⟩ := delete_preserves_of_no_tie k hr he hk hd hnt hsent
    rw [hc] at hc'
    cases hc'
    exact h t1 hreb

/-! non-vacuity: a concrete state holding the three-node tree of the example after `query_decides` (rows 0 = the root
    with key 2, 1 = key 1, 2 = key 3, 3 = NIL); the generated query at key 3 returns 2, the gradient of the node
    with key 1 read from the left child's stored maximum (phase 1); the left rotation at the root applies -/
def exVals : List (NV ℚ) :=
  ([2, 1, 1, 1, 0, 1, 2, 1,   1, 2, 2, 2, 0, 1, 2, 2,   3, 0, 0, 0, 0, 1, 2, 0,
    0, 0, 0, 0, 0, 0, 0, -10000000000000000000000] : List ℚ).map some
def exNodes : List Int := [1, 1, 2, -1,   0, -1, -1, 0,   0, -1, -1, 0,   1, -1, -1, -1]
def exState [Trig ℚ] : State (NV ℚ) :=
  { State.empty with
    fa := fun a => if a = "tree_vals" then exVals else [],
    ia := fun a => if a = "tree_nodes" then exNodes else [],
    shp := fun a => if a = "tree_vals" then [4, 8] else if a = "tree_nodes" then [4, 4] else [],
    ienv := fun _ => 0,
    fenv := fun v => if v = "distance" then some 3 else if v = "angle" then some 1 else if v = "gradient" then some 0
      else none }
def exTree : Viewshed.Tree ℚ :=
  .node (.node .nil ⟨1, 2, 2, 2, 0, 1, 2⟩ 2 true .nil) ⟨2, 1, 1, 1, 0, 1, 2⟩ 1 false (.node .nil ⟨3, 0, 0, 0, 0, 1, 2⟩ 0 true .nil)
def exShape : Sh := .node (.node .nil 1 .nil) 0 (.node .nil 2 .nil)

theorem exState_holds [Trig ℚ] : Holds exState 4 exShape exTree := by
  refine ⟨⟨rfl, rfl, rfl, rfl, by decide⟩, rfl, ?_, by decide, rfl, ?_, ?_⟩
  · simp only [Linked, exState, exShape]; decide
  · norm_num [smallest]; rfl
  · rfl

example [Trig ℚ] : (Gen.IL.vsQuery.run exState 7).ctl = .ret ∧ (Gen.IL.vsQuery.run exState 7).fenv "ret0" = some 2 := by
  have hb : BST exTree := by rw [← bstB_iff]; decide
  obtain ⟨h1, h2, _, _⟩ := generated_query_is_model_query exState 7 4 exShape exTree exState_holds hb 3 1 0 rfl rfl rfl
    (by decide)
  refine ⟨h1, ?_⟩
  rw [h2]
  have : query (smallestK : ℚ) exTree 3 1 0 = 2 := by
    unfold smallestK
    norm_num [query, Tree.contains, short, walk, exTree, Tree.toList, spans, itp, mx2, mn2, minv, mxOf]
  rw [this]

example [Trig ℚ] :
    let q := Gen.IL.vsLeftRotate.run exState 0
    q.ctl = .ret ∧ q.ienv "ret0" = 2 ∧ Linked (q.ia "tree_nodes") 4 (-1) (.node (.node (.node .nil 1 .nil) 0 .nil) 2 .nil) := by
  have h := (generated_rotations_are_model_rotations exState 0 4 exState_holds.vs rfl (.node .nil 1 .nil) 0 .nil 2 .nil
    (-1)).1 exState_holds.linked (by decide) rfl (Or.inl rfl)
  exact ⟨h.1, by simpa using h.2.2.2, h.2.1⟩

/-- the same tree in five rows (row 3 free, row 4 = NIL) with a new node of key 4 in `value` -/
def exVals5 : List (NV ℚ) :=
  ([2, 1, 1, 1, 0, 1, 2, 1,   1, 2, 2, 2, 0, 1, 2, 2,   3, 0, 0, 0, 0, 1, 2, 0,   0, 0, 0, 0, 0, 0, 0, 0,
    0, 0, 0, 0, 0, 0, 0, -10000000000000000000000] : List ℚ).map some
def exNodes5 : List Int := [1, 1, 2, -1,   0, -1, -1, 0,   0, -1, -1, 0,   0, 0, 0, 0,   1, -1, -1, -1]
def exStateIns [Trig ℚ] : State (NV ℚ) :=
  { State.empty with
    fa := fun a => if a = "tree_vals" then exVals5 else if a = "value" then ([4, 3, 3, 3, 0, 1, 2, 0] : List ℚ).map some else [],
    ia := fun a => if a = "tree_nodes" then exNodes5 else [],
    shp := fun a => if a = "tree_vals" then [5, 8] else if a = "tree_nodes" then [5, 4] else if a = "value" then [8] else [],
    ienv := fun v => if v = "node_id" then 3 else 0 }

/-- non-vacuity of `generated_insert_is_model_insert`: the key 4 goes below the red node 3 whose sibling 1 is red as
    well -- the red-uncle case recolours both black and the root red, the root is blackened again -/
example [Trig ℚ] :
    (Gen.IL.vsInsert.run exStateIns 4).ctl = .ret ∧
      ∃ sh' : Sh, absT ((Gen.IL.vsInsert.run exStateIns 4).fa "tree_vals") ((Gen.IL.vsInsert.run exStateIns 4).ia "tree_nodes") sh' =
        mapT emb (rbInsert smallestK ⟨4, 3, 3, 3, 0, 1, 2⟩ exTree) ∧ (Gen.IL.vsInsert.run exStateIns 4).ienv "ret0" = sh'.ptr := by
  obtain ⟨h1, _, ⟨sh', _, _, _, h5, h6⟩, _⟩ := generated_insert_is_model_insert exStateIns 4 5 8
    ⟨rfl, rfl, rfl, rfl, by decide⟩ ⟨rfl, rfl, by decide⟩ rfl (.node .nil 1 .nil) 0 (.node .nil 2 .nil)
    (by simp only [Linked, exStateIns]; decide) (by decide) rfl 3 (by decide) (by decide) rfl
    (by simp only [exStateIns]; decide) (by simp only [exStateIns]; decide)
    (by norm_num [smallest]; rfl) (by decide)
    exTree ⟨4, 3, 3, 3, 0, 1, 2⟩ rfl rfl
  exact ⟨h1, sh', h5, h6⟩

example : rbInsert (smallestK : ℚ) ⟨4, 3, 3, 3, 0, 1, 2⟩ exTree =
    .node (.node .nil ⟨1, 2, 2, 2, 0, 1, 2⟩ 2 false .nil) ⟨2, 1, 1, 1, 0, 1, 2⟩ 3 false
      (.node .nil ⟨3, 0, 0, 0, 0, 1, 2⟩ 3 false (.node .nil ⟨4, 3, 3, 3, 0, 1, 2⟩ 3 true .nil)) := by
  decide

example [Trig ℚ] : (Gen.IL.vsDelete.run { exState with fenv := fun _ => some 7 } 4).ctl = .err "ValueError" :=
  (generated_delete_is_pass_form { exState with fenv := fun _ => some 7 } 4 4 ⟨rfl, rfl, rfl, rfl, by decide⟩ rfl exShape
    exState_holds.linked (by decide) rfl rfl
    (by simp only [ColV, exState, exShape]; decide) (by decide)).1 rfl

/-- non-vacuity of `generated_delete_is_pass_form`, no fix-up: the key 3 sits in the red leaf at row 2, which is
    spliced out itself; the program returns the freed row 2 -/
example [Trig ℚ] :
    (Gen.IL.vsDelete.run { exState with fenv := fun _ => some 3 } 5).ctl = .ret ∧
      (Gen.IL.vsDelete.run { exState with fenv := fun _ => some 3 } 5).ienv "ret1" = 2 := by
  obtain ⟨_, h1, _, _, _, _, _, _, _, _, h2, _⟩ := (generated_delete_is_pass_form { exState with fenv := fun _ => some 3 } 5 4
    ⟨rfl, rfl, rfl, rfl, by decide⟩ rfl exShape exState_holds.linked (by decide) rfl rfl
    (by simp only [ColV, exState, exShape]; decide) (by decide)).2 .nil 2 .nil [.R (.node .nil 1 .nil) 0]
    rfl (by simp)
  exact ⟨h1, h2⟩

/-- a four-node tree in six rows (row 4 free, row 5 = NIL): black root 2, black children 1 and 3, the red leaf 4 below 3 -/
def exVals6 : List (NV ℚ) :=
  ([2, 1, 1, 1, 0, 1, 2, 3,   1, 2, 2, 2, 0, 1, 2, 2,   3, 0, 0, 0, 0, 1, 2, 3,   4, 3, 3, 3, 0, 1, 2, 3,
    0, 0, 0, 0, 0, 0, 0, 0,   0, 0, 0, 0, 0, 0, 0, -10000000000000000000000] : List ℚ).map some
def exNodes6 : List Int := [1, 1, 2, -1,   1, -1, -1, 0,   1, -1, 3, 0,   0, -1, -1, 2,   0, 0, 0, 0,   1, -1, -1, -1]
def exStateDel [Trig ℚ] : State (NV ℚ) :=
  { State.empty with
    fa := fun a => if a = "tree_vals" then exVals6 else [],
    ia := fun a => if a = "tree_nodes" then exNodes6 else [],
    shp := fun a => if a = "tree_vals" then [6, 8] else if a = "tree_nodes" then [6, 4] else [],
    ienv := fun _ => 0,
    fenv := fun _ => some 3 }

/-- non-vacuity with the fix-up: the key 3 sits in the black node at row 2 whose only child is the red leaf at row 3;
    row 2 is spliced out, `_rb_delete_fixup` is called with `x` = row 3 (and blackens it) -/
example [Trig ℚ] :
    (Gen.IL.vsDelete.run exStateDel 5).ctl = .ret ∧ (Gen.IL.vsDelete.run exStateDel 5).ienv "ret1" = 2 ∧
      nAt (exStateDel.ia "tree_nodes") (splicePos .nil 2 (.node .nil 3 .nil) [.R (.node .nil 1 .nil) 0]).2.1 0 = 1 ∧
      (splicePos .nil 2 (.node .nil 3 .nil) [.R (.node .nil 1 .nil) 0]).1.ptr ≠ -1 := by
  obtain ⟨_, h1, _, _, _, _, _, _, _, _, h2, _⟩ := (generated_delete_is_pass_form exStateDel 5 6
    ⟨rfl, rfl, rfl, rfl, by decide⟩ rfl (.node (.node .nil 1 .nil) 0 (.node .nil 2 (.node .nil 3 .nil)))
    (by simp only [Linked, exStateDel]; decide) (by decide) rfl rfl
    (by simp only [ColV, exStateDel]; decide) (by decide)).2 .nil 2 (.node .nil 3 .nil) [.R (.node .nil 1 .nil) 0]
    rfl (by simp)
  exact ⟨h1, h2, by simp [splicePos, nAt, exStateDel, exNodes6], by simp [splicePos, Sh.ptr]⟩

def exTree6 : Viewshed.Tree ℚ :=
  .node (.node .nil ⟨1, 2, 2, 2, 0, 1, 2⟩ 2 false .nil) ⟨2, 1, 1, 1, 0, 1, 2⟩ 3 false
    (.node .nil ⟨3, 0, 0, 0, 0, 1, 2⟩ 3 false (.node .nil ⟨4, 3, 3, 3, 0, 1, 2⟩ 3 true .nil))

/-- non-vacuity of `generated_delete_is_model_delete`: the arrays of `exStateDel` hold `exTree6`; deleting the key 3
    splices out the black node, its red child takes its place and is blackened by the fix-up -/
example [Trig ℚ] :
    (Gen.IL.vsDelete.run exStateDel 5).ctl = .ret ∧
      ∃ (sh' : Sh) (t1 : Viewshed.Tree ℚ), rbDelete smallestK 3 exTree6 = some t1 ∧
        absT ((Gen.IL.vsDelete.run exStateDel 5).fa "tree_vals") ((Gen.IL.vsDelete.run exStateDel 5).ia "tree_nodes") sh' =
          mapT emb t1 ∧ (Gen.IL.vsDelete.run exStateDel 5).ienv "ret0" = sh'.ptr := by
  obtain ⟨h1, _, sh', c, t1, _, h2, _, _, _, _, h3, h4, _⟩ := generated_delete_is_model_delete exStateDel 5 6
    ⟨rfl, rfl, rfl, rfl, by decide⟩ rfl (.node (.node .nil 1 .nil) 0 (.node .nil 2 (.node .nil 3 .nil)))
    (by simp only [Linked, exStateDel]; decide) (by decide) rfl rfl
    (by simp only [ColV, exStateDel]; decide) (by norm_num [smallest]; rfl) (by decide)
    exTree6 3 rfl rfl
    .nil 2 (.node .nil 3 .nil) [.R (.node .nil 1 .nil) 0]
    rfl (by simp)
  exact ⟨h1, sh', t1, h2, h3, h4⟩

example : rbDelete (smallestK : ℚ) 3 exTree6 =
    some (.node (.node .nil ⟨1, 2, 2, 2, 0, 1, 2⟩ 2 false .nil) ⟨2, 1, 1, 1, 0, 1, 2⟩ 3 false
      (.node .nil ⟨4, 3, 3, 3, 0, 1, 2⟩ 3 false .nil)) := by
  decide

example [Trig ℚ] :
    absT ((Gen.IL.vsLeftRotate.run exState 0).fa "tree_vals") ((Gen.IL.vsLeftRotate.run exState 0).ia "tree_nodes")
      (.node (.node (.node .nil 1 .nil) 0 .nil) 2 .nil) = mapT emb (rotL smallestK exTree) :=
  ((generated_rotation_at_path exState 0 4 exState_holds.vs rfl [] (.node .nil 1 .nil) 0 .nil 2 .nil exTree
    exState_holds.nil).1 exState_holds.linked (by decide) rfl exState_holds.abs).2.2.2.1

end Generated

/-! ### 8. the event geometry, the event list and the output rule as *generated from the source* (layer T3)

  `Gen.IL.vsEventRowCol`, `vsEventPos`, `vsAngle`, `vsVerticalAng`, `vsInitEventList` are the ILang translations of
  `_calculate_event_row_col`, `_calc_event_pos`, `_calculate_angle`, `_get_vertical_ang`, `_init_event_list` (callees
  inlined; generated and validated as in section 7).  The refinement theorems (Proofs/ILVs*.lean) say that they compute
  the hand model of sections 5 and 6.  Bearings are `_calculate_angle` as an expression in `atan` (`angF`); they are
  not related to the exact cross-product order of section 6 here (that is compared by seam 0 of the correspondence). -/
section GeneratedEvents
open XrsVerif.IL XrsVerif.ILSw XrsVerif.ViewshedEvents
variable {F : Type} [Fl F]

/-- the generated `_calculate_event_row_col` names the model's diagonal neighbour `(row, col) + nbOff` for ENTER / EXIT of
    every cell and observer (its guard `abs(x - event_col > 1) or …` never fires); CENTER raises `ValueError` -/
theorem generated_event_corner_cell (s : State F) (fuel : Nat) (hs : s.ctl = .run) :
    let r := Gen.IL.vsEventRowCol.run s fuel
    let o := nbOff (s.ienv "event_type") (s.ienv "event_row" - s.ienv "viewpoint_row") (s.ienv "event_col" - s.ienv "viewpoint_col")
    (s.ienv "event_type" = 0 → r.ctl = .err "ValueError") ∧
    (s.ienv "event_type" ≠ 0 → r.ctl = .ret ∧ r.ienv "ret0" = s.ienv "event_row" + o.1 ∧ r.ienv "ret1" = s.ienv "event_col" + o.2) := by
  obtain ⟨h1, h2⟩ := vsEventRowCol_refines s fuel hs
  exact ⟨h1, fun h0 => ⟨(h2 h0).1, (h2 h0).2.1, (h2 h0).2.2.1⟩⟩

example [Trig ℚ] :
    let s : State (NV ℚ) := ⟨fun v => if v = "event_type" then 1 else if v = "event_row" then 2 else if v = "event_col" then 3 else 1,
      fun _ => none, fun _ => false, fun _ => [], fun _ => [], fun _ => [], fun _ _ _ _ _ _ => none, .run⟩
    (Gen.IL.vsEventRowCol.run s 0).ienv "ret0" = 3 ∧ (Gen.IL.vsEventRowCol.run s 0).ienv "ret1" = 2 := by
  intro s
  obtain ⟨_, h⟩ := generated_event_corner_cell s 0 rfl
  obtain ⟨_, h1, h2⟩ := h (by decide)
  rw [h1, h2]; decide

/-- **the generated `_calc_event_pos` returns the model's event point** (half the doubled coordinates `y2`, `x2` of `mkEvent`):
    the entering / exiting corner of section 6 for ENTER / EXIT, the cell centre for CENTER; its closing assertion holds -/
theorem generated_event_point [Trig α] (s : State (NV α)) (fuel : Nat) (hs : s.ctl = .run)
    (hty : s.ienv "event_type" = 1 ∨ s.ienv "event_type" = 0 ∨ s.ienv "event_type" = -1) :
    let r := Gen.IL.vsEventPos.run s fuel
    let o := posOff (s.ienv "event_type") (s.ienv "event_row" - s.ienv "viewpoint_row") (s.ienv "event_col" - s.ienv "viewpoint_col")
    r.ctl = .ret ∧ r.fenv "ret0" = some ((2 * (s.ienv "event_row" : α) + (o.1 : α)) / 2) ∧
      r.fenv "ret1" = some ((2 * (s.ienv "event_col" : α) + (o.2 : α)) / 2) := by
  intro r o
  obtain ⟨h1, h2, h3, _⟩ := vsEventPos_refines (halfOK_NV (K := α)) s fuel hs
  have hm : (o.1 = 1 ∨ o.1 = 0 ∨ o.1 = -1) ∧ (o.2 = 1 ∨ o.2 = 0 ∨ o.2 = -1) := by
    by_cases h0 : s.ienv "event_type" = 0
    · simp only [o]; rw [h0]; simp [posOff_centre]
    · simp only [o]; rw [posOff_eq_offOf _ _ _ h0]; exact offOf_mem _ _ _
  exact ⟨h1, h2.trans (halfF_NV _ _ hm.1), h3.trans (halfF_NV _ _ hm.2)⟩

/-- the offsets the *generated* programs add (`offOf`) are the model's `posOff` / `nbOff`, so
    `enter_corner_smallest_exit_corner_largest` applies to the corners they return -/
theorem generated_corners_are_extreme (dr dc : Int) (hne : dr ≠ 0 ∨ dc ≠ 0) :
    offOf 1 dr dc = posOff 1 dr dc ∧ offOf (-1) dr dc = posOff (-1) dr dc ∧ offOf 1 dr dc = nbOff 1 dr dc ∧
      offOf (-1) dr dc = nbOff (-1) dr dc :=
  ⟨(posOff_eq_offOf 1 dr dc (by decide)).symm, (posOff_eq_offOf (-1) dr dc (by decide)).symm,
   (nbOff_eq_offOf 1 dr dc).symm, (nbOff_eq_offOf (-1) dr dc).symm⟩

/-- the generated `_calculate_angle` computes the bearing formula `angF` (axis cases first, then `atan (|Δy| / |Δx|)` placed
    in its quadrant), for every number type -/
theorem generated_bearing (s : State F) (fuel : Nat) (hs : s.ctl = .run) :
    let r := Gen.IL.vsAngle.run s fuel
    r.ctl = .ret ∧ r.fenv "ret0" =
      angF (s.fenv "event_x") (s.fenv "event_y") (Fl.lit (s.ienv "viewpoint_x") 1) (Fl.lit (s.ienv "viewpoint_y") 1) := by
  obtain ⟨h1, h2, _⟩ := vsAngle_refines s fuel hs
  exact ⟨h1, h2⟩

/-- due east is bearing 0, due north `π / 2` (rows grow downwards), whatever `atan` is -/
example [Trig ℚ] : angF (some 3 : NV ℚ) (some 1) (some 1) (some 1) = some 0 ∧
    angF (some 1 : NV ℚ) (some 0) (some 1) (some 1) = Fl.div piF (Fl.lit 2 1) := by
  constructor <;> simp [angF]

/-- **the vertical angle the generated `_get_vertical_ang` returns lies in [0, 180], 90 = level** (`vertical_angle_range` for
    the program translated statement by statement; its assertion does not fire at positive distance) -/
theorem generated_vertical_angle_range [Trig α] (H : TrigHyp α) (s : State (NV α)) (fuel : Nat) (hs : s.ctl = .run) (ve d2 e : α)
    (h1 : s.fenv "viewpoint_elev" = some ve) (h2 : s.fenv "distance_to_viewpoint" = some d2) (h3 : s.fenv "elev" = some e)
    (hd : 0 < d2) :
    let r := Gen.IL.vsVerticalAng.run s fuel
    r.ctl = .ret ∧ ∃ v, r.fenv "ret0" = some v ∧ 0 ≤ v ∧ v ≤ 180 ∧
      (e < ve → 0 < v ∧ v < 90) ∧ (e = ve → v = 90) ∧ (ve < e → 90 < v ∧ v < 180) := by
  obtain ⟨g1, _⟩ := vsVerticalAng_refines s fuel hs
  have hpos : Fl.lt (Fl.lit 0 1) (Fl.abs (s.fenv "distance_to_viewpoint")) = true := by
    rw [h2]; simp [abs_pos.mpr (ne_of_gt hd)]
  obtain ⟨c1, c2, _⟩ := g1 hpos
  obtain ⟨v, hv, rest⟩ := vertical_angle_range H ve d2 e hd
  refine ⟨c1, v, ?_, rest⟩
  rw [c2, h1, h2, h3, vangF_eq_vertAng ve d2 e hd, hv]

/-- **the generated `_init_event_list` writes the model's event list**: on a NaN-free `h × w` terrain `T` (read from `raster`)
    with the observer at `(vr, vc)`, the cell at linear position `p ≠ observer` -- the `cntBefore`-th non-observer cell in
    row-major order -- owns rows `3 · rank + t` of `event_list`, `t = 0, 1, 2` = ENTER, CENTER, EXIT, and they hold the model's
    `mkEvent` (row, column, type, entering-corner / centre / exiting-corner elevation; the bearing field is `_calculate_angle`
    of the model's event point); `data` holds the model's `dataRow`; the observer's cell of the visibility grid is 180 -/
theorem generated_event_list [Trig ℚ] (s : State (NV ℚ)) (fuel h w n vr vc : Nat) (wf : InitWf s h w n vr vc)
    (T : Int → Int → ℚ) (hT : terr (s.fa "raster") w = embT T) :
    let r := Gen.IL.vsInitEventList.run s fuel
    r.ctl = .ret ∧
    (∀ p, p < h * w → p ≠ vr * w + vc → ∀ t, t < 3 →
      let e := mkEvent T h w vr vc (p / w : Nat) (p % w : Nat) (tyOf t)
      ∀ k, k < 7 → (r.fa "event_list").getD ((3 * cntBefore (vr * w + vc) p + t) * 7 + k) none =
        ([some (e.row : ℚ), some (e.col : ℚ), some (e.ty : ℚ),
          angF (some ((e.x2 : ℚ) / 2)) (some ((e.y2 : ℚ) / 2)) (some (vc : ℚ)) (some (vr : ℚ)),
          some e.e0, some e.e1, some e.e2] : List (NV ℚ)).getD k none) ∧
    (∀ col, col < w → ∀ a b c, (dataRow T h w vr vc)[col]? = some (a, b, c) →
      (r.fa "data").getD col none = some a ∧ (r.fa "data").getD (w + col) none = some b ∧
        (r.fa "data").getD (2 * w + col) none = some c) ∧
    r.fa "visibility_grid" = (s.fa "visibility_grid").set (vr * w + vc) (some 180) := by
  obtain ⟨c1, c2, _, c4, _, c6, _⟩ := vsInitEventList_refines (litOK_NV (K := ℚ)) (halfOK_NV (K := ℚ)) s fuel h w n vr vc wf
  refine ⟨c1, ?_, ?_, ?_⟩
  · intro p hp hpo t ht e k hk
    have := c2 p hp hpo t ht k hk
    rw [hT, evRowF_model T h w vr vc] at this
    exact this
  · intro col hcol a b c hrow
    obtain ⟨d1, d2, d3⟩ := c4 col hcol
    rw [hT] at d1 d2 d3
    simp only [dataRow, List.getElem?_map, List.getElem?_range hcol, Option.map_some, Option.some.injEq] at hrow
    by_cases hc : col = vc
    · subst hc
      simp only [dataTriple, if_true] at d1 d2 d3
      simp only [if_true, Prod.mk.injEq] at hrow
      obtain ⟨rfl, rfl, rfl⟩ := hrow
      exact ⟨d1, d2, d3⟩
    · have hc' : ¬ ((col : Int) = (vc : Int)) := by omega
      simp only [dataTriple, hc, if_false, cornerElevF_model] at d1 d2 d3
      simp only [hc', if_false, Prod.mk.injEq] at hrow
      obtain ⟨rfl, rfl, rfl⟩ := hrow
      exact ⟨d1, d2, d3⟩
  · rw [c6]; simp

/-- non-vacuity: a 1 × 2 terrain, the observer on the west cell: the only other cell yields rows 0, 1, 2 -/
example [Trig ℚ] :
    let s : State (NV ℚ) := ⟨fun _ => 0, fun _ => none, fun _ => false, fun _ => [],
      fun a => if a = "raster" then [some 1, some 2] else if a = "event_list" then List.replicate 21 (some 0)
        else if a = "data" then List.replicate 6 (some 0) else if a = "visibility_grid" then [some (-1), some (-1)] else [],
      fun a => if a = "raster" then [1, 2] else if a = "event_list" then [3, 7] else if a = "data" then [3, 2]
        else if a = "visibility_grid" then [1, 2] else [], fun _ _ _ _ _ _ => none, .run⟩
    InitWf s 1 2 3 0 0 ∧ terr (s.fa "raster") 2 = embT (fun r c => if r = 0 ∧ c = 0 then 1 else if r = 0 ∧ c = 1 then 2 else 0) →
    (Gen.IL.vsInitEventList.run s 0).fa "visibility_grid" = [some 180, some (-1)] := by
  intro s hh
  obtain ⟨_, _, _, h4⟩ := generated_event_list s 0 1 2 3 0 0 hh.1 _ hh.2
  rw [h4]; rfl

/-! #### the sweep (`Gen.IL.vsSweep`, `_viewshed_cpu_sweep`)

  One iteration of the initial fill and of the event loop for each event type (`evBody_enter`, `evBody_exit`,
  `evBody_center` of Proofs/ILVsSweep*.lean) is proved *in terms of the inlined tree routines as black boxes*:
  `InsContract`, `DelContract`, `QryContract` say of the inlined copy what the hand model says of the operation
  (`leafInsert` / `delCore` up to `Rebal`, the two-phase query).  PARTIAL, see `generated_sweep_partial`. -/

/-- the generated sweep is the sweep template around its four inlined tree routines (any edit of `_viewshed_cpu_sweep` or of
    an inlined geometry function breaks this) -/
theorem generated_sweep_template :
    Gen.IL.vsSweep.body = sweepBody insFill insLoop delLoop qryLoop := vsSweep_is_template

/-- **the set-up of the generated sweep builds the model's initial status structure**: after it, `root = 0`, the two arrays
    hold a well-linked tree consisting of the permanent dummy root alone (`initTree`: key 0, gradients (-1, -1, S),
    bearings (S, S, 0), stored maximum S, black), the NIL row carries the sentinel, and the idle stack holds the rows
    `2 … N - 1` (`idle[0] = N - 2` is its height, row 2 on top); the visibility grid and `data` are untouched -/
theorem generated_sweep_setup [Trig α] (s : State (NV α)) (fuel h w vc N : Nat) (hs : s.ctl = .run)
    (shR : s.shp "raster" = [h, w]) (hvc : s.ienv "vp_col" = vc) (hvcw : vc ≤ w) (hN : (w : Int) - vc + w * h + 10 = (N : Int)) :
    let r := exec fuel (ILVs.seqL sweepSetup) s
    r.ctl = .run ∧ r.ienv "root" = 0 ∧
      ILVs.Linked (r.ia "status_struct") N (-1) (.node .nil 0 .nil) ∧
      ILVs.absT (r.fa "status_values") (r.ia "status_struct") (.node .nil 0 .nil) =
        ILVs.mapT ILVs.emb (initTree (ILVs.smallestK : α) 0 (-1)) ∧
      ILVs.vAt (r.fa "status_values") (N - 1) 7 = ILVs.smallest ∧
      r.ia "idle" = idleInit N ∧ r.fa "visibility_grid" = s.fa "visibility_grid" ∧ r.fa "data" = s.fa "data" := by
  have hwh : (0 : Int) ≤ (w : Int) * h := by positivity
  have hN2 : 2 ≤ N := by omega
  have st := sweepSetup_exec s fuel h w vc N hs shR hvc hvcw hN
  obtain ⟨t1, t2, t3⟩ := setup_tree (F := NV α) N hN2
  refine ⟨st.ctl, st.root, ?_, ?_, ?_, st.idle, (st.keepF _ (by simp)).1, (st.keepF _ (by simp)).1⟩
  · rw [st.ss]; exact t1
  · rw [st.sv, st.ss, t2]
    simp [ILVs.mapT, initTree, dummy, dummyNodeF, ILVs.mapN, ILVs.emb, ILVs.smallest, ILVs.smallestK]
  · rw [st.sv]; exact t3


/-- non-vacuity: a 1 × 2 raster, the observer in column 0: fourteen rows, `root = 0` -/
example [Trig ℚ] :
    let s : State (NV ℚ) := ⟨fun _ => 0, fun _ => none, fun _ => false, fun _ => [], fun _ => [],
      fun a => if a = "raster" then [1, 2] else [], fun _ _ _ _ _ _ => none, .run⟩
    (exec 0 (ILVs.seqL sweepSetup) s).ienv "root" = 0 ∧ (exec 0 (ILVs.seqL sweepSetup) s).ia "idle" = idleInit 14 := by
  intro s
  obtain ⟨_, h2, _, _, _, h6, _⟩ := generated_sweep_setup (α := ℚ) s 0 1 2 0 14 rfl rfl rfl (by decide) (by decide)
  exact ⟨h2, h6⟩

/-- **a CENTER event of the generated sweep decides line of sight and writes the vertical angle** (over the contract of the
    inlined query): on arrays holding the image of a tree `t0` with ordered keys and no overestimate below the root, with
    the event's cell `(r, c)` active, the loop body writes `_get_vertical_ang` into `visibility_grid[r, c]` exactly when no
    nearer active cell spanning the event's bearing has a greater interpolated gradient -- `query_decides` for the program --
    and leaves the grid alone otherwise.  (`K`, `g`: the key and the centre gradient the program computes; their being
    numbers, the key positive and the vertical angle non-negative are hypotheses: `atan` / `sqrt` are uninterpreted.) -/
theorem generated_center_event [Trig α] (hq : QryContract (NV α) qryLoop qP) (ins del : St) (s : State (NV α))
    (fuel n h w ne : Nat) (sh : ILVs.Sh) (r c k : Nat) (inv : EvInv s ne k) (hv : SVS s n)
    (hL : ILVs.Linked (s.ia "status_struct") n (-1) sh) (hN : sh.idxs.Nodup) (hroot : s.ienv "root" = sh.ptr)
    (hS : ILVs.vAt (s.fa "status_values") (n - 1) 7 = ILVs.smallest) (shV : s.shp "visibility_grid" = [h, w])
    (hr0 : rctAt s k 0 = r) (hc0 : rctAt s k 1 = c) (hty : rctAt s k 2 = 0) (hr : r < h) (hc : c < w)
    (hfuel : sh.size + sh.height + 2 ≤ fuel)
    (t0 : Viewshed.Tree α) (habs : ILVs.absT (s.fa "status_values") (s.ia "status_struct") sh = ILVs.mapT ILVs.emb t0)
    (hb : BST t0) (haq : AugLeQ ILVs.smallestK t0) (K g a : α)
    (hkey : keyF (r : Int) (c : Int) (s.ienv "vp_row") (s.ienv "vp_col") (s.fenv "ew_res") (s.fenv "ns_res") = some K)
    (hg : gradCellF (r : Int) (c : Int) (Fl.add (aeAt s k 2) (s.fenv "vp_target")) (s.ienv "vp_row") (s.ienv "vp_col")
      (s.fenv "vp_elev") (s.fenv "ew_res") (s.fenv "ns_res") = some g)
    (ha : aeAt s k 0 = some a) (hSg : ILVs.smallestK ≤ g) (hKpos : 0 < K)
    (hact : ∃ m ∈ t0.toList, m.key = K) (hspan : ∀ m ∈ t0.toList, m.key < K → spans m a = true ∨ minv m ≤ g)
    (hge : Fl.le (Fl.lit 0 1) (vangF (s.fenv "vp_elev") (some K) (Fl.add (aeAt s k 2) (s.fenv "vp_target"))) = true) :
    let visible := ∀ m ∈ t0.toList, m.key < K → spans m a = true → itp m a ≤ g
    ∃ s' : State (NV α), exec fuel (evBody ins del qryLoop) s = s' ∧ s'.ctl = .run ∧ s'.ia = s.ia ∧
      s'.fa "status_values" = s.fa "status_values" ∧
      (visible → s'.fa "visibility_grid" = (s.fa "visibility_grid").set (r * w + c)
        (vangF (s.fenv "vp_elev") (some K) (Fl.add (aeAt s k 2) (s.fenv "vp_target")))) ∧
      (¬ visible → s'.fa "visibility_grid" = s.fa "visibility_grid") := by
  intro visible
  have hpos : Fl.lt (Fl.lit 0 1) (Fl.abs (some K : NV α)) = true := by simp [abs_pos.mpr (ne_of_gt hKpos)]
  obtain ⟨ie', fe', be', hex, _, _⟩ := evBody_center hq ins del s fuel n h w ne sh r c k inv hv hL hN hroot hS shV hr0 hc0 hty hr hc
    hfuel (by rw [hkey, habs]; exact ILVs.predsOf_emb_not_lt hb K) (by rw [hkey]; exact hpos) (by rw [hkey]; exact hge)
  rw [hkey, hg, ha, habs, show (ILVs.queryP ILVs.smallest (ILVs.mapT ILVs.emb t0) ⟨(some K : NV α)⟩ ⟨some a⟩ ⟨some g⟩).v = _ from
    ILVs.queryP_emb_eq_query hb ILVs.smallestK K a g] at hex
  have hdec := query_decides K a g hSg hb haq hact hspan
  refine ⟨_, hex, rfl, rfl, by simp [IL.setS_apply], ?_, ?_⟩
  · intro hvis
    have : query ILVs.smallestK t0 K a g ≤ g := hdec.mpr hvis
    simp [this]
  · intro hvis
    have : ¬ query ILVs.smallestK t0 K a g ≤ g := fun hle => hvis (hdec.mp hle)
    simp [this]

/-- **the contract of the inlined `_max_grad_in_status_struct` holds** (for every number type): the copy inside the generated
    sweep is the stand-alone `Gen.IL.vsQuery` renamed (`qryLoop_is_renaming`), so `vsQuery_refines` applies to it
    (`exec_ren`, `exec_renA`), and it writes no array and no scalar outside its prefix (`exec_frame`) -/
theorem generated_query_contract {F : Type} [Fl F] : QryContract F qryLoop qP := qryContract

/-- **the four inlined status-tree routines of the generated sweep are the stand-alone programs renamed**: scalars by a
    table (the routine's prefix, inline counters shifted), the array parameters replaced by the sweep's
    arrays (`tree_vals ↦ status_values`, `tree_nodes ↦ status_struct`, `value ↦ status_node`) -/
theorem generated_tree_routines_are_renamings :
    ILVs.renAS (ILVs.swapT arrTbl) (ILVs.renS (ILVs.swapT qryTbl) Gen.IL.vsQuery.body) = qryLoop ∧
    ILVs.renAS (ILVs.swapT arrTbl) (ILVs.renS (ILVs.swapT insFillTbl) Gen.IL.vsInsert.body) = insFill ∧
    ILVs.renAS (ILVs.swapT arrTbl) (ILVs.renS (ILVs.swapT insLoopTbl) Gen.IL.vsInsert.body) = insLoop ∧
    ILVs.renAS (ILVs.swapT arrTbl) (ILVs.renS (ILVs.swapT delTbl) Gen.IL.vsDelete.body) = delLoop :=
  ⟨qryLoop_is_renaming, insFill_is_renaming, insLoop_is_renaming, delLoop_is_renaming⟩

/-- non-vacuity of the query contract: the status structure right after the set-up (the dummy root alone, row 1 = NIL) -- the
    inlined query at key 1 runs to its end inside the sweep's state and changes no array -/
example [Trig ℚ] :
    let s : State (NV ℚ) := { State.empty with
      fa := fun a => if a = "status_values" then
        ([0, -1, -1, -10000000000000000000000, -10000000000000000000000, -10000000000000000000000, 0, -10000000000000000000000,
          0, 0, 0, 0, 0, 0, 0, -10000000000000000000000] : List ℚ).map some else [],
      ia := fun a => if a = "status_struct" then [1, -1, -1, -1,  1, -1, -1, -1] else [],
      shp := fun a => if a = "status_values" then [2, 8] else if a = "status_struct" then [2, 4] else [],
      ienv := fun _ => 0,
      fenv := fun v => if v = "_max_grad_in_status_struct101$distance" then some 1 else some 0 }
    (exec 5 (.scope qryLoop) s).ctl = .run ∧ (exec 5 (.scope qryLoop) s).fa = s.fa := by
  intro s
  obtain ⟨ie, fe, be, h, _⟩ := generated_query_contract (F := NV ℚ) s 5 2 (.node .nil 0 .nil) rfl
    ⟨rfl, rfl, rfl, rfl, by decide⟩ (by simp only [ILVs.Linked, s]; decide) (by decide) rfl
    (by norm_num [ILVs.smallest]; rfl)
    (by
      intro nd hnd
      obtain rfl := List.mem_singleton.mp hnd
      simp [ILVs.fv_lt, s, ILVs.vAt, qP])
    (by decide)
  rw [h]
  exact ⟨rfl, rfl⟩

/-- **the sweep by induction over the event list -- what is missing** (PARTIAL): the iteration theorems compose into "the
    generated sweep is the model's sweep `runT` over `sweepOps`" once (i) the two remaining contracts `InsContract` (for
    `insFill`, `insLoop`) and `DelContract` (for `delLoop`) are discharged the way `generated_query_contract` discharges
    `QryContract`: the copies ARE renamings of `Gen.IL.vsInsert.body` / `Gen.IL.vsDelete.body`
    (`generated_tree_routines_are_renamings`); missing are the duplicate check of their three tables (`TblOK`, as
    `qryTbl_ok`) and the model-level step from `vsInsert_refines` (`rbInsertC`) / `vsDelete_refines` (`delPassArr` +
    `rbDelFix`) to `Rebal (leafInsert …)` / `Rebal (delCore …)` for every number type, with the colour invariants as
    preconditions (root black before insert; NIL colour cell 1 and all colour cells 0/1 before delete -- `vsInsert_refines`
    does not restate the latter, so the two do not chain as they stand), (ii) the idle-stack invariant (the rows
    above the stack height are exactly the rows not in the tree) is carried through the two loops, (iii)
    `sweep_discipline` is used to discharge "the key is in the tree" at EXIT / CENTER and "the key is not" at ENTER, and the
    three run-time assertions stay hypotheses.  What IS established unconditionally: the code around the tree routines, the
    query contract, and that all four copies are renamings. -/
theorem generated_sweep_partial :
    Gen.IL.vsSweep.body = ILVs.seqK sweepSetup
      (.seq (fillLoop insFill) (.seq (.setI "nevents" (.dim "event_rcts" 0)) (.seq (evLoop insLoop delLoop qryLoop) .ret))) :=
  vsSweep_is_template

end GeneratedEvents

/-! ### 9. the wrapper glue: what `_viewshed_cpu` feeds the kernels (Model/ViewshedWrapper.lean)

  `Gen.Viewshed.{ewResSrc, nsResSrc, obsRowSrc, obsColSrc, sweepParams, sweepArgs, initEventListArgs, ..}` are read from the
  source of `_viewshed_cpu` on every run by a symbolic evaluation of its straight-line body (`harness/facts_viewshed.py:
  wrapper_facts`); `ViewshedWrapper.wrapperInputs` INTERPRETS them. -/
section Wrapper
open XrsVerif.ViewshedWrapper XrsVerif.ViewshedEvents XrsVerif.Gen.Viewshed

/-- **the shape of `_viewshed_cpu` in the source** (facts read on every run): both cell sizes are `(c[-1] - c[0]) / (n - 1)` over
    the coordinate array of their own axis with the matching extent; the observer's row / column come from
    `sel(method='nearest')` followed by the equality lookup on the coordinate array of their own axis, after the per-axis
    `ValueError` range guard; the eye elevation is the raster value at that cell plus `observer_elev`, the target offset
    `target_elev` when positive, else 0; the raster is cast to float64 in place before `_init_event_list`; the event list is
    `np.lexsort`ed by (bearing, then type) and split into the int64 columns `[:, :3]` and the float64 columns `[:, 3:]`; and
    each of these is passed in the position of the kernel parameter that means it (`ew_res` gets the x size, `ns_res` the y
    size, `vp_row` the y index, ...). -/
theorem wrapper_source_shape :
    wrapperOk = true ∧
    ewResSrc = .coordSpan "x" "shape[1]" ∧ nsResSrc = .coordSpan "y" "shape[0]" ∧
    obsRowSrc = .nearestThenEq "y" ∧ obsColSrc = .nearestThenEq "x" ∧
    rangeChecks = [("x", "ValueError"), ("y", "ValueError")] ∧
    viewpointElevSrc = "float(raster.values[obs:row, obs:col]) + observer_elev" ∧
    viewpointTargetSrc = "target_elev if target_elev > 0 else 0.0" ∧
    rasterCast = "raster.values.astype(np.float64)" ∧ rasterCastBeforeInit = true ∧
    initEventListArgs = [("event_list", "zeros:events"), ("raster", "raster.values:float64"), ("vp_row", "obs:y"),
      ("vp_col", "obs:x"), ("data", "zeros:data"), ("visibility_grid", "filled:INVISIBLE")] ∧
    sortedEventsSrc = "lexsort(E_TYPE_ID,E_ANG_ID)" ∧
    eventRctsSrc = ("sorted[:, :3]", "int64") ∧ eventAesSrc = ("sorted[:, 3:]", "float64") ∧
    sweepParams.zip sweepArgs = [("raster", "raster.values:float64"), ("vp_row", "obs:y"), ("vp_col", "obs:x"),
      ("vp_elev", "velev"), ("vp_target", "vtarget"), ("ew_res", "res:x"), ("ns_res", "res:y"), ("event_rcts", "rcts"),
      ("event_aes", "aes"), ("data", "zeros:data"), ("visibility_grid", "filled:INVISIBLE")] ∧
    wiringOk = true :=
  ⟨rfl, rfl, rfl, rfl, rfl, rfl, rfl, rfl, rfl, rfl, rfl, rfl, rfl, rfl, rfl, wiringOk_holds⟩

/-- **the observer's cell is the nearest centre, on every axis direction**: for ANY coordinate arrays (ascending, descending,
    any spacing) the row / column the source's lookup yields exists, is inside the raster, and no other coordinate is
    nearer to the observer's `y` / `x` -/
theorem observer_cell_is_nearest_centre (xs ys : List Rat) (x y : Rat) (hx : xs ≠ []) (hy : ys ≠ []) :
    ∃ vr vc, obsIndex obsRowSrc xs ys x y = some vr ∧ obsIndex obsColSrc xs ys x y = some vc ∧
      ∃ (hr : vr < ys.length) (hc : vc < xs.length),
        (∀ i (hi : i < ys.length), |ys[vr] - y| ≤ |ys[i] - y|) ∧ (∀ j (hj : j < xs.length), |xs[vc] - x| ≤ |xs[j] - x|) := by
  obtain ⟨vr, hvr, hr, hnr⟩ := obsIndex_nearest ys y hy
  obtain ⟨vc, hvc, hc, hnc⟩ := obsIndex_nearest xs x hx
  obtain ⟨_, _, _, e1, e2, _⟩ := wrapper_source_shape
  refine ⟨vr, vc, ?_, ?_, hr, hc, ?_, ?_⟩
  · rw [e1]; simpa [obsIndex, axisCoords] using hvr
  · rw [e2]; simpa [obsIndex, axisCoords] using hvc
  · intro i hi; simpa [dist_eq_abs] using hnr i hi
  · intro j hj; simpa [dist_eq_abs] using hnc j hj

/-- **the cell size is the coordinate spacing**: on equally spaced coordinates (any origin, any step -- fractional, negative
    = a descending axis) the sizes the source passes as `ew_res` / `ns_res` are the signed steps -- whatever the attributes
    of the DataArray say -/
theorem resolution_is_coordinate_spacing (x0 dx y0 dy : Rat) (h w : Nat) (hh : 2 ≤ h) (hw : 2 ≤ w) :
    resOf ewResSrc (coordsAP x0 dx w) (coordsAP y0 dy h) = some dx ∧
    resOf nsResSrc (coordsAP x0 dx w) (coordsAP y0 dy h) = some dy := by
  obtain ⟨_, e1, e2, _⟩ := wrapper_source_shape
  rw [e1, e2]
  constructor
  · simp [resOf, axisCoords, extentOf, coordsAP_head x0 dx w (by omega), coordsAP_getLast x0 dx w (by omega),
      coordsAP_length]
    simpa using span_div x0 dx w hw
  · simp [resOf, axisCoords, extentOf, coordsAP_head y0 dy h (by omega), coordsAP_getLast y0 dy h (by omega),
      coordsAP_length]
    simpa using span_div y0 dy h hh

/-- **under the facts generated from the source the wrapper feeds the sweep the model's inputs.**  For every terrain, every
    raster of at least 2 x 2 equally spaced coordinates (any origin; steps of any sign and size, `dx ≠ dy` allowed), every
    observer position within the coordinate range, every observer / target height: `_viewshed_cpu` reaches the kernels with
      * the observer's cell = a cell whose centre is nearest to `(x, y)` in each axis,
      * `ew_res = dx`, `ns_res = dy` (signed), so that the key of every cell -- all the kernels ever use the sizes for -- is the
        squared distance between the two cells' COORDINATES,
      * eye elevation = terrain at that cell + `observer_elev`, target offset = `max target_elev 0`;
    the event arrays are the `np.lexsort((type, bearing))` of what `_init_event_list` produced for that cell
    (`wrapper_source_shape`), i.e. `sortedEvents` of `events_sorted`. -/
theorem wrapper_feeds_the_sweep_the_model_inputs (T : Int → Int → Rat) (x0 dx y0 dy x y oe te : Rat) (h w : Nat)
    (hh : 2 ≤ h) (hw : 2 ≤ w)
    (hx : inRange (coordsAP x0 dx w) x = true) (hy : inRange (coordsAP y0 dy h) y = true) :
    ∃ I : Inputs, wrapperInputs T (coordsAP x0 dx w) (coordsAP y0 dy h) x y oe te = .ok I ∧
      I.vr < h ∧ I.vc < w ∧
      (∀ i, i < h → |(y0 + (I.vr : Rat) * dy) - y| ≤ |(y0 + (i : Rat) * dy) - y|) ∧
      (∀ j, j < w → |(x0 + (I.vc : Rat) * dx) - x| ≤ |(x0 + (j : Rat) * dx) - x|) ∧
      I.ew = dx ∧ I.ns = dy ∧
      I.velev = T I.vr I.vc + oe ∧ I.vt = max te 0 ∧
      ∀ row col : Int, key I.ew I.ns I.vr I.vc row col =
        ((x0 + (col : Rat) * dx) - (x0 + (I.vc : Rat) * dx)) ^ 2 + ((y0 + (row : Rat) * dy) - (y0 + (I.vr : Rat) * dy)) ^ 2 := by
  obtain ⟨vr, vc, hvr, hvc, hr, hc, hnr, hnc⟩ := observer_cell_is_nearest_centre (coordsAP x0 dx w) (coordsAP y0 dy h) x y
    (coordsAP_ne_nil x0 dx w (by omega)) (coordsAP_ne_nil y0 dy h (by omega))
  obtain ⟨hew, hns⟩ := resolution_is_coordinate_spacing x0 dx y0 dy h w hh hw
  refine ⟨{ vr := vr, vc := vc, ew := dx, ns := dy, velev := T vr vc + oe, vt := if 0 < te then te else 0 }, ?_, ?_, ?_, ?_, ?_,
    rfl, rfl, rfl, ?_, ?_⟩
  · simp [wrapperInputs, wiringOk_holds, hx, hy, hvr, hvc, hew, hns]
  · simpa [coordsAP_length] using hr
  · simpa [coordsAP_length] using hc
  · intro i hi
    have := hnr i (by simpa [coordsAP_length] using hi)
    simpa [coordsAP_getElem] using this
  · intro j hj
    have := hnc j (by simpa [coordsAP_length] using hj)
    simpa [coordsAP_getElem] using this
  · exact mx2_eq_max te 0
  · intro row col
    exact key_eq_coord_dist x0 dx y0 dy vr vc row col

/-- an observer outside the coordinate range of either axis is rejected with the source's `ValueError` -/
theorem observer_outside_is_value_error (T : Int → Int → Rat) (xs ys : List Rat) (x y oe te : Rat)
    (hout : inRange xs x = false ∨ inRange ys y = false) :
    wrapperInputs T xs ys x y oe te = .error "ValueError" := by
  rcases hout with h | h
  · simp [wrapperInputs, wiringOk_holds, h]
  · by_cases hx : inRange xs x = true
    · simp [wrapperInputs, wiringOk_holds, hx, h]
    · simp [wrapperInputs, wiringOk_holds, hx]

/-- non-vacuity: a 3 x 3 north-up raster (y descending 5, 4.5, 4; x ascending 10, 12, 14 -- non-square cells), the observer
    given off-centre at (13.25, 4.125): row 2 (y = 4), column 2 (x = 14); `ew_res = 2`, `ns_res = -1/2` -/
example : wrapperInputs (fun i j => (i + 2 * j : Int)) (coordsAP 10 2 3) (coordsAP 5 (-1/2) 3) (53/4) (33/8) 1 0 =
    .ok { vr := 2, vc := 2, ew := 2, ns := -1/2, velev := 7, vt := 0 } := by
  decide +kernel
end Wrapper

end XrsVerif.C05
