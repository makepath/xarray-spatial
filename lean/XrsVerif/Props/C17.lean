import XrsVerif.Proofs.Local
import XrsVerif.Gen.LocalFacts
/-
  C17 -- Local operators are per-cell functions of the layers, NaN-absorbing.

  Model: `Model/Local.lean` (hand model of xrspatial/local.py with the lock-step iteration in
  index order).  `V = Option Rat`, `none` = NaN; exact arithmetic
  (`std` is modelled by the population variance, the square root is taken by the harness).
  Tie: (1) `Gen/LocalFacts.lean`, regenerated from the source by harness/facts_local.py on every run: for every
  operator the `np.nditer` order and the frame around the per-cell code, the NaN test, the comparison of the
  frequency operators, the `+ 1` of the positions, the `- 1` / bound of rank, the numbering of combine, the
  `funcs` table -- the first theorems (`local_ops_use_exact_comparisons` … `shapes_are_canonical`) require the canonical shapes and prove that their
  interpretation (`freqCellS`, `posCellS`, `rankCellS`, `combineS`) is the hand model; `nan_absorbs`, `freq_sum`,
  `lowest_first`, `highest_first`, `rank_is_sorted_nth`, `rank_beyond`, `combine_eq_spec` are stated for that
  interpretation of the *generated* shapes; (2) the correspondence run, harness/corr_C17.py, over memory
  layouts C / F / strided and the edge-value families.

  A "cell" is `cellAt layers i`: the tuple of the selected layers' values at flat row-major
  position `i`.  A tuple without NaN is `xs.map some` for its list of numbers `xs`
  (`eq_map_some_of_noNaN`).
-/
set_option linter.unusedVariables false
namespace XrsVerif.C17
open XrsVerif XrsVerif.Local

/-- the frequency operators compare the reference with a layer value by `ref > item`, `ref == item`,
    `ref < item`: exact comparisons of the two numbers, never a call such as `np.isclose` -/
theorem local_ops_use_exact_comparisons :
    Gen.lesserShape.cmp = .gt ∧ Gen.equalShape.cmp = .eq ∧ Gen.greaterShape.cmp = .lt := by decide

/-- every operator but `cell_stats` writes NaN exactly under `np.isnan(comb).any()` (rank: or beyond the tuple) -/
theorem nan_tests_are_any : ∀ p ∈ Gen.localNanTests, p.2 = NanTest.anyNan := by decide
/-- in particular `combine`: not e.g. `np.isnan(sum(comb))`, which is also NaN for +inf next to -inf -/
theorem combine_nan_test_is_any : Gen.combineShape.nanTest = .anyNan := by decide
/-- all nine operators iterate the selected layers in lock-step in index order (`order='C'`), build the
    cell tuples with `.item()`, and reshape by the column count -/
theorem iteration_is_index_order :
    Gen.localFrames.map (·.1) = ["cell_stats", "combine", "lesser_frequency", "equal_frequency", "greater_frequency",
      "lowest_position", "highest_position", "popularity", "rank"]
    ∧ ∀ p ∈ Gen.localFrames, p.2 = ⟨true, .c, true, true⟩ := by decide
/-- counters start at 0 and step by 1, positions are `index + 1` of the first min / max, rank indexes the sorted
    tuple at `ref - 1` and is NaN from `ref - 1 >= len`, combine numbers from 1 by 1 through the dictionary -/
theorem shapes_are_canonical :
    Gen.lesserShape = ⟨true, .anyNan, .gt, 0, 1, true⟩ ∧ Gen.equalShape = ⟨true, .anyNan, .eq, 0, 1, true⟩
    ∧ Gen.greaterShape = ⟨true, .anyNan, .lt, 0, 1, true⟩
    ∧ Gen.lowestShape = ⟨true, .anyNan, .min, 1⟩ ∧ Gen.highestShape = ⟨true, .anyNan, .max, 1⟩
    ∧ Gen.rankShape = ⟨true, .anyNan, -1, .ge, true⟩
    ∧ Gen.combineShape = ⟨true, .anyNan, 1, 1, true⟩
    ∧ Gen.popularityShape = ⟨true, .anyNan⟩
    ∧ Gen.statsShape = ⟨true, [("max", "max"), ("mean", "mean"), ("median", "median"), ("min", "min"), ("std", "std"), ("sum", "sum")], true⟩ := by
  decide

/-- every operator resolves its layers the same way: an explicit `data_vars` is only validated and then used as
    passed; the default is every variable of the dataset in order, and the operators with a reference layer take the
    reference variable out by comparing the names *by value* (`list.remove`, `!=`) -- never by object identity
    (`var is not ref_var`, true of an equal name that is another string object) -/
theorem selection_is_by_value :
    Gen.localSelects = [("cell_stats", ⟨true, false, true, true, .byValue⟩), ("combine", ⟨true, false, true, true, .byValue⟩),
      ("lesser_frequency", ⟨true, true, true, true, .byValue⟩), ("equal_frequency", ⟨true, true, true, true, .byValue⟩),
      ("greater_frequency", ⟨true, true, true, true, .byValue⟩), ("lowest_position", ⟨true, false, true, true, .byValue⟩),
      ("highest_position", ⟨true, false, true, true, .byValue⟩), ("popularity", ⟨true, true, true, true, .byValue⟩),
      ("rank", ⟨true, true, true, true, .byValue⟩)] := by decide

/-- "the data layers" of the property, for the selection found in the source of every operator: an explicit
    `data_vars` is taken as given (order and repetitions); left at its default it is every variable of the dataset in
    dataset order -- without the reference variable, whatever string object names it: the reference layer is never
    among the data layers, every other variable is, and the order is the dataset's -/
theorem selected_layers (names : List String) (hnd : names.Nodup) :
    ∀ p ∈ Gen.localSelects,
      (∀ ref dv, selectS p.2 names ref (some dv) = dv)
      ∧ selectS p.2 names none none = names
      ∧ ∀ r, selectS p.2 names (some r) none = names.filter (· != r)
          ∧ r ∉ selectS p.2 names (some r) none
          ∧ ∀ v ∈ names, v ≠ r → v ∈ selectS p.2 names (some r) none := by
  intro p hp
  rw [selection_is_by_value] at hp
  have hsel : ∀ r, names.erase r = names.filter (· != r) := fun r => hnd.erase_eq_filter r
  simp only [List.mem_cons, List.not_mem_nil, or_false] at hp
  rcases hp with rfl | rfl | rfl | rfl | rfl | rfl | rfl | rfl | rfl <;>
    refine ⟨fun _ _ => rfl, rfl, fun r => ⟨hsel r, hnd.not_mem_erase, fun v hv hne => ?_⟩⟩ <;>
    exact (hnd.mem_erase_iff).2 ⟨hne, hv⟩

/-- non-vacuity, and what the theorem excludes: by value the reference is taken out; a selection that compared the
    names by identity would keep it among the data layers -/
example : selectS ⟨true, true, true, true, .byValue⟩ ["a", "ref", "b"] (some "ref") none = ["a", "b"]
    ∧ selectS ⟨false, true, true, true, .other "var is not ref_var"⟩ ["a", "ref", "b"] (some "ref") none = ["a", "ref", "b"]
    ∧ selectS ⟨true, true, true, true, .byValue⟩ ["a", "ref", "b"] (some "ref") (some ["b", "b", "a"]) = ["b", "b", "a"] := by
  decide

/-- the interpretation of the shapes found in the source is the hand model -/
theorem generated_freq_is_model :
    freqCellS Gen.lesserShape = lesserCell ∧ freqCellS Gen.equalShape = equalCell ∧ freqCellS Gen.greaterShape = greaterCell := by
  have hgt : ∀ r : Rat, cmpS .gt r = fun x => decide (x < r) := fun r => by funext x; rfl
  have heq : ∀ r : Rat, cmpS .eq r = fun x => decide (r = x) := fun r => by funext x; rfl
  have hlt : ∀ r : Rat, cmpS .lt r = fun x => decide (r < x) := fun r => by funext x; rfl
  refine ⟨?_, ?_, ?_⟩ <;> funext ref c <;> cases ref <;>
    simp only [freqCellS, Gen.lesserShape, Gen.equalShape, Gen.greaterShape, nanS, hgt, heq, hlt, lesserCell, equalCell,
      greaterCell, freqCell, lesserCount, equalCount, greaterCount, Nat.zero_add, Nat.one_mul] <;> rfl

theorem generated_pos_is_model : posCellS Gen.lowestShape = lowestCell ∧ posCellS Gen.highestShape = highestCell := by
  refine ⟨?_, ?_⟩ <;> funext c <;>
    simp [posCellS, Gen.lowestShape, Gen.highestShape, nanS, selS, lowestCell, highestCell, lowestPos, highestPos]

theorem generated_rank_is_model : rankCellS Gen.rankShape = rankCellR := by
  funext ref c
  simp [rankCellS, Gen.rankShape, nanS, cmpIntS, rankCellR, Int.sub_eq_add_neg]

theorem generated_combine_is_model : combineS Gen.combineShape = combine := by
  have h : combineStepS Gen.combineShape = combineStep := by
    funext st c
    simp [combineStepS, Gen.combineShape, nanS, combineStep]
  funext n layers
  simp only [combineS, combine, combineRun, h]
  rfl

/-! ### per_cell: the output at a cell is a function of the layers at that cell only -/

/-- operators without reference layer: output cell `i` is `f` of the layer values at cell `i` -/
theorem per_cell (f : List V → V) (n : Nat) (layers : List (List V)) (i : Nat) (hi : i < n) :
    (mapCells f n layers)[i]? = some (f (cellAt layers i)) := by
  simp [mapCells, zipCells, hi]

/-- operators with a reference layer: output cell `i` is `f` of the reference value and the layer
    values at cell `i` -/
theorem per_cell_ref {ρ : Type} (f : ρ → List V → V) (ref : List ρ) (n : Nat) (layers : List (List V))
    (i : Nat) (hi : i < n) (hr : i < ref.length) :
    (mapCellsRef f ref n layers)[i]? = some (f ref[i] (cellAt layers i)) := by
  simp [mapCellsRef, zipCells, List.getElem?_zipWith, hi, hr]

/-- changing the layers anywhere else does not change the output at cell `i` -/
theorem per_cell_local (f : List V → V) (n : Nat) (layers layers' : List (List V)) (i : Nat)
    (h : cellAt layers i = cellAt layers' i) :
    (mapCells f n layers)[i]? = (mapCells f n layers')[i]? := by
  by_cases hi : i < n
  · rw [per_cell f n layers i hi, per_cell f n layers' i hi, h]
  · simp [mapCells, zipCells, hi]

theorem per_cell_ref_local {ρ : Type} (f : ρ → List V → V) (ref ref' : List ρ) (n : Nat)
    (layers layers' : List (List V)) (i : Nat)
    (h : cellAt layers i = cellAt layers' i) (hr : ref[i]? = ref'[i]?) :
    (mapCellsRef f ref n layers)[i]? = (mapCellsRef f ref' n layers')[i]? := by
  simp only [mapCellsRef, zipCells, List.getElem?_zipWith, List.getElem?_map, hr]
  by_cases hi : i < n <;> simp [hi, h]

/-- every value-producing operator is such a map (`rfl`: this is how the model is built); the
    theorem ties the public names to `per_cell` / `per_cell_ref` -/
theorem operators_are_maps (s : Stat) :
    cellStats s = mapCells (statCell s)
    ∧ lowestPosition = mapCells lowestCell ∧ highestPosition = mapCells highestCell
    ∧ lesserFrequency = mapCellsRef lesserCell ∧ equalFrequency = mapCellsRef equalCell
    ∧ greaterFrequency = mapCellsRef greaterCell :=
  ⟨rfl, rfl, rfl, rfl, rfl, rfl⟩

theorem collect_getElem {rs : List R} {out : List V} (h : collect rs = some out) (i : Nat) (hi : i < rs.length) :
    ∃ v, rs[i] = .ok v ∧ out[i]? = some v := by
  induction rs generalizing out i with
  | nil => simp at hi
  | cons r rs ih =>
    cases r with
    | indexError => simp [collect] at h
    | ok v =>
      simp only [collect, Option.map_eq_some_iff] at h
      obtain ⟨rest, hrest, rfl⟩ := h
      cases i with
      | zero => exact ⟨v, rfl, rfl⟩
      | succ i =>
        have := ih hrest i (by simpa using hi)
        simpa using this

/-- operators that may raise (`rank`, `popularity`): if the call returns, output cell `i` is the
    per-cell function of the reference value and the layer values at cell `i` -/
theorem per_cell_raising (f : Int → List V → R) (ref : List Int) (n : Nat) (layers : List (List V))
    (out : List V) (h : collect (List.zipWith f ref (zipCells n layers)) = some out)
    (i : Nat) (hi : i < n) (hr : i < ref.length) :
    ∃ v, f ref[i] (cellAt layers i) = .ok v ∧ out[i]? = some v := by
  have hl : i < (List.zipWith f ref (zipCells n layers)).length := by
    simp only [zipCells, List.length_zipWith, List.length_map, List.length_range]; omega
  obtain ⟨v, hv, ho⟩ := collect_getElem h i hl
  simp only [List.getElem_zipWith, zipCells, List.getElem_map, List.getElem_range] at hv
  exact ⟨v, hv, ho⟩

theorem per_cell_rank (ref : List Int) (n : Nat) (layers : List (List V)) (out : List V)
    (h : rank ref n layers = some out) (i : Nat) (hi : i < n) (hr : i < ref.length) :
    out[i]? = some (rankCell ref[i] (cellAt layers i)) := by
  obtain ⟨v, hv, ho⟩ := per_cell_raising rankCellR ref n layers out h i hi hr
  simp [ho, rankCell, hv]

theorem per_cell_popularity (ref : List Int) (n : Nat) (layers : List (List V)) (out : List V)
    (h : popularity ref n layers = some out) (i : Nat) (hi : i < n) (hr : i < ref.length) :
    ∃ v, popularityCellR ref[i] (cellAt layers i) = .ok v ∧ out[i]? = some v :=
  per_cell_raising popularityCellR ref n layers out h i hi hr

/-! ### nan_absorbs: a NaN in any data layer makes the cell NaN (and nothing else does) -/

theorem nan_absorbs (c : List V) (h : none ∈ c) :
    (∀ s, statCell s c = none)
    ∧ (∀ ref, freqCellS Gen.lesserShape ref c = none ∧ freqCellS Gen.equalShape ref c = none
          ∧ freqCellS Gen.greaterShape ref c = none)
    ∧ posCellS Gen.lowestShape c = none ∧ posCellS Gen.highestShape c = none
    ∧ (∀ ref, rankCellS Gen.rankShape ref c = .ok none ∧ popularityCellR ref c = .ok none)
    ∧ (∀ st, (combineStepS Gen.combineShape st c).out = st.out ++ [none]) := by
  rw [generated_freq_is_model.1, generated_freq_is_model.2.1, generated_freq_is_model.2.2, generated_pos_is_model.1,
    generated_pos_is_model.2, generated_rank_is_model]
  have hn : anyNaN c = true := anyNaN_iff_mem.mpr h
  simp [statCell, lesserCell, equalCell, greaterCell, freqCell, lowestCell, highestCell, rankCellR,
    popularityCellR, hn, combineStepS, Gen.combineShape, nanS]

/-- conversely, a tuple of numbers never gives NaN for the statistics, frequencies and positions -/
theorem no_spurious_nan (xs : List Rat) (s : Stat) (r : Rat) :
    (statCell s (xs.map some)).isSome ∧ (lesserCell (some r) (xs.map some)).isSome
    ∧ (equalCell (some r) (xs.map some)).isSome ∧ (greaterCell (some r) (xs.map some)).isSome
    ∧ (lowestCell (xs.map some)).isSome ∧ (highestCell (xs.map some)).isSome := by
  simp [statCell, lesserCell, equalCell, greaterCell, freqCell, lowestCell, highestCell]

/-! ### cell_stats: the chosen statistic across the layers -/

theorem stat_value (s : Stat) (xs : List Rat) : statCell s (xs.map some) = some (statOf s xs) := by
  simp [statCell]

/-- max / min are attained and bound every layer value; sum is the sum; mean·n = sum;
    variance·n = Σ (x − mean)² -/
theorem stat_spec (xs : List Rat) (hne : xs ≠ []) :
    (statOf .max xs ∈ xs ∧ ∀ x ∈ xs, x ≤ statOf .max xs)
    ∧ (statOf .min xs ∈ xs ∧ ∀ x ∈ xs, statOf .min xs ≤ x)
    ∧ statOf .sum xs = xs.sum
    ∧ statOf .mean xs * (xs.length : Rat) = xs.sum
    ∧ statOf .std xs * (xs.length : Rat) = (xs.map fun x => (x - statOf .mean xs) * (x - statOf .mean xs)).sum := by
  have hlen : (xs.length : Rat) ≠ 0 := by
    have h0 : xs.length ≠ 0 := by simpa using hne
    intro h'; apply h0; exact_mod_cast h'
  refine ⟨⟨maxOf_mem hne, fun x hx => le_maxOf hx⟩, ⟨minOf_mem hne, fun x hx => minOf_le hx⟩, rfl, ?_, ?_⟩
  · simp only [statOf, meanOf, sumOf]; exact Rat.div_mul_cancel hlen
  · simp only [statOf, varOf, meanOf, sumOf]; exact Rat.div_mul_cancel hlen

/-- the median is the middle of the sorted values (mean of the two middle ones for an even count),
    `sorted xs` being a non-decreasing permutation of `xs`; at least half of the values are `≤` it and
    at least half are `≥` it -/
theorem median_spec (xs : List Rat) (hne : xs ≠ []) :
    (sorted xs).Perm xs ∧ (sorted xs).Pairwise (· ≤ ·)
    ∧ xs.length ≤ 2 * xs.countP (fun x => decide (x ≤ statOf .median xs))
    ∧ xs.length ≤ 2 * xs.countP (fun x => decide (statOf .median xs ≤ x)) := by
  exact ⟨sorted_perm xs, sorted_pairwise xs, (median_counts xs hne).1, (median_counts xs hne).2⟩

/-- lesser + equal + greater = number of data layers (for a numeric reference and no NaN) -/
theorem freq_sum (r : Rat) (xs : List Rat) :
    ∃ a b g : Nat,
      freqCellS Gen.lesserShape (some r) (xs.map some) = some (a : Rat)
      ∧ freqCellS Gen.equalShape (some r) (xs.map some) = some (b : Rat)
      ∧ freqCellS Gen.greaterShape (some r) (xs.map some) = some (g : Rat)
      ∧ a = xs.countP (fun x => decide (x < r)) ∧ b = xs.countP (fun x => decide (x = r))
      ∧ g = xs.countP (fun x => decide (r < x))
      ∧ a + b + g = xs.length := by
  rw [generated_freq_is_model.1, generated_freq_is_model.2.1, generated_freq_is_model.2.2]
  refine ⟨lesserCount r xs, equalCount r xs, greaterCount r xs, ?_, ?_, ?_, rfl, ?_, rfl, ?_⟩
  · simp [lesserCell, freqCell]
  · simp [equalCell, freqCell]
  · simp [greaterCell, freqCell]
  · simp only [equalCount]; congr 1; funext x; simp [eq_comm]
  · simp only [lesserCount, equalCount, greaterCount]
    induction xs with
    | nil => simp
    | cons x t ih =>
      simp only [List.countP_cons, List.length_cons]
      rcases Std.lt_trichotomy x r with h | h | h
      · have h2 : ¬ r = x := by grind
        have h3 : ¬ r < x := by grind
        simp [h, h2, h3]; omega
      · subst h; simp [Rat.lt_irrefl]; omega
      · have h2 : ¬ r = x := by grind
        have h3 : ¬ x < r := by grind
        simp [h, h2, h3]; omega

/-! ### positions: 1-based index of the FIRST minimum / maximum -/

theorem lowest_first (xs : List Rat) (hne : xs ≠ []) :
    posCellS Gen.lowestShape (xs.map some) = some ((lowestPos xs : Nat) : Rat)
    ∧ ∃ (h1 : 1 ≤ lowestPos xs) (h2 : lowestPos xs - 1 < xs.length),
        (∀ x ∈ xs, xs[lowestPos xs - 1] ≤ x)
        ∧ ∀ j (hj : j < lowestPos xs - 1), xs[lowestPos xs - 1] < xs[j] := by
  rw [generated_pos_is_model.1]
  have hp : lowestPos xs - 1 = xs.idxOf (minOf xs) := by simp [lowestPos]
  obtain ⟨h, h1, h2⟩ := idxOf_extremum (· ≤ ·) (· < ·) Rat.lt_of_le_of_ne (minOf_mem hne) fun x => minOf_le
  exact ⟨by simp [lowestCell], by simp [lowestPos], by rw [hp]; exact h, by simpa only [hp] using h1,
    by simpa only [hp] using h2⟩

theorem highest_first (xs : List Rat) (hne : xs ≠ []) :
    posCellS Gen.highestShape (xs.map some) = some ((highestPos xs : Nat) : Rat)
    ∧ ∃ (h1 : 1 ≤ highestPos xs) (h2 : highestPos xs - 1 < xs.length),
        (∀ x ∈ xs, x ≤ xs[highestPos xs - 1])
        ∧ ∀ j (hj : j < highestPos xs - 1), xs[j] < xs[highestPos xs - 1] := by
  rw [generated_pos_is_model.2]
  have hp : highestPos xs - 1 = xs.idxOf (maxOf xs) := by simp [highestPos]
  obtain ⟨h, h1, h2⟩ := idxOf_extremum (· ≥ ·) (· > ·) (fun h hne => Rat.lt_of_le_of_ne h hne.symm) (maxOf_mem hne)
    fun x => le_maxOf
  exact ⟨by simp [highestCell], by simp [highestPos], by rw [hp]; exact h, by simpa only [hp] using h1,
    by simpa only [hp] using h2⟩

/-! ### rank: the ref-th smallest layer value -/

/-- for `1 ≤ ref ≤ n` the result is the element at index `ref-1` of the sorted tuple, which is
    the unique layer value `v` with fewer than `ref` values strictly below it and at least `ref`
    values at or below it (the ref-th smallest, ties counted) -/
theorem rank_is_sorted_nth (xs : List Rat) (ref : Int) (h1 : 1 ≤ ref) (h2 : ref ≤ xs.length) :
    ∃ v, rankCellS Gen.rankShape ref (xs.map some) = .ok (some v)
      ∧ (sorted xs)[(ref - 1).toNat]? = some v
      ∧ v ∈ xs
      ∧ xs.countP (fun x => decide (x < v)) < ref.toNat
      ∧ ref.toNat ≤ xs.countP (fun x => decide (x ≤ v))
      ∧ ∀ w, xs.countP (fun x => decide (x < w)) < ref.toNat →
             ref.toNat ≤ xs.countP (fun x => decide (x ≤ w)) → w = v := by
  rw [generated_rank_is_model]
  have hk : (ref - 1).toNat < (sorted xs).length := by rw [sorted_length]; omega
  obtain ⟨a1, a2⟩ := sorted_nth_counts xs hk
  refine ⟨(sorted xs)[(ref - 1).toNat], ?_, by simp, (sorted_perm xs).mem_iff.mp (List.getElem_mem hk), by omega, by omega,
    fun w hw1 hw2 => order_stat_unique hw1 hw2 (by omega) (by omega)⟩
  have : ¬ ((xs.length : Int) ≤ ref - 1) := by omega
  have h0 : (0 : Int) ≤ ref - 1 := by omega
  simp only [rankCellR, anyNaN_map_some, List.length_map, this, decide_false, Bool.or_self,
    Bool.false_eq_true, ite_false, vals_map_some, pyIndex, h0, ite_true, List.getElem?_eq_getElem hk]

/-- a reference beyond the number of layers gives NaN -/
theorem rank_beyond (xs : List Rat) (ref : Int) (h : (xs.length : Int) < ref) :
    rankCellS Gen.rankShape ref (xs.map some) = .ok none := by
  rw [generated_rank_is_model]
  have : (xs.length : Int) ≤ ref - 1 := by omega
  simp [rankCellR, this]

/-- the loop with its dictionary equals the declarative description: with `D` the distinct
    NaN-free tuples in order of first occurrence (row-major scan), a cell's id is 1 + the position of
    its tuple in `D` (NaN for a tuple with a NaN) and `attrs['key']` is `D` numbered from 1 -/
theorem combine_eq_spec (n : Nat) (layers : List (List V)) :
    combineS Gen.combineShape n layers =
      ((zipCells n layers).map (specId (dedup (tuples (zipCells n layers)))),
       ((dedup (tuples (zipCells n layers))).zipIdx 1).map fun p => (p.2, p.1)) := by
  rw [generated_combine_is_model]
  obtain ⟨h1, -, h3⟩ := combineRun_spec (zipCells n layers)
  simp only [combine, h1, h3]

/-- ids of `combine` on an arbitrary scan-ordered list of cells -/
def idsOf (cells : List (List V)) : List (Option Nat) := cells.map (specId (dedup (tuples cells)))

theorem mem_tuples {cells : List (List V)} {c : List V} (hc : c ∈ cells) (hn : none ∉ c) :
    vals c ∈ tuples cells :=
  vals_mem_tuples hc (anyNaN_eq_false hn)

/-- NaN exactly for the cells that hold a NaN -/
theorem combine_nan_iff (cells : List (List V)) (c : List V) :
    specId (dedup (tuples cells)) c = none ↔ none ∈ c := by
  rw [← anyNaN_iff_mem]; simp [specId]

/-- two NaN-free cells get the same id exactly when their value tuples are equal -/
theorem combine_eq_iff (cells : List (List V)) (a b : List V) (ha : a ∈ cells) (hb : b ∈ cells)
    (hna : none ∉ a) (hnb : none ∉ b) :
    specId (dedup (tuples cells)) a = specId (dedup (tuples cells)) b ↔ a = b := by
  have hna' := anyNaN_eq_false hna
  have hnb' := anyNaN_eq_false hnb
  constructor
  · intro h
    simp only [specId, hna', hnb', Bool.false_eq_true, ite_false, Option.some.injEq,
      Nat.add_right_cancel_iff] at h
    have := idxOf_inj_of_mem (mem_dedup.mpr (mem_tuples ha hna)) h
    rw [eq_map_some_of_noNaN hna', eq_map_some_of_noNaN hnb', this]
  · intro h; rw [h]

/-- ids are numbered from 1 in first-occurrence order: the key lists ids 1,2,…,k against pairwise
    distinct tuples; a cell's id is 1 + the number of distinct tuples first seen before its own
    tuple's first occurrence; hence the id order is the first-occurrence order -/
theorem combine_first_occurrence (cells : List (List V)) :
    let T := tuples cells
    let D := dedup T
    let key := (D.zipIdx 1).map fun p => (p.2, p.1)
    key.map (·.1) = List.range' 1 D.length
    ∧ (key.map (·.2)).Nodup
    ∧ (∀ t, t ∈ key.map (·.2) ↔ t ∈ T)
    ∧ (∀ c ∈ cells, none ∉ c →
        specId D c = some ((dedup (T.take (T.idxOf (vals c)))).length + 1))
    ∧ (∀ a ∈ cells, ∀ b ∈ cells, none ∉ a → none ∉ b →
        ∃ ia ib, specId D a = some ia ∧ specId D b = some ib
          ∧ (ia < ib ↔ T.idxOf (vals a) < T.idxOf (vals b))) := by
  intro T D key
  have hk1 : key.map (·.1) = List.range' 1 D.length := by
    simp only [key, List.map_map]
    have : ((fun x : Nat × List Rat => x.1) ∘ fun p : List Rat × Nat => (p.2, p.1)) = fun p => p.2 := rfl
    rw [this]; simp [List.zipIdx_map_snd]
  have hk2 : key.map (·.2) = D := by
    simp only [key, List.map_map]
    have : ((fun x : Nat × List Rat => x.2) ∘ fun p : List Rat × Nat => (p.2, p.1)) = fun p => p.1 := rfl
    rw [this]; simp [List.zipIdx_map_fst]
  refine ⟨hk1, by rw [hk2]; exact nodup_dedup T, by intro t; rw [hk2]; exact mem_dedup, ?_, ?_⟩
  · intro c hc hn
    simp only [specId, anyNaN_eq_false hn, Bool.false_eq_true, ite_false, Option.some.injEq, Nat.add_right_cancel_iff]
    exact idxOf_dedup (mem_tuples hc hn)
  · intro a ha b hb hna hnb
    refine ⟨D.idxOf (vals a) + 1, D.idxOf (vals b) + 1, by simp [specId, anyNaN_eq_false hna],
      by simp [specId, anyNaN_eq_false hnb], ?_⟩
    rw [Nat.add_lt_add_iff_right]
    exact idxOf_dedup_lt_iff (mem_tuples ha hna) (mem_tuples hb hnb)

/-- `attrs['key']` is the inverse map: looking up a cell's id gives back the cell's tuple -/
theorem combine_key_inverse (cells : List (List V)) (c : List V) (hc : c ∈ cells) (hn : none ∉ c) :
    ∃ id, specId (dedup (tuples cells)) c = some id
      ∧ (((dedup (tuples cells)).zipIdx 1).map fun p => (p.2, p.1)).lookup id = some (vals c) := by
  refine ⟨(dedup (tuples cells)).idxOf (vals c) + 1, by simp [specId, anyNaN_eq_false hn], ?_⟩
  rw [lookup_swap_zipIdx]
  have hm := mem_dedup.mpr (mem_tuples hc hn)
  have hk : (dedup (tuples cells)).idxOf (vals c) < (dedup (tuples cells)).length :=
    List.idxOf_lt_length_iff.mpr hm
  simp [hk, List.getElem_idxOf hk]

/-! ### non-vacuity -/

/-- three layers on a 1×2 raster -/
def exLayers : List (List V) := [[some 3, some 1], [some 1, none], [some 1, some 1]]

example : cellStats .max 2 exLayers = [some 3, none] := by decide
example : (zipCells 2 exLayers).map (freqCellS Gen.equalShape (some 1)) = [some 2, none] := by decide
example : combineS Gen.combineShape 3 [[some 1, some 2, some 1], [some 7, none, some 7]]
    = ([some 1, none, some 1], [(1, [1, 7])]) := by decide
example : lowestPosition 2 exLayers = [some 2, none] := by decide
example : lesserFrequency [some 2, some 2] 2 exLayers = [some 2, none] := by decide
example : rank [2, 1] 2 [[some 3, some 5], [some 1, some 4], [some 2, some 6]] = some [some 2, some 4] := by decide
example : combine 3 [[some 1, some 2, some 1], [some 7, none, some 7]] = ([some 1, none, some 1], [(1, [1, 7])]) := by
  decide

end XrsVerif.C17
