import XrsVerif.Proofs.Metrics
import XrsVerif.Proofs.CircleKernels
import XrsVerif.Proofs.DistanceStr
/-
  C19 -- Distance metrics are metrics; circle / annulus kernels are the stated shapes; distance strings.

  Part 1 (metrics).  `manhattan`, `euclidean`, `greatCircle`, `greatCircleFailed` are the kernels
  *generated* from xrspatial/proximity.py (`Gen.manhattan_distance` ...), evaluated on finite coordinates
  over `NV K`; a point is `(x, y)` resp. `(longitude, latitude)` in degrees.  Manhattan: any linearly
  ordered field.  Euclidean and great-circle: the reals, with `sqrt/sin/cos/arcsin/arctan` interpreted
  by Mathlib's functions (`Metrics.realTrig`; `np.pi` is `4 * arctan 1 = π`).  Exact arithmetic: float
  rounding is covered by the correspondence run only (haversine loses the triangle inequality by up to
  ~2 cm near antipodes in floats).

  Part 2 (kernels).  `ellipseKernel`, `circleKernel`, `annulusKernel` (Model/CircleKernels.lean) are hand
  models of the numpy plumbing around *generated* facts (Gen/MetricFacts.lean): the mask predicate, the
  `np.linspace` arguments, the half-width expressions, the pad widths and the combination operator.

  Part 3 (strings).  `getDistance` (Model/DistanceStr.lean) is a hand model of `_get_distance` around
  the generated regex / table / rejection test; ASCII strings.

  Float operations of parts 2 and 3 (`float(literal)`, the float constants of `UNITS`, `d * UNITS[unit]`,
  `r / cellsize`) go through a parameter `rnd : ℚ → ℚ`.  The theorems hold for *every* rounding that is
  monotone with `rnd 0 = 0` (IEEE round-to-nearest is one, exact arithmetic `rnd = id` another; where
  positivity of a product is needed, `0 < x → 0 < rnd x`, i.e. no underflow to zero, is assumed);
  the driver runs the same model with `roundF64`, checked against Python floats by the correspondence.
-/
set_option linter.unusedSectionVars false
namespace XrsVerif.C19
open XrsVerif XrsVerif.Metrics XrsVerif.CircleK XrsVerif.DistStr

section plane
variable {K : Type} [Field K] [LinearOrder K] [IsStrictOrderedRing K] [Trig K]

/-- `manhattan_distance` is `|x1 - x2| + |y1 - y2|` -/
theorem manhattan_eq (p q : K × K) : manhattan p q = some (|p.1 - q.1| + |p.2 - q.2|) :=
  manhattan_val p q

theorem manhattan_symm (p q : K × K) : manhattan p q = manhattan q p := by
  rw [manhattan_val, manhattan_val, abs_sub_comm p.1, abs_sub_comm p.2]

/-- zero exactly for coincident points -/
theorem manhattan_zero_iff (p q : K × K) : manhattan p q = some 0 ↔ p = q := by
  rw [manhattan_val, Option.some.injEq]
  constructor
  · intro h
    have h1 := abs_nonneg (p.1 - q.1)
    have h2 := abs_nonneg (p.2 - q.2)
    have e1 : |p.1 - q.1| = 0 := by linarith
    have e2 : |p.2 - q.2| = 0 := by linarith
    exact Prod.ext (sub_eq_zero.mp (abs_eq_zero.mp e1)) (sub_eq_zero.mp (abs_eq_zero.mp e2))
  · rintro rfl; simp

/-- the three distances are finite numbers and `d(p, r) ≤ d(p, q) + d(q, r)` -/
theorem manhattan_triangle (p q r : K × K) :
    ∃ a b c, manhattan p r = some a ∧ manhattan p q = some b ∧ manhattan q r = some c ∧ a ≤ b + c := by
  refine ⟨_, _, _, manhattan_val p r, manhattan_val p q, manhattan_val q r, ?_⟩
  have h1 := abs_sub_le p.1 q.1 r.1
  have h2 := abs_sub_le p.2 q.2 r.2
  linarith

/-- `euclidean_distance` is `sqrt((x1 - x2)² + (y1 - y2)²)`, for every interpretation of `sqrt` -/
theorem euclidean_eq (p q : K × K) :
    euclidean p q = some (Trig.sqrt ((p.1 - q.1) * (p.1 - q.1) + (p.2 - q.2) * (p.2 - q.2))) :=
  euclidean_val p q

theorem euclidean_symm (p q : K × K) : euclidean p q = euclidean q p := by
  rw [euclidean_val, euclidean_val]
  congr 2; ring

/-- `great_circle_distance` raises exactly when a longitude is outside [-180, 180] or a latitude
    outside [-90, 90] (either point; any ordered field, any radius) -/
theorem great_circle_rejects_iff (R : K) (p q : K × K) :
    (greatCircleFailed R p q).isSome ↔ ¬ (inRange p ∧ inRange q) := by
  unfold greatCircleFailed Kernel.cellFailed
  simp only [Gen.great_circle_distance]
  rw [failed_seq_guard _ _ _ _ _ _ rfl, failed_seq_guard _ _ _ _ _ _ rfl, failed_seq_guard _ _ _ _ _ _ rfl,
    failed_seq_guard _ _ _ _ _ _ rfl]
  simp [C.eval, E.eval, CmpOp.eval, env5, envOf, S.exec]
  rw [← not_iff_not, Classical.not_imp, not_not]
  simp only [not_or, not_lt, inRange]
  exact ⟨fun ⟨⟨a, b⟩, ⟨c, d⟩, ⟨e, f⟩, g, h⟩ => ⟨⟨b, a, f, e⟩, d, c, h, g⟩,
    fun ⟨⟨b, a, f, e⟩, d, c, h, g⟩ => ⟨⟨a, b⟩, ⟨c, d⟩, ⟨e, f⟩, g, h⟩⟩
end plane

section real
attribute [local instance] realTrig
open Real

theorem euclidean_real (p q : ℝ × ℝ) :
    euclidean p q = some (Real.sqrt ((p.1 - q.1) ^ 2 + (p.2 - q.2) ^ 2)) := by
  rw [euclidean_val]; simp [sq]

theorem euclidean_zero_iff (p q : ℝ × ℝ) : euclidean p q = some 0 ↔ p = q := by
  rw [euclidean_val, Option.some.injEq, trig_sqrt, sqrt_sumsq_eq_zero]
  constructor
  · rintro ⟨h1, h2⟩; exact Prod.ext (sub_eq_zero.mp h1) (sub_eq_zero.mp h2)
  · rintro rfl; simp

theorem euclidean_triangle (p q r : ℝ × ℝ) :
    ∃ a b c, euclidean p r = some a ∧ euclidean p q = some b ∧ euclidean q r = some c ∧ a ≤ b + c := by
  refine ⟨_, _, _, euclidean_val p r, euclidean_val p q, euclidean_val q r, ?_⟩
  have h := sqrt_triangle (p.1 - q.1) (p.2 - q.2) (q.1 - r.1) (q.2 - r.2)
  simpa using h

/-- inside the range the kernel computes the haversine formula
    `R · 2 · arcsin √(sin²(Δlat/2) + cos lat₁ · cos lat₂ · sin²(Δlon/2))` (`Metrics.hav`, angles `d · π/180`) -/
theorem great_circle_eq_haversine (R : ℝ) (p q : ℝ × ℝ) (hp : inRange p) (hq : inRange q) :
    greatCircle R p q = some (R * 2 * Real.arcsin (Real.sqrt (hav p q))) ∧
      ∀ d : ℝ, rad d = d * (π / 180) := ⟨gc_val R p q hp hq, rad_eq⟩

theorem great_circle_symm (R : ℝ) (p q : ℝ × ℝ) (hp : inRange p) (hq : inRange q) :
    greatCircle R p q = greatCircle R q p := by
  rw [gc_val R p q hp hq, gc_val R q p hq hp, hav_symm]

/-- zero exactly when the two coordinate pairs name the same point of the sphere
    (`Metrics.samePoint`: equal latitude and equal longitude, or a pole, or longitudes -180 / 180) -/
theorem great_circle_zero_iff (R : ℝ) (hR : R ≠ 0) (p q : ℝ × ℝ) (hp : inRange p) (hq : inRange q) :
    greatCircle R p q = some 0 ↔ samePoint p q := by
  rw [gc_val R p q hp hq, Option.some.injEq, ← hav_eq_zero_iff p q hp hq]
  simp only [trig_asin, trig_sqrt]
  constructor
  · intro h
    have h2 : Real.arcsin (Real.sqrt (hav p q)) = 0 := by
      rcases mul_eq_zero.mp h with h | h
      · rcases mul_eq_zero.mp h with h | h
        · exact absurd h hR
        · norm_num at h
      · exact h
    have h3 := Real.arcsin_eq_zero_iff.mp h2
    exact (Real.sqrt_eq_zero (hav_nonneg p q hp hq)).mp h3
  · intro h; rw [h]; simp

theorem great_circle_self (R : ℝ) (p : ℝ × ℝ) (hp : inRange p) : greatCircle R p p = some 0 := by
  rw [gc_val R p p hp hp, hav_self]; simp

/-- never negative, never more than half the circumference `π R` -/
theorem great_circle_le_half_circumference (R : ℝ) (hR : 0 ≤ R) (p q : ℝ × ℝ) (hp : inRange p)
    (hq : inRange q) : ∃ d, greatCircle R p q = some d ∧ 0 ≤ d ∧ d ≤ π * R := by
  refine ⟨_, gc_val R p q hp hq, ?_, ?_⟩
  · have : 0 ≤ Real.arcsin (Real.sqrt (hav p q)) := Real.arcsin_nonneg.mpr (Real.sqrt_nonneg _)
    simp only [trig_asin, trig_sqrt]; positivity
  · have := Real.arcsin_le_pi_div_two (Real.sqrt (hav p q))
    simp only [trig_asin, trig_sqrt]
    nlinarith
/-- **the spherical triangle inequality**: `2 arcsin √hav` is the angle between the unit vectors of the
    two points (`Sphere.angle_vec`), and angles between vectors obey the triangle inequality
    (Mathlib, `InnerProductGeometry.angle_le_angle_add_angle`) -/
theorem great_circle_triangle (R : ℝ) (hR : 0 ≤ R) (p q r : ℝ × ℝ) (hp : inRange p) (hq : inRange q)
    (hr : inRange r) :
    ∃ a b c, greatCircle R p r = some a ∧ greatCircle R p q = some b ∧ greatCircle R q r = some c ∧
      a ≤ b + c := by
  refine ⟨_, _, _, gc_val R p r hp hr, gc_val R p q hp hq, gc_val R q r hq hr, ?_⟩
  have h := hav_triangle p q r hp hq hr
  simp only [trig_asin, trig_sqrt]
  nlinarith [mul_le_mul_of_nonneg_left h hR]
end real

section kernels
variable {K : Type} [Field K] [LinearOrder K] [IsStrictOrderedRing K] [Trig K]

/-- what was read from the source: x runs over `linspace(-hw, hw, 2hw+1)` along the columns, y over
    `linspace(-hh, hh, 2hh+1)` along the rows (`[:, None]`) -/
theorem ellipse_sampling (hw hh : ℤ) :
    Gen.ellipse_x_start hw hh = -hw ∧ Gen.ellipse_x_stop hw hh = hw ∧ Gen.ellipse_x_num hw hh = 2 * hw + 1 ∧
    Gen.ellipse_y_start hw hh = -hh ∧ Gen.ellipse_y_stop hw hh = hh ∧ Gen.ellipse_y_num hw hh = 2 * hh + 1 ∧
    Gen.ellipse_x_axis = 1 ∧ Gen.ellipse_y_axis = 0 ∧ Gen.ellipse_params = ["half_w", "half_h"] := by
  simp [Gen.ellipse_x_start, Gen.ellipse_x_stop, Gen.ellipse_x_num, Gen.ellipse_y_start, Gen.ellipse_y_stop,
    Gen.ellipse_y_num, Gen.ellipse_x_axis, Gen.ellipse_y_axis, Gen.ellipse_params]

/-- the generated mask predicate on integer samples is the 0/1 value of
    `(x·hh)² + (y·hw)² ≤ (hw·hh)²` -/
theorem ellipse_pred_eq (hw hh x y : ℤ) :
    Gen.ellipse_pred.cell (predEnv (some (x : K)) (some (y : K)) (some (hw : K)) (some (hh : K)))
        (fun _ _ _ => (none : NV K)) (fun _ => []) =
      some (if inEllipse hw hh x y then 1 else 0) := pred_eq hw hh x y

/-- ... which for positive half widths is the ellipse equation `(x/hw)² + (y/hh)² ≤ 1` -/
theorem inEllipse_iff_equation (hw hh x y : ℤ) (h1 : 0 < hw) (h2 : 0 < hh) :
    inEllipse hw hh x y ↔ ((x : ℚ) / hw) ^ 2 + ((y : ℚ) / hh) ^ 2 ≤ 1 := by
  unfold inEllipse
  have a : (0 : ℚ) < hw := by exact_mod_cast h1
  have b : (0 : ℚ) < hh := by exact_mod_cast h2
  have e : ((x : ℚ) / hw) ^ 2 + ((y : ℚ) / hh) ^ 2 = (((x * hh) ^ 2 + (y * hw) ^ 2 : ℤ) : ℚ) / (((hw * hh) ^ 2 : ℤ) : ℚ) := by
    push_cast; field_simp
  rw [e, div_le_one (by positivity), Int.cast_le]

/-- `_ellipse_kernel(hw, hh)` is the 0/1 mask of the offsets `(j - hw, i - hh)` satisfying the
    ellipse predicate, of shape `(2hh+1) × (2hw+1)` -/
theorem circle_is_ellipse_mask (hw hh : ℤ) (h1 : 0 ≤ hw) (h2 : 0 ≤ hh) :
    ∃ g : KGrid (NV K), ellipseKernel hw hh = .ok g ∧
      (g.rows : ℤ) = 2 * hh + 1 ∧ (g.cols : ℤ) = 2 * hw + 1 ∧
      ∀ i j : ℕ, i < g.rows → j < g.cols →
        g.cell i j = some (if inEllipse hw hh (j - hw) (i - hh) then 1 else 0) := by
  refine ⟨_, ellipseKernel_ok hw hh h1 h2, by simp; omega, by simp; omega, ?_⟩
  intro i j hi hj
  simp only at hi hj
  exact ellipseEntry_eq hw hh h1 h2 i j (by omega) (by omega)

/-- a negative half width is an error (np.linspace refuses a negative number of samples) -/
theorem ellipse_negative_rejected (hw hh : ℤ) (h : hw < 0 ∨ hh < 0) :
    (ellipseKernel hw hh : Except String (KGrid (NV K))) = .error "ValueError" := by
  unfold ellipseKernel
  have a : (Gen.ellipse_x_num hw hh < 0 ∨ Gen.ellipse_y_num hw hh < 0) := by
    simp only [Gen.ellipse_x_num, Gen.ellipse_y_num]; omega
  rw [if_pos a]

/-- `circle_kernel(cx, cy, radius)` with positive cell sizes and a radius of `r ≥ 0` metres is
    `_ellipse_kernel(⌊rnd(r/cx)⌋, ⌊rnd(r/cy)⌋)`: the half widths are the generated expressions
    `int(r / cellsize_x)`, `int(r / cellsize_y)` with the float division rounded by `rnd` (any number type) -/
theorem circle_kernel_half_widths {F : Type} [Fl F] (rnd : ℚ → ℚ) (hm : Monotone rnd) (h0 : rnd 0 = 0)
    (cx cy r : ℚ) (hx : 0 < cx) (hy : 0 < cy) (hr : 0 ≤ r) :
    (circleKernel rnd cx cy (.val (.fin r)) : Except String (KGrid F)) =
      ellipseKernel ⌊rnd (r / cx)⌋ ⌊rnd (r / cy)⌋ ∧
    Gen.circle_half_w rnd r cx cy = ⌊rnd (r / cx)⌋ ∧ Gen.circle_half_h rnd r cx cy = ⌊rnd (r / cy)⌋ ∧
    0 ≤ ⌊rnd (r / cx)⌋ ∧ 0 ≤ ⌊rnd (r / cy)⌋ := by
  obtain ⟨e1, n1⟩ := pyInt_rnd_div hm h0 hx hr
  obtain ⟨e2, n2⟩ := pyInt_rnd_div hm h0 hy hr
  exact ⟨by rw [circleKernel_fin rnd cx cy r hx.ne' hy.ne', e1, e2], e1, e2, n1, n2⟩

/-- **the stated shape of `circle_kernel`, in one statement about the generated half-width expressions**
    (`Gen.circle_half_w / circle_half_h` = the AST of what the source binds to `_ellipse_kernel`'s parameters,
    `int(r / cellsize_x)`, `int(r / cellsize_y)`): for positive cell sizes and a radius of `r ≥ 0` metres the
    kernel exists, has the odd shape `(2·half_h + 1) × (2·half_w + 1)`, and entry `(i, j)` is 1 exactly when
    the offset `(j − half_w, i − half_h)` satisfies the ellipse equation with semi-axes `half_w`, `half_h`
    (`inEllipse_iff_equation`) -- the shape the library documents (`circle_kernel(1, 2, 3)`: 3 × 7 with the single
    column `x = 0` in the rows `y = ±1`).  A different expression in the source (`r // cellsize_x`, `round`,
    the other cell size) changes `Gen.circle_half_w` and with it this statement. -/
theorem circle_kernel_stated_shape (rnd : ℚ → ℚ) (hm : Monotone rnd) (h0 : rnd 0 = 0)
    (cx cy r : ℚ) (hx : 0 < cx) (hy : 0 < cy) (hr : 0 ≤ r) :
    ∃ g : KGrid (NV K), circleKernel rnd cx cy (.val (.fin r)) = .ok g ∧
      (g.rows : ℤ) = 2 * Gen.circle_half_h rnd r cx cy + 1 ∧ (g.cols : ℤ) = 2 * Gen.circle_half_w rnd r cx cy + 1 ∧
      g.rows % 2 = 1 ∧ g.cols % 2 = 1 ∧
      Gen.circle_half_w rnd r cx cy = ⌊rnd (r / cx)⌋ ∧ Gen.circle_half_h rnd r cx cy = ⌊rnd (r / cy)⌋ ∧
      ∀ i j : ℕ, i < g.rows → j < g.cols →
        g.cell i j = some (if inEllipse (Gen.circle_half_w rnd r cx cy) (Gen.circle_half_h rnd r cx cy)
          (j - Gen.circle_half_w rnd r cx cy) (i - Gen.circle_half_h rnd r cx cy) then 1 else 0) := by
  obtain ⟨hk, hw, hh, n1, n2⟩ := circle_kernel_half_widths (F := NV K) rnd hm h0 cx cy r hx hy hr
  obtain ⟨g, hg, hrow, hcol, hcell⟩ := circle_is_ellipse_mask (K := K) ⌊rnd (r / cx)⌋ ⌊rnd (r / cy)⌋ n1 n2
  rw [hw, hh]
  exact ⟨g, hk.trans hg, hrow, hcol, by omega, by omega, rfl, rfl, hcell⟩

/-- `⌊rnd q⌋` against `⌊q⌋` for a monotone rounding that keeps the integers -/
theorem floor_rnd_bracket (rnd : ℚ → ℚ) (hm : Monotone rnd) (hfix : ∀ n : ℤ, rnd n = n) (q : ℚ) :
    ⌊q⌋ ≤ ⌊rnd q⌋ ∧ ⌊rnd q⌋ ≤ ⌊q⌋ + 1 ∧ (⌊rnd q⌋ = ⌊q⌋ + 1 ↔ rnd q = ((⌊q⌋ + 1 : ℤ) : ℚ)) := by
  have lo : ((⌊q⌋ : ℤ) : ℚ) ≤ rnd q := by rw [← hfix ⌊q⌋]; exact hm (Int.floor_le q)
  have hi : rnd q ≤ ((⌊q⌋ + 1 : ℤ) : ℚ) := by
    rw [← hfix (⌊q⌋ + 1)]; apply hm; push_cast; exact (Int.lt_floor_add_one q).le
  refine ⟨Int.le_floor.mpr lo, ?_, ?_⟩
  · have := Int.floor_le_floor hi
    rwa [Int.floor_intCast] at this
  · constructor
    · intro h
      have : ((⌊q⌋ + 1 : ℤ) : ℚ) ≤ rnd q := by rw [← h]; exact Int.floor_le _
      exact le_antisymm hi this
    · intro h
      rw [h, Int.floor_intCast]

/-- **the half widths against the quotient of the real numbers the arguments denote.**  For any monotone
    rounding of the division that keeps integers (IEEE round-to-nearest does, below 2^53): the half width is
    `⌊r / cellsize⌋` or that plus one, the latter exactly when the *rounded* quotient is the next integer
    (`1 / 0.1`: the doubles' quotient is 9.99999999999999944…, the float quotient 10.0, see the example at the
    end of the file); consequently the array is never cropped -- every integer offset within the radius along
    an axis lies inside it. -/
theorem circle_half_width_vs_exact (rnd : ℚ → ℚ) (hm : Monotone rnd) (hfix : ∀ n : ℤ, rnd n = n)
    (cx cy r : ℚ) (hx : 0 < cx) (hy : 0 < cy) (hr : 0 ≤ r) :
    (⌊r / cx⌋ ≤ Gen.circle_half_w rnd r cx cy ∧ Gen.circle_half_w rnd r cx cy ≤ ⌊r / cx⌋ + 1 ∧
      (Gen.circle_half_w rnd r cx cy = ⌊r / cx⌋ + 1 ↔ rnd (r / cx) = ((⌊r / cx⌋ + 1 : ℤ) : ℚ))) ∧
    (⌊r / cy⌋ ≤ Gen.circle_half_h rnd r cx cy ∧ Gen.circle_half_h rnd r cx cy ≤ ⌊r / cy⌋ + 1 ∧
      (Gen.circle_half_h rnd r cx cy = ⌊r / cy⌋ + 1 ↔ rnd (r / cy) = ((⌊r / cy⌋ + 1 : ℤ) : ℚ))) ∧
    (∀ x : ℤ, (|x| : ℚ) * cx ≤ r → |x| ≤ Gen.circle_half_w rnd r cx cy) ∧
    (∀ y : ℤ, (|y| : ℚ) * cy ≤ r → |y| ≤ Gen.circle_half_h rnd r cx cy) := by
  have h0 : rnd 0 = 0 := by simpa using hfix 0
  have hw : Gen.circle_half_w rnd r cx cy = ⌊rnd (r / cx)⌋ := (pyInt_rnd_div hm h0 hx hr).1
  have hh : Gen.circle_half_h rnd r cx cy = ⌊rnd (r / cy)⌋ := (pyInt_rnd_div hm h0 hy hr).1
  rw [hw, hh]
  have bx := floor_rnd_bracket rnd hm hfix (r / cx)
  have by' := floor_rnd_bracket rnd hm hfix (r / cy)
  refine ⟨bx, by', ?_, ?_⟩
  · intro x hxr
    have : ((|x| : ℤ) : ℚ) ≤ r / cx := by rw [le_div_iff₀ hx]; exact_mod_cast hxr
    exact le_trans (Int.le_floor.mpr this) bx.1
  · intro y hyr
    have : ((|y| : ℤ) : ℚ) ≤ r / cy := by rw [le_div_iff₀ hy]; exact_mod_cast hyr
    exact le_trans (Int.le_floor.mpr this) by'.1

/-- rejected radii (and the IEEE specials that leave `_get_distance`) never produce a kernel -/
theorem circle_kernel_rejects (rnd : ℚ → ℚ) (cx cy : ℚ) (st : String) :
    (circleKernel rnd cx cy (.err st) : Except String (KGrid (NV K))) = .error "ValueError" ∧
    (∃ e, (circleKernel rnd cx cy (.val .nan) : Except String (KGrid (NV K))) = .error e) ∧
    (∃ e, (circleKernel rnd cx cy (.val .pinf) : Except String (KGrid (NV K))) = .error e) := by
  refine ⟨rfl, ?_, ?_⟩ <;> by_cases h : cx = 0 <;> simp [circleKernel, halfWidth, h]

theorem circle_odd_shape (hw hh : ℤ) (h1 : 0 ≤ hw) (h2 : 0 ≤ hh) (g : KGrid (NV K))
    (hg : ellipseKernel hw hh = .ok g) : g.rows % 2 = 1 ∧ g.cols % 2 = 1 := by
  rw [ellipseKernel_ok hw hh h1 h2] at hg
  cases hg
  simp only
  omega

theorem inEllipse_flip_x (hw hh x y : ℤ) : inEllipse hw hh (-x) y ↔ inEllipse hw hh x y := by
  unfold inEllipse; rw [neg_mul, neg_sq]

theorem inEllipse_flip_y (hw hh x y : ℤ) : inEllipse hw hh x (-y) ↔ inEllipse hw hh x y := by
  unfold inEllipse; rw [neg_mul, neg_sq]

/-- symmetric under both axis flips -/
theorem circle_flip_symmetric (hw hh : ℤ) (h1 : 0 ≤ hw) (h2 : 0 ≤ hh) (g : KGrid (NV K))
    (hg : ellipseKernel hw hh = .ok g) (i j : ℕ) (hi : i < g.rows) (hj : j < g.cols) :
    g.cell (g.rows - 1 - i) j = g.cell i j ∧ g.cell i (g.cols - 1 - j) = g.cell i j := by
  rw [ellipseKernel_ok hw hh h1 h2] at hg
  cases hg
  simp only at hi hj ⊢
  rw [ellipseEntry_eq hw hh h1 h2 ((2 * hh + 1).toNat - 1 - i) j (by omega) (by omega),
      ellipseEntry_eq hw hh h1 h2 i ((2 * hw + 1).toNat - 1 - j) (by omega) (by omega),
      ellipseEntry_eq hw hh h1 h2 i j (by omega) (by omega)]
  have e1 : (((2 * hh + 1).toNat - 1 - i : ℕ) : ℤ) - hh = -((i : ℤ) - hh) := by omega
  have e2 : (((2 * hw + 1).toNat - 1 - j : ℕ) : ℤ) - hw = -((j : ℤ) - hw) := by omega
  rw [e1, e2]
  simp only [inEllipse_flip_x, inEllipse_flip_y, and_self]

/-- the centre always belongs to the kernel -/
theorem circle_centre (hw hh : ℤ) (h1 : 0 ≤ hw) (h2 : 0 ≤ hh) :
    (ellipseEntry hw hh hh.toNat hw.toNat : NV K) = some 1 := by
  rw [ellipseEntry_eq hw hh h1 h2 _ _ (by omega) (by omega)]
  have e1 : ((hw.toNat : ℕ) : ℤ) - hw = 0 := by omega
  have e2 : ((hh.toNat : ℕ) : ℤ) - hh = 0 := by omega
  rw [e1, e2]
  have : inEllipse hw hh 0 0 := by unfold inEllipse; nlinarith [sq_nonneg (hw * hh)]
  simp [this]

/-- what was read from `annulus_kernel`: which radii feed the two circles, the pad widths, the padding
    value and the combination -/
theorem annulus_wiring (orows ocols irows icols : ℤ) :
    Gen.annulus_outer_args = ["cellsize_x", "cellsize_y", "outer_radius"] ∧
    Gen.annulus_inner_args = ["cellsize_x", "cellsize_y", "inner_radius"] ∧
    Gen.circle_params = ["cellsize_x", "cellsize_y", "radius"] ∧
    Gen.annulus_pad_before_rows orows ocols irows icols = pyFloorDiv (orows - irows) 2 ∧
    Gen.annulus_pad_after_rows orows ocols irows icols = pyFloorDiv (orows - irows) 2 ∧
    Gen.annulus_pad_before_cols orows ocols irows icols = pyFloorDiv (ocols - icols) 2 ∧
    Gen.annulus_pad_after_cols orows ocols irows icols = pyFloorDiv (ocols - icols) 2 ∧
    Gen.annulus_pad_mode = "constant" ∧ Gen.annulus_pad_constant = 0 ∧
    Gen.annulus_combine_op = .sub ∧ Gen.annulus_outer_first = true := by
  refine ⟨by decide, by decide, by decide, rfl, rfl, rfl, rfl, by decide, rfl, rfl, rfl⟩

/-- **annulus = outer − centred inner**: for positive cell sizes and radii `0 ≤ ri ≤ ro` (metres) the
    annulus has the outer circle's shape and entry (i, j) is the outer mask at the offset
    `(x, y) = (j − HW, i − HH)` minus the inner mask at the *same* offset (0 outside the inner array);
    `HW = ⌊rnd(ro/cx)⌋` etc. -/
theorem annulus_is_difference (rnd : ℚ → ℚ) (hm : Monotone rnd) (h0 : rnd 0 = 0)
    (cx cy ro ri : ℚ) (hx : 0 < cx) (hy : 0 < cy) (hi : 0 ≤ ri) (hio : ri ≤ ro) :
    ∃ g : KGrid (NV K), annulusKernel rnd cx cy (.val (.fin ro)) (.val (.fin ri)) = .ok g ∧
      (g.rows : ℤ) = 2 * ⌊rnd (ro / cy)⌋ + 1 ∧ (g.cols : ℤ) = 2 * ⌊rnd (ro / cx)⌋ + 1 ∧
      ∀ i j : ℕ, i < g.rows → j < g.cols →
        g.cell i j = some (
          (if inEllipse ⌊rnd (ro / cx)⌋ ⌊rnd (ro / cy)⌋ (j - ⌊rnd (ro / cx)⌋) (i - ⌊rnd (ro / cy)⌋) then (1 : K) else 0)
          - (if innerAt ⌊rnd (ri / cx)⌋ ⌊rnd (ri / cy)⌋ (j - ⌊rnd (ro / cx)⌋) (i - ⌊rnd (ro / cy)⌋) then 1 else 0)) := by
  have ho : 0 ≤ ro := le_trans hi hio
  obtain ⟨ko, -, -, -, -⟩ := circle_kernel_half_widths (F := NV K) rnd hm h0 cx cy ro hx hy ho
  obtain ⟨ki, -, -, a1, a2⟩ := circle_kernel_half_widths (F := NV K) rnd hm h0 cx cy ri hx hy hi
  have a3 : ⌊rnd (ri / cx)⌋ ≤ ⌊rnd (ro / cx)⌋ := Int.floor_le_floor (hm (div_le_div_of_nonneg_right hio hx.le))
  have a4 : ⌊rnd (ri / cy)⌋ ≤ ⌊rnd (ro / cy)⌋ := Int.floor_le_floor (hm (div_le_div_of_nonneg_right hio hy.le))
  obtain ⟨g, hg, hr, hc, hcell⟩ := annulusOf_ellipse (K := K) ⌊rnd (ro / cx)⌋ ⌊rnd (ro / cy)⌋ ⌊rnd (ri / cx)⌋
    ⌊rnd (ri / cy)⌋ a1 a2 a3 a4
  refine ⟨g, ?_, by rw [hr]; omega, by rw [hc]; omega, ?_⟩
  · unfold annulusKernel
    rw [ko, ki, ellipseKernel_ok _ _ (le_trans a1 a3) (le_trans a2 a4), ellipseKernel_ok _ _ a1 a2]
    exact hg
  · intro i j hi' hj'
    exact hcell i j (by rw [hr] at hi'; omega) (by rw [hc] at hj'; omega)

/-- **never negative** (A.9): the centred inner circle lies inside the outer one, so the difference is
    the 0/1 mask of "in the outer circle and not in the inner one" -/
theorem annulus_nonneg (HW HH hw hh x y : ℤ) (h1 : 0 ≤ hw) (h2 : 0 ≤ hh) (h3 : hw ≤ HW) (h4 : hh ≤ HH) :
    ((if inEllipse HW HH x y then (1 : K) else 0) - (if innerAt hw hh x y then 1 else 0)) =
      (if inEllipse HW HH x y ∧ ¬ innerAt hw hh x y then 1 else 0) := by
  by_cases hin : innerAt hw hh x y
  · have := inEllipse_mono HW HH hw hh x y h1 h2 h3 h4 hin.1 hin.2.1 hin.2.2
    simp [hin, this]
  · simp [hin]

/-- inner radius beyond the outer one (in cells): np.pad refuses the negative width -/
theorem annulus_inner_too_large (HW HH hw hh : ℤ) (h1 : 0 ≤ HW) (h2 : 0 ≤ HH) (h : HW < hw ∨ HH < hh)
    (h3 : 0 ≤ hw) (h4 : 0 ≤ hh) :
    annulusOf (F := NV K) ⟨(2 * HH + 1).toNat, (2 * HW + 1).toNat, ellipseEntry HW HH⟩
      ⟨(2 * hh + 1).toNat, (2 * hw + 1).toNat, ellipseEntry hw hh⟩ = .error "ValueError" := by
  unfold annulusOf
  simp only [Gen.annulus_pad_before_rows, Gen.annulus_pad_after_rows, Gen.annulus_pad_before_cols,
    Gen.annulus_pad_after_cols]
  have e1 : (((2 * HH + 1).toNat : ℤ) - ((2 * hh + 1).toNat : ℤ)) = 2 * (HH - hh) := by omega
  have e2 : (((2 * HW + 1).toNat : ℤ) - ((2 * hw + 1).toNat : ℤ)) = 2 * (HW - hw) := by omega
  rw [e1, e2, pyFloorDiv_two, pyFloorDiv_two]
  unfold pad
  have c : (HH - hh < 0 ∨ HH - hh < 0 ∨ HW - hw < 0 ∨ HW - hw < 0) := by omega
  rw [if_pos c]
end kernels

section strings

/-- the scanner of Model/DistanceStr.lean was written for exactly this pattern, these piece counts,
    this rejection test and these normalisation steps (read from `_get_distance`) -/
theorem distance_wiring :
    Gen.distance_regex = "(-?\\d*\\.?\\d+)" ∧ Gen.distance_drop_empty = true ∧
    Gen.distance_allowed_lens = [1, 2] ∧ Gen.distance_number_index = 0 ∧
    Gen.distance_unit_guard = 2 ∧ Gen.distance_unit_index = 1 ∧
    Gen.distance_reject = (.le, 0, 1) ∧ Gen.distance_unit_checked = true ∧
    Gen.distance_unit_normalise = ["lower", "replace:' ':''"] ∧
    Gen.distance_value_src = "float(number)" ∧ Gen.distance_meters_src = "_to_meters(distance, unit)" ∧
    Gen.to_meters_src = "d * UNITS[unit]" ∧ Gen.default_unit = "meter" := by decide

/-- the documented spellings and the standard factors to metres -/
def unitKind (n : String) : Option (Int × Nat) :=
  if n ∈ ["meter", "meters", "m"] then some (1, 1)
  else if n ∈ ["kilometer", "kilometers", "km"] then some (1000, 1)
  else if n ∈ ["foot", "feet", "ft"] then some (381, 1250)            -- 0.3048
  else if n ∈ ["mile", "miles", "ml", "mls"] then some (201168, 125)  -- 1609.344
  else none

/-- every entry of `UNITS` is a documented spelling with the factor of its unit; metres, kilometres,
    feet and miles all occur; the keys are distinct, lower-case, without blanks or digits -/
theorem units_table :
    (∀ e ∈ Gen.units, unitKind e.1 = some (e.2.1, e.2.2)) ∧
    (∀ k ∈ [((1 : Int), (1 : Nat)), (1000, 1), (381, 1250), (201168, 125)], ∃ e ∈ Gen.units, (e.2.1, e.2.2) = k) ∧
    (Gen.units.map (·.1)).Nodup ∧
    (∀ e ∈ Gen.units, DistStr.normUnit e.1.toList = e.1.toList ∧ ∀ c ∈ e.1.toList, isDig c = false) ∧
    (∃ e ∈ Gen.units, e.1 = Gen.default_unit ∧ (e.2.1, e.2.2) = (1, 1)) := by decide

/-- every accepted finite distance is positive (non-positive distances are rejected) -/
theorem distance_positive (rnd : ℚ → ℚ) (hpos : ∀ x, 0 < x → 0 < rnd x) {s : List Char} {m : ℚ}
    (h : getDistance rnd s = .val (.fin m)) : 0 < m := by
  obtain ⟨lit, unit, f, _, _, hq, hf, rfl⟩ := getDistance_fin_sound h
  exact hpos _ (mul_pos hq (hpos _ (lookupUnit_pos hf)))

/-- **malformed strings are rejected**: an accepted finite distance is a decimal literal `D*(.D+)?`
    with a positive value followed by a unit of the table (or nothing), and equals value × factor -/
theorem distance_wellformed (rnd : ℚ → ℚ) {s : List Char} {m : ℚ} (h : getDistance rnd s = .val (.fin m)) :
    ∃ (lit unit : List Char) (f : ℚ), s = lit ++ unit ∧ IsLit lit ∧ 0 < rnd (decVal lit) ∧
      lookupUnit (DistStr.normUnit (if unit = [] then Gen.default_unit.toList else unit)) = some f ∧
      m = rnd (rnd (decVal lit) * rnd f) := getDistance_fin_sound h

/-- the only other strings that leave `_get_distance` spell an IEEE special (`inf`, `infinity`,
    `nan`) in their first piece; `circle_kernel_rejects` shows the kernels refuse those values -/
theorem distance_nonfinite_only_specials (rnd : ℚ → ℚ) {s : List Char} {v : PyFloat} (h : getDistance rnd s = .val v)
    (hv : ∀ q, v ≠ .fin q) : ∃ t unit : List Char, s = t ++ unit ∧ (specialFloat t).isSome := by
  obtain ⟨tk, unit, x, f, hs, hne, hmem, hx, hrej, hf, hv'⟩ := getDistance_sound h
  cases tk with
  | num lit =>
    simp only [pyFloatTok, Option.some.injEq] at hx
    subst hx
    exact absurd hv' (by simpa [mulFactor] using hv (rnd (rnd (decVal lit) * rnd f)))
  | txt t =>
    exact ⟨t, unit, hs, by simp only [pyFloatTok] at hx; simp [hx]⟩

/-- **parse_units**: `<digits>[.<digits>]<text without digits>` is rejected when the number is not
    positive or the normalised text is not in the table, and otherwise is number × factor -/
theorem parse_units (rnd : ℚ → ℚ) (d1 d2 u : List Char) (h1 : ∀ c ∈ d1, isDig c = true) (h2 : ∀ c ∈ d2, isDig c = true)
    (hne : d1 ≠ [] ∨ d2 ≠ []) (hu : ∀ c ∈ u, isDig c = false) :
    getDistance rnd (ulit d1 d2 ++ u) =
      if rnd (decVal (ulit d1 d2)) ≤ 0 then Dist.err "positive"
      else match lookupUnit (DistStr.normUnit (if u = [] then Gen.default_unit.toList else u)) with
        | none => Dist.err "unit"
        | some f => Dist.val (.fin (rnd (rnd (decVal (ulit d1 d2)) * rnd f))) :=
  getDistance_ulit rnd d1 d2 u h1 h2 hne hu

/-- `calc_cellsize`: both resolutions are scaled by the same table factor of the `unit` attribute
    (default metres), the y size is made non-negative, an unknown unit is a KeyError -/
theorem cellsize_spec (rnd : ℚ → ℚ) (unit : Option (List Char)) (rx ry : ℚ) :
    calcCellsize rnd unit rx ry =
      (lookupUnit (unit.getD Gen.default_unit.toList)).map (fun f => (rnd (rx * rnd f), |rnd (ry * rnd f)|)) := by
  unfold calcCellsize
  have e : Gen.cellsize_abs = [false, true] := by decide
  cases lookupUnit (unit.getD Gen.default_unit.toList) with
  | none => rfl
  | some f =>
    simp only [e, Option.map_some, absIf, List.getD_cons_zero, List.getD_cons_succ]
    by_cases h : rnd (ry * rnd f) < 0
    · simp [h, abs_of_neg h]
    · simp [h, abs_of_nonneg (not_lt.mp h)]
end strings

/-! ## non-vacuity: concrete instances over ℚ / ℝ -/

section examples
local instance : Trig ℚ := ⟨id, id, fun a _ => a, id, id, id, id⟩
attribute [local instance] realTrig

example : manhattan ((1 : ℚ), 2) (4, -2) = some 7 := by rw [manhattan_eq]; norm_num
example : euclidean ((0 : ℝ), 0) (3, 4) = some 5 := by
  rw [euclidean_real]; norm_num
  rw [show (25 : ℝ) = 5 ^ 2 by norm_num, Real.sqrt_sq (by norm_num)]
example : inRange ((180 : ℝ), -90) ∧ inRange ((-180 : ℝ), 90) ∧ ¬ inRange ((180.5 : ℝ), 0) := by
  unfold inRange; norm_num
example : samePoint ((180 : ℝ), 10) (-180, 10) ∧ samePoint ((7 : ℝ), 90) (-120, 90) ∧ ¬ samePoint ((0 : ℝ), 0) (1, 0) := by
  unfold samePoint; norm_num
example : inEllipse 3 3 2 2 ∧ ¬ inEllipse 3 3 3 1 ∧ inEllipse 3 1 3 0 ∧ inEllipse 0 2 0 2 := by decide
example : innerAt 1 1 1 0 ∧ ¬ innerAt 1 1 2 0 ∧ ¬ innerAt 0 0 0 1 := by decide
example : getDistance id "10km".toList = .val (.fin 10000) := by decide +kernel
example : getDistance id "5 miles".toList = .val (.fin (201168 / 25)) := by decide +kernel
example : getDistance id "3ft".toList = .val (.fin (1143 / 1250)) := by decide +kernel
example : getDistance id "2.5 m".toList = .val (.fin (5 / 2)) := by decide +kernel
example : getDistance id ".5km".toList = .val (.fin 500) := by decide +kernel
example : getDistance id "10".toList = .val (.fin 10) := by decide +kernel
example : getDistance id "0".toList = .err "positive" ∧ getDistance id "-3".toList = .err "positive" := by decide +kernel
example : getDistance id "abc".toList = .err "numeric" ∧ getDistance id "1e3".toList = .err "invalid" := by decide +kernel
example : getDistance id "5.".toList = .err "unit" ∧ getDistance id "1.2.3".toList = .err "unit" := by decide +kernel
example : getDistance id "10 parsec".toList = .err "unit" ∧ getDistance id "".toList = .err "invalid" := by decide +kernel
example : getDistance id "inf".toList = .val .pinf ∧ getDistance id "nan".toList = .val .nan := by decide +kernel
example : Monotone (id : ℚ → ℚ) ∧ (id : ℚ → ℚ) 0 = 0 ∧ ∀ x : ℚ, 0 < x → 0 < id x := ⟨monotone_id, rfl, fun _ h => h⟩
example : roundF64 (1 / 10) = 3602879701896397 / 36028797018963968 ∧ roundF64 3 = 3 ∧ roundF64 0 = 0 := by
  decide +kernel
example : getDistance roundF64 "3ft".toList = .val (.fin (2059045749633791 / 2251799813685248)) := by decide +kernel
-- `circle_kernel(0.1, 0.1, 1)`: the double 0.1 is 3602879701896397 / 2^55 > 1/10, the quotient of the real numbers
-- is below 10, the float quotient is 10.0: half width 10 = ⌊r / c⌋ + 1 (`circle_half_width_vs_exact`); with
-- exact division it would be 9
example : Gen.circle_half_w roundF64 1 (3602879701896397 / 36028797018963968) 1 = 10 ∧
    Gen.circle_half_w id 1 (3602879701896397 / 36028797018963968) 1 = 9 ∧
    roundF64 (1 / (3602879701896397 / 36028797018963968)) = 10 := by decide +kernel
example : (∀ n : ℤ, (id : ℚ → ℚ) n = n) := fun _ => rfl
example : ulit ['2'] ['5'] = "2.5".toList ∧ decVal "2.5".toList = 5 / 2 := by decide +kernel
end examples

end XrsVerif.C19
