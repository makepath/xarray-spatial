import XrsVerif.Proofs.Proximity
import XrsVerif.Proofs.ProximityCast
import XrsVerif.Proofs.ProximitySmallChecked
import XrsVerif.Gen.ProximityFacts
import XrsVerif.Proofs.ILProxNumpy
import XrsVerif.Proofs.ILProxDir
import XrsVerif.Proofs.ILProxWitness
import XrsVerif.Proofs.Bearing
/-
  C06 -- Proximity, allocation, direction name one real target, never underestimated.

  Every statement is about `Prox.run c tg` (Model/Proximity.lean): the four-sweep propagation of
  `xrspatial/proximity.py` over a grid `c.H × c.W` with coordinate steps `c.sx`, `c.sy`, a target predicate
  `tg` (any predicate: the default "non-zero and finite" rule and explicit `target_values` are instances,
  `target_rule_*` below), squared distances `dist2 c` and the threshold `c.max2x2 = ⌈2·max²⌉` (`none` = ∞).
  `proxAt img r p` is the *squared* proximity (`none` = NaN), `allocAt img r p` the target cell that
  `output_img` refers to, `allocationOut` / `directionOut` the ALLOCATION / DIRECTION outputs, where the
  bearing is the `_calc_direction` kernel *generated from the source* (Gen/Kernels.lean).
  There is no bound on the grid size, the layout, the threshold or (where not stated) the metric:
  `Metric.other f` is an arbitrary distance table, which is how GREAT_CIRCLE is covered.
  The model is tied to /repo by harness/corr_C06.py (same rasters through the model and through the real
  `proximity()`, `allocation()`, `direction()`); float rounding of sqrt and of the squares is covered by
  that run only (DESIGN.md section 4).
-/
set_option linter.unusedSectionVars false
set_option linter.unusedVariables false
namespace XrsVerif.C06
open XrsVerif XrsVerif.Prox

/-! ### proximity is 0 exactly on target cells -/

def Sep (c : Cfg) : Prop := ∀ r1 c1 r2 c2, dist2 c r1 c1 r2 c2 = 0 → r1 = r2 ∧ c1 = c2

theorem zero_iff_target (c : Cfg) (tg : Nat → Nat → Bool) (hrefl : c.Refl) (hsep : Sep c)
    (r p : Nat) (hr : r < c.H) (hp : p < c.W) :
    proxAt (run c tg) r p = some 0 ↔ tg r p = true := by
  constructor
  · intro h
    rcases run_cell_cases c tg hrefl r p hr hp with ⟨h1, _⟩ | ⟨t, hT, _, h1, _⟩
    · rw [h1] at h; cases h
    · obtain ⟨e1, e2⟩ := hsep _ _ _ _ (Option.some.inj (h1.symm.trans h))
      rw [← e1, ← e2]; exact hT.1
  · exact run_zero c tg r p hr hp

/-- the planar metrics with positive coordinate steps satisfy both side conditions -/
theorem planar_side_conditions (c : Cfg) (h : c.Planar) (hsx : 0 < c.sx) (hsy : 0 < c.sy) : c.Refl ∧ Sep c :=
  ⟨planar_refl c h, planar_sep c h hsx hsy⟩

/-- the default target rule: non-zero and finite -/
theorem target_rule_default (v : Val) : isTargetVal [] v = true ↔ ∃ q : Rat, v = .fin q ∧ q ≠ 0 := by
  cases v <;> simp [isTargetVal]

/-- explicit `target_values`: IEEE equality with one of them (NaN never matches) -/
theorem target_rule_explicit (t : Val) (ts : List Val) (v : Val) :
    isTargetVal (t :: ts) v = true ↔ ∃ u, u ∈ t :: ts ∧ Val.ieq v u = true := by
  simp [isTargetVal]

theorem target_rule_nan (vals : List Val) : isTargetVal vals .nan = false := by
  unfold isTargetVal
  split
  · rfl
  · simp [Val.ieq]

/-- whatever `output_img` refers to is a target cell of the grid (all lines, both passes) -/
theorem recorded_is_target (c : Cfg) (tg : Nat → Nat → Bool) (hrefl : c.Refl)
    (r p : Nat) (hr : r < c.H) (hp : p < c.W) (t : Nat × Nat) (h : allocAt (run c tg) r p = some t) :
    tg t.1 t.2 = true ∧ t.1 < c.H ∧ t.2 < c.W := by
  rcases run_cell_cases c tg hrefl r p hr hp with ⟨_, h2⟩ | ⟨t', hT, _, _, h2⟩
  · rw [h2] at h; cases h
  · rw [h2] at h; cases h; exact hT

/-- **soundness**: a defined (non-NaN) proximity at (r, p) is the distance from (r, p) to the target cell `t`
    that ALLOCATION / DIRECTION report, `t` is a real target, and the distance is within `max_distance` -/
theorem sound (c : Cfg) (tg : Nat → Nat → Bool) (hrefl : c.Refl)
    (r p : Nat) (hr : r < c.H) (hp : p < c.W) (d : Nat) (h : proxAt (run c tg) r p = some d) :
    ∃ t, allocAt (run c tg) r p = some t ∧ (tg t.1 t.2 = true ∧ t.1 < c.H ∧ t.2 < c.W) ∧
      d = dist2 c t.1 t.2 r p ∧ withinMax c d = true := by
  rcases run_cell_cases c tg hrefl r p hr hp with ⟨h1, _⟩ | ⟨t, hT, hw, h1, h2⟩
  · rw [h1] at h; cases h
  · rw [h1] at h; cases h; exact ⟨t, h2, hT, rfl, hw⟩

/-- **never underestimated**: the exact nearest-target distance is defined and not larger -/
theorem never_under (c : Cfg) (tg : Nat → Nat → Bool) (hrefl : c.Refl)
    (r p : Nat) (hr : r < c.H) (hp : p < c.W) (d : Nat) (h : proxAt (run c tg) r p = some d) :
    ∃ e, exact c tg r p = some e ∧ e ≤ d := by
  obtain ⟨t, _, hT, hd, _⟩ := sound c tg hrefl r p hr hp d h
  obtain ⟨e, he, hle⟩ := exact_le c tg r p t hT
  exact ⟨e, he, by rw [hd]; exact hle⟩

/-- **never above max_distance**: `d ≤ max²`, i.e. `2·d ≤ ⌈2·max²⌉` -/
theorem le_max (c : Cfg) (tg : Nat → Nat → Bool) (hrefl : c.Refl)
    (r p : Nat) (hr : r < c.H) (hp : p < c.W) (d m : Nat) (h : proxAt (run c tg) r p = some d)
    (hm : c.max2x2 = some m) : 2 * d ≤ m := by
  obtain ⟨_, _, _, _, hw⟩ := sound c tg hrefl r p hr hp d h
  unfold withinMax at hw
  rw [hm] at hw
  simpa using hw

/-! ### the three outputs talk about the same target; NaN in one iff NaN in all -/

theorem nan_together (c : Cfg) (tg : Nat → Nat → Bool) (hrefl : c.Refl)
    (r p : Nat) (hr : r < c.H) (hp : p < c.W) :
    proxAt (run c tg) r p = none ↔ allocAt (run c tg) r p = none := by
  rcases run_cell_cases c tg hrefl r p hr hp with ⟨h1, h2⟩ | ⟨t, _, _, h1, h2⟩ <;> simp [h1, h2]

variable {K : Type} [Field K] [LinearOrder K] [IsStrictOrderedRing K] [Trig K]

/-- the constant of `_calc_direction` (57.29578, slightly more than 180/π) -/
def kdeg : K := 2864789 / 50000

theorem bearing_self (x y : K) : bearing (some x : NV K) (some x) (some y) (some y) = some 0 := by
  rw [← IL.Px.dirF_eq_bearing]
  simp [IL.Px.dirF]

/-- the generated `_calc_direction` as a function of θ = atan2(-(y2-y1), x2-x1)·57.29578 -/
theorem bearing_formula (x1 x2 y1 y2 : K) (h : ¬ (x1 = x2 ∧ y1 = y2)) :
    bearing (some x1 : NV K) (some x2) (some y1) (some y2) =
      some (let θ := Trig.atan2 (-(y2 - y1)) (x2 - x1) * kdeg
            if θ < 0 then 90 - θ else if 90 < θ then 360 - θ + 90 else 90 - θ) :=
  bearing_some x1 x2 y1 y2 h

/-- on finite coordinates the bearing is never NaN -/
theorem bearing_defined (x1 x2 y1 y2 : K) : ∃ v : K, bearing (some x1 : NV K) (some x2) (some y1) (some y2) = some v := by
  by_cases h : x1 = x2 ∧ y1 = y2
  · obtain ⟨h1, h2⟩ := h
    subst h1; subst h2
    exact ⟨0, bearing_self x1 y1⟩
  · exact ⟨_, bearing_formula x1 x2 y1 y2 h⟩

/-- **the three outputs agree.**  For finite coordinates `xs`, `ys` and any raster:
    * NaN in PROXIMITY iff NaN in ALLOCATION iff NaN in DIRECTION;
    * a defined proximity `d` comes with one real target cell `t` such that `d` is the distance to `t`,
      ALLOCATION is the raster value at `t`, and DIRECTION is the bearing from the cell to `t`. -/
theorem three_outputs_agree (c : Cfg) (tg : Nat → Nat → Bool) (hrefl : c.Refl) {α : Type} (raster : Nat → Nat → α)
    (xs ys : Nat → K) (r p : Nat) (hr : r < c.H) (hp : p < c.W) :
    (proxAt (run c tg) r p = none ↔ allocationOut raster (run c tg) r p = none) ∧
    (proxAt (run c tg) r p = none ↔
      directionOut (fun i => (some (xs i) : NV K)) (fun i => some (ys i)) (run c tg) r p = none) ∧
    (∀ d, proxAt (run c tg) r p = some d →
      ∃ t : Nat × Nat, (tg t.1 t.2 = true ∧ t.1 < c.H ∧ t.2 < c.W) ∧ d = dist2 c t.1 t.2 r p ∧
        allocationOut raster (run c tg) r p = some (raster t.1 t.2) ∧
        directionOut (fun i => (some (xs i) : NV K)) (fun i => some (ys i)) (run c tg) r p =
          bearing (some (xs p)) (some (xs t.2)) (some (ys r)) (some (ys t.1))) := by
  unfold allocationOut directionOut
  rcases run_cell_cases c tg hrefl r p hr hp with ⟨h1, h2⟩ | ⟨t, hT, _, h1, h2⟩
  · rw [h1, h2]; simp
  · rw [h1, h2]
    obtain ⟨v, hv⟩ := bearing_defined (xs p) (xs t.2) (ys r) (ys t.1)
    exact ⟨by simp, by simp [hv], fun d hd => ⟨t, hT, (Option.some.inj hd).symm, rfl, rfl⟩⟩

/-! ### unbounded search: no NaN as soon as there is one target -/

theorem no_nan_unbounded (c : Cfg) (tg : Nat → Nat → Bool) (hmax : c.max2x2 = none)
    (t0 : Nat × Nat) (ht0 : tg t0.1 t0.2 = true ∧ t0.1 < c.H ∧ t0.2 < c.W)
    (r p : Nat) (hr : r < c.H) (hp : p < c.W) : ∃ d, proxAt (run c tg) r p = some d := by
  apply run_reach c tg t0.1 t0.2 r p ht0 hr hp
  · intro q _ _ t _; rw [hmax]; rfl
  · intro row _ t _; rw [hmax]; rfl
  · intro t _; unfold withinMax; rw [hmax]

/-- unbounded search, **any** metric (great-circle included): one target ⇒ every cell gets exactly its distance -/
theorem single_target_exact_unbounded (c : Cfg) (tg : Nat → Nat → Bool) (hrefl : c.Refl) (hmax : c.max2x2 = none)
    (t0 : Nat × Nat) (ht0 : tg t0.1 t0.2 = true ∧ t0.1 < c.H ∧ t0.2 < c.W)
    (huniq : ∀ t : Nat × Nat, (tg t.1 t.2 = true ∧ t.1 < c.H ∧ t.2 < c.W) → t = t0)
    (r p : Nat) (hr : r < c.H) (hp : p < c.W) :
    proxAt (run c tg) r p = some (dist2 c t0.1 t0.2 r p) := by
  obtain ⟨d, hd⟩ := no_nan_unbounded c tg hmax t0 ht0 r p hr hp
  obtain ⟨t, _, hT, hdist, _⟩ := sound c tg hrefl r p hr hp d hd
  rw [huniq t hT] at hdist
  rw [hd, hdist]

/-- bounded search, stated for any metric under the hypothesis the proof needs: the distance to the target
    does not grow when a cell moves towards the target's line or column (`hmono`, "path-monotone").
    **Partial** with respect to the property text, which also names GREAT_CIRCLE: `hmono` holds for the planar
    metrics (`single_target_exact`) but fails for great-circle distances on rasters spanning more than half the
    globe in longitude, and there the real code does return NaN for cells within max_distance
    (design_notes/C06.md, "Great-circle wrap-around"). -/
theorem single_target_exact_partial (c : Cfg) (tg : Nat → Nat → Bool) (hrefl : c.Refl)
    (t0 : Nat × Nat) (ht0 : tg t0.1 t0.2 = true ∧ t0.1 < c.H ∧ t0.2 < c.W)
    (huniq : ∀ t : Nat × Nat, (tg t.1 t.2 = true ∧ t.1 < c.H ∧ t.2 < c.W) → t = t0)
    (r p : Nat) (hr : r < c.H) (hp : p < c.W)
    (hzero : dist2 c t0.1 t0.2 r p = 0 → t0.1 = r ∧ t0.2 = p)
    (hmono : ∀ row q, adiff t0.1 row ≤ adiff t0.1 r → adiff t0.2 q ≤ adiff t0.2 p →
      dist2 c t0.1 t0.2 row q ≤ dist2 c t0.1 t0.2 r p) :
    proxAt (run c tg) r p =
      (if withinMax c (dist2 c t0.1 t0.2 r p) then some (dist2 c t0.1 t0.2 r p) else none) ∧
    proxAt (run c tg) r p = exactCut c tg r p :=
  have h := run_single_target c tg hrefl t0 ht0 huniq r p hr hp hzero hmono
  ⟨h, h.trans (exactCut_single c tg r p t0 ht0 huniq).symm⟩

/-- the two planar metrics with positive coordinate steps: exact wherever within max_distance, NaN elsewhere -/
theorem single_target_exact (c : Cfg) (tg : Nat → Nat → Bool) (hpl : c.Planar) (hsx : 0 < c.sx) (hsy : 0 < c.sy)
    (t0 : Nat × Nat) (ht0 : tg t0.1 t0.2 = true ∧ t0.1 < c.H ∧ t0.2 < c.W)
    (huniq : ∀ t : Nat × Nat, (tg t.1 t.2 = true ∧ t.1 < c.H ∧ t.2 < c.W) → t = t0)
    (r p : Nat) (hr : r < c.H) (hp : p < c.W) :
    proxAt (run c tg) r p =
      (if withinMax c (dist2 c t0.1 t0.2 r p) then some (dist2 c t0.1 t0.2 r p) else none) ∧
    proxAt (run c tg) r p = exactCut c tg r p :=
  single_target_exact_partial c tg (planar_refl c hpl) t0 ht0 huniq r p hr hp
    (planar_sep c hpl hsx hsy _ _ _ _)
    (fun row q h1 h2 => planar_mono c hpl _ _ _ _ _ _ h1 h2)

/-- on every configuration of the table (`Prox.smallTable`: every grid with H, W ≤ 3, cell sizes (1,1), (1,2),
    (2,1), (1,3), (3,1), both planar metrics, unbounded; and the 3×3 unit-cell grid with every finite
    threshold class) the model equals the exact nearest distance cut at max_distance, for **every** target
    predicate.  The table is checked by kernel evaluation of all 2^(H·W) layouts (`decide +kernel`,
    Proofs/ProximitySmall*.lean); `checkAll_spec` turns a predicate into its layout mask.
    The algorithm is *not* exact from 3×4 (cells 1×2) and 4×4 (unit cells) on, see `not_exact_4x4`. -/
theorem small_table_exact (c : Cfg) (hc : c ∈ smallTable) (tg : Nat → Nat → Bool)
    (r p : Nat) (hr : r < c.H) (hp : p < c.W) : proxAt (run c tg) r p = exactCut c tg r p :=
  checkAll_spec c (smallTable_checked c hc) tg r p hr hp

/-- the unbounded part of the table, stated by its quantifiers -/
theorem small_grids_exact (H W sx sy : Nat) (metric : Metric)
    (hH : 1 ≤ H ∧ H ≤ 3) (hW : 1 ≤ W ∧ W ≤ 3)
    (hs : (sx = 1 ∧ sy = 1) ∨ (sx = 1 ∧ sy = 2) ∨ (sx = 2 ∧ sy = 1) ∨ (sx = 1 ∧ sy = 3) ∨ (sx = 3 ∧ sy = 1))
    (hm : metric = .euclid ∨ metric = .manh) (tg : Nat → Nat → Bool) (r p : Nat) (hr : r < H) (hp : p < W) :
    proxAt (run { H := H, W := W, sx := sx, sy := sy, metric := metric, max2x2 := none } tg) r p =
      exactCut { H := H, W := W, sx := sx, sy := sy, metric := metric, max2x2 := none } tg r p := by
  refine small_table_exact _ (List.mem_of_mem_take (i := 90) ?_) tg r p hr hp
  simp only [smallTable_unbounded, List.mem_flatMap, List.mem_map]
  exact ⟨H, by simp; omega, W, by simp; omega, (sx, sy), by simpa [Prod.ext_iff] using hs, metric, by simpa using hm, rfl⟩

/-- the bound is sharp: on the 4×4 unit-cell grid with targets at (0,2), (1,1), (3,0) the model reports 9 = 3²
    at (3,3) where the nearest target is at squared distance 8 -- as the real `proximity()` does (3.0 for 2.83) -/
theorem not_exact_4x4 :
    let c : Cfg := { H := 4, W := 4, sx := 1, sy := 1, metric := .euclid, max2x2 := none }
    let tg : Nat → Nat → Bool := fun r p => (r == 0 && p == 2) || (r == 1 && p == 1) || (r == 3 && p == 0)
    proxAt (run c tg) 3 3 = some 9 ∧ exact c tg 3 3 = some 8 := by decide +kernel

/-- due east (x grows, same y): 90 -/
theorem bearing_east (x1 x2 y : K) (h : x1 < x2) (hE : ∀ x : K, 0 < x → Trig.atan2 0 x = 0) :
    bearing (some x1 : NV K) (some x2) (some y) (some y) = some 90 := by
  rw [bearing_some x1 x2 y y (fun h' => absurd h'.1 (ne_of_lt h)), sub_self, neg_zero, hE _ (sub_pos.2 h), zero_mul,
    compassDeg_le (by norm_num), sub_zero]

/-- due west: 270 − δ when atan2(±0, negative) = π (δ = π·57.29578 − 180 ≈ 1.5e-6), and 270 + δ when it is −π
    (numpy's value for `-0.0`, which is what `-y` produces): 270 either way after rounding to float32 -/
theorem bearing_west (x1 x2 y pi δ : K) (h : x2 < x1) (hδ : pi * kdeg = 180 + δ) (hδ0 : 0 ≤ δ)
    (hW : ∀ x : K, x < 0 → Trig.atan2 0 x = pi ∨ Trig.atan2 0 x = -pi) :
    bearing (some x1 : NV K) (some x2) (some y) (some y) = some (270 - δ) ∨
    bearing (some x1 : NV K) (some x2) (some y) (some y) = some (270 + δ) := by
  rw [bearing_some x1 x2 y y (fun h' => absurd h'.1 (ne_of_gt h)), sub_self, neg_zero]
  change pi * (2864789 / 50000) = 180 + δ at hδ
  rcases hW _ (sub_neg.2 h) with hw | hw
  · left
    rw [hw, hδ, compassDeg_gt (by linarith)]
    congr 1; ring
  · right
    rw [hw, neg_mul, hδ, compassDeg_le (by linarith)]
    congr 1; ring

/-- +y (the next row when `y` grows downwards): 180 + δ/2 -- the compass treats +y as SOUTH -/
theorem bearing_plus_y_is_south (x y1 y2 pi δ : K) (h : y1 < y2) (hδ : pi * kdeg = 180 + δ) (hδ0 : 0 ≤ δ)
    (hS : ∀ a : K, a < 0 → Trig.atan2 a 0 = -(pi / 2)) :
    bearing (some x : NV K) (some x) (some y1) (some y2) = some (180 + δ / 2) := by
  have hval : -(pi / 2) * (2864789 / 50000) = -((180 + δ) / 2) := by rw [← hδ, kdeg]; ring
  rw [bearing_some x x y1 y2 (fun h' => absurd h'.2 (ne_of_lt h)), sub_self, hS _ (by linarith), hval, compassDeg_le (by linarith)]
  congr 1; ring

/-- −y: 360 − δ/2; it is 360 and not 0 only because 57.29578 > 180/π (δ > 0) -/
theorem bearing_minus_y_is_north (x y1 y2 pi δ : K) (h : y2 < y1) (hδ : pi * kdeg = 180 + δ) (hδ0 : 0 < δ)
    (hN : ∀ a : K, 0 < a → Trig.atan2 a 0 = pi / 2) :
    bearing (some x : NV K) (some x) (some y1) (some y2) = some (360 - δ / 2) := by
  have hval : pi / 2 * (2864789 / 50000) = (180 + δ) / 2 := by rw [← hδ, kdeg]; ring
  rw [bearing_some x x y1 y2 (fun h' => absurd h'.2 (ne_of_gt h)), sub_self, hN _ (by linarith), hval, compassDeg_gt (by linarith)]
  congr 1; ring

/-- with an exact constant (δ = 0) a target due north would get bearing 0, the value reserved for the cell itself -/
theorem bearing_north_needs_the_inexact_constant (x y1 y2 pi : K) (h : y2 < y1) (hδ : pi * kdeg = 180)
    (hN : ∀ a : K, 0 < a → Trig.atan2 a 0 = pi / 2) :
    bearing (some x : NV K) (some x) (some y1) (some y2) = some 0 := by
  have hval : pi / 2 * (2864789 / 50000) = 90 := by
    have : pi / 2 * kdeg = (pi * kdeg) / 2 := by ring
    rw [← kdeg, this, hδ]; norm_num
  rw [bearing_some x x y1 y2 (fun h' => absurd h'.2 (ne_of_gt h)), sub_self, hN _ (by linarith), hval, compassDeg_le le_rfl, sub_self]

/-- **bearing convention**: 0 = the cell itself, 90 east, 270 west, 180 for +y, 360 for −y, up to the
    deviation δ of the constant 57.29578 from 180/π -/
theorem bearing_convention (pi δ : K) (hδ : pi * kdeg = 180 + δ) (hδ0 : 0 < δ)
    (hE : ∀ x : K, 0 < x → Trig.atan2 0 x = 0)
    (hW : ∀ x : K, x < 0 → Trig.atan2 0 x = pi ∨ Trig.atan2 0 x = -pi)
    (hS : ∀ a : K, a < 0 → Trig.atan2 a 0 = -(pi / 2))
    (hN : ∀ a : K, 0 < a → Trig.atan2 a 0 = pi / 2) (x y s : K) (hs : 0 < s) :
    bearing (some x : NV K) (some x) (some y) (some y) = some 0 ∧
    bearing (some x : NV K) (some (x + s)) (some y) (some y) = some 90 ∧
    (bearing (some x : NV K) (some (x - s)) (some y) (some y) = some (270 - δ) ∨
      bearing (some x : NV K) (some (x - s)) (some y) (some y) = some (270 + δ)) ∧
    bearing (some x : NV K) (some x) (some y) (some (y + s)) = some (180 + δ / 2) ∧
    bearing (some x : NV K) (some x) (some y) (some (y - s)) = some (360 - δ / 2) :=
  ⟨bearing_self x y, bearing_east x (x + s) y (by linarith) hE,
   bearing_west x (x - s) y pi δ (by linarith) hδ (le_of_lt hδ0) hW,
   bearing_plus_y_is_south x y (y + s) pi δ (by linarith) hδ (le_of_lt hδ0) hS,
   bearing_minus_y_is_north x y (y - s) pi δ (by linarith) hδ hδ0 hN⟩

open XrsVerif.Gen.ProximityFacts in
/-- the three documented names select their own distance function -/
theorem metric_dispatch_known :
    (resolveMetric "EUCLIDEAN").map distanceFor = some "euclidean_distance" ∧
    (resolveMetric "MANHATTAN").map distanceFor = some "manhattan_distance" ∧
    (resolveMetric "GREAT_CIRCLE").map distanceFor = some "great_circle_distance" := by decide

open XrsVerif.Gen.ProximityFacts in
/-- every other string (wrong case, typo, empty) silently falls back to EUCLIDEAN -/
theorem metric_dispatch_fallback (s : String) (h1 : s ≠ "EUCLIDEAN") (h2 : s ≠ "GREAT_CIRCLE") (h3 : s ≠ "MANHATTAN") :
    (resolveMetric s).map distanceFor = some "euclidean_distance" := by
  have e1 : (s == "EUCLIDEAN") = false := by simpa using h1
  have e2 : (s == "GREAT_CIRCLE") = false := by simpa using h2
  have e3 : (s == "MANHATTAN") = false := by simpa using h3
  simp [resolveMetric, metricTable, metricFallback, distanceFor, distanceDispatch, List.lookup, e1, e2, e3]

open XrsVerif.Gen.ProximityFacts in
/-- each public function asks `_process` for its own output; `max_distance=None` and the default mean unbounded -/
theorem process_modes :
    processMode = [("proximity", 0), ("allocation", 1), ("direction", 2)] ∧
    modeConstants = [("PROXIMITY", 0), ("ALLOCATION", 1), ("DIRECTION", 2)] ∧
    noneMeansInf = true ∧ defaultMax = ["np.inf", "np.inf", "np.inf"] := by decide

open XrsVerif.Gen.ProximityFacts in
/-- the row buffer the target test reads (`scan_line`) is allocated with the raster's own dtype: the stored cell values
    reach `source_line[pixel] == values[i]` / `!= 0` unchanged (no narrowing to float32 as for the output buffers), which is
    what lets the model test targets on the exact stored values (`isTargetVal` on rationals) -/
theorem scan_line_keeps_raster_dtype : scanLineDtype = .imgDtype := by decide

theorem euclid_kernel (x1 x2 y1 y2 : K) :
    Gen.euclidean_distance.cell (dirEnv (some x1 : NV K) (some x2) (some y1) (some y2)) (fun _ _ _ => none) (fun _ => []) =
      some (Trig.sqrt ((x1 - x2) * (x1 - x2) + (y1 - y2) * (y1 - y2))) := by
  simp [kl, Gen.euclidean_distance, dirEnv]

theorem manhattan_kernel (x1 x2 y1 y2 : K) :
    Gen.manhattan_distance.cell (dirEnv (some x1 : NV K) (some x2) (some y1) (some y2)) (fun _ _ _ => none) (fun _ => []) =
      some (|x1 - x2| + |y1 - y2|) := by
  simp [kl, Gen.manhattan_distance, dirEnv]

theorem adiff_cast (a b : Nat) : ((adiff a b : Nat) : K) = |(a : K) - (b : K)| :=
  Prox.adiff_cast a b

/-- the model's squared distances are the squares of what the generated kernels compute on a regular grid
    (`x = column · sx`, `y = row · sy`; for the Euclidean one `sqrt` is only assumed to invert squaring) -/
theorem model_metric_is_kernel (c : Cfg) (r1 c1 r2 c2 : Nat) :
    (c.metric = .euclid →
      ((dist2 c r1 c1 r2 c2 : Nat) : K) =
        ((c1 : K) * c.sx - c2 * c.sx) * ((c1 : K) * c.sx - c2 * c.sx) +
        ((r1 : K) * c.sy - r2 * c.sy) * ((r1 : K) * c.sy - r2 * c.sy)) ∧
    (c.metric = .manh →
      ((dist2 c r1 c1 r2 c2 : Nat) : K) =
        (|(c1 : K) * c.sx - c2 * c.sx| + |(r1 : K) * c.sy - r2 * c.sy|) *
        (|(c1 : K) * c.sx - c2 * c.sx| + |(r1 : K) * c.sy - r2 * c.sy|)) := by
  have hk : ∀ a b s : Nat, ((adiff a b * s : Nat) : K) = |(a : K) * s - b * s| := fun a b s => by
    rw [Nat.cast_mul, adiff_cast, ← sub_mul, abs_mul, abs_of_nonneg (Nat.cast_nonneg (α := K) s)]
  constructor
  · intro h
    unfold dist2
    rw [h]
    simp only [Nat.cast_add, Nat.cast_mul (adiff c1 c2 * c.sx), Nat.cast_mul (adiff r1 r2 * c.sy), hk, abs_mul_abs_self]
  · intro h
    unfold dist2
    rw [h]
    simp only [Nat.cast_mul (adiff c1 c2 * c.sx + adiff r1 r2 * c.sy), Nat.cast_add, hk]

/-- the side conditions hold for the planar metrics ... -/
example : Cfg.Refl { H := 5, W := 7, sx := 2, sy := 3, metric := .manh, max2x2 := some 9 } ∧
    Sep { H := 5, W := 7, sx := 2, sy := 3, metric := .manh, max2x2 := some 9 } :=
  planar_side_conditions _ (Or.inr rfl) (by decide) (by decide)

/-- ... and a concrete run exercises every clause: targets at (0,2), (1,1), (3,0) on 4×4 -/
example :
    let c : Cfg := { H := 4, W := 4, sx := 1, sy := 1, metric := .euclid, max2x2 := some 8 }
    let tg : Nat → Nat → Bool := fun r p => (r == 0 && p == 2) || (r == 1 && p == 1) || (r == 3 && p == 0)
    proxAt (run c tg) 0 2 = some 0 ∧ proxAt (run c tg) 2 2 = some 2 ∧ allocAt (run c tg) 2 2 = some (1, 1) ∧
      proxAt (run c tg) 3 3 = none ∧ allocAt (run c tg) 3 3 = none ∧ exact c tg 3 3 = some 8 := by decide +kernel

/-- a single target with a finite threshold: hypotheses of `single_target_exact` are satisfiable -/
example : ∃ t0 : Nat × Nat, ((fun r p => r == 1 && p == 2) t0.1 t0.2 = true ∧ t0.1 < 3 ∧ t0.2 < 4) ∧
    ∀ t : Nat × Nat, ((fun r p => r == 1 && p == 2) t.1 t.2 = true ∧ t.1 < 3 ∧ t.2 < 4) → t = t0 :=
  ⟨(1, 2), by decide, fun t h => by
    obtain ⟨a, b⟩ := t
    simp at h
    simp [h.1.1, h.1.2]⟩

example : ({ H := 3, W := 2, sx := 1, sy := 3, metric := .manh, max2x2 := none } : Cfg) ∈ smallTable := by
  unfold smallTable; repeat (first | exact List.mem_cons_self | apply List.mem_cons_of_mem)

/-- the atan2 hypotheses of `bearing_convention` are satisfiable with δ > 0: over ℚ with π ≈ 355/113 -/
example : ∃ (T : Trig Rat) (pi δ : Rat), pi * (kdeg : Rat) = 180 + δ ∧ 0 < δ ∧
    (∀ x : Rat, 0 < x → T.atan2 0 x = 0) ∧ (∀ x : Rat, x < 0 → T.atan2 0 x = pi ∨ T.atan2 0 x = -pi) ∧
    (∀ a : Rat, a < 0 → T.atan2 a 0 = -(pi / 2)) ∧ (∀ a : Rat, 0 < a → T.atan2 a 0 = pi / 2) := by
  refine ⟨{ sqrt := id, atan := id, exp := id, sin := id, cos := id, asin := id,
            atan2 := fun a b => if a = 0 then (if 0 < b then 0 else 355 / 113) else if 0 < a then 355 / 113 / 2 else -(355 / 113 / 2) },
          355 / 113, 355 / 113 * kdeg - 180, by ring, by norm_num [kdeg], ?_, ?_, ?_, ?_⟩
  · intro x hx; simp [hx]
  · intro x hx; left; simp [not_lt.2 (le_of_lt hx)]
  · intro a ha; simp [ne_of_lt ha, not_lt.2 (le_of_lt ha)]
  · intro a ha; simp [ne_of_gt ha, ha]

/-! ### the generated programs (layer T3)

  `Gen.IL.proximityLine`, `Gen.IL.processNumpy`, `Gen.IL.calcDirection` are translated statement by statement from
  `_process_proximity_line`, the jitted closure `_process._process_numpy` and `_calc_direction` of /repo's
  source (harness/facts_il.py, validated against numba by harness/il_corr.py).  The theorems below are about these
  generated terms: the refinement "generated program = hand model" (Proofs/ILProx*.lean) composed with the model
  theorems above.  The model is an abstraction (squared integer distances, threshold `⌈2·max²⌉`), so the
  refinement is relative to explicit hypotheses on the number type `F` (`IL.Px.Arith`: an embedding `emb` of squared
  distances under which the program's `<`, `>=`, `** 2`, `* 2.0`, `sqrt` are exact) and on the external
  `_distance` (`IL.Px.PNInput.d2`: its square on the coordinate grids is `emb (dist2 c …)`); numba's float32 rounding
  and int64 wrap-around are outside ILang. -/
section generated
open XrsVerif.IL XrsVerif.IL.Px
variable {F : Type} [Fl F]

/-- the target-test block of the generated line function computes `targetTest`, which is the model's
    `isTargetVal` under any reading of the numbers that respects `==`, `!= 0`, `isfinite` -/
theorem gen_target_rule (toVal : F → Val) (h : ValReading toVal) (x : F) (vals : List F) :
    targetTest x vals = isTargetVal (vals.map toVal) (toVal x) :=
  targetTest_model toVal h x vals

/-- **the generated `_process_proximity_line` is the model's sweep** `sweepN … c.W` (all pixels, forward or
    backward), under the abstraction relation `LineRel` between its five work arrays and the model's `LineSt` -/
theorem gen_line_sweep (c : Cfg) (emb : Nat → F) (tg : Nat → Nat → Bool) (row : Nat) (fwd : Bool)
    (fuel : Nat) (s : IL.State F) (m0 : LineSt) (hs : s.ctl = .run)
    (env : LineEnv N0 c emb tg row fwd s) (rel : LineRel c emb s m0) :
    let r := Gen.IL.proximityLine.run s fuel
    r.ctl = .ret ∧ LineRel c emb r (sweepN c tg row fwd m0 c.W) ∧ FrameS LV.lineScratch N0 s r :=
  proximityLine_refines fuel s m0 hs env rel

/-- **the generated `_process_numpy` is the model's `run`**: `img_distance` / `output_img` hold `proxAt` /
    `allocAt` of `Prox.run c tg` cell by cell (`lpFin`: NaN for `none`, else non-negative with square `emb d`;
    `outVal`: NaN, the raster value at the target (ALLOCATION), `dirF` towards it (DIRECTION)) -/
theorem gen_process_numpy (c : Cfg) (emb : Nat → F) (tg : Nat → Nat → Bool) (s0 : IL.State F) (fuel : Nat)
    (inp : PNInput c emb tg s0) :
    let r := Gen.IL.processNumpy.run s0 fuel
    r.ctl = .ret ∧ r.shp "img_distance" = [c.H, c.W] ∧ r.shp "output_img" = [c.H, c.W] ∧
    (r.fa "img_distance").length = c.H * c.W ∧ (r.fa "output_img").length = c.H * c.W ∧
    ∀ row, row < c.H → ∀ p, p < c.W →
      lpFin emb ((r.fa "img_distance").getD (row * c.W + p) Fl.nan) (proxAt (run c tg) row p) ∧
      (r.fa "output_img").getD (row * c.W + p) Fl.nan =
        outVal (s0.ienv "process_mode") (s0.fa "img") (s0.fa "x_coords") (s0.fa "y_coords") c.W row p
          (allocAt (run c tg) row p) :=
  processNumpy_refines s0 fuel inp

/-- **soundness, never-under and within-max for the generated program**: every cell of the outputs of the generated
    `_process_numpy` is either NaN in both arrays, or `img_distance` is the (embedded) distance `d` from the cell to a
    real target cell `t` of the grid, `d` is within `max_distance`, the exact nearest-target distance is not larger,
    and `output_img` holds the ALLOCATION / DIRECTION value for that same `t` -/
theorem gen_sound (c : Cfg) (emb : Nat → F) (tg : Nat → Nat → Bool) (s0 : IL.State F) (fuel : Nat)
    (inp : PNInput c emb tg s0) (hrefl : c.Refl) (r p : Nat) (hr : r < c.H) (hp : p < c.W) :
    let out := Gen.IL.processNumpy.run s0 fuel
    ((out.fa "img_distance").getD (r * c.W + p) Fl.nan = Fl.nan ∧
      (out.fa "output_img").getD (r * c.W + p) Fl.nan = Fl.nan) ∨
    ∃ (t : Nat × Nat) (d : Nat),
      (tg t.1 t.2 = true ∧ t.1 < c.H ∧ t.2 < c.W) ∧ d = dist2 c t.1 t.2 r p ∧ withinMax c d = true ∧
      (∃ e, exact c tg r p = some e ∧ e ≤ d) ∧ (∀ m, c.max2x2 = some m → 2 * d ≤ m) ∧
      lpRel emb ((out.fa "img_distance").getD (r * c.W + p) Fl.nan) (some d) ∧
      (out.fa "output_img").getD (r * c.W + p) Fl.nan =
        outVal (s0.ienv "process_mode") (s0.fa "img") (s0.fa "x_coords") (s0.fa "y_coords") c.W r p (some t) := by
  intro out
  obtain ⟨_, _, _, _, _, hcell⟩ := processNumpy_refines s0 fuel inp
  obtain ⟨h1, h2⟩ := hcell r hr p hp
  rcases run_cell_cases c tg hrefl r p hr hp with ⟨e1, e2⟩ | ⟨t, hT, hw, e1, e2⟩
  · rw [e1] at h1; rw [e2] at h2
    exact .inl ⟨h1, h2⟩
  · rw [e1] at h1; rw [e2] at h2
    exact .inr ⟨t, _, hT, rfl, hw, never_under c tg hrefl r p hr hp _ e1,
      fun m hm => le_max c tg hrefl r p hr hp _ m e1 hm, h1, h2⟩

/-- **zero on targets, for the generated program**: the stored distance at a target cell is `0.0`-like
    (`x * x = emb 0`) -/
theorem gen_zero_on_targets (c : Cfg) (emb : Nat → F) (tg : Nat → Nat → Bool) (s0 : IL.State F) (fuel : Nat)
    (inp : PNInput c emb tg s0) (r p : Nat) (hr : r < c.H) (hp : p < c.W) (ht : tg r p = true) :
    lpRel emb (((Gen.IL.processNumpy.run s0 fuel).fa "img_distance").getD (r * c.W + p) Fl.nan) (some 0) := by
  obtain ⟨_, _, _, _, _, hcell⟩ := processNumpy_refines s0 fuel inp
  have h1 := (hcell r hr p hp).1
  rw [run_zero c tg r p hr hp ht] at h1
  exact h1

/-- **the generated `_calc_direction` is the bearing the bearing theorems are about** (the KLang kernel
    `Gen.calc_direction` and the ILang program `Gen.IL.calcDirection` are two translations of the same source) -/
theorem gen_calc_direction (s : IL.State F) (fuel : Nat) (hs : s.ctl = .run) :
    let r := Gen.IL.calcDirection.run s fuel
    r.ctl = .ret ∧ r.fenv "ret0" = bearing (s.fenv "x1") (s.fenv "x2") (s.fenv "y1") (s.fenv "y2") := by
  obtain ⟨h1, h2⟩ := calcDirection_refines s fuel hs
  exact ⟨h1, by rw [h2, dirF_eq_bearing]⟩

/-- DIRECTION mode of the generated `_process_numpy`: the value written for a recorded target `t` is the model's
    `bearing` from the cell to `t` -/
theorem gen_direction_value (img xc yc : List F) (W r p : Nat) (t : Nat × Nat) :
    outVal 2 img xc yc W r p (some t) =
      bearing (xc.getD (r * W + p) Fl.nan) (xc.getD (t.1 * W + t.2) Fl.nan)
        (yc.getD (r * W + p) Fl.nan) (yc.getD (t.1 * W + t.2) Fl.nan) := by
  simp [outVal, dirF_eq_bearing]

/-- ALLOCATION mode: the raster value at the recorded target -/
theorem gen_allocation_value (img xc yc : List F) (W r p : Nat) (t : Nat × Nat) :
    outVal 1 img xc yc W r p (some t) = img.getD (t.1 * W + t.2) Fl.nan := by
  simp [outVal]

end generated

/-! non-vacuity of the hypotheses of the generated-program theorems: a reading of `NV ℚ` as raster values, and a
    1 × 2 raster over `NV ℝ` (`sqrt` = `Real.sqrt`, `_distance` = Euclidean, `max_distance = 2`) satisfying `PNInput` -/
example : ∃ (T : Trig Rat), letI := T; ∃ toVal : NV Rat → Val, IL.Px.ValReading toVal :=
  ⟨IL.Px.Witness.trigQ, _, IL.Px.Witness.ratReading⟩

example : ∃ (c : Cfg) (emb : Nat → NV ℝ) (tg : Nat → Nat → Bool) (s0 : IL.State (NV ℝ)),
    c.H = 1 ∧ c.W = 2 ∧ c.Refl ∧ tg 0 0 = true ∧ IL.Px.PNInput c emb tg s0 :=
  ⟨_, _, _, _, rfl, rfl, IL.Px.Witness.wc_refl, rfl, IL.Px.Witness.wInput⟩

end XrsVerif.C06
