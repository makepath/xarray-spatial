import XrsVerif.Proofs.HaloNV
import XrsVerif.Proofs.TerrainClosed
import XrsVerif.Core.HaloIter
import XrsVerif.Core.Dataflow
import XrsVerif.Model.Index
import XrsVerif.Gen.Overlap
import XrsVerif.Gen.Blocks
import XrsVerif.Gen.Reductions
import XrsVerif.Gen.Focal
import XrsVerif.Gen.Effects
import XrsVerif.Gen.GraphKeys
import XrsVerif.Proofs.GraphKeys
import XrsVerif.Proofs.Effects
/-
  C01 -- Dask-backed rasters give the NumPy result for every chunking and scheduler.

  `mapOverlap`, `mapBlocks` (`Core/Halo.lean`) = what dask does with the block function, for *any* row/column
  chunk lists; the block functions are the kernels generated from source (`Kernel.runG`); depth, boundary, which
  function is mapped, where reductions are taken and eager calls are facts generated from the Dask code paths.

  Statements are over `NV K` (NaN or an element of any ordered field), so "bit-identical" reads
  "the same expression tree on the same window"; rounding of re-ordered global mean/std is outside
  (the property grants it).  Scheduler independence (`DF.schedule_independent`) is for graphs of *pure* tasks;
  that every function this library hands to dask *is* pure is decided on the generated effect summaries
  (`all_block_functions_pure`).  `DF.Graph` numbers its tasks, i.e. it assumes that different tasks have different
  keys; the library's share of that assumption is `no_call_site_names_its_graph_key`, the rest is dask's own
  tokenisation of function and arguments.
-/
set_option linter.unusedSectionVars false
namespace XrsVerif.C01
open XrsVerif XrsVerif.Gen

variable {K : Type} [Field K] [LinearOrder K] [IsStrictOrderedRing K] [Trig K]

/-! ## 1. the halo theorem: any window-local operation, any chunking -/

/-- For every block function that is a stencil of a window-local cell function, every halo depth
    covering its radius and loop margins, every raster and **every pair of chunk lists that sum to
    the raster's extent** (1-cell chunks, chunks smaller than the kernel, non-square kernels: no
    side condition), the reassembled Dask result is the cell function on the `fill`-padded global
    window. -/
theorem halo_any_chunking {α β : Type} (fill : α) (dflt : β) (dr dc mr mc : Nat)
    (k : (Int → Int → α) → β) (f : Grid α → Grid β)
    (hk : WindowLocal dr dc k) (hf : IsStencil mr mc k f) (hmr : mr ≤ dr) (hmc : mc ≤ dc)
    (rch cch : List Nat) (g : Grid α) (hrs : rch.sum = g.h) (hcs : cch.sum = g.w)
    (i j : Int) (hi : 0 ≤ i) (hi' : i < g.h) (hj : 0 ≤ j) (hj' : j < g.w) :
    (mapOverlap fill dflt dr dc f rch cch g).cell i j = spec fill k g i j :=
  mapOverlap_eq_spec_of_valid fill dflt dr dc mr mc k f hk hf hmr hmc rch cch g hrs hcs i j hi hi' hj hj'

/-- hence two chunkings of the same raster agree cell for cell -/
theorem chunking_irrelevant {α β : Type} (fill : α) (dflt : β) (dr dc mr mc : Nat)
    (k : (Int → Int → α) → β) (f : Grid α → Grid β)
    (hk : WindowLocal dr dc k) (hf : IsStencil mr mc k f) (hmr : mr ≤ dr) (hmc : mc ≤ dc)
    (rch cch rch' cch' : List Nat) (g : Grid α)
    (hrs : rch.sum = g.h) (hcs : cch.sum = g.w) (hrs' : rch'.sum = g.h) (hcs' : cch'.sum = g.w)
    (i j : Int) (hi : 0 ≤ i) (hi' : i < g.h) (hj : 0 ≤ j) (hj' : j < g.w) :
    (mapOverlap fill dflt dr dc f rch cch g).cell i j = (mapOverlap fill dflt dr dc f rch' cch' g).cell i j :=
  chunk_independent fill dflt dr dc mr mc k f hk hf hmr hmc rch cch rch' cch' g hrs hcs hrs' hcs' i j hi hi' hj hj'

/-! ## 2. slope / aspect / curvature: Dask = NumPy at every cell incl. the NaN border -/

theorem slope_edge_strict : EdgeStrict K slope_cpu :=
  .of_nan_on "data" _ (by decide) fun env vec rd p hp h =>
    (slope_cpu_cell env rd vec).trans (slopeF_nan _ _ _ p hp h)

theorem aspect_edge_strict : EdgeStrict K aspect_cpu :=
  .of_nan_on "data" _ (by decide) fun env vec rd p hp h =>
    (aspect_cpu_cell env rd vec).trans (aspectF_nan _ p hp h)

theorem curvature_edge_strict : EdgeStrict K curvature_cpu :=
  .of_nan_on "data" _ (by decide) fun env vec rd p hp h =>
    (curvature_cpu_cell env rd vec).trans (curvatureF_nan _ _ p hp h)

/-- the generated Dask wiring of slope, aspect, curvature, hillshade and focal mean: one `map_overlap` (outside any loop), NaN boundary,
    depth ≥ 1, same kernel on blocks and on the whole raster, nothing eager -/
theorem stencil_wiring_ok :
    [slope_overlap, aspect_overlap, curvature_overlap, hillshade_overlap, mean_overlap].all (fun f =>
      f.ok && f.once && f.boundaryNaN && decide (1 ≤ (f.depth 3 3).1) && decide (1 ≤ (f.depth 3 3).2) &&
      (f.blockFunc == f.numpyFunc || f.numpyCalls.contains f.blockFunc) && f.eager.isEmpty) = true := by
  decide

theorem slope_dask_eq_numpy (env : String → NV K) (vec : String → List (NV K)) (dflt : NV K)
    (rch cch : List Nat) (g : Grid (String → NV K)) (hrs : rch.sum = g.h) (hcs : cch.sum = g.w)
    (i j : Int) (hi : 0 ≤ i) (hi' : i < g.h) (hj : 0 ≤ j) (hj' : j < g.w) :
    (mapOverlap nanFill dflt (slope_overlap.depth 3 3).1 (slope_overlap.depth 3 3).2
        (slope_cpu.runG env vec) rch cch g).cell i j = (slope_cpu.runG env vec g).cell i j :=
  Kernel.stencil1_dask_eq_numpy slope_cpu (by decide) (by decide) (by decide) (by decide) (by decide)
    (by decide) slope_edge_strict _ _ (by decide) (by decide) env vec dflt rch cch g hrs hcs i j hi hi' hj hj'

theorem aspect_dask_eq_numpy (env : String → NV K) (vec : String → List (NV K)) (dflt : NV K)
    (rch cch : List Nat) (g : Grid (String → NV K)) (hrs : rch.sum = g.h) (hcs : cch.sum = g.w)
    (i j : Int) (hi : 0 ≤ i) (hi' : i < g.h) (hj : 0 ≤ j) (hj' : j < g.w) :
    (mapOverlap nanFill dflt (aspect_overlap.depth 3 3).1 (aspect_overlap.depth 3 3).2
        (aspect_cpu.runG env vec) rch cch g).cell i j = (aspect_cpu.runG env vec g).cell i j :=
  Kernel.stencil1_dask_eq_numpy aspect_cpu (by decide) (by decide) (by decide) (by decide) (by decide)
    (by decide) aspect_edge_strict _ _ (by decide) (by decide) env vec dflt rch cch g hrs hcs i j hi hi' hj hj'

theorem curvature_dask_eq_numpy (env : String → NV K) (vec : String → List (NV K)) (dflt : NV K)
    (rch cch : List Nat) (g : Grid (String → NV K)) (hrs : rch.sum = g.h) (hcs : cch.sum = g.w)
    (i j : Int) (hi : 0 ≤ i) (hi' : i < g.h) (hj : 0 ≤ j) (hj' : j < g.w) :
    (mapOverlap nanFill dflt (curvature_overlap.depth 3 3).1 (curvature_overlap.depth 3 3).2
        (curvature_cpu.runG env vec) rch cch g).cell i j = (curvature_cpu.runG env vec g).cell i j :=
  Kernel.stencil1_dask_eq_numpy curvature_cpu (by decide) (by decide) (by decide) (by decide) (by decide)
    (by decide) curvature_edge_strict _ _ (by decide) (by decide) env vec dflt rch cch g hrs hcs i j hi hi' hj hj'

/-! ## 3. kernel-shaped operations (focal apply / focal_stats, convolution_2d, hotspots):
       for apply and convolution the halo depth read from the Dask path covers the window half-widths read
       from the NumPy function, for **every** kernel shape (a swapped `(pad_w, pad_h)` makes this false) -/

theorem apply_depth_covers_radius (kr kc : Nat) :
    (apply_radius kr kc).1 ≤ (apply_overlap.depth kr kc).1 ∧ (apply_radius kr kc).2 ≤ (apply_overlap.depth kr kc).2 := by
  simp [apply_radius, apply_overlap]

theorem convolve_depth_covers_radius (kr kc : Nat) :
    (convolve_radius kr kc).1 ≤ (convolve_overlap.depth kr kc).1 ∧
    (convolve_radius kr kc).2 ≤ (convolve_overlap.depth kr kc).2 := by
  simp [convolve_radius, convolve_overlap]

theorem kernel_shaped_wiring_ok :
    [apply_overlap, convolve_overlap, hotspots_overlap].all (fun f =>
      f.ok && f.once && f.boundaryNaN && (f.blockFunc == f.numpyFunc || f.numpyCalls.contains f.blockFunc)
        && f.eager.isEmpty) = true := by
  decide

/-- any operation whose NumPy function is a stencil of a cell function with the half-widths of
    `_apply_numpy` gives, under the generated Dask wiring, that cell function on the NaN-padded
    global window -- for every kernel shape (non-square included) and every chunking -/
theorem apply_dask_eq_spec {α β : Type} (fill : α) (dflt : β) (kr kc : Nat)
    (k : (Int → Int → α) → β) (f : Grid α → Grid β)
    (hk : WindowLocal (apply_radius kr kc).1 (apply_radius kr kc).2 k)
    (hf : IsStencil 0 0 k f)
    (rch cch : List Nat) (g : Grid α) (hrs : rch.sum = g.h) (hcs : cch.sum = g.w)
    (i j : Int) (hi : 0 ≤ i) (hi' : i < g.h) (hj : 0 ≤ j) (hj' : j < g.w) :
    (mapOverlap fill dflt (apply_overlap.depth kr kc).1 (apply_overlap.depth kr kc).2 f rch cch g).cell i j =
      spec fill k g i j :=
  halo_any_chunking fill dflt _ _ 0 0 k f
    (hk.mono (apply_depth_covers_radius kr kc).1 (apply_depth_covers_radius kr kc).2) hf
    (Nat.zero_le _) (Nat.zero_le _) rch cch g hrs hcs i j hi hi' hj hj'

/-- convolution: the NumPy loop skips a margin equal to the half-widths (NaN there); the Dask depth
    covers both radius and margin -/
theorem convolve_dask_eq_spec {α β : Type} (fill : α) (dflt : β) (kr kc : Nat)
    (k : (Int → Int → α) → β) (f : Grid α → Grid β)
    (hk : WindowLocal (convolve_radius kr kc).1 (convolve_radius kr kc).2 k)
    (hf : IsStencil (convolve_radius kr kc).1 (convolve_radius kr kc).2 k f)
    (rch cch : List Nat) (g : Grid α) (hrs : rch.sum = g.h) (hcs : cch.sum = g.w)
    (i j : Int) (hi : 0 ≤ i) (hi' : i < g.h) (hj : 0 ≤ j) (hj' : j < g.w) :
    (mapOverlap fill dflt (convolve_overlap.depth kr kc).1 (convolve_overlap.depth kr kc).2 f rch cch g).cell i j =
      spec fill k g i j :=
  halo_any_chunking fill dflt _ _ _ _ k f
    (hk.mono (convolve_depth_covers_radius kr kc).1 (convolve_depth_covers_radius kr kc).2) hf
    (convolve_depth_covers_radius kr kc).1 (convolve_depth_covers_radius kr kc).2
    rch cch g hrs hcs i j hi hi' hj hj'

/-! ### focal `mean` with `passes`

  `mean(agg, passes)` can reach dask in two shapes: `passes` successive `map_overlap`s of the one-pass
  kernel (`passesChunked`: every pass gets a fresh halo of the previous pass's *result*), or one
  `map_overlap` whose block function runs all the passes on its block (`passesFused`).  Which one the
  code has is read from the source on every run:
    * `Gen.Focal.mean_iterates_passes` / `mean_passes_fact.loopInPublic` -- the `for _ in range(passes)`
      loop is in `mean()` and feeds `_mean`'s result back;
    * `mean_passes_fact.dispatchOnce` -- `_mean` calls the backend function once per call, no loop;
    * `mean_overlap.once`, `mean_overlap.blockFunc == mean_overlap.numpyFunc` -- the Dask backend function
      holds exactly one `map_overlap` and what it maps is the one-pass kernel itself, not a wrapper. -/

/-- "the passes loop is outside `map_overlap`" -- all generated -/
def meanPassesOutside : Bool :=
  Focal.mean_iterates_passes && mean_passes_fact.loopInPublic && mean_passes_fact.dispatchOnce &&
    mean_overlap.ok && mean_overlap.once && (mean_overlap.blockFunc == mean_overlap.numpyFunc)

/-- the Dask path of `focal.mean(agg, passes)` for a one-pass block function `f`, as the generated
    facts describe it -/
def meanDask {α : Type} (fill dflt : α) (f : Grid α → Grid α) (rch cch : List Nat) (passes : Nat)
    (g : Grid α) : Grid α :=
  if meanPassesOutside then
    passesChunked fill dflt (mean_overlap.depth 3 3).1 (mean_overlap.depth 3 3).2 f rch cch passes g
  else
    passesFused fill dflt (mean_overlap.depth 3 3).1 (mean_overlap.depth 3 3).2 f rch cch passes g

theorem mean_passes_outside_overlap : meanPassesOutside = true := by decide

/-- **multi-pass mean, every chunking**: for any 3x3 cell function `k` (radius 1) and any block function
    `f` that computes `k` wherever the whole 3x3 window lies inside the block (`IsStencil 1 1`: what
    `_mean_numpy`, which clips its window at the *block* edge, does), `passes` iterations of
    (map_overlap depth 1 ∘ one-pass kernel) equal `passes` iterations of the whole-raster one-pass
    specification -- for **any number of passes** and every chunking (1-cell chunks included). -/
theorem mean_dask_passes {α : Type} (fill dflt : α) (k : (Int → Int → α) → α) (f : Grid α → Grid α)
    (hk : WindowLocal 1 1 k) (hf : IsStencil 1 1 k f)
    (rch cch : List Nat) (g : Grid α) (hrs : rch.sum = g.h) (hcs : cch.sum = g.w) (passes : Nat) :
    (meanDask fill dflt f rch cch passes g).EqOn (passesSpec fill k passes g) := by
  simp only [meanDask, mean_passes_outside_overlap, if_true]
  exact passes_eq_spec fill dflt _ _ 1 1 k f (hk.mono (by decide) (by decide)) hf (by decide) (by decide)
    rch cch g hrs hcs passes

/-- hence the result after `passes` passes does not depend on the chunking -/
theorem mean_passes_chunking_irrelevant {α : Type} (fill dflt : α) (k : (Int → Int → α) → α) (f : Grid α → Grid α)
    (hk : WindowLocal 1 1 k) (hf : IsStencil 1 1 k f)
    (rch cch rch' cch' : List Nat) (g : Grid α) (hrs : rch.sum = g.h) (hcs : cch.sum = g.w)
    (hrs' : rch'.sum = g.h) (hcs' : cch'.sum = g.w) (passes : Nat)
    (i j : Int) (hi : 0 ≤ i) (hi' : i < g.h) (hj : 0 ≤ j) (hj' : j < g.w) :
    (meanDask fill dflt f rch cch passes g).cell i j = (meanDask fill dflt f rch' cch' passes g).cell i j := by
  have h1 := mean_dask_passes fill dflt k f hk hf rch cch g hrs hcs passes
  have h2 := mean_dask_passes fill dflt k f hk hf rch' cch' g hrs' hcs' passes
  have e1 := h1.2.2 i j hi (by rw [h1.1, (passesSpec_dims fill k passes g).1]; exact hi') hj
    (by rw [h1.2.1, (passesSpec_dims fill k passes g).2]; exact hj')
  have e2 := h2.2.2 i j hi (by rw [h2.1, (passesSpec_dims fill k passes g).1]; exact hi') hj
    (by rw [h2.2.1, (passesSpec_dims fill k passes g).2]; exact hj')
  rw [e1, e2]

/-! ## 4. per-cell operations mapped over blocks: spectral indices, binary, hotspots classes,
       true_color bands -- `map_blocks` over any chunking is the kernel on the whole raster -/

/-- every generated per-cell kernel reads only offset (0,0) and has no loop margin -/
theorem percell_kernels_ok :
    ([arvi_cpu, evi_cpu, gci_cpu, normalized_ratio_cpu, savi_cpu, sipi_cpu, ebbi_cpu,
      normalize_data_cpu, binary_cpu, hotspots_cpu, true_color_alpha_numpy, true_color_alpha_dask].all fun k =>
      readsWithin k.body.reads 0 0 && k.top == 0 && k.bottom == 0 && k.left == 0 && k.right == 0) = true := by
  decide

theorem percell_dask_eq_numpy {F : Type} [Fl F] (k : Kernel)
    (hok : (readsWithin k.body.reads 0 0 && k.top == 0 && k.bottom == 0 && k.left == 0 && k.right == 0) = true)
    (env : String → F) (vec : String → List F) (fill : String → F) (dflt : F)
    (rch cch : List Nat) (g : Grid (String → F)) (hrs : rch.sum = g.h) (hcs : cch.sum = g.w)
    (i j : Int) (hi : 0 ≤ i) (hi' : i < g.h) (hj : 0 ≤ j) (hj' : j < g.w) :
    (mapBlocks fill dflt (k.runG env vec) rch cch g).cell i j = (k.runG env vec g).cell i j := by
  simp only [Bool.and_eq_true, beq_iff_eq] at hok
  exact Kernel.mapBlocks_eq_numpy k env vec hok.1.1.1.1 hok.1.1.1.2 hok.1.1.2 hok.1.2 hok.2
    fill dflt rch cch g hrs hcs i j hi hi' hj hj'

/-- every spectral index: the Dask wrapper maps the *same* kernel with the same argument order, and
    that kernel is per-cell -/
theorem indices_dask_wiring_ok :
    allIndexWirings.all (fun w => w.daskSameKernel && readsWithin w.kernel.body.reads 0 0 &&
      w.kernel.top == 0 && w.kernel.bottom == 0 && w.kernel.left == 0 && w.kernel.right == 0) = true := by
  decide

/-- binary / reclassify (`_bin`) / true_color normalisation / perlin / terrain noise layers: the
    block function is the function NumPy runs (or one it calls), mapped without overlap, lazily -/
theorem blocks_wiring_ok :
    allBlocksFacts.all (fun f => f.ok && f.depthless &&
      (f.blockFunc == f.numpyFunc || f.numpyReaches.contains f.blockFunc) && f.eager.isEmpty) = true := by
  decide

/-! ## 5. global reductions are taken over the whole raster, outside the block function, and
       combining per-block partial results gives the whole-raster value -/

theorem reductions_are_global :
    allReductionFacts.all (fun f => f.ok && f.blockReductions.isEmpty && !f.globalReductions.isEmpty) = true := by
  decide

/-- NaN-skipping maximum (`nanmax`): `none` = no valid value yet -/
def nmax : NV K → NV K → NV K
  | none, b => b
  | a, none => a
  | some a, some b => some (max a b)

def nmin : NV K → NV K → NV K
  | none, b => b
  | a, none => a
  | some a, some b => some (min a b)

theorem nmax_assoc (a b c : NV K) : nmax (nmax a b) c = nmax a (nmax b c) := by
  cases a <;> cases b <;> cases c <;> simp [nmax, max_assoc]

theorem nmin_assoc (a b c : NV K) : nmin (nmin a b) c = nmin a (nmin b c) := by
  cases a <;> cases b <;> cases c <;> simp [nmin, min_assoc]

theorem foldl_split {α : Type} (op : α → α → α) (hassoc : ∀ a b c, op (op a b) c = op a (op b c))
    (e : α) (hl : ∀ a, op e a = a) (hr : ∀ a, op a e = a) (a : α) (l : List α) :
    l.foldl op a = op a (l.foldl op e) := by
  induction l generalizing a with
  | nil => simp [hr]
  | cons x xs ih =>
    simp only [List.foldl_cons]
    rw [ih (op a x), hl x, ih x, hassoc]

/-- **partition invariance**: reducing every block and then combining the partial results equals
    reducing the whole raster, for every split of the cells into blocks (any number, any sizes,
    empty blocks included) -/
theorem reduce_blocks_eq_global {α : Type} (op : α → α → α)
    (hassoc : ∀ a b c, op (op a b) c = op a (op b c))
    (e : α) (hl : ∀ a, op e a = a) (hr : ∀ a, op a e = a) (blocks : List (List α)) :
    (blocks.map (fun b => b.foldl op e)).foldl op e = blocks.flatten.foldl op e := by
  induction blocks with
  | nil => rfl
  | cons b bs ih =>
    simp only [List.map_cons, List.foldl_cons, List.flatten_cons, List.foldl_append]
    rw [hl, foldl_split op hassoc e hl hr (b.foldl op e) _, ih,
        foldl_split op hassoc e hl hr (b.foldl op e) bs.flatten]

/-- `nanmax` / `nanmin` of the raster from per-block `nanmax` / `nanmin` (true_color, equal_interval) -/
theorem nanmax_blocks (blocks : List (List (NV K))) :
    (blocks.map (fun b => b.foldl nmax none)).foldl nmax none = blocks.flatten.foldl nmax none :=
  reduce_blocks_eq_global nmax nmax_assoc none (by intro a; cases a <;> rfl) (by intro a; cases a <;> rfl) blocks

theorem nanmin_blocks (blocks : List (List (NV K))) :
    (blocks.map (fun b => b.foldl nmin none)).foldl nmin none = blocks.flatten.foldl nmin none :=
  reduce_blocks_eq_global nmin nmin_assoc none (by intro a; cases a <;> rfl) (by intro a; cases a <;> rfl) blocks

/-- sums (hence counts, sums of squares, and mean / std built from them) over exact numbers -/
theorem sum_blocks (blocks : List (List K)) :
    (blocks.map (fun b => b.foldl (· + ·) 0)).foldl (· + ·) 0 = blocks.flatten.foldl (· + ·) 0 :=
  reduce_blocks_eq_global (· + ·) add_assoc 0 zero_add add_zero blocks

/-! ## 6. every scheduler and worker count

  A Dask computation is a graph of pure tasks (block functions on halo blocks, reductions,
  reassembly).  `DF.run g sched` executes an arbitrary *schedule*: any sequence of batches, a batch
  being the tasks that the workers start in the same tick (1 worker = singleton batches; threads x N
  = batches of up to N; any order that respects readiness).  Whatever the schedule, a task that gets
  computed gets its denotation -- so two runs under different schedulers / worker counts agree on
  every block they both produce, and two complete runs produce the same raster. -/

open XrsVerif.Effects in
/-- a function handed to dask is *pure* when its generated effect summary writes no shared cell at all
    (`confined []`: no `np.random.seed`, no draw from the global RNG, no mutation of a module table or
    of a mutable default) and reads only cells nobody in the library writes (`noStale volatile []`:
    a constant such as `aspect.RADIAN` is fine, the global RNG is not) -/
def taskPure (σ : Effects.Summary) : Bool :=
  confined [] σ.prog && noStale Gen.volatile [] σ.prog

/-- the block functions of this property's operations, by qualified name: the `map_overlap` sites, the
    `map_blocks` sites, the spectral-index kernels -/
def blockFunctions : List String :=
  allOverlapFacts.map (·.blockQual) ++ allBlocksFacts.map (·.blockQual) ++ allIndexWirings.map (·.kernel.name)

/-- **purity of everything handed to dask** (generated, re-decided on every run): every block function
    above has an effect summary among `Gen.taskSummaries` (so it was resolved to a function of /repo:
    not a lambda, not a wrapper defined on the spot), and every task function of the library is pure.
    A block function that seeds / draws from the process-global RNG (a permutation table built inside the
    task) makes this false. -/
theorem all_block_functions_pure :
    (blockFunctions.all fun n => Gen.taskSummaries.any fun σ => σ.name == n) = true ∧
    Gen.taskSummaries.all taskPure = true := by
  constructor <;> decide +kernel

open XrsVerif.Effects in
/-- what purity buys: run every task `i` of a graph as the library function `σ i` (any of the generated
    task summaries), against whatever state `hist i` the process-global cells are in when a worker
    thread picks the task up -- any sequence of library calls (other tasks, other public calls: they
    may write the volatile cells) completed before.  Two executions under different schedules,
    worker counts and interleavings agree on every value they compute. -/
theorem pure_tasks_any_schedule {V R : Type} [Inhabited V] (cells : Cell → V)
    (deps : Nat → List Nat) (deps_lt : ∀ i j, j ∈ deps i → j < i)
    (σ : Nat → Summary) (hσ : ∀ i, σ i ∈ Gen.taskSummaries)
    (sem : Nat → Sem (String → V) V R) (args : Nat → List R → String → V)
    (hist₁ hist₂ : Nat → List (Call (String → V) V R))
    (hh₁ : ∀ i, ∀ p ∈ hist₁ i, confined Gen.volatile p.prog = true)
    (hh₂ : ∀ i, ∀ p ∈ hist₂ i, confined Gen.volatile p.prog = true)
    (s₁ s₂ : List (List Nat)) (i : Nat) (v w : R)
    (h₁ : DF.run ⟨deps, fun i ins => (step (runHist (Lib.fresh cells) (hist₁ i)) ((σ i).call (sem i) (args i ins))).2,
            deps_lt⟩ s₁ (fun _ => none) i = some v)
    (h₂ : DF.run ⟨deps, fun i ins => (step (runHist (Lib.fresh cells) (hist₂ i)) ((σ i).call (sem i) (args i ins))).2,
            deps_lt⟩ s₂ (fun _ => none) i = some w) : v = w := by
  have hp : ∀ i, noStale Gen.volatile [] (σ i).prog = true := by
    intro i
    have := (List.all_eq_true.mp all_block_functions_pure.2) (σ i) (hσ i)
    simp only [taskPure, Bool.and_eq_true] at this
    exact this.2
  exact schedule_independent_of_noStale Gen.volatile cells deps deps_lt (fun i ins => (σ i).call (sem i) (args i ins))
    (fun i _ => hp i) hist₁ hist₂ hh₁ hh₂ s₁ s₂ i v w h₁ h₂

theorem any_schedule_same_result {V : Type} (g : DF.Graph V) (s1 s2 : List (List Nat)) (i : Nat) (v w : V)
    (h1 : DF.run g s1 (fun _ => none) i = some v) (h2 : DF.run g s2 (fun _ => none) i = some w) : v = w :=
  DF.schedule_independent g s1 s2 i v w h1 h2

/-- and that value is the task's denotation, which does not mention the schedule at all -/
theorem scheduled_value_is_denotation {V : Type} (g : DF.Graph V) (s : List (List Nat)) (i : Nat) (v : V)
    (h : DF.run g s (fun _ => none) i = some v) : v = DF.den g i :=
  DF.run_sound g s _ (by intro i v h; simp at h) i v h

/-! ## 6b. several lazy results in one graph: who answers for the graph keys

  Sections 1-6 speak about *one* graph whose tasks are told apart by construction (`DF.Graph` is indexed by task).
  dask tells tasks apart by their **key**, `(layer name, i, j)`, and evaluates several results together
  (`dask.compute(a, b)`, `a - b`, one `xr.Dataset`) in the merged dictionary: equal key = same task.
  `GraphKeys.joint_eval_eq_alone`: if equal keys do stand for equal tasks, every result evaluated together has the
  value it has alone; `GraphKeys.collision_replaces_a_result`: otherwise not.  A layer gets its name from dask --
  `funcname(func)-tokenize(func, args, kwargs)`, a hash of everything the block task depends on -- unless the call
  passes `name=` (the complete key; `token=` is only the readable prefix).  Then uniqueness is the call site's business:
  `name='normalized_ratio'`, or a token of *some* of the arguments, gives two different calls the same keys. -/

def graphModules : List String :=
  ["slope", "aspect", "curvature", "hillshade", "focal", "convolution", "classify", "multispectral", "perlin", "terrain"]

/-- the layer-creating calls of those modules, as found by the sweep of `facts_dask.graph_key_facts` -/
def graphSites : List GraphKeyFact := allGraphKeyFacts.filter fun s => graphModules.contains s.module

/-- **no call site names the key of the layer it creates** (generated, re-decided on every run):
    (1, 2) the `map_overlap` / `map_blocks` call of every operation passes no `name=` and forwards no `**kwargs`
    (per-operation facts, the parsers that also give depth / boundary / block function);
    (3) nor does any layer-creating call anywhere in the modules of this property (`map_blocks`, `map_overlap`,
    `blockwise`, `from_array`, `from_delayed`, `delayed`, hand-made layers -- an independent sweep);
    (4) the sweep is not blind: it finds the Dask function of every operation described in (1, 2), with the right kind
    of call, and at least one site in each module.
    So every key of every graph this library builds is `dask`'s token of the block function and of *all* its
    arguments: the hypothesis `Faithful` of `joint_results_are_the_single_results` is dask's contract, not the library's. -/
theorem no_call_site_names_its_graph_key :
    (allOverlapFacts.all fun f => f.keyName == "" && !f.opaqueKwargs) = true ∧
    (allBlocksFacts.all fun f => f.keyName == "" && !f.opaqueKwargs) = true ∧
    (graphSites.all GraphKeyFact.keyFree) = true ∧
    ((allOverlapFacts.all fun f => graphSites.any fun s => s.site == f.daskQual && s.kind == "map_overlap") &&
     (allBlocksFacts.all fun f => graphSites.any fun s => s.site == f.daskQual && s.kind == "map_blocks") &&
     (graphModules.all fun m => graphSites.any fun s => s.module == m)) = true := by
  refine ⟨?_, ?_, ?_, ?_⟩ <;> decide +kernel

/-- what that buys.  `calls`: any public calls on Dask-backed rasters (same function or different ones, any arguments,
    any chunkings `blocks c`); each contributes a layer of block tasks `task c` under the name `name c`.  If names are
    faithful (equal name ⇒ equal block task: dask's tokenisation, since by the theorem above no call site replaces
    it), then evaluating all of them in ONE graph gives every key of every call the value it has in that call's own
    graph -- which is the value sections 1-6 equate with the NumPy result. -/
theorem joint_results_are_the_single_results {C V : Type} (name : C → String)
    (task : C → Nat × Nat → GraphKeys.Task (String × Nat × Nat) V) (hf : GraphKeys.Faithful name task)
    (blocks : C → List (Nat × Nat)) (calls : List C) (c : C) (hc : c ∈ calls)
    (n : Nat) (k : String × Nat × Nat) (v : V)
    (h : GraphKeys.eval (GraphKeys.layer name task (blocks c) c) n k = some v) :
    GraphKeys.eval (GraphKeys.merge (calls.map fun c => GraphKeys.layer name task (blocks c) c)) n k = some v :=
  GraphKeys.joint_layers_eq_alone name task hf blocks calls c hc n k v h

/-- the same for whole graphs (input layers, block layer, trimming, reductions): pairwise agreement on shared keys is all
    that is needed -/
theorem joint_graphs_are_the_single_graphs {K V : Type} [BEq K] (gs : List (GraphKeys.Graph K V))
    (hag : ∀ g₁ ∈ gs, ∀ g₂ ∈ gs, GraphKeys.Agree g₁ g₂) (g : GraphKeys.Graph K V) (hg : g ∈ gs)
    (n : Nat) (k : K) (v : V) (h : GraphKeys.eval g n k = some v) :
    GraphKeys.eval (GraphKeys.merge gs) n k = some v :=
  GraphKeys.joint_eval_eq_alone gs hag g hg n k v h

/-- and a key chosen at the call site from only part of what the task depends on (a constant, a token of the first
    band, a token that leaves out `target_values`) cannot be faithful once two calls agree on that part and differ in
    their task -/
theorem partial_key_is_not_faithful {C A V : Type} (view : C → A) (tok : A → String)
    (task : C → Nat × Nat → GraphKeys.Task (String × Nat × Nat) V) (c₁ c₂ : C)
    (hv : view c₁ = view c₂) (hd : task c₁ ≠ task c₂) : ¬ GraphKeys.Faithful (fun c => tok (view c)) task :=
  GraphKeys.partial_token_not_faithful view tok task c₁ c₂ hv hd

/-! ## 7. non-vacuity -/
instance : Trig ℚ := ⟨id, id, fun a _ => a, id, id, id, id⟩

/-- a 3x3 raster split into 1-cell chunks satisfies the chunk-sum hypotheses of `slope_dask_eq_numpy` -/
example : ([1, 1, 1] : List Nat).sum = 3 := by decide
example : nmax (some (3 : ℚ)) (nmax none none) = some 3 := rfl
example : (apply_radius 5 3, apply_overlap.depth 5 3) = ((2, 1), (2, 1)) := by decide

/-- a concrete 3x3 cell function (the window sum) and a block function that computes it with the
    window clipped at the *block* edge, as `_mean_numpy` does -/
def sumK (w : Int → Int → Int) : Int :=
  w (-1) (-1) + w (-1) 0 + w (-1) 1 + w 0 (-1) + w 0 0 + w 0 1 + w 1 (-1) + w 1 0 + w 1 1
def sumBlock (g : Grid Int) : Grid Int :=
  { h := g.h, w := g.w, cell := fun i j => sumK (fun a b => g.get 0 (i + a) (j + b)) }
def col12 : Grid Int := { h := 2, w := 1, cell := fun i _ => if i = 0 then 1 else 2 }

example : WindowLocal 1 1 sumK := by
  intro w1 w2 h
  simp only [sumK]
  rw [h (-1) (-1), h (-1) 0, h (-1) 1, h 0 (-1), h 0 0, h 0 1, h 1 (-1), h 1 0, h 1 1] <;> decide
example : IsStencil 1 1 sumK sumBlock := by
  intro g i j h1 h2 h3 h4
  simp only [sumBlock, sumK, Grid.get]
  rw [if_pos (by omega), if_pos (by omega), if_pos (by omega), if_pos (by omega), if_pos (by omega),
      if_pos (by omega), if_pos (by omega), if_pos (by omega), if_pos (by omega)]
/-- the fact is needed: with the two passes *inside* one `map_overlap` of depth 1 (the shape
    `meanPassesOutside = false` stands for) the column [1, 2] split into two 1-cell chunks gives 21 at the
    top cell (the halo cells -- fill outside the raster included -- have been run through pass 1 as if they were
    data), the iterated whole-raster computation 6; with the passes outside (what the theorem is
    about) the chunked computation gives 6 -/
example : (passesFused 0 0 1 1 sumBlock [1, 1] [1] 2 col12).cell 0 0 = 21 ∧
    (passesSpec 0 sumK 2 col12).cell 0 0 = 6 ∧
    (passesChunked 0 0 1 1 sumBlock [1, 1] [1] 2 col12).cell 0 0 = 6 := by decide +kernel

/-- purity rejects something real: a task function that seeds and draws from the global RNG -/
def seedingTask : Effects.Summary := {
  name := "perlin._perlin_block"
  isPublic := false
  prog := .op (.seed .rng) (.op (.draw .rng) .nil)
  deps := ["x", "y", "seed"]
  tasks := []
  kernels := []
}
example : taskPure seedingTask = false := by decide
example : Gen.summary_focal__mean_numpy ∈ Gen.taskSummaries ∧ taskPure Gen.summary_aspect__run_numpy = true := by
  constructor <;> decide +kernel

/-- the graph-key facts reject something real: a site that writes its own key (a `token=` prefix is fine) -/
def namedSite : GraphKeyFact := {
  module := "multispectral", site := "multispectral._run_normalized_ratio_dask", kind := "map_blocks",
  nameArg := "'normalized_ratio'", nameFrom := [], tokenArg := "", keyNameArg := "", opaqueKwargs := false }
def prefixedSite : GraphKeyFact := {
  module := "focal", site := "focal._mean_dask_numpy", kind := "map_overlap",
  nameArg := "", nameFrom := [], tokenArg := "'mean'", keyNameArg := "", opaqueKwargs := false }
example : namedSite.keyFree = false ∧ prefixedSite.keyFree = true := by decide
/-- the hypothesis of `joint_graphs_are_the_single_graphs` is needed (two one-task graphs under one key: alone 1 and 2,
    together 1 and 1), and satisfiable: a naming that is injective on calls is faithful -/
example : GraphKeys.eval GraphKeys.gTwo 1 0 = some 2 ∧ GraphKeys.eval (GraphKeys.merge [GraphKeys.gOne, GraphKeys.gTwo]) 1 0 = some 1 :=
  ⟨GraphKeys.collision_replaces_a_result.2.1, GraphKeys.collision_replaces_a_result.2.2⟩
example (task : Bool → Nat × Nat → GraphKeys.Task (String × Nat × Nat) Nat) :
    GraphKeys.Faithful (fun c : Bool => if c then "ndvi-1f3a" else "ndvi-77c0") task := by
  intro c₁ c₂ h
  cases c₁ <;> cases c₂ <;> first | rfl | (exfalso; revert h; decide)

end XrsVerif.C01
