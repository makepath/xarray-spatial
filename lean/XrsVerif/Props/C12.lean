import XrsVerif.Proofs.Bin
import XrsVerif.Proofs.ILBinSem
import XrsVerif.Proofs.Jenks
import XrsVerif.Proofs.KSimp
import XrsVerif.Gen.ClassifyFacts
import XrsVerif.Gen.Kernels
import XrsVerif.Model.PyNum
/-
  C12 -- Classifiers label every finite cell, in order, within [0, k-1].

  Objects the statements are about
  * `Bin.searchS Gen.cpuBinShape` / `Bin.cellS Gen.cpuBinShape`: the model of `classify._cpu_bin`
    (Model/Bin.lean) *interpreting the search skeleton regenerated from /repo's source*
    (Gen/ClassifyFacts.lean: comparison operators, index offsets, initial values, step sizes);
  * `Gen.binary_cpu`: the translation of `classify._cpu_binary` (layer T1);
  * `Bin.equalInterval`, `Bin.quantile`, `Jenks.naturalBreaks`, `Jenks.V / L / back / kclass`: hand models
    of the bin construction of the data-driven classifiers, tied to the code by `harness/corr_C12.py`.
  Values are exact (`Rat`, or any linear order for the search itself); NaN/±inf are the `Ext` constructors.
  Float rounding is outside the theorems (DESIGN.md section 4) except where it *is* the property: the array
  the Jenks breaks are stored in (`breaks_stored_exactly`, `natural_breaks_needs_exact_storage`) and a cast of
  the bins in `_run_numpy_bin` (`narrowing_cast_breaks_first_bin`).
  External calls are parameters with their contract as hypotheses, observed by the correspondence run:
  `np.percentile` (the list `qs`), the random sub-sample of `natural_breaks` (the list `sample`).
-/
set_option linter.unusedSectionVars false
set_option linter.unusedVariables false
namespace XrsVerif.C12
open XrsVerif XrsVerif.Bin XrsVerif.Gen XrsVerif.Jenks

/-- the search skeleton found in `_cpu_bin` is the one every theorem below is proved for -/
theorem shape_is_canonical : Gen.cpuBinShape = Bin.canonical := by decide

/-- `_run_jenks` keeps the breaks in double precision (the `rnd = id` at which
    `natural_breaks_spec` is stated; with a float32 array the raster maximum can round below itself, see
    `natural_breaks_needs_exact_storage`) -/
theorem breaks_stored_exactly : Gen.jenksBreakDtype = "float64" := by decide

/-- `_run_natural_break` forces the last bin to the raster maximum in both branches (what
    `naturalBreaks` models) -/
theorem natural_breaks_last_forced : Gen.nbLastForcedJenks = true ∧ Gen.nbLastForcedFallback = true := by decide

/-- `_run_quantile` asks for exactly `k` percentile points, the last one being 100 (the hypothesis
    `qs.length = k` and `mx ∈ qs` of `quantile_spec` / `quantile_every_finite_classified`) -/
theorem quantile_grid_indexed : Gen.quantileGridIndexed = true := by decide

/-- `_run_equal_interval` forces the last cut to the maximum on every path and bins with the cuts -/
theorem equal_interval_last_forced : Gen.eqIntLastForced = true := by decide

section search
variable {α : Type} [LinearOrder α]

theorem searchS_gen (lt le : α → α → Bool) (d : α) (bins : List α) (v : α) :
    searchS Gen.cpuBinShape lt le d bins v = search lt le d bins v := by
  rw [shape_is_canonical, searchS_canonical]

/-- termination: the `while` loop stops by itself within `end - start + 1` iterations whatever the
    comparisons answer (unsorted bins, NaN), so the fuel `nbins` of the model is never what ends it -/
theorem bin_search_terminates (below : Int → Bool) (fuel extra : Nat) (start stp : Int)
    (h : (stp - start + 1).toNat ≤ fuel) :
    Bin.loop below (fuel + extra) start stp = Bin.loop below fuel start stp := by
  induction extra with
  | zero => rfl
  | succ e ih => rw [← Nat.add_assoc, loop_fuel below (fuel + e) start stp (by omega), ih]

/-- any bins (not necessarily sorted), any length >= 1: the result is `-1` only when the value is above
    both the first and the last bin, otherwise an index `r` with `bins[r-1] < v <= bins[r]` -/
theorem bin_search_spec (d v : α) (bins : List α) (hne : bins ≠ []) :
    (searchS Gen.cpuBinShape ltB leB d bins v = -1 ∧ bins.head hne < v ∧ bins.getLast hne < v) ∨
    ∃ r : Nat, searchS Gen.cpuBinShape ltB leB d bins v = r ∧ ∃ h : r < bins.length, v ≤ bins[r] ∧
      (r = 0 ∨ ∃ h' : r - 1 < bins.length, bins[r - 1] < v) := by
  simpa only [searchS_gen, leB, decide_eq_true_eq, decide_eq_false_iff_not, not_le] using
    search_cases ltB leB d v bins hne (fun b _ => ltB_eq_not_leB b v)

/-- **reclassify's search**: for every ascending bin list of any length >= 1 the hand-written binary search
    returns the *first* bin whose upper bound is `>=` the value (`-1` when there is none) -/
theorem bin_search_first (d v : α) (bins : List α) (hne : bins ≠ []) (hs : bins.Pairwise (· ≤ ·)) :
    searchS Gen.cpuBinShape ltB leB d bins v =
      match firstGE bins v with | some i => (i : Int) | none => -1 := by
  rw [searchS_gen]; exact search_eq_firstGE d v bins hne hs

/-- classes lie in `[0, n-1]` (or `-1`: no bin) and are monotone: a larger value never gets a smaller
    bin, and when it has a bin so has every smaller value -/
theorem classes_range_monotone (d v w : α) (bins : List α) (hne : bins ≠ []) (hs : bins.Pairwise (· ≤ ·))
    (hvw : v ≤ w) :
    -1 ≤ searchS Gen.cpuBinShape ltB leB d bins v ∧ searchS Gen.cpuBinShape ltB leB d bins v < bins.length ∧
    (searchS Gen.cpuBinShape ltB leB d bins w ≠ -1 →
      0 ≤ searchS Gen.cpuBinShape ltB leB d bins v ∧
      searchS Gen.cpuBinShape ltB leB d bins v ≤ searchS Gen.cpuBinShape ltB leB d bins w) := by
  rw [bin_search_first d v bins hne hs, bin_search_first d w bins hne hs]
  refine ⟨?_, ?_, ?_⟩
  · cases firstGE bins v <;> simp
  · cases h : firstGE bins v with
    | none => simp; omega
    | some i => have := firstGE_lt_length bins v i h; simp; omega
  · cases hw : firstGE bins w with
    | none => simp
    | some j =>
      obtain ⟨i, hi, hij⟩ := firstGE_mono bins v w hvw j hw
      simp [hi]; omega

/-- every value not above the last bin gets a bin -/
theorem every_finite_classified (d v : α) (bins : List α) (hne : bins ≠ []) (hs : bins.Pairwise (· ≤ ·))
    (hv : v ≤ bins.getLast hne) : 0 ≤ searchS Gen.cpuBinShape ltB leB d bins v := by
  rw [bin_search_first d v bins hne hs]
  obtain ⟨i, hi⟩ := firstGE_isSome bins v _ (List.getLast_mem hne) hv
  simp [hi]

example : searchS Gen.cpuBinShape ltB leB (0 : Int) [10, 15, 15, 40] 15 = 1 := by decide
example : searchS Gen.cpuBinShape ltB leB (0 : Int) [10, 15, 15, 40] 41 = -1 := by decide
example : [10, 15, 15, (40 : Int)].Pairwise (· ≤ ·) := by decide

end search

section reclass
variable {K : Type} [LinearOrder K]

theorem cellS_gen (bins newv : List (Ext K)) (v : Ext K) :
    cellS Gen.cpuBinShape bins newv v = cell bins newv v := by
  rw [shape_is_canonical]; unfold cellS cell; simp only [searchS_canonical]

/-- NaN and ±inf cells give NaN, whatever the bins -/
theorem reclassify_nonfinite (bins newv : List (Ext K)) (v : Ext K) (hv : v.isFinite = false) :
    cellS Gen.cpuBinShape bins newv v = .nan := by
  rw [cellS_gen]; exact cell_nonfinite bins newv v hv

/-- a finite cell gets the new value of the first bin whose upper bound is `>=` it, for any ascending bin
    list (no NaN; ±inf allowed) of any length >= 1, and NaN when there is no such bin -/
theorem reclassify_spec (bins newv : List (Ext K)) (hne : bins ≠ []) (hasc : ExtAscending bins) (x : K) :
    cellS Gen.cpuBinShape bins newv (.fin x) =
      match firstGEx bins x with | some i => getW .nan newv (i : Int) | none => .nan := by
  rw [cellS_gen]; exact cell_spec bins newv hne hasc x

/-- ... and there is no such bin exactly when the value is above the last bin -/
theorem reclassify_nan_only_above_last (bins : List (Ext K)) (hne : bins ≠ []) (hasc : ExtAscending bins) (x : K) :
    firstGEx bins x = none ↔ Ext.lt (bins.getLast hne) (.fin x) = true :=
  firstGEx_none_iff bins x hne hasc

/-- **no operand is rounded ⇒ first bin**: whatever casts `_run_numpy_bin` contains (`c`), if they leave the
    bins, the cell and the new values of *this call* unchanged (`np.asarray(x)`; a cast to a dtype that holds the
    operand exactly), a finite cell gets the new value of the first bin whose upper bound is `>=` the cell -/
theorem run_numpy_bin_first_bin (c : BinCasts) (rnd : String → Ext K → Ext K) (ddt : String)
    (bins newv : List (Ext K)) (x : K) (hne : bins ≠ []) (hasc : ExtAscending bins)
    (hb : ∀ b ∈ bins, c.bins.apply rnd ddt b = b) (hn : ∀ w ∈ newv, c.newValues.apply rnd ddt w = w)
    (hv : c.data.apply rnd ddt (.fin x) = .fin x) :
    runNumpyBin Gen.cpuBinShape c rnd ddt bins newv (.fin x) =
      match firstGEx bins x with | some i => getW .nan newv (i : Int) | none => .nan := by
  unfold runNumpyBin
  rw [hv, List.map_congr_left hb, List.map_congr_left hn, List.map_id', List.map_id']
  exact reclassify_spec bins newv hne hasc x

/-- what was read from the source: `_run_numpy_bin` re-binds `bins` and `new_values` with `np.asarray(x)` (no
    dtype: nothing is rounded), leaves `data` alone and returns `_cpu_bin(data, bins, new_values)`; `reclassify`,
    `_bin` and the dask wrapper pass the three operands on untouched.  (A `dtype=` argument, an `astype`, or any
    statement the extractor does not understand makes this `decide` fail.) -/
theorem bin_operands_not_cast :
    Gen.runBinCasts = { data := .none, bins := .none, newValues := .none, callOk := true } ∧
    Gen.binChainPassThrough = true := by decide

/-- with the casts found in the source the wrapper is the kernel -/
theorem runNumpyBin_as_found (rnd : String → Ext K → Ext K) (ddt : String) (bins newv : List (Ext K)) (v : Ext K) :
    runNumpyBin Gen.cpuBinShape Gen.runBinCasts rnd ddt bins newv v = cellS Gen.cpuBinShape bins newv v := by
  have h : Cast.apply rnd ddt Cast.none = id := rfl
  unfold runNumpyBin
  rw [bin_operands_not_cast.1, h, List.map_id, List.map_id, id]

/-- **reclassify through the wrapper as it is in the source**: for every conversion function, every raster
    dtype, every ascending NaN-free bin list: first bin `>=` the value, NaN above the last bin / for NaN, ±inf -/
theorem reclassify_first_bin (rnd : String → Ext K → Ext K) (ddt : String) (bins newv : List (Ext K)) :
    (∀ v, v.isFinite = false → runNumpyBin Gen.cpuBinShape Gen.runBinCasts rnd ddt bins newv v = .nan) ∧
    (bins ≠ [] → ExtAscending bins → ∀ x : K,
      runNumpyBin Gen.cpuBinShape Gen.runBinCasts rnd ddt bins newv (.fin x) =
        match firstGEx bins x with | some i => getW .nan newv (i : Int) | none => .nan) := by
  simp only [runNumpyBin_as_found]
  exact ⟨reclassify_nonfinite bins newv, fun hne hasc => reclassify_spec bins newv hne hasc⟩

example : ExtAscending [Ext.fin (10 : Int), .fin 15, .pinf] := by
  refine ⟨by decide, by decide⟩
example : cellS Gen.cpuBinShape [Ext.fin (10 : Int), .fin 15, .pinf] [.fin 1, .fin 2, .fin 3] (.fin 16) = .fin 3 := by
  decide
example : cellS Gen.cpuBinShape [Ext.fin (10 : Int), .fin 15] [.fin 1, .fin 2] (.fin 16) = .nan := by decide

end reclass

/-- **why a narrowing cast breaks the property** (the hypotheses `hb` of `run_numpy_bin_first_bin` are needed):
    a wrapper that converts the bins to the raster's dtype, on a float32 raster.  The bound 0.1 is not a float32;
    its conversion is 13421773 / 2^27 > 0.1.  The cell holding exactly that float32 is above the bound 0.1, so its
    first bin is the second one -- the converted bins put it into the first. -/
theorem narrowing_cast_breaks_first_bin :
    runNumpyBin Gen.cpuBinShape { data := .none, bins := .dataDtype, newValues := .none, callOk := true }
        (fun t v => match v with | .fin q => if t = "float32" then .fin (roundF32 q) else v | _ => v) "float32"
        [.fin (1 / 10), .fin (1 / 5)] [.fin 10, .fin 20] (.fin (13421773 / 134217728 : Rat)) = .fin 10 ∧
    firstGEx [Ext.fin (1 / 10 : Rat), .fin (1 / 5)] (13421773 / 134217728) = some 1 ∧
    roundF32 (1 / 10) = 13421773 / 134217728 := by decide +kernel

/-! ### binary (generated kernel): 1 exactly on the listed values, NaN for NaN, else 0
    (`NV` has no ±inf; `np.isfinite` is modelled by `Fl.isfinite`, the correspondence run covers ±inf) -/

section binary
variable {K : Type} [Field K] [LinearOrder K] [IsStrictOrderedRing K] [Trig K]

theorem any_eq_iff (vs : List (NV K)) (x : K) :
    (vs.any fun y => Fl.eq y (some x : NV K)) = decide ((some x : NV K) ∈ vs) := by
  induction vs with
  | nil => simp
  | cons v vs ih =>
    simp only [List.any_cons, ih, List.mem_cons]
    cases v with
    | none => simp
    | some y =>
      simp only [fl_eq]
      by_cases h : y = x
      · simp [h]
      · have : ¬ (some x : NV K) = some y := by intro h'; exact h (Option.some.inj h').symm
        simp [h, this]

theorem binary_spec (vs : List (NV K)) (x : K) :
    binary_cpu.cell (envOf []) (rd0 [("data", some x)]) (fun _ => vs) =
      if (some x : NV K) ∈ vs then some 1 else some 0 := by
  simp [kl, binary_cpu, any_eq_iff]
  split <;> rfl

theorem binary_nan (vs : List (NV K)) :
    binary_cpu.cell (envOf []) (rd0 [("data", (none : NV K))]) (fun _ => vs) = none := by
  simp [kl, binary_cpu]

/-- the kernel reads nothing but the cell itself -/
theorem binary_local : readsWithin binary_cpu.body.reads 0 0 = true := by decide

end binary

/-! ### the data-driven classifiers: `classOf bins` with ascending bins whose last one is the maximum.
    `classOf bs v` (Proofs/Bin.lean) is the specification: NaN for a non-finite cell, otherwise the index of
    the first bin `>= v`.  For any ascending `bs` it has the properties the statement lists: -/

/-- NaN/inf cells give NaN -/
theorem class_nonfinite (bs : List Rat) (v : Ext Rat) (hv : v.isFinite = false) : classOf bs v = .nan := by
  cases v <;> simp_all [classOf, Ext.isFinite]

/-- a finite cell not above the last bin gets an integer class in `[0, len-1]` -/
theorem class_in_range (bs : List Rat) (hne : bs ≠ []) (x : Rat) (hx : x ≤ bs.getLast hne) :
    ∃ i : Nat, i < bs.length ∧ classOf bs (.fin x) = .fin (i : Rat) :=
  classOf_classified bs x _ (List.getLast_mem hne) hx

/-- order-preserving: a larger value never gets a smaller class -/
theorem class_monotone (bs : List Rat) (x y : Rat) (hxy : x ≤ y) (j : Nat)
    (hy : classOf bs (.fin y) = .fin (j : Rat)) :
    ∃ i : Nat, i ≤ j ∧ classOf bs (.fin x) = .fin (i : Rat) := by
  obtain ⟨i, hi, hij⟩ := firstGE_mono bs x y hxy j ((classOf_fin bs y j).mp hy)
  exact ⟨i, hij, (classOf_fin bs x i).mpr hi⟩

/-- class `i` is the band `bs[i-1] < x <= bs[i]` -/
theorem class_band (bs : List Rat) (hs : bs.Pairwise (· ≤ ·)) (x : Rat) (i : Nat) :
    classOf bs (.fin x) = .fin (i : Rat) ↔
      ∃ h : i < bs.length, x ≤ bs[i] ∧ (i = 0 ∨ ∃ h' : i - 1 < bs.length, bs[i - 1] < x) :=
  classOf_band bs hs x i

/-- what the four data-driven classifiers end in: `_bin` with ascending finite bins, at most `l` of them, and the class
    ids `0 .. l-1` is `classOf` -/
theorem cellS_classIds (bs : List Rat) (hne : bs ≠ []) (hs : bs.Pairwise (· ≤ ·)) (l : Nat) (hl : bs.length ≤ l) :
    cellS Gen.cpuBinShape (bs.map .fin) (classIds l) = classOf bs :=
  funext fun v => by rw [cellS_gen, cell_classIds bs hne hs l hl]

/-- on a raster with finite minimum `mn` < maximum `mx`, `k >= 1`: the bins are `mn + (i+1) * width`,
    `i = 0..k-1` (so the last one is `mx`), and every cell is classified by `classOf` -/
theorem equal_interval_spec (cells : List (Ext Rat)) (k : Nat) (hk : 1 ≤ k) (mn mx : Rat)
    (hmn : minQ (finiteVals cells) = some mn) (hmx : maxQ (finiteVals cells) = some mx) (hlt : mn < mx) :
    equalInterval Gen.cpuBinShape cells k =
      .ok (cells.map (classOf ((List.range k).map (fun i : Nat => mn + ((i : Rat) + 1) * ((mx - mn) / (k : Rat))))))
        ((List.range k).map (fun i : Nat => mn + ((i : Rat) + 1) * ((mx - mn) / (k : Rat)))) := by
  unfold equalInterval
  have hk0 : k ≠ 0 := by omega
  have hne : mn ≠ mx := ne_of_lt hlt
  simp only [hmn, hmx, hk0, hne, if_false, equalIntervalCuts_eq mn mx k hk hlt]
  have hw : 0 < (mx - mn) / (k : Rat) := div_pos (by linarith) (by exact_mod_cast hk)
  rw [cellS_classIds _ _ (equalInterval_sorted mn _ k hw) k (by simp)]
  intro h
  have := congrArg List.length h
  simp at this; omega

/-- class `i` of equal_interval is the `i`-th of the `k` equal-width intervals of `[mn, mx]`:
    `mn + i*w < x <= mn + (i+1)*w` (closed at `mn` for `i = 0`), for every `x` in `[mn, mx]` -/
theorem equal_interval_class (mn mx x : Rat) (k i : Nat) (hk : 1 ≤ k) (hlt : mn < mx) (hx1 : mn ≤ x) (hx2 : x ≤ mx) :
    classOf ((List.range k).map (fun i : Nat => mn + ((i : Rat) + 1) * ((mx - mn) / (k : Rat)))) (.fin x) = .fin (i : Rat) ↔
      i < k ∧ x ≤ mn + ((i : Rat) + 1) * ((mx - mn) / k) ∧ (i = 0 ∨ mn + (i : Rat) * ((mx - mn) / k) < x) := by
  have hw : 0 < (mx - mn) / (k : Rat) := div_pos (by linarith) (by exact_mod_cast hk)
  rw [classOf_band _ (equalInterval_sorted mn _ k hw)]
  simp only [List.length_map, List.length_range, List.getElem_map, List.getElem_range]
  have hc : i ≠ 0 → ((i - 1 : Nat) : Rat) + 1 = (i : Rat) := fun h0 => by
    have : i - 1 + 1 = i := by omega
    exact_mod_cast this
  constructor
  · rintro ⟨h, h1, h2⟩
    refine ⟨h, h1, ?_⟩
    rcases h2 with h2 | ⟨_, h2⟩
    · exact Or.inl h2
    · by_cases h0 : i = 0
      · exact Or.inl h0
      · right
        rwa [hc h0] at h2
  · rintro ⟨h, h1, h2⟩
    refine ⟨h, h1, ?_⟩
    rcases h2 with h2 | h2
    · exact Or.inl h2
    · by_cases h0 : i = 0
      · exact Or.inl h0
      · right
        exact ⟨by omega, by rwa [hc h0]⟩

/-- every finite cell of the raster gets a class in `[0, k-1]` (the last cut is the maximum) -/
theorem equal_interval_every_finite_classified (cells : List (Ext Rat)) (k : Nat) (hk : 1 ≤ k) (mn mx x : Rat)
    (hmx : maxQ (finiteVals cells) = some mx) (hlt : mn < mx) (hx : Ext.fin x ∈ cells) :
    ∃ i : Nat, i < k ∧
      classOf ((List.range k).map (fun i : Nat => mn + ((i : Rat) + 1) * ((mx - mn) / (k : Rat)))) (.fin x) = .fin (i : Rat) := by
  obtain ⟨k', rfl⟩ : ∃ k', k = k' + 1 := ⟨k - 1, by omega⟩
  exact classOf_classified_of_max cells _ _ mx x hmx
    (List.mem_map.mpr ⟨k', by simp, equalInterval_last mn mx k'⟩) (by simp) hx

example : equalInterval Gen.cpuBinShape [.fin 0, .fin 1, .fin 2, .fin 3, .fin 4, .fin 5, .fin 6, .fin 7, .fin 8, .nan, .pinf] 4 =
    .ok [.fin 0, .fin 0, .fin 0, .fin 1, .fin 1, .fin 2, .fin 2, .fin 3, .fin 3, .nan, .nan] [2, 4, 6, 8] := by decide +kernel

/-! #### quantile: `qs` are the `k` percentile values numpy returned for 100/k, 200/k, …, 100 -/

/-- with exactly `k` percentile points (`quantile_grid_indexed`) the bins are the de-duplicated
    percentiles and every cell is classified by `classOf` (classes `< len(bins) <= k`) -/
theorem quantile_spec (cells : List (Ext Rat)) (qs : List Rat) (k : Nat) (hk : qs.length = k) (hne : qs ≠ []) :
    Bin.quantile Gen.cpuBinShape cells qs k = .ok (cells.map (classOf (uniq qs))) (uniq qs) ∧
    (uniq qs).Pairwise (· < ·) ∧ (uniq qs).length ≤ k := by
  have hlen := uniq_length qs
  have hsorted := uniq_sorted qs
  refine ⟨?_, hsorted, by omega⟩
  have hune : uniq qs ≠ [] := by
    obtain ⟨a, ha⟩ := List.exists_mem_of_ne_nil qs hne
    exact List.ne_nil_of_mem ((mem_uniq a qs).mpr ha)
  unfold Bin.quantile
  simp only
  rw [cellS_classIds _ hune (hsorted.imp le_of_lt)]
  split <;> omega

/-- **quantile classes are the k percentile bands**: when the `k` percentile values numpy returned for
    `100/k, 200/k, …, 100` are pairwise different (no band is empty of range), they *are* the bins, there are
    exactly `k` classes, and class `i` is the band between consecutive percentiles:
    `P(100·i/k) < x ≤ P(100·(i+1)/k)` (class 0: everything up to the first percentile).  With equal percentile
    values (`quantile_spec`) the equal ones collapse into one band and the classes are renumbered `0 … len−1`. -/
theorem quantile_percentile_bands (cells : List (Ext Rat)) (qs : List Rat) (k : Nat) (hk : qs.length = k) (hne : qs ≠ [])
    (hasc : qs.Pairwise (· < ·)) :
    Bin.quantile Gen.cpuBinShape cells qs k = .ok (cells.map (classOf qs)) qs ∧
    ∀ (x : Rat) (i : Nat), classOf qs (.fin x) = .fin (i : Rat) ↔
      ∃ h : i < qs.length, x ≤ qs[i] ∧ (i = 0 ∨ ∃ h' : i - 1 < qs.length, qs[i - 1] < x) := by
  have hu := uniq_of_sorted qs hasc
  have := (quantile_spec cells qs k hk hne).1
  rw [hu] at this
  exact ⟨this, fun x i => classOf_band qs (hasc.imp le_of_lt) x i⟩

/-- the percentile at 100 is the maximum, so the last bin is the maximum ... -/
theorem quantile_last_is_max (qs : List Rat) (mx : Rat) (hmem : mx ∈ qs) (hle : ∀ q ∈ qs, q ≤ mx)
    (hne : uniq qs ≠ []) : (uniq qs).getLast hne = mx := by
  have h1 : (uniq qs).getLast hne ≤ mx := hle _ ((mem_uniq _ qs).mp (List.getLast_mem hne))
  rcases eq_or_rel_getLast (uniq_sorted qs) hne ((mem_uniq mx qs).mpr hmem) with h | h
  · exact h.symm
  · exact absurd h (not_lt.mpr h1)

/-- ... and every finite cell gets a class in `[0, k-1]` -/
theorem quantile_every_finite_classified (cells : List (Ext Rat)) (qs : List Rat) (k : Nat) (mx x : Rat)
    (hk : qs.length = k) (hmx : maxQ (finiteVals cells) = some mx) (hmem : mx ∈ qs) (hx : Ext.fin x ∈ cells) :
    ∃ i : Nat, i < k ∧ classOf (uniq qs) (.fin x) = .fin (i : Rat) :=
  classOf_classified_of_max cells (uniq qs) k mx x hmx ((mem_uniq mx qs).mpr hmem) (hk ▸ uniq_length qs) hx

example : ([1, 2, 4] : List Rat).Pairwise (· < ·) := by decide +kernel
example : Bin.quantile Gen.cpuBinShape [.fin 0, .fin 1, .fin 2, .fin 3, .fin 4, .ninf] [1, 2, 2, 4] 4 =
    .ok [.fin 0, .fin 0, .fin 1, .fin 2, .fin 2, .nan] [1, 2, 4] := by decide +kernel

/-- **the recurrence**: every cell of the Jenks tables (`l >= 2` elements, `j + 2 >= 2` classes) is the
    minimum over the position of the last break, and `lower_class_limits` records an argmin -/
theorem jenks_recurrence (x : Nat → Rat) (n j l : Nat) (h2 : 2 ≤ l) (hl : l ≤ n) :
    (∀ i, 1 ≤ i → i < l → V x n (j + 2) l ≤ ssd x i l + V x n (j + 1) i) ∧
    2 ≤ L x n (j + 2) l ∧ L x n (j + 2) l ≤ l ∧
    V x n (j + 2) l = ssd x (L x n (j + 2) l - 1) l + V x n (j + 1) (L x n (j + 2) l - 1) :=
  recurrence x n j l h2 hl

/-- **optimality**: the partition obtained by walking `lower_class_limits` back from `(n, k)` is a
    partition of the `n` sorted sample values into at most `k` non-empty contiguous classes, its within-class
    sum of squared deviations is `var_combinations[n][k]`, and no partition into at most `k` (in particular:
    exactly `k`) non-empty contiguous classes has a smaller one -/
theorem jenks_optimal (x : Nat → Rat) (n k : Nat) (hn : 1 ≤ n) (hk : 1 ≤ k) :
    IsPartition n (back x n (k - 1) n) ∧ 1 ≤ (back x n (k - 1) n).length ∧ (back x n (k - 1) n).length ≤ k ∧
    cost x n (back x n (k - 1) n) = V x n k n ∧
    ∀ sizes, IsPartition n sizes → 1 ≤ sizes.length → sizes.length ≤ k →
      cost x n (back x n (k - 1) n) ≤ cost x n sizes := by
  obtain ⟨h1, h2, h3, h4⟩ := attained x n (k - 1) n hn (le_refl _)
  rw [show k - 1 + 1 = k by omega] at h3 h4
  refine ⟨h1, h2, h3, h4, ?_⟩
  intro sizes hp hl1 hl2
  rw [h4]
  have := lower x n (k - 1) n hn (le_refl _) sizes hp hl1 (by omega)
  rwa [show k - 1 + 1 = k by omega] at this

/-- the breaks `_run_jenks` extracts are the first value followed by the largest value of every class of
    that optimal partition (when it uses all `k` classes; otherwise the real code indexes out of range, which
    `natural_breaks` excludes by falling back when there are fewer than `k` distinct values) -/
theorem jenks_breaks_are_class_maxima (xs : List Rat) (k : Nat) (hn : 1 ≤ xs.length) (hk : 1 ≤ k)
    (hfull : (back (fun i => xs.getD i 0) xs.length (k - 1) xs.length).length = k) :
    kclass xs k = some ((fun i => xs.getD i 0) 0 ::
      uppers (fun i => xs.getD i 0) xs.length (back (fun i => xs.getD i 0) xs.length (k - 1) xs.length)) :=
  kclass_eq xs k hn hk hfull

/-- **every class is used**: on ascending data with at least `k − 1` strict ascents (i.e. at least `k` different
    values) the back-tracked optimal partition has exactly `k` classes -- a partition with fewer could be refined
    at an ascent inside one of its classes, strictly lowering the sum of squared deviations (`ssd_split_ascent`),
    which contradicts optimality.  This discharges the hypothesis `hfull` of `jenks_breaks_are_class_maxima`. -/
theorem jenks_uses_all_classes (x : Nat → Rat) (n k : Nat) (hs : Sorted x n) (hn : 1 ≤ n) (hk : 1 ≤ k)
    (ha : k ≤ asc x n + 1) : (back x n (k - 1) n).length = k :=
  back_full x n k hs hn hk ha

/-- ... in terms of the sample: at least `k` different values (the branch condition `uvk >= k` of
    `_run_natural_break`) -/
theorem jenks_uses_all_classes_of_sample (sample : List Rat) (k : Nat) (hk : 1 ≤ k) (hku : k ≤ (uniq sample).length) :
    (back (fun i => (sortQ sample).getD i 0) (sortQ sample).length (k - 1) (sortQ sample).length).length = k :=
  sample_full sample k hk hku

/-- **natural_breaks, Jenks branch** (at least `k` distinct sample values; breaks stored exactly,
    `breaks_stored_exactly`): the bins (in the proof: the class maxima of the optimal partition of the sorted
    sample with the last one replaced by the raster maximum `mx`) ascend, there are `k` of them, `mx` is one of
    them, and every cell is classified by `classOf` -/
theorem natural_breaks_spec (cells : List (Ext Rat)) (sample : List Rat) (k : Nat) (mx : Rat)
    (hmx : maxQ (finiteVals cells) = some mx) (hsub : ∀ s ∈ sample, s ≤ mx) (hne : sample ≠ [])
    (hk : 1 ≤ k) (hku : ¬ (uniq sample).length < k) :
    ∃ bins, naturalBreaks Gen.cpuBinShape id cells sample k = .ok (cells.map (classOf bins)) bins ∧
      bins.Pairwise (· ≤ ·) ∧ bins.length = k ∧ mx ∈ bins := by
  have hfull := sample_full sample k hk (by omega)
  obtain ⟨hss, hsm⟩ := sortQ_sorted sample
  have hlen : 1 ≤ (sortQ sample).length := by
    obtain ⟨a, ha⟩ := List.exists_mem_of_ne_nil sample hne
    exact List.length_pos_iff.mpr (List.ne_nil_of_mem ((hsm a).mpr ha))
  generalize hxs : sortQ sample = xs at *
  have hkc := kclass_eq xs k hlen hk hfull
  obtain ⟨hp, _, _, _⟩ := attained (fun i => xs.getD i 0) xs.length (k - 1) xs.length hlen (le_refl _)
  obtain ⟨hus, hub⟩ := uppers_sorted (fun i => xs.getD i 0) _ xs.length hp
    (fun i j hij hj => getD_sorted xs hss i j hij hj)
  have hul := uppers_length (fun i => xs.getD i 0) (back (fun i => xs.getD i 0) xs.length (k - 1) xs.length) xs.length
  generalize uppers (fun i => xs.getD i 0) xs.length (back (fun i => xs.getD i 0) xs.length (k - 1) xs.length) = U at *
  have hUk : U.length = k := hul.trans hfull
  have hUne : U ≠ [] := by intro h; rw [h] at hUk; simp at hUk; omega
  have hlast : xs.getD (xs.length - 1) 0 ≤ mx := by
    apply hsub; rw [← hsm]
    have hi : xs.length - 1 < xs.length := by omega
    simp only [List.getD_eq_getElem?_getD, List.getElem?_eq_getElem hi, Option.getD_some]
    exact List.getElem_mem _
  obtain ⟨b1, b2, b3, b4, _⟩ := setLast_sorted U mx hUne hus (fun a ha => le_trans (hub a ha) hlast)
  refine ⟨setLast U mx, ?_, b1, by omega, b4⟩
  unfold naturalBreaks
  simp only [hmx, hku, if_false, hxs, hkc, List.drop_one, List.tail_cons, id_eq, List.map_id]
  rw [cellS_classIds _ b3 b1 _ (by omega)]

/-- **natural_breaks, fallback branch** (fewer than `k` distinct sample values; the raster maximum is
    added to them, `natural_breaks_last_forced`): the bins (in the proof: the distinct values of the sample and
    `mx`) ascend, `mx` is one of them, there are at most `k` of them; the sample may even be empty -/
theorem natural_breaks_fallback_spec (cells : List (Ext Rat)) (sample : List Rat) (k : Nat) (mx : Rat)
    (hmx : maxQ (finiteVals cells) = some mx) (hku : (uniq sample).length < k) :
    ∃ bins, naturalBreaks Gen.cpuBinShape id cells sample k = .ok (cells.map (classOf bins)) bins ∧
      bins.Pairwise (· ≤ ·) ∧ bins.length ≤ k ∧ mx ∈ bins := by
  have b1 := insertU_sorted mx (uniq sample) (uniq_sorted sample)
  have b2 := insertU_length mx (uniq sample)
  have b4 : mx ∈ insertU mx (uniq sample) := (insertU_mem mx mx _).mpr (Or.inl rfl)
  refine ⟨insertU mx (uniq sample), ?_, b1.imp le_of_lt, by omega, b4⟩
  unfold naturalBreaks
  simp only [hmx, hku, if_true]
  rw [cellS_classIds _ (List.ne_nil_of_mem b4) (b1.imp le_of_lt) _ (le_refl _)]

/-- in both branches every finite cell of the raster gets a class in `[0, k-1]` -/
theorem natural_breaks_every_finite_classified (cells : List (Ext Rat)) (bins : List Rat) (k : Nat) (mx x : Rat)
    (hmx : maxQ (finiteVals cells) = some mx) (hmem : mx ∈ bins) (hlen : bins.length ≤ k) (hx : Ext.fin x ∈ cells) :
    ∃ i : Nat, i < k ∧ classOf bins (.fin x) = .fin (i : Rat) :=
  classOf_classified_of_max cells bins k mx x hmx hmem hlen hx

/-- why the storage must be exact (D8): if the stored last break is below the maximum, the maximum cell is
    above the last bin and gets NaN -/
theorem natural_breaks_needs_exact_storage (bins : List Rat) (hne : bins ≠ []) (hs : bins.Pairwise (· ≤ ·))
    (mx : Rat) (hr : bins.getLast hne < mx) : classOf bins (.fin mx) = .nan :=
  (classOf_nan_iff bins hne hs mx).mpr hr

-- a rounding that moves 5 to 4 leaves the maximum cell unclassified; exact storage classifies it
example : naturalBreaks Gen.cpuBinShape (fun q => if q = 5 then 4 else q) [.fin 1, .fin 2, .fin 4, .fin 5] [1, 2, 4, 5] 2 =
    .ok [.fin 0, .fin 0, .fin 1, .nan] [2, 4] := by decide +kernel
example : naturalBreaks Gen.cpuBinShape id [.fin 1, .fin 2, .fin 4, .fin 5, .pinf] [1, 2, 4, 5] 2 =
    .ok [.fin 0, .fin 0, .fin 1, .fin 1, .nan] [2, 5] := by decide +kernel
example : (back (fun i => [1, 2, 4, (5 : Rat)].getD i 0) 4 1 4).length = 2 := by decide +kernel
-- three strict ascents among 1, 2, 4, 5 (four different values): `jenks_uses_all_classes` applies for every k <= 4
example : asc (fun i => [1, 2, 4, (5 : Rat)].getD i 0) 4 = 3 := by decide +kernel
example : Sorted (fun i => [1, 2, 4, (5 : Rat)].getD i 0) 4 :=
  fun i j hij hj => getD_sorted [1, 2, 4, 5] (by decide +kernel) i j hij hj
-- the sample [0] of the raster [5, 0]: the fallback branch classifies the maximum
example : naturalBreaks Gen.cpuBinShape id [.fin 5, .fin 0] [0] 3 = .ok [.fin 1, .fin 0] [0, 5] := by decide +kernel
example : naturalBreaks Gen.cpuBinShape id [.fin 5, .nan] [] 3 = .ok [.fin 0, .nan] [5] := by decide +kernel

/-! ### the program generated from `_cpu_bin` (layer T3: `Gen.IL.cpuBin`, translated statement by statement from
    /repo's source) refines the model, so the clauses above hold for the *generated program*.

    `F` is any number type (`[Fl F]`): the program only uses `Fl.lt`, `Fl.le`, `Fl.isfinite`, `Fl.nan`.
    `WellFormed s rows cols nb nv`: the state holds a `rows x cols` raster (any shape, empty too), `nb` bins, `nv`
    new values.  `nb + 1 <= fuel`: the `while` of the binary search needs at most `nb` iterations plus the failing
    test (fuel is the interpreter's bound on `while` iterations, not part of the code). -/

section generated
open XrsVerif.IL XrsVerif.ILBin
variable {F : Type} [Fl F]

/-- the generated program is the composition of the blocks the refinement lemmas are about (re-checked against the
    regenerated `Gen/IL.lean` on every run: any edit of `_cpu_bin` that changes its translation breaks this `rfl`) -/
theorem generated_cpu_bin_blocks : Gen.IL.cpuBin.body = ILBin.prologue (.seq ILBin.yLoop .ret) ∧
    Gen.IL.cpuBin.ok = true := ⟨rfl, rfl⟩

/-- **the generated binary-search `while` returns the model's result**: entered like the program enters it
    (`0 <= start`, `end < nbins`, `start <= end + 1`, `mid = (end + start) // 2`) with more fuel than `end - start + 1`
    it ends normally -- not by fuel, not by an index error: `bins[mid]` is in range and `bins[mid - 1]` at `mid = 0`
    wraps to the last bin exactly like the model's `getW` --, `mid` holds `Bin.loop` (for any model fuel
    `n >= end - start + 1`), and only `start`, `end`, `mid` have changed -/
theorem generated_bin_search_loop (nb n fuel : Nat) (s : State F) (hrun : s.ctl = .run)
    (hs : s.shp "bins" = [nb]) (hl : (s.fa "bins").length = nb)
    (h0 : 0 ≤ s.ienv "start") (h1 : s.ienv "end" < nb) (h2 : s.ienv "start" ≤ s.ienv "end" + 1)
    (hm : s.ienv "mid" = (s.ienv "end" + s.ienv "start") / 2)
    (hn : (s.ienv "end" - s.ienv "start" + 1).toNat ≤ n) (hf : n + 1 ≤ fuel) :
    (exec fuel ILBin.whileS s).ctl = .run ∧
    (exec fuel ILBin.whileS s).ienv "mid" =
      Bin.loop (fun i => Fl.lt (getW Fl.nan (s.fa "bins") i) (s.fenv "val")) n (s.ienv "start") (s.ienv "end") ∧
    SameButI ["start", "end", "mid"] s (exec fuel ILBin.whileS s) :=
  while_refines nb n fuel s hrun hs hl h0 h1 h2 hm hn hf

/-- **refinement**: for every raster, every `bins` of length >= 1 (NaN, unsorted, ±inf: whatever the comparisons
    answer) and `new_values` at least as long, the generated program returns, `out` has the raster's shape and
    holds the model cell `Bin.cellG` (first-bin test, last-bin test, `Bin.loop`, wrapped reads) of every cell; the
    inputs are unchanged -/
theorem generated_cpu_bin_refines (s : State F) (fuel rows cols nb nv : Nat) (hw : WellFormed s rows cols nb nv)
    (hnb : 1 ≤ nb) (hnv : nb ≤ nv) (hf : nb + 1 ≤ fuel) :
    let r := Gen.IL.cpuBin.run s fuel
    r.ctl = .ret ∧ r.shp "out" = [rows, cols] ∧
    r.fa "out" = (s.fa "data").map (cellG Fl.lt Fl.le Fl.isfinite Fl.nan (s.fa "bins") (s.fa "new_values")) ∧
    r.fa "data" = s.fa "data" ∧ r.fa "bins" = s.fa "bins" ∧ r.fa "new_values" = s.fa "new_values" :=
  cpuBin_refines s fuel rows cols nb nv hw.run hw.dshp hw.dlen hw.bshp hw.blen hw.nshp hw.nlen hnv hf (Or.inl hnb)

/-- **first bin, for the generated program, over any number type**: if the bins are comparable with every finite
    cell (`bins[i] < v` iff not `v <= bins[i]`: no NaN bin) and ascending as seen by `v <= ·`, the generated program
    writes, for every finite cell, the new value of the *first* bin whose upper bound is `>=` the cell (NaN if there
    is none), and NaN for every non-finite cell -/
theorem generated_cpu_bin_first_bin (s : State F) (fuel rows cols nb nv : Nat) (hw : WellFormed s rows cols nb nv)
    (hnb : 1 ≤ nb) (hnv : nb ≤ nv) (hf : nb + 1 ≤ fuel)
    (htot : ∀ v ∈ s.fa "data", Fl.isfinite v = true → ∀ b ∈ s.fa "bins", Fl.lt b v = !Fl.le v b)
    (hmono : ∀ v ∈ s.fa "data", Fl.isfinite v = true →
      (s.fa "bins").Pairwise (fun a b => Fl.le v a = true → Fl.le v b = true)) :
    let r := Gen.IL.cpuBin.run s fuel
    r.ctl = .ret ∧ r.shp "out" = [rows, cols] ∧
    r.fa "out" = (s.fa "data").map fun v =>
      if Fl.isfinite v then
        match (s.fa "bins").findIdx? (fun b => Fl.le v b) with
        | some i => getW Fl.nan (s.fa "new_values") (i : Int)
        | none => Fl.nan
      else Fl.nan := by
  obtain ⟨h1, h2, h3, _⟩ := generated_cpu_bin_refines s fuel rows cols nb nv hw hnb hnv hf
  refine ⟨h1, h2, ?_⟩
  rw [h3]
  apply List.map_congr_left
  intro v hv
  cases hfin : Fl.isfinite v with
  | false => simp [cellG, hfin]
  | true =>
    have hne : s.fa "bins" ≠ [] := by
      intro h; have := hw.blen; rw [h] at this; simp at this; omega
    rw [if_pos rfl]
    exact cellG_first_bin Fl.lt Fl.le Fl.isfinite Fl.nan v _ _ hne hfin (htot v hv hfin) (hmono v hv hfin)

/-- **the generated program is the model the reclassify theorems are about**: under any reading `e` of the number
    type as extended values (`ExtSem`: the comparisons and the finiteness test are the IEEE ones), cell by cell
    `out = cellS Gen.cpuBinShape` -/
theorem generated_cpu_bin_is_model {K : Type} [LinearOrder K] (e : F → Ext K) (he : ExtSem e)
    (s : State F) (fuel rows cols nb nv : Nat) (hw : WellFormed s rows cols nb nv)
    (hnb : 1 ≤ nb) (hnv : nb ≤ nv) (hf : nb + 1 ≤ fuel) :
    let r := Gen.IL.cpuBin.run s fuel
    r.ctl = .ret ∧ r.shp "out" = [rows, cols] ∧
    (r.fa "out").map e =
      (s.fa "data").map fun v => cellS Gen.cpuBinShape ((s.fa "bins").map e) ((s.fa "new_values").map e) (e v) := by
  obtain ⟨h1, h2, h3, _⟩ := generated_cpu_bin_refines s fuel rows cols nb nv hw hnb hnv hf
  refine ⟨h1, h2, ?_⟩
  rw [h3, List.map_map]
  apply List.map_congr_left
  intro v _
  simp only [Function.comp_apply]
  rw [cellG_sem e he, cellS_gen]

/-- **reclassify's clause for the generated program**: ascending NaN-free bins (±inf allowed) of any length >= 1:
    every finite cell gets the new value of the first bin whose upper bound is `>=` it, NaN if it is above the last
    bin; NaN / ±inf cells give NaN -/
theorem generated_reclassify_first_bin {K : Type} [LinearOrder K] (e : F → Ext K) (he : ExtSem e)
    (s : State F) (fuel rows cols nb nv : Nat) (hw : WellFormed s rows cols nb nv)
    (hnb : 1 ≤ nb) (hnv : nb ≤ nv) (hf : nb + 1 ≤ fuel) (hasc : ExtAscending ((s.fa "bins").map e)) :
    let r := Gen.IL.cpuBin.run s fuel
    r.ctl = .ret ∧ r.shp "out" = [rows, cols] ∧
    (r.fa "out").map e = (s.fa "data").map fun v =>
      match e v with
      | .fin x =>
        (match firstGEx ((s.fa "bins").map e) x with
         | some i => getW .nan ((s.fa "new_values").map e) (i : Int)
         | none => .nan)
      | _ => .nan := by
  obtain ⟨h1, h2, h3⟩ := generated_cpu_bin_is_model e he s fuel rows cols nb nv hw hnb hnv hf
  refine ⟨h1, h2, ?_⟩
  rw [h3]
  apply List.map_congr_left
  intro v _
  have hne : (s.fa "bins").map e ≠ [] := by
    intro h
    have := congrArg List.length h
    rw [List.length_map, hw.blen] at this; simp at this; omega
  cases hev : e v with
  | fin x => exact reclassify_spec _ _ hne hasc x
  | nan => exact reclassify_nonfinite _ _ _ rfl
  | ninf => exact reclassify_nonfinite _ _ _ rfl
  | pinf => exact reclassify_nonfinite _ _ _ rfl

/-- a raster without any finite cell never reads `bins`: all NaN, whatever `bins` is (empty too) -/
theorem generated_cpu_bin_no_finite_cell (s : State F) (fuel rows cols nb nv : Nat)
    (hw : WellFormed s rows cols nb nv) (hnv : nb ≤ nv) (hf : nb + 1 ≤ fuel)
    (hnf : ∀ v ∈ s.fa "data", Fl.isfinite v = false) :
    let r := Gen.IL.cpuBin.run s fuel
    r.ctl = .ret ∧ r.shp "out" = [rows, cols] ∧ r.fa "out" = List.replicate (rows * cols) Fl.nan := by
  obtain ⟨h1, h2, h3, _⟩ := cpuBin_refines s fuel rows cols nb nv hw.run hw.dshp hw.dlen hw.bshp hw.blen hw.nshp
    hw.nlen hnv hf (Or.inr hnf)
  refine ⟨h1, h2, ?_⟩
  rw [h3, ← hw.dlen]
  apply List.ext_getElem (by simp)
  intro i hi _
  simp only [List.getElem_map, List.getElem_replicate]
  unfold cellG
  rw [hnf _ (List.getElem_mem _)]
  simp

/-- **empty `bins`** (no bin list at all; the real code reads `bins[0]` of a zero-length array -- out of bounds, numba
    does not check): the generated program stops with an index error at the first finite cell -/
theorem generated_cpu_bin_empty_bins (s : State F) (fuel rows cols nv : Nat) (hw : WellFormed s rows cols 0 nv)
    (hfin : ∃ v ∈ s.fa "data", Fl.isfinite v = true) :
    (Gen.IL.cpuBin.run s fuel).ctl = .err "index" :=
  cpuBin_no_bins s fuel rows cols nv hw.run hw.dshp hw.dlen hw.bshp hw.blen hw.nshp hw.nlen hfin

/-- **the read `bins[mid - 1]` at `mid = 0`** (numba wraps a negative index once; ILang's `normIdx` and the model's
    `getW` do the same): when the first bin is comparable with the value (`bins[0] < v` iff not `v <= bins[0]`, i.e.
    `bins[0]` is not NaN) the search never evaluates a negative index -- its result is the same for *any* reading
    `g` of `bins` that is right on the indices `>= 0`.  (With a NaN first bin the read happens and sees the last
    bin; the cell then gets NaN or a bin `r` with `bins[r-1] < v`, as in the real code.) -/
theorem generated_cpu_bin_no_wraparound (B : List F) (v : F) (hne : B ≠ [])
    (h0 : Fl.lt (getW Fl.nan B 0) v = !Fl.le v (getW Fl.nan B 0))
    (g : Int → F) (hg : ∀ i, 0 ≤ i → g i = getW Fl.nan B i) :
    Bin.search Fl.lt Fl.le Fl.nan B v = Bin.searchP (fun i => Fl.lt (g i) v) (fun i => Fl.le v (g i)) B.length :=
  search_no_wrap Fl.lt Fl.le Fl.nan B v h0 g hg hne

end generated

section generated_examples
open XrsVerif.IL XrsVerif.ILBin
attribute [local instance] ILBin.cmpFl

-- non-vacuity, with ±inf: the generated program on a 2 x 3 raster over the comparison-only number type `Ext Int`
example :
    let s : State (Ext Int) := mkState 2 3 [.fin 16, .fin 15, .pinf, .fin 9, .nan, .fin 41]
      [.fin 10, .fin 15, .fin 15, .pinf] [.fin 1, .fin 2, .fin 3, .fin 4]
    (Gen.IL.cpuBin.run s 5).ctl = .ret ∧
    (Gen.IL.cpuBin.run s 5).fa "out" = [.fin 4, .fin 2, .nan, .fin 1, .nan, .fin 4] := by
  intro s
  have hw : WellFormed s 2 3 4 4 := mkState_wf 2 3 _ _ _ rfl
  have hasc : ExtAscending ((s.fa "bins").map id) := by
    rw [List.map_id, mkState_bins]; exact ⟨by decide, by decide⟩
  obtain ⟨h1, _, h3⟩ := generated_reclassify_first_bin id (cmpFl_sem Int) s 5 2 3 4 4 hw (by omega) (by omega)
    (by omega) hasc
  refine ⟨h1, ?_⟩
  rw [List.map_id, mkState_data, mkState_bins, mkState_newv] at h3
  rw [h3]; decide

-- empty bins: index error as soon as there is a finite cell; all NaN when there is none
example : (Gen.IL.cpuBin.run (mkState 1 2 [Ext.nan, .fin (3 : Int)] [] []) 1).ctl = .err "index" :=
  generated_cpu_bin_empty_bins _ 1 1 2 0 (mkState_wf 1 2 _ _ _ rfl) ⟨.fin 3, by simp, rfl⟩
example : (Gen.IL.cpuBin.run (mkState 1 2 [Ext.nan, (.pinf : Ext Int)] [] []) 1).fa "out" = [.nan, .nan] :=
  (generated_cpu_bin_no_finite_cell _ 1 1 2 0 0 (mkState_wf 1 2 _ _ _ rfl) (by omega) (by omega)
    (by intro v hv; simp at hv; rcases hv with rfl | rfl <;> rfl)).2.2
-- an empty raster
example : (Gen.IL.cpuBin.run (mkState 0 3 ([] : List (Ext Int)) [.fin 1] [.fin 7]) 2).fa "out" = [] :=
  (generated_cpu_bin_refines _ 2 0 3 1 1 (mkState_wf 0 3 _ _ _ rfl) (by omega) (by omega) (by omega)).2.2.1

end generated_examples

section generated_nv
open XrsVerif.IL XrsVerif.ILBin
local instance : Trig ℚ := ⟨id, id, fun a _ => a, id, id, id, id⟩

-- non-vacuity of the law hypotheses of `generated_cpu_bin_first_bin` at `NV ℚ` (NaN = `none`)
example :
    let s : State (NV ℚ) := mkState 1 3 [some 12, none, some 99] [some 10, some (25 / 2)] [some 0, some 1]
    (Gen.IL.cpuBin.run s 3).fa "out" = [some 1, none, none] := by
  intro s
  have hw : WellFormed s 1 3 2 2 := mkState_wf 1 3 _ _ _ rfl
  have hsem := nvRead_sem (K := ℚ)
  have hasc : ExtAscending ((s.fa "bins").map nvRead) := by
    rw [mkState_bins]; exact ⟨by decide +kernel, by decide +kernel⟩
  obtain ⟨_, _, h3⟩ := generated_cpu_bin_first_bin s 3 1 3 2 2 hw (by omega) (by omega) (by omega)
    (fun v _ hv => sem_total nvRead hsem _ hasc v hv) (fun v _ hv => sem_mono nvRead hsem _ hasc v hv)
  rw [mkState_data, mkState_bins, mkState_newv] at h3
  rw [h3]; decide +kernel

end generated_nv

end XrsVerif.C12
