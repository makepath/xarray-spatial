import XrsVerif.Proofs.BufProg
import XrsVerif.Proofs.BackendKind
import XrsVerif.Model.Aliasing
import XrsVerif.Gen.BufProgs
import XrsVerif.Gen.DaskKinds
/-
  C10 -- Analysis functions never modify their inputs and keep the raster's identity.

  Buffers: the checker `safe` / `safeAll` of `Model/BufProg.lean` is sound for the heap semantics `Exec`, and it
  accepts every entry of `Gen.allEntries`: for every public function of /repo/xrspatial/*.py the buffer program
  compiled from the source of its NumPy path (helpers and numba kernels inlined, `harness/facts_bufprog.py`).  The
  documented views (trim, crop, custom_kernel, get_dataarray_resolution; contract table of `Model/Meta.lean`) pass the
  weaker check `noInputWrite` only.
  Wrapper level: every parameter is a raster object with three input buffers -- cells, coordinates (the memory of its
  non-index coordinate variables), attrs dict -- and every xarray constructor / copy primitive is an `Op.build` whose
  three components are fresh / deep / shallow / maybe according to `Gen.primTable` (probed on the real xarray on every
  run).  So `agg.copy(deep=False, data=out)` (the result's coordinates are the input's) and
  `attrs = raster.attrs; attrs['unit'] = …` (the input's attrs dict is written) are rejected.
  Identity: the returned `DataArray(out, coords=…, dims=…, attrs=…)` takes coords, dims and attrs from the input
  raster, for every function whose contract is `identity`.
  Array backend: `Gen.daskEntries` holds, for every public raster function with a Dask path, the *kind program* of that
  path (wrapper, dispatch and Dask branch function inlined by harness/facts_daskkind.py, raster parameters assumed
  Dask-backed); the kind checker `BK.bcheck` is sound and accepts each of them.
  Not covered here (see design_notes/C10.md): that the buffer / kind programs abstract the Python code
  faithfully (trusted translators + primitive tables, probed and observed by harness/corr_C10.py),
  that the values / coords / attrs of the inputs are unchanged on the dask backend (observed only), the output's
  shape (observed only).
-/
namespace XrsVerif.C10
open XrsVerif XrsVerif.BP XrsVerif.Meta XrsVerif.Gen

theorem acheck_sound {k : Nat} {p : Prog} {s s' : St} (hx : Exec p s s') :
    ∀ {l l' : Taint}, Rel k s l → acheck p l = some l' → Rel k s' l' := by
  induction hx with
  | done s => intro l l' h ha; simp only [acheck, Option.some.injEq] at ha; subst ha; exact h
  | op hstep _ ih =>
    intro l l' h ha
    obtain ⟨l1, h1, hk⟩ := acheck_op_some ha
    exact ih (step_rel hstep h h1) hk
  | iteL _ _ ihp ihk =>
    intro l l' h ha
    obtain ⟨a, b, ha1, _, hk⟩ := acheck_ite_some ha
    exact ihk ((ihp h ha1).weaken fun v hv => has_join.mpr (Or.inl hv)) hk
  | iteR _ _ ihq ihk =>
    intro l l' h ha
    obtain ⟨a, b, _, hb1, hk⟩ := acheck_ite_some ha
    exact ihk ((ihq h hb1).weaken fun v hv => has_join.mpr (Or.inr hv)) hk
  | loopExit _ ihk =>
    intro l l' h ha
    obtain ⟨m, hm, hk⟩ := acheck_loop_some ha
    exact ihk (h.weaken (aloop_spec hm).1) hk
  | loopIter _ _ ihb ihloop =>
    intro l l' h ha
    obtain ⟨m, hm, hk⟩ := acheck_loop_some ha
    obtain ⟨hsub, m', hf, hs⟩ := aloop_spec hm
    refine ihloop ((ihb (h.weaken hsub) hf).weaken (sub_iff.mp hs)) ?_
    simp only [acheck, aloop_stable hm]
    exact hk

/-- **soundness at the wrapper level**: a program accepted by `safeAll` never writes an input buffer -- the cells,
    the coordinates or the attrs of any parameter -- and none of the slots of the returned object (cells,
    coordinates, attrs) points into one, for every branch taken, every iteration count and every run-time
    resolution of the layout-dependent views and of the `maybe` components of the xarray primitives -/
theorem safeAll_sound (k : Nat) (p : Prog) (s s' : St) (a0 : Taint) (rets : List Nat)
    (h : Rel k s a0) (hsafe : safeAll p a0 rets = true) (hx : Exec p s s') :
    (∀ b, b < k → s'.dirty b = false) ∧ (∀ r ∈ rets, ∀ b, s'.env r = some b → k ≤ b) := by
  obtain ⟨l, hc, hret⟩ := safeAll_iff.1 hsafe
  obtain ⟨_, henv, hd⟩ := acheck_sound hx h hc
  exact ⟨hd, fun r hr b hb => Nat.le_of_not_lt fun hlt => Bool.eq_false_iff.1 (hret r hr) (henv r b hb hlt)⟩

/-- the same for `safe`, whose result is a single slot -/
theorem safe_sound (k : Nat) (p : Prog) (s s' : St) (a0 : Taint) (ret : Nat)
    (h : Rel k s a0) (hsafe : safe p a0 ret = true) (hx : Exec p s s') :
    (∀ b, b < k → s'.dirty b = false) ∧ (∀ b, s'.env ret = some b → k ≤ b) := by
  rw [safe_eq_safeAll] at hsafe
  obtain ⟨hd, hr⟩ := safeAll_sound k p s s' a0 [ret] h hsafe hx
  exact ⟨hd, hr ret (List.mem_singleton.2 rfl)⟩

/-- one xarray primitive, stated by itself: after `x = prim(…)` a component of `x` lies in an input buffer
    only if its mode lets it share (`shallow` / `maybe`) and its source was tainted -/
theorem build_step_sound {k : Nat} {s s' : St} {l : Taint} (a b c : Part)
    (h : Rel k s l) (hx : OpStep (.build a b c) s s') :
    Rel k s' (((l.bindPart l a).bindPart l b).bindPart l c) :=
  step_rel hx h rfl

/-- the weaker check used for the documented views: still no input is written -/
theorem noInputWrite_sound (k : Nat) (p : Prog) (s s' : St) (a0 : Taint)
    (h : Rel k s a0) (hok : noInputWrite p a0 = true) (hx : Exec p s s') :
    ∀ b, b < k → s'.dirty b = false := by
  obtain ⟨l, hc⟩ := noInputWrite_iff.1 hok
  exact (acheck_sound hx h hc).2.2

theorem unknown_rejected (k : Prog) (a0 : Taint) (ret : Nat) : safe (.op .unknown k) a0 ret = false := by
  simp [safe, acheck, astep]

/-- the strict check (no input written, no slot of the result in an input) implies the obligation of an entry
    whatever the contract table says of it: only a function that fails it needs its documented exception -/
theorem entryOk_of_strict {e : Entry} (h : safeAll e.prog (inputs e.k) e.ret.slots = true) : entryOk e = true := by
  unfold entryOk; split
  · exact noInputWrite_of_safeAll h
  · exact h

theorem all_entryOk_of_strict {es : List Entry}
    (h : es.all (fun e => safeAll e.prog (inputs e.k) e.ret.slots) = true) : es.all entryOk = true :=
  List.all_eq_true.2 fun e he => entryOk_of_strict (List.all_eq_true.1 h e he)

/-- what an accepted entry has passed: the weak check in any case, the strict one unless the table documents a view -/
theorem noInputWrite_of_entryOk {e : Entry} (h : entryOk e = true) : noInputWrite e.prog (inputs e.k) = true := by
  unfold entryOk at h; split at h
  · exact h
  · exact noInputWrite_of_safeAll h

theorem safeAll_of_entryOk {e : Entry} (h : entryOk e = true) (hc : e.contract.retMayAlias = false) :
    safeAll e.prog (inputs e.k) e.ret.slots = true := by
  simpa only [entryOk, hc, Bool.false_eq_true, if_false] using h

theorem entryOk_no_unknown {e : Entry} (h : entryOk e = true) : e.prog.hasUnknown = false := by
  obtain ⟨l, hc⟩ := noInputWrite_iff.1 (noInputWrite_of_entryOk h)
  exact acheck_no_unknown hc

/-- the contract table documents a view for these four names only (a fact about `Meta.exceptions`, whatever the
    entries are) -/
theorem retMayAlias_documented {n : String} {ps : List String} (h : (contractOf n ps).retMayAlias = true) :
    n ∈ ["convolution.custom_kernel", "utils.get_dataarray_resolution", "zonal.trim", "zonal.crop"] := by
  have htab : exceptions.all (fun p => !p.2.retMayAlias ||
      ["convolution.custom_kernel", "utils.get_dataarray_resolution", "zonal.trim", "zonal.crop"].contains p.1) = true := by
    decide +kernel
  unfold contractOf at h
  cases hf : exceptions.find? (·.1 == n) with
  | none => simp [hf] at h
  | some p =>
    obtain ⟨m, c⟩ := p
    simp only [hf] at h
    have hn : m = n := by simpa using List.find?_some hf
    have := List.all_eq_true.1 htab _ (List.mem_of_find?_eq_some hf)
    simp only [h, Bool.not_true, Bool.false_or] at this
    exact hn ▸ List.contains_iff_mem.1 this

/-! named instances (so that a broken function is named by the build) -/
theorem slope_safe : entryOk entry_slope_slope = true := entryOk_of_strict (by decide +kernel)
theorem aspect_safe : entryOk entry_aspect_aspect = true := entryOk_of_strict (by decide +kernel)
theorem curvature_safe : entryOk entry_curvature_curvature = true := entryOk_of_strict (by decide +kernel)
theorem hillshade_safe : entryOk entry_hillshade_hillshade = true := entryOk_of_strict (by decide +kernel)
theorem spectral_safe : [entry_multispectral_arvi, entry_multispectral_evi, entry_multispectral_gci,
    entry_multispectral_nbr, entry_multispectral_nbr2, entry_multispectral_ndvi, entry_multispectral_ndmi,
    entry_multispectral_savi, entry_multispectral_sipi, entry_multispectral_ebbi,
    entry_multispectral_true_color].all entryOk = true := all_entryOk_of_strict (by decide +kernel)
theorem classify_safe : [entry_classify_binary, entry_classify_reclassify, entry_classify_quantile,
    entry_classify_equal_interval, entry_classify_natural_breaks].all entryOk = true :=
  all_entryOk_of_strict (by decide +kernel)
theorem focal_safe : [entry_focal_mean, entry_focal_apply, entry_focal_focal_stats, entry_focal_hotspots,
    entry_convolution_convolution_2d, entry_convolution_convolve_2d].all entryOk = true :=
  all_entryOk_of_strict (by decide +kernel)
theorem proximity_safe : [entry_proximity_proximity, entry_proximity_allocation,
    entry_proximity_direction].all entryOk = true := all_entryOk_of_strict (by decide +kernel)
theorem regions_safe : entryOk entry_zonal_regions = true := entryOk_of_strict (by decide +kernel)
theorem zonal_tables_safe : [entry_zonal_stats, entry_zonal_crosstab, entry_zonal_apply].all entryOk = true :=
  all_entryOk_of_strict (by decide +kernel)
/-- trim and crop return views: here the contract table is consulted -/
theorem trim_crop_no_input_write : [entry_zonal_trim, entry_zonal_crop].all entryOk = true := by decide +kernel
theorem perlin_safe : entryOk entry_perlin_perlin = true := entryOk_of_strict (by decide +kernel)
theorem terrain_safe : entryOk entry_terrain_generate_terrain = true := entryOk_of_strict (by decide +kernel)
theorem bump_safe : entryOk entry_bump_bump = true := entryOk_of_strict (by decide +kernel)
theorem viewshed_safe : entryOk entry_viewshed_viewshed = true := entryOk_of_strict (by decide +kernel)
theorem a_star_safe : entryOk entry_pathfinding_a_star_search = true := entryOk_of_strict (by decide +kernel)
theorem summarize_terrain_safe : entryOk entry_analytics_summarize_terrain = true :=
  entryOk_of_strict (by decide +kernel)
theorem polygonize_safe : entryOk entry_polygonize_polygonize = true := entryOk_of_strict (by decide +kernel)
/-- `custom_kernel` and `get_dataarray_resolution` return (a view of) an argument: the table is consulted -/
theorem helpers_safe : [entry_convolution_calc_cellsize, entry_convolution_custom_kernel, entry_utils_get_xy_range,
    entry_utils_calc_res, entry_utils_get_dataarray_resolution].all entryOk = true := by decide +kernel
theorem local_safe : [entry_local_cell_stats, entry_local_combine, entry_local_lesser_frequency,
    entry_local_equal_frequency, entry_local_greater_frequency, entry_local_lowest_position,
    entry_local_highest_position, entry_local_popularity, entry_local_rank].all entryOk = true :=
  all_entryOk_of_strict (by decide +kernel)

/-- every generated program is accepted: the named instances above cover the whole table -/
theorem all_public_conform : allEntries.all entryOk = true := by
  have h := And.intro spectral_safe <| And.intro classify_safe <| And.intro focal_safe <| And.intro proximity_safe <|
    And.intro zonal_tables_safe <| And.intro trim_crop_no_input_write <| And.intro helpers_safe local_safe
  simp only [List.all_cons, List.all_nil, Bool.and_true, Bool.and_eq_true] at h
  simp only [allEntries, List.all_cons, List.all_nil, h, slope_safe, aspect_safe, curvature_safe, hillshade_safe,
    regions_safe, perlin_safe, terrain_safe, bump_safe, viewshed_safe, a_star_safe, summarize_terrain_safe,
    polygonize_safe, Bool.and_self]

/-- **no public function writes into any of its inputs**, on any run of its buffer program -/
theorem public_inputs_never_written (e : Entry) (he : e ∈ allEntries) (s' : St)
    (hx : Exec e.prog (init e.k) s') : ∀ b, b < e.k → s'.dirty b = false :=
  noInputWrite_sound e.k e.prog _ s' _ (rel_init e.k)
    (noInputWrite_of_entryOk (List.all_eq_true.mp all_public_conform e he)) hx

/-- **the result of a public function shares no buffer with an input**, unless the contract table
    documents a view (trim, crop, custom_kernel, get_dataarray_resolution) -/
theorem public_output_fresh (e : Entry) (he : e ∈ allEntries) (hc : e.contract.retMayAlias = false)
    (s' : St) (hx : Exec e.prog (init e.k) s') :
    (∀ b, s'.env e.ret.data = some b → e.k ≤ b) ∧ (∀ b, s'.env e.ret.coords = some b → e.k ≤ b) ∧
    (∀ b, s'.env e.ret.attrs = some b → e.k ≤ b) := by
  have h := (safeAll_sound e.k e.prog _ s' _ e.ret.slots (rel_init e.k)
    (safeAll_of_entryOk (List.all_eq_true.mp all_public_conform e he) hc) hx).2
  exact ⟨h _ (by simp [Obj.slots]), h _ (by simp [Obj.slots]), h _ (by simp [Obj.slots])⟩

/-- every parameter of every public function contributes its three components to the input buffers the two
    theorems above speak about: the `k` of an entry is three times its number of parameters, and the buffers are
    named `p`, … `p.coords`, … `p.attrs`, … -/
theorem inputs_are_components :
    allEntries.all (fun e => e.k == e.params.length && e.k % 3 == 0 &&
      (List.range (e.k / 3)).all (fun i =>
        e.params.getD (e.k / 3 + i) "" == e.params.getD i "" ++ ".coords" &&
        e.params.getD (2 * (e.k / 3) + i) "" == e.params.getD i "" ++ ".attrs")) = true := by
  decide +kernel

/-- the only functions allowed to return a view are the documented ones -/
theorem views_are_documented :
    (allEntries.filter (·.contract.retMayAlias)).all (fun e =>
      ["convolution.custom_kernel", "utils.get_dataarray_resolution", "zonal.trim", "zonal.crop"].contains e.name)
      = true :=
  List.all_eq_true.2 fun e he =>
    List.contains_iff_mem.2 (retMayAlias_documented (n := e.name) (ps := e.params) (List.mem_filter.1 he).2)

/-- the translator's verdicts on its self-test (aliasing patterns with a known answer: in-place sort of a
    `ravel`, kernels writing a parameter, dict / list elements, loop-carried aliases, early returns, closures,
    `out=`, `a, b = b, a`, …): every bad pattern is rejected and every harmless one accepted -/
theorem translator_selftest :
    selftest.all (fun t => safeAll t.2.1 (inputs t.2.2.1) t.2.2.2.1 == t.2.2.2.2) = true := by decide +kernel

/-- the same self-test at the component level: a store through a parameter (`agg.attrs[k] = …`, `agg.data[...] = …`,
    `agg.coords[...] = …`, `agg[name] = …`) is a write of the corresponding input component -- cells, coordinates or
    attrs -- on every path, paths that end in `raise` included (the input must be intact when the call is rejected) -/
theorem translator_selftest_components :
    selftestWrites.all (fun t => mayWrite t.2.1 t.2.2.1 == t.2.2.2) = true := by decide +kernel

/-- nothing in any generated program was left unclassified by the translator -/
theorem no_unknown_construct : allEntries.all (fun e => !e.prog.hasUnknown) = true :=
  List.all_eq_true.2 fun e he => by
    rw [entryOk_no_unknown (List.all_eq_true.1 all_public_conform e he)]; rfl

/-- a `return` that conforms to an `identity p` contract yields the coords and dims of `p` and the
    attrs of `p` (possibly with the documented extra keys re-assigned), whatever the inputs carry -/
theorem identity_sound {α : Type} (p : String) (extra : List String) (r : Ret)
    (h : retConforms (.identity p extra) r = true) (inp : String → RasterMeta α) :
    (outMeta inp r).coords = some (inp p).coords ∧ (outMeta inp r).dims = some (inp p).dims ∧
    ∃ keys, (∀ k ∈ keys, k ∈ extra) ∧
      (outMeta inp r).attrs = some (attrsOutside keys (inp p).attrs, keys) := by
  cases r with
  | ctor c d a n =>
    simp only [retConforms, Bool.and_eq_true, beq_iff_eq] at h
    obtain ⟨⟨hc, hd⟩, ha⟩ := h
    subst hc hd
    refine ⟨rfl, rfl, ?_⟩
    cases a with
    | input q =>
      simp only [beq_iff_eq] at ha; subst ha
      refine ⟨[], by simp, ?_⟩
      simp only [outMeta, evalAttrs, attrsOutside, Option.some.injEq, Prod.mk.injEq, and_true]
      exact (List.filter_eq_self.mpr (by simp)).symm
    | inputPlus q keys =>
      simp only [Bool.and_eq_true, beq_iff_eq, List.all_eq_true, List.contains_eq_mem,
        decide_eq_true_eq] at ha
      obtain ⟨hq, hk⟩ := ha; subst hq
      exact ⟨keys, hk, rfl⟩
    | absent => simp at ha
    | param _ => simp at ha
    | other _ => simp at ha
  | window q => simp [retConforms] at h
  | none => simp [retConforms] at h
  | other t => simp [retConforms] at h

/-- every public function's reachable returns conform to its contract; only documented parameters
    are re-bound (zonal.apply's `values`, viewshed's `raster`) -/
theorem all_meta_conform : allMeta.all (metaOk (paramsOf allEntries)) = true := by decide +kernel

/-- **identity clause**: a function whose contract is `identity p` returns a raster with the coords
    and dims of `p` and `p`'s attrs (plus documented extra keys) -/
theorem meta_preserved {α : Type} (f : FuncMeta) (hf : f ∈ allMeta) (p : String) (extra : List String)
    (hc : (contractOf f.name (paramsOf allEntries f.name)).shape = .identity p extra)
    (r : Ret) (hr : r ∈ f.returns) (inp : String → RasterMeta α) :
    (outMeta inp r).coords = some (inp p).coords ∧ (outMeta inp r).dims = some (inp p).dims ∧
    ∃ keys, (∀ k ∈ keys, k ∈ extra) ∧
      (outMeta inp r).attrs = some (attrsOutside keys (inp p).attrs, keys) := by
  have hok : metaOk (paramsOf allEntries) f = true := List.all_eq_true.mp all_meta_conform f hf
  simp only [metaOk, conforms, Bool.and_eq_true, List.all_eq_true] at hok
  have := hok.1.1 r hr
  rw [hc] at this
  exact identity_sound p extra r this inp

/-- the identity clause is not vacuous: these functions are present and fall under it -/
theorem identity_functions_present :
    ["slope.slope", "aspect.aspect", "curvature.curvature", "hillshade.hillshade", "classify.binary",
     "classify.reclassify", "classify.quantile", "classify.natural_breaks", "classify.equal_interval",
     "convolution.convolution_2d", "focal.mean", "focal.apply", "focal.hotspots", "multispectral.arvi",
     "multispectral.evi", "multispectral.gci", "multispectral.nbr", "multispectral.nbr2", "multispectral.ndvi",
     "multispectral.ndmi", "multispectral.savi", "multispectral.sipi", "multispectral.ebbi",
     "pathfinding.a_star_search", "proximity.proximity", "proximity.allocation", "proximity.direction",
     "viewshed.viewshed", "zonal.regions"].all (fun n =>
      allMeta.any (fun f => f.name == n && !f.returns.isEmpty) &&
      (match (contractOf n (paramsOf allEntries n)).shape with | .identity _ _ => true | _ => false)) = true := by
  decide +kernel

/-- **soundness of the kind checker**: if `lazyOk` accepts a program then every value it returns -- on any branch,
    after any number of loop iterations, from an early `return` or the last one -- is a dask collection -/
theorem lazyOk_sound (n : Nat) (p : BK.Prog) (a0 : BK.AEnv) (e : BK.Env) (x : BK.Kind)
    (h : BK.Rel e a0) (hok : BK.lazyOk n p a0 = true) (hx : BK.Exec p e (.returned x)) : x = .lazy := by
  unfold BK.lazyOk at hok
  cases hb : BK.bcheck n p a0 with
  | none => simp [hb] at hok
  | some pr =>
    obtain ⟨a', rs⟩ := pr
    simp only [hb, Bool.and_eq_true, Bool.not_eq_true'] at hok
    have hs : rs.has x = true := BK.bcheck_sound hx h hb
    cases x with
    | lazy => rfl
    | eager => simp [BK.KSet.has, hok.1] at hs
    | scalar => simp [BK.KSet.has, hok.2] at hs

/-- every generated Dask-path program is accepted (kernel evaluation of the checker on the programs compiled from
    /repo's source) -/
theorem dask_paths_return_dask_collections : daskEntries.all (·.ok) = true := by decide +kernel

/-- **backend clause**: a public raster function called with Dask-backed rasters returns a dask collection, on every
    run of the kind program of its Dask path -/
theorem public_dask_path_keeps_backend (d : BK.DaskEntry) (hd : d ∈ daskEntries) (e : BK.Env)
    (he : ∀ p ∈ d.lazyParams, e p = .lazy) (x : BK.Kind) (hx : BK.Exec d.prog e (.returned x)) : x = .lazy :=
  lazyOk_sound d.nvars d.prog _ e x (BK.rel_init he)
    (by simpa [BK.DaskEntry.ok] using List.all_eq_true.mp dask_paths_return_dask_collections d hd) hx

/-- the kind translator's verdicts on its self-test (a thin-chunk fallback `return kernel(data.compute())`, `np.asarray`,
    `.values`, a loop that computes, the NumPy function on the Dask branch, an early eager return; harmless twins:
    `map_overlap`, an `isinstance` branch, loops of lazy arithmetic, `module=da`, computed *scalars* mixed into lazy
    arithmetic): every bad pattern is rejected and every harmless one accepted -/
theorem dask_translator_selftest : daskSelftest.all (fun t => t.2.1.ok == t.2.2) = true := by decide +kernel

/-- the backend clause is not vacuous: these functions are present -/
theorem dask_functions_present :
    ["slope.slope", "aspect.aspect", "curvature.curvature", "hillshade.hillshade", "classify.binary",
     "classify.reclassify", "classify.quantile", "classify.equal_interval", "convolution.convolution_2d",
     "focal.mean", "focal.apply", "focal.hotspots", "multispectral.arvi", "multispectral.evi", "multispectral.gci",
     "multispectral.nbr", "multispectral.nbr2", "multispectral.ndvi", "multispectral.ndmi", "multispectral.savi",
     "multispectral.sipi", "multispectral.ebbi", "proximity.proximity", "proximity.allocation",
     "proximity.direction"].all (fun n => daskEntries.any (fun d => d.name == n && !d.lazyParams.isEmpty &&
       0 < d.prog.size)) = true := by
  decide +kernel

/-! ### non-vacuity -/

/-- backend: `if thin: return kernel(data.compute())` before the lazy `map_overlap` is rejected … -/
example : BK.lazyOk 2 (BK.Prog.ofItems [.ite (BK.Prog.ofItems [.ret (.const .eager)]) .done,
    .assign 1 (.same 0), .ret (.same 1)]) (BK.initEnv [0]) = false := by decide
/-- … and it really has a run that returns an in-memory array although the parameter is a dask collection -/
example : BK.Exec (BK.Prog.ofItems [.ite (BK.Prog.ofItems [.ret (.const .eager)]) .done,
    .assign 1 (.same 0), .ret (.same 1)]) (fun _ => .lazy) (.returned .eager) :=
  .iteLret (.ret (.const .eager _))
/-- the lazy shape is accepted; a computed scalar mixed into lazy arithmetic stays lazy; a loop that may compute is not -/
example : BK.lazyOk 3 (BK.Prog.ofItems [.assign 1 (.const .eager), .assign 2 (.lift [0, 1]), .ret (.same 2)])
    (BK.initEnv [0]) = true := by decide
example : BK.lazyOk 2 (BK.Prog.ofItems [.assign 1 (.same 0),
    .loop (BK.Prog.ofItems [.assign 1 (.const .eager)]), .ret (.same 1)]) (BK.initEnv [0]) = false := by decide
example : 24 ≤ daskEntries.length := by decide

/-- the shape of the perlin defect: `data = agg.data; data[:] = …; return data` is rejected … -/
example : safe (Prog.ofItems [.op (.viewOf 1 0), .op (.write 1), .op (.viewOf 2 1)]) (inputs 1) 2 = false := by
  decide
/-- … and it really has a run that writes the input buffer and returns it -/
example : ∃ s', Exec (Prog.ofItems [.op (.viewOf 1 0), .op (.write 1), .op (.viewOf 2 1)]) (init 1) s' ∧
    s'.dirty 0 = true ∧ s'.env 2 = some 0 := by
  refine ⟨_, .op (.viewOf 1 0 _) (.op (.write 1 _) (.op (.viewOf 2 1 _) (.done _))), ?_, ?_⟩ <;>
    simp [St.bindTo, St.mark, init]
/-- the shape in which `data = kernel(...)` allocates is accepted -/
example : safe (Prog.ofItems [.op (.viewOf 1 0), .op (.alloc 1), .op (.write 1), .op (.viewOf 2 1)]) (inputs 1) 2
    = true := by decide
/-- a layout-dependent view (`ravel`) followed by a write is rejected although one resolution is harmless -/
example : safe (Prog.ofItems [.op (.maybeView 1 0), .op (.write 1)]) (inputs 1) 2 = false := by decide
/-- a loop needs its second abstract pass: `b` picks up the input in pass 1, `a` picks it up from `b` in
    pass 2, and the write through `a` is found -/
example : safe (Prog.ofItems [.op (.alloc 1), .op (.alloc 2),
    .loop (Prog.ofItems [.op (.write 1), .op (.viewOf 1 2), .op (.viewOf 2 0)])]) (inputs 1) 3 = false := by decide
/-- a branch that copies on one side only is joined -/
example : safe (Prog.ofItems [.ite (Prog.ofItems [.op (.copyOf 1 0)]) (Prog.ofItems [.op (.viewOf 1 0)]),
    .op (.write 1)]) (inputs 1) 2 = false := by decide
/-! wrapper level: input raster 0 owns the buffers 0 (cells), 1 (coordinates), 2 (attrs) -/
/-- the template shape `result = agg.copy(deep=False, data=out)`: rejected … -/
example : safeAll (Prog.ofItems [.op (.alloc 3),
    .op (wprim_copy_shallow_data.build ⟨4, 5, 6⟩ (some 3) (some 1) (some 2))]) (inputs 3) [4, 5, 6] = false := by decide
/-- … and it really has a run in which the coordinates of the result are the input's coordinate buffer while its
    cells and attrs are fresh -/
example : ∃ s', Exec (Prog.ofItems [.op (.alloc 3),
    .op (wprim_copy_shallow_data.build ⟨4, 5, 6⟩ (some 3) (some 1) (some 2))]) (init 3) s' ∧
    s'.env 5 = some 1 ∧ s'.env 4 = some 3 ∧ s'.env 6 = some 4 := by
  refine ⟨_, .op (.alloc 3 _) (.op (.build _ _ _ true true false _ ?_ ?_ ?_) (.done _)), ?_, ?_, ?_⟩ <;>
    simp [Part.admits, Part.mayShare, Part.mayCopy, wprim_copy_shallow_data, St.bindPart, St.bindTo,
      St.bindFresh, init]
/-- the constructor shape `DataArray(out, coords=agg.coords, dims=agg.dims, attrs=agg.attrs)` and the deep template
    `agg.copy(deep=True, data=out)` are accepted -/
example : safeAll (Prog.ofItems [.op (.alloc 3),
    .op (wprim_DataArray.build ⟨4, 5, 6⟩ (some 3) (some 1) (some 2))]) (inputs 3) [4, 5, 6] = true := by decide
example : safeAll (Prog.ofItems [.op (.alloc 3),
    .op (wprim_copy_deep_data.build ⟨4, 5, 6⟩ (some 3) (some 1) (some 2))]) (inputs 3) [4, 5, 6] = true := by decide
/-- `try: attrs = deepcopy(raster.attrs) except TypeError: attrs = raster.attrs` followed by `attrs['unit'] = …`:
    rejected, and the run through the handler writes the input's attrs buffer -/
example : safeAll (Prog.ofItems [.op (.copyOf 3 2), .ite (Prog.ofItems [.op (.viewOf 3 2)]) .done, .op (.write 3),
    .op (.alloc 4), .op (wprim_DataArray.build ⟨5, 6, 7⟩ (some 4) (some 1) (some 3))]) (inputs 3) [5, 6, 7] = false := by
  decide
example : ∃ s', Exec (Prog.ofItems [.op (.copyOf 3 2), .ite (Prog.ofItems [.op (.viewOf 3 2)]) .done, .op (.write 3)])
    (init 3) s' ∧ s'.dirty 2 = true := by
  refine ⟨_, .op (.copyOf 3 2 _) (.iteL (.op (.viewOf 3 2 _) (.done _)) (.op (.write 3 _) (.done _))), ?_⟩
  simp [St.bindTo, St.bindFresh, St.mark, init]
/-- a `maybe` component (`astype(copy=False)`) is treated as shared although one resolution is harmless -/
example : safeAll (Prog.ofItems [.op (wprim_astype_nocopy.build ⟨4, 5, 6⟩ (some 0) (some 1) (some 2)), .op (.write 4)])
    (inputs 3) [] = false := by decide
example : 50 ≤ allEntries.length := by decide
example : primTable.length = 12 := by decide
example : retConforms (.identity "agg" []) (.ctor (.input "agg") (.input "agg") (.input "agg") (.param "name")) = true := by
  decide
example : retConforms (.identity "agg" []) (.ctor .absent (.input "agg") (.input "agg") (.param "name")) = false := by
  decide

end XrsVerif.C10
