import XrsVerif.Proofs.Regions
import XrsVerif.Proofs.ILRegionsProps
import XrsVerif.Gen.RegionsFacts
/-
  C16 -- regions labels are exactly the connected components of equal value.

  Model: `Regions.regions rows cols n8 m data` (Model/Regions.lean) = `_area_connectivity(data, n)`:
  pass 1 (first labelled matching window cell, else fresh uid), pass 2 (captured window labels merged
  pairwise towards the minimum with a whole-raster relabel; the captured values go stale), clamped
  windows (a border cell sees itself).  `data p = none` is NaN; `m c a` is the code's closeness test
  with the centre `c` as reference.  All statements are for every raster size, every data, both
  neighbourhoods.

  `windows_from_source`, `closeness_from_source`, `meta_preserved`: the window offsets / clamping, the closeness
  test, and the wrapper's DataArray arguments regenerated from /repo's source are the ones the model uses.

  Layer T3 (`generated_*`): the same clauses for the program `Gen.IL.areaConnectivity` that the translator
  `harness/facts_il.py` regenerates statement by statement from `zonal._area_connectivity` on every run
  (`generated_refines`, proof in Proofs/ILRegions*.lean).  `closeF` = the source's `|a - val| <= 1e-08 + 1e-05*|val|`
  read off the `Fl` operations.  Hypothesis: `LabelLaws F` -- labels `1, 2, …` stored as numbers compare like naturals,
  NaN `==` nothing, a NaN window value is never close (true for exact arithmetic with NaN: `labelLaws_NV`; IEEE
  doubles below 2^53).

  Gap (stated, not hidden): the code's float `isclose` is neither symmetric nor transitive in general
  (reference = centre; +-inf centres match every finite neighbour).  `sound` does not need either;
  `complete` needs symmetry; "all cells on the path hold the same value" needs equality matching.
  For integer rasters with |value| < 10^5 / 2 the closeness test *is* equality; that the model's
  `m` agrees with numba's evaluation of the test is checked by the correspondence run only.
-/
namespace XrsVerif.C16
open XrsVerif XrsVerif.Regions

variable {V : Type}

/-- match-adjacent cells end with the same label -/
theorem complete {rows cols : Nat} {n8 : Bool} {m : V → V → Bool} {data : Cell → Option V}
    (hsym : ∀ a b, m a b = m b a) {p q : Cell} (h : Step rows cols n8 m data p q) :
    regions rows cols n8 m data p = regions rows cols n8 m data q :=
  regions_complete hsym (Connected.step h)

/-- cells joined by a chain of adjacent matching cells end with the same label -/
theorem complete_connected {rows cols : Nat} {n8 : Bool} {m : V → V → Bool} {data : Cell → Option V}
    (hsym : ∀ a b, m a b = m b a) {p q : Cell} (h : Connected rows cols n8 m data p q) :
    regions rows cols n8 m data p = regions rows cols n8 m data q :=
  regions_complete hsym h

/-- two non-NaN cells with the same label are joined by a chain of adjacent matching cells -/
theorem sound {rows cols : Nat} {n8 : Bool} {m : V → V → Bool} {data : Cell → Option V}
    {p q : Cell} (hp : p ∈ gridCells rows cols) (hne : regions rows cols n8 m data p ≠ none)
    (h : regions rows cols n8 m data p = regions rows cols n8 m data q) :
    Connected rows cols n8 m data p q :=
  regions_sound hp (fun hd => hne (regions_none hd)) h

/-- same label <-> joined by a chain of adjacent matching cells (non-NaN cells of the raster) -/
theorem components_iff {rows cols : Nat} {n8 : Bool} {m : V → V → Bool} {data : Cell → Option V}
    (hsym : ∀ a b, m a b = m b a) {p q : Cell} (hp : p ∈ gridCells rows cols)
    (hdp : data p ≠ none) :
    regions rows cols n8 m data p = regions rows cols n8 m data q ↔ Connected rows cols n8 m data p q :=
  regions_iff_connected hsym hp hdp

/-- integer-valued rasters (closeness = equality): two cells get the same label exactly when they are
    joined by a path of 4- (8-) adjacent cells of the raster that all hold the same value -/
theorem regions_iff_value_path [DecidableEq V] {rows cols : Nat} {n8 : Bool} {data : Cell → Option V}
    {p q : Cell} {v : V} (hp : p ∈ gridCells rows cols) (hv : data p = some v) :
    regions rows cols n8 (fun a b => decide (a = b)) data p
        = regions rows cols n8 (fun a b => decide (a = b)) data q
      ↔ ValuePath rows cols n8 data v p q := by
  rw [components_iff (by intro a b; simp [eq_comm]) hp (by simp [hv])]
  constructor
  · intro h; exact (valuePath_of_connected h v (Or.inl hv)).1
  · intro h; exact connected_of_valuePath h hp

theorem labels_positive {rows cols : Nat} {n8 : Bool} {m : V → V → Bool} {data : Cell → Option V}
    {p : Cell} {k : Nat} (hp : p ∈ gridCells rows cols) (h : regions rows cols n8 m data p = some k) :
    0 < k := by
  cases hdp : data p with
  | none => rw [regions_none hdp] at h; cases h
  | some v =>
    rw [regions_some hdp] at h
    exact Option.some.inj h ▸
      positive_g (gridCells_nodup rows cols) (gridNbrs_closed rows cols n8) hp (by simp [hdp])

/-- NaN cells stay NaN -/
theorem nan_stays_nan {rows cols : Nat} {n8 : Bool} {m : V → V → Bool} {data : Cell → Option V}
    {p : Cell} (h : data p = none) : regions rows cols n8 m data p = none :=
  regions_none h

/-- ... and only NaN cells are NaN -/
theorem nan_iff {rows cols : Nat} {n8 : Bool} {m : V → V → Bool} {data : Cell → Option V} {p : Cell} :
    regions rows cols n8 m data p = none ↔ data p = none := by
  cases h : data p with
  | none => simp [regions_none h]
  | some v => simp [regions_some h]

/-- both passes read `data` and `out` through the model's clamped windows, in the model's order -/
theorem windows_from_source :
    Gen.regionsWindows8.map (·.2) = [window8, window8, window8, window8] ∧
    Gen.regionsWindows4.map (·.2) = [window4, window4, window4, window4] := by
  decide

/-- the closeness test has the centre value as reference, `<=`, and the numpy default tolerances; a NaN centre
    cell is skipped in both passes (pass 1 copies it to the output); pass 1 treats a window cell as labelled
    iff its label is `> 0`; uids start at 1.
    The generated strings are *normal forms* (harness/facts_regions.py): local names are resolved to what they
    evidently hold (`val` is `data[y, x]`, `rtol` / `atol` are their literals wherever they are defined),
    the remaining locals carry role names, `a >= b` is written `b <= a`, operands of `+` and `*` are sorted. -/
theorem closeness_from_source :
    Gen.regionsIsClose = ["abs(src_window - data[y, x]) <= 1e-05 * abs(data[y, x]) + 1e-08",
                          "abs(src_window - data[y, x]) <= 1e-05 * abs(data[y, x]) + 1e-08"] ∧
    Gen.regionsNanGuard = ["isnan(data[y, x]) -> out[y, x] = data[y, x]; continue",
                           "isnan(data[y, x]) -> continue"] ∧
    Gen.regionsLabelledTest = ["0 < len(matches)", "0 < area_window[matches[j]]"] ∧ Gen.regionsUid0 = "1" := by
  decide

/-- shape, dims, coordinates and attributes of the result are those of the input: the wrapper only
    validates `neighborhood`, runs the kernel on `raster.data` (converted to int64 when its integer dtype
    is narrower than 64 bits), and wraps the kernel's output (keywords in sorted order) -/
theorem meta_preserved :
    Gen.regionsGuard = "neighborhood not in (4, 8)" ∧
    Gen.regionsKernelData = "raster.data" ∧
    Gen.regionsWiden = ["data.dtype.kind in 'iu' and data.dtype.itemsize < 8 -> data = data.astype(np.int64)"] ∧
    Gen.regionsKernelArgs = "n=neighborhood" ∧
    Gen.regionsReturn = [("data", "out"), ("attrs", "raster.attrs"), ("coords", "raster.coords"),
                         ("dims", "raster.dims"), ("name", "name")] := by
  decide

section generated
open XrsVerif.IL XrsVerif.IL.Rg
variable {F : Type} [Fl F]

/-- the program generated from `_area_connectivity` ends with `return`, keeps `data`, and returns the raster of the
    hand model: the input value at NaN cells, the number `lab k` of the model's label `k` elsewhere -/
theorem generated_refines (laws : LabelLaws F) (s : State F) (fuel rows cols n : Nat) (hs : s.ctl = .run)
    (hshp : s.shp "data" = [rows, cols]) (hnv : s.ienv "n" = (n : Int)) (hn : n = 4 ∨ n = 8) :
    let r := Gen.IL.areaConnectivity.run s fuel
    r.ctl = .ret ∧ r.shp "out" = [rows, cols] ∧ r.fa "data" = s.fa "data" ∧
      r.fa "out" = (gridCells rows cols).map fun c =>
        match regions rows cols (decide (n = 8)) closeF (dataOf cols (s.fa "data")) c with
        | none => at_ cols (s.fa "data") c
        | some k => lab k :=
  areaConnectivity_refines laws s fuel rows cols n hs hshp hnv hn

/-- the generated program separates two non-NaN cells of the raster exactly as the model's labels do -/
theorem generated_out_eq_iff (laws : LabelLaws F) (s : State F) (fuel rows cols n : Nat) (hs : s.ctl = .run)
    (hshp : s.shp "data" = [rows, cols]) (hnv : s.ienv "n" = (n : Int)) (hn : n = 4 ∨ n = 8)
    {p q : Cell} (hp : p ∈ gridCells rows cols) (hq : q ∈ gridCells rows cols)
    (hpn : Fl.isnan (at_ cols (s.fa "data") p) = false) (hqn : Fl.isnan (at_ cols (s.fa "data") q) = false) :
    at_ cols ((Gen.IL.areaConnectivity.run s fuel).fa "out") p =
        at_ cols ((Gen.IL.areaConnectivity.run s fuel).fa "out") q ↔
      regions rows cols (decide (n = 8)) closeF (dataOf cols (s.fa "data")) p =
        regions rows cols (decide (n = 8)) closeF (dataOf cols (s.fa "data")) q := by
  obtain ⟨_, _, _, ho⟩ := areaConnectivity_refines laws s fuel rows cols n hs hshp hnv hn
  obtain ⟨hp1, hp2⟩ := mem_gridCells.mp hp
  obtain ⟨hq1, hq2⟩ := mem_gridCells.mp hq
  rw [ho, out_eq_iff laws rows cols n (s.fa "data") p q hp1 hp2 hq1 hq2 hpn hqn]

theorem dataOf_ne_none {cols : Nat} {d : List F} {p : Cell} (hpn : Fl.isnan (at_ cols d p) = false) :
    dataOf cols d p ≠ none := by rw [dataOf_some _ _ _ hpn]; simp

/-- generated program: two non-NaN cells that hold the same label are joined by a chain of adjacent matching cells -/
theorem generated_sound (laws : LabelLaws F) (s : State F) (fuel rows cols n : Nat) (hs : s.ctl = .run)
    (hshp : s.shp "data" = [rows, cols]) (hnv : s.ienv "n" = (n : Int)) (hn : n = 4 ∨ n = 8)
    {p q : Cell} (hp : p ∈ gridCells rows cols) (hq : q ∈ gridCells rows cols)
    (hpn : Fl.isnan (at_ cols (s.fa "data") p) = false) (hqn : Fl.isnan (at_ cols (s.fa "data") q) = false)
    (h : at_ cols ((Gen.IL.areaConnectivity.run s fuel).fa "out") p =
         at_ cols ((Gen.IL.areaConnectivity.run s fuel).fa "out") q) :
    Connected rows cols (decide (n = 8)) closeF (dataOf cols (s.fa "data")) p q :=
  sound hp (by rw [Ne, nan_iff]; exact dataOf_ne_none hpn)
    ((generated_out_eq_iff laws s fuel rows cols n hs hshp hnv hn hp hq hpn hqn).mp h)

/-- generated program, symmetric closeness: same label <-> joined by a chain of adjacent matching cells -/
theorem generated_components_iff (laws : LabelLaws F) (hsym : ∀ a b : F, closeF a b = closeF b a)
    (s : State F) (fuel rows cols n : Nat) (hs : s.ctl = .run)
    (hshp : s.shp "data" = [rows, cols]) (hnv : s.ienv "n" = (n : Int)) (hn : n = 4 ∨ n = 8)
    {p q : Cell} (hp : p ∈ gridCells rows cols) (hq : q ∈ gridCells rows cols)
    (hpn : Fl.isnan (at_ cols (s.fa "data") p) = false) (hqn : Fl.isnan (at_ cols (s.fa "data") q) = false) :
    at_ cols ((Gen.IL.areaConnectivity.run s fuel).fa "out") p =
        at_ cols ((Gen.IL.areaConnectivity.run s fuel).fa "out") q ↔
      Connected rows cols (decide (n = 8)) closeF (dataOf cols (s.fa "data")) p q :=
  (generated_out_eq_iff laws s fuel rows cols n hs hshp hnv hn hp hq hpn hqn).trans
    (components_iff hsym hp (dataOf_ne_none hpn))

/-- generated program, closeness = equality on the values of the raster (integer-valued rasters): two cells get the
    same label exactly when a path of 4- (8-) adjacent raster cells that all hold the same value joins them -/
theorem generated_value_path [DecidableEq F] (laws : LabelLaws F) (s : State F) (fuel rows cols n : Nat)
    (hs : s.ctl = .run) (hshp : s.shp "data" = [rows, cols]) (hnv : s.ienv "n" = (n : Int)) (hn : n = 4 ∨ n = 8)
    (heqv : ∀ p q v w, p ∈ gridCells rows cols → q ∈ gridCells rows cols →
      dataOf cols (s.fa "data") p = some v → dataOf cols (s.fa "data") q = some w → closeF v w = decide (v = w))
    {p q : Cell} {v : F} (hp : p ∈ gridCells rows cols) (hq : q ∈ gridCells rows cols)
    (hv : dataOf cols (s.fa "data") p = some v) (hqn : Fl.isnan (at_ cols (s.fa "data") q) = false) :
    at_ cols ((Gen.IL.areaConnectivity.run s fuel).fa "out") p =
        at_ cols ((Gen.IL.areaConnectivity.run s fuel).fa "out") q ↔
      ValuePath rows cols (decide (n = 8)) (dataOf cols (s.fa "data")) v p q := by
  have hpn : Fl.isnan (at_ cols (s.fa "data") p) = false := by
    cases h : Fl.isnan (at_ cols (s.fa "data") p) with
    | false => rfl
    | true => rw [dataOf_none _ _ _ h] at hv; cases hv
  rw [generated_out_eq_iff laws s fuel rows cols n hs hshp hnv hn hp hq hpn hqn,
    regions_congr rows cols (decide (n = 8)) closeF (fun a b => decide (a = b)) _ heqv p,
    regions_congr rows cols (decide (n = 8)) closeF (fun a b => decide (a = b)) _ heqv q]
  exact regions_iff_value_path hp hv

/-- generated program: a non-NaN cell holds a positive label -/
theorem generated_labels_positive (laws : LabelLaws F) (s : State F) (fuel rows cols n : Nat) (hs : s.ctl = .run)
    (hshp : s.shp "data" = [rows, cols]) (hnv : s.ienv "n" = (n : Int)) (hn : n = 4 ∨ n = 8)
    {p : Cell} (hp : p ∈ gridCells rows cols) (hpn : Fl.isnan (at_ cols (s.fa "data") p) = false) :
    ∃ k : Nat, 0 < k ∧ at_ cols ((Gen.IL.areaConnectivity.run s fuel).fa "out") p = lab k := by
  obtain ⟨_, _, _, ho⟩ := areaConnectivity_refines laws s fuel rows cols n hs hshp hnv hn
  obtain ⟨hp1, hp2⟩ := mem_gridCells.mp hp
  obtain ⟨k, hk⟩ := regions_some_of rows cols (decide (n = 8)) (s.fa "data") p hpn
  refine ⟨k, labels_positive hp hk, ?_⟩
  rw [ho, at_modelOut rows cols n _ p hp1 hp2, cellOut_some _ _ _ _ _ _ hk]

/-- generated program: a NaN cell keeps its (NaN) input value -/
theorem generated_nan (laws : LabelLaws F) (s : State F) (fuel rows cols n : Nat) (hs : s.ctl = .run)
    (hshp : s.shp "data" = [rows, cols]) (hnv : s.ienv "n" = (n : Int)) (hn : n = 4 ∨ n = 8)
    {p : Cell} (hp : p ∈ gridCells rows cols) (hpn : Fl.isnan (at_ cols (s.fa "data") p) = true) :
    at_ cols ((Gen.IL.areaConnectivity.run s fuel).fa "out") p = at_ cols (s.fa "data") p := by
  obtain ⟨_, _, _, ho⟩ := areaConnectivity_refines laws s fuel rows cols n hs hshp hnv hn
  obtain ⟨hp1, hp2⟩ := mem_gridCells.mp hp
  rw [ho, at_modelOut rows cols n _ p hp1 hp2, cellOut_none]
  exact regions_none (dataOf_none _ _ _ hpn)

end generated

/-! ### non-vacuity -/

/-- a U-shaped component: pass 1 gives its two arms different labels, pass 2 merges them -/
def uData : Cell → Option Int := fun c =>
  if c = (0, 1) then some 0 else some 1

example : (pass1 (gridCells 2 3) (gridNbrs 2 3 false) (fun a b : Int => decide (a = b)) uData).1 (0, 0) = 1
    ∧ (pass1 (gridCells 2 3) (gridNbrs 2 3 false) (fun a b : Int => decide (a = b)) uData).1 (0, 2) = 3 := by
  decide

example : regions 2 3 false (fun a b : Int => decide (a = b)) uData (0, 0) = some 1
    ∧ regions 2 3 false (fun a b : Int => decide (a = b)) uData (0, 2) = some 1
    ∧ regions 2 3 false (fun a b : Int => decide (a = b)) uData (0, 1) = some 2 := by
  decide

/-- `Step` is inhabited on that raster, so `complete` is not vacuous -/
example : Step 2 3 false (fun a b : Int => decide (a = b)) uData (0, 0) (1, 0) := by
  refine ⟨by decide, by decide, by decide, 1, 1, by decide, by decide, by decide⟩

/-- the symmetry hypothesis holds for equality matching -/
example : ∀ a b : Int, (decide (a = b)) = (decide (b = a)) := by
  intro a b; simp [eq_comm]

/-- diagonal neighbours are joined only with the 8-neighbourhood -/
def dData : Cell → Option Int := fun c =>
  if c = (0, 0) ∨ c = (1, 1) then some 7 else if c = (0, 1) then none else some 2

example : regions 2 2 true (fun a b : Int => decide (a = b)) dData (0, 0)
      = regions 2 2 true (fun a b : Int => decide (a = b)) dData (1, 1)
    ∧ regions 2 2 false (fun a b : Int => decide (a = b)) dData (0, 0)
      ≠ regions 2 2 false (fun a b : Int => decide (a = b)) dData (1, 1)
    ∧ regions 2 2 true (fun a b : Int => decide (a = b)) dData (0, 1) = none := by
  decide

/-! non-vacuity of the `generated_*` theorems: exact arithmetic with NaN over ℚ satisfies `LabelLaws`; a start
    state holding the U-shaped 2×3 raster (with one NaN) satisfies the hypotheses; on it closeness is equality -/

section generatedExamples
open XrsVerif.IL XrsVerif.IL.Rg

local instance : Trig ℚ := ⟨id, id, fun a _ => a, id, id, id, id⟩

example : LabelLaws (NV ℚ) := labelLaws_NV

/-- `data = [[1, 0, 1], [1, NaN, 1]]`, `n = 4` -/
def uState : State (NV ℚ) :=
  { (State.empty : State (NV ℚ)) with
    ienv := fun v => if v = "n" then 4 else 0
    shp := fun a => if a = "data" then [2, 3] else []
    fa := fun a => if a = "data" then [some 1, some 0, some 1, some 1, none, some 1] else [] }

example : uState.ctl = .run ∧ uState.shp "data" = [2, 3] ∧ uState.ienv "n" = ((4 : Nat) : Int) ∧
    ((4 : Nat) = 4 ∨ (4 : Nat) = 8) := by
  refine ⟨rfl, rfl, rfl, Or.inl rfl⟩

/-- the cells `(0, 0)` and `(1, 0)` of that raster are non-NaN raster cells, `(1, 1)` is a NaN cell -/
example : Fl.isnan (at_ 3 (uState.fa "data") (0, 0)) = false ∧ Fl.isnan (at_ 3 (uState.fa "data") (1, 0)) = false ∧
    Fl.isnan (at_ 3 (uState.fa "data") (1, 1)) = true ∧ ((0, 0) : Cell) ∈ gridCells 2 3 := by
  refine ⟨rfl, rfl, rfl, by decide⟩

/-- integer values below 5·10⁴: the closeness hypothesis of `generated_value_path` holds (`closeF_int`) -/
example (a b : Int) (ha : |a| < 50000) : closeF (some (a : ℚ) : NV ℚ) (some (b : ℚ)) = decide (a = b) :=
  closeF_int a b ha

end generatedExamples

end XrsVerif.C16
