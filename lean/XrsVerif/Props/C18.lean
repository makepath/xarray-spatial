import XrsVerif.Proofs.Trim
import XrsVerif.Proofs.ILTrim
import XrsVerif.Proofs.NumFl
import XrsVerif.Gen.TrimFacts
/-
  C18 -- trim and crop return the minimal window, cells and coordinates intact.

  Model: `Model/Trim.lean` (hand model of `_trim`, `_crop`, `trim`, `crop` of xrspatial/zonal.py).
  Tie: (1) `Gen/TrimFacts.lean`, regenerated from the source by
  harness/facts_trim.py on every run: the match predicate, direction and range of each of the eight scans,
  the early empty return, and what the wrappers do to the value / id list and slice -- the first theorems
  (`kernels_are_canonical`, `wrappers_are_canonical`) require these to be the canonical shapes and prove that their interpretation
  (`Trim.windowS`) is the hand model, and `trim_minimal` / `crop_minimal` are stated for that interpretation
  of the *generated* shapes; (2) layer T3: `Gen.IL.trim` / `Gen.IL.crop`, the kernels `_trim` / `_crop` translated
  statement by statement into ILang (harness/facts_il.py, validated against numba by harness/il_corr.py) -- section
  `generated_programs` proves that these *programs* compute `Trim.bounds` (refinement, Proofs/ILTrim.lean) and restates the
  minimal-window clause for them; (3) the correspondence run, harness/corr_C18.py.
  Rasters are functions `cell : Nat → Nat → Num` on `rows × cols`; `Num` has NaN, ±inf and exact
  rationals, and structural equality on `Num` is the NaN-aware equality.
-/
namespace XrsVerif.C18
open XrsVerif XrsVerif.Wire XrsVerif.Trim

variable {κ τ : Type}

/-- four scans: rows upwards, rows downwards, columns upwards, columns downwards, each over the whole axis with
    an inner loop over every cell of the row / column, all with the same match predicate and polarity -/
def canonicalScans (m : Match) (p : Polarity) : List ScanShape :=
  [⟨true, .rows, .up, true, m, p⟩, ⟨true, .rows, .down, true, m, p⟩,
   ⟨true, .cols, .up, true, m, p⟩, ⟨true, .cols, .down, true, m, p⟩]

/-- the match predicates are exact: `_trim` tests `e == val or (isnan(e) and isnan(val))` in all four scans,
    `_crop` tests `==` in all four -- never a call such as `np.isclose`, never an ordering -/
theorem trim_match_is_exact :
    Gen.trimKernel.scans.map (·.mtch) = [.eqOrBothNan, .eqOrBothNan, .eqOrBothNan, .eqOrBothNan]
    ∧ Gen.cropKernel.scans.map (·.mtch) = [.eq, .eq, .eq, .eq] := by decide

/-- direction, range and polarity of every scan, and the early empty return, are the canonical ones -/
theorem kernels_are_canonical :
    Gen.trimKernel = ⟨true, canonicalScans .eqOrBothNan .hitIfUnmatched, true⟩
    ∧ Gen.cropKernel = ⟨true, canonicalScans .eq .hitIfMatched, true⟩ := by decide

/-- the wrappers hand the caller's `values` / `zones_ids` to the kernel as they are: no cast, no re-binding
    (a cast to the raster dtype would wrap NaN, negative, out-of-range and fractional entries onto cell values) -/
theorem trim_values_not_cast : Gen.trimWrapper.listCast = .none ∧ Gen.cropWrapper.listCast = .none := by decide

/-- `trim(raster, values, name)`: `_trim(raster.data, values)`, slice of `raster`;
    `crop(zones, values, zones_ids, name)`: `_crop(zones.data, zones_ids)`, slice of `values`;
    the slice is `[top: bottom + 1, left: right + 1]`, `.name = name`, returned -/
theorem wrappers_are_canonical :
    Gen.trimWrapper = ⟨true, "_trim", 0, 1, .none, 0, true, true⟩
    ∧ Gen.cropWrapper = ⟨true, "_crop", 0, 2, .none, 1, true, true⟩ := by decide

/-- `e == val or (isnan(e) and isnan(val))` is the NaN-aware (structural) equality -/
theorem matchS_nanAware (e v : Num) : matchS .eqOrBothNan e v = (e == v) := by
  simp only [matchS, ieeeEq]
  by_cases he : e = Num.nan
  · subst he
    by_cases hv : v = Num.nan
    · subst hv; decide
    · have h1 : (v == Num.nan) = false := by simpa using hv
      have h2 : (Num.nan == v) = false := by simpa using fun h : Num.nan = v => hv h.symm
      simp [h1, h2]
  · have h1 : (e == Num.nan) = false := by simpa using he
    have h2 : (e != Num.nan) = true := by simpa using he
    simp [h1, h2]

/-- the interpretation of the shapes found in the source is the hand model -/
theorem generated_trim_is_model (r : Raster κ τ) (ex : List Num) (name : String) :
    windowS Gen.trimKernel Gen.trimWrapper r r ex name = trim r ex name := by
  simp [windowS, Gen.trimKernel, Gen.trimWrapper, boundsS, scanS, hitS, dirRange, castS, matchS_nanAware, trim,
    trimBounds, bounds, kept]

theorem generated_crop_is_model (z v : Raster κ τ) (ids : List Num) (name : String) :
    windowS Gen.cropKernel Gen.cropWrapper z v ids name = crop z v ids name := by
  simp [windowS, Gen.cropKernel, Gen.cropWrapper, boundsS, scanS, hitS, dirRange, castS, matchS, crop, cropBounds,
    bounds, selected]

/-- trim keeps a cell exactly when its value is not listed -- NaN included: a listed NaN is excluded -/
theorem kept_iff (excludes : List Num) (v : Num) : kept excludes v = true ↔ v ∉ excludes := by
  simp only [kept, Bool.not_eq_true', List.any_eq_false, beq_iff_eq]
  constructor
  · intro h hv; exact h v hv rfl
  · intro h e he hev; exact h (hev ▸ he)

/-- crop selects a zone cell exactly when its (non-NaN) id is listed -/
theorem selected_iff (ids : List Num) (v : Num) : selected ids v = true ↔ v ≠ Num.nan ∧ v ∈ ids := by
  simp only [selected, ieeeEq, List.any_eq_true, Bool.and_eq_true, bne_iff_ne, beq_iff_eq]
  constructor
  · rintro ⟨e, he, hne, rfl⟩; exact ⟨hne, he⟩
  · rintro ⟨hne, hv⟩; exact ⟨v, hv, hne, rfl⟩

/-- a window `[t,b]×[l,r]` -/
def Inside (t b l r : Int) (y x : Nat) : Prop := t ≤ (y : Int) ∧ (y : Int) ≤ b ∧ l ≤ (x : Int) ∧ (x : Int) ≤ r

/-- If some cell is a hit, the bounds are inside the raster, every hit lies inside the window, each
    of the four border lines of the window holds a hit, hence every window that contains all hits
    contains this one.  If no cell is a hit the window is the empty `(0,-1,0,-1)`. -/
theorem bounds_minimal (rows cols : Nat) (hit : Nat → Nat → Bool) :
    ((∃ y x, y < rows ∧ x < cols ∧ hit y x = true) →
      ∃ t b l r : Nat, bounds rows cols hit = ⟨t, b, l, r⟩
        ∧ t ≤ b ∧ b < rows ∧ l ≤ r ∧ r < cols
        ∧ (∀ y x, y < rows → x < cols → hit y x = true → Inside t b l r y x)
        ∧ (∃ x, x < cols ∧ hit t x = true) ∧ (∃ x, x < cols ∧ hit b x = true)
        ∧ (∃ y, y < rows ∧ hit y l = true) ∧ (∃ y, y < rows ∧ hit y r = true)
        ∧ ∀ t' b' l' r' : Int,
            (∀ y x, y < rows → x < cols → hit y x = true → Inside t' b' l' r' y x) →
            t' ≤ t ∧ (b : Int) ≤ b' ∧ l' ≤ l ∧ (r : Int) ≤ r')
    ∧ ((∀ y x, y < rows → x < cols → hit y x = false) → bounds rows cols hit = ⟨0, -1, 0, -1⟩) := by
  refine ⟨?_, bounds_of_no_hit rows cols hit⟩
  intro h
  obtain ⟨t, b, l, r, hb, ht, hbb, hl, hr, ⟨xt, hxt, hht⟩, ⟨xb, hxb, hhb⟩, ⟨yl, hyl, hhl⟩, ⟨yr, hyr, hhr⟩, hall⟩ :=
    bounds_of_hit rows cols hit h
  have e1 := hall t xt ht hxt hht
  have e2 := hall yl l hyl hl hhl
  refine ⟨t, b, l, r, hb, by omega, hbb, by omega, hr, ?_, ⟨xt, hxt, hht⟩, ⟨xb, hxb, hhb⟩, ⟨yl, hyl, hhl⟩,
    ⟨yr, hyr, hhr⟩, ?_⟩
  · intro y x hy hx hh
    have := hall y x hy hx hh
    simp only [Inside]; omega
  · intro t' b' l' r' hin
    have a1 := hin t xt ht hxt hht
    have a2 := hin b xb hbb hxb hhb
    have a3 := hin yl l hyl hl hhl
    have a4 := hin yr r hyr hr hhr
    simp only [Inside] at a1 a2 a3 a4
    omega

/-! ### the window is a contiguous slice: cells, coordinates, attrs at the same positions -/

theorem window_is_slice (ra : Raster κ τ) (t b l r : Nat) (name : String)
    (htb : t ≤ b) (hb : b < ra.rows) (hlr : l ≤ r) (hr : r < ra.cols) :
    let w := window ra ⟨t, b, l, r⟩ name
    w.cells.length = b - t + 1 ∧ w.ys.length = b - t + 1 ∧ w.xs.length = r - l + 1
    ∧ (∀ i, i ≤ b - t → w.ys[i]? = some (ra.ys (t + i))
        ∧ ∃ row, w.cells[i]? = some row ∧ row.length = r - l + 1
            ∧ ∀ j, j ≤ r - l → row[j]? = some (ra.cell (t + i) (l + j)))
    ∧ (∀ j, j ≤ r - l → w.xs[j]? = some (ra.xs (l + j)))
    ∧ w.attrs = ra.attrs ∧ w.name = name := by
  intro w
  have h1 : min (b + 1) ra.rows - t = b - t + 1 := by omega
  have h2 : min (r + 1) ra.cols - l = r - l + 1 := by omega
  simp only [w, window, sliceIdx_nat, h1, h2]
  refine ⟨by simp, by simp, by simp, ?_, ?_, by simp⟩
  · intro i hi
    have hi' : i < b - t + 1 := by omega
    refine ⟨by simp [hi'], ?_⟩
    refine ⟨(List.range' l (r - l + 1)).map fun x => ra.cell (t + i) x, by simp [hi'], by simp, ?_⟩
    intro j hj
    have hj' : j < r - l + 1 := by omega
    simp [hj']
  · intro j hj
    have hj' : j < r - l + 1 := by omega
    simp [hj']

/-- *every* coordinate variable of the raster -- scalar coordinates, the dimension coordinates with their attrs, extra
    1-D coordinates along one dimension, 2-D auxiliary coordinates -- reappears in the window: the same variables in the
    same order, each under its name, with its own attrs and its own dimensions, and its labels are the original's at the
    same positions (restricted along the dimensions it has, untouched along the others) -/
theorem window_coords_are_slices (ra : Raster κ τ) (t b l r : Nat) (name : String)
    (htb : t ≤ b) (hb : b < ra.rows) (hlr : l ≤ r) (hr : r < ra.cols) :
    let w := window ra ⟨t, b, l, r⟩ name
    w.coords.length = ra.coords.length
    ∧ ∀ (k : Nat) (c : Coord κ τ), ra.coords[k]? = some c →
        ∃ wc : WCoord κ τ, w.coords[k]? = some wc ∧ wc.name = c.name ∧ wc.onY = c.onY ∧ wc.onX = c.onX ∧ wc.attrs = c.attrs
          ∧ wc.vals.length = (if c.onY then b - t + 1 else 1)
          ∧ ∀ i, i < (if c.onY then b - t + 1 else 1) →
              ∃ row, wc.vals[i]? = some row ∧ row.length = (if c.onX then r - l + 1 else 1)
                ∧ ∀ j, j < (if c.onX then r - l + 1 else 1) →
                    row[j]? = some (c.val (if c.onY then t + i else 0) (if c.onX then l + j else 0)) := by
  intro w
  have h1 : min (b + 1) ra.rows - t = b - t + 1 := by omega
  have h2 : min (r + 1) ra.cols - l = r - l + 1 := by omega
  simp only [w, window, sliceIdx_nat, h1, h2]
  refine ⟨by simp, ?_⟩
  intro k c hk
  refine ⟨c.restrict (List.range' t (b - t + 1)) (List.range' l (r - l + 1)), by simp [hk], rfl, rfl, rfl, rfl, ?_, ?_⟩
  · cases hy : c.onY <;> simp [Coord.restrict, hy]
  · intro i hi
    cases hy : c.onY <;> cases hx : c.onX <;> simp only [hy, if_true, if_false, Bool.false_eq_true] at hi ⊢
    all_goals
      refine ⟨_, by simp [Coord.restrict, hy, hx, hi]; rfl, by simp, ?_⟩
      intro j hj
      simp [hj]

/-- the empty window has no cell and no label, and still the raster's attrs; every coordinate variable is still there
    with its name and attrs, empty along the dimensions it has (a scalar coordinate keeps its value) -/
theorem window_empty (ra : Raster κ τ) (name : String) :
    let w := window ra ⟨0, -1, 0, -1⟩ name
    w.cells = [] ∧ w.ys = [] ∧ w.xs = [] ∧ w.attrs = ra.attrs ∧ w.name = name
    ∧ w.coords = ra.coords.map fun c => ⟨c.name, c.onY, c.onX,
        (if c.onY then [] else [if c.onX then [] else [c.val 0 0]]), c.attrs⟩ := by
  simp only [window, sliceIdx, Coord.restrict]
  refine ⟨by simp, by simp, by simp, by simp, by simp, ?_⟩
  apply List.map_congr_left
  intro c _
  cases c.onY <;> cases c.onX <;> simp

/-- the window cut at bounds `w` of which the minimal-window clause holds, whatever that clause `P` says of the four
    numbers: it is the cut at those numbers, and has no cell and no label when `w` is the empty `(0,-1,0,-1)` -/
theorem window_of_minimal {P : Nat → Nat → Nat → Nat → Prop} {A E : Prop} {w : Bounds} (v : Raster κ τ) (name : String)
    (h : (A → ∃ t b l r : Nat, w = ⟨t, b, l, r⟩ ∧ P t b l r) ∧ (E → w = ⟨0, -1, 0, -1⟩)) :
    (A → ∃ t b l r : Nat, window v w name = window v ⟨t, b, l, r⟩ name ∧ P t b l r)
    ∧ (E → (window v w name).cells = [] ∧ (window v w name).ys = [] ∧ (window v w name).xs = []) := by
  refine ⟨fun a => ?_, fun e => ?_⟩
  · obtain ⟨t, b, l, r, hw, hp⟩ := h.1 a
    exact ⟨t, b, l, r, by rw [hw], hp⟩
  · rw [h.2 e]
    exact ⟨(window_empty v name).1, (window_empty v name).2.1, (window_empty v name).2.2.1⟩

/-- `trim` -- as the shapes generated from the source describe it -- returns the smallest window of the
    raster containing every cell whose value is not listed -/
theorem trim_minimal (ra : Raster κ τ) (excludes : List Num) (name : String) :
    ((∃ y x, y < ra.rows ∧ x < ra.cols ∧ ra.cell y x ∉ excludes) →
      ∃ t b l r : Nat, windowS Gen.trimKernel Gen.trimWrapper ra ra excludes name = window ra ⟨t, b, l, r⟩ name
        ∧ t ≤ b ∧ b < ra.rows ∧ l ≤ r ∧ r < ra.cols
        ∧ (∀ y x, y < ra.rows → x < ra.cols → ra.cell y x ∉ excludes → Inside t b l r y x)
        ∧ (∃ x, x < ra.cols ∧ ra.cell t x ∉ excludes) ∧ (∃ x, x < ra.cols ∧ ra.cell b x ∉ excludes)
        ∧ (∃ y, y < ra.rows ∧ ra.cell y l ∉ excludes) ∧ (∃ y, y < ra.rows ∧ ra.cell y r ∉ excludes)
        ∧ ∀ t' b' l' r' : Int,
            (∀ y x, y < ra.rows → x < ra.cols → ra.cell y x ∉ excludes → Inside t' b' l' r' y x) →
            t' ≤ t ∧ (b : Int) ≤ b' ∧ l' ≤ l ∧ (r : Int) ≤ r')
    ∧ ((∀ y x, y < ra.rows → x < ra.cols → ra.cell y x ∈ excludes) →
        (windowS Gen.trimKernel Gen.trimWrapper ra ra excludes name).cells = []
        ∧ (windowS Gen.trimKernel Gen.trimWrapper ra ra excludes name).ys = []
        ∧ (windowS Gen.trimKernel Gen.trimWrapper ra ra excludes name).xs = []) := by
  rw [generated_trim_is_model]
  have key := bounds_minimal ra.rows ra.cols (fun y x => kept excludes (ra.cell y x))
  simp only [Bool.eq_false_iff, ne_eq, kept_iff, Decidable.not_not] at key
  exact window_of_minimal ra name key

/-- `crop` -- as the shapes generated from the source describe it -- returns the window of `values`
    spanning all cells of `zones` whose id is listed -/
theorem crop_minimal (zones values : Raster κ τ) (ids : List Num) (name : String) :
    ((∃ y x, y < zones.rows ∧ x < zones.cols ∧ selected ids (zones.cell y x) = true) →
      ∃ t b l r : Nat, windowS Gen.cropKernel Gen.cropWrapper zones values ids name = window values ⟨t, b, l, r⟩ name
        ∧ t ≤ b ∧ b < zones.rows ∧ l ≤ r ∧ r < zones.cols
        ∧ (∀ y x, y < zones.rows → x < zones.cols → selected ids (zones.cell y x) = true → Inside t b l r y x)
        ∧ (∃ x, x < zones.cols ∧ selected ids (zones.cell t x) = true)
        ∧ (∃ x, x < zones.cols ∧ selected ids (zones.cell b x) = true)
        ∧ (∃ y, y < zones.rows ∧ selected ids (zones.cell y l) = true)
        ∧ (∃ y, y < zones.rows ∧ selected ids (zones.cell y r) = true)
        ∧ ∀ t' b' l' r' : Int,
            (∀ y x, y < zones.rows → x < zones.cols → selected ids (zones.cell y x) = true → Inside t' b' l' r' y x) →
            t' ≤ t ∧ (b : Int) ≤ b' ∧ l' ≤ l ∧ (r : Int) ≤ r')
    ∧ ((∀ y x, y < zones.rows → x < zones.cols → selected ids (zones.cell y x) = false) →
        (windowS Gen.cropKernel Gen.cropWrapper zones values ids name).cells = []
        ∧ (windowS Gen.cropKernel Gen.cropWrapper zones values ids name).ys = []
        ∧ (windowS Gen.cropKernel Gen.cropWrapper zones values ids name).xs = []) := by
  rw [generated_crop_is_model]
  exact window_of_minimal values name (bounds_minimal zones.rows zones.cols fun y x => selected ids (zones.cell y x))

/-! ### the programs generated from the source (layer T3): `Gen.IL.trim`, `Gen.IL.crop`

  `IL.trim_refines` / `IL.crop_refines` (Proofs/ILTrim.lean) prove, for every number type `[Fl F]`, every raster
  size (0 × n and n × 0 included) and every list, that the program translated statement by statement from the
  source of `_trim` / `_crop` ends with `return` and returns `Trim.bounds rows cols hit`, where a cell is a hit
  iff no listed `e` has `e == v or (isnan(e) and isnan(v))` (trim) resp. some listed `e` has `e == v` (crop).  All four
  scans are instances of one statement-building function (`TrimScan.scanSt`), handled by one lemma
  (`TrimScan.scanSt_spec`); that the generated bodies are such instances is `TrimScan.trim_body_eq` / `crop_body_eq`
  (by `decide`), so any edit of the source that changes the translated program changes that obligation. -/

section generated_programs
open XrsVerif.IL XrsVerif.IL.TrimScan

/-- the minimal-window clause, for four integers returned by a kernel and a hit predicate -/
def MinimalWindow (rows cols : Nat) (hit : Nat → Nat → Bool) (w : Bounds) : Prop :=
  ((∃ y x, y < rows ∧ x < cols ∧ hit y x = true) →
    ∃ t b l r : Nat, w = ⟨t, b, l, r⟩
      ∧ t ≤ b ∧ b < rows ∧ l ≤ r ∧ r < cols
      ∧ (∀ y x, y < rows → x < cols → hit y x = true → Inside t b l r y x)
      ∧ (∃ x, x < cols ∧ hit t x = true) ∧ (∃ x, x < cols ∧ hit b x = true)
      ∧ (∃ y, y < rows ∧ hit y l = true) ∧ (∃ y, y < rows ∧ hit y r = true)
      ∧ ∀ t' b' l' r' : Int,
          (∀ y x, y < rows → x < cols → hit y x = true → Inside t' b' l' r' y x) →
          t' ≤ t ∧ (b : Int) ≤ b' ∧ l' ≤ l ∧ (r : Int) ≤ r')
  ∧ ((∀ y x, y < rows → x < cols → hit y x = false) → w = ⟨0, -1, 0, -1⟩)

/-- a run whose four results are the model's bounds, read off the arrays of a state that holds the raster `cell` and the
    list `lst`: they are the bounds of `cell`, hence its minimal window, whatever the hit test `hitv` is -/
theorem minimal_of_refines {F : Type} [Fl F] {s r : State F} {rows cols : Nat} {cell : Nat → Nat → F} {nm : String}
    {lst : List F} (h : Holds s rows cols cell nm lst) (hitv : List F → F → Bool)
    (h2 : progBounds r = bounds rows cols (fun y x => hitv (s.fa nm) (cellAt s cols y x))) :
    progBounds r = bounds rows cols (fun y x => hitv lst (cell y x))
    ∧ MinimalWindow rows cols (fun y x => hitv lst (cell y x)) (progBounds r) := by
  have hb : progBounds r = bounds rows cols (fun y x => hitv lst (cell y x)) := by
    rw [h2, h.list]
    exact bounds_congr _ _ _ _ (fun y x hy hx => by rw [h.cells y x hy hx])
  exact ⟨hb, hb ▸ bounds_minimal rows cols _⟩

/-- the generated `_trim`, over any number type: it returns, and its four results are the minimal window of the cells
    that no listed value matches (`==`, or both NaN) -- empty `(0,-1,0,-1)` when every cell is matched -/
theorem generated_trim_program_minimal {F : Type} [Fl F] (s : State F) (fuel rows cols : Nat)
    (cell : Nat → Nat → F) (excludes : List F) (h : Holds s rows cols cell "excludes" excludes) :
    (Gen.IL.trim.run s fuel).ctl = .ret
    ∧ progBounds (Gen.IL.trim.run s fuel) = bounds rows cols (fun y x => trimHit excludes (cell y x))
    ∧ MinimalWindow rows cols (fun y x => trimHit excludes (cell y x)) (progBounds (Gen.IL.trim.run s fuel)) := by
  obtain ⟨h1, h2⟩ := trim_refines s fuel rows cols h.run h.shape h.lshape
  exact ⟨h1, minimal_of_refines h trimHit h2⟩

/-- the generated `_crop`, over any number type: it returns, and its four results are the minimal window of the cells
    that `==` some listed value -- empty `(0,-1,0,-1)` when there is none -/
theorem generated_crop_program_minimal {F : Type} [Fl F] (s : State F) (fuel rows cols : Nat)
    (cell : Nat → Nat → F) (ids : List F) (h : Holds s rows cols cell "values" ids) :
    (Gen.IL.crop.run s fuel).ctl = .ret
    ∧ progBounds (Gen.IL.crop.run s fuel) = bounds rows cols (fun y x => cropHit ids (cell y x))
    ∧ MinimalWindow rows cols (fun y x => cropHit ids (cell y x)) (progBounds (Gen.IL.crop.run s fuel)) := by
  obtain ⟨h1, h2⟩ := crop_refines s fuel rows cols h.run h.shape h.lshape
  exact ⟨h1, minimal_of_refines h cropHit h2⟩

/-- at the model's numbers (`Wire.Num` read as a number type, Proofs/NumFl.lean: `Fl.eq` = `ieeeEq`, `Fl.isnan` =
    "is NaN") the program's hit predicates are the model's `kept` / `selected` -/
theorem trimHit_is_kept (excludes : List Num) (v : Num) : trimHit excludes v = kept excludes v := by
  have : ∀ e, trimMatch e v = (e == v) := fun e => by
    rw [← matchS_nanAware]; rfl
  simp [trimHit, kept, this]

theorem cropHit_is_selected (ids : List Num) (v : Num) : cropHit ids v = selected ids v := rfl

/-- the generated `_trim` run on the cells of a raster and an exclusion list returns the model's bounds; hence the
    window it cuts is `trim` as the generated shapes describe it … -/
theorem generated_trim_program_is_model (ra : Raster κ τ) (excludes : List Num) (name : String)
    (s : State Num) (fuel : Nat) (h : Holds s ra.rows ra.cols ra.cell "excludes" excludes) :
    (Gen.IL.trim.run s fuel).ctl = .ret
    ∧ progBounds (Gen.IL.trim.run s fuel) = trimBounds ra excludes
    ∧ window ra (progBounds (Gen.IL.trim.run s fuel)) name
        = windowS Gen.trimKernel Gen.trimWrapper ra ra excludes name := by
  obtain ⟨h1, h2, _⟩ := generated_trim_program_minimal s fuel ra.rows ra.cols ra.cell excludes h
  have hb : progBounds (Gen.IL.trim.run s fuel) = trimBounds ra excludes := by
    rw [h2]; simp only [trimHit_is_kept]; rfl
  exact ⟨h1, hb, by rw [hb, generated_trim_is_model]; rfl⟩

/-- … and that window is the smallest window of the raster containing every cell whose value is not listed
    (`trim_minimal` for the *generated program*) -/
theorem generated_trim_window_minimal (ra : Raster κ τ) (excludes : List Num) (name : String)
    (s : State Num) (fuel : Nat) (h : Holds s ra.rows ra.cols ra.cell "excludes" excludes) :
    let w := window ra (progBounds (Gen.IL.trim.run s fuel)) name
    ((∃ y x, y < ra.rows ∧ x < ra.cols ∧ ra.cell y x ∉ excludes) →
      ∃ t b l r : Nat, w = window ra ⟨t, b, l, r⟩ name
        ∧ t ≤ b ∧ b < ra.rows ∧ l ≤ r ∧ r < ra.cols
        ∧ (∀ y x, y < ra.rows → x < ra.cols → ra.cell y x ∉ excludes → Inside t b l r y x)
        ∧ (∃ x, x < ra.cols ∧ ra.cell t x ∉ excludes) ∧ (∃ x, x < ra.cols ∧ ra.cell b x ∉ excludes)
        ∧ (∃ y, y < ra.rows ∧ ra.cell y l ∉ excludes) ∧ (∃ y, y < ra.rows ∧ ra.cell y r ∉ excludes)
        ∧ ∀ t' b' l' r' : Int,
            (∀ y x, y < ra.rows → x < ra.cols → ra.cell y x ∉ excludes → Inside t' b' l' r' y x) →
            t' ≤ t ∧ (b : Int) ≤ b' ∧ l' ≤ l ∧ (r : Int) ≤ r')
    ∧ ((∀ y x, y < ra.rows → x < ra.cols → ra.cell y x ∈ excludes) → w.cells = [] ∧ w.ys = [] ∧ w.xs = []) := by
  intro w
  have hw : w = windowS Gen.trimKernel Gen.trimWrapper ra ra excludes name :=
    (generated_trim_program_is_model ra excludes name s fuel h).2.2
  rw [hw]
  exact trim_minimal ra excludes name

/-- the generated `_crop` run on the cells of `zones` and an id list returns the model's bounds; hence the window of
    `values` it cuts is `crop` as the generated shapes describe it … -/
theorem generated_crop_program_is_model (zones values : Raster κ τ) (ids : List Num) (name : String)
    (s : State Num) (fuel : Nat) (h : Holds s zones.rows zones.cols zones.cell "values" ids) :
    (Gen.IL.crop.run s fuel).ctl = .ret
    ∧ progBounds (Gen.IL.crop.run s fuel) = cropBounds zones ids
    ∧ window values (progBounds (Gen.IL.crop.run s fuel)) name
        = windowS Gen.cropKernel Gen.cropWrapper zones values ids name := by
  obtain ⟨h1, h2, _⟩ := generated_crop_program_minimal s fuel zones.rows zones.cols zones.cell ids h
  have hb : progBounds (Gen.IL.crop.run s fuel) = cropBounds zones ids := by
    rw [h2]; rfl
  exact ⟨h1, hb, by rw [hb, generated_crop_is_model]; rfl⟩

/-- … and that window spans exactly the cells of `zones` whose id is listed (`crop_minimal` for the *generated
    program*) -/
theorem generated_crop_window_minimal (zones values : Raster κ τ) (ids : List Num) (name : String)
    (s : State Num) (fuel : Nat) (h : Holds s zones.rows zones.cols zones.cell "values" ids) :
    let w := window values (progBounds (Gen.IL.crop.run s fuel)) name
    ((∃ y x, y < zones.rows ∧ x < zones.cols ∧ selected ids (zones.cell y x) = true) →
      ∃ t b l r : Nat, w = window values ⟨t, b, l, r⟩ name
        ∧ t ≤ b ∧ b < zones.rows ∧ l ≤ r ∧ r < zones.cols
        ∧ (∀ y x, y < zones.rows → x < zones.cols → selected ids (zones.cell y x) = true → Inside t b l r y x)
        ∧ (∃ x, x < zones.cols ∧ selected ids (zones.cell t x) = true)
        ∧ (∃ x, x < zones.cols ∧ selected ids (zones.cell b x) = true)
        ∧ (∃ y, y < zones.rows ∧ selected ids (zones.cell y l) = true)
        ∧ (∃ y, y < zones.rows ∧ selected ids (zones.cell y r) = true)
        ∧ ∀ t' b' l' r' : Int,
            (∀ y x, y < zones.rows → x < zones.cols → selected ids (zones.cell y x) = true → Inside t' b' l' r' y x) →
            t' ≤ t ∧ (b : Int) ≤ b' ∧ l' ≤ l ∧ (r : Int) ≤ r')
    ∧ ((∀ y x, y < zones.rows → x < zones.cols → selected ids (zones.cell y x) = false) →
        w.cells = [] ∧ w.ys = [] ∧ w.xs = []) := by
  intro w
  have hw : w = windowS Gen.cropKernel Gen.cropWrapper zones values ids name :=
    (generated_crop_program_is_model zones values ids name s fuel h).2.2
  rw [hw]
  exact crop_minimal zones values ids name

end generated_programs

/-! ### the kernels with the plain `e == val` test (`keptAsIs`, D5) and without the early return (`boundsAsIs`, D16),
    where they differ -/

/-- D5: the `e == val` comparison agrees with the NaN-aware one only when NaN is not listed … -/
theorem keptAsIs_partial (excludes : List Num) (v : Num) (h : Num.nan ∉ excludes) :
    keptAsIs excludes v = kept excludes v := by
  simp only [keptAsIs, kept, ieeeEq]
  congr 1
  induction excludes with
  | nil => rfl
  | cons e es ih =>
    have hne : e ≠ Num.nan := fun h' => h (h' ▸ List.mem_cons_self)
    have := ih (fun h' => h (List.mem_cons_of_mem _ h'))
    have hb : (e != Num.nan) = true := by simpa using hne
    simp [List.any_cons, this, hb]

/-- … and with the default exclusion list `(nan,)` it keeps the NaN cells: nothing is trimmed -/
example : keptAsIs [Num.nan] Num.nan = true ∧ kept [Num.nan] Num.nan = false := by decide

/-- D16: without the early return the kernels agree with `bounds` whenever some cell is a hit … -/
theorem boundsAsIs_partial (rows cols : Nat) (hit : Nat → Nat → Bool)
    (h : ∃ y x, y < rows ∧ x < cols ∧ hit y x = true) :
    boundsAsIs rows cols hit = bounds rows cols hit := by
  obtain ⟨y0, x0, hy0, hx0, h0⟩ := h
  have hr : ∃ y ∈ List.range rows, rowHit cols hit y = true :=
    ⟨y0, List.mem_range.mpr hy0, rowHit_iff.mpr ⟨x0, hx0, h0⟩⟩
  obtain ⟨t, ht, _⟩ := scan_found (R := (· < ·)) List.pairwise_lt_range hr
  simp [boundsAsIs, bounds, ht]

/-- … and when nothing is a hit they return `(rows-1, 0, cols-1, 0)`: every scan runs to its end.
    That window is empty unless the raster is 1×1, where it is the whole raster. -/
theorem boundsAsIs_no_hit (rows cols : Nat) (hit : Nat → Nat → Bool) (hr : 0 < rows) (hc : 0 < cols)
    (h : ∀ y x, y < rows → x < cols → hit y x = false) :
    boundsAsIs rows cols hit = ⟨(rows - 1 : Nat), 0, (cols - 1 : Nat), 0⟩ := by
  have hrow : ∀ y ∈ List.range rows, rowHit cols hit y = false := fun y hy =>
    rowHit_of_no_hit h (List.mem_range.mp hy)
  have hcol : ∀ x ∈ List.range cols, colHit rows hit x = false := fun x hx =>
    colHit_of_no_hit h (List.mem_range.mp hx)
  have f1 : (List.range rows).find? (rowHit cols hit) = none :=
    List.find?_eq_none.mpr (by intro y hy; simp [hrow y hy])
  have f2 : (List.range rows).reverse.find? (rowHit cols hit) = none :=
    List.find?_eq_none.mpr (by intro y hy; simp [hrow y (List.mem_reverse.mp hy)])
  have f3 : (List.range cols).find? (colHit rows hit) = none :=
    List.find?_eq_none.mpr (by intro x hx; simp [hcol x hx])
  have f4 : (List.range cols).reverse.find? (colHit rows hit) = none :=
    List.find?_eq_none.mpr (by intro x hx; simp [hcol x (List.mem_reverse.mp hx)])
  obtain ⟨r', rfl⟩ : ∃ r', rows = r' + 1 := ⟨rows - 1, by omega⟩
  obtain ⟨c', rfl⟩ : ∃ c', cols = c' + 1 := ⟨cols - 1, by omega⟩
  simp only [boundsAsIs, scan, scan_fold, f1, f2, f3, f4]
  simp [List.getLast?_reverse, List.head?_range, List.getLast?_range]

/-! ### non-vacuity -/

/-- a 3×4 raster with kept cells (value 5) at (1,1) and (2,2), everything else NaN -/
def exRaster : Raster Nat String :=
  ⟨3, 4, fun y x => if (y = 1 ∧ x = 1) ∨ (y = 2 ∧ x = 2) then Num.fin 5 else Num.nan, fun y => 10 + y, fun x => 20 + x, "attrs",
   [⟨"spatial_ref", false, false, fun _ _ => 0, "crs"⟩, ⟨"y", true, false, fun y _ => 10 + y, "units=m"⟩,
    ⟨"lon", true, true, fun y x => 100 * y + x, "degrees_east"⟩, ⟨"col_km", false, true, fun _ x => 7 * x, ""⟩]⟩

example : trimBounds exRaster [Num.nan] = ⟨1, 2, 1, 2⟩ := by decide
example : (trim exRaster [Num.nan]).cells = [[Num.fin 5, Num.nan], [Num.nan, Num.fin 5]]
    ∧ (trim exRaster [Num.nan]).ys = [11, 12] ∧ (trim exRaster [Num.nan]).xs = [21, 22] := by decide
/-- the coordinate variables of the example (a scalar one, the y dimension coordinate with attrs, a 2-D auxiliary one, an
    extra 1-D one along x) restricted to the window rows 1..2 × columns 1..2 -/
example : (trim exRaster [Num.nan]).coords.map (fun c => (c.name, c.vals, c.attrs))
    = [("spatial_ref", [[0]], "crs"), ("y", [[11], [12]], "units=m"), ("lon", [[101, 102], [201, 202]], "degrees_east"),
       ("col_km", [[7, 14]], "")] := by decide
example : cropBounds exRaster [Num.fin 5] = ⟨1, 2, 1, 2⟩ := by decide
example : trimBounds exRaster [Num.nan, Num.fin 5] = ⟨0, -1, 0, -1⟩ := by decide
example : (windowS Gen.trimKernel Gen.trimWrapper exRaster exRaster [Num.nan] "t").cells
    = [[Num.fin 5, Num.nan], [Num.nan, Num.fin 5]] := by decide
example : ∃ y x, y < exRaster.rows ∧ x < exRaster.cols ∧ exRaster.cell y x ∉ [Num.nan] :=
  ⟨1, 1, by decide, by decide, by decide⟩


/-- the hypotheses of the theorems about the generated programs are met by the state the wrapper builds: the
    example raster, row-major, and the default exclusion list `(nan,)` -/
example : IL.Holds (IL.inputState 3 4 (IL.flatCells 3 4 exRaster.cell) "excludes" [Num.nan])
    exRaster.rows exRaster.cols exRaster.cell "excludes" [Num.nan] :=
  IL.inputState_holds 3 4 exRaster.cell "excludes" (by decide) [Num.nan]

/-- … so the generated `_trim` program, run on it, returns `(1, 2, 1, 2)`, and `(0, -1, 0, -1)` when 5 is excluded too -/
example : IL.progBounds (Gen.IL.trim.run (IL.inputState 3 4 (IL.flatCells 3 4 exRaster.cell) "excludes" [Num.nan]) 0)
    = ⟨1, 2, 1, 2⟩ := by
  rw [(generated_trim_program_is_model exRaster [Num.nan] "t" _ 0
    (IL.inputState_holds 3 4 exRaster.cell "excludes" (by decide) [Num.nan])).2.1]
  decide

example : IL.progBounds (Gen.IL.trim.run
    (IL.inputState 3 4 (IL.flatCells 3 4 exRaster.cell) "excludes" [Num.nan, Num.fin 5]) 0) = ⟨0, -1, 0, -1⟩ := by
  rw [(generated_trim_program_is_model exRaster [Num.nan, Num.fin 5] "t" _ 0
    (IL.inputState_holds 3 4 exRaster.cell "excludes" (by decide) [Num.nan, Num.fin 5])).2.1]
  decide

example : IL.progBounds (Gen.IL.crop.run (IL.inputState 3 4 (IL.flatCells 3 4 exRaster.cell) "values" [Num.fin 5]) 0)
    = ⟨1, 2, 1, 2⟩ := by
  rw [(generated_crop_program_is_model exRaster exRaster [Num.fin 5] "c" _ 0
    (IL.inputState_holds 3 4 exRaster.cell "values" (by decide) [Num.fin 5])).2.1]
  decide

/-- an empty raster (0 × 3) is covered: the generated program returns the empty window -/
example (F : Type) [Fl F] (lst : List F) :
    IL.progBounds (Gen.IL.trim.run (IL.inputState 0 3 ([] : List F) "excludes" lst) 0) = ⟨0, -1, 0, -1⟩ := by
  have h : IL.Holds (IL.inputState 0 3 ([] : List F) "excludes" lst) 0 3 (fun _ _ => Fl.nan) "excludes" lst :=
    IL.inputState_holds 0 3 (fun _ _ => Fl.nan) "excludes" (by decide) lst
  exact ((generated_trim_program_minimal _ 0 0 3 _ lst h).2.2).2 (fun y x hy _ => absurd hy (Nat.not_lt_zero y))

end XrsVerif.C18
