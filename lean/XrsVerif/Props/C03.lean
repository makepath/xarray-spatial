import XrsVerif.Proofs.CrosstabDask
import XrsVerif.Proofs.ChunkGrid
import XrsVerif.Proofs.KSimp
import XrsVerif.Gen.Zonal
import XrsVerif.Gen.Kernels
import Mathlib.Tactic.FieldSimp
import Mathlib.Tactic.Ring
/-
  C03 -- Zonal tables do not depend on how Dask rasters are chunked.

  The dask paths of `stats` and `crosstab` are modelled in Model/ZonalDask.lean / Model/Crosstab.lean:
  every pair of `zip(zones_blocks, values_blocks)` runs the position-faithful sort-and-stride with the
  *global* `unique_zones`, the per-block partial tables are reduced over the block axis by the
  combiners of `_DASK_STATS` (stats) or added key-wise (crosstab).  The structural facts the model is
  run with are read from /repo's source by harness/facts_zonal.py and the translator:
    `Gen.Zonal.stripIndices`                         (D1)  indices of non-finite zones dropped before the gather
    `Gen.Zonal.comb`                                 (D2)  shapes of the `_DASK_STATS` lambdas
    `Gen.Zonal.statsAligns / crosstab2dAligns`       (D12) values rechunked onto the zones chunking
    `Gen.Zonal.rowsSortedDask = rowsSortedNumpy`           both backends label the rows the same way
    `Gen.dask_mean / dask_var / dask_std`                  the documented formulas, translated from the source
  On a tree with one of the defects the corresponding `*_fact` does not check and this file does not build.

  Quantifiers: all rasters, all `nodata` values (stats) and all `valid` predicates (crosstab), all requests
  with at least one existing zone, all stat subsets, **every partition of the cells into blocks**
  (`GoodBlocks`), hence (`goodBlocks_pairBlocks`) every chunking of the zones raster and -- because of the rechunk -- every
  chunking of the values raster; every sorting permutation in every block.  max / min / count are
  exact; sum / mean / var / std hold over an arbitrary linearly ordered field (float rounding is
  covered by the correspondence run only); `sqrt` is uninterpreted.
  Schedulers / worker counts: every block function and combiner of the model is a pure function of
  its inputs, which is what makes the result schedule independent; the real schedulers (synchronous,
  threads with 1..4 workers) are exercised by harness/corr_C03.py, not proved here.
-/
set_option linter.unnecessarySeqFocus false
namespace XrsVerif.C03
open XrsVerif XrsVerif.Zonal

variable {κ γ : Type} [LinearOrder κ] [LinearOrder γ]

theorem strip_fact : Gen.Zonal.stripIndices = true := rfl
/-- `_DASK_STATS`: nanmax, nanmin, and NaN-preserving sums (a zone empty in every block stays NaN) -/
theorem comb_fact : Gen.Zonal.comb = fixedComb := by funext s; cases s <;> rfl
/-- `_DASK_BLOCK_STATS`: max, min, sum, count, sum of squares of the block's zone values -/
theorem block_stats_fact : Gen.Zonal.blockStatsOk = true := rfl
/-- `_stats_dask_numpy` feeds `_dask_mean(sum, count)`, `_dask_std/_dask_var(sum_squares, sum ** 2, count)` -/
theorem dask_args_fact : Gen.Zonal.daskMeanArgs = ["sum", "count"] ∧
    Gen.Zonal.daskStdArgs = ["sum_squares", "sum**2", "count"] ∧
    Gen.Zonal.daskVarArgs = ["sum_squares", "sum**2", "count"] := by decide
theorem stats_aligns_fact : Gen.Zonal.statsAligns = true := rfl
theorem crosstab2d_aligns_fact : Gen.Zonal.crosstab2dAligns = true := rfl
theorem crosstab3d_aligns_fact : Gen.Zonal.crosstab3dAligns = true := rfl
theorem rows_flags_agree : Gen.Zonal.rowsSortedDask = Gen.Zonal.rowsSortedNumpy := rfl

section formulas
variable {K : Type} [Field K] [LinearOrder K] [IsStrictOrderedRing K] [Trig K]

/-- the translated `_dask_mean` is the model's `daskMean` (`sums / counts`, NaN for 0/0 and NaN operands) -/
theorem gen_dask_mean (s c : NV K) :
    Gen.dask_mean.cell (envOf [("sums", s), ("counts", c)]) (rd0 []) (fun _ => []) = daskMean s c := by
  cases s <;> cases c <;> simp [kl, Gen.dask_mean, daskMean, oDiv]

/-- the translated `_dask_var` is `(sum_squares - squared_sum / n) / n` -/
theorem gen_dask_var (ss sq n : NV K) :
    Gen.dask_var.cell (envOf [("sum_squares", ss), ("squared_sum", sq), ("n", n)]) (rd0 []) (fun _ => [])
      = daskVar ss sq n := by
  cases ss <;> cases sq <;> cases n <;> simp [kl, Gen.dask_var, daskVar, oDiv, oSub] <;> split <;> simp_all

/-- the translated `_dask_std` is the root of the same expression -/
theorem gen_dask_std (ss sq n : NV K) :
    Gen.dask_std.cell (envOf [("sum_squares", ss), ("squared_sum", sq), ("n", n)]) (rd0 []) (fun _ => [])
      = daskStd Trig.sqrt ss sq n := by
  cases ss <;> cases sq <;> cases n <;> simp [kl, Gen.dask_std, daskStd, daskVar, oDiv, oSub] <;> split <;> simp_all

end formulas

section stats
variable {F : Type} [Field F] [LinearOrder F] [IsStrictOrderedRing F]

/-- **dask stats = NumPy stats** for every partition of the cells into aligned blocks: same zone
    column (ascending, requested and existing), and every statistic equal -- max / min / count exactly,
    sum / mean / var / std as elements of the field (`sum / count`, `(ss - s²/n)/n`, its root) -/
theorem dask_stats_eq_numpy (sqrt : F → F) (zones : Nat → X κ) (values : Nat → X F) (nodata : Option (X F))
    (cells perm : List Nat) (blocks : List Block) (stats : List Stat) (zoneIds : Option (List κ))
    (hb : GoodBlocks zones cells blocks) (hp : SortsCells zones cells perm)
    (hreq : zoneIds = none ∨ wantedZones zones cells zoneIds ≠ []) :
    daskStats Gen.Zonal.stripIndices Gen.Zonal.comb sqrt zones values cells (validX nodata) blocks stats zoneIds
      = some (statsNumpy Gen.Zonal.stripIndices zones values cells (validX nodata) (none : Option F)
                (stats.map (Stat.func sqrt)) zoneIds perm) := by
  have hfin := validX_isFin nodata
  rw [strip_fact, comb_fact, daskStats_fixed sqrt zones values (validX nodata) hfin cells blocks stats zoneIds hb hreq,
    statsNumpy_fixed zones values cells perm (validX nodata) none _ zoneIds hp]
  congr 2
  rw [List.map_map]
  apply List.map_congr_left
  intro s _
  apply List.map_congr_left
  intro u _
  rw [zoneStat_perm zones values (validX nodata) none (Stat.func sqrt s) (Stat.func_permInv sqrt s) perm cells hp.isPerm u]
  exact (zoneStat_eq_partOf zones values (validX nodata) hfin (s.eval sqrt) cells u).symm

/-- **every chunking**: an `h × w` raster, zones chunked by any `(rs, cs)` with `sum rs = h`, `sum cs = w`,
    values arriving with *any* chunking `vch`: after the rechunk the pairs of blocks are good, so the
    table is the NumPy table -/
theorem dask_stats_any_chunking (sqrt : F → F) (h w : Nat) (zones : Nat → X κ) (values : Nat → X F)
    (nodata : Option (X F)) (zch vch : List Nat × List Nat) (perms : List (List Nat)) (perm : List Nat)
    (stats : List Stat) (zoneIds : Option (List κ))
    (hr : zch.1.sum = h) (hc : zch.2.sum = w)
    (hl : perms.length = (gridBlocks w zch.1 zch.2).length)
    (hs : ∀ b ∈ pairBlocks true w zch vch perms, SortsCells (Block.fn b.zc zones) (List.range b.zc.length) b.perm)
    (hp : SortsCells zones (List.range (h * w)) perm)
    (hreq : zoneIds = none ∨ wantedZones zones (List.range (h * w)) zoneIds ≠ []) :
    daskStats Gen.Zonal.stripIndices Gen.Zonal.comb sqrt zones values (List.range (h * w)) (validX nodata)
        (pairBlocks Gen.Zonal.statsAligns w zch vch perms) stats zoneIds
      = some (statsNumpy Gen.Zonal.stripIndices zones values (List.range (h * w)) (validX nodata) (none : Option F)
                (stats.map (Stat.func sqrt)) zoneIds perm) := by
  rw [stats_aligns_fact]
  exact dask_stats_eq_numpy sqrt zones values nodata _ perm _ stats zoneIds
    (goodBlocks_pairBlocks zones h w zch vch perms hr hc hl hs) hp hreq

end stats

/-- **block tables add up**: the dask crosstab (2-D, counts) is the NumPy crosstab for every partition
    of the cells into aligned blocks; `percentage` is taken after combining on both paths (`CTable.finish`) -/
theorem crosstab_blocks_add (zones : Nat → X κ) (values : Nat → X γ) (valid : X γ → Bool)
    (cells perm : List Nat) (zoneIds : Option (List κ)) (catIds : Option (List γ))
    (blocks : List Block) (hb : GoodBlocks zones cells blocks) (hne : blocks ≠ [])
    (hp : SortsCells zones cells perm) :
    crosstabDask2d Gen.Zonal.stripIndices Gen.Zonal.catStartAlways Gen.Zonal.rowsSortedDask
        zones values valid cells zoneIds catIds blocks
      = crosstabNumpy2d Gen.Zonal.stripIndices Gen.Zonal.catStartAlways Gen.Zonal.rowsSortedNumpy
        zones values valid cells zoneIds catIds perm := by
  rw [strip_fact, rows_flags_agree]
  exact crosstabDask2d_eq_numpy _ _ zones values valid cells perm zoneIds catIds blocks hb hne hp

/-- **the percentage is taken the same way on both paths**: the expression `_crosstab_df_dask` normalises the
    combined counts with (`Gen.Zonal.pctDask`, translated from the source) has the value of the one
    `_crosstab_numpy` uses (`Gen.Zonal.pctNumpy`) for every total and every count -- so `crosstab_blocks_add`
    carries over from counts to `agg='percentage'`.  A dask path that normalises by something else (the sum of the
    selected columns, say) is not of this form: `pctDask` is `unknown` and this theorem does not check. -/
theorem percentage_same_on_both_paths {F : Type} [Field F] [CharZero F] (total n : Nat) :
    (pctCell Gen.Zonal.pctDask Gen.Zonal.stridesBits total n : Option F)
      = pctCell Gen.Zonal.pctNumpy Gen.Zonal.stridesBits total n := by
  unfold pctCell
  by_cases h : total = 0
  · simp [h]
  · have ht : ((total : Nat) : F) ≠ 0 := by exact_mod_cast h
    simp only [h, if_false, Gen.Zonal.pctDask, Gen.Zonal.pctNumpy, PExpr.eval, PVal.toF, Option.some.injEq]
    try (first | rfl | (push_cast; ring1) | (push_cast; field_simp; done) | (push_cast; field_simp; ring1))

/-- **every chunking** of both rasters (2-D crosstab): needs the rechunk of the values onto the zones
    chunking, `crosstab2d_aligns_fact` (defect D12 on a tree without it) -/
theorem crosstab_any_chunking (h w : Nat) (zones : Nat → X κ) (values : Nat → X γ) (valid : X γ → Bool)
    (zch vch : List Nat × List Nat) (perms : List (List Nat)) (perm : List Nat)
    (zoneIds : Option (List κ)) (catIds : Option (List γ))
    (hr : zch.1.sum = h) (hc : zch.2.sum = w)
    (hl : perms.length = (gridBlocks w zch.1 zch.2).length) (hne : gridBlocks w zch.1 zch.2 ≠ [])
    (hs : ∀ b ∈ pairBlocks true w zch vch perms, SortsCells (Block.fn b.zc zones) (List.range b.zc.length) b.perm)
    (hp : SortsCells zones (List.range (h * w)) perm) :
    crosstabDask2d Gen.Zonal.stripIndices Gen.Zonal.catStartAlways Gen.Zonal.rowsSortedDask
        zones values valid (List.range (h * w)) zoneIds catIds (pairBlocks Gen.Zonal.crosstab2dAligns w zch vch perms)
      = crosstabNumpy2d Gen.Zonal.stripIndices Gen.Zonal.catStartAlways Gen.Zonal.rowsSortedNumpy
        zones values valid (List.range (h * w)) zoneIds catIds perm := by
  rw [crosstab2d_aligns_fact]
  exact crosstab_blocks_add zones values valid _ perm zoneIds catIds _
    (goodBlocks_pairBlocks zones h w zch vch perms hr hc hl hs) (pairBlocks_ne_nil w zch vch perms hl hne) hp

/-- **3-D** (`agg='count'`, the only aggregate the dask path offers): block columns add up to the NumPy
    table for every partition into aligned blocks, hence (rechunk onto the zones chunking,
    `crosstab3d_aligns_fact`) for every chunking of both rasters -/
theorem crosstab3d_blocks_add {ν : Type} (zones : Nat → X κ) (layers : List (γ × (Nat → ν))) (valid : ν → Bool)
    (cells perm : List Nat) (zoneIds : Option (List κ)) (catIds : Option (List γ))
    (blocks : List Block) (hb : GoodBlocks zones cells blocks) (hne : blocks ≠ [])
    (hp : SortsCells zones cells perm) :
    crosstabDask3d Gen.Zonal.stripIndices Gen.Zonal.rowsSortedDask zones layers valid cells zoneIds catIds blocks
      = crosstabNumpy3d Gen.Zonal.stripIndices Gen.Zonal.rowsSortedNumpy zones layers valid List.length
          cells zoneIds catIds perm := by
  rw [strip_fact, rows_flags_agree]
  exact crosstabDask3d_eq_numpy _ zones layers valid cells perm zoneIds catIds blocks hb hne hp

theorem crosstab3d_any_chunking {ν : Type} (h w : Nat) (zones : Nat → X κ) (layers : List (γ × (Nat → ν)))
    (valid : ν → Bool) (zch vch : List Nat × List Nat) (perms : List (List Nat)) (perm : List Nat)
    (zoneIds : Option (List κ)) (catIds : Option (List γ))
    (hr : zch.1.sum = h) (hc : zch.2.sum = w)
    (hl : perms.length = (gridBlocks w zch.1 zch.2).length) (hne : gridBlocks w zch.1 zch.2 ≠ [])
    (hs : ∀ b ∈ pairBlocks true w zch vch perms, SortsCells (Block.fn b.zc zones) (List.range b.zc.length) b.perm)
    (hp : SortsCells zones (List.range (h * w)) perm) :
    crosstabDask3d Gen.Zonal.stripIndices Gen.Zonal.rowsSortedDask zones layers valid (List.range (h * w))
        zoneIds catIds (pairBlocks Gen.Zonal.crosstab3dAligns w zch vch perms)
      = crosstabNumpy3d Gen.Zonal.stripIndices Gen.Zonal.rowsSortedNumpy zones layers valid List.length
          (List.range (h * w)) zoneIds catIds perm := by
  rw [crosstab3d_aligns_fact]
  exact crosstab3d_blocks_add zones layers valid _ perm zoneIds catIds _
    (goodBlocks_pairBlocks zones h w zch vch perms hr hc hl hs) (pairBlocks_ne_nil w zch vch perms hl hne) hp

/-- D2: a zone that is NaN in every block: `np.nansum` turns it into 0, the NaN-preserving sum of `comb_fact` keeps NaN -/
theorem unrepaired_empty_zone :
    Comb.nansum.eval ([none, none] : List (Option Int)) = some 0 ∧
    Comb.nansumNaN.eval ([none, none] : List (Option Int)) = none := ⟨rfl, rfl⟩

/-- D12: a 2×2 raster, zones chunked by rows, values by columns: without the rechunk the pairs of
    `zip(zones_blocks, values_blocks)` cover different cells; with it they cover the same -/
theorem unaligned_pairs :
    (pairBlocks false 2 ([1, 1], [2]) ([2], [1, 1]) [[], []]).map (fun b => (b.zc, b.vc))
      = [([0, 1], [0, 2]), ([2, 3], [1, 3])] ∧
    (pairBlocks true 2 ([1, 1], [2]) ([2], [1, 1]) [[], []]).map (fun b => (b.zc, b.vc))
      = [([0, 1], [0, 1]), ([2, 3], [2, 3])] := by decide

/-- good blocks exist: the 2×2 raster split by rows, each block sorted -/
example : GoodBlocks (fun i => ([X.fin 2, .fin 1, .nan, .fin 1] : List (X Int)).getD i .nan) (List.range 4)
    [{ zc := [0, 1], vc := [0, 1], perm := [1, 0] }, { zc := [2, 3], vc := [2, 3], perm := [1, 0] }] :=
  ⟨by decide, by decide, by
    intro b hb
    simp only [List.mem_cons, List.not_mem_nil, or_false] at hb
    rcases hb with rfl | rfl <;> exact ⟨by decide, by decide⟩⟩

example : (gridBlocks 3 [1, 1] [2, 1]).flatten = [0, 1, 2, 3, 4, 5] := by decide

end XrsVerif.C03
