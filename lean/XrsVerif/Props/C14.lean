import XrsVerif.Proofs.AStarEuclid
import XrsVerif.Proofs.AStarCoord
import XrsVerif.Proofs.AStarQ2
import XrsVerif.Proofs.AStarGen
import XrsVerif.Proofs.ILAStarMain
import XrsVerif.Proofs.ILAStarER
/-
  C14 -- A* returns a valid, shortest path between the cells the caller named.

  All statements are about `Model/AStar.lean`, the hand model of `xrspatial/pathfinding.py`,
  tied to the code (a) by the correspondence run (harness/corr_C14.py) and
  (b) piece by piece by the theorems of the section on the generated pieces, which mention the definitions that
  `harness/facts_astar.py` regenerates from the source on every run (`Gen/AStarFacts.lean`): the
  heuristic and step-length kernels, the neighbour tables, the body of the relaxation loop, the
  min-cost selection, the barrier test, the coordinate -> pixel expressions, the snap scan.

  Vocabulary (Proofs/AStarInv.lean): `Free e c` = inside the raster and crossable; `Adj e u v` =
  `v` is `u` plus one of the 4 / 8 neighbour offsets; `Route e c l` = a route of crossable cells
  from `start` to `c` of length `l`; `ValidPath e chain g` = the non-NaN cells of the result (the
  list `chain`, goal first) are a duplicate-free chain of crossable cells from `goal` back to
  `start`, consecutive cells are neighbours, `g start = 0` and `g child = g parent + step`.

  Two layers:
   * for EVERY cost structure (`Ops C`: nothing assumed about `+`, `<`, the step lengths or the
     heuristic; in particular for the IEEE-double instance that the driver runs and that agrees
     bit for bit with numba): a returned path is a valid chain, an all-NaN result means no route;
   * for exact costs in any linearly ordered field with a Euclidean distance `d` (`0 ≤ d`,
     `d² = Δy² + Δx²`, so `d` of a diagonal step is a square root of two): additionally the
     sentinel is never hit, a route is found whenever one exists, and the goal's value is the
     minimum over all routes.
-/
set_option linter.unusedVariables false
namespace XrsVerif.C14
open XrsVerif XrsVerif.AStar

/-- a cell's own coordinate denotes that cell (any offset, any non-zero spacing -- ascending,
    descending, fractional --, cell size `|step|` as `calc_res` computes it) -/
theorem pixel_own_coordinate (c0 step : ℚ) (hstep : step ≠ 0) (i : ℕ) :
    pixelId c0 (absR step) (c0 + (i : ℚ) * step) = (i : ℤ) := by
  rw [pixelId_eq_floor, absR_eq_abs]
  have hpos : 0 < |step| := abs_pos.mpr hstep
  have : |c0 + (i : ℚ) * step - c0| / |step| = (i : ℚ) := by
    rw [add_sub_cancel_left, abs_mul, abs_of_nonneg (by positivity : (0 : ℚ) ≤ (i : ℚ))]
    field_simp
  rw [this, Int.floor_eq_iff]
  constructor <;> push_cast <;> linarith

/-- the index returned is that of the nearest centre: no centre `c0 + j*step` is closer to `p`
    (for `p` on the raster's side of the first centre) -/
theorem pixel_nearest_centre (c0 step p : ℚ) (hstep : step ≠ 0) (hside : 0 ≤ (p - c0) / step) (j : ℤ) :
    |p - (c0 + (pixelId c0 (absR step) p : ℚ) * step)| ≤ |p - (c0 + (j : ℚ) * step)| := by
  obtain ⟨h1, h2⟩ := pixelId_bounds c0 (absR step) p
  rw [absR_eq_abs] at h1 h2 ⊢
  generalize pixelId c0 |step| p = k at *
  have hpos : 0 < |step| := abs_pos.mpr hstep
  -- t = (p - c0)/step is the position of p in units of cells
  have ht : |p - c0| / |step| = (p - c0) / step := by
    rw [← abs_div, abs_of_nonneg hside]
  rw [ht] at h1 h2
  have key : ∀ m : ℤ, |p - (c0 + (m : ℚ) * step)| = |(p - c0) / step - (m : ℚ)| * |step| := by
    intro m
    rw [← abs_mul]
    congr 1
    field_simp
    ring
  rw [key k, key j]
  apply mul_le_mul_of_nonneg_right _ (le_of_lt hpos)
  have hk : |(p - c0) / step - (k : ℚ)| ≤ 1 / 2 := by
    rw [abs_le]; constructor <;> linarith
  by_cases hjk : j = k
  · rw [hjk]
  · -- another integer is at least 1/2 away
    have hk2 : (k : ℚ) - 1 / 2 ≤ (p - c0) / step ∧ (p - c0) / step < (k : ℚ) + 1 / 2 := ⟨h1, h2⟩
    rcases lt_or_gt_of_ne hjk with hlt | hgt
    · have : (j : ℚ) + 1 ≤ (k : ℚ) := by exact_mod_cast hlt
      have : 1 / 2 ≤ (p - c0) / step - (j : ℚ) := by linarith
      exact le_trans hk (le_trans this (le_abs_self _))
    · have : (k : ℚ) + 1 ≤ (j : ℚ) := by exact_mod_cast hgt
      have : 1 / 2 ≤ -((p - c0) / step - (j : ℚ)) := by linarith
      exact le_trans hk (le_trans this (neg_le_abs _))

example : pixelId 2 (absR (1 / 10)) (2 + 3 * (1 / 10)) = 3 := by decide +kernel
example : pixelId 0 (absR (-1 / 3)) (0 + 7 * (-1 / 3)) = 7 := by decide +kernel
example : pixelId 0 1 (9 / 10) = 1 := by decide +kernel

/-- a crossable cell keeps its place; otherwise the result is a crossable cell of the raster at
    minimum distance; `none` only when no cell is crossable -/
theorem snap_argmin (h w : Nat) (cross : Cell → Bool) (p : Cell) :
    (cross p = true → findNearest h w cross p = some p) ∧
    (∀ c, findNearest h w cross p = some c →
      cross c = true ∧ (inside h w p = true → inside h w c = true) ∧
      ∀ c', inside h w c' = true → cross c' = true → sqDist c p ≤ sqDist c' p) ∧
    (findNearest h w cross p = none → ∀ c', inside h w c' = true → cross c' = false) :=
  findNearest_spec h w cross p

-- the lone crossable far corner is found
example : findNearest 3 3 (fun c => c == (2, 2)) (0, 0) = some (2, 2) := by decide +kernel

/-- **path validity** (any `Ops C`, e.g. IEEE doubles): when the search returns a path, its
    non-NaN cells are exactly `chain`, a chain from start (value `zero`) to goal in which each
    step goes to a 4- or 8-neighbour, adds exactly that step's length and never enters a barrier or
    NaN cell; in particular a route of that length exists -/
theorem path_is_chain {C : Type} (e : Env C) (hs : inside e.h e.w e.start = true)
    {chain : List Cell} {g : Cell → C} (h : search e = .path chain g) :
    ValidPath e chain g ∧ Route e e.goal (g e.goal) ∧
    ∀ c, (search e).raster c = if c ∈ chain then some (g c) else none := by
  have := search_spec e hs (fun _ => True) (fun _ _ _ _ _ _ => trivial) trivial
  rw [h] at this
  obtain ⟨hv, _⟩ := this
  refine ⟨hv, ?_, fun c => by rw [h]; rfl⟩
  obtain ⟨t, ht⟩ := List.head?_eq_some_iff.mp hv.head
  exact route_of_chain ht hv.links hv.free

/-- (any `Ops C`) the search answers "every cell NaN" only when no route of crossable cells joins
    start and goal -/
theorem all_nan_means_no_route {C : Type} (e : Env C) (hs : inside e.h e.w e.start = true)
    (h : search e = .noPath) : ∀ l, ¬ Route e e.goal l := by
  have := search_spec e hs (fun _ => True) (fun _ _ _ _ _ _ => trivial) trivial
  rw [h] at this
  exact this

/-- (any `Ops C`) the loop always ends within `h*w + 1` iterations and the parent walk reaches
    start: the only way to leave the described behaviour is the sentinel of
    `_min_cost_pixel_id` (excluded for exact costs by `astar_exact`) -/
theorem anomaly_is_sentinel {C : Type} (e : Env C) (hs : inside e.h e.w e.start = true)
    {what : String} (h : search e = .anomaly what) :
    ∃ st, Inv e st ∧ anyOpen e st = true ∧ minCostOpen e st = none := by
  have := search_spec e hs (fun _ => True) (fun _ _ _ _ _ _ => trivial) trivial
  rw [h] at this
  obtain ⟨st, hi, _, h1, h2⟩ := this
  exact ⟨st, hi, h1, h2⟩

/-- the docstring example of `a_star_search`, executed by the model over exact costs `a + b√2`:
    the goal (4,1) carries `0 + 3√2` -/
def docExample : Env Q2 :=
  { ops := opsQ2, h := 5, w := 4
    cross := fun c => c ∈ [(0, 1), (1, 0), (1, 1), (2, 1), (2, 2), (2, 3), (3, 0), (3, 2), (4, 1), (4, 2), (4, 3)]
    nbrs := nbrs8, start := (1, 0), goal := (4, 1) }

example : (search docExample).raster (4, 1) = some (0, 3) ∧ (search docExample).raster (3, 2) = some (0, 2)
    ∧ (search docExample).raster (1, 0) = some (0, 0) ∧ (search docExample).raster (0, 0) = none := by
  decide +kernel

section exact
variable {K : Type} [Field K] [LinearOrder K] [IsStrictOrderedRing K]

/-- the environment of `a_star_search` over exact arithmetic: step length and heuristic are
    both the Euclidean distance `d` (as in the source: `_heuristic` calls `_distance`) -/
def envOf (d : Cell → Cell → K) (h w : Nat) (cross : Cell → Bool) (conn : Nat) (start goal : Cell) : Env K :=
  { ops := fieldOps d d, h := h, w := w, cross := cross, nbrs := nbrsOf conn, start := start, goal := goal }

/-- the Euclidean heuristic is consistent: it never drops by more than the step taken -/
theorem euclid_consistent {d : Cell → Cell → K} (hd : IsEuclid d) (h w : Nat) (cross : Cell → Bool)
    (conn : Nat) (start goal : Cell) : Consistent (envOf d h w cross conn start goal) d d :=
  fun u v _ _ _ => hd.triangle u v goal

/-- **each step adds exactly its length, 1 or √2** (and only 1 under 4-connectivity) -/
theorem step_is_one_or_sqrt2 {d : Cell → Cell → K} (hd : IsEuclid d) (h w : Nat) (cross : Cell → Bool)
    (conn : Nat) (start goal u v : Cell) (hadj : Adj (envOf d h w cross conn start goal) u v) :
    (d u v = 1 ∨ d u v = IsEuclid.sqrt2 d) ∧ (conn ≠ 8 → d u v = 1) ∧
    IsEuclid.sqrt2 d * IsEuclid.sqrt2 d = 2 ∧ 1 < IsEuclid.sqrt2 d := by
  obtain ⟨off, hoff, rfl⟩ := hadj
  have hoff' : off ∈ nbrsOf conn := hoff
  refine ⟨?_, ?_, hd.sqrt2_sq, hd.sqrt2_bounds.1⟩
  · rcases hd.step_len u off (nbrsOf_sub_nbrs8 hoff') with h1 | h1
    · exact Or.inl h1.1
    · exact Or.inr h1.1
  · intro hc
    have h4 : off ∈ nbrs4 := by unfold nbrsOf at hoff'; simpa [hc] using hoff'
    rcases hd.step_len u off (nbrs4_sub_nbrs8 h4) with h1 | h1
    · exact h1.1
    · rcases nbrs4_straight h4 with h0 | h0
      · exact absurd h0 h1.2.1
      · exact absurd h0 h1.2.2

/-- **the main theorem** over exact costs, all rasters, all barrier layouts, both
    connectivities, all start/goal cells of the raster:
    * the search never leaves the modelled behaviour (every cost the loop can
      produce is below `(h+w)²`; the loop and the parent walk terminate);
    * a returned path is a valid chain whose goal value is the minimum over all routes;
    * "every cell NaN" is returned exactly when no route exists. -/
theorem astar_exact {d : Cell → Cell → K} (hd : IsEuclid d) (h w : Nat) (cross : Cell → Bool)
    (conn : Nat) (start goal : Cell)
    (hs : inside h w start = true) (hg : inside h w goal = true) :
    match search (envOf d h w cross conn start goal) with
    | .path chain g => ValidPath (envOf d h w cross conn start goal) chain g ∧
        ∀ l, Route (envOf d h w cross conn start goal) goal l → g goal ≤ l
    | .noPath => ∀ l, ¬ Route (envOf d h w cross conn start goal) goal l
    | .anomaly _ => False := by
  have hb := hd.sqrt2_bounds
  refine search_exact (e := envOf d h w cross conn start goal) (wt := d) (hh := d) rfl
    (euclid_consistent hd h w cross conn start goal) hs (s := IsEuclid.sqrt2 d)
    (by linarith) hb.2 ?_ ?_
  · intro u v hadj
    rcases (step_is_one_or_sqrt2 hd h w cross conn start goal u v hadj).1 with h1 | h1
    · rw [h1]; linarith
    · rw [h1]
  · intro v hv
    exact hd.le_h_add_w hv.1 hg

/-- **a route exists ⇒ the result is one chain from start to goal with the minimum value** -/
theorem route_gives_optimal_path {d : Cell → Cell → K} (hd : IsEuclid d) (h w : Nat) (cross : Cell → Bool)
    (conn : Nat) (start goal : Cell) (hs : inside h w start = true) (hg : inside h w goal = true)
    {l0 : K} (hroute : Route (envOf d h w cross conn start goal) goal l0) :
    ∃ chain g, search (envOf d h w cross conn start goal) = .path chain g ∧
      ValidPath (envOf d h w cross conn start goal) chain g ∧
      Route (envOf d h w cross conn start goal) goal (g goal) ∧
      ∀ l, Route (envOf d h w cross conn start goal) goal l → g goal ≤ l := by
  have := astar_exact hd h w cross conn start goal hs hg
  cases hsr : search (envOf d h w cross conn start goal) with
  | path chain g =>
    rw [hsr] at this
    exact ⟨chain, g, rfl, this.1, (path_is_chain _ hs hsr).2.1, this.2⟩
  | noPath => rw [hsr] at this; exact absurd hroute (this l0)
  | anomaly w => rw [hsr] at this; exact this.elim

/-- **no route ⇒ every cell is NaN** -/
theorem no_route_all_nan {d : Cell → Cell → K} (hd : IsEuclid d) (h w : Nat) (cross : Cell → Bool)
    (conn : Nat) (start goal : Cell) (hs : inside h w start = true) (hg : inside h w goal = true)
    (hno : ∀ l, ¬ Route (envOf d h w cross conn start goal) goal l) (c : Cell) :
    (search (envOf d h w cross conn start goal)).raster c = none := by
  have := astar_exact hd h w cross conn start goal hs hg
  cases hsr : search (envOf d h w cross conn start goal) with
  | path chain g =>
    exact absurd (path_is_chain _ hs hsr).2.1 (hno _)
  | noPath => rfl
  | anomaly w => rfl

theorem route_ends_free {C : Type} {e : Env C} {v : Cell} {l : C} (h : Route e v l) :
    Free e e.start ∧ Free e v := by
  induction h with
  | start hf => exact ⟨hf, hf⟩
  | step _ _ hf ih => exact ⟨ih.1, hf⟩

/-- **an end point that is not crossable (snapping off) ⇒ every cell is NaN** -/
theorem blocked_endpoint_all_nan {d : Cell → Cell → K} (hd : IsEuclid d) (h w : Nat) (cross : Cell → Bool)
    (conn : Nat) (start goal : Cell) (hs : inside h w start = true) (hg : inside h w goal = true)
    (hblocked : cross start = false ∨ cross goal = false) (c : Cell) :
    (search (envOf d h w cross conn start goal)).raster c = none := by
  apply no_route_all_nan hd h w cross conn start goal hs hg
  intro l hr
  obtain ⟨h1, h2⟩ := route_ends_free hr
  rcases hblocked with hb | hb
  · have : cross start = true := h1.2
    rw [hb] at this; cases this
  · have : cross goal = true := h2.2
    rw [hb] at this; cases this

/-- the whole call after the coordinate conversion: either both end points resolve (snapped or
    not) to cells of the raster and the result is `search` between them (to which the theorems
    above apply), or snapping found nothing because no cell is crossable, and every cell is NaN -/
theorem run_cases {C : Type} (ops : Ops C) (h w : Nat) (cross : Cell → Bool) (conn : Nat) (sp gp : Cell)
    (snapS snapG : Bool) (hsp : inside h w sp = true) (hgp : inside h w gp = true) :
    (∃ s g, (s = sp ∧ snapS = false ∨ findNearest h w cross sp = some s ∧ snapS = true) ∧
            (g = gp ∧ snapG = false ∨ findNearest h w cross gp = some g ∧ snapG = true) ∧
            inside h w s = true ∧ inside h w g = true ∧
            runCells ops h w cross conn sp gp snapS snapG =
              search { ops, h, w, cross, nbrs := nbrsOf conn, start := s, goal := g }) ∨
    ((∀ c, inside h w c = true → cross c = false) ∧
      runCells ops h w cross conn sp gp snapS snapG = .noPath) := by
  unfold runCells
  have hS := findNearest_spec h w cross sp
  have hG := findNearest_spec h w cross gp
  cases snapS <;> cases snapG <;> simp only [Bool.false_eq_true, if_false, if_true]
  · exact Or.inl ⟨sp, gp, (by simp), (by simp), hsp, hgp, rfl⟩
  · cases hg : findNearest h w cross gp with
    | none => exact Or.inr ⟨hG.2.2 hg, rfl⟩
    | some g => exact Or.inl ⟨sp, g, (by simp), (by simp), hsp, (hG.2.1 g hg).2.1 hgp, rfl⟩
  · cases hs : findNearest h w cross sp with
    | none => exact Or.inr ⟨hS.2.2 hs, rfl⟩
    | some s => exact Or.inl ⟨s, gp, (by simp), (by simp), (hS.2.1 s hs).2.1 hsp, hgp, rfl⟩
  · cases hs : findNearest h w cross sp with
    | none => exact Or.inr ⟨hS.2.2 hs, rfl⟩
    | some s =>
      cases hg : findNearest h w cross gp with
      | none => exact Or.inr ⟨hG.2.2 hg, rfl⟩
      | some g =>
        exact Or.inl ⟨s, g, (by simp), (by simp), (hS.2.1 s hs).2.1 hsp,
          (hG.2.1 g hg).2.1 hgp, rfl⟩

/-- **the exact instance executed by the driver** (`opsQ2`: costs `a + b√2` as pairs of naturals
    compared in integers, heuristic 0) is itself covered: it is a homomorphic image of exact field
    arithmetic (`opsQ2_hom`, `search_map`), so for every square root of two `s` of an ordered field
    the pair `(a, b)` it reports at the goal satisfies `a + b·s ≤` every route's length (steps
    cost `1` or `s`), a path is reported whenever a route exists, the sentinel is never reached.
    The correspondence run compares exactly this value with the real function's goal value. -/
theorem exact_instance_optimal (s : K) (hs : s * s = 2) (hs0 : 0 < s) (h w : Nat) (cross : Cell → Bool)
    (conn : Nat) (start goal : Cell) (hstart : inside h w start = true) :
    match search { ops := opsQ2, h := h, w := w, cross := cross, nbrs := nbrsOf conn, start := start, goal := goal } with
    | .path chain g =>
        ValidPath { ops := opsQ2, h := h, w := w, cross := cross, nbrs := nbrsOf conn, start := start, goal := goal } chain g ∧
        ∀ l, Route { ops := fieldOps (wtQ s) (fun _ _ => 0), h := h, w := w, cross := cross, nbrs := nbrsOf conn,
                     start := start, goal := goal } goal l → q2val s (g goal) ≤ l
    | .noPath => ∀ l, ¬ Route { ops := opsQ2, h := h, w := w, cross := cross, nbrs := nbrsOf conn, start := start, goal := goal } goal l
    | .anomaly _ => False :=
  search_q2_exact s hs hs0 _ rfl hstart

example : Real.sqrt 2 * Real.sqrt 2 = 2 ∧ 0 < Real.sqrt 2 :=
  ⟨Real.mul_self_sqrt (by norm_num), Real.sqrt_pos.mpr (by norm_num)⟩

/-- non-vacuity: over the reals the Euclidean distance exists, so `astar_exact` applies to
    `K = ℝ`, `d = √(Δy² + Δx²)`, whose diagonal step is `√2` -/
noncomputable def realDist (a b : Cell) : ℝ :=
  Real.sqrt (((a.1 - b.1) * (a.1 - b.1) + (a.2 - b.2) * (a.2 - b.2) : Int) : ℝ)

example : IsEuclid realDist :=
  ⟨fun _ _ => Real.sqrt_nonneg _, fun a b => Real.mul_self_sqrt (by
    have : (0 : Int) ≤ (a.1 - b.1) * (a.1 - b.1) + (a.2 - b.2) * (a.2 - b.2) := by nlinarith [mul_self_nonneg (a.1 - b.1), mul_self_nonneg (a.2 - b.2)]
    exact_mod_cast this)⟩

-- non-vacuity of `Route`: on a 2x2 raster with every cell crossable the diagonal step is a route
example (d : Cell → Cell → K) :
    Route (envOf d 2 2 (fun _ => true) 8 (0, 0) (1, 1)) (1, 1) ((0 : K) + d (0, 0) (1, 1)) :=
  Route.step (Route.start ⟨by simp [envOf, inside], rfl⟩) ⟨(1, 1), by simp [envOf, nbrsOf, nbrs8], by simp⟩
    ⟨by simp [envOf, inside], rfl⟩

end exact


/-! ### the generated pieces of pathfinding.py (`Gen/AStarFacts.lean`, regenerated from the source on every run)

  `K` is any linearly ordered field with an interpretation of the transcendental functions (`Trig K`);
  of `np.sqrt` only `SqrtOk K` is assumed: on non-negative arguments it returns the non-negative
  square root.  `distG a b` / `heurG a b` are the generated kernels `_distance` / `_heuristic`
  evaluated at `(a.x, a.y, b.x, b.y)` over `NV K`; `stepK`, `heurK` their values as field elements. -/

section generated
open XrsVerif.Gen.AStarFacts
variable {K : Type} [Field K] [LinearOrder K] [IsStrictOrderedRing K] [Trig K]

/-- the generated `_distance` and `_heuristic` both compute `sqrt((x1 - x2)² + (y1 - y2)²)` on pixel
    indices, for every interpretation of `sqrt` -/
theorem distance_heuristic_kernels (a b : Cell) :
    (distG a b : NV K) = some (Trig.sqrt (sqK a b)) ∧ (heurG a b : NV K) = some (Trig.sqrt (sqK a b)) :=
  ⟨distG_val a b, heurG_val a b⟩

/-- **the generated heuristic is consistent** with respect to the generated step length: it never
    drops by more than the step taken -- for every pair of cells, in particular along every
    generated neighbour offset -- and it is `0` at the goal; hence admissible. -/
theorem heuristic_consistent (hs : SqrtOk K) (u goal : Cell) :
    (∀ conn : Nat, ∀ off ∈ neighborsFor (conn : Int),
      (heurK u goal : K) ≤ stepK u (u.1 + off.1, u.2 + off.2) + heurK (u.1 + off.1, u.2 + off.2) goal) ∧
    (∀ v, (heurK u goal : K) ≤ stepK u v + heurK v goal) ∧ (heurK goal goal : K) = 0 :=
  ⟨fun _ off _ => heurK_consistent hs u _ goal, fun v => heurK_consistent hs u v goal, heurK_goal hs goal⟩

/-- `_neighborhood_structure`, traced through `a_star_search` into the `zip` loop: the offsets the
    loop adds to the popped cell are the model's tables, in the same order, for every `connectivity`;
    the public function rejects every connectivity other than 4 and 8 -/
theorem neighbour_tables_generated (conn : Nat) :
    neighborsFor (conn : Int) = nbrsOf conn ∧
    ((validate.cellFailed (argEnv validate [some (conn : K)]) (fun _ _ _ => none) (fun _ => [])).isSome ↔
      (conn ≠ 4 ∧ conn ≠ 8)) :=
  ⟨neighbors_generated conn, validate_generated conn⟩

/-- the environment of the search built from generated pieces only: step length `_distance`,
    heuristic `_heuristic`, offsets `_neighborhood_structure` -/
def envGen (h w : Nat) (cross : Cell → Bool) (conn : Nat) (start goal : Cell) : Env K :=
  { ops := fieldOps stepK heurK, h := h, w := w, cross := cross, nbrs := neighborsFor (conn : Int),
    start := start, goal := goal }

/-- **`astar_exact` with the generated heuristic, step length and neighbour tables** -/
theorem astar_generated (hs : SqrtOk K) (h w : Nat) (cross : Cell → Bool) (conn : Nat) (start goal : Cell)
    (hstart : inside h w start = true) (hgoal : inside h w goal = true) :
    match search (envGen (K := K) h w cross conn start goal) with
    | .path chain g => ValidPath (envGen (K := K) h w cross conn start goal) chain g ∧
        ∀ l, Route (envGen (K := K) h w cross conn start goal) goal l → g goal ≤ l
    | .noPath => ∀ l, ¬ Route (envGen (K := K) h w cross conn start goal) goal l
    | .anomaly _ => False := by
  -- `_heuristic` calls `_distance`, and the generated offsets are the model's: this is `envOf stepK`
  have henv : envGen (K := K) h w cross conn start goal = envOf stepK h w cross conn start goal := by
    unfold envGen envOf
    rw [neighbors_generated, heurK_eq_stepK]
  rw [henv]
  exact astar_exact (stepK_euclid hs) h w cross conn start goal hstart hgoal

/-- **the body of the neighbour loop is `relax`**: executing the generated statement on the variables
    of the popped cell `u`, the offset and the state either ends in `continue` -- then the model
    leaves the state unchanged -- or stores `d_from_start` (`g`), `cost` (`f`), `is_open = True` and the parent
    `(py, px)` for the neighbour, and these are exactly the model's new state (closed cells are
    skipped; an open cell is overwritten unless the new distance is strictly greater; out-of-raster
    and barrier / NaN cells are skipped) -/
theorem relaxation_generated (e : Env K) (hx : e.ops = fieldOps stepK heurK)
    (dataV : Cell → NV K) (bars : List (NV K)) (hc : e.cross = crossG dataV bars) (u off : Cell) (st : St K) :
    let s' := relaxBody.exec (fun _ _ _ => none) (vecOf bars) ⟨relaxEnv e dataV u off st, none, false, none⟩
    s'.failed = none ∧
    (s'.halted = true → relax e u st off = st) ∧
    (s'.halted = false →
      ∃ g f, s'.env "g@v" = some g ∧ s'.env "f@v" = some f ∧ s'.env "open@v" = some 1 ∧
        s'.env "par_y@v" = some (u.1 : K) ∧ s'.env "par_x@v" = some (u.2 : K) ∧
        relax e u st off = relaxed st u (u.1 + off.1, u.2 + off.2) g f) :=
  relax_generated e stepK heurK hx stepK_eq heurK_eq dataV bars hc u off st

/-- between the pop and the neighbour loop the popped cell leaves the open list and enters the closed
    list: the generated statements are `close` -/
theorem pop_bookkeeping_generated (st : St K) (u : Cell) :
    let s' := popBody.exec (fun _ _ _ => none) (fun _ => [])
      ⟨XrsVerif.envOf [("open@u", b2n (st.isOpen u)), ("closed@u", b2n (st.isClosed u))], none, false, none⟩
    s'.env "open@u" = (b2n ((close st u).isOpen u) : NV K) ∧ s'.env "closed@u" = b2n ((close st u).isClosed u) ∧
    s'.failed = none ∧ s'.halted = false := by
  intro s'
  simp only [s']
  refine ⟨?_, ?_, ?_, ?_⟩ <;> simp [kl, popBody, b2n, close]

/-- **`_min_cost_pixel_id` is `minCostOpen`**: the statements before the scan set `(NONE, NONE)` and the
    sentinel `(height + width)²`, the loops run row-major, and one iteration of the scan is `minStep`
    (an open cell with a strictly smaller cost replaces the running minimum) -/
theorem min_cost_generated (e : Env K) (hx : e.ops = fieldOps stepK heurK) (st : St K)
    (acc : Option Cell × K) (c : Cell) :
    (let s0 := minCostInit.exec (fun _ _ _ => none) (fun _ => [])
        ⟨XrsVerif.envOf [("rows", some (e.h : K)), ("cols", some (e.w : K))], none, false, none⟩
     readAcc s0.env = accVars ((none : Option Cell), e.ops.big e.h e.w) ∧ s0.failed = none ∧ minCostRowMajor = true) ∧
    (let s' := minCostBody.exec (fun _ _ _ => none) (fun _ => []) ⟨minEnv st acc c, none, false, none⟩
     readAcc s'.env = accVars (minStep e st acc c) ∧ s'.failed = none ∧ s'.halted = false) :=
  ⟨minInit_generated e stepK heurK hx, minStep_generated e stepK heurK hx st acc c⟩

/-- **the whole of `_min_cost_pixel_id`**: the generated loop body run over the cells in row-major order from
    the generated initialisation leaves in `(best_y, best_x)` the cell `minCostOpen` returns (`(-1, -1)` for
    `none`) -/
theorem min_cost_scan_generated (e : Env K) (hx : e.ops = fieldOps stepK heurK) (st : St K) :
    ((cells e.h e.w).foldl (genMinStep st) (accVars ((none : Option Cell), e.ops.big e.h e.w))).1 =
      (match minCostOpen e st with | none => (some (-1) : NV K) | some c => some (c.1 : K)) ∧
    ((cells e.h e.w).foldl (genMinStep st) (accVars ((none : Option Cell), e.ops.big e.h e.w))).2.1 =
      (match minCostOpen e st with | none => (some (-1) : NV K) | some c => some (c.2 : K)) := by
  rw [minScan_generated e stepK heurK hx st]
  unfold minCostOpen accVars
  constructor <;> split <;> simp_all

/-- **`_is_not_crossable` is the model's barrier test** (NaN, or equal as a real number to a listed
    value; no conversion of the list), and `_is_inside` is `inside` -/
theorem barrier_and_inside_tests_generated (v : Val) (bars : List Val) (hv : v.finiteOrNaN)
    (hb : ∀ b ∈ bars, b.finiteOrNaN) (h w : Nat) (c : Cell) :
    notCrossable.eval ⟨XrsVerif.envOf [("value", (valNV v : NV K))], fun _ _ _ => none, vecOf (bars.map valNV)⟩
      = notCrossableV v bars ∧
    isInside.cell (argEnv isInside [some (c.1 : K), some (c.2 : K), some (h : K), some (w : K)])
      (fun _ _ _ => none) (fun _ => []) = some (if inside h w c then 1 else 0) :=
  ⟨notCrossable_generated v bars hv hb, isInside_generated h w c⟩

/-- `a_star_search` hands the caller's barrier list to the kernels as `np.array(barriers)`: no `astype`, no
    `dtype=`, no rounding -/
theorem barrier_list_not_converted : barrierCasts = [] := by decide

/-- **`_get_pixel_id` is `pixelId`**: the generated row / column expressions under `int(...)` are
    `|p - c0| / cellsize + 1/2` with the axis' own first coordinate and cell size; the value is
    non-negative, so `int` (truncation) is the floor -/
theorem pixel_rule_generated [Trig ℚ] (c0 cs p : ℚ) (hcs : 0 < cs) :
    (∃ q : ℚ, pixelRow.eval ⟨XrsVerif.envOf [("point0", some p), ("coords_y0", some c0), ("cellsize_y", some cs)],
        fun _ _ _ => none, fun _ => []⟩ = some q ∧ 0 ≤ q ∧ pixelId c0 cs p = ⌊q⌋) ∧
    (∃ q : ℚ, pixelCol.eval ⟨XrsVerif.envOf [("point1", some p), ("coords_x0", some c0), ("cellsize_x", some cs)],
        fun _ _ _ => none, fun _ => []⟩ = some q ∧ 0 ≤ q ∧ pixelId c0 cs p = ⌊q⌋) ∧
    pixelCasts = ["int", "int"] := by
  have hne : cs ≠ 0 := ne_of_gt hcs
  have hq : 0 ≤ |p - c0| / cs + 1 / 2 := by positivity
  refine ⟨⟨|p - c0| / cs + 1 / 2, ?_, hq, pixelId_eq_floor c0 cs p⟩, ⟨|p - c0| / cs + 1 / 2, ?_, hq, pixelId_eq_floor c0 cs p⟩, rfl⟩
  · simp [kl, pixelRow, hne]
  · simp [kl, pixelCol, hne]

/-- **a search leaves the caller's raster alone and the cell mapping is a function of this raster's coordinates and `res`
    only**: no statement of `a_star_search`, `_get_pixel_id`, `get_dataarray_resolution`, `calc_res`, `get_xy_range`, or of a
    kernel the surface (or a part of it) is handed to, stores into the raster -- no `raster.attrs[...] = ...`, no item /
    attribute assignment, `del`, mutating method, `out=`, `inplace=True`, directly or through a local alias --, the raster
    is handed to no function outside pathfinding.py / utils.py, and everything `_get_pixel_id` reads of it is in
    the list below: the dimension names and the shape, the two coordinate arrays (`_get_pixel_id` takes their first element,
    `calc_res` their extremes) and the `res` attribute.  This is what the model assumes when it maps a point with `pixelId c0 cs p` where `c0`, `cs` come
    from the raster of the call itself: nothing an earlier call computed is remembered on the caller's objects (xarray
    carries `attrs` through slicing, `assign_coords`, `copy`; a cell size cached there would be read back by
    `get_dataarray_resolution` for a raster derived with another spacing; the `derived` stream of
    the correspondence run searches such rasters) -/
theorem cell_mapping_reads_coords_or_res :
    surfaceWrites = [] ∧ pixelRasterWrites = [] ∧ surfaceEscapes = [] ∧
    (∀ r ∈ pixelRasterReads, r ∈ (
      ["_get_pixel_id: get_dataarray_resolution(raster, xdim, ydim)",
       "_get_pixel_id: raster.coords[xdim].data",
       "_get_pixel_id: raster.coords[ydim].data",
       "_get_pixel_id: raster.dims[-1]",
       "_get_pixel_id: raster.dims[-2]",
       "calc_res: get_xy_range(raster, xdim, ydim)",
       "calc_res: raster.shape[-2:]",
       "get_dataarray_resolution: calc_res(raster, xdim, ydim)",
       "get_dataarray_resolution: raster.attrs.get('res')",
       "get_xy_range: raster.dims[-1]",
       "get_xy_range: raster.dims[-2]",
       "get_xy_range: raster[xdim].max().item()",
       "get_xy_range: raster[xdim].min().item()",
       "get_xy_range: raster[ydim].max().item()",
       "get_xy_range: raster[ydim].min().item()"] : List String)) ∧
    "get_dataarray_resolution: raster.attrs.get('res')" ∈ pixelRasterReads ∧
    "_get_pixel_id: raster.coords[ydim].data" ∈ pixelRasterReads ∧
    "_get_pixel_id: raster.coords[xdim].data" ∈ pixelRasterReads := by decide +kernel

/-- **`_find_nearest_pixel` is `findNearest`**: the queried cell is kept exactly when it is crossable;
    the running minimum starts at infinity and the scan is row-major; one iteration of the scan is
    `nearStep` (the code compares Euclidean distances, the model their squares) -/
theorem snap_rule_generated (hs : SqrtOk K) (dataV : Cell → NV K) (bars : List (NV K)) (p c : Cell)
    (acc : Option (Cell × Int)) (md : K)
    (hacc : match acc with
      | none => Trig.sqrt (sqK c p) < md
      | some (_, m) => 0 ≤ m ∧ md = Trig.sqrt ((m : Int) : K)) :
    snapKeep.eval ⟨XrsVerif.envOf [("data@p", dataV p)], fun _ _ _ => none, vecOf bars⟩ = crossG dataV bars p ∧
    (let s' := snapBody.exec (fun _ _ _ => none) (vecOf bars) ⟨snapEnv dataV p c acc md, none, false, none⟩
     let acc' := nearStep (crossG dataV bars) p acc c
     s'.failed = none ∧ (s'.env "near_y", s'.env "near_x") = nearVars acc' ∧
     s'.env "min_distance" = some (if acc' = acc then md else Trig.sqrt (((sqDist c p : Int)) : K)) ∧
     snapInitInf = true ∧ snapRowMajor = true) :=
  ⟨snapKeep_generated dataV bars p, snapStep_generated hs dataV bars p c acc md hacc⟩

end generated

/-! ### the programs generated statement by statement from pathfinding.py (layer T3, `Gen/IL.lean`)

  `harness/facts_il.py` translates the numba functions `_is_not_crossable`, `_is_inside`, `_min_cost_pixel_id`,
  `_find_nearest_pixel`, `_reconstruct_path` and `_a_star_search` (helpers inlined) into programs of the imperative
  language `Core/ILang.lean` on every run; `Proofs/ILAStar*.lean` prove that each program computes the hand model
  (refinement), for every number type `F` (`[Fl F]`: only `+`, `<`, `==`, `isnan`, `sqrt` of the type are used, no
  laws) -- so in particular for IEEE doubles.  The theorems below restate the clauses of the property for the
  *generated* programs.  States: `s.ienv / s.fenv / s.benv` scalar variables, `s.ia / s.fa` flat arrays with shapes
  `s.shp`; `cidx w c` is the row-major offset of cell `c`; an out-of-range access would end in `Ctl.err`, so
  `ctl = ret` also says that every access was in range. -/

section il
open XrsVerif.IL
variable {F : Type} [Fl F]

/-- **generated `_is_not_crossable`**: returns `True` exactly for NaN and for values `==` to a listed barrier value;
    no array is written -/
theorem il_crossable (s : State F) (fuel : Nat) (hs : s.ctl = .run) (hb : (s.shp "barriers").length = 1) :
    let r := Gen.IL.isNotCrossable.run s fuel
    r.ctl = .ret ∧
      (r.benv "ret0" = true ↔
        Fl.isnan (s.fenv "cell_value") = true ∨ ∃ b ∈ s.fa "barriers", Fl.eq (s.fenv "cell_value") b = true) ∧
      r.fa = s.fa ∧ r.ia = s.ia := by
  have h := isNotCrossable_refines s fuel hs hb
  refine ⟨h.1, ?_, h.2.2⟩
  rw [h.2.1]
  simp [notCross, List.any_eq_true]

/-- **generated `_is_inside`** is the model's `inside` -/
theorem il_inside (s : State F) (fuel : Nat) (hs : s.ctl = .run) (h w : Nat)
    (hh : s.ienv "h" = (h : Int)) (hw : s.ienv "w" = (w : Int)) :
    let r := Gen.IL.isInside.run s fuel
    r.ctl = .ret ∧ r.benv "ret0" = inside h w (s.ienv "py", s.ienv "px") :=
  isInside_refines s fuel hs h w hh hw

/-- **the selection of the generated `_min_cost_pixel_id` is the model's `minCostOpen`**: for every model state
    whose `isOpen` / `f` are the arrays `is_open` / `cost`, the program returns `minCostOpen` (`(-1, -1)` for
    `none`): the first cell in row-major order that is open and strictly cheaper than every earlier candidate and
    than the initial bound `(h + w)^2`; a returned cell is open and lies in the raster -/
theorem il_selection (e : Env F) (mst : AStar.St F) (s : State F) (fuel : Nat) (hs : s.ctl = .run)
    (habs : McAbs e mst s) :
    let r := Gen.IL.minCostPixelId.run s fuel
    r.ctl = .ret ∧ (r.ienv "ret0", r.ienv "ret1") = enc (minCostOpen e mst) ∧ r.ia = s.ia ∧ r.fa = s.fa ∧
      ∀ u, minCostOpen e mst = some u → mst.isOpen u = true ∧ inside e.h e.w u = true := by
  have h := minCostPixelId_refines e mst s fuel hs habs
  exact ⟨h.1, h.2.1, h.2.2.1, h.2.2.2, fun u hu => (minCostOpen_some hu).symm⟩

/-- **the generated `_find_nearest_pixel` snaps to the nearest crossable cell with the model's tie-breaking**
    (number types in which `sqrt` is strictly monotone on the integers and `< 1/0`, `SqrtLt F`): the result is the
    model's `findNearest` -- the queried cell if it is crossable, otherwise the first crossable cell in row-major order
    at minimum distance, `(-1, -1)` if no cell is crossable -- hence (`snap_argmin`) a crossable cell of the raster at
    minimum distance.  Without `SqrtLt` (any `F`): `findNearestPixel_refines` (the scan with float comparisons). -/
theorem il_snap (hF : SqrtLt F) (h w : Nat) (cross : Cell → Bool) (s : State F) (fuel : Nat) (hs : s.ctl = .run)
    (habs : FnAbs h w cross s) (hp : inside h w (s.ienv "py", s.ienv "px") = true) :
    let r := Gen.IL.findNearestPixel.run s fuel
    r.ctl = .ret ∧ (r.ienv "ret0", r.ienv "ret1") = enc (findNearest h w cross (s.ienv "py", s.ienv "px")) ∧
      r.fa = s.fa ∧ r.ia = s.ia ∧
      (cross (s.ienv "py", s.ienv "px") = true → (r.ienv "ret0", r.ienv "ret1") = (s.ienv "py", s.ienv "px")) ∧
      (∀ c, findNearest h w cross (s.ienv "py", s.ienv "px") = some c →
        (r.ienv "ret0", r.ienv "ret1") = c ∧ cross c = true ∧ inside h w c = true ∧
        ∀ c', inside h w c' = true → cross c' = true →
          sqDist c (s.ienv "py", s.ienv "px") ≤ sqDist c' (s.ienv "py", s.ienv "px")) ∧
      (findNearest h w cross (s.ienv "py", s.ienv "px") = none →
        (r.ienv "ret0", r.ienv "ret1") = (-1, -1) ∧ ∀ c', inside h w c' = true → cross c' = false) := by
  have hr := findNearestPixel_refines h w cross s fuel hs habs hp
  have hsnap := snap_argmin h w cross (s.ienv "py", s.ienv "px")
  rw [findNearestF_eq hF] at hr
  refine ⟨hr.1, hr.2.1, hr.2.2.1, hr.2.2.2, ?_, ?_, ?_⟩
  · intro hc; rw [hr.2.1, hsnap.1 hc]; rfl
  · intro c hc
    have := hsnap.2.1 c hc
    exact ⟨by rw [hr.2.1, hc]; rfl, this.1, this.2.1 hp, this.2.2⟩
  · intro hn
    exact ⟨by rw [hr.2.1, hn]; rfl, hsnap.2.2 hn⟩

/-- **the generated `_reconstruct_path` writes exactly the chain**: when the goal has a back pointer and the model's
    parent walk over the arrays `parent_ys / parent_xs` reaches the start within some fuel (what the search invariant
    provides, `anomaly_is_sentinel` / `path_is_chain`), the program terminates (`while` fuel `≥` the length of the
    chain), `path_img[c] = cost[c]` on the cells of the chain, every other cell of `path_img` keeps its value and no
    other array is written -/
theorem il_path_written (h w : Nat) (s : State F) (fuel : Nat) (hs : s.ctl = .run)
    (hshp : RcShp h w "cost" s) (hlen : (s.fa "path_img").length = h * w) (start goal : Cell)
    (ha : RcArgs (fun a => a) start goal s)
    (hsome : parentOf (s.ia "parent_ys") (s.ia "parent_xs") w goal ≠ none)
    (n : Nat) (chain : List Cell)
    (hw : walk (parentOf (s.ia "parent_ys") (s.ia "parent_xs") w) start n goal = some chain)
    (hin : ∀ c ∈ chain, inside h w c = true) (hfuel : chain.length ≤ fuel) :
    let r := Gen.IL.reconstructPath.run s fuel
    r.ctl = .ret ∧ r.ia = s.ia ∧ (∀ a, a ≠ "path_img" → r.fa a = s.fa a) ∧
      (r.fa "path_img").length = h * w ∧
      ∀ c, inside h w c = true → ∀ d, (r.fa "path_img").getD (cidx w c) d =
        if c ∈ chain then (s.fa "cost").getD (cidx w c) Fl.nan else (s.fa "path_img").getD (cidx w c) d :=
  reconstructPath_refines h w s fuel hs hshp hlen start goal ha hsome n chain hw hin hfuel

/-- **the generated `_a_star_search` is the model's `search`** (any number type, in particular IEEE doubles), and
    what it returns is a valid path: for well-formed inputs (`SrchIn e s`) and `while` fuel `≥ 2·h·w + 1`
    * model `path chain g`: the program returns; `path_img[c] = g c` exactly on the cells of `chain`, the other cells
      keep their value (NaN in `a_star_search`); `chain` is a `ValidPath` (from goal back to start through allowed
      neighbours, each step adding its length, never entering a barrier);
    * model `noPath`: the program returns with `path_img` untouched, and there is no route;
    * model `anomaly`: only the sentinel of `_min_cost_pixel_id` (an open cell with cost `≥ (h+w)^2` or NaN; excluded
      for exact costs by `astar_exact`); nothing is claimed about the program there. -/
theorem il_search (e : Env F) (s : State F) (fuel : Nat) (hs : s.ctl = .run) (hi : SrchIn e s)
    (hlen : (s.fa "path_img").length = e.h * e.w) (hfuel : 2 * (e.h * e.w) + 1 ≤ fuel) :
    let r := Gen.IL.aStarSearch.run s fuel
    match search e with
    | .path chain g => ValidPath e chain g ∧ r.ctl = .ret ∧ (r.fa "path_img").length = e.h * e.w ∧
        ∀ c, inside e.h e.w c = true → ∀ d, (r.fa "path_img").getD (cidx e.w c) d =
          if c ∈ chain then g c else (s.fa "path_img").getD (cidx e.w c) d
    | .noPath => (∀ l, ¬ Route e e.goal l) ∧ r.ctl = .ret ∧ r.fa "path_img" = s.fa "path_img"
    | .anomaly _ => ∃ st, Inv e st ∧ anyOpen e st = true ∧ minCostOpen e st = none := by
  intro r
  have h := aStarSearch_refines e s fuel hs hi hlen hfuel
  cases hsr : search e with
  | path chain g =>
    rw [hsr] at h
    have hv := (path_is_chain e hi.start_in hsr).1
    exact ⟨hv, h (fun c hc => (hv.free c hc).1)⟩
  | noPath =>
    rw [hsr] at h
    exact ⟨all_nan_means_no_route e hi.start_in hsr, h⟩
  | anomaly w => exact anomaly_is_sentinel e hi.start_in hsr

/-! non-vacuity of the hypotheses of the `il_*` theorems: a 1 × 2 raster of crossable cells, start `(0,0)`, goal
    `(0,1)`, one allowed offset `(0, +1)`, over any number type -/

def ilDemo : State F :=
  { (State.empty : State F) with
    shp := setS (setS (setS (setS (setS (setS (setS (setS (setS (fun _ => []) "data" [1, 2]) "path_img" [1, 2])
      "barriers" [0]) "neighbor_ys" [1]) "neighbor_xs" [1]) "cost" [1, 2]) "is_open" [1, 2]) "parent_ys" [1, 2])
      "parent_xs" [1, 2]
    fa := setS (setS (setS (fun _ => []) "data" [Fl.lit 1 1, Fl.lit 1 1]) "path_img" [Fl.nan, Fl.nan])
      "cost" [Fl.lit 1 1, Fl.lit 0 1]
    ia := setS (setS (setS (setS (setS (fun _ => []) "neighbor_ys" [0]) "neighbor_xs" [1]) "is_open" [1, 0])
      "parent_ys" [0, 0]) "parent_xs" [0, 0]
    ienv := setS (fun _ => 0) "goal_px" 1 }

def ilDemoEnv : Env F :=
  { ops := flOps, h := 1, w := 2, nbrs := [(0, 1)], start := (0, 0), goal := (0, 1)
    cross := fun c => !notCross (((ilDemo : State F).fa "data").getD (cidx 2 c) Fl.nan)
      ((ilDemo : State F).fa "barriers") }

def ilDemoSt : AStar.St F :=
  { isOpen := fun c => decide (((ilDemo : State F).ia "is_open").getD (cidx 2 c) 0 ≠ 0)
    isClosed := fun _ => false, g := fun _ => Fl.nan, parent := fun _ => none
    f := fun c => ((ilDemo : State F).fa "cost").getD (cidx 2 c) Fl.nan }

example : (((ilDemo : State F).shp "barriers").length = 1) ∧ (ilDemo : State F).ctl = .run := ⟨rfl, rfl⟩

example : McAbs (ilDemoEnv : Env F) ilDemoSt ilDemo :=
  ⟨rfl, rfl, by simp [ilDemo, ilDemoEnv, setS_apply], by simp [ilDemo, ilDemoEnv, setS_apply], fun _ _ => rfl,
   fun _ _ => rfl⟩

example : FnAbs 1 2 (ilDemoEnv : Env F).cross (ilDemo : State F) ∧
    inside 1 2 ((ilDemo : State F).ienv "py", (ilDemo : State F).ienv "px") = true :=
  ⟨⟨by simp [ilDemo, setS_apply], by simp [ilDemo, setS_apply], fun _ _ => rfl⟩,
   by simp [ilDemo, setS_apply, inside]⟩

example : SqrtLt ER := sqrtLt_ER

example : RcShp 1 2 "cost" (ilDemo : State F) ∧ RcArgs (fun a => a) (0, 0) (0, 1) (ilDemo : State F) ∧
    parentOf ((ilDemo : State F).ia "parent_ys") ((ilDemo : State F).ia "parent_xs") 2 (0, 1) ≠ none ∧
    walk (parentOf ((ilDemo : State F).ia "parent_ys") ((ilDemo : State F).ia "parent_xs") 2) (0, 0) 2 (0, 1)
      = some [(0, 1), (0, 0)] := by
  refine ⟨?_, ?_, ?_, ?_⟩
  · constructor <;> simp [ilDemo, setS_apply]
  · constructor <;> simp [ilDemo, setS_apply]
  all_goals simp [ilDemo, setS_apply, parentOf, cidx, walk]

example : SrchIn (ilDemoEnv : Env F) ilDemo ∧ ((ilDemo : State F).fa "path_img").length = 1 * 2 := by
  refine ⟨⟨rfl, ?_, ?_, ?_, ?_, ?_, ?_, fun _ _ => rfl, ?_, ?_, ?_, ?_, ?_⟩, ?_⟩
  all_goals simp [ilDemo, ilDemoEnv, setS_apply, inside]

end il

/-- non-vacuity: over the reals `np.sqrt` is `Real.sqrt` (the other functions do not occur in the
    generated A* kernels), and `SqrtOk` holds -/
@[instance_reducible] noncomputable def realSqrt : Trig ℝ := ⟨Real.sqrt, id, fun a _ => a, id, id, id, id⟩

example : @SqrtOk ℝ _ _ _ realSqrt :=
  @SqrtOk.mk ℝ _ _ _ realSqrt (fun x _ => Real.sqrt_nonneg x) (fun x hx => Real.mul_self_sqrt hx)

end XrsVerif.C14
