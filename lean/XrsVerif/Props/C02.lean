import XrsVerif.Proofs.ZonalReduce
import XrsVerif.Proofs.ZonalLoop
import XrsVerif.Gen.Zonal
import XrsVerif.Proofs.ILZonal
import XrsVerif.Proofs.NV
/-
  C02 -- Zonal statistics summarise exactly the valid cells of each zone.

  Every statement is about the position-faithful model of `_sort_and_stride` / `_calc_stats` /
  `_stats_numpy` (Model/Zonal.lean) run with `Gen.Zonal.stripIndices`, the structural fact that
  harness/facts_zonal.py reads from /repo's `_sort_and_stride` ("the indices of the
  non-finite zones are dropped before the values are gathered").  On a tree where only
  `sorted_zones` is stripped (defect D1) the constant is `false`, `strip_fact` below does not
  check and this file does not build -- see `unrepaired_shifts_slices` for the reason.

  Quantifiers: every raster (`zones`, `values` are arbitrary functions of the flat cell index over
  an arbitrary cell list `cells`, any linearly ordered id type `κ`, any value type `ν`), every
  `valid` predicate (finite and != nodata), every request `zoneIds`, every list of reducers, and
  **every** permutation `perm` that sorts the cells by zone in numpy's order (argsort is not stable).
  `np.unique` / `np.sort` are the verified `sortDedup` / `isort`.  Floating point: the built-in
  reducers are stated over an arbitrary linearly ordered field (exact arithmetic).
-/
set_option linter.unusedSectionVars false
namespace XrsVerif.C02
open XrsVerif XrsVerif.Zonal

variable {κ ν ρ : Type} [LinearOrder κ]

/-- the source fact the theorems below rest on (fails to check on a tree with defect D1) -/
theorem strip_fact : Gen.Zonal.stripIndices = true := rfl

/-! ### `_strides`: the generated loop program is the model

  `Gen.Zonal.stridesProg` is `_strides` translated statement by statement from the source into the
  loop language of Model/ZonalLoop.lean; `stridesSrc` is the normal form of the loop in /repo, the program the proofs
  are about.  Run on any two arrays it returns exactly the breaks of the hand model `strides` every theorem below
  is stated with -- so an edit of the loop (start value, bound test, comparison, increment, where the break is
  stored) changes this obligation. -/

theorem strides_prog_fact : Gen.Zonal.stridesProg = stridesSrc := rfl

theorem gen_strides_eq_model {α : Type} [DecidableEq α] (fz uz : List α) (fuel : Nat) (hf : fz.length < fuel) :
    Gen.Zonal.stridesProg.run (stridesArrs fz uz) fuel = strides fz 0 uz := by
  rw [strides_prog_fact]
  exact stridesSrc_run fz uz fuel hf

/-- a concrete instance: `_strides([1,1,2,2,2,5], [1,2,3,5]) = [2,5,5,6]` (fuel 7 > 6 elements) -/
example : Gen.Zonal.stridesProg.run (stridesArrs [1, 1, 2, 2, 2, 5] [1, 2, 3, 5]) 7 = [2, 5, 5, 6] := by
  rw [gen_strides_eq_model _ _ _ (by decide)]; decide

/-! ### `_strides` at layer T3: the ILang program generated from the source refines the model

  `Gen.IL.strides` is `_strides` translated statement by statement by the general translator of layer T3
  (harness/facts_il.py; ILang has numba's index normalisation and bounds checks that stop the program, `while` with
  fuel, IEEE `==` on the elements).  `stridesBy Fl.eq` is the hand model with the number type's `==` as the
  comparison; on ids that `==` compares like equality (finite numbers; `some : K → NV K`) it is `strides fz 0 uz`.
  The statements are about `Gen.IL.strides` itself: an edit of the loop changes the obligation. -/
section il
open XrsVerif.IL
variable {F : Type} [Fl F]

/-- the generated `_strides`, any two numeric arrays (also unsorted, with NaN / inf, empty), fuel > number of
    elements: the program ends with `return`, never reads out of range, leaves its inputs unchanged -/
theorem il_strides_refines (fz uz : List F) (s : State F) (fuel : Nat) (hin : StridesInput fz uz s)
    (hf : fz.length < fuel) :
    let r := Gen.IL.strides.run s fuel
    r.ctl = .ret ∧ r.shp "strides" = [uz.length] ∧ r.fa = s.fa ∧
    r.ia "strides" = (stridesBy Fl.eq fz 0 uz).map (fun (k : Nat) => (k : Int)) :=
  strides_refines fz uz s fuel hin hf

/-- ids embedded into the number type so that `==` on images is equality of ids: the
    generated program computes the model's `strides` -/
theorem il_strides_eq_model {α : Type} [DecidableEq α] (emb : α → F)
    (hemb : ∀ x y, Fl.eq (emb x) (emb y) = decide (x = y)) (fz uz : List α) (s : State F) (fuel : Nat)
    (hin : StridesInput (fz.map emb) (uz.map emb) s) (hf : fz.length < fuel) :
    let r := Gen.IL.strides.run s fuel
    r.ctl = .ret ∧ r.shp "strides" = [uz.length] ∧ r.fa = s.fa ∧
    r.ia "strides" = (strides fz 0 uz).map (fun (k : Nat) => (k : Int)) :=
  strides_refines_model emb hemb fz uz s fuel hin hf

/-- the `zone_breaks` of `_sort_and_stride`: the generated `_strides`, called with the sorted
    zone ids (non-finite ones stripped) and the unique ids, returns the model's `breaks` -- the slices
    `stats_value` and the theorems below are about are cut at the positions the *generated program* computes -/
theorem il_zone_breaks (strip : Bool) (zones : Nat → X κ) (values : Nat → ν) (uniq : List κ) (perm : List Nat)
    (emb : κ → F) (hemb : ∀ x y, Fl.eq (emb x) (emb y) = decide (x = y)) (s : State F) (fuel : Nat)
    (hin : StridesInput
      ((((sortAndStride strip zones values uniq perm).idx.map zones).filterMap X.toFin?).map emb) (uniq.map emb) s)
    (hf : perm.length < fuel) :
    let r := Gen.IL.strides.run s fuel
    r.ctl = .ret ∧
    r.ia "strides" = (sortAndStride strip zones values uniq perm).breaks.map (fun (k : Nat) => (k : Int)) := by
  have hlen : (((sortAndStride strip zones values uniq perm).idx.map zones).filterMap X.toFin?).length < fuel := by
    refine Nat.lt_of_le_of_lt (Nat.le_trans (List.length_filterMap_le _ _) ?_) hf
    simp only [List.length_map, sortAndStride]
    split
    · exact List.length_filter_le _ _
    · exact Nat.le_refl _
  have h := strides_refines_model emb hemb _ uniq s fuel hin hlen
  exact ⟨h.1, h.2.2.2⟩

end il

section ilExample
open XrsVerif.IL
local instance : Trig ℚ := ⟨id, id, fun a _ => a, id, id, id, id⟩

/-- non-vacuity: the generated program on `_strides([1,1,2,2,2,5], [1,2,3,5])` over `NV ℚ` returns `[2,5,5,6]` -/
example : ((Gen.IL.strides.run (stridesState (([1, 1, 2, 2, 2, 5] : List ℚ).map some) (([1, 2, 3, 5] : List ℚ).map some)) 7).ctl,
      (Gen.IL.strides.run (stridesState (([1, 1, 2, 2, 2, 5] : List ℚ).map some) (([1, 2, 3, 5] : List ℚ).map some)) 7).ia "strides")
    = (Ctl.ret, [2, 5, 5, 6]) := by
  have h := il_strides_eq_model (F := NV ℚ) some (fun x y => rfl) [1, 1, 2, 2, 2, 5] [1, 2, 3, 5] _ 7
    (stridesState_input _ _) (by decide)
  rw [Prod.mk.injEq]
  exact ⟨h.1, by rw [h.2.2.2]; decide⟩

/-- non-vacuity with a NaN and an unsorted array (`==` never holds for NaN): the general form -/
example : (Gen.IL.strides.run (stridesState ([some 1, none, some 1] : List (NV ℚ)) [some 1, none]) 4).ia "strides" = [1, 1] := by
  have h := il_strides_refines (F := NV ℚ) [some 1, none, some 1] [some 1, none] _ 4 (stridesState_input _ _) (by decide)
  rw [h.2.2.2]; decide

end ilExample

/-- **rows**: one row per distinct finite zone id present among the cells, ascending, restricted
    to the requested ids that exist -/
theorem stats_rows (zones : Nat → X κ) (cells : List Nat) (zoneIds : Option (List κ)) :
    (wantedZones zones cells zoneIds).Pairwise (· < ·) ∧
    ∀ u, u ∈ wantedZones zones cells zoneIds ↔ (∃ i ∈ cells, zones i = .fin u) ∧ wanted zoneIds u = true := by
  refine ⟨(sorted_sortDedup _).filter _, ?_⟩
  intro u
  simp only [wantedZones, List.mem_filter, mem_uniqueZones]

/-- every reducer, also one that depends on the order, sees exactly the zone's valid values: the
    argument it is called with is a permutation of them -/
theorem stats_value_any_reducer (zones : Nat → X κ) (values : Nat → ν) (cells perm : List Nat)
    (valid : ν → Bool) (nanρ : ρ) (funcs : List (List ν → ρ)) (zoneIds : Option (List κ))
    (hp : SortsCells zones cells perm) :
    statsNumpy Gen.Zonal.stripIndices zones values cells valid nanρ funcs zoneIds perm
      = { zone := wantedZones zones cells zoneIds
          cols := funcs.map (fun f => (wantedZones zones cells zoneIds).map
                    (zoneStat zones values valid nanρ f perm)) } ∧
    ∀ u, (zoneCells zones values valid perm u).Perm (zoneCells zones values valid cells u) := by
  rw [strip_fact]
  exact ⟨statsNumpy_fixed zones values cells perm valid nanρ funcs zoneIds hp,
    fun u => zoneCells_perm zones values valid perm cells hp.isPerm u⟩

/-- **values**: for every sorting permutation and every order-independent reducer the DataFrame is
    exactly: the wanted zones, and per reducer `f` of the multiset of the zone's valid values
    (cells whose zone *equals* the id, value finite and != nodata), NaN when there is none -/
theorem stats_value (zones : Nat → X κ) (values : Nat → ν) (cells perm : List Nat)
    (valid : ν → Bool) (nanρ : ρ) (funcs : List (List ν → ρ)) (zoneIds : Option (List κ))
    (hp : SortsCells zones cells perm) (hf : ∀ f ∈ funcs, PermInv f) :
    statsNumpy Gen.Zonal.stripIndices zones values cells valid nanρ funcs zoneIds perm
      = { zone := wantedZones zones cells zoneIds
          cols := funcs.map (fun f => (wantedZones zones cells zoneIds).map
                    (zoneStat zones values valid nanρ f cells)) } := by
  rw [(stats_value_any_reducer zones values cells perm valid nanρ funcs zoneIds hp).1]
  congr 1
  apply List.map_congr_left
  intro f hfm
  apply List.map_congr_left
  intro u _
  exact zoneStat_perm zones values valid nanρ f (hf f hfm) perm cells hp.isPerm u

/-- which sorting permutation `np.argsort` happens to return does not matter -/
theorem stats_perm_independent (zones : Nat → X κ) (values : Nat → ν) (cells p₁ p₂ : List Nat)
    (valid : ν → Bool) (nanρ : ρ) (funcs : List (List ν → ρ)) (zoneIds : Option (List κ))
    (h₁ : SortsCells zones cells p₁) (h₂ : SortsCells zones cells p₂) (hf : ∀ f ∈ funcs, PermInv f) :
    statsNumpy Gen.Zonal.stripIndices zones values cells valid nanρ funcs zoneIds p₁
      = statsNumpy Gen.Zonal.stripIndices zones values cells valid nanρ funcs zoneIds p₂ := by
  rw [stats_value zones values cells p₁ valid nanρ funcs zoneIds h₁ hf,
    stats_value zones values cells p₂ valid nanρ funcs zoneIds h₂ hf]

/-- a zone with no valid cell gets NaN, whatever the reducer -/
theorem empty_zone_nan (zones : Nat → X κ) (values : Nat → ν) (valid : ν → Bool) (nanρ : ρ)
    (f : List ν → ρ) (cells : List Nat) (u : κ)
    (h : ∀ i ∈ cells, zones i = .fin u → valid (values i) = false) :
    zoneStat zones values valid nanρ f cells u = nanρ := by
  have : zoneCells zones values valid cells u = [] := by
    unfold zoneCells
    rw [List.filter_eq_nil_iff]
    intro x hx
    rw [List.mem_map] at hx
    obtain ⟨i, hi, rfl⟩ := hx
    rw [List.mem_filter] at hi
    simp [h i hi.1 (by simpa using hi.2)]
  simp [zoneStat, this]

/-- cells whose zone is NaN or infinite belong to no zone: their values cannot influence the table -/
theorem nonfinite_zone_cells_ignored (zones : Nat → X κ) (values values' : Nat → ν) (cells perm : List Nat)
    (valid : ν → Bool) (nanρ : ρ) (funcs : List (List ν → ρ)) (zoneIds : Option (List κ))
    (hp : SortsCells zones cells perm) (hf : ∀ f ∈ funcs, PermInv f)
    (hsame : ∀ i, (zones i).isFin = true → values i = values' i) :
    statsNumpy Gen.Zonal.stripIndices zones values cells valid nanρ funcs zoneIds perm
      = statsNumpy Gen.Zonal.stripIndices zones values' cells valid nanρ funcs zoneIds perm := by
  rw [stats_value zones values cells perm valid nanρ funcs zoneIds hp hf,
    stats_value zones values' cells perm valid nanρ funcs zoneIds hp hf]
  congr 1
  apply List.map_congr_left
  intro f _
  apply List.map_congr_left
  intro u _
  have : zoneCells zones values valid cells u = zoneCells zones values' valid cells u := by
    unfold zoneCells
    congr 1
    apply List.map_congr_left
    intro i hi
    have hz : zones i = .fin u := by simpa using (List.mem_filter.mp hi).2
    exact hsame i (by simp [hz, X.isFin])
  simp [zoneStat, this]

/-- **raster form** (`return_type='xarray.DataArray'`): every cell of a wanted zone carries its
    zone's statistic, every other cell (other zone, NaN / infinite zone) is NaN -/
theorem raster_form (zones : Nat → X κ) (values : Nat → ν) (cells perm : List Nat)
    (valid : ν → Bool) (nanρ : ρ) (funcs : List (List ν → ρ)) (zoneIds : Option (List κ))
    (hp : SortsCells zones cells perm) (hf : ∀ f ∈ funcs, PermInv f) :
    statsRaster Gen.Zonal.stripIndices zones values cells valid nanρ funcs zoneIds perm
      = funcs.map (fun f => fun j =>
          match zones j with
          | .fin k => if k ∈ wantedZones zones cells zoneIds ∧ j ∈ cells
                        then zoneStat zones values valid nanρ f cells k else nanρ
          | _ => nanρ) := by
  rw [strip_fact, statsRaster_fixed zones values cells perm valid nanρ funcs zoneIds hp]
  apply List.map_congr_left
  intro f hfm
  funext j
  cases hz : zones j with
  | fin k =>
    simp only [List.contains_eq_mem, decide_eq_true_eq, hp.isPerm.mem_iff]
    rw [zoneStat_perm zones values valid nanρ f (hf f hfm) perm cells hp.isPerm k]
  | _ => rfl

/-! ### the built-in statistics (over any linearly ordered field, `sqrt` uninterpreted) -/

section builtin
variable {F : Type} [Field F] [LinearOrder F] [IsStrictOrderedRing F]

/-- mean / max / min / sum / std / var / count as called by `stats`: order independent, hence
    `stats_value` and `raster_form` apply to every subset of them in any order -/
theorem builtin_order_independent (sqrt : F → F) (stats : List Stat) :
    ∀ f ∈ stats.map (fun s => (Stat.func sqrt s : List (X F) → Option F)), PermInv f := by
  intro f hf
  rw [List.mem_map] at hf
  obtain ⟨s, _, rfl⟩ := hf
  exact Stat.func_permInv sqrt s

theorem builtin_table (sqrt : F → F) (zones : Nat → X κ) (values : Nat → X F) (cells perm : List Nat)
    (nodata : Option (X F)) (stats : List Stat) (zoneIds : Option (List κ))
    (hp : SortsCells zones cells perm) :
    statsNumpy Gen.Zonal.stripIndices zones values cells (validX nodata) (none : Option F)
        (stats.map (Stat.func sqrt)) zoneIds perm
      = { zone := wantedZones zones cells zoneIds
          cols := (stats.map (Stat.func sqrt)).map (fun f => (wantedZones zones cells zoneIds).map
                    (zoneStat zones values (validX nodata) none f cells)) } :=
  stats_value zones values cells perm (validX nodata) none _ zoneIds hp (builtin_order_independent sqrt stats)

/-- `max` is the greatest, `min` the least of the zone's values; `sum`, `count`, `mean = sum / count`,
    `var = mean of the squared deviations`, `std = sqrt var` are their defining formulas -/
theorem builtin_meaning (sqrt : F → F) (l : List F) (hl : l ≠ []) :
    (Stat.max.eval sqrt l ∈ l ∧ ∀ x ∈ l, x ≤ Stat.max.eval sqrt l) ∧
    (Stat.min.eval sqrt l ∈ l ∧ ∀ x ∈ l, Stat.min.eval sqrt l ≤ x) ∧
    Stat.sum.eval sqrt l = l.sum ∧ Stat.count.eval sqrt l = (l.length : F) ∧
    Stat.mean.eval sqrt l = l.sum / (l.length : F) ∧
    Stat.var.eval sqrt l = (l.map (fun x => (x - l.sum / (l.length : F)) * (x - l.sum / (l.length : F)))).sum / (l.length : F) ∧
    Stat.std.eval sqrt l = sqrt (Stat.var.eval sqrt l) :=
  ⟨rmax_spec l hl, rmin_spec l hl, rfl, rfl, rfl, rfl, rfl⟩

/-- what a valid value is: finite and different from `nodata_values` -/
theorem valid_iff (nodata : Option (X F)) (v : X F) :
    validX nodata v = true ↔ ∃ q, v = .fin q ∧ nodata ≠ some (.fin q) := by
  cases v <;> simp [validX]

/-- **the filter of `_calc_stats` is that predicate**: the boolean mask the source selects the zone's values
    with (`Gen.Zonal.maskCalcStats`, translated by harness/facts_zonal.py from `_calc_stats`),
    read with NumPy's elementwise / IEEE semantics, keeps exactly the values that are finite and not equal to
    `nodata_values` -- for every value (NaN, +-inf, finite) and every nodata (`None`, NaN, +-inf, finite).
    A tolerant comparison (`np.isclose`), a dropped conjunct or a `>` in place of `!=` is not this predicate:
    the generated mask changes (or is `unknown`) and this theorem does not check. -/
theorem calc_stats_mask_fact (nodata : Option (X F)) (v : X F) :
    Gen.Zonal.maskCalcStats.eval nodata v = validX nodata v := by
  rcases nodata with _ | (_ | _ | _ | _) <;> cases v <;>
    (try simp [Gen.Zonal.maskCalcStats, MExpr.eval, validX, ieeeEq, X.isFin]) <;> (try exact eq_comm)

end builtin

/-! ### why the fact matters: the unrepaired gather (D1) -/

/-- zones `[[-inf, 1, 1], [2, 2, 2]]`, values `[[100, 1, 2], [3, 4, 5]]`: when only `sorted_zones`
    is stripped, the -inf cell stays at the front of `values_by_zones`, zone 1 gets `100 + 1`
    and zone 2 gets `2 + 3 + 4` (the real code returns exactly that on the unrepaired tree) -/
theorem unrepaired_shifts_slices :
    let zones : Nat → X Int := fun i => [X.ninf, .fin 1, .fin 1, .fin 2, .fin 2, .fin 2].getD i .nan
    let values : Nat → Int := fun i => [100, 1, 2, 3, 4, 5].getD i 0
    statsNumpy false zones values (List.range 6) (fun _ => true) (-1) [List.sum] none [0, 1, 2, 3, 4, 5]
      = { zone := [1, 2], cols := [[101, 9]] } ∧
    statsNumpy true zones values (List.range 6) (fun _ => true) (-1) [List.sum] none [0, 1, 2, 3, 4, 5]
      = { zone := [1, 2], cols := [[3, 12]] } := by
  decide

/-- **the hypothesis the unrepaired code forces**: the variant that strips only `sorted_zones`
    (`strip = false`, what `facts_zonal.py` reads from a tree with D1) still produces the right table
    for every raster in which *no zone cell is -inf* -- NaN and +inf sort to the end and are harmless -/
theorem unrepaired_ok_without_neg_inf (zones : Nat → X κ) (values : Nat → ν) (cells perm : List Nat)
    (valid : ν → Bool) (nanρ : ρ) (funcs : List (List ν → ρ)) (zoneIds : Option (List κ))
    (hp : SortsCells zones cells perm) (hf : ∀ f ∈ funcs, PermInv f)
    (hno : ∀ i ∈ cells, zones i ≠ .ninf) :
    statsNumpy false zones values cells valid nanρ funcs zoneIds perm
      = { zone := wantedZones zones cells zoneIds
          cols := funcs.map (fun f => (wantedZones zones cells zoneIds).map
                    (zoneStat zones values valid nanρ f cells)) } := by
  rw [statsNumpy_unrepaired_eq zones values cells perm valid nanρ funcs zoneIds hp.isSorted
    (fun i hi => hno i (hp.isPerm.subset hi))]
  have := stats_value zones values cells perm valid nanρ funcs zoneIds hp hf
  rw [strip_fact] at this
  exact this

/-- a sorting permutation exists for a concrete raster with NaN, -inf and +inf zone cells -/
example : SortsCells (fun i => ([X.fin 2, .nan, .ninf, .fin 1, .pinf, .fin 2] : List (X Int)).getD i .nan)
    (List.range 6) [2, 3, 0, 5, 4, 1] :=
  ⟨by decide, by decide⟩

example : wantedZones (fun i => ([X.fin 2, .nan, .ninf, .fin 1, .pinf, .fin 2] : List (X Int)).getD i .nan)
    (List.range 6) (some [7, 2]) = [2] := by decide

end XrsVerif.C02
