import XrsVerif.Proofs.Crosstab
import XrsVerif.Proofs.ZonalReduce
import XrsVerif.Gen.Zonal
import Mathlib.Tactic.FieldSimp
import Mathlib.Tactic.Ring
/-
  C04 -- Cross-tabulation is a true contingency table under any zone / category selection.

  Every statement is about the position-faithful model of `_crosstab_numpy` (Model/Crosstab.lean)
  run with the structural facts harness/facts_zonal.py reads from /repo's source:
    `Gen.Zonal.stripIndices`     non-finite-zone indices dropped before the gather           (D1)
    `Gen.Zonal.catStartAlways`   `cat_start` advanced for every category, selected or not     (D3)
    `Gen.Zonal.rowsSortedNumpy`  the `zone` column lists the ids in the order the rows are computed in (D4)
    `Gen.Zonal.pctNumpy / pctDask / stridesBits`  the `percentage` expression as written in the source (a `PExpr`
                                 tree) and the width of the integer counts it is applied to
  On a tree with one of the defects the corresponding `*_fact` below does not check and this file
  does not build; `skipped_category_is_counted` / `rows_mislabelled` show what goes wrong then.

  Quantifiers: all rasters, all `valid` predicates (finite and != nodata), all requests `zoneIds`,
  `catIds` (any order, absent ids), every permutation that sorts the cells by zone.  Percentages are
  over an arbitrary field of characteristic 0 (exact arithmetic).
-/
set_option linter.unusedSectionVars false
set_option linter.unusedVariables false
namespace XrsVerif.C04
open XrsVerif XrsVerif.Zonal

variable {κ γ : Type} [LinearOrder κ] [LinearOrder γ]

theorem strip_fact : Gen.Zonal.stripIndices = true := rfl
theorem cat_start_fact : Gen.Zonal.catStartAlways = true := rfl
theorem rows_fact : Gen.Zonal.rowsSortedNumpy = true := rfl

/-- **count**: rows = the requested zones that exist (ascending), columns = the requested categories
    that exist (request order), entry (z, c) = number of cells with zone z whose value is c, finite
    and not nodata; `_total_count` = the zone's number of valid cells.  The call does not raise. -/
theorem crosstab_count (zones : Nat → X κ) (values : Nat → X γ) (valid : X γ → Bool)
    (cells perm : List Nat) (zoneIds : Option (List κ)) (catIds : Option (List γ))
    (hp : SortsCells zones cells perm) :
    crosstabNumpy2d Gen.Zonal.stripIndices Gen.Zonal.catStartAlways Gen.Zonal.rowsSortedNumpy
        zones values valid cells zoneIds catIds perm
      = some { zone := wantedZones zones cells zoneIds
               cats := selectIds (findCats2d values valid cells) catIds
               total := (wantedZones zones cells zoneIds).map (fun z => (zoneCells zones values valid cells z).length)
               rows := (wantedZones zones cells zoneIds).map (fun z =>
                  (selectIds (findCats2d values valid cells) catIds).map (countZC zones values valid cells z)) } := by
  rw [strip_fact, cat_start_fact, rows_fact]
  exact crosstabNumpy2d_fixed zones values valid cells perm zoneIds catIds hp

/-- what an entry counts, spelled out on cells -/
theorem entry_counts_cells (zones : Nat → X κ) (values : Nat → X γ) (valid : X γ → Bool) (cells : List Nat)
    (z : κ) (c : γ) :
    countZC zones values valid cells z c
      = (cells.filter (fun i => zones i == .fin z && (valid (values i) && values i == .fin c))).length :=
  countZC_eq_cells zones values valid cells z c

/-- the categories offered are exactly the valid values present -/
theorem cats_are_valid_values (values : Nat → X γ) (valid : X γ → Bool) (cells : List Nat) (c : γ) :
    c ∈ findCats2d values valid cells ↔ ∃ i ∈ cells, valid (values i) = true ∧ values i = .fin c :=
  mem_findCats2d values valid cells c

def entry {ρ : Type} (t : CTable κ γ ρ) (z : κ) (c : γ) : Option ρ :=
  ((t.zone.zip t.rows).lookup z).bind (fun r => (t.cats.zip r).lookup c)

theorem lookup_zip_map {α β : Type} [DecidableEq α] (l : List α) (h : α → β) (a : α) (ha : a ∈ l) :
    (l.zip (l.map h)).lookup a = some (h a) := by
  induction l with
  | nil => simp at ha
  | cons b l ih =>
    simp only [List.map_cons, List.zip_cons_cons, List.lookup_cons]
    by_cases e : a = b
    · subst e; simp
    · have : (a == b) = false := by simp [e]
      rw [this]
      rcases List.mem_cons.mp ha with h' | h'
      · exact absurd h' e
      · exact ih h'

/-- **restriction commutes**: whatever `zone_ids` / `cat_ids` are given (any order, absent ids), every
    entry of the restricted table, looked up by its zone label and its category label, is the entry
    of the unrestricted table with the same labels -- each row is labelled with its own zone -/
theorem restrict_commutes (zones : Nat → X κ) (values : Nat → X γ) (valid : X γ → Bool)
    (cells perm perm' : List Nat) (zoneIds : Option (List κ)) (catIds : Option (List γ))
    (hp : SortsCells zones cells perm) (hp' : SortsCells zones cells perm') :
    ∃ t full,
      crosstabNumpy2d Gen.Zonal.stripIndices Gen.Zonal.catStartAlways Gen.Zonal.rowsSortedNumpy
        zones values valid cells zoneIds catIds perm = some t ∧
      crosstabNumpy2d Gen.Zonal.stripIndices Gen.Zonal.catStartAlways Gen.Zonal.rowsSortedNumpy
        zones values valid cells none none perm' = some full ∧
      (∀ z, z ∈ t.zone ↔ z ∈ full.zone ∧ wanted zoneIds z = true) ∧
      (∀ c, c ∈ t.cats ↔ c ∈ full.cats ∧ wanted catIds c = true) ∧
      ∀ z ∈ t.zone, ∀ c ∈ t.cats,
        entry t z c = some (countZC zones values valid cells z c) ∧ entry full z c = entry t z c := by
  refine ⟨_, _, crosstab_count zones values valid cells perm zoneIds catIds hp,
    crosstab_count zones values valid cells perm' none none hp', ?_, ?_, ?_⟩
  · intro z
    simp only [wantedZones, List.mem_filter]
    have : wanted (none : Option (List κ)) z = true := rfl
    simp [this]
  · intro c
    cases catIds with
    | none => simp [selectIds, wanted]
    | some req => simp [selectIds, wanted, List.mem_filter, and_comm]
  · intro z hz c hc
    have hzf : z ∈ wantedZones zones cells (none : Option (List κ)) := by
      simp only [wantedZones, List.mem_filter] at hz ⊢
      exact ⟨hz.1, rfl⟩
    have hcf : c ∈ selectIds (findCats2d values valid cells) (none : Option (List γ)) := by
      cases catIds with
      | none => exact hc
      | some req => simp only [selectIds, List.mem_filter] at hc ⊢; simpa using hc.2
    simp only [entry]
    rw [lookup_zip_map _ _ z hz, lookup_zip_map _ _ z hzf]
    simp only [Option.bind_some]
    rw [lookup_zip_map _ _ c hc, lookup_zip_map _ _ c hcf]
    exact ⟨rfl, rfl⟩

section pct
variable {F : Type} [Field F] [CharZero F]

/-- `agg='percentage'`: every entry is the count as a percentage of the zone's valid cells; a zone
    without valid cell has NaN everywhere -/
theorem crosstab_percentage (total n : Nat) :
    (finishCell true total n : Option F)
      = if total = 0 then none else some ((n : F) / (total : F) * ((100 : Nat) : F)) := rfl

theorem finish_rows (pct : Bool) (L : List κ) (C : List γ) (tot : κ → Nat) (g : κ → γ → Nat) :
    ((({ zone := L, cats := C, total := L.map tot, rows := L.map (fun z => C.map (g z)) } : CTable κ γ Nat).finish pct
        : CTable κ γ (Option F))).rows
      = L.map (fun z => C.map (fun c => finishCell pct (tot z) (g z c))) := by
  simp only [CTable.finish]
  induction L with
  | nil => rfl
  | cons a L ih => simp [ih]

/-! #### the percentage as the source computes it

  The counts are NumPy integers of `Gen.Zonal.stridesBits` bits (differences of the breaks `_strides`
  returns); `Gen.Zonal.pctNumpy` / `pctDask` are the expressions of `_crosstab_numpy` / `_crosstab_df_dask`,
  translated from the source, evaluated by `PExpr.eval` with NumPy's typing: integer × integer literal stays
  in the counts' width and wraps around, a division (or anything that meets a float) is floating point.
  `percentage_no_wrap_*`: for **every** count that fits the width and every total the source expression is
  `count / total * 100` -- no intermediate result leaves the integer range.  The proof script closes every
  spelling in which the count meets the float total (or a float literal) before it is multiplied by an
  integer (`c / t * 100`, `100 * (c / t)`, `c * 100.0 / t`, `c * (100 / t)`, ...); for `c * 100 / t` the
  statement is false from `count = 21474837` on (`reordered_wraps`) and this file does not build. -/

/-- the breaks (hence the counts) are at least 32-bit integers: rasters below 2^31 cells cannot wrap them -/
theorem strides_bits_fact : 32 ≤ Gen.Zonal.stridesBits := by decide

theorem percentage_no_wrap_numpy (total n : Nat) (hn : n < 2 ^ (Gen.Zonal.stridesBits - 1)) :
    (pctCell Gen.Zonal.pctNumpy Gen.Zonal.stridesBits total n : Option F) = finishCell true total n := by
  unfold pctCell finishCell
  by_cases h : total = 0
  · simp [h]
  · have ht : ((total : Nat) : F) ≠ 0 := by exact_mod_cast h
    simp only [h, if_false, Gen.Zonal.pctNumpy, PExpr.eval, PVal.toF, if_true, Option.some.injEq]
    push_cast
    first | rfl | ring1 | (field_simp; done) | (field_simp; ring1)

theorem percentage_no_wrap_dask (total n : Nat) (hn : n < 2 ^ (Gen.Zonal.stridesBits - 1)) :
    (pctCell Gen.Zonal.pctDask Gen.Zonal.stridesBits total n : Option F) = finishCell true total n := by
  unfold pctCell finishCell
  by_cases h : total = 0
  · simp [h]
  · have ht : ((total : Nat) : F) ≠ 0 := by exact_mod_cast h
    simp only [h, if_false, Gen.Zonal.pctDask, PExpr.eval, PVal.toF, if_true, Option.some.injEq]
    push_cast
    first | rfl | ring1 | (field_simp; done) | (field_simp; ring1)

/-- the table the driver prints (`CTable.finishSrc`, percentages through the source's expression) is the
    table of `crosstab_percentage` whenever every count fits the integer width -/
theorem finish_src_eq (pct : Bool) (t : CTable κ γ Nat)
    (hfit : ∀ r ∈ t.rows, ∀ n ∈ r, n < 2 ^ (Gen.Zonal.stridesBits - 1)) :
    (t.finishSrc Gen.Zonal.pctNumpy Gen.Zonal.stridesBits pct : CTable κ γ (Option F)) = t.finish pct := by
  have key : ∀ (tots : List Nat) (rows : List (List Nat)), (∀ r ∈ rows, ∀ n ∈ r, n < 2 ^ (Gen.Zonal.stridesBits - 1)) →
      List.zipWith (fun tot (r : List Nat) => r.map (fun n =>
          if pct then (pctCell Gen.Zonal.pctNumpy Gen.Zonal.stridesBits tot n : Option F) else some ((n : Int) : F))) tots rows
        = List.zipWith (fun tot r => r.map (finishCell pct tot)) tots rows := by
    intro tots
    induction tots with
    | nil => intro rows _; simp
    | cons a tl ih =>
      intro rows hr
      cases rows with
      | nil => simp
      | cons r rs =>
        simp only [List.zipWith_cons_cons]
        rw [ih rs (fun r' hr' => hr r' (List.mem_cons_of_mem _ hr'))]
        congr 1
        apply List.map_congr_left
        intro n hn
        cases pct with
        | true => simpa using percentage_no_wrap_numpy a n (hr r (List.mem_cons_self ..) n hn)
        | false => simp [finishCell]
  simp only [CTable.finishSrc, CTable.finish]
  rw [key t.total t.rows hfit]

/-- **why the order of the operations matters**: multiplied first, in 32-bit integers, the entry of a
    (zone, category) pair with 21 474 837 cells (a 4 800 × 4 800 raster) is negative; the same expression
    over 64-bit counts, or the source's order, gives the percentage -/
theorem reordered_wraps :
    wrapS 32 (21474837 * 100) = -2147483596 ∧
    (pctCell (PExpr.div (.mul .count (.lit 100)) .total) 32 23000000 21474837 : Option Rat)
      = some (-2147483596 / 23000000) ∧
    (pctCell (PExpr.div (.mul .count (.lit 100)) .total) 32 23000000 21474837 : Option Rat)
      ≠ finishCell true 23000000 21474837 ∧
    (pctCell (PExpr.div (.mul .count (.lit 100)) .total) 64 23000000 21474837 : Option Rat)
      = finishCell true 23000000 21474837 := by
  refine ⟨by decide, by decide +kernel, by decide +kernel, by decide +kernel⟩

/-- **every non-empty row sums to 100** when all categories are shown -/
theorem rows_sum_100 (zones : Nat → X κ) (values : Nat → X γ) (valid : X γ → Bool) (cells : List Nat) (z : κ)
    (hfin : ∀ v, valid v = true → v.isFin = true)
    (hne : (zoneCells zones values valid cells z).length ≠ 0) :
    ((findCats2d values valid cells).map (fun c =>
        ((countZC zones values valid cells z c : Nat) : F) / (((zoneCells zones values valid cells z).length : Nat) : F)
          * ((100 : Nat) : F))).sum = ((100 : Nat) : F) := by
  have h := percent_sum (F := F) ((findCats2d values valid cells).map (countZC zones values valid cells z))
    (zoneCells zones values valid cells z).length hne (sum_countZC zones values valid cells z hfin)
  rw [List.map_map] at h
  exact h

/-- **the three filters of the crosstab are the validity predicate**: the masks of `_find_cats` (which
    categories exist), `_single_zone_crosstab_2d` (what is counted, and the denominator of a percentage) and
    `_single_zone_crosstab_3d`, translated from the source, read with NumPy's IEEE semantics, keep
    exactly the values that are finite and not equal to `nodata_values` -/
theorem crosstab_mask_facts {G : Type} [DecidableEq G] (nodata : Option (X G)) (v : X G) :
    Gen.Zonal.maskFindCats.eval nodata v = validX nodata v ∧
    Gen.Zonal.maskZone2d.eval nodata v = validX nodata v ∧
    Gen.Zonal.maskZone3d.eval nodata v = validX nodata v := by
  refine ⟨?_, ?_, ?_⟩ <;> rcases nodata with _ | (_ | _ | _ | _) <;> cases v <;>
    (try simp [Gen.Zonal.maskFindCats, Gen.Zonal.maskZone2d, Gen.Zonal.maskZone3d, MExpr.eval, validX, ieeeEq, X.isFin]) <;>
    (try exact eq_comm)

/-- the built-in validity predicate only admits finite values -/
theorem validX_finite {G : Type} [DecidableEq G] (nodata : Option (X G)) (v : X G) (h : validX nodata v = true) :
    v.isFin = true :=
  validX_isFin nodata v h

end pct

/-- **3-D**: the categories are the layers; every entry is the chosen aggregate over the valid cells
    of that layer inside that zone (for any order-independent aggregate, e.g. the seven built-in ones) -/
theorem crosstab_3d {ν ρ : Type} (zones : Nat → X κ) (layers : List (γ × (Nat → ν)))
    (valid : ν → Bool) (func : List ν → ρ) (hf : PermInv func) (cells perm : List Nat)
    (zoneIds : Option (List κ)) (catIds : Option (List γ)) (hp : SortsCells zones cells perm) :
    crosstabNumpy3d Gen.Zonal.stripIndices Gen.Zonal.rowsSortedNumpy zones layers valid func cells zoneIds catIds perm
      = some { zone := wantedZones zones cells zoneIds
               cats := selectIds (layers.map Prod.fst) catIds
               cols := (selectIds (layers.map Prod.fst) catIds).map (fun c =>
                  optCol (layers.find? (fun l => l.1 == c)) (fun l =>
                    (wantedZones zones cells zoneIds).map (fun z => func (zoneCells zones l.2 valid cells z)))) } := by
  rw [strip_fact, rows_fact, crosstabNumpy3d_fixed zones layers valid func cells perm zoneIds catIds hp]
  congr 2
  apply List.map_congr_left
  intro c _
  cases layers.find? (fun l => l.1 == c) with
  | none => rfl
  | some l =>
    simp only [optCol]
    apply List.map_congr_left
    intro z _
    exact hf _ _ (zoneCells_perm zones l.2 valid perm cells hp.isPerm z)

/-- the seven built-in aggregates are order independent, so `crosstab_3d` applies to each -/
theorem builtin_aggregates {F : Type} [Field F] [LinearOrder F] [IsStrictOrderedRing F] (sqrt : F → F) (s : Stat) :
    PermInv (Stat.func sqrt s : List (X F) → Option F) := Stat.func_permInv sqrt s

/-- D3: zones `[[1,1,1],[2,2,2]]`, values `[[10,10,20],[10,20,20]]`, `cat_ids=[20]`: when the offset
    is advanced only for selected categories, column 20 also counts the cells with value 10 -/
theorem skipped_category_is_counted :
    let zones : Nat → X Int := fun i => [X.fin 1, .fin 1, .fin 1, .fin 2, .fin 2, .fin 2].getD i .nan
    let values : Nat → X Int := fun i => [X.fin 10, .fin 10, .fin 20, .fin 10, .fin 20, .fin 20].getD i .nan
    (crosstabNumpy2d true false true zones values X.isFin (List.range 6) none (some [20]) [0, 1, 2, 3, 4, 5]).map (·.rows)
      = some [[3], [3]] ∧
    (crosstabNumpy2d true true true zones values X.isFin (List.range 6) none (some [20]) [0, 1, 2, 3, 4, 5]).map (·.rows)
      = some [[1], [2]] := by
  decide

/-- D4: same rasters, `zone_ids=[2, 1]`: labels in request order over rows in computed order -/
theorem rows_mislabelled :
    let zones : Nat → X Int := fun i => [X.fin 1, .fin 1, .fin 1, .fin 2, .fin 2, .fin 2].getD i .nan
    let values : Nat → X Int := fun i => [X.fin 10, .fin 10, .fin 20, .fin 10, .fin 20, .fin 20].getD i .nan
    (crosstabNumpy2d true true false zones values X.isFin (List.range 6) (some [2, 1]) none [0, 1, 2, 3, 4, 5]).map
        (fun t => (t.zone, t.rows)) = some ([2, 1], [[2, 1], [1, 2]]) ∧
    (crosstabNumpy2d true true true zones values X.isFin (List.range 6) (some [2, 1]) none [0, 1, 2, 3, 4, 5]).map
        (fun t => (t.zone, t.rows)) = some ([1, 2], [[2, 1], [1, 2]]) := by
  decide

example : SortsCells (fun i => ([X.fin 1, .fin 1, .fin 1, .fin 2, .fin 2, .fin 2] : List (X Int)).getD i .nan)
    (List.range 6) [0, 1, 2, 3, 4, 5] := ⟨by decide, by decide⟩

/-- counts of realistic rasters fit the width: 23 000 000 < 2^31 -/
example : 23000000 < 2 ^ (Gen.Zonal.stridesBits - 1) := by decide

example : (zoneCells (fun i => ([X.fin 1, .fin 1, .fin 2] : List (X Int)).getD i .nan)
    (fun i => ([X.fin 10, .nan, .fin 20] : List (X Int)).getD i .nan) X.isFin (List.range 3) 1).length ≠ 0 := by decide

end XrsVerif.C04
