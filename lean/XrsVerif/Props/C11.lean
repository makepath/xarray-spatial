import XrsVerif.Proofs.Effects
import XrsVerif.Core.Dataflow
import XrsVerif.Gen.Effects
/-
  C11 -- Results depend only on the arguments, not on earlier calls or thread timing.

  The theorems are about the *abstraction* of Model/Effects.lean: a public call is an arbitrary pure
  function of its arguments and of what it observes of the shared state (global RNG, module tables,
  mutable defaults, rebound globals, values frozen into numba dispatchers), and which shared cells
  it touches, in which order, is given by its effect summary.  The summaries (`Gen.summary_*`,
  `Gen.volatile`, `Gen.allKernelFacts`, `Gen.taskSummaries`) are regenerated from /repo's
  source on every run (harness/facts_effects.py).  What the summaries cannot see (real data races,
  numba / dask internals, effects hidden behind dynamic dispatch) is covered only by the differential harness
  (harness/corr_C11.py: every call of a random history against the same call in a fresh process,
  under 1..16 threads).  This property is therefore *partial*: proof of the abstraction + explored
  histories.
-/
namespace XrsVerif.C11
open XrsVerif XrsVerif.Effects

variable {A V R : Type}

/-- `bump` draws its locations from the unseeded global RNG *by contract*: it is not a function of its
    arguments, so it is not a subject of the property -- but it is a perturber in every history. -/
def unseededByContract : List String := ["bump.bump"]

/-- the argument aspects a seeded generator may look at: the seed, the template's shape and other
    metadata (dims / attrs / dtype / backend / chunks -- never its cell values), the extent
    (`freq`, `x_range`, `y_range`, `full_extent`) and the explicit scale / label parameters -/
def generatorInputs : List String :=
  ["seed", "agg.shape", "agg.dims", "agg.attrs", "agg.coords", "agg.dtype", "agg.backend", "agg.chunks",
   "agg.ndim", "agg.size", "freq", "x_range", "y_range", "full_extent", "zfactor", "name"]

/-- **history_independent.**  `W` = the cells anybody may write.  After *any* finite history `h` of calls
    that write only inside `W` (they need not be deterministic themselves: `bump` is allowed), a call
    whose summary passes `noStale W` returns what it returns in a fresh interpreter. -/
theorem history_independent (W : List Cell) (cells : Cell → V) (h : List (Call A V R)) (c : Call A V R)
    (hh : ∀ p ∈ h, confined W p.prog = true) (hc : noStale W [] c.prog = true) :
    (step (runHist (Lib.fresh cells) h) c).2 = (step (Lib.fresh cells) c).2 :=
  step_result_eq W cells _ _ c hc (runHist_inv W cells h _ hh (fresh_inv W cells)) (fresh_inv W cells)

/-- the form of DESIGN.md: every summary in `h` and `c` satisfies NoStaleRead -/
theorem history_independent_noStale (W : List Cell) (cells : Cell → V) (h : List (Call A V R)) (c : Call A V R)
    (hh : ∀ p ∈ h, noStale W [] p.prog = true) (hc : noStale W [] c.prog = true) :
    (step (runHist (Lib.fresh cells) h) c).2 = (step (Lib.fresh cells) c).2 :=
  history_independent W cells h c (fun p hp => noStale_confined W p.prog [] (hh p hp)) hc

/-- repeating a call (with anything in between) gives the identical result -/
theorem repeat_identical (W : List Cell) (cells : Cell → V) (h₁ h₂ : List (Call A V R)) (c : Call A V R)
    (hh₁ : ∀ p ∈ h₁, confined W p.prog = true) (hh₂ : ∀ p ∈ h₂, confined W p.prog = true)
    (hc : noStale W [] c.prog = true) :
    (step (runHist (Lib.fresh cells) (h₁ ++ c :: h₂)) c).2 = (step (runHist (Lib.fresh cells) h₁) c).2 := by
  have hcc := noStale_confined W c.prog [] hc
  rw [history_independent W cells (h₁ ++ c :: h₂) c ?_ hc, history_independent W cells h₁ c hh₁ hc]
  intro p hp
  rcases List.mem_append.mp hp with hp | hp
  · exact hh₁ p hp
  · rcases List.mem_cons.mp hp with hp | hp
    · rw [hp]; exact hcc
    · exact hh₂ p hp

/-- every function of the library writes only the cells listed in `Gen.volatile` -/
theorem all_confined : Gen.allSummaries.all (fun σ => confined Gen.volatile σ.prog) = true := by decide +kernel

/-- every function of the library except `bump` reads shared state only after overwriting it in the
    same call, never mutates a table / default / global, and every reusable dispatcher captures
    module constants only (proximity's closure over its arguments is created per call) -/
theorem all_noStale :
    Gen.allSummaries.all (fun σ => unseededByContract.contains σ.name || noStale Gen.volatile [] σ.prog) = true := by
  decide +kernel

/-- no CPU kernel persists compiled code on disk (`cache=True` would outlive the interpreter) -/
theorem no_persistent_cache : Gen.allKernelFacts.all (fun k => !k.cache) = true := by decide +kernel

/-- a history made of library functions, whatever their arguments, writes only volatile cells -/
theorem library_calls_confined [Inhabited V] (h : List (Summary × Sem (String → V) V R × (String → V)))
    (hh : ∀ p ∈ h, p.1 ∈ Gen.allSummaries) :
    ∀ c ∈ h.map (fun p => p.1.call p.2.1 p.2.2), confined Gen.volatile c.prog = true := by
  intro c hc
  rcases List.mem_map.mp hc with ⟨q, hq, rfl⟩
  exact (List.all_eq_true.mp all_confined) q.1 (hh q hq)

/-- **the library instance**: any history of library calls (bump included, any arguments), then any
    library function other than bump: same result as in a fresh interpreter -/
theorem library_history_independent [Inhabited V] (cells : Cell → V)
    (h : List (Summary × Sem (String → V) V R × (String → V))) (σ : Summary)
    (sem : Sem (String → V) V R) (args : String → V)
    (hh : ∀ p ∈ h, p.1 ∈ Gen.allSummaries) (hσ : σ ∈ Gen.allSummaries)
    (hs : unseededByContract.contains σ.name = false) :
    (step (runHist (Lib.fresh cells) (h.map fun p => p.1.call p.2.1 p.2.2)) (σ.call sem args)).2 =
      (step (Lib.fresh cells) (σ.call sem args)).2 := by
  apply history_independent Gen.volatile
  · exact library_calls_confined h hh
  · have := (List.all_eq_true.mp all_noStale) σ hσ
    simp only [Bool.or_eq_true] at this
    rcases this with h' | h'
    · rw [hs] at h'; cases h'
    · exact h'

/-- The one kind of caller-owned state the library does touch: the *binding* of a raster's array
    (`x.data = x.data.rechunk(..)`, `x.values = x.values.astype(float64)`, and `zonal.apply`, in place by
    contract: "Change the agg content").  Nobody *reads* a binding in the model: what a call sees of its
    arguments is part of `A`, and the harness takes the argument snapshot at call time. -/
def toleratedCallerWrites : List Cell := [.param "binding"]

/-- who re-binds an argument's array: `zonal.apply` (by contract), `viewshed` (float64 cast),
    `validate_arrays` and its users / dask proximity / dask zonal (re-chunk: values, coords, attrs unchanged) -/
def knownRebinders : List String :=
  ["zonal.apply", "viewshed.viewshed", "utils.validate_arrays", "zonal.stats", "zonal.crosstab",
   "proximity.proximity", "proximity.allocation", "proximity.direction",
   "multispectral.arvi", "multispectral.ebbi", "multispectral.evi", "multispectral.gci", "multispectral.nbr",
   "multispectral.nbr2", "multispectral.ndmi", "multispectral.ndvi", "multispectral.savi", "multispectral.sipi"]

/-- **no_caller_state_written.**  No function of the library writes to the attrs, coordinates, name, cells or
    any other attribute of an object the caller passed in (`agg.attrs['res'] = ...`, `raster[x] = ...`): such a
    write outlives the call -- xarray carries attrs through slicing / `assign_coords` -- and a later call on
    that object, or on one derived from it, would see it. -/
theorem no_caller_state_written :
    Gen.allSummaries.all (fun σ => σ.prog.writes.all fun c => !c.callerOwned || toleratedCallerWrites.contains c) = true := by
  decide +kernel

/-- the array binding is re-pointed by the known functions only -/
theorem only_known_rebinders :
    Gen.allSummaries.all (fun σ => !σ.prog.writes.contains (.param "binding") || knownRebinders.contains σ.name) = true := by
  decide +kernel

/-- hence the volatile set holds no caller-owned cell but the binding ... -/
theorem volatile_caller_cells :
    Gen.volatile.all (fun c => !c.callerOwned || toleratedCallerWrites.contains c) = true := by decide +kernel

/-- **caller_objects_untouched.**  ... and after *any* history of library calls (any arguments) the attrs,
    coordinates, name and cells of every object the caller holds are what they were: an argument derived
    from them (a strided view, rescaled coordinates) equals the argument derived in a fresh interpreter, and
    `library_history_independent` (whose calls may *read* these cells) applies to the call made with it. -/
theorem caller_objects_untouched [Inhabited V] (cells : Cell → V)
    (h : List (Summary × Sem (String → V) V R × (String → V))) (hh : ∀ p ∈ h, p.1 ∈ Gen.allSummaries)
    (c : Cell) (hc : c.callerOwned = true) (hb : toleratedCallerWrites.contains c = false) :
    (runHist (Lib.fresh cells) (h.map fun p => p.1.call p.2.1 p.2.2)).cells c = cells c := by
  have hv : Gen.volatile.contains c = false := by
    cases hcv : Gen.volatile.contains c with
    | false => rfl
    | true =>
      have := (List.all_eq_true.mp volatile_caller_cells) c (List.contains_iff_mem.mp hcv)
      rw [hc, hb] at this
      cases this
  exact (runHist_inv Gen.volatile cells _ (Lib.fresh cells) (library_calls_confined h hh)
    (fresh_inv Gen.volatile cells)).cells_eq c hv

/-- a call through a summary sees only the argument aspects listed in `deps` -/
theorem call_congr [Inhabited V] (σ : Summary) (sem : Sem (String → V) V R) (args args' : String → V)
    (h : ∀ k, σ.deps.contains k = true → args k = args' k) : σ.call sem args = σ.call sem args' := by
  unfold Summary.call restrict
  congr 1
  funext k
  by_cases hk : σ.deps.contains k = true
  · simp only [hk, if_true]; exact h k hk
  · simp only [hk]; rfl

/-- perlin reads only generator inputs of its arguments (never the template's cell values) -/
theorem perlin_reads_inputs_only :
    Gen.summary_perlin_perlin.deps.all generatorInputs.contains = true := by decide

/-- generate_terrain reads only generator inputs of its arguments -/
theorem generate_terrain_reads_inputs_only :
    Gen.summary_terrain_generate_terrain.deps.all generatorInputs.contains = true := by decide

/-- **seeded_generators.**  perlin / generate_terrain after any two histories of library calls and with
    any two argument tuples that agree on (seed, shape & metadata, extent, scale): identical results.
    In particular the global RNG state, the template's cell values and earlier calls are irrelevant. -/
theorem seeded_generators [Inhabited V] (cells : Cell → V)
    (h h' : List (Summary × Sem (String → V) V R × (String → V))) (σ : Summary)
    (hσ : σ = Gen.summary_perlin_perlin ∨ σ = Gen.summary_terrain_generate_terrain)
    (sem : Sem (String → V) V R) (args args' : String → V)
    (hh : ∀ p ∈ h, p.1 ∈ Gen.allSummaries) (hh' : ∀ p ∈ h', p.1 ∈ Gen.allSummaries)
    (hag : ∀ k ∈ generatorInputs, args k = args' k) :
    (step (runHist (Lib.fresh cells) (h.map fun p => p.1.call p.2.1 p.2.2)) (σ.call sem args)).2 =
      (step (runHist (Lib.fresh cells) (h'.map fun p => p.1.call p.2.1 p.2.2)) (σ.call sem args')).2 := by
  -- walking to the entry compares constants by name; deciding the membership would compare whole summaries
  have hmem : σ ∈ Gen.allSummaries := by
    unfold Gen.allSummaries
    rcases hσ with rfl | rfl <;> repeat (first | exact List.mem_cons_self | apply List.mem_cons_of_mem)
  have hname : unseededByContract.contains σ.name = false := by rcases hσ with rfl | rfl <;> decide
  have hdeps : σ.deps.all generatorInputs.contains = true := by
    rcases hσ with rfl | rfl
    · exact perlin_reads_inputs_only
    · exact generate_terrain_reads_inputs_only
  have hc : σ.call sem args = σ.call sem args' := by
    apply call_congr
    intro k hk
    apply hag
    have := (List.all_eq_true.mp hdeps) k (List.contains_iff_mem.mp hk)
    exact List.contains_iff_mem.mp this
  rw [library_history_independent cells h σ sem args hh hmem hname,
      library_history_independent cells h' σ sem args' hh' hmem hname, hc]

/-- **sequential_kernels.**  With `parallel=False` (or no `prange`) a kernel is a sequential fold over its
    iteration space: whatever the thread count and whatever the scheduler would have done -/
theorem sequential_kernels {β ι : Type} (kf : KernelFacts) (hk : (kf.parallel && kf.prange) = false)
    (l : Loop β ι) (b : β) (t t' : Nat) (sched sched' : Nat → List ι → List ι) :
    l.run kf t sched b = l.idxs.foldl l.body b ∧ l.run kf t sched b = l.run kf t' sched' b := by
  simp [Loop.run, hk]

/-- a `parallel=True` kernel whose iterations write only their own cell gives the same result for
    every thread count and every assignment of iterations to threads -/
theorem own_cell_kernels {ι V : Type} [DecidableEq ι] (kf : KernelFacts) (idxs : List ι) (g : ι → V)
    (b : ι → V) (t t' : Nat) (sched sched' : Nat → List ι → List ι)
    (hs : ∀ n, (sched n idxs).Perm idxs) (hs' : ∀ n, (sched' n idxs).Perm idxs) :
    (Loop.ownCell idxs g).run kf t sched b = (Loop.ownCell idxs g).run kf t' sched' b := by
  have comm : ∀ (x y : ι) (z : ι → V),
      (Loop.ownCell idxs g).body ((Loop.ownCell idxs g).body z x) y =
      (Loop.ownCell idxs g).body ((Loop.ownCell idxs g).body z y) x := by
    intro x y z
    funext k
    simp only [Loop.ownCell]
    by_cases h1 : k = y <;> by_cases h2 : k = x <;> simp_all
  have key : ∀ (o : List ι), o.Perm idxs →
      o.foldl (Loop.ownCell idxs g).body b = idxs.foldl (Loop.ownCell idxs g).body b := by
    intro o ho
    exact ho.foldl_eq' (fun x _ y _ z => comm x y z) b
  unfold Loop.run
  have e : (Loop.ownCell idxs g).idxs = idxs := rfl
  rw [e]
  by_cases hk : (kf.parallel && kf.prange) = true
  · simp only [hk, if_true]
    rw [key _ (hs t), key _ (hs' t')]
  · simp only [hk]
    rfl

/-- every CPU kernel of /repo is sequential (`parallel=False`: `prange` is `range`), or its `prange` body
    writes only its own cell -- the two cases covered by the theorems above -/
theorem all_kernels_thread_safe : Gen.allKernelFacts.all threadSafe = true := by decide +kernel

/-- the functions handed to dask write no shared state and read none that anybody writes -/
theorem tasks_pure :
    Gen.taskSummaries.all (fun σ => confined [] σ.prog && noStale Gen.volatile [] σ.prog) = true := by decide +kernel

/-- **schedule_independent** (Core/Dataflow, DESIGN A.6) instantiated with tasks that are library
    functions: task `i` runs `task i inputs` against whatever library state the worker thread
    finds (any state reachable by library calls completed before or concurrently -- `hist i`).  Two
    executions with different schedules, worker counts and timings agree on every value they compute. -/
theorem dask_schedule_independent (W : List Cell) (cells : Cell → V)
    (deps : Nat → List Nat) (deps_lt : ∀ i j, j ∈ deps i → j < i)
    (task : Nat → List R → Call A V R) (hp : ∀ i ins, noStale W [] (task i ins).prog = true)
    (hist₁ hist₂ : Nat → List (Call A V R))
    (hh₁ : ∀ i, ∀ p ∈ hist₁ i, confined W p.prog = true) (hh₂ : ∀ i, ∀ p ∈ hist₂ i, confined W p.prog = true)
    (s₁ s₂ : List (List Nat)) (i : Nat) (v w : R)
    (h₁ : DF.run ⟨deps, fun i ins => (step (runHist (Lib.fresh cells) (hist₁ i)) (task i ins)).2, deps_lt⟩ s₁
            (fun _ => none) i = some v)
    (h₂ : DF.run ⟨deps, fun i ins => (step (runHist (Lib.fresh cells) (hist₂ i)) (task i ins)).2, deps_lt⟩ s₂
            (fun _ => none) i = some w) : v = w :=
  schedule_independent_of_noStale W cells deps deps_lt task hp hist₁ hist₂ hh₁ hh₂ s₁ s₂ i v w h₁ h₂

/-! ### non-vacuity -/

/-- a concrete semantics over `Nat`: seeding stores the first argument, drawing advances by one, the
    result is everything that was observed -/
def demoSem : Sem (String → Nat) Nat (List Nat) :=
  { seedv := fun a _ => a "seed", adv := fun v => v + 1, mutv := fun a _ v => v + a "seed",
    capArg := fun a n => a n, sig := fun _ _ => 0, iters := fun _ _ => 2, out := fun _ t => t }

def demoArgs (seed : Nat) : String → Nat := fun k => if k = "seed" then seed else 0

/-- the hypotheses hold for real summaries ... -/
example : noStale Gen.volatile [] Gen.summary_perlin_perlin.prog = true := by decide
example : noStale Gen.volatile [] Gen.summary_proximity_proximity.prog = true := by decide
example : Gen.summary_perlin_perlin.prog.writes.contains .rng = true := by decide
/-- ... and they reject something real: bump is confined (a legal perturber) but not `noStale` -/
example : confined Gen.volatile Gen.summary_bump_bump.prog = true ∧
    noStale Gen.volatile [] Gen.summary_bump_bump.prog = false := by decide
/-- the hypothesis is needed: bump after perlin(seed=7) differs from bump in a fresh interpreter -/
example : (step (runHist (Lib.fresh fun _ => 0)
      [Gen.summary_perlin_perlin.call demoSem (demoArgs 7)]) (Gen.summary_bump_bump.call demoSem (demoArgs 0))).2
    ≠ (step (Lib.fresh fun _ => 0) (Gen.summary_bump_bump.call demoSem (demoArgs 0))).2 := by decide
/-- perlin(seed=3) after perlin(seed=7) and bump equals perlin(seed=3) fresh (an instance of the theorem) -/
example : (step (runHist (Lib.fresh fun _ => 0)
      [Gen.summary_perlin_perlin.call demoSem (demoArgs 7), Gen.summary_bump_bump.call demoSem (demoArgs 0)])
      (Gen.summary_perlin_perlin.call demoSem (demoArgs 3))).2
    = (step (Lib.fresh fun _ => 0) (Gen.summary_perlin_perlin.call demoSem (demoArgs 3))).2 := by decide

/-- a closure over the arguments jitted ONCE (module-level dispatcher) is stale on the second call ... -/
def staleClosure : Prog :=
  .op (.jit { name := "m.f", fresh := false, cache := false, caps := [.arg "seed"] }) .nil
example : noStale [] [] staleClosure = false := by decide
example : (step (runHist (Lib.fresh fun _ => 0) [⟨staleClosure, demoArgs 1, demoSem⟩]) ⟨staleClosure, demoArgs 2, demoSem⟩).2
    ≠ (step (Lib.fresh fun _ => 0) (⟨staleClosure, demoArgs 2, demoSem⟩ : Call _ _ _)).2 := by decide
/-- ... while the same closure created per call (what proximity does) is accepted -/
example : noStale [] [] (.op (.jit { name := "m.f", fresh := true, cache := false, caps := [.arg "seed"] }) .nil) = true := by
  decide

/-- caller-owned state: a summary that stamps its argument's attrs is rejected, and the functions reading
    `agg.attrs` (slope through `get_dataarray_resolution`) really have that read in their summary, so that
    such a write makes them stale -/
example : (Prog.op (.mutate (.param "attrs")) .nil).writes.all
    (fun c => !c.callerOwned || toleratedCallerWrites.contains c) = false := by decide
example : Gen.summary_slope_slope.prog.exposed.contains (.param "attrs") = true := by decide +kernel
example : noStale [.param "attrs"] [] Gen.summary_slope_slope.prog = false := by decide +kernel
/-- a module-level generator object: drawing from it without re-seeding it in the same call is stale -/
example : noStale [.table "m.G"] [] (.op (.draw (.table "m.G")) .nil) = false ∧
    noStale [.table "m.G"] [] (.op (.seed (.table "m.G")) (.op (.draw (.table "m.G")) .nil)) = true := by decide

/-- kernels: a racy parallel kernel is rejected, the facts of /repo's `_apply_numpy` are accepted only
    because it is sequential -/
example : threadSafe { name := "k", parallel := true, prange := true, racy := true, cache := false, fastmath := false } = false := by
  decide
example : Gen.kf_focal__apply_numpy.racy = true ∧ Gen.kf_focal__apply_numpy.parallel = false := by decide

end XrsVerif.C11
