import XrsVerif.Proofs.Focal
import XrsVerif.Proofs.FocalHot
import XrsVerif.Proofs.ILFocal
import XrsVerif.Proofs.ILApplyRefines
import XrsVerif.Proofs.ILApplyEven
import XrsVerif.Proofs.ILMeanIter
/-
  C09 -- Focal results are statistics of exactly the cells under the kernel.

  Model: `Model/Focal.lean` (`applyFlat`, `focalStats`, `meanN`, `convolve`, `hotspots`), whose loop bounds, index
  expressions, guards and tables are the *generated* constants of `Gen/Focal.lean` (regenerated from
  xrspatial/focal.py and xrspatial/convolution.py on every run), and the *generated* kernel
  `Gen.hotspots_cpu`.  The model runs the source's loops (folds in iteration order, one gather buffer threaded
  through the whole raster loop); the theorems below say what those loops compute, in closed form, for every
  raster size, every kernel shape and every reducer.

  Part A holds at every `Fl` instance -- also IEEE `Float`, the instance the driver executes --
  because only index bookkeeping is involved.  Part B is over `NV K` (NaN or an element of an arbitrary
  ordered field; ±inf not represented; exact arithmetic -- float rounding is covered by the correspondence
  run only); `sqrt` is an arbitrary function (`Trig K`).
-/
set_option linter.unusedSectionVars false
namespace XrsVerif.C09
open XrsVerif XrsVerif.Focal XrsVerif.Gen.Focal

/-! ## Part A: which cells -- any number type -/
section Generic
variable {F : Type} [Fl F]

/-- `_apply_numpy` calls the reducer, for every output cell (y, x) in row-major order, with
    exactly the window `specWindow … y x` -- for every raster size, every kernel shape (also non-square,
    asymmetric, larger than the raster) and every reducer.  (`window_entry` spells the window out.) -/
theorem apply_window (data kernel : Arr F) (rows cols krows kcols : Nat) (func : List (List F) → F) :
    applyFlat data kernel rows cols krows kcols func =
      (allCells rows cols).map fun c => func (specWindow data kernel rows cols krows kcols c.1 c.2) :=
  applyCells_eq data kernel rows cols krows kcols func rfl _ _

/-- the window has the kernel's shape and its entry (a, b) is `data[y - krows/2 + a, x - kcols/2 + b]` when
    `kernel[a, b] == 1` and that cell is inside the raster, NaN otherwise: no transpose, no mirror, rows with
    rows.  For an odd shape `krows/2 = (krows-1)/2`, i.e. the window is centred on (y, x). -/
theorem window_entry (data kernel : Arr F) (rows cols krows kcols : Nat) (y x : Int) (a b : Nat)
    (ha : a < krows) (hb : b < kcols) :
    ((specWindow data kernel rows cols krows kcols y x)[a]?.bind (·[b]?)) =
      some (if (decide (0 ≤ y - ((krows / 2 : Nat) : Int) + a ∧ y - ((krows / 2 : Nat) : Int) + a < rows ∧
                   0 ≤ x - ((kcols / 2 : Nat) : Int) + b ∧ x - ((kcols / 2 : Nat) : Int) + b < cols) &&
                 Fl.eq (kernel a b) (Fl.lit 1 1))
            then data (y - ((krows / 2 : Nat) : Int) + a) (x - ((kcols / 2 : Nat) : Int) + b) else Fl.nan) := by
  simp [specWindow, windowOf, gatherSpec, nanArr, ha, hb]

theorem window_shape (data kernel : Arr F) (rows cols krows kcols : Nat) (y x : Int) :
    (specWindow data kernel rows cols krows kcols y x).length = krows ∧
      ∀ r ∈ specWindow data kernel rows cols krows kcols y x, r.length = kcols := by
  simp [specWindow, windowOf]

/-- the gather does not depend on what the buffer held before (the per-cell reset is in the source):
    the generated fact the proof of `apply_window` consumes -/
theorem apply_buffer_reset : apply_fill_each_step = true := rfl

/-- **mean_spec (one pass).** an excluded cell is passed through; any other cell becomes `nanmean` of the
    cells of the full 3x3 window around it that lie inside the raster (row-major, NaN cells ignored by
    `nanmean`) -/
theorem mean_spec (data : Arr F) (rows cols : Nat) (excludes : List F) (y x : Int) :
    meanCell data rows cols excludes y x =
      if isExcluded excludes (data y x) then data y x
      else nanmean (footprintSel (fun _ _ => true) data rows cols 3 3 y x) := by
  unfold meanCell
  simp only [mean_excluded_pass_through, if_true, mean_reducer, npReducer, mean_row_lo, mean_row_hi, mean_col_lo,
    mean_col_hi, mean_slice_eq]

theorem meanPass_get (rows cols : Nat) (excludes : List F) (g : Rows F) (y x : Int)
    (hy : 0 ≤ y) (hy' : y < rows) (hx : 0 ≤ x) (hx' : x < cols) :
    (meanPass rows cols excludes g).get y x = meanCell g.get rows cols excludes y x := by
  obtain ⟨yn, rfl⟩ := Int.eq_ofNat_of_zero_le hy
  obtain ⟨xn, rfl⟩ := Int.eq_ofNat_of_zero_le hx
  have h1 : yn < rows := by omega
  have h2 : xn < cols := by omega
  simp [Rows.get, meanPass, h1, h2]

/-- the generated fact about the wrapper `mean()`: the float raster is fed through the one-pass function
    `passes` times (`for _ in range(passes): out = _mean(out, excludes)`), the loop sits in `mean()` itself, the
    iterated value is what is returned, and the glue `_mean` calls the backend function selected for the raster exactly
    once per call, with (data, excludes), outside any control flow.  (A wrapper that hands `passes` to a backend instead -- to run the passes
    inside one `map_overlap`, say -- makes this `false`, and `mean_passes` below no longer checks.) -/
theorem mean_wrapper_iterates : mean_iterates_passes = true := rfl

/-- the model of `mean()` is the iteration of the one-pass operator (consumes `mean_wrapper_iterates`) -/
theorem meanN_eq_iter (rows cols : Nat) (excludes : List F) (p : Nat) (g : Rows F) :
    meanN rows cols excludes p g = meanIter rows cols excludes p g := by
  simp only [meanN, mean_wrapper_iterates, if_true]

/-- **mean_spec (passes).** `mean(agg, passes)` is the one-pass operator applied `passes` times -/
theorem mean_passes (rows cols : Nat) (excludes : List F) (p : Nat) (g : Rows F) (y x : Int)
    (hy : 0 ≤ y) (hy' : y < rows) (hx : 0 ≤ x) (hx' : x < cols) :
    (meanN rows cols excludes (p + 1) g).get y x =
      meanCell (meanN rows cols excludes p g).get rows cols excludes y x := by
  rw [meanN_eq_iter, meanN_eq_iter]
  exact meanPass_get rows cols excludes _ y x hy hy' hx hx'

theorem mean_zero_passes (rows cols : Nat) (excludes : List F) (g : Rows F) : meanN rows cols excludes 0 g = g := by
  rw [meanN_eq_iter]; rfl

/-- a cell holding an excluded value keeps it through any number of passes -/
theorem excluded_pass_through (rows cols : Nat) (excludes : List F) (g : Rows F) (y x : Int)
    (hy : 0 ≤ y) (hy' : y < rows) (hx : 0 ≤ x) (hx' : x < cols)
    (hex : isExcluded excludes (g.get y x) = true) (p : Nat) :
    (meanN rows cols excludes p g).get y x = g.get y x := by
  induction p with
  | zero => rfl
  | succ p ih =>
    rw [mean_passes rows cols excludes p g y x hy hy' hx hx', mean_spec, ih, hex]
    rfl

/-- where the window fits in the raster, `convolution_2d` is the sum (accumulated from 0 in
    row-major order) of `kernel[a, b] * data[i - nkx/2 + a, j - nky/2 + b]` over the *whole* odd-shaped kernel:
    a correlation, no flip, rows with rows -/
theorem conv_spec (data kernel : Arr F) (nx ny nkx nky : Nat) (i j : Int)
    (hi0 : ((nkx / 2 : Nat) : Int) ≤ i) (hi1 : i < (nx : Int) - ((nkx / 2 : Nat) : Int))
    (hj0 : ((nky / 2 : Nat) : Int) ≤ j) (hj1 : j < (ny : Int) - ((nky / 2 : Nat) : Int))
    (hoddx : nkx % 2 = 1) (hoddy : nky % 2 = 1) :
    convCell data kernel nx ny nkx nky i j =
      fsum ((allCells nkx nky).map fun p =>
        Fl.mul (kernel p.1 p.2) (data (i - ((nkx / 2 : Nat) : Int) + p.1) (j - ((nky / 2 : Nat) : Int) + p.2))) := by
  rw [convCell_eq, if_pos ⟨hi0, hi1, hj0, hj1⟩, conv_terms_eq data kernel nx ny nkx nky i j hi0 hi1 hj0 hj1 hoddx hoddy]

/-- wherever the window leaves the raster the result is NaN (also: everywhere, when the
    kernel is larger than the raster) -/
theorem conv_nan_margin (data kernel : Arr F) (nx ny nkx nky : Nat) (i j : Int)
    (h : ¬ (((nkx / 2 : Nat) : Int) ≤ i ∧ i < (nx : Int) - ((nkx / 2 : Nat) : Int) ∧
            ((nky / 2 : Nat) : Int) ≤ j ∧ j < (ny : Int) - ((nky / 2 : Nat) : Int))) :
    convCell data kernel nx ny nkx nky i j = Fl.nan := by
  rw [convCell_eq, if_neg h]

/-- the whole output: one `convCell` per raster cell, row-major -/
theorem conv_raster (data kernel : Arr F) (nx ny nkx nky : Nat) :
    convolve data kernel nx ny nkx nky = (allCells nx ny).map fun c => convCell data kernel nx ny nkx nky c.1 c.2 := rfl

/-- `custom_kernel` requires an ndarray, rejects every shape with an even side and
    accepts every odd shape; `apply` and `focal_stats` call it before any computation -/
theorem kernel_validation :
    custom_kernel_requires_ndarray = true ∧ apply_validates_kernel = true ∧ focal_stats_validates_kernel = true ∧
      ∀ r c : Nat, kernelAccepted r c = true ↔ (r % 2 = 1 ∧ c % 2 = 1) := by
  refine ⟨rfl, rfl, rfl, ?_⟩
  intro r c
  simp only [kernelAccepted, custom_kernel_rejects, Bool.not_eq_true', Bool.or_eq_false_iff, decide_eq_false_iff_not]
  omega

theorem apply_rejects_even (data kernel : Arr F) (rows cols krows kcols : Nat) (func : List (List F) → F)
    (h : ¬ (krows % 2 = 1 ∧ kcols % 2 = 1)) :
    Focal.apply data kernel rows cols krows kcols func = .error "ValueError" := by
  have : kernelAccepted krows kcols = false := by
    rw [Bool.eq_false_iff]; intro hc; exact h ((kernel_validation.2.2.2 krows kcols).mp hc)
  simp [Focal.apply, this, apply_validates_kernel]

theorem apply_accepts_odd (data kernel : Arr F) (rows cols krows kcols : Nat) (func : List (List F) → F)
    (h : krows % 2 = 1 ∧ kcols % 2 = 1) :
    Focal.apply data kernel rows cols krows kcols func = .ok (applyFlat data kernel rows cols krows kcols func) := by
  have : kernelAccepted krows kcols = true := (kernel_validation.2.2.2 krows kcols).mpr h
  simp [Focal.apply, this]

end Generic

/-! ## Part B: which values -- NaN or an element of an ordered field, exact arithmetic -/
section Exact
variable {K : Type} [Field K] [LinearOrder K] [IsStrictOrderedRing K] [Trig K]

/-- the (finite) values of the input cells lying under the 1-entries of the kernel centred on (y, x), window
    clipped at the raster edge, NaN cells dropped -- as a list in row-major order, so with multiplicity -/
def under (data kernel : Arr (NV K)) (rows cols krows kcols : Nat) (y x : Int) : List K :=
  vals (footprint data kernel rows cols krows kcols y x)

theorem under_mem (data kernel : Arr (NV K)) (rows cols krows kcols : Nat) (y x : Int) (v : K) :
    v ∈ under data kernel rows cols krows kcols y x ↔
      ∃ a b : Nat, a < krows ∧ b < kcols ∧ kernel a b = some 1 ∧
        0 ≤ y - ((krows / 2 : Nat) : Int) + a ∧ y - ((krows / 2 : Nat) : Int) + a < rows ∧
        0 ≤ x - ((kcols / 2 : Nat) : Int) + b ∧ x - ((kcols / 2 : Nat) : Int) + b < cols ∧
        data (y - ((krows / 2 : Nat) : Int) + a) (x - ((kcols / 2 : Nat) : Int) + b) = some v := by
  unfold under vals footprint footprintSel
  simp only [List.mem_filterMap, id]
  constructor
  · rintro ⟨c, ⟨p, hp, hc⟩, rfl⟩
    obtain ⟨a, b, ha, hb, rfl⟩ := (mem_allCells _ _ _).mp hp
    refine ⟨a, b, ha, hb, ?_⟩
    split at hc
    · rename_i h
      simp only [Bool.and_eq_true, decide_eq_true_eq, fl_eq_one] at h
      simp only [Option.some.injEq] at hc
      exact ⟨h.2, h.1.1.1, h.1.1.2, h.1.2.1, h.1.2.2, hc⟩
    · simp at hc
  · rintro ⟨a, b, ha, hb, hk, h1, h2, h3, h4, hd⟩
    refine ⟨some v, ⟨((a : Int), (b : Int)), (mem_allCells _ _ _).mpr ⟨a, b, ha, hb, rfl⟩, ?_⟩, rfl⟩
    have hk' : Fl.eq (kernel (a : Int) (b : Int)) (Fl.lit 1 1 : NV K) = true := (fl_eq_one _).mpr hk
    simp only [hk', h1, h2, h3, h4, and_self, decide_true, Bool.and_self, if_true, hd]

/-- what the reducer sees and what lies under the kernel are the same values -/
theorem window_vals (data kernel : Arr (NV K)) (rows cols krows kcols : Nat) (y x : Int) :
    vals (specWindow data kernel rows cols krows kcols y x).flatten = under data kernel rows cols krows kcols y x :=
  vals_specWindow data kernel rows cols krows kcols y x

/-- each built-in reducer, applied to the window `apply` hands it, is the statistic of the
    values under the kernel: sum, arithmetic mean, greatest, least, greatest − least, population variance,
    its square root.  An empty footprint (every covered cell NaN, or no 1-entry inside the raster) gives
    NaN for all of them except the sum, which is 0 -- as on the real code. -/
theorem builtin_stats (data kernel : Arr (NV K)) (rows cols krows kcols : Nat) (y x : Int) :
    let w := (specWindow data kernel rows cols krows kcols y x).flatten
    let u := under data kernel rows cols krows kcols y x
    nansum w = some u.sum ∧
    nanmean w = (if u = [] then none else some (u.sum / (u.length : K))) ∧
    nanvar w = (if u = [] then none else some (popVar u)) ∧
    nanstd w = (if u = [] then none else some (Trig.sqrt (popVar u))) ∧
    (u = [] → nanmax w = none ∧ nanmin w = none ∧ Fl.sub (nanmax w) (nanmin w) = none) ∧
    (u ≠ [] → ∃ hi lo, IsMaxOf u hi ∧ IsMinOf u lo ∧ nanmax w = some hi ∧ nanmin w = some lo ∧
        Fl.sub (nanmax w) (nanmin w) = some (hi - lo)) := by
  intro w u
  have hw : vals w = u := window_vals data kernel rows cols krows kcols y x
  refine ⟨?_, ?_, ?_, ?_, ?_, ?_⟩
  · rw [nansum_eq, hw]
  · rw [nanmean_eq, hw]
  · rw [nanvar_eq, hw]
  · rw [nanstd_eq, hw]
  · intro h
    rw [nanmax_empty w (hw.trans h), nanmin_empty w (hw.trans h)]
    exact ⟨rfl, rfl, rfl⟩
  · intro h
    obtain ⟨hi, e1, m1⟩ := nanmax_some w (by rw [hw]; exact h)
    obtain ⟨lo, e2, m2⟩ := nanmin_some w (by rw [hw]; exact h)
    rw [hw] at m1 m2
    exact ⟨hi, lo, m1, m2, e1, e2, by rw [e1, e2, fl_sub]⟩

/-- **focal_stats_stack (table).** the seven documented stat names are bound to the reducers of `builtin_stats` -/
theorem focal_stats_table_spec :
    (statReducer "mean" : Option (List (NV K) → NV K)) = some nanmean ∧
    (statReducer "max" : Option (List (NV K) → NV K)) = some nanmax ∧
    (statReducer "min" : Option (List (NV K) → NV K)) = some nanmin ∧
    (statReducer "range" : Option (List (NV K) → NV K)) = some (fun w => Fl.sub (nanmax w) (nanmin w)) ∧
    (statReducer "std" : Option (List (NV K) → NV K)) = some nanstd ∧
    (statReducer "var" : Option (List (NV K) → NV K)) = some nanvar ∧
    (statReducer "sum" : Option (List (NV K) → NV K)) = some nansum ∧
    focal_stats_default = ["mean", "max", "min", "range", "std", "var", "sum"] ∧
    (npReducer apply_default_reducer : Option (List (NV K) → NV K)) = some nanmean := by
  refine ⟨?_, ?_, ?_, ?_, ?_, ?_, ?_, rfl, ?_⟩ <;>
    simp [statReducer, focal_stats_table, npReducer, apply_default_reducer]

/-- for an accepted kernel and known stat names, layer i of `focal_stats` is `apply`
    with the i-th named reducer, in request order -/
theorem focal_stats_stack (data kernel : Arr (NV K)) (rows cols krows kcols : Nat) (stats : List String)
    (red : String → List (NV K) → NV K)
    (hk : krows % 2 = 1 ∧ kcols % 2 = 1) (hs : ∀ s ∈ stats, statReducer s = some (red s)) :
    focalStats data kernel rows cols krows kcols stats =
      .ok (stats.map fun s => applyFlat data kernel rows cols krows kcols (fun w => red s w.flatten)) := by
  have hacc : kernelAccepted krows kcols = true := (kernel_validation.2.2.2 krows kcols).mpr hk
  unfold focalStats
  simp only [hacc, Bool.not_true, Bool.and_false, Bool.false_eq_true, if_false]
  apply mapM_ok
  intro s hs'
  simp only [hs s hs', focal_stats_applies_each, if_true, apply_accepts_odd _ _ _ _ _ _ _ hk]

/-- an unknown stat name is an error (KeyError in the source), never a default -/
theorem focal_stats_unknown (data kernel : Arr (NV K)) (rows cols krows kcols : Nat) (s : String)
    (hk : krows % 2 = 1 ∧ kcols % 2 = 1) (hs : (statReducer s : Option (List (NV K) → NV K)) = none) :
    focalStats data kernel rows cols krows kcols [s] = .error "KeyError" := by
  have hacc : kernelAccepted krows kcols = true := (kernel_validation.2.2.2 krows kcols).mpr hk
  simp [focalStats, hacc, hs, List.mapM_cons]

/-- `_equal_numpy` (generated condition): equal values, or both NaN -/
theorem equal_numpy_iff (a b : NV K) : equalNumpy a b = true ↔ a = b := by
  cases a <;> cases b <;> simp [equalNumpy, equal_numpy_cond, equal_numpy_args, C.eval, E.eval, CmpOp.eval]

theorem excluded_iff (excludes : List (NV K)) (v : NV K) : isExcluded excludes v = true ↔ v ∈ excludes := by
  simp only [isExcluded, List.any_eq_true, equal_numpy_iff]
  constructor
  · rintro ⟨x, hx, rfl⟩; exact hx
  · intro h; exact ⟨v, h, rfl⟩

/-- **mean_spec (same as apply).** a non-excluded cell gets exactly what `apply` with the full 3x3 kernel of
    ones and the mean reducer computes: the mean of the non-NaN cells of the clipped 3x3 window -/
theorem mean_eq_apply_ones (data : Arr (NV K)) (rows cols : Nat) (excludes : List (NV K)) (y x : Int)
    (hne : data y x ∉ excludes) :
    meanCell data rows cols excludes y x =
      nanmean (specWindow data (fun _ _ => some 1) rows cols 3 3 y x).flatten := by
  have hex : isExcluded excludes (data y x) = false := by
    rw [Bool.eq_false_iff]; intro h; exact hne ((excluded_iff excludes _).mp h)
  rw [mean_spec, hex, nanmean_eq, nanmean_eq, vals_specWindow]
  have : footprint data (fun _ _ => (some 1 : NV K)) rows cols 3 3 y x =
      footprintSel (fun _ _ => true) data rows cols 3 3 y x := by
    unfold footprint
    congr 1
    funext a b
    simp
  rw [this]
  rfl

theorem fsum_mul_some {α : Type} (l : List α) (w d : α → NV K) (wf df : α → K)
    (hw : ∀ c ∈ l, w c = some (wf c)) (hd : ∀ c ∈ l, d c = some (df c)) :
    fsum (l.map fun c => Fl.mul (w c) (d c)) = some (l.map fun c => wf c * df c).sum := by
  rw [← fsum_some, List.map_map]
  exact congrArg fsum (List.map_congr_left fun c hc => by rw [hw c hc, hd c hc]; rfl)

/-- **conv_spec (finite window).** with finite kernel weights and a window of finite cells the result is the
    kernel-weighted sum of the window -/
theorem conv_finite (data kernel : Arr (NV K)) (nx ny nkx nky : Nat) (i j : Int) (kf df : Int × Int → K)
    (hi0 : ((nkx / 2 : Nat) : Int) ≤ i) (hi1 : i < (nx : Int) - ((nkx / 2 : Nat) : Int))
    (hj0 : ((nky / 2 : Nat) : Int) ≤ j) (hj1 : j < (ny : Int) - ((nky / 2 : Nat) : Int))
    (hoddx : nkx % 2 = 1) (hoddy : nky % 2 = 1)
    (hk : ∀ p ∈ allCells nkx nky, kernel p.1 p.2 = some (kf p))
    (hd : ∀ p ∈ allCells nkx nky,
      data (i - ((nkx / 2 : Nat) : Int) + p.1) (j - ((nky / 2 : Nat) : Int) + p.2) = some (df p)) :
    convCell data kernel nx ny nkx nky i j = some ((allCells nkx nky).map fun p => kf p * df p).sum := by
  rw [conv_spec data kernel nx ny nkx nky i j hi0 hi1 hj0 hj1 hoddx hoddy]
  exact fsum_mul_some _ _ _ kf df hk hd

/-- a NaN anywhere in the accumulated products makes the sum NaN (also under a zero weight: `0 * NaN`) -/
theorem fsum_none_of_mem (l : List (NV K)) (h : none ∈ l) : fsum l = none := by
  unfold fsum
  have key : ∀ (l : List (NV K)) (acc : NV K), (none ∈ l ∨ acc = none) → l.foldl Fl.add acc = none := by
    intro l
    induction l with
    | nil => intro acc h; rcases h with h | h; exact absurd h (by simp); exact h
    | cons a rest ih =>
      intro acc h
      simp only [List.foldl_cons]
      apply ih
      rcases h with h | h
      · rcases List.mem_cons.mp h with h' | h'
        · right; rw [← h']; simp
        · left; exact h'
      · right; rw [h]; simp
  exact key l _ (Or.inl h)

theorem fsum_mul_none {α : Type} (l : List α) (w d : α → NV K) (c : α) (hc : c ∈ l) (h : d c = none) :
    fsum (l.map fun c => Fl.mul (w c) (d c)) = none :=
  fsum_none_of_mem _ (List.mem_map.2 ⟨c, hc, by rw [h]; exact fl_mul_none_r _⟩)

theorem conv_nan_in_window (data kernel : Arr (NV K)) (nx ny nkx nky : Nat) (i j : Int) (a b : Nat)
    (hi0 : ((nkx / 2 : Nat) : Int) ≤ i) (hi1 : i < (nx : Int) - ((nkx / 2 : Nat) : Int))
    (hj0 : ((nky / 2 : Nat) : Int) ≤ j) (hj1 : j < (ny : Int) - ((nky / 2 : Nat) : Int))
    (hoddx : nkx % 2 = 1) (hoddy : nky % 2 = 1) (ha : a < nkx) (hb : b < nky)
    (hnan : data (i - ((nkx / 2 : Nat) : Int) + a) (j - ((nky / 2 : Nat) : Int) + b) = none) :
    convCell data kernel nx ny nkx nky i j = none := by
  rw [conv_spec data kernel nx ny nkx nky i j hi0 hi1 hj0 hj1 hoddx hoddy]
  exact fsum_mul_none _ _ _ ((a : Int), (b : Int)) ((mem_allCells _ _ _).mpr ⟨a, b, ha, hb, rfl⟩) hnan

/-- the generated classifier is the documented one: the p-value ladder of the source
    collapses to `99 if |z| > 2.58, 95 if |z| > 1.96, 90 if |z| > 1.65, else 0`, carrying the sign of z; NaN -> 0 -/
theorem hotspot_thresholds (z : NV K) :
    hotspotClass z = match z with
      | none => some 0
      | some v => some (hotspotSpec v) := by
  cases z with
  | none => exact hotspotClass_none
  | some v => exact hotspotClass_some v

/-- only 0, ±90, ±95, ±99 -/
theorem hotspot_values (z : NV K) :
    hotspotClass z ∈ [some 0, some 90, some (-90), some 95, some (-95), some 99, some (-99)] := by
  cases z with
  | none => simp [hotspotClass_none]
  | some v =>
    rw [hotspotClass_some]
    rcases hotspotSpec_values v with h | h | h | h | h | h | h <;> simp [h]

/-- class(−z) = −class(z) -/
theorem hotspot_odd (z : NV K) : hotspotClass (Fl.neg z) = Fl.neg (hotspotClass z) := hotspotClass_neg z

/-- negating the raster negates every z-score (neighbourhood mean and global mean are
    linear, the global standard deviation is even -- for *any* `sqrt`) and hence the result; the zero-deviation
    error is raised for the one exactly when it is raised for the other -/
theorem hotspots_negate (data kernel : Arr (NV K)) (rows cols krows kcols : Nat) :
    hotspots (negArr data) kernel rows cols krows kcols =
      (hotspots data kernel rows cols krows kcols).map fun cs => cs.map Fl.neg := by
  unfold hotspots
  simp only [hotspots_zscore, if_true, hotspotsZ_neg]
  cases hotspotsZ data kernel rows cols krows kcols with
  | error e => rfl
  | ok zs =>
    simp only [Except.map, List.map_map]
    congr 1
    apply List.map_congr_left
    intro z _
    simp only [Function.comp, hotspotClass_neg]

/-- the z-score is (neighbourhood mean − global mean) / global standard deviation, the neighbourhood mean being
    the convolution with the kernel divided by its sum; a zero deviation raises (generated wrapper facts) -/
theorem hotspots_wrapper :
    hotspots_kernel_normalised = true ∧ hotspots_zscore = true ∧ hotspots_zero_std_raises = true := ⟨rfl, rfl, rfl⟩

end Exact

/-! ## Part C: the program generated from `_convolve_2d_numpy` (layer T3)

  `Gen.IL.convolve2d` is `_convolve_2d_numpy` translated statement by statement by the general translator of layer T3
  (harness/facts_il.py) into ILang: integer bookkeeping (`//`, `min`, `max`), numba's index normalisation, **bounds
  checks that stop the program**, the four nested `range` loops, the allocation and NaN fill of `out`.  Run on
  *any* raster and *any* kernel of odd shape it returns, without reading or writing out of range, exactly the model
  `convolve` of Part A/B -- so `conv_spec`, `conv_nan_margin`, `conv_finite`, `conv_nan_in_window` are statements
  about what the generated code computes.  The sum is accumulated from `0.0` with `Fl.add` in the
  program's order (kernel rows outer, kernel columns inner); nothing is assumed about `Fl.add` / `Fl.mul`. -/
section ILGeneric
open XrsVerif.IL
variable {F : Type} [Fl F]

/-- the specification of Proofs/ILFocal.lean is the model of Part A -/
theorem convOut_eq_convolve (data kernel : List F) (nx ny a b : Nat) :
    convOut data kernel nx ny a b =
      convolve (listArr data ny) (listArr kernel (2 * b + 1)) nx ny (2 * a + 1) (2 * b + 1) := by
  unfold convOut convolve
  refine List.map_congr_left fun c _ => ?_
  rw [convCell_odd, cellVal, convSum_eq_fsum]

/-- the generated `_convolve_2d_numpy`, any raster, any kernel of odd shape
    `(2a+1) × (2b+1)` (also larger than the raster): ends with `return`, no out-of-range access, inputs unchanged,
    `out` has the raster's shape and is the model `convolve` -/
theorem il_convolve_refines (data kernel : List F) (nx ny a b : Nat) (s : State F) (fuel : Nat)
    (hin : ConvInput data kernel nx ny (2 * a + 1) (2 * b + 1) s) :
    let r := Gen.IL.convolve2d.run s fuel
    r.ctl = .ret ∧ r.shp "out" = [nx, ny] ∧ r.fa "data" = data ∧ r.fa "kernel" = kernel ∧
    r.fa "out" = convolve (listArr data ny) (listArr kernel (2 * b + 1)) nx ny (2 * a + 1) (2 * b + 1) := by
  have h := convolve2d_refines data kernel nx ny a b s fuel hin
  rw [convOut_eq_convolve] at h
  exact h

/-- cell `(p, q)` of the generated program's output: where the window fits in the raster, the sum
    (from 0, row-major over the kernel) of `kernel[k, l] * data[p - a + k, q - b + l]`; NaN elsewhere -/
theorem il_conv_cell (data kernel : List F) (nx ny a b : Nat) (s : State F) (fuel : Nat)
    (hin : ConvInput data kernel nx ny (2 * a + 1) (2 * b + 1) s) (p q : Nat) (hp : p < nx) (hq : q < ny) :
    ((Gen.IL.convolve2d.run s fuel).fa "out")[p * ny + q]? = some
      (if a ≤ p ∧ p + a < nx ∧ b ≤ q ∧ q + b < ny then
        fsum ((allCells (2 * a + 1) (2 * b + 1)).map fun c =>
          Fl.mul (listArr kernel (2 * b + 1) c.1 c.2)
            (listArr data ny ((p : Int) - (a : Int) + c.1) ((q : Int) - (b : Int) + c.2)))
       else Fl.nan) := by
  rw [(il_convolve_refines data kernel nx ny a b s fuel hin).2.2.2.2, convolve_getElem? _ _ _ _ _ _ _ _ hp hq, convCell_odd]
  congr 1
  exact if_congr (by omega) rfl rfl

/-- a kernel with an even side is outside the property's domain ("any odd kernel shape"), and
    for a reason: whenever the outer loops visit a cell, the generated program stops at an out-of-range read of
    `kernel` (numba does not check: undefined behaviour).  `custom_kernel` rejects such kernels (`kernel_validation`),
    `convolution_2d` / `hotspots` do not call it. -/
theorem il_convolve_even_err (data kernel : List F) (nx ny nkx nky : Nat) (s : State F) (fuel : Nat)
    (hin : ConvInput data kernel nx ny nkx nky s) (heven : nkx % 2 = 0 ∨ nky % 2 = 0)
    (hvisx : 2 * (nkx / 2) < nx) (hvisy : 2 * (nky / 2) < ny) :
    (Gen.IL.convolve2d.run s fuel).ctl = .err "index" :=
  convolve2d_even_err data kernel nx ny nkx nky s fuel hin heven hvisx hvisy

-- non-vacuity: a 2x2 kernel on a 3x3 raster, a 3x2 kernel on a 3x4 raster, any contents, any number type
example (data kernel : List F) : (Gen.IL.convolve2d.run (convState data kernel 3 3 2 2) 0).ctl = .err "index" :=
  il_convolve_even_err data kernel 3 3 2 2 _ 0 (convState_input _ _ _ _ _ _) (by decide) (by decide) (by decide)
example (data kernel : List F) : (Gen.IL.convolve2d.run (convState data kernel 3 4 3 2) 0).ctl = .err "index" :=
  il_convolve_even_err data kernel 3 4 3 2 _ 0 (convState_input _ _ _ _ _ _) (by decide) (by decide) (by decide)

end ILGeneric

section ILExact
open XrsVerif.IL
variable {K : Type} [Field K] [LinearOrder K] [IsStrictOrderedRing K] [Trig K]

/-- exact arithmetic: with finite kernel weights and a window of finite cells the generated
    program stores the kernel-weighted sum of the window at the cell -/
theorem il_conv_finite (data kernel : List (NV K)) (nx ny a b : Nat) (s : State (NV K)) (fuel : Nat)
    (hin : ConvInput data kernel nx ny (2 * a + 1) (2 * b + 1) s) (p q : Nat)
    (hp0 : a ≤ p) (hp1 : p + a < nx) (hq0 : b ≤ q) (hq1 : q + b < ny) (kf df : Int × Int → K)
    (hk : ∀ c ∈ allCells (2 * a + 1) (2 * b + 1), listArr kernel (2 * b + 1) c.1 c.2 = some (kf c))
    (hd : ∀ c ∈ allCells (2 * a + 1) (2 * b + 1),
      listArr data ny ((p : Int) - (a : Int) + c.1) ((q : Int) - (b : Int) + c.2) = some (df c)) :
    ((Gen.IL.convolve2d.run s fuel).fa "out")[p * ny + q]? =
      some (some ((allCells (2 * a + 1) (2 * b + 1)).map fun c => kf c * df c).sum) := by
  rw [il_conv_cell data kernel nx ny a b s fuel hin p q (by omega) (by omega), if_pos ⟨hp0, hp1, hq0, hq1⟩]
  exact congrArg some (fsum_mul_some _ _ _ kf df hk hd)

/-- a NaN cell anywhere under the kernel (also under a zero weight) makes the generated
    program's result NaN -/
theorem il_conv_nan_in_window (data kernel : List (NV K)) (nx ny a b : Nat) (s : State (NV K)) (fuel : Nat)
    (hin : ConvInput data kernel nx ny (2 * a + 1) (2 * b + 1) s) (p q : Nat)
    (hp0 : a ≤ p) (hp1 : p + a < nx) (hq0 : b ≤ q) (hq1 : q + b < ny) (k l : Nat)
    (hk : k < 2 * a + 1) (hl : l < 2 * b + 1)
    (hnan : listArr data ny ((p : Int) - (a : Int) + (k : Int)) ((q : Int) - (b : Int) + (l : Int)) = none) :
    ((Gen.IL.convolve2d.run s fuel).fa "out")[p * ny + q]? = some none := by
  rw [il_conv_cell data kernel nx ny a b s fuel hin p q (by omega) (by omega), if_pos ⟨hp0, hp1, hq0, hq1⟩]
  exact congrArg some
    (fsum_mul_none _ _ _ ((k : Int), (l : Int)) ((mem_allCells _ _ _).2 ⟨k, l, hk, hl, rfl⟩) hnan)

end ILExact


/-! ## Part D: the programs generated from `_apply_numpy` and `_mean_numpy` (layer T3)

  `Gen.IL.applyMean`, `applySum`, `applyMin`, `applyMax`, `applyRange`, `applyStd`, `applyVar` are `_apply_numpy`
  translated statement by statement (harness/facts_il.py) and specialised to each built-in reducer `_calc_*` (inlined
  through `.scope`; `_calc_range` inlines `_calc_min` and `_calc_max`); `Gen.IL.meanNumpy` is `_mean_numpy` with
  `_equal_numpy` inlined and the slice `data[bottom:top, left:right]` copied into a scratch array.  numpy's `np.nan*`
  reductions are `RedOp.eval` of Core/ILang.lean (numba's one-pass semantics), which *is* the model's
  `nanmean` … `nanstd` (`il_reductions_are_model`).
  Run on any raster and any kernel of odd shape they return, with no
  out-of-range access, exactly the models `applyFlat` / `meanCell` of Part A -- so `apply_window`, `window_entry`,
  `builtin_stats`, `focal_stats_stack`, `mean_spec`, `mean_passes`, `mean_eq_apply_ones` are statements about what the
  generated code computes. -/
section ILApplyGeneric
open XrsVerif.IL
variable {F : Type} [Fl F]

/-- the seven generated `_apply_numpy` programs with the model reducer each one inlines, in `focal_stats` table order -/
def ilApplyProgs : List (String × Prog × (List F → F)) :=
  [("mean", Gen.IL.applyMean, nanmean), ("max", Gen.IL.applyMax, nanmax), ("min", Gen.IL.applyMin, nanmin),
   ("range", Gen.IL.applyRange, fun w => Fl.sub (nanmax w) (nanmin w)), ("std", Gen.IL.applyStd, nanstd),
   ("var", Gen.IL.applyVar, nanvar), ("sum", Gen.IL.applySum, nansum)]

/-- numba's one-pass `np.nan*` reductions of ILang are the model's reductions: same NaN filter, same left-to-right
    accumulation from `0.0`, first extreme entry kept, `0/0 = NaN` (or NaN outright for min / max) on an empty selection -/
theorem il_reductions_are_model (xs : List F) :
    RedOp.eval .nansum xs = nansum xs ∧ RedOp.eval .nanmean xs = nanmean xs ∧ RedOp.eval .nanmin xs = nanmin xs ∧
    RedOp.eval .nanmax xs = nanmax xs ∧ RedOp.eval .nanvar xs = nanvar xs ∧ RedOp.eval .nanstd xs = nanstd xs :=
  ⟨red_eval_nansum xs, red_eval_nanmean xs, red_eval_nanmin xs, red_eval_nanmax xs, red_eval_nanvar xs,
   red_eval_nanstd xs⟩

/-- each of the seven programs is the `_apply_numpy` template around a reducer block that computes its model reducer -/
theorem ilApplyProgs_template : ∀ pr ∈ (ilApplyProgs : List (String × Prog × (List F → F))),
    ∃ red rv, pr.2.1.body = applyBody red rv ∧ RedSpec red rv pr.2.2 := by
  intro pr hpr
  simp only [ilApplyProgs, List.mem_cons, List.mem_nil_iff, or_false] at hpr
  rcases hpr with rfl | rfl | rfl | rfl | rfl | rfl | rfl
  · exact ⟨_, _, applyMean_body, redOf_spec _ _⟩
  · exact ⟨_, _, applyMax_body, (redOf_spec _ _).congr red_eval_nanmax⟩
  · exact ⟨_, _, applyMin_body, (redOf_spec _ _).congr red_eval_nanmin⟩
  · exact ⟨_, _, applyRange_body, redRange_spec.congr fun l => by rw [red_eval_nanmin, red_eval_nanmax]⟩
  · exact ⟨_, _, applyStd_body, redOf_spec _ _⟩
  · exact ⟨_, _, applyVar_body, redOf_spec _ _⟩
  · exact ⟨_, _, applySum_body, redOf_spec _ _⟩

/-- each of the seven generated `_apply_numpy` programs, any raster (also empty, also smaller than
    the kernel), any kernel of odd shape, any fuel: ends with `return`, no out-of-range access, inputs unchanged, `out`
    has the raster's shape and is the model `applyFlat` with that program's reducer on the flattened window -/
theorem il_apply_refines (data kernel : List F) (rows cols kr kc : Nat) (hkr : kr % 2 = 1) (hkc : kc % 2 = 1)
    (s : State F) (fuel : Nat) (hin : ApplyInput data kernel rows cols kr kc s) :
    ∀ pr ∈ (ilApplyProgs : List (String × Prog × (List F → F))),
      let r := pr.2.1.run s fuel
      r.ctl = .ret ∧ r.shp "out" = [rows, cols] ∧ r.fa "data" = data ∧ r.fa "kernel" = kernel ∧
      r.fa "out" = applyFlat (listArr data cols) (listArr kernel kc) rows cols kr kc (fun w => pr.2.2 w.flatten) := by
  intro pr hpr
  obtain ⟨red, rv, hbody, hred⟩ := ilApplyProgs_template pr hpr
  simp only [Prog.run, hbody]
  exact applyBody_refines _ _ _ hred data kernel rows cols kr kc hkr hkc s fuel hin

/-- cell `(p, q)` of each generated program's output is its reducer applied to the window
    `specWindow … p q` (`window_entry` spells the window out) -/
theorem il_apply_cell (data kernel : List F) (rows cols kr kc : Nat) (hkr : kr % 2 = 1) (hkc : kc % 2 = 1)
    (s : State F) (fuel : Nat) (hin : ApplyInput data kernel rows cols kr kc s) (p q : Nat) (hp : p < rows) (hq : q < cols) :
    ∀ pr ∈ (ilApplyProgs : List (String × Prog × (List F → F))),
      ((pr.2.1.run s fuel).fa "out")[p * cols + q]? =
        some (pr.2.2 (specWindow (listArr data cols) (listArr kernel kc) rows cols kr kc (p : Int) (q : Int)).flatten) := by
  intro pr hpr
  rw [(il_apply_refines data kernel rows cols kr kc hkr hkc s fuel hin pr hpr).2.2.2.2, apply_window,
    List.getElem?_map, allCells_getElem? rows cols p q hp hq]
  rfl

/-- `focal_stats` with the default statistics, on an accepted (odd) kernel, is the stack of the
    outputs of the seven generated programs, in table order -/
theorem il_focal_stats (data kernel : List F) (rows cols kr kc : Nat) (hkr : kr % 2 = 1) (hkc : kc % 2 = 1) (fuel : Nat) :
    focalStats (listArr data cols) (listArr kernel kc) rows cols kr kc focal_stats_default =
      .ok ((ilApplyProgs : List (String × Prog × (List F → F))).map fun pr =>
        (pr.2.1.run (applyState data kernel rows cols kr kc) fuel).fa "out") := by
  have hacc : kernelAccepted kr kc = true := (kernel_validation.2.2.2 kr kc).mpr ⟨hkr, hkc⟩
  have hr := il_apply_refines data kernel rows cols kr kc hkr hkc _ fuel (applyState_input data kernel rows cols kr kc)
  have e : ((ilApplyProgs : List (String × Prog × (List F → F))).map fun pr =>
        (pr.2.1.run (applyState data kernel rows cols kr kc) fuel).fa "out") =
      (ilApplyProgs : List (String × Prog × (List F → F))).map fun pr =>
        applyFlat (listArr data cols) (listArr kernel kc) rows cols kr kc (fun w => pr.2.2 w.flatten) :=
    List.map_congr_left fun pr hpr => (hr pr hpr).2.2.2.2
  rw [e]
  simp [focalStats, hacc, focal_stats_validates_kernel, focal_stats_default, statReducer, focal_stats_table, npReducer,
    focal_stats_applies_each, Focal.apply, apply_validates_kernel, ilApplyProgs, List.mapM_cons]
  rfl

/-- a kernel with an even side is outside the property's domain ("any odd kernel shape";
    `custom_kernel` rejects it before `apply` / `focal_stats` call `_apply_numpy`: `kernel_validation`).  In
    `_apply_numpy` the index arithmetic `kyidx = ky - (y - hrows)` then runs up to `2·hrows = krows`, one past the last
    kernel row, whenever the raster cell `(y + hrows, ·)` exists (likewise for columns): each of the seven generated
    programs stops, already at output cell `(0, 0)`, with an out-of-range read of `kernel` (numba does not check:
    undefined behaviour, and a write past the end of `kernel_values` if the value read happens to be 1) -/
theorem il_apply_even_err (data kernel : List F) (rows cols kr kc : Nat) (s : State F) (fuel : Nat)
    (hin : ApplyInput data kernel rows cols kr kc s)
    (heven : (kr % 2 = 0 ∧ kr / 2 < rows ∧ 0 < cols) ∨ (kc % 2 = 0 ∧ kc / 2 < cols ∧ 0 < rows)) :
    ∀ pr ∈ (ilApplyProgs : List (String × Prog × (List F → F))), (pr.2.1.run s fuel).ctl = .err "index" := by
  intro pr hpr
  obtain ⟨red, rv, hbody, _⟩ := ilApplyProgs_template pr hpr
  simp only [Prog.run, hbody]
  exact applyBody_even_err _ _ data kernel rows cols kr kc s fuel hin heven

-- non-vacuity: a 2x3 kernel on a 2x2 raster, a 1x2 kernel on a 1x2 raster, any contents, any number type
example (data kernel : List F) : (Gen.IL.applyMean.run (applyState data kernel 2 2 2 3) 0).ctl = .err "index" :=
  il_apply_even_err data kernel 2 2 2 3 _ 0 (applyState_input _ _ _ _ _ _) (Or.inl (by decide))
    ("mean", Gen.IL.applyMean, nanmean) (by simp [ilApplyProgs])
example (data kernel : List F) : (Gen.IL.applySum.run (applyState data kernel 1 2 1 2) 0).ctl = .err "index" :=
  il_apply_even_err data kernel 1 2 1 2 _ 0 (applyState_input _ _ _ _ _ _) (Or.inr (by decide))
    ("sum", Gen.IL.applySum, nansum) (by simp [ilApplyProgs])

end ILApplyGeneric

section ILMeanGeneric
open XrsVerif.IL
variable {F : Type} [Fl F]

/-- the generated `_mean_numpy`, any raster (also empty, one row, one column), any excludes list,
    any fuel: ends with `return`, no out-of-range access, inputs unchanged, and cell `(p, q)` of `out` is the cell
    itself when `_equal_numpy` matches it against an excluded value, else `nanmean` of the cells of the full 3×3 window
    around it that lie inside the raster -/
theorem il_mean_refines (data excl : List F) (rows cols ne : Nat) (s : State F) (fuel : Nat)
    (hin : MeanInput data excl rows cols ne s) :
    let r := Gen.IL.meanNumpy.run s fuel
    r.ctl = .ret ∧ r.shp "out" = [rows, cols] ∧ r.fa "data" = data ∧ r.fa "excludes" = excl ∧
    ∀ p q : Nat, p < rows → q < cols →
      (r.fa "out")[p * cols + q]? = some
        (if isExcluded excl (listArr data cols p q) then listArr data cols p q
         else nanmean (footprintSel (fun _ _ => true) (listArr data cols) rows cols 3 3 p q)) := by
  obtain ⟨h1, h2, h3, h4, h5⟩ := meanNumpy_refines data excl rows cols ne s fuel hin
  refine ⟨h1, h2, h3, h4, ?_⟩
  intro p q hp hq
  rw [h5, meanOut, List.getElem?_map, allCells_getElem? rows cols p q hp hq]
  simp only [Option.map_some, mean_spec]

/-- one run of the generated program on a flattened raster is one pass of the model -/
theorem il_mean_pass {rows cols : Nat} (excl : List F) (fuel : Nat) (g : Rows F) (h : RowsWF rows cols g) :
    ilMeanPass excl rows cols fuel g.flatten = (meanPass rows cols excl g).flatten :=
  ilMeanPass_eq excl fuel h

/-- the wrapper `mean()` feeds the raster through the one-pass function `passes` times
    (`mean_wrapper_iterates`, a generated fact): `passes` runs of the generated program, each on the output of the previous
    one, are the model `meanN` of `mean_passes` / `excluded_pass_through` -/
theorem il_mean_passes {rows cols : Nat} (excl : List F) (fuel : Nat) (p : Nat) (g : Rows F) (h : RowsWF rows cols g) :
    (ilMeanPass excl rows cols fuel)^[p] g.flatten = (meanN rows cols excl p g).flatten := by
  rw [meanN_eq_iter]
  exact ilMeanPass_iterate excl fuel p h

end ILMeanGeneric

section ILExact2
open XrsVerif.IL
variable {K : Type} [Field K] [LinearOrder K] [IsStrictOrderedRing K] [Trig K]

/-- exact arithmetic: cell `(p, q)` of the output of the generated program for each statistic is that
    statistic of `under …` -- the non-NaN input cells under the 1-entries of the kernel centred on `(p, q)`, window
    clipped at the raster edge: sum (0 when empty), mean, population variance, its square root, greatest, least,
    greatest − least (all NaN when empty) -/
theorem il_apply_stats (data kernel : List (NV K)) (rows cols kr kc : Nat) (hkr : kr % 2 = 1) (hkc : kc % 2 = 1)
    (s : State (NV K)) (fuel : Nat) (hin : ApplyInput data kernel rows cols kr kc s) (p q : Nat) (hp : p < rows) (hq : q < cols) :
    let u := under (listArr data cols) (listArr kernel kc) rows cols kr kc (p : Int) (q : Int)
    let at' := fun (pg : Prog) => ((pg.run s fuel).fa "out")[p * cols + q]?
    at' Gen.IL.applySum = some (some u.sum) ∧
    at' Gen.IL.applyMean = some (if u = [] then none else some (u.sum / (u.length : K))) ∧
    at' Gen.IL.applyVar = some (if u = [] then none else some (popVar u)) ∧
    at' Gen.IL.applyStd = some (if u = [] then none else some (Trig.sqrt (popVar u))) ∧
    (u = [] → at' Gen.IL.applyMax = some none ∧ at' Gen.IL.applyMin = some none ∧ at' Gen.IL.applyRange = some none) ∧
    (u ≠ [] → ∃ hi lo, IsMaxOf u hi ∧ IsMinOf u lo ∧ at' Gen.IL.applyMax = some (some hi) ∧
        at' Gen.IL.applyMin = some (some lo) ∧ at' Gen.IL.applyRange = some (some (hi - lo))) := by
  intro u at'
  have hc := il_apply_cell data kernel rows cols kr kc hkr hkc s fuel hin p q hp hq
  obtain ⟨b1, b2, b3, b4, b5, b6⟩ := builtin_stats (listArr data cols) (listArr kernel kc) rows cols kr kc (p : Int) (q : Int)
  have cMean := hc ("mean", Gen.IL.applyMean, nanmean) (by simp [ilApplyProgs])
  have cMax := hc ("max", Gen.IL.applyMax, nanmax) (by simp [ilApplyProgs])
  have cMin := hc ("min", Gen.IL.applyMin, nanmin) (by simp [ilApplyProgs])
  have cRange := hc ("range", Gen.IL.applyRange, fun w => Fl.sub (nanmax w) (nanmin w)) (by simp [ilApplyProgs])
  have cStd := hc ("std", Gen.IL.applyStd, nanstd) (by simp [ilApplyProgs])
  have cVar := hc ("var", Gen.IL.applyVar, nanvar) (by simp [ilApplyProgs])
  have cSum := hc ("sum", Gen.IL.applySum, nansum) (by simp [ilApplyProgs])
  simp only at cMean cMax cMin cRange cStd cVar cSum
  refine ⟨by simp only [at']; rw [cSum, b1], by simp only [at']; rw [cMean, b2], by simp only [at']; rw [cVar, b3],
    by simp only [at']; rw [cStd, b4], ?_, ?_⟩
  · intro h
    obtain ⟨e1, e2, e3⟩ := b5 h
    exact ⟨by simp only [at']; rw [cMax, e1], by simp only [at']; rw [cMin, e2], by simp only [at']; rw [cRange, e3]⟩
  · intro h
    obtain ⟨hi, lo, m1, m2, e1, e2, e3⟩ := b6 h
    exact ⟨hi, lo, m1, m2, by simp only [at']; rw [cMax, e1], by simp only [at']; rw [cMin, e2],
      by simp only [at']; rw [cRange, e3]⟩

/-- a cell whose value is not excluded gets, from the generated `_mean_numpy`, exactly what the
    generated `_apply_numpy` with the mean reducer computes with a full 3×3 kernel of ones; an excluded cell is passed
    through untouched -/
theorem il_mean_eq_apply_ones (data excl : List (NV K)) (rows cols : Nat) (fuel : Nat) (p q : Nat) (hp : p < rows) (hq : q < cols) :
    let m := ((Gen.IL.meanNumpy.run (meanState data excl rows cols) fuel).fa "out")[p * cols + q]?
    let a := ((Gen.IL.applyMean.run (applyState data (List.replicate 9 (some 1)) rows cols 3 3) fuel).fa "out")[p * cols + q]?
    (listArr data cols p q ∈ excl → m = some (listArr data cols p q)) ∧ (listArr data cols p q ∉ excl → m = a) := by
  intro m a
  have hm : m = some (meanCell (listArr data cols) rows cols excl (p : Int) (q : Int)) := by
    rw [mean_spec]
    exact (il_mean_refines data excl rows cols excl.length _ fuel (meanState_input _ _ _ _)).2.2.2.2 p q hp hq
  constructor
  · intro hex
    rw [hm, mean_spec, (excluded_iff excl _).mpr hex]
    rfl
  · intro hne
    have ha := il_apply_cell data (List.replicate 9 (some (1 : K))) rows cols 3 3 (by decide) (by decide) _ fuel
      (applyState_input _ _ _ _ _ _) p q hp hq ("mean", Gen.IL.applyMean, nanmean) (by simp [ilApplyProgs])
    simp only at ha
    rw [hm, mean_eq_apply_ones _ rows cols excl _ _ hne]
    simp only [a]
    rw [ha, nanmean_eq, nanmean_eq, vals_specWindow, vals_specWindow]
    have : footprint (listArr data cols) (listArr (List.replicate 9 (some (1 : K))) 3) rows cols 3 3 p q =
        footprint (listArr data cols) (fun _ _ => (some 1 : NV K)) rows cols 3 3 p q := by
      unfold footprint footprintSel
      apply List.filterMap_congr
      intro c hc
      obtain ⟨a', b', ha', hb', rfl⟩ := (mem_allCells _ _ _).mp hc
      have hk : listArr (List.replicate 9 (some (1 : K))) 3 (a' : Int) (b' : Int) = some 1 := by
        have : a' * 3 + b' < 9 := by omega
        unfold listArr
        simp only [Int.toNat_natCast]
        rw [List.getD_eq_getElem?_getD, List.getElem?_replicate]
        simp [this]
      simp only [hk]
    rw [this]

end ILExact2

section Examples
instance : Trig ℚ := ⟨id, id, fun a _ => a, id, id, id, id⟩

private def ofRows (g : List (List (NV ℚ))) : Arr (NV ℚ) := fun i j => Rows.get g i j
private def d1 : Arr (NV ℚ) := ofRows [[some 1, some 2, none], [some 4, some 5, some 6]]
/-- an asymmetric, non-square kernel: only the cell to the *left* -/
private def k1 : Arr (NV ℚ) := ofRows [[some 1, some 0, some 0]]
private def k3 : Arr (NV ℚ) := ofRows [[some 0, some 1, some 0], [some 1, some 1, some 1], [some 0, some 2, some 0]]
private def d3 : Arr (NV ℚ) := ofRows [[some 1, some 2, some 3], [some 4, some 5, some 6], [some 7, some 8, some 9]]

-- apply_window / builtin_stats: the left neighbour, 0 (empty footprint) in the first column
example : applyFlat d1 k1 2 3 1 3 (fun w => nansum w.flatten) = [some 0, some 1, some 2, some 0, some 4, some 5] := by
  decide +kernel
example : applyFlat d1 k1 2 3 1 3 (fun w => nanmax w.flatten) = [none, some 1, some 2, none, some 4, some 5] := by
  decide +kernel
example : under d1 k1 2 3 1 3 0 1 = [1] ∧ under d1 k1 2 3 1 3 0 0 = [] ∧ under d1 k3 2 3 3 3 0 1 = [1, 2] := by
  decide +kernel
-- hypotheses of window_entry / apply_accepts_odd / focal_stats_stack are satisfiable
example : (1 < 3 ∧ 0 < 1) ∧ (1 % 2 = 1 ∧ 3 % 2 = 1) := by decide
example : ∀ s ∈ ["max", "sum"], (statReducer s : Option (List (NV ℚ) → NV ℚ)) =
    some ((fun s => if s = "max" then nanmax else nansum) s) := by
  intro s hs
  simp only [List.mem_cons, List.mem_nil_iff, or_false] at hs
  rcases hs with rfl | rfl <;> simp [statReducer, focal_stats_table, npReducer]
-- mean: clipped 3x3 mean, NaN passed through when excluded, filled when not; two passes
example : meanCell d1 2 3 [none] 0 0 = some 3 ∧ meanCell d1 2 3 [none] 0 2 = none ∧
    meanCell d1 2 3 [some 7] 0 2 = some (13 / 3) := by decide +kernel
private def g1 : Rows (NV ℚ) := [[some 1, some 2, none], [some 4, some 5, some 6]]
example : (meanN 2 3 [none] 2 g1).get 0 2 = none ∧ isExcluded [none] (g1.get 0 2) = true ∧
    (meanN 2 3 [none] 2 g1).get 0 0 = some (33 / 10) := by
  decide +kernel
example : (none : NV ℚ) ∉ [some (7 : ℚ)] := by decide
-- convolution: weighted (non 0/1) kernel, interior cell of a 3x3 raster, NaN on the margin
example : convolve d3 k3 3 3 3 3 = [none, none, none, none, some 33, none, none, none, none] := by decide +kernel
example : ((3 / 2 : Nat) : Int) ≤ 1 ∧ (1 : Int) < ((3 : Nat) : Int) - ((3 / 2 : Nat) : Int) ∧ 3 % 2 = 1 := by decide
-- the generated program (Part C) on the same raster and kernel, as flat row-major lists
private def d3l : List (NV ℚ) := [some 1, some 2, some 3, some 4, some 5, some 6, some 7, some 8, some 9]
private def k3l : List (NV ℚ) := [some 0, some 1, some 0, some 1, some 1, some 1, some 0, some 2, some 0]
example : ((Gen.IL.convolve2d.run (convState d3l k3l 3 3 3 3) 0).ctl,
      (Gen.IL.convolve2d.run (convState d3l k3l 3 3 3 3) 0).fa "out") =
    (IL.Ctl.ret, [none, none, none, none, some 33, none, none, none, none]) := by
  have h := il_convolve_refines d3l k3l 3 3 1 1 (convState d3l k3l 3 3 3 3) 0 (convState_input _ _ _ _ _ _)
  rw [Prod.mk.injEq]
  refine ⟨h.1, ?_⟩
  rw [h.2.2.2.2]
  decide +kernel
-- Part D: the generated `_apply_numpy` programs on the 2x3 raster `d1` with the asymmetric 1x3 kernel `k1` (left
-- neighbour only), as flat row-major lists; the generated `_mean_numpy` with NaN excluded; two passes
private def d1l : List (NV ℚ) := [some 1, some 2, none, some 4, some 5, some 6]
private def k1l : List (NV ℚ) := [some 1, some 0, some 0]
example : ((Gen.IL.applySum.run (applyState d1l k1l 2 3 1 3) 0).ctl,
      (Gen.IL.applySum.run (applyState d1l k1l 2 3 1 3) 0).fa "out") =
    (IL.Ctl.ret, [some 0, some 1, some 2, some 0, some 4, some 5]) := by
  have h := il_apply_refines d1l k1l 2 3 1 3 (by decide) (by decide) _ 0 (applyState_input _ _ _ _ _ _)
    ("sum", Gen.IL.applySum, nansum) (by simp [ilApplyProgs])
  rw [Prod.mk.injEq]
  refine ⟨h.1, ?_⟩
  rw [h.2.2.2.2]
  decide +kernel
example : (Gen.IL.applyRange.run (applyState d1l k3l 2 3 3 3) 0).fa "out" =
    [some 1, some 1, some 0, some 4, some 4, some 1] := by
  rw [(il_apply_refines d1l k3l 2 3 3 3 (by decide) (by decide) _ 0 (applyState_input _ _ _ _ _ _)
    ("range", Gen.IL.applyRange, fun w => Fl.sub (nanmax w) (nanmin w)) (by simp [ilApplyProgs])).2.2.2.2]
  decide +kernel
example : ((Gen.IL.meanNumpy.run (meanState d1l [none] 2 3) 0).ctl,
      (Gen.IL.meanNumpy.run (meanState d1l [none] 2 3) 0).fa "out") =
    (IL.Ctl.ret, [some 3, some (18 / 5), none, some 3, some (18 / 5), some (13 / 3)]) := by
  have h := meanNumpy_refines d1l [none] 2 3 1 _ 0 (meanState_input _ _ _ _)
  rw [Prod.mk.injEq]
  refine ⟨h.1, ?_⟩
  rw [h.2.2.2.2]
  decide +kernel
example : RowsWF 2 3 g1 ∧ g1.flatten = d1l := by
  refine ⟨⟨rfl, ?_⟩, rfl⟩
  intro r hr
  simp only [g1, List.mem_cons, List.mem_nil_iff, or_false] at hr
  rcases hr with rfl | rfl <;> rfl
example : (ilMeanPass [none] 2 3 0)^[2] d1l = (meanN 2 3 [none] 2 g1).flatten :=
  il_mean_passes [none] 0 2 g1 ⟨rfl, by
    intro r hr
    simp only [g1, List.mem_cons, List.mem_nil_iff, or_false] at hr
    rcases hr with rfl | rfl <;> rfl⟩
example : (listArr d1l 3 0 2 ∈ [(none : NV ℚ)]) ∧ (listArr d1l 3 0 0 ∉ [(none : NV ℚ)]) := by decide +kernel
-- hotspots: the classes, oddness, and a raster whose deviation is not zero
example : hotspotClass (some (2 : ℚ)) = some 95 ∧ hotspotClass (some (-2 : ℚ)) = some (-95) ∧
    hotspotClass (some (33 / 20 : ℚ)) = some 0 ∧ hotspotClass (some (3 : ℚ)) = some 99 ∧
    hotspotClass (some (17 / 10 : ℚ)) = some 90 := by decide +kernel
example : (hotspotsZ d3 (ofRows [[some 1]]) 3 3 1 1).toBool = true ∧
    (hotspotsZ (ofRows [[some 2, some 2]]) (ofRows [[some 1]]) 1 2 1 1).toBool = false := by decide +kernel

end Examples
end XrsVerif.C09
