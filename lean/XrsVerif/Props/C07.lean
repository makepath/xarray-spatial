import XrsVerif.Proofs.HaloNV
import XrsVerif.Proofs.ProximityWindow
import XrsVerif.Proofs.ProximityCast
import XrsVerif.Gen.ProximityDask
import XrsVerif.Gen.GraphKeys
import XrsVerif.Proofs.GraphKeys
import XrsVerif.Gen.Kernels
import Mathlib.Tactic.Linarith
import Mathlib.Tactic.Ring
import Mathlib.Tactic.Positivity
/-
  C07 -- Chunked proximity equals whole-raster proximity.

  The wiring (`Gen.proximity_dask`, `Gen.proximity_is_target`) is regenerated from /repo; the four-sweep is the model
  `Prox.run` of C06, run on the block's halo window and on the whole raster.  The halo, in cells, computed per axis
  from max_distance and *that axis'* cell size covers every target within max_distance of a chunk cell, for both
  planar metrics; NaN halo cells are never targets; data and both coordinate grids are chunked and padded alike, so
  distances inside a block are global distances.  The *exact* nearest target cut at max_distance is therefore the same
  on the window and on the whole raster at every cell of the block, and the two sweeps can only differ where one of
  them is not exact.  The unconditional statement "sweep on the window = sweep on the whole raster on the block's
  cells" is **false** (`window_sweep_eq_whole_false`, `window_alloc_differs_on_tie`), and the real `proximity()` /
  `allocation()` / `direction()` do exactly this (corpus/C07, KNOWN_FINDINGS.txt).
-/
set_option linter.unusedVariables false
namespace XrsVerif.C07
open XrsVerif XrsVerif.Gen

theorem proximity_wiring_ok :
    (proximity_dask.ok && proximity_dask.fallbackSingleBlock && proximity_dask.boundaryNaN &&
      proximity_dask.coordsChunkedLikeRaster &&
      (proximity_dask.depthOrder == ["pad_y", "pad_x"]) &&
      (proximity_dask.arrays == ["raster.data", "xs", "ys"]) &&
      (proximity_dask.fallbackDisjuncts.contains "max_distance >= max_possible_distance")) = true := by
  decide

/-- **the GREAT_CIRCLE halo guard**: the halo `max_distance[m] / cellsize[deg]` covers `max_distance`
    only while a degree of longitude is long enough on every row; the generated `_process` computes
    `halo_covers_max_distance` in front of `_process_dask` (true for the planar metrics, for GREAT_CIRCLE the test
    "metres per degree of longitude at the row nearest to a pole >= pi / 2") and `not halo_covers_max_distance` is a
    disjunct of the single-block test.  Whatever makes the code fall back is sound (`single_block_is_whole` below: one block
    of the raster's own shape is the whole-raster computation), so the disjunct can only enlarge the set of inputs for
    which Dask = NumPy holds by construction; that the threshold is *sufficient* for the haversine metric is not a
    theorem here (transcendental) -- it is decided by the geographic stream of the correspondence run, which
    goes down to a few metres from either pole. -/
theorem great_circle_guard_wired :
    (proximity_dask.fallbackDisjuncts.contains "not halo_covers_max_distance" &&
      (proximity_dask.gcGuardDefault == "True") &&
      (proximity_dask.gcGuardWhen == "distance_metric == GREAT_CIRCLE and raster.shape[0] > 0") &&
      (proximity_dask.gcGuardTest ==
        "max_abs_lat = min(float(np.max(np.abs(ys))), 90.0); metres_per_degree_of_longitude = np.radians(1.0) * 6378137 * np.cos(np.radians(max_abs_lat)); halo_covers_max_distance = metres_per_degree_of_longitude >= np.pi / 2")) = true := by
  simp [proximity_dask]

/-- every reason for the fallback that the generated test lists is one of the two analysed ones -/
theorem fallback_reasons_closed :
    proximity_dask.fallbackDisjuncts.all
      (fun d => d == "max_distance >= max_possible_distance" || d == "not halo_covers_max_distance") = true := by
  decide

/-- **the `map_overlap` of `_process_dask` leaves the key of its layer to dask** (generated): no `name=`, no forwarded
    `**kwargs` -- in the per-operation fact and in the independent sweep over `proximity.py` (which sees that very call,
    inside `_process._process_dask`, and the two `from_array` calls of the coordinate grids).  The block function is a
    closure over `target_values`, `max_distance`, the metric and the mode; dask's key is a token of that closure and of
    all three arrays, so per-class / per-distance / per-mode results evaluated in one graph (`dask.compute(a, b)`,
    `a - b`, one Dataset) keep their own tasks: `joint_proximity_results_are_the_single_results` below
    (model and counter-example: Proofs/GraphKeys.lean, Props/C01 section 6b).  A key written at the call site from only
    some of these (`C01.partial_key_is_not_faithful`) would break this theorem before any input is found. -/
theorem proximity_site_leaves_key_to_dask :
    (proximity_dask.keyName == "" && !proximity_dask.opaqueKwargs &&
      ((allGraphKeyFacts.filter fun s => s.module == "proximity").all GraphKeyFact.keyFree) &&
      (allGraphKeyFacts.any fun s => s.site == "proximity._process._process_dask" && s.kind == "map_overlap")) = true := by
  decide +kernel

/-- hence (for any naming that is faithful, as dask's is): any set of proximity / allocation / direction calls
    evaluated together gives each block the value it has when its call is computed alone -/
theorem joint_proximity_results_are_the_single_results {C V : Type} (name : C → String)
    (task : C → Nat × Nat → GraphKeys.Task (String × Nat × Nat) V) (hf : GraphKeys.Faithful name task)
    (blocks : C → List (Nat × Nat)) (calls : List C) (c : C) (hc : c ∈ calls)
    (n : Nat) (k : String × Nat × Nat) (v : V)
    (h : GraphKeys.eval (GraphKeys.layer name task (blocks c) c) n k = some v) :
    GraphKeys.eval (GraphKeys.merge (calls.map fun c => GraphKeys.layer name task (blocks c) c)) n k = some v :=
  GraphKeys.joint_layers_eq_alone name task hf blocks calls c hc n k v h

/-! ## the halo covers max_distance, per axis with its own cell size -/

/-- `d` cells of size `cs` within `maxd` => `d` ≤ the pad the generated expression gives for cell size `cs` -/
theorem le_floor_pad (maxd cs : ℚ) (hcs : 0 < cs) (d : ℤ) (h : (|d| : ℚ) * cs ≤ maxd) :
    |d| ≤ Rat.floor (maxd / cs + 1 / 2) := by
  rw [Rat.le_floor_iff]
  have h1 : ((|d| : ℤ) : ℚ) ≤ maxd / cs := by
    rw [le_div_iff₀ hcs]; push_cast; exact h
  linarith

/-- the row pad uses the y cell size -/
theorem pad_rows_covers (maxd csx csy : ℚ) (hcs : 0 < csy) (d : ℤ) (h : (|d| : ℚ) * csy ≤ maxd) :
    |d| ≤ (proximity_dask.pad maxd csx csy).1 :=
  le_floor_pad maxd csy hcs d h

/-- the column pad uses the x cell size -/
theorem pad_cols_covers (maxd csx csy : ℚ) (hcs : 0 < csx) (d : ℤ) (h : (|d| : ℚ) * csx ≤ maxd) :
    |d| ≤ (proximity_dask.pad maxd csx csy).2 :=
  le_floor_pad maxd csx hcs d h

theorem le_of_sq_le {a b : ℚ} (ha : 0 ≤ a) (hb : 0 ≤ b) (h : a ^ 2 ≤ b ^ 2) : a ≤ b :=
  le_of_sq_le_sq h hb

/-- EUCLIDEAN: a target `dy` rows and `dx` columns away whose distance is ≤ max_distance lies within
    the halo on both axes (non-square cells included) -/
theorem halo_covers_euclidean (maxd csx csy : ℚ) (hx : 0 < csx) (hy : 0 < csy) (hm : 0 ≤ maxd)
    (dy dx : ℤ) (h : ((dx : ℚ) * csx) ^ 2 + ((dy : ℚ) * csy) ^ 2 ≤ maxd ^ 2) :
    |dy| ≤ (proximity_dask.pad maxd csx csy).1 ∧ |dx| ≤ (proximity_dask.pad maxd csx csy).2 := by
  constructor
  · apply pad_rows_covers maxd csx csy hy
    apply le_of_sq_le (by positivity) hm
    have : ((|dy| : ℚ) * csy) ^ 2 = ((dy : ℚ) * csy) ^ 2 := by rw [mul_pow, mul_pow, sq_abs]
    rw [this]; linarith [sq_nonneg ((dx : ℚ) * csx)]
  · apply pad_cols_covers maxd csx csy hx
    apply le_of_sq_le (by positivity) hm
    have : ((|dx| : ℚ) * csx) ^ 2 = ((dx : ℚ) * csx) ^ 2 := by rw [mul_pow, mul_pow, sq_abs]
    rw [this]; linarith [sq_nonneg ((dy : ℚ) * csy)]

theorem halo_covers_manhattan (maxd csx csy : ℚ) (hx : 0 < csx) (hy : 0 < csy)
    (dy dx : ℤ) (h : (|dx| : ℚ) * csx + (|dy| : ℚ) * csy ≤ maxd) :
    |dy| ≤ (proximity_dask.pad maxd csx csy).1 ∧ |dx| ≤ (proximity_dask.pad maxd csx csy).2 := by
  have h1 : 0 ≤ (|dx| : ℚ) * csx := by positivity
  have h2 : 0 ≤ (|dy| : ℚ) * csy := by positivity
  exact ⟨pad_rows_covers maxd csx csy hy dy (by linarith), pad_cols_covers maxd csx csy hx dx (by linarith)⟩

/-- hence the target's cell is inside the window dask hands to the block containing the cell:
    rows `r0 - pad .. r0 + hh + pad`, whatever the chunk -/
theorem target_in_halo_window (pad : ℤ) (r0 hh r dy : ℤ) (hr : r0 ≤ r ∧ r < r0 + hh) (hd : |dy| ≤ pad) :
    r0 - pad ≤ r + dy ∧ r + dy < r0 + hh + pad := by
  have := abs_le.mp hd
  omega

section
variable {K : Type} [Field K] [LinearOrder K] [IsStrictOrderedRing K] [Trig K]

/-- default target rule (non-zero and finite) and explicit target list: a NaN cell is not a target -/
theorem boundary_not_target (n_values : NV K) (values : List (NV K)) :
    proximity_is_target.cell (envOf [("n_values", n_values)]) (rd0 [("source_line", (none : NV K))])
      (fun v => if v = "values" then values else []) = some 0 ∨
    n_values = none := by
  cases n_values with
  | none => right; rfl
  | some n =>
    left
    by_cases hn : n = 0
    · subst hn; simp [kl, proximity_is_target]
    · simp [kl, proximity_is_target, hn]

/-- and the default rule accepts exactly the non-zero finite cells -/
theorem default_target_rule (v : K) :
    proximity_is_target.cell (envOf [("n_values", some (0 : K))]) (rd0 [("source_line", some v)])
      (fun _ => []) = if v = 0 then some 0 else some 1 := by
  simp [kl, proximity_is_target]
  split <;> simp_all
end

/-- a block function that only looks at the cells of its block -/
def ExtentLocal {α β : Type} (f : Grid α → Grid β) : Prop :=
  ∀ g1 g2 : Grid α, g1.h = g2.h → g1.w = g2.w →
    (∀ i j : Int, 0 ≤ i → i < g1.h → 0 ≤ j → j < g1.w → g1.cell i j = g2.cell i j) →
    ∀ i j : Int, 0 ≤ i → i < g1.h → 0 ≤ j → j < g1.w → (f g1).cell i j = (f g2).cell i j

/-- one chunk of the raster's own shape and depth 0 (what the fallback rechunks to): the Dask result
    is the block function applied to the raster itself -/
theorem single_block_is_whole {α β : Type} (fill : α) (dflt : β) (f : Grid α → Grid β) (hf : ExtentLocal f)
    (g : Grid α) (i j : Int) (hi : 0 ≤ i) (hi' : i < g.h) (hj : 0 ≤ j) (hj' : j < g.w) :
    (mapOverlap fill dflt 0 0 f [g.h] [g.w] g).cell i j = (f g).cell i j := by
  have hr : locate [g.h] 0 i.toNat = some (0, g.h) := by simp [locate]; omega
  have hc : locate [g.w] 0 j.toNat = some (0, g.w) := by simp [locate]; omega
  simp only [mapOverlap, hr, hc]
  have := hf (haloBlock fill 0 0 g 0 g.h 0 g.w) g (by simp [haloBlock]) (by simp [haloBlock])
    (by intro a b h1 h2 h3 h4
        simp only [haloBlock] at h2 h4 ⊢
        simp only [Grid.get]
        rw [if_pos ⟨by omega, by omega, by omega, by omega⟩]
        congr 1 <;> omega)
    i j hi (by simp [haloBlock]; omega) hj (by simp [haloBlock]; omega)
  simpa using this

/-- **partial**: the unconditional statement "chunked = whole" is false for the four-sweep heuristic
    (`window_sweep_eq_whole_false` below).  What *is* proved: any block function that is determined by the cells within the
    halo radius (e.g. the exact nearest-target distance cut at max_distance, which the sweep equals
    whenever it is exact) gives the same value chunked and whole. -/
theorem chunked_eq_whole_partial {α β : Type} (fill : α) (dflt : β) (dr dc : Nat)
    (k : (Int → Int → α) → β) (f : Grid α → Grid β)
    (hk : WindowLocal dr dc k) (hf : IsStencil 0 0 k f)
    (rch cch : List Nat) (g : Grid α) (hrs : rch.sum = g.h) (hcs : cch.sum = g.w)
    (i j : Int) (hi : 0 ≤ i) (hi' : i < g.h) (hj : 0 ≤ j) (hj' : j < g.w) :
    (mapOverlap fill dflt dr dc f rch cch g).cell i j = spec fill k g i j :=
  mapOverlap_eq_spec_of_valid fill dflt dr dc 0 0 k f hk hf (Nat.zero_le _) (Nat.zero_le _)
    rch cch g hrs hcs i j hi hi' hj hj'

section sweep
open XrsVerif.Prox

theorem adiff_cast_int (a b : Nat) : ((adiff a b : Nat) : ℤ) = |(a : ℤ) - (b : ℤ)| :=
  Prox.adiff_cast a b

/-- **the halo the code computes covers max_distance in the proximity model**: grid steps `sx·u`, `sy·u` (u = coordinate
    unit), threshold `m` of the model exact for `maxd` (`hexact`: `2·d ≤ m` means `d·u² ≤ maxd²`, true for
    `m = ⌈2·maxd²/u²⌉` whenever frac(maxd²/u²) ≤ 1/2): the generated `pad maxd csx csy` is a `HaloCovers` halo -/
theorem generated_pad_covers (c : Cfg) (hpl : c.Planar) (hsx : 0 < c.sx) (hsy : 0 < c.sy)
    (u maxd : ℚ) (hu : 0 < u) (hmd : 0 ≤ maxd) (m : Nat) (hmax : c.max2x2 = some m)
    (hexact : ∀ d : Nat, 2 * d ≤ m → (d : ℚ) * u ^ 2 ≤ maxd ^ 2) :
    HaloCovers c (proximity_dask.pad maxd (c.sx * u) (c.sy * u)).1.toNat
      (proximity_dask.pad maxd (c.sx * u) (c.sy * u)).2.toNat := by
  intro r1 c1 r2 c2 hw
  unfold withinMax at hw
  rw [hmax] at hw
  simp only [decide_eq_true_eq] at hw
  have hd := hexact _ hw
  have hcx : (0 : ℚ) < c.sx * u := by positivity
  have hcy : (0 : ℚ) < c.sy * u := by positivity
  have key : |(adiff r1 r2 : ℤ)| ≤ (proximity_dask.pad maxd (c.sx * u) (c.sy * u)).1 ∧
      |(adiff c1 c2 : ℤ)| ≤ (proximity_dask.pad maxd (c.sx * u) (c.sy * u)).2 := by
    unfold dist2 at hd
    rcases hpl with h | h
    · apply halo_covers_euclidean maxd _ _ hcx hcy hmd
      rw [h] at hd
      push_cast at hd ⊢
      calc _ = _ := by ring
        _ ≤ _ := hd
    · apply halo_covers_manhattan maxd _ _ hcx hcy
      rw [h] at hd
      apply le_of_sq_le (by positivity) hmd
      push_cast [Nat.abs_cast] at hd ⊢
      calc _ = _ := by ring
        _ ≤ _ := hd
  rw [Nat.abs_cast, Nat.abs_cast] at key
  omega

/-- **halo theorem for the specification of proximity** (planar metrics, any cell sizes, any block, any halo that covers
    max_distance, window clipped at the raster edge): the exact nearest-target distance cut at max_distance computed on
    the block's halo window equals, at every cell of the block, the one computed on the whole raster. -/
theorem window_exact_eq_whole (c : Cfg) (hpl : c.Planar) (tg : Nat → Nat → Bool) (a0 a1 b0 b1 py px : Nat)
    (hc : HaloCovers c py px) (hH : a1 ≤ c.H) (hW : b1 ≤ c.W)
    (r p : Nat) (hr0 : a0 ≤ r) (hr1 : r < a1) (hp0 : b0 ≤ p) (hp1 : p < b1) :
    exactCut ((haloWin c a0 a1 b0 b1 py px).cfg c) ((haloWin c a0 a1 b0 b1 py px).tg tg)
      (r - (haloWin c a0 a1 b0 b1 py px).r0) (p - (haloWin c a0 a1 b0 b1 py px).c0) = exactCut c tg r p :=
  exactCut_win c hpl tg _ (haloWin_inside c a0 a1 b0 b1 py px (by omega) (by omega) hH hW) r p
    (by simp only [haloWin]; omega) (by simp only [haloWin]; omega)
    (fun t ht hw => covered_target_in_haloWin c a0 a1 b0 b1 py px hc r p hr0 hr1 hp0 hp1 t ht.2.1 ht.2.2 hw)

/-- ... in particular with the halo `_process_dask` computes (`Gen.proximity_dask.pad`, regenerated from the source) -/
theorem window_exact_eq_whole_generated_pad (c : Cfg) (hpl : c.Planar) (hsx : 0 < c.sx) (hsy : 0 < c.sy)
    (u maxd : ℚ) (hu : 0 < u) (hmd : 0 ≤ maxd) (m : Nat) (hmax : c.max2x2 = some m)
    (hexact : ∀ d : Nat, 2 * d ≤ m → (d : ℚ) * u ^ 2 ≤ maxd ^ 2)
    (tg : Nat → Nat → Bool) (a0 a1 b0 b1 : Nat) (hH : a1 ≤ c.H) (hW : b1 ≤ c.W)
    (r p : Nat) (hr0 : a0 ≤ r) (hr1 : r < a1) (hp0 : b0 ≤ p) (hp1 : p < b1) :
    let py := (proximity_dask.pad maxd (c.sx * u) (c.sy * u)).1.toNat
    let px := (proximity_dask.pad maxd (c.sx * u) (c.sy * u)).2.toNat
    exactCut ((haloWin c a0 a1 b0 b1 py px).cfg c) ((haloWin c a0 a1 b0 b1 py px).tg tg)
      (r - (haloWin c a0 a1 b0 b1 py px).r0) (p - (haloWin c a0 a1 b0 b1 py px).c0) = exactCut c tg r p :=
  window_exact_eq_whole c hpl tg a0 a1 b0 b1 _ _
    (generated_pad_covers c hpl hsx hsy u maxd hu hmd m hmax hexact) hH hW r p hr0 hr1 hp0 hp1

/-- the sweep on the block's halo window, read at the block cell (r, p) of the raster -/
def winProx (c : Cfg) (tg : Nat → Nat → Bool) (a0 a1 b0 b1 py px r p : Nat) : Option Nat :=
  proxAt (run ((haloWin c a0 a1 b0 b1 py px).cfg c) ((haloWin c a0 a1 b0 b1 py px).tg tg))
    (r - (haloWin c a0 a1 b0 b1 py px).r0) (p - (haloWin c a0 a1 b0 b1 py px).c0)

/-- ... and the target it names, in raster coordinates -/
def winAlloc (c : Cfg) (tg : Nat → Nat → Bool) (a0 a1 b0 b1 py px r p : Nat) : Tgt :=
  (allocAt (run ((haloWin c a0 a1 b0 b1 py px).cfg c) ((haloWin c a0 a1 b0 b1 py px).tg tg))
    (r - (haloWin c a0 a1 b0 b1 py px).r0) (p - (haloWin c a0 a1 b0 b1 py px).c0)).map
    (fun t => ((haloWin c a0 a1 b0 b1 py px).r0 + t.1, (haloWin c a0 a1 b0 b1 py px).c0 + t.2))

/-- where both sweeps are exact they agree -/
theorem window_eq_whole_of_exact (c : Cfg) (hpl : c.Planar) (tg : Nat → Nat → Bool) (a0 a1 b0 b1 py px : Nat)
    (hc : HaloCovers c py px) (hH : a1 ≤ c.H) (hW : b1 ≤ c.W)
    (r p : Nat) (hr0 : a0 ≤ r) (hr1 : r < a1) (hp0 : b0 ≤ p) (hp1 : p < b1)
    (hwin : winProx c tg a0 a1 b0 b1 py px r p =
      exactCut ((haloWin c a0 a1 b0 b1 py px).cfg c) ((haloWin c a0 a1 b0 b1 py px).tg tg)
        (r - (haloWin c a0 a1 b0 b1 py px).r0) (p - (haloWin c a0 a1 b0 b1 py px).c0))
    (hwhole : proxAt (run c tg) r p = exactCut c tg r p) :
    winProx c tg a0 a1 b0 b1 py px r p = proxAt (run c tg) r p := by
  rw [hwin, hwhole]
  exact window_exact_eq_whole c hpl tg a0 a1 b0 b1 py px hc hH hW r p hr0 hr1 hp0 hp1

/-- a difference between the chunked and the whole-raster result is always a failure of exactness of one of the two
    sweeps (never of the halo) -/
theorem difference_is_inexactness (c : Cfg) (hpl : c.Planar) (tg : Nat → Nat → Bool) (a0 a1 b0 b1 py px : Nat)
    (hc : HaloCovers c py px) (hH : a1 ≤ c.H) (hW : b1 ≤ c.W)
    (r p : Nat) (hr0 : a0 ≤ r) (hr1 : r < a1) (hp0 : b0 ≤ p) (hp1 : p < b1)
    (hne : winProx c tg a0 a1 b0 b1 py px r p ≠ proxAt (run c tg) r p) :
    winProx c tg a0 a1 b0 b1 py px r p ≠
      exactCut ((haloWin c a0 a1 b0 b1 py px).cfg c) ((haloWin c a0 a1 b0 b1 py px).tg tg)
        (r - (haloWin c a0 a1 b0 b1 py px).r0) (p - (haloWin c a0 a1 b0 b1 py px).c0) ∨
    proxAt (run c tg) r p ≠ exactCut c tg r p :=
  (ne_or_eq _ _).imp_right fun h1 h2 =>
    hne (window_eq_whole_of_exact c hpl tg a0 a1 b0 b1 py px hc hH hW r p hr0 hr1 hp0 hp1 h1 h2)

/-- a raster with exactly one target (planar metric, positive steps): chunked = whole for every block, every halo
    covering max_distance, all three outputs (proximity, and the target ALLOCATION / DIRECTION are computed from) -/
theorem window_eq_whole_single_target (c : Cfg) (hpl : c.Planar) (hsx : 0 < c.sx) (hsy : 0 < c.sy)
    (tg : Nat → Nat → Bool) (t0 : Nat × Nat) (ht0 : IsTarget c tg t0) (huniq : ∀ t, IsTarget c tg t → t = t0)
    (a0 a1 b0 b1 py px : Nat) (hc : HaloCovers c py px) (hH : a1 ≤ c.H) (hW : b1 ≤ c.W)
    (r p : Nat) (hr0 : a0 ≤ r) (hr1 : r < a1) (hp0 : b0 ≤ p) (hp1 : p < b1) :
    winProx c tg a0 a1 b0 b1 py px r p = proxAt (run c tg) r p ∧
    winAlloc c tg a0 a1 b0 b1 py px r p = allocAt (run c tg) r p := by
  have hin := haloWin_inside c a0 a1 b0 b1 py px (by omega) (by omega) hH hW
  have hrw : r - (haloWin c a0 a1 b0 b1 py px).r0 < (haloWin c a0 a1 b0 b1 py px).h := by
    simp only [haloWin]; omega
  have hpw : p - (haloWin c a0 a1 b0 b1 py px).c0 < (haloWin c a0 a1 b0 b1 py px).w := by
    simp only [haloWin]; omega
  have hwhole := single_target_cut c tg hpl hsx hsy t0 ht0 huniq r p (by omega) (by omega)
  have hwin := window_run_exact_of_single c tg hpl hsx hsy t0 huniq _ hin _ _ hrw hpw
  have hprox := window_eq_whole_of_exact c hpl tg a0 a1 b0 b1 py px hc hH hW r p hr0 hr1 hp0 hp1 hwin hwhole
  refine ⟨hprox, ?_⟩
  -- every target of either run is `t0` in raster coordinates, so both allocations are read off the proximities
  have hplv : ((haloWin c a0 a1 b0 b1 py px).cfg c).Planar := hpl
  have hw := alloc_of_unique c (planar_refl c hpl) tg id t0 huniq r p (by omega) (by omega)
  have hv := alloc_of_unique _ (planar_refl _ hplv) ((haloWin c a0 a1 b0 b1 py px).tg tg)
    (fun t => ((haloWin c a0 a1 b0 b1 py px).r0 + t.1, (haloWin c a0 a1 b0 b1 py px).c0 + t.2)) t0
    (fun t ht => huniq _ (win_target_is_grid_target c hpl tg _ hin t ht 0 0).1) _ _ hrw hpw
  rw [Option.map_id, id_eq] at hw
  unfold winProx at hprox
  unfold winAlloc
  rw [hv, hw, hprox]

/-- the statement one would like to have for the heuristic sweep: for every raster, block, halo covering max_distance
    (window clipped at the raster edge), the sweep on the window gives the whole-raster value on the block's cells -/
def WindowSweepEqWhole : Prop :=
  ∀ (c : Cfg) (tg : Nat → Nat → Bool) (a0 a1 b0 b1 py px r p : Nat),
    c.Planar → 0 < c.sx → 0 < c.sy → HaloCovers c py px → a1 ≤ c.H → b1 ≤ c.W →
    a0 ≤ r → r < a1 → b0 ≤ p → p < b1 →
    winProx c tg a0 a1 b0 b1 py px r p = proxAt (run c tg) r p

/-- the witness: 3 rows x 4 columns, cells 1 wide and 2 high, EUCLIDEAN, max_distance 2.9 (⌈2·2.9²⌉ = 17) -/
def witCfg : Cfg := { H := 3, W := 4, sx := 1, sy := 2, metric := .euclid, max2x2 := some 17 }
/-- targets at (0,3), (1,1), (2,0) -/
def witTg : Nat → Nat → Bool := fun r p => (r == 0 && p == 3) || (r == 1 && p == 1) || (r == 2 && p == 0)

theorem witness_halo_covers : HaloCovers witCfg 1 3 :=
  haloCovers_of_bound witCfg (Or.inl rfl) 17 1 3 rfl (by decide) (by decide)

/-- the halo of the witness is the one the generated `pad` expressions give for max_distance 2.9 and cells 1 x 2, and 17
    is the model's threshold for that max_distance -/
theorem witness_halo_is_generated_pad :
    proximity_dask.pad (29 / 10) 1 2 = (1, 3) ∧ Rat.ceil (2 * (29 / 10 : ℚ) ^ 2) = 17 := by
  constructor
  · decide +kernel
  · decide +kernel

/-- on the witness, block = last row (rows [2,3), all columns), halo (1, 3): the whole-raster sweep leaves (2,3) NaN,
    the sweep on the window (rows 1..2) reports 8 = 2² + 2², which is the exact nearest target (1,1) -- within
    max_distance (2·8 ≤ 17) -/
theorem window_sweep_differs_3x4 :
    proxAt (run witCfg witTg) 2 3 = none ∧ winProx witCfg witTg 2 3 0 4 1 3 2 3 = some 8 ∧
    exactCut witCfg witTg 2 3 = some 8 ∧ winAlloc witCfg witTg 2 3 0 4 1 3 2 3 = some (1, 1) := by
  decide +kernel

/-- **the heuristic sweep is not window independent**: the halo covers max_distance and still the chunked result
    differs from the whole-raster result -/
theorem window_sweep_eq_whole_false : ¬ WindowSweepEqWhole := by
  intro h
  have h1 := h witCfg witTg 2 3 0 4 1 3 2 3 (Or.inl rfl) (by decide) (by decide) witness_halo_covers
    (by decide) (by decide) (by decide) (by decide) (by decide) (by decide)
  rw [window_sweep_differs_3x4.1, window_sweep_differs_3x4.2.1] at h1
  cases h1

/-- second way to differ: 4x4, same cells and max_distance, targets (0,3), (1,1), (2,0), (3,1), block = row 2.  At
    (2,3) both runs report the exact distance 8, but the whole-raster run names (3,1) (found by the bottom-up pass) and
    the window run names (1,1) (found by its top-down pass): ALLOCATION and DIRECTION differ, PROXIMITY does not -/
theorem window_alloc_differs_on_tie :
    let c : Cfg := { H := 4, W := 4, sx := 1, sy := 2, metric := .euclid, max2x2 := some 17 }
    let tg : Nat → Nat → Bool := fun r p =>
      (r == 0 && p == 3) || (r == 1 && p == 1) || (r == 2 && p == 0) || (r == 3 && p == 1)
    proxAt (run c tg) 2 3 = some 8 ∧ winProx c tg 2 3 0 4 1 3 2 3 = some 8 ∧
    allocAt (run c tg) 2 3 = some (3, 1) ∧ winAlloc c tg 2 3 0 4 1 3 2 3 = some (1, 1) := by
  decide +kernel

end sweep

example : (proximity_dask.pad 5 2 (1/2)) = (10, 3) := by decide +kernel
/-- `generated_pad_covers`: the exactness hypothesis on the threshold holds for the witness (max_distance 2.9, unit 1, m = 17) -/
example : ∀ d : Nat, 2 * d ≤ 17 → (d : ℚ) * (1 : ℚ) ^ 2 ≤ (29 / 10 : ℚ) ^ 2 := by
  intro d h
  have : (d : ℚ) ≤ 8 := by exact_mod_cast (by omega : d ≤ 8)
  norm_num; linarith
/-- `window_eq_whole_single_target` / `window_exact_eq_whole`: a halo that covers max_distance exists for every finite
    threshold (here 5x5 unit cells, max_distance 2: one more row is beyond it) -/
example : Prox.HaloCovers { H := 5, W := 5, sx := 1, sy := 1, metric := .euclid, max2x2 := some 8 } 2 2 :=
  Prox.haloCovers_of_bound _ (Or.inl rfl) 8 2 2 rfl (by decide) (by decide)
example : ((3 : ℚ) * 1) ^ 2 + ((4 : ℚ) * 1) ^ 2 ≤ (5 : ℚ) ^ 2 := by norm_num

end XrsVerif.C07
