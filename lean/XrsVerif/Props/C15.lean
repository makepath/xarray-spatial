import XrsVerif.Proofs.Polygonize
import XrsVerif.Proofs.PolygonizeRegions
import XrsVerif.Proofs.PolygonizeLossless
import XrsVerif.Proofs.PolygonizeGlue
import XrsVerif.Gen.PolygonizeFacts
/-
  C15 -- polygonize is lossless.

  Model (Model/Polygonize.lean): `calculateRegions` (W/S/SW/SE rules, `mergeRegions` lookup chain with its
  allocated size, compaction to first-pixel ranks), the follower `step` on states (pixel, heading) with the
  three turn rules (Right if the pixel ahead-right is in the region, else Straight if the pixel ahead is,
  else Left), `followLoop`/`follow` (vertex recorded when the heading changes, visited flags), `scan`
  (exterior / hole starts, hole attachment), `polygonizeNumpy` (nx = 1 workaround, transform).

  Proved here, for every raster size, values, mask and connectivity, no size bound (closeness reflexive,
  symmetric, transitive -- integer rasters, the property's domain).  `lossless` is the complete statement: `scan`
  succeeds and its result passes `losslessB`, the decidable formalisation of the whole property.  `lossless_cells`,
  `lossless_even_odd`, `polygons_are_components`, `lossless_area_orientation`, `region_ids_first_pixel_ranks` are its
  clauses in readable form; `lossless_numpy`, `lossless_single_column` the same through `polygonizeNumpy` (nx = 1
  workaround).

  Proof idea of `lossless` (Proofs/PolygonizeLossless*.lean, no Jordan curve theorem): the states of a followed
  ring form a list that `step` permutes; winding numbers counted on unit edges (vertical / horizontal ray) agree
  and are constant on 8-adjacent pixels of the region (the turn-right-first rule at diagonal pinches); the scan
  invariant shows that every boundary edge whose upper pixel is in the raster lies on exactly one followed cycle,
  so going up a column the winding number flips exactly where region membership does; discrete Green gives area
  and orientation.

  Wrapper glue (facts regenerated from the source by harness/facts_polygonize.py): the generated facts of
  `_polygonize_numpy` / `polygonize()` are the ones the model assumes, hence the wrapper (as the facts describe it) is
  `polygonizeNumpy` on the caller's own values and transform.

  What is outside: that the hand model is `polygonize.py` (checked by the correspondence run: exact comparison
  of region array, column and every vertex on all small rasters and random larger ones, plus an independent
  oracle); float closeness that is not an equivalence (NaN, inf, tolerances).
-/
namespace XrsVerif.C15
open XrsVerif XrsVerif.Polygonize

/-- `_calculate_regions` computes the connected components: a masked pixel gets region 0, an unmasked
    pixel a positive region, and two unmasked pixels get the same region exactly when they are joined by
    a chain of links -- `Link p q`: `p` a pixel of the raster, `q` its W or S (connectivity 8: or SW, SE)
    neighbour, both unmasked, values close. -/
theorem regions_are_components {V : Type} (nx ny : Nat) (conn8 : Bool) (close : V → V → Bool)
    (values : Nat → V) (mask : Nat → Bool) (hnx : 0 < nx)
    (hsymm : ∀ a b, close a b = true → close b a = true)
    (htrans : ∀ a b c, close a b = true → close b c = true → close a c = true)
    {p q : Nat} (hp : p < nx * ny) (hq : q < nx * ny) :
    (mask p = false → regionId nx ny conn8 close values mask p = 0) ∧
    (mask p = true → 1 ≤ regionId nx ny conn8 close values mask p) ∧
    (mask p = true → mask q = true →
      (regionId nx ny conn8 close values mask p = regionId nx ny conn8 close values mask q ↔
        ConnP nx conn8 close values mask (nx * ny) p q)) :=
  regionId_spec conn8 values mask hnx hsymm htrans hp hq

/-- the list returned by `calculateRegions` (what the driver prints and `scan` uses) is `regionId` -/
theorem regions_list {V : Type} (nx ny : Nat) (conn8 : Bool) (close : V → V → Bool) (values : Nat → V)
    (mask : Nat → Bool) :
    calculateRegions nx ny conn8 close values mask =
      (List.range (nx * ny)).map (regionId nx ny conn8 close values mask) :=
  calculateRegions_eq nx ny conn8 close values mask

/-- the merge loop of `_merge_regions` keeps every pointer going to a smaller id and adds exactly the
    pair (lower, upper) to the equivalence generated by the pointers -/
theorem merge_chain_connected (lk : Lookup) (lower upper : Nat) (hF : Forest lk.get) (hl : 0 < lower)
    (hlu : lower < upper) :
    Forest (mergeLoop (upper + 1) lk lower upper).get ∧
    ∀ u v, Eqv (mergeLoop (upper + 1) lk lower upper).get u v ↔ EqvPlus lk.get lower upper u v :=
  ⟨(mergeLoop_spec (upper + 1) lk lower upper hF hl hlu (by omega)).1,
   (mergeLoop_spec (upper + 1) lk lower upper hF hl hlu (by omega)).2.1⟩

/-- every state of the follower keeps the region on its left (its own pixel) and a pixel that is not in
    the region -- or the outside of the raster -- on its right -/
theorem follow_invariant (R : Int → Int → Bool) (s : FSt) (h : Valid R s) : Valid R (step R s) :=
  step_valid R s h

/-- every iteration moves the current vertex by exactly one unit along the heading -/
theorem follow_axis_parallel (R : Int → Int → Bool) (s : FSt) :
    (step R s).corner = (s.corner.1 + s.d.dx, s.corner.2 + s.d.dy) :=
  corner_step R s

/-- the step is injective on boundary-edge states -/
theorem follow_step_injective (R : Int → Int → Bool) (s t : FSt) (hs : Valid R s) (ht : Valid R t)
    (h : step R s = step R t) : s = t :=
  step_injective R s t hs ht h

/-- started on a boundary edge, `follow` returns (the `while True` loop of `_follow` terminates) -/
theorem follow_terminates (nx ny : Nat) (regs : Nat → Nat) (ij : Nat) (hole : Bool)
    (hstart : Valid (inRegion nx ny regs (regs ij))
      ⟨(ij % nx : Nat), (ij / nx : Nat), if hole then .W else .E⟩) :
    (follow nx ny regs ij hole).isSome = true :=
  follow_isSome nx ny regs ij hole hstart

/-- the state a hole is started from (`_scan`: `ij >= nx`, `regions[ij] != regions[ij-nx]`) is a
    boundary edge of the region of pixel `ij - nx` -/
theorem hole_start_on_boundary (nx ny : Nat) (regs : Nat → Nat) (ij : Nat) (hnx : 0 < nx) (h1 : nx ≤ ij)
    (h2 : ij < nx * ny) (hne : regs ij ≠ regs (ij - nx)) :
    Valid (inRegion nx ny regs (regs (ij - nx))) ⟨((ij - nx) % nx : Nat), ((ij - nx) / nx : Nat), .W⟩ :=
  hole_start_valid nx ny regs ij hnx h1 h2 hne

/-- the state an exterior is started from is a boundary edge when the pixel below `ij` is not in the
    same region (true for the first pixel of a region in scan order) -/
theorem exterior_start_on_boundary (nx ny : Nat) (regs : Nat → Nat) (ij : Nat) (hnx : 0 < nx)
    (h2 : ij < nx * ny) (hfirst : nx ≤ ij → regs (ij - nx) ≠ regs ij) :
    Valid (inRegion nx ny regs (regs ij)) ⟨(ij % nx : Nat), (ij / nx : Nat), .E⟩ :=
  exterior_start_valid nx ny regs ij hnx h2 hfirst

/-- every ring returned by `follow` is closed (first = last = the start vertex), has at least two
    points, and consecutive points are joined by axis-parallel segments -/
theorem ring_closed_rectilinear (nx ny : Nat) (regs : Nat → Nat) (ij : Nat) (hole : Bool) (tr : Trace)
    (h : follow nx ny regs ij hole = some tr) :
    Rectilinear tr.pts ∧ tr.pts.head? = tr.pts.getLast? ∧
      tr.pts.head? = some (FSt.corner ⟨(ij % nx : Nat), (ij / nx : Nat), if hole then .W else .E⟩) ∧
      2 ≤ tr.pts.length := by
  obtain ⟨h1, h2, h3, h4⟩ := follow_ring nx ny regs ij hole tr h
  exact ⟨h1, by rw [h2, h3], h2, h4⟩

/-- every vertex of a ring is a pixel corner of the raster: an integer point of `[0,nx] × [0,ny]` -/
theorem vertices_on_corners (nx ny : Nat) (regs : Nat → Nat) (ij : Nat) (hole : Bool) (tr : Trace)
    (hstart : Valid (inRegion nx ny regs (regs ij))
      ⟨(ij % nx : Nat), (ij / nx : Nat), if hole then .W else .E⟩)
    (h : follow nx ny regs ij hole = some tr) : ∀ p ∈ tr.pts, InBox nx ny p := by
  obtain ⟨c, ⟨hcl, _⟩, _, _, hp, _, _⟩ := follow_char nx ny regs ij hole tr hstart h
  intro p hmem
  rw [hp] at hmem
  obtain ⟨s, hs, rfl⟩ := mem_cycRing hmem
  exact corner_inBox (inRegion_inRaster nx ny regs _) (hcl.valid s hs)

/-- a supplied affine transform is applied to every vertex of every ring (and to nothing else) -/
theorem transform_every_vertex {V : Type} (nx ny : Nat) (conn8 : Bool) (close : V → V → Bool)
    (values : Nat → V) (mask : Nat → Bool) (t : List Rat) :
    (polygonizeNumpy nx ny conn8 close values mask (some t)).polys =
      (polygonizeNumpy nx ny conn8 close values mask none).polys.map
        (fun rings => rings.map (fun ring => ring.map (fun p => affineR t p))) ∧
    (polygonizeNumpy nx ny conn8 close values mask (some t)).column =
      (polygonizeNumpy nx ny conn8 close values mask none).column ∧
    (polygonizeNumpy nx ny conn8 close values mask (some t)).ok =
      (polygonizeNumpy nx ny conn8 close values mask none).ok := by
  simp [polygonizeNumpy, List.map_map, Function.comp_def, affine_eq]

/-- Losslessness for one boundary: started on a boundary edge of a region, the
    follower terminates and returns a closed rectilinear ring through the start vertex, keeping the
    region on its left and the complement on its right at every step (`follow_invariant`), each step
    being one unit along an axis (`follow_axis_parallel`), no boundary edge being visited twice before
    the return (`follow_step_injective`).
    (`lossless` proves the full statement for every raster.) -/
theorem lossless_partial (nx ny : Nat) (regs : Nat → Nat) (ij : Nat) (hole : Bool)
    (hstart : Valid (inRegion nx ny regs (regs ij))
      ⟨(ij % nx : Nat), (ij / nx : Nat), if hole then .W else .E⟩) :
    ∃ tr, follow nx ny regs ij hole = some tr ∧ Rectilinear tr.pts ∧ tr.pts.head? = tr.pts.getLast? ∧
      tr.pts.head? = some (FSt.corner ⟨(ij % nx : Nat), (ij / nx : Nat), if hole then .W else .E⟩) ∧
      2 ≤ tr.pts.length := by
  obtain ⟨tr, hf⟩ := Option.isSome_iff_exists.mp (follow_terminates nx ny regs ij hole hstart)
  exact ⟨tr, hf, ring_closed_rectilinear nx ny regs ij hole tr hf⟩

/-- region ids are first-pixel ranks: a pixel with id `r + 1 ≥ 2` is preceded (scan order) by a pixel with
    id `r`; so `column[k]` is the value of the first pixel of region `k + 1` -/
theorem region_ids_first_pixel_ranks {V : Type} (nx ny : Nat) (conn8 : Bool) (close : V → V → Bool)
    (values : Nat → V) (mask : Nat → Bool) (hnx : 0 < nx)
    (hsymm : ∀ a b, close a b = true → close b a = true)
    (htrans : ∀ a b c, close a b = true → close b c = true → close a c = true)
    {ij r : Nat} (hij : ij < nx * ny) (hr : 1 ≤ r)
    (h : regionId nx ny conn8 close values mask ij = r + 1) :
    ∃ p, p < ij ∧ regionId nx ny conn8 close values mask p = r :=
  regionId_ranked nx ny conn8 close values mask hnx hsymm htrans hij hr h

/-- **Polygonize is lossless: cell assignment.**  For every raster size, values, mask and connectivity
    (closeness reflexive, symmetric, transitive: integer rasters) `scan` succeeds, returns as many values as
    polygons, and assigning each pixel centre `(X + ½, Y + ½)` to the polygons whose exterior ring contains it
    and none of whose hole rings does (`inPolygon`: even-odd rule on the returned, vertex-compressed rings --
    the very test `losslessB` uses) puts
    * every masked pixel in no polygon,
    * every unmasked pixel in exactly one polygon, number `regionId − 1`, whose column entry is close to
      the pixel's value. -/
theorem lossless_cells {V : Type} (nx ny : Nat) (conn8 : Bool) (close : V → V → Bool)
    (values : Nat → V) (mask : Nat → Bool) (hnx : 0 < nx) (hrefl : ∀ a, close a a = true)
    (hsymm : ∀ a b, close a b = true → close b a = true)
    (htrans : ∀ a b c, close a b = true → close b c = true → close a c = true) :
    let sc := scan nx ny conn8 close values mask
    sc.ok = true ∧ sc.column.length = sc.polys.length ∧
    ∀ X Y : Nat, X < nx → Y < ny →
      (mask (X + Y * nx) = false →
        ∀ k, k < sc.polys.length → inPolygon (sc.polys.getD k []) (X : Int) (Y : Int) = false) ∧
      (mask (X + Y * nx) = true →
        ∃ k, k < sc.polys.length ∧ k + 1 = regionId nx ny conn8 close values mask (X + Y * nx) ∧
          (∀ k', k' < sc.polys.length →
            (inPolygon (sc.polys.getD k' []) (X : Int) (Y : Int) = true ↔ k' = k)) ∧
          ∃ v, sc.column.reverse[k]? = some v ∧ close v (values (X + Y * nx)) = true) :=
  scan_cells_lossless nx ny conn8 close values mask hnx hrefl hsymm htrans _ rfl

/-- **Even-odd form.**  For every polygon `k` and every pixel of the raster: the total number of ring edges
    of polygon `k` (exterior and holes together) crossed by the ray from the pixel centre is odd exactly
    when the pixel belongs to region `k + 1`; and this agrees with "inside the exterior, inside no hole". -/
theorem lossless_even_odd {V : Type} (nx ny : Nat) (conn8 : Bool) (close : V → V → Bool)
    (values : Nat → V) (mask : Nat → Bool) (hnx : 0 < nx)
    (hsymm : ∀ a b, close a b = true → close b a = true)
    (htrans : ∀ a b c, close a b = true → close b c = true → close a c = true) :
    let sc := scan nx ny conn8 close values mask
    ∀ k, k < sc.polys.length → ∀ X Y : Nat, X < nx → Y < ny →
      (((sc.polys.getD k []).map (fun ring => crossings ring (X : Int) (Y : Int))).sum % 2 = 1 ↔
        regionId nx ny conn8 close values mask (X + Y * nx) = k + 1) ∧
      (inPolygon (sc.polys.getD k []) (X : Int) (Y : Int) = true ↔
        regionId nx ny conn8 close values mask (X + Y * nx) = k + 1) := by
  intro sc k hk X Y hX hY
  obtain ⟨_, h2, _, _, _, h6⟩ := scan_regions_lossless nx ny conn8 close values mask hnx hsymm htrans
  have hk' : k < (scan nx ny conn8 close values mask).regionDone := by rw [← h2]; exact hk
  obtain ⟨a, b⟩ := h6 k hk' X Y hX hY
  constructor
  · show ((((scan nx ny conn8 close values mask).polys.getD k []).map _).sum % 2 = 1 ↔ _)
    rw [b]; split <;> simp [*]
  · show (inPolygon ((scan nx ny conn8 close values mask).polys.getD k []) _ _ = true ↔ _)
    rw [a, beq_iff_eq]

/-- **The polygons are exactly the connected regions.**  Every polygon contains an unmasked pixel, and two
    unmasked pixels lie in a common polygon iff they are joined by a chain of adjacent (4 / 8) unmasked
    pixels with close values. -/
theorem polygons_are_components {V : Type} (nx ny : Nat) (conn8 : Bool) (close : V → V → Bool)
    (values : Nat → V) (mask : Nat → Bool) (hnx : 0 < nx)
    (hsymm : ∀ a b, close a b = true → close b a = true)
    (htrans : ∀ a b c, close a b = true → close b c = true → close a c = true) :
    let sc := scan nx ny conn8 close values mask
    (∀ k, k < sc.polys.length → ∃ X Y : Nat, X < nx ∧ Y < ny ∧ mask (X + Y * nx) = true ∧
      inPolygon (sc.polys.getD k []) (X : Int) (Y : Int) = true) ∧
    (∀ X Y X' Y' : Nat, X < nx → Y < ny → X' < nx → Y' < ny → mask (X + Y * nx) = true →
      mask (X' + Y' * nx) = true →
      ((∃ k, k < sc.polys.length ∧ inPolygon (sc.polys.getD k []) (X : Int) (Y : Int) = true ∧
          inPolygon (sc.polys.getD k []) (X' : Int) (Y' : Int) = true) ↔
        ConnP nx conn8 close values mask (nx * ny) (X + Y * nx) (X' + Y' * nx))) := by
  dsimp only
  obtain ⟨h1, h2, h3, h4, h5, h6⟩ := scan_regions_lossless nx ny conn8 close values mask hnx hsymm htrans
  constructor
  · intro k hk
    obtain ⟨f, hf, e1, _, _⟩ := h5 k (by omega)
    have hx : f % nx < nx := Nat.mod_lt f hnx
    have hy : f / nx < ny := Nat.div_lt_of_lt_mul hf
    have hmf := mask_of_regionId nx ny conn8 close values mask hnx hsymm htrans hf (by omega)
    refine ⟨f % nx, f / nx, hx, hy, by rw [Nat.mod_add_div']; exact hmf, ?_⟩
    rw [(h6 k (by omega) _ _ hx hy).1, Nat.mod_add_div', e1]; simp
  · intro X Y X' Y' hX hY hX' hY' hm hm'
    have hp := pix_lt hX hY
    have hp' := pix_lt hX' hY'
    have sp := regionId_spec conn8 values mask hnx hsymm htrans hp hp'
    rw [← sp.2.2 hm hm']
    constructor
    · rintro ⟨k, hk, a, b⟩
      rw [(h6 k (by omega) X Y hX hY).1, beq_iff_eq] at a
      rw [(h6 k (by omega) X' Y' hX' hY').1, beq_iff_eq] at b
      omega
    · intro e
      have hpos := sp.2.1 hm
      have hle := h4 _ hp
      refine ⟨regionId nx ny conn8 close values mask (X + Y * nx) - 1, by omega, ?_, ?_⟩
      · rw [(h6 _ (by omega) X Y hX hY).1, beq_iff_eq]; omega
      · rw [(h6 _ (by omega) X' Y' hX' hY').1, beq_iff_eq]; omega

/-- **Area and orientation.**  For every polygon `k`: the shoelace areas of its rings (exterior positive,
    holes negative) add up to the number of pixels of region `k + 1` (`area2` is twice the signed area); the
    first ring -- the exterior -- is anticlockwise (positive area) and every further ring -- a hole -- is
    clockwise (negative area).  Discrete Green: `area2` of a followed ring is twice the sum over
    the pixels of its winding number. -/
theorem lossless_area_orientation {V : Type} (nx ny : Nat) (conn8 : Bool) (close : V → V → Bool)
    (values : Nat → V) (mask : Nat → Bool) (hnx : 0 < nx)
    (hsymm : ∀ a b, close a b = true → close b a = true)
    (htrans : ∀ a b c, close a b = true → close b c = true → close a c = true) :
    let sc := scan nx ny conn8 close values mask
    ∀ k, k < sc.polys.length →
      ((sc.polys.getD k []).map area2).sum =
        2 * (((List.range (nx * ny)).countP
          (fun p => regionId nx ny conn8 close values mask p == k + 1) : Nat) : Int) ∧
      ∃ ext holes, sc.polys.getD k [] = ext :: holes ∧ 0 < area2 ext ∧ ∀ h ∈ holes, area2 h < 0 :=
  scan_regions_area nx ny conn8 close values mask hnx hsymm htrans _ rfl

/-- **Polygonize is lossless -- the complete statement.**  For every raster size, values, mask and
    connectivity (closeness reflexive, symmetric, transitive: integer rasters) `scan` succeeds and its result
    passes `losslessB`, the decidable formalisation of the whole property: every unmasked pixel centre in
    exactly one polygon (exterior minus holes, even-odd rule) carrying its value, masked pixels in none; two
    pixels in the same polygon exactly when they are in the same connected region (as labelled by C16's
    `regions`); each polygon's shoelace area = its pixel count; exteriors anticlockwise, holes clockwise; rings
    closed, on pixel corners, axis-parallel edges of non-zero length, at least four vertices. -/
theorem lossless {V : Type} (nx ny : Nat) (conn8 : Bool) (close : V → V → Bool)
    (values : Nat → V) (mask : Nat → Bool) (hnx : 0 < nx) (hrefl : ∀ a, close a a = true)
    (hsymm : ∀ a b, close a b = true → close b a = true)
    (htrans : ∀ a b c, close a b = true → close b c = true → close a c = true) :
    let sc := scan nx ny conn8 close values mask
    sc.ok = true ∧ losslessB nx ny conn8 close values mask sc.column.reverse sc.polys = true :=
  ⟨(scan_cells_lossless nx ny conn8 close values mask hnx hrefl hsymm htrans _ rfl).1,
   scan_losslessB nx ny conn8 close values mask hnx hrefl hsymm htrans _ rfl⟩

/-- `_polygonize_numpy` without a transform: it succeeds and its polygons are integer rings (mapped to
    rationals) that pass `losslessB` -- for the raster itself if `nx ≠ 1`, for the widened 2-column raster
    (second column masked out) of the `nx = 1` workaround otherwise -/
theorem lossless_numpy {V : Type} (nx ny : Nat) (conn8 : Bool) (close : V → V → Bool)
    (values : Nat → V) (mask : Nat → Bool) (hnx : 0 < nx) (hrefl : ∀ a, close a a = true)
    (hsymm : ∀ a b, close a b = true → close b a = true)
    (htrans : ∀ a b c, close a b = true → close b c = true → close a c = true) :
    let out := polygonizeNumpy nx ny conn8 close values mask none
    out.ok = true ∧
    ∃ polysInt : List (List Ring),
      out.polys = polysInt.map (fun rings => rings.map (fun r => r.map toRat)) ∧
      (if nx = 1 then
        losslessB 2 ny conn8 close (fun ij => values (ij / 2))
          (fun ij => decide (ij % 2 = 0) && mask (ij / 2)) out.column polysInt
       else losslessB nx ny conn8 close values mask out.column polysInt) = true := by
  by_cases h1 : nx = 1
  · have := lossless 2 ny conn8 close (fun ij => values (ij / 2))
      (fun ij => decide (ij % 2 = 0) && mask (ij / 2)) (by omega) hrefl hsymm htrans
    simp only [polygonizeNumpy, h1, if_true]
    exact ⟨this.1, _, rfl, this.2⟩
  · have := lossless nx ny conn8 close values mask hnx hrefl hsymm htrans
    simp only [polygonizeNumpy, h1, if_false]
    exact ⟨this.1, _, rfl, this.2⟩

/-- the `nx = 1` workaround, cell assignment for the single column itself: pixel `Y` lies in no polygon if
    masked, in exactly one polygon -- with a close value -- otherwise -/
theorem lossless_single_column {V : Type} (ny : Nat) (conn8 : Bool) (close : V → V → Bool)
    (values : Nat → V) (mask : Nat → Bool) (hrefl : ∀ a, close a a = true)
    (hsymm : ∀ a b, close a b = true → close b a = true)
    (htrans : ∀ a b c, close a b = true → close b c = true → close a c = true) :
    let out := polygonizeNumpy 1 ny conn8 close values mask none
    let sc := scan 2 ny conn8 close (fun ij => values (ij / 2)) (fun ij => decide (ij % 2 = 0) && mask (ij / 2))
    out.ok = true ∧ out.column = sc.column.reverse ∧
    out.polys = sc.polys.map (fun rings => rings.map (fun r => r.map toRat)) ∧
    out.column.length = sc.polys.length ∧
    ∀ Y : Nat, Y < ny →
      (mask Y = false → ∀ k, k < sc.polys.length → inPolygon (sc.polys.getD k []) 0 (Y : Int) = false) ∧
      (mask Y = true → ∃ k, k < sc.polys.length ∧
          (∀ k', k' < sc.polys.length → (inPolygon (sc.polys.getD k' []) 0 (Y : Int) = true ↔ k' = k)) ∧
          ∃ v, out.column[k]? = some v ∧ close v (values Y) = true) := by
  intro out sc
  have h := lossless_cells 2 ny conn8 close (fun ij => values (ij / 2))
    (fun ij => decide (ij % 2 = 0) && mask (ij / 2)) (by omega) hrefl hsymm htrans
  obtain ⟨h1, h2, h3⟩ := h
  refine ⟨h1, rfl, rfl, by show sc.column.reverse.length = _; rw [List.length_reverse]; exact h2, ?_⟩
  intro Y hY
  have := h3 0 Y (by omega) hY
  have e1 : (0 + Y * 2) % 2 = 0 := by omega
  have e2 : (0 + Y * 2) / 2 = Y := by omega
  simp only [e1, e2, decide_true, Bool.true_and] at this
  obtain ⟨a, b⟩ := this
  refine ⟨fun hm k hk => a hm k hk, fun hm => ?_⟩
  obtain ⟨k, hk, _, hk2, v, hv, hc⟩ := b hm
  exact ⟨k, hk, hk2, v, hv, hc⟩

/-! ### non-vacuity, and the full statement evaluated on concrete rasters -/

def eqI (a b : Int) : Bool := a == b

def holds (nx ny : Nat) (c8 : Bool) (values : Nat → Int) (mask : Nat → Bool) : Bool :=
  let sc := scan nx ny c8 eqI values mask
  sc.ok && losslessB nx ny c8 eqI values mask sc.column.reverse sc.polys

/-- 3×3 ring of 1s around a 0: one polygon with a hole, one square -/
def ringV : Nat → Int := fun ij => if ij = 4 then 0 else 1
/-- 2×2 checkerboard: a diagonal pinch (one bow-tie polygon per value with connectivity 8) -/
def pinchV : Nat → Int := fun ij => if ij = 0 ∨ ij = 3 then 1 else 0

/-- for integer rasters (closeness = equality) the full check holds for **every** raster -/
theorem holds_all (nx ny : Nat) (c8 : Bool) (values : Nat → Int) (mask : Nat → Bool) (hnx : 0 < nx) :
    holds nx ny c8 values mask = true := by
  have := lossless nx ny c8 eqI values mask hnx (fun a => by simp [eqI])
    (fun a b h => by simp only [eqI, beq_iff_eq] at *; exact h.symm)
    (fun a b c h1 h2 => by simp only [eqI, beq_iff_eq] at *; exact h1.trans h2)
  unfold holds
  simp only [Bool.and_eq_true]
  exact this

example : (scan 3 3 false eqI ringV (fun _ => true)).polys =
    [[[(0, 0), (3, 0), (3, 3), (0, 3), (0, 0)], [(2, 1), (1, 1), (1, 2), (2, 2), (2, 1)]],
     [[(1, 1), (2, 1), (2, 2), (1, 2), (1, 1)]]] := by decide +kernel
example : holds 3 3 false ringV (fun _ => true) = true := by decide +kernel
example : holds 3 3 true ringV (fun _ => true) = true := by decide +kernel
example : holds 2 2 true pinchV (fun _ => true) = true := by decide +kernel
example : holds 2 2 false pinchV (fun _ => true) = true := by decide +kernel
example : holds 3 2 false (fun ij => (ij % 2 : Nat)) (fun ij => decide (ij ≠ 2)) = true := by decide +kernel
/-- a single column goes through the `nx = 1` workaround -/
example : (polygonizeNumpy 1 3 false eqI (fun ij => if ij = 2 then 2 else 1) (fun _ => true) none).polys =
    [[[(0, 0), (1, 0), (1, 2), (0, 2), (0, 0)]], [[(0, 2), (1, 2), (1, 3), (0, 3), (0, 2)]]] := by
  decide +kernel
/-- the check rejects a wrong result (the hole dropped) -/
example : losslessB 3 3 false eqI ringV (fun _ => true) [1, 0]
    [[[(0, 0), (3, 0), (3, 3), (0, 3), (0, 0)]], [[(1, 1), (2, 1), (2, 2), (1, 2), (1, 1)]]] = false := by
  decide +kernel
/-- the hypotheses of `regions_are_components` hold for integer equality; `Link` is inhabited -/
example : (∀ a b : Int, eqI a b = true → eqI b a = true) ∧
    (∀ a b c : Int, eqI a b = true → eqI b c = true → eqI a c = true) := by
  simp only [eqI, beq_iff_eq]
  exact ⟨fun a b h => h.symm, fun a b c h1 h2 => h1.trans h2⟩
example : Link 3 false eqI ringV (fun _ => true) 9 1 0 := by
  refine ⟨by decide, by decide, rfl, rfl, by decide⟩
/-- a U-shape whose arms meet late: ids 1 and 2 are merged through the lookup -/
example : calculateRegions 3 2 false eqI (fun ij => if ij = 1 then 0 else 1) (fun _ => true) = [1, 2, 1, 1, 1, 1] := by
  decide +kernel
/-- the start states of `lossless_partial` exist: exterior of the ring region, and its hole -/
example : Valid (inRegion 3 3 (fun ij => if ij = 4 then 2 else 1) 1) ⟨0, 0, .E⟩ := by decide
example : Valid (inRegion 3 3 (fun ij => if ij = 4 then 2 else 1) 1) ⟨1, 0, .W⟩ := by decide

/-- the hypotheses of `lossless_cells` hold for integer equality on the 3×3 ring raster, and its
    conclusion there is not vacuous: the centre pixel lies in polygon 1 only, a border pixel in polygon 0 only -/
example : (0 < 3) ∧ (∀ a : Int, eqI a a = true) := ⟨by decide, fun a => by simp [eqI]⟩
example :
    let sc := scan 3 3 false eqI ringV (fun _ => true)
    sc.polys.length = 2 ∧ inPolygon (sc.polys.getD 1 []) 1 1 = true ∧ inPolygon (sc.polys.getD 0 []) 1 1 = false ∧
      inPolygon (sc.polys.getD 0 []) 0 2 = true ∧ regionId 3 3 false eqI ringV (fun _ => true) 4 = 2 := by
  decide +kernel
example := lossless_cells 3 3 false eqI ringV (fun _ => true) (by decide) (fun a => by simp [eqI])
  (fun a b h => by simp only [eqI, beq_iff_eq] at *; exact h.symm)
  (fun a b c h1 h2 => by simp only [eqI, beq_iff_eq] at *; exact h1.trans h2)

/-- `lossless_area_orientation` on the 3×3 ring: polygon 0 has an exterior of area 9 and a hole of area −1
    (8 pixels), polygon 1 is the unit square -/
example :
    let sc := scan 3 3 false eqI ringV (fun _ => true)
    (sc.polys.getD 0 []).map area2 = [18, -2] ∧ (sc.polys.getD 1 []).map area2 = [2] ∧
      (List.range 9).countP (fun p => regionId 3 3 false eqI ringV (fun _ => true) p == 1) = 8 := by
  decide +kernel

/-! ### wrapper glue: `polygonize()` and `_polygonize_numpy` around the numba pipeline

  The facts `Gen.PolygonizeFacts.wrapperFacts` / `numpyFacts` are regenerated from the source on every run.
  `wrapperModel F cast close dropIf src …` (Model/PolygonizeGlue.lean) is the wrapper as facts `F` describe it: the
  values of a `src` raster are cast to the dtype `F` records for `src`, compared by that dtype's `_is_close`, and a
  supplied transform is replaced by `None` when a recorded drop condition holds.  A cast that loses values of some
  accepted dtype (e.g. uint64 -> int64), a cast to the other `_is_close` kind, or any condition under which a
  supplied transform does not reach the kernel makes one of the `decide`s below fail. -/

open XrsVerif.Gen.PolygonizeFacts in
/-- `_polygonize_numpy` is what `polygonizeNumpy` models: its only way out is the result of
    `_scan(values, mask, connectivity_8, transform, nx, ny)`, arrays are flattened row-major, and for `nx == 1` a
    second, masked-out column is appended on the right -/
theorem glue_numpy_as_modelled : numpyFacts.asModelled = true := by decide

open XrsVerif.Gen.PolygonizeFacts in
/-- `polygonize()`: every source shape was recognised; mask and transform reach the kernel with their own dtype
    (the mask at most cast to bool), a supplied transform is dropped on no path, the third argument is
    `connectivity == 8` -/
theorem glue_passes_through : wrapperFacts.passesThrough = true := by decide

open XrsVerif.Gen.PolygonizeFacts in
/-- **no narrowing cast**: for every raster dtype the facts record the dtype at the kernel, and the step from the one to
    the other keeps every value of the raster dtype and its `_is_close` kind (`glueSafe`) -/
theorem glue_no_narrowing_cast (s : DType) :
    (wrapperFacts.valuesAtKernel.lookup s).map (glueSafe s) = some true := by
  cases s <;> decide

/-- the integer part of `keepsValues` is exact: the C conversion to `t` returns every value of `s` unchanged iff
    `keepsValues s t` -/
theorem int_cast_keeps_iff (s t : DType) (hs : s.isInt = true) (ht : t.isInt = true) :
    keepsValues s t = true ↔ ∀ v, s.inRange v = true → wrapTo t v = v := by
  constructor
  · exact fun h v hv => wrapTo_keeps s t hs ht h v hv
  · intro h
    cases hk : keepsValues s t with
    | true => rfl
    | false =>
      obtain ⟨v, hv, hne⟩ := wrapTo_loses s t hs ht hk
      exact absurd (h v hv) hne

open XrsVerif.Gen.PolygonizeFacts in
/-- **The wrapper is `_polygonize_numpy` on the caller's own values and transform.**  For every raster dtype `src`,
    every cast that is the identity where `glueSafe` (`hcast`), every family of closeness tests that does not change
    along a `glueSafe` step (`hclose`), and *whatever* the drop conditions mean (`dropIf` arbitrary). -/
theorem wrapper_is_numpy {V : Type} (cast : DType → DType → V → V) (close : DType → V → V → Bool)
    (dropIf : String → List Rat → Bool)
    (hcast : ∀ s t v, glueSafe s t = true → cast s t v = v)
    (hclose : ∀ s t, glueSafe s t = true → close t = close s)
    (src : DType) (nx ny : Nat) (conn8 : Bool) (values : Nat → V) (mask : Nat → Bool)
    (transform : Option (List Rat)) :
    wrapperModel wrapperFacts cast close dropIf src nx ny conn8 values mask transform =
      polygonizeNumpy nx ny conn8 (close src) values mask transform := by
  have h := glue_no_narrowing_cast src
  cases ht : wrapperFacts.valuesAtKernel.lookup src with
  | none => rw [ht] at h; cases h
  | some t =>
  rw [ht] at h
  have hs : glueSafe src t = true := by simpa using h
  have hd : wrapperFacts.transformDrops = [] := by decide
  have hv : (fun ij => cast src t (values ij)) = values := funext fun ij => hcast _ _ _ hs
  simp only [wrapperModel, ht, hd, bind_noDrop, hclose _ _ hs, hv]

open XrsVerif.Gen.PolygonizeFacts in
/-- **a supplied affine transform is applied to every vertex -- through the wrapper**: the polygons returned for
    `transform = some t` are those returned without a transform, every vertex mapped by `t`; the column (the raster's
    own values) and success are unchanged -/
theorem wrapper_transform_every_vertex {V : Type} (cast : DType → DType → V → V) (close : DType → V → V → Bool)
    (dropIf : String → List Rat → Bool)
    (hcast : ∀ s t v, glueSafe s t = true → cast s t v = v)
    (hclose : ∀ s t, glueSafe s t = true → close t = close s)
    (src : DType) (nx ny : Nat) (conn8 : Bool) (values : Nat → V) (mask : Nat → Bool) (t : List Rat) :
    let out := wrapperModel wrapperFacts cast close dropIf src nx ny conn8 values mask (some t)
    let out0 := polygonizeNumpy nx ny conn8 (close src) values mask none
    out.polys = out0.polys.map (fun rings => rings.map (fun ring => ring.map (fun p => affineR t p))) ∧
      out.column = out0.column ∧ out.ok = out0.ok := by
  intro out out0
  have h : out = polygonizeNumpy nx ny conn8 (close src) values mask (some t) :=
    wrapper_is_numpy cast close dropIf hcast hclose src nx ny conn8 values mask (some t)
  rw [h]
  exact transform_every_vertex nx ny conn8 (close src) values mask t

open XrsVerif.Gen.PolygonizeFacts in
/-- **losslessness through the wrapper** (no transform): the public function's result on a `src` raster is the
    lossless result of `lossless_numpy` for the raster's own values (closeness of `src` an equivalence) -/
theorem wrapper_lossless {V : Type} (cast : DType → DType → V → V) (close : DType → V → V → Bool)
    (dropIf : String → List Rat → Bool)
    (hcast : ∀ s t v, glueSafe s t = true → cast s t v = v)
    (hclose : ∀ s t, glueSafe s t = true → close t = close s)
    (src : DType) (nx ny : Nat) (conn8 : Bool) (values : Nat → V) (mask : Nat → Bool) (hnx : 0 < nx)
    (hrefl : ∀ a, close src a a = true)
    (hsymm : ∀ a b, close src a b = true → close src b a = true)
    (htrans : ∀ a b c, close src a b = true → close src b c = true → close src a c = true) :
    let out := wrapperModel wrapperFacts cast close dropIf src nx ny conn8 values mask none
    out.ok = true ∧
    ∃ polysInt : List (List Ring),
      out.polys = polysInt.map (fun rings => rings.map (fun r => r.map toRat)) ∧
      (if nx = 1 then
        losslessB 2 ny conn8 (close src) (fun ij => values (ij / 2))
          (fun ij => decide (ij % 2 = 0) && mask (ij / 2)) out.column polysInt
       else losslessB nx ny conn8 (close src) values mask out.column polysInt) = true := by
  intro out
  have h : out = polygonizeNumpy nx ny conn8 (close src) values mask none :=
    wrapper_is_numpy cast close dropIf hcast hclose src nx ny conn8 values mask none
  rw [h]
  exact lossless_numpy nx ny conn8 (close src) values mask hnx hrefl hsymm htrans

/-! non-vacuity of the glue theorems, and what a lossy cast / a dropped transform look like -/

/-- the hypotheses `hcast` / `hclose` hold for the identity cast and one closeness test -/
example : (∀ (s t : DType) (v : Int), glueSafe s t = true → (fun _ _ v => v : DType → DType → Int → Int) s t v = v) ∧
    (∀ s t : DType, glueSafe s t = true → (fun _ => eqI : DType → Int → Int → Bool) t = (fun _ => eqI) s) :=
  ⟨fun _ _ _ _ => rfl, fun _ _ _ => rfl⟩
/-- widening casts are accepted, narrowing ones and changes of the `_is_close` kind are not -/
example : glueSafe .i32 .i64 = true ∧ glueSafe .u8 .i16 = true ∧ glueSafe .f32 .f64 = true ∧
    glueSafe .u64 .i64 = false ∧ glueSafe .i64 .f64 = false ∧ glueSafe .i32 .f64 = false ∧
    glueSafe .f64 .f32 = false ∧ glueSafe .i8 .u64 = false := by decide
/-- uint64 -> int64 wraps the upper half of the range: 2^63 becomes -2^63, 2^64 - 1 becomes -1 -/
example : wrapTo .i64 (2 ^ 63) = -(2 ^ 63) ∧ wrapTo .i64 (2 ^ 64 - 1) = -1 ∧ DType.u64.inRange (2 ^ 63) = true := by
  decide
/-- facts with a drop condition: the model hands back untransformed vertices when the condition holds -/
example :
    let F : WrapperFacts := { Gen.PolygonizeFacts.wrapperFacts with transformDrops := ["linear part is the unit matrix"] }
    (wrapperModel F (fun _ _ v => v) (fun _ => eqI) (fun _ _ => true) .i64 1 1 false (fun _ => 1) (fun _ => true)
        (some [1, 0, 10, 0, 1, 20])).polys = [[[(0, 0), (1, 0), (1, 1), (0, 1), (0, 0)]]] ∧
    (wrapperModel Gen.PolygonizeFacts.wrapperFacts (fun _ _ v => v) (fun _ => eqI) (fun _ _ => true) .i64 1 1 false
        (fun _ => 1) (fun _ => true) (some [1, 0, 10, 0, 1, 20])).polys =
      [[[(10, 20), (11, 20), (11, 21), (10, 21), (10, 20)]]] := by
  decide +kernel

end XrsVerif.C15
