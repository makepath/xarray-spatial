import XrsVerif.Proofs.IndexClosed
import XrsVerif.Gen.GraphKeys
/-
  C13 -- Spectral indices equal their band formulas, NaN where undefined.

  Every statement is about `Gen.<f>_wiring.value pub`: the *generated* wiring of the public
  function `f` applied to the *generated* translation of its numba kernel, evaluated over
  `NV K` (NaN or an element of an arbitrary linearly ordered field `K`; ±inf is not represented).
  The right-hand sides are the published formulas (ARVI with the `+ blue` denominator and SAVI
  divided by `(1 + L)` are what the library documents and its QGIS fixtures pin).
  "in single precision": the theorems are over exact field arithmetic; float rounding is covered
  only by the correspondence run (harness/corr_C13.py), see DESIGN.md section 4.
-/
set_option linter.unusedSectionVars false
namespace XrsVerif.C13
open XrsVerif XrsVerif.Gen

variable {K : Type} [Field K] [LinearOrder K] [IsStrictOrderedRing K] [Trig K]

/-- the published normalised difference -/
def nd (a b : K) : NV K := if a + b = 0 then none else some ((a - b) / (a + b))

/-! ### each index equals its formula on finite bands; a zero denominator gives NaN (never ±inf) -/

theorem ndvi_eq_formula (nir red : K) :
    ndvi_wiring.value (pubOf [("nir_agg", some nir), ("red_agg", some red)]) = nd nir red := by
  rw [normalized_ratio_value ndvi_wiring "nir_agg" "red_agg" rfl rfl]
  exact ndF_some _ _

theorem nbr_eq_formula (nir swir2 : K) :
    nbr_wiring.value (pubOf [("nir_agg", some nir), ("swir2_agg", some swir2)]) = nd nir swir2 := by
  rw [normalized_ratio_value nbr_wiring "nir_agg" "swir2_agg" rfl rfl]
  exact ndF_some _ _

theorem nbr2_eq_formula (swir1 swir2 : K) :
    nbr2_wiring.value (pubOf [("swir1_agg", some swir1), ("swir2_agg", some swir2)]) = nd swir1 swir2 := by
  rw [normalized_ratio_value nbr2_wiring "swir1_agg" "swir2_agg" rfl rfl]
  exact ndF_some _ _

theorem ndmi_eq_formula (nir swir1 : K) :
    ndmi_wiring.value (pubOf [("nir_agg", some nir), ("swir1_agg", some swir1)]) = nd nir swir1 := by
  rw [normalized_ratio_value ndmi_wiring "nir_agg" "swir1_agg" rfl rfl]
  exact ndF_some _ _

theorem arvi_eq_formula (nir red blue : K) :
    arvi_wiring.value (pubOf [("nir_agg", some nir), ("red_agg", some red), ("blue_agg", some blue)]) =
      if nir + 2 * red + blue = 0 then none else some ((nir - 2 * red + blue) / (nir + 2 * red + blue)) := by
  rw [arvi_value]
  simp [pubOf, arviF]

theorem evi_eq_formula (nir red blue c1 c2 L G : K) :
    evi_wiring.value (pubOf [("nir_agg", some nir), ("red_agg", some red), ("blue_agg", some blue),
        ("c1", some c1), ("c2", some c2), ("soil_factor", some L), ("gain", some G)]) =
      if nir + c1 * red - c2 * blue + L = 0 then none
      else some (G * ((nir - red) / (nir + c1 * red - c2 * blue + L))) := by
  rw [evi_value]
  simp [pubOf, eviF]
  split <;> simp [*]

theorem gci_eq_formula (nir green : K) :
    gci_wiring.value (pubOf [("nir_agg", some nir), ("green_agg", some green)]) =
      if green = 0 then none else some (nir / green - 1) := by
  rw [gci_value]
  simp [pubOf, gciF]
  split <;> simp [*]

theorem savi_eq_formula (nir red L : K) :
    savi_wiring.value (pubOf [("nir_agg", some nir), ("red_agg", some red), ("soil_factor", some L)]) =
      if (nir + red + L) * (1 + L) = 0 then none else some ((nir - red) / ((nir + red + L) * (1 + L))) := by
  rw [savi_value]
  simp [pubOf, saviF, -mul_eq_zero]

theorem sipi_eq_formula (nir red blue : K) :
    sipi_wiring.value (pubOf [("nir_agg", some nir), ("red_agg", some red), ("blue_agg", some blue)]) =
      if nir - red = 0 then none else some ((nir - blue) / (nir - red)) := by
  rw [sipi_value]
  simp [pubOf, sipiF]

theorem ebbi_eq_formula (red swir tir : K) :
    ebbi_wiring.value (pubOf [("red_agg", some red), ("swir_agg", some swir), ("tir_agg", some tir)]) =
      if 10 * Trig.sqrt (swir + tir) = 0 then none
      else some ((swir - red) / (10 * Trig.sqrt (swir + tir))) := by
  rw [ebbi_value]
  simp [pubOf, ebbiF]

/-! ### NaN bands propagate -/

theorem ndvi_nan_left (red : NV K) :
    ndvi_wiring.value (pubOf [("nir_agg", (none : NV K)), ("red_agg", red)]) = none := by
  rw [normalized_ratio_value ndvi_wiring "nir_agg" "red_agg" rfl rfl]
  exact ndF_nan_left _

theorem ndvi_nan_right (nir : NV K) :
    ndvi_wiring.value (pubOf [("nir_agg", nir), ("red_agg", (none : NV K))]) = none := by
  rw [normalized_ratio_value ndvi_wiring "nir_agg" "red_agg" rfl rfl]
  exact ndF_nan_right _

theorem arvi_nan (nir red blue : NV K) (h : nir = none ∨ red = none ∨ blue = none) :
    arvi_wiring.value (pubOf [("nir_agg", nir), ("red_agg", red), ("blue_agg", blue)]) = none := by
  rw [arvi_value]
  exact arviF_nan _ _ _ h

theorem gci_nan (nir green : NV K) (h : nir = none ∨ green = none) :
    gci_wiring.value (pubOf [("nir_agg", nir), ("green_agg", green)]) = none := by
  rw [gci_value]
  exact gciF_nan _ _ h

theorem sipi_nan (nir red blue : NV K) (h : nir = none ∨ red = none ∨ blue = none) :
    sipi_wiring.value (pubOf [("nir_agg", nir), ("red_agg", red), ("blue_agg", blue)]) = none := by
  rw [sipi_value]
  exact sipiF_nan _ _ _ h

theorem savi_nan (nir red : NV K) (L : K) (h : nir = none ∨ red = none) :
    savi_wiring.value (pubOf [("nir_agg", nir), ("red_agg", red), ("soil_factor", some L)]) = none := by
  rw [savi_value]
  exact saviF_nan _ _ _ h

theorem evi_nan (nir red blue : NV K) (c1 c2 L G : K) (h : nir = none ∨ red = none ∨ blue = none) :
    evi_wiring.value (pubOf [("nir_agg", nir), ("red_agg", red), ("blue_agg", blue),
        ("c1", some c1), ("c2", some c2), ("soil_factor", some L), ("gain", some G)]) = none := by
  rw [evi_value]
  exact eviF_nan _ _ _ _ _ _ _ h

theorem ebbi_nan (red swir tir : NV K) (h : red = none ∨ swir = none ∨ tir = none) :
    ebbi_wiring.value (pubOf [("red_agg", red), ("swir_agg", swir), ("tir_agg", tir)]) = none := by
  rw [ebbi_value]
  exact ebbiF_nan _ _ _ h

/-! ### laws of the normalised difference (NDVI, NBR, NBR2, NDMI all equal `nd`) -/

/-- non-negative bands give a value in [-1, 1] -/
theorem nd_in_unit_interval (a b v : K) (ha : 0 ≤ a) (hb : 0 ≤ b) (h : nd a b = some v) :
    -1 ≤ v ∧ v ≤ 1 := by
  unfold nd at h
  split at h
  · simp at h
  · rename_i hne
    have hpos : 0 < a + b := lt_of_le_of_ne (by linarith) (Ne.symm hne)
    simp only [Option.some.injEq] at h
    subst h
    constructor
    · rw [le_div_iff₀ hpos]; linarith
    · rw [div_le_iff₀ hpos]; linarith

/-- swapping the two bands changes the sign -/
theorem nd_antisymmetric (a b : K) : nd b a = (nd a b).map (fun v => -v) := by
  unfold nd
  by_cases h : a + b = 0
  · have h' : b + a = 0 := by rw [add_comm]; exact h
    simp [h, h']
  · have h' : b + a ≠ 0 := by rw [add_comm]; exact h
    simp only [h, h', if_false, Option.map_some, Option.some.injEq]
    rw [add_comm b a, ← neg_div]; congr 1; ring

/-- scaling both bands by the same non-zero factor changes nothing (powers of two are the
    float-exact instance the property names) -/
theorem nd_scale_invariant (a b t : K) (ht : t ≠ 0) : nd (t * a) (t * b) = nd a b := by
  unfold nd
  have e1 : t * a + t * b = t * (a + b) := by ring
  have e2 : t * a - t * b = t * (a - b) := by ring
  by_cases h : a + b = 0
  · simp [e1, h]
  · have : t * (a + b) ≠ 0 := mul_ne_zero ht h
    simp only [e1, e2, h, this, if_false, Option.some.injEq]
    rw [mul_div_mul_left _ _ ht]

theorem ndvi_in_unit_interval (nir red v : K) (h1 : 0 ≤ nir) (h2 : 0 ≤ red)
    (h : ndvi_wiring.value (pubOf [("nir_agg", some nir), ("red_agg", some red)]) = some v) :
    -1 ≤ v ∧ v ≤ 1 := nd_in_unit_interval nir red v h1 h2 (by rw [← ndvi_eq_formula]; exact h)

theorem ndvi_antisymmetric (nir red : K) :
    ndvi_wiring.value (pubOf [("nir_agg", some red), ("red_agg", some nir)]) =
      (ndvi_wiring.value (pubOf [("nir_agg", some nir), ("red_agg", some red)])).map (fun v => -v) := by
  rw [ndvi_eq_formula, ndvi_eq_formula]; exact nd_antisymmetric nir red

theorem ndvi_scale_invariant (nir red t : K) (ht : t ≠ 0) :
    ndvi_wiring.value (pubOf [("nir_agg", some (t * nir)), ("red_agg", some (t * red))]) =
      ndvi_wiring.value (pubOf [("nir_agg", some nir), ("red_agg", some red)]) := by
  rw [ndvi_eq_formula, ndvi_eq_formula]; exact nd_scale_invariant nir red t ht

/-! ### true_color: alpha is 0 exactly where red is NaN or <= nodata, 255 elsewhere (both backends) -/

theorem alpha_numpy (r : NV K) (nodata : K) :
    true_color_alpha_numpy.cell (envOf [("nodata", some nodata)]) (rd0 [("r", r)]) (fun _ => []) =
      match r with
      | none => some 0
      | some x => if x ≤ nodata then some 0 else some 255 := by
  cases r <;> simp [kl, true_color_alpha_numpy]
  split <;> simp_all

theorem alpha_dask (r : NV K) (nodata : K) :
    true_color_alpha_dask.cell (envOf [("nodata", some nodata)]) (rd0 [("r", r)]) (fun _ => []) =
      match r with
      | none => some 0
      | some x => if x ≤ nodata then some 0 else some 255 := by
  cases r <;> simp [kl, true_color_alpha_dask]
  split <;> simp_all

/-! ### parameter validation of evi / savi (translated from the `if …: raise` statements) -/

/-- evi rejects exactly soil_factor outside [-1, 1] or gain < 0 -/
theorem evi_rejects_iff (L G : K) :
    (evi_validate.cellFailed (envOf [("soil_factor", some L), ("gain", some G)])
        (fun _ _ _ => (none : NV K)) (fun _ => [])).isSome = true ↔ (1 < L ∨ L < -1 ∨ G < 0) := by
  rw [← or_assoc]
  by_cases h : 1 < L ∨ L < -1
  · simp [kl, evi_validate, h]
  · simp [kl, evi_validate, h]
    split <;> simp [*]

/-- savi rejects exactly soil_factor outside [-1, 1] -/
theorem savi_rejects_iff (L : K) :
    (savi_validate.cellFailed (envOf [("soil_factor", some L)])
        (fun _ _ _ => (none : NV K)) (fun _ => [])).isSome = true ↔ (L < -1 ∨ 1 < L) := by
  simp [kl, savi_validate]
  split <;> simp [*]

/-- every band is cast to float32 before the kernel runs ("in single precision") -/
theorem bands_cast_f4 : allIndexWirings.all (fun w => w.casts.all (· == "f4") && w.casts.length == w.arrays.length) = true := by
  decide

/-! ### the dask wrappers map the *same* kernel with the same argument order -/
theorem dask_same_kernel : allIndexWirings.all (·.daskSameKernel) = true := by decide

/-! ### ... and leave the graph key of the mapped layer to dask

  On Dask-backed bands an index has a value only once its graph is evaluated, and the indices of a scene are evaluated
  together (one `dask.compute`, one Dataset, `ndvi - ndmi`): in ONE dictionary of tasks, where equal keys mean the same
  task.  NDVI / NDMI / NBR / NBR2 share one Dask function; what keeps their results apart is that the key of the
  mapped layer is dask's token of the kernel and of *both* bands.  No `map_blocks` of multispectral.py passes `name=`
  (the complete key) or forwards `**kwargs` -- decided on the generated sweep `Gen.allGraphKeyFacts`, which does see
  the shared backend.  (Model, theorem "together = alone" and the counter-example: Proofs/GraphKeys.lean, Props/C01
  section 6b `no_call_site_names_its_graph_key`, `joint_results_are_the_single_results`.) -/
theorem index_sites_leave_keys_to_dask :
    (((allGraphKeyFacts.filter fun s => s.module == "multispectral").all GraphKeyFact.keyFree) &&
      (allGraphKeyFacts.any fun s => s.site == "multispectral._run_normalized_ratio_dask" && s.kind == "map_blocks")) = true := by
  decide +kernel

/-! ### non-vacuity: concrete evaluations over ℚ -/
instance : Trig ℚ := ⟨id, id, fun a _ => a, id, id, id, id⟩
example : ndvi_wiring.value (pubOf [("nir_agg", some (3 : ℚ)), ("red_agg", some 1)]) = some (1 / 2) := by
  rw [ndvi_eq_formula]; simp [nd]; norm_num
example : ndvi_wiring.value (pubOf [("nir_agg", some (0 : ℚ)), ("red_agg", some 0)]) = none := by
  rw [ndvi_eq_formula]; simp [nd]
example : nd (3 : ℚ) 1 = some (1/2) ∧ (0 : ℚ) ≤ 3 ∧ (0 : ℚ) ≤ 1 := by simp [nd]; norm_num

end XrsVerif.C13
